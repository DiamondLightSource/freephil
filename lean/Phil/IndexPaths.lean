/-
  Phil.IndexPaths — the path index of freephil.interface.index (`_full_path_index`) inside the model.

  The Python keeps a dict path ↦ object (or ↦ list of objects for `.multiple` objects).  It is built by
  `build_index` (`index_phil_objects`) in `__init__` and REBUILT by `rebuild_index()`
  (`reindex_phil_objects`) at specific places: `pop_state`, `set_state`, `update_from_python`,
  `merge_phil` (hence `update`, `merge_param_file`) — NOT by `push_state` and not by
  `get_python_object`.

  The model has no object identity.  An object of the working tree is identified by its POSITION in
  the document-order walk of the working tree (pre-order, the root scope is 0, every object counts,
  templates included); an index entry carries the positions of the objects it refers to together with
  the objects themselves.  The correspondence harness numbers the objects of `working_phil` the same
  way and looks every indexed object up by `is`.

    * `visitList`  — the objects `reindex_phil_objects` visits, in order, with full path and position
                     (objects with `is_template < 0` are skipped together with everything below them);
    * `insertVisit`— one dict update (`.multiple is True`: append to / start a list; else overwrite);
    * `reindex`    — `rebuild_index()`; `indexInit` — `build_index()` of `__init__` (it skips
                     `is_template == -1` instead of `< 0`; everything else it does concerns other tables);
    * `IState`, `istep`, `irun` — the state machine of Phil/Index.lean with the index as a further
                     state component, rebuilt exactly where the code rebuilds it.
-/
import Phil.IndexConcrete
namespace Phil

mutual
/-- number of objects of a tree (the object itself and everything below it) -/
def Obj.nodeCount : Obj → Nat
  | .defn _ _ => 1
  | .scope _ kids => 1 + nodeCountL kids
def nodeCountL : List Obj → Nat
  | [] => 0
  | o :: os => o.nodeCount + nodeCountL os
end

/-- one call of `reindex_phil_objects` that got past the template test -/
structure Visit where
  path : Str          -- `phil_object.full_path()`
  pos : Nat           -- position of the object in the document-order walk of the working tree
  obj : Obj

/-- `phil_object.multiple is True` -/
def multipleIsTrue (o : Obj) : Bool :=
  match o.attr "multiple" with
  | .bool true => true
  | _ => false

mutual
/-- the visits of `reindex_phil_objects(o, …)` for an object at position `pos` whose parent has full
    path `pfx`; `skip` is the template test (`is_template < 0` for `reindex_phil_objects`,
    `is_template == -1` for `index_phil_objects`) -/
def visitObj (skip : Int → Bool) (pfx : Str) (pos : Nat) : Obj → List Visit
  | .defn m ws => if skip m.tmpl then [] else [⟨joinPath pfx m.name, pos, .defn m ws⟩]
  | .scope m kids =>
    if skip m.tmpl then []
    else ⟨joinPath pfx m.name, pos, .scope m kids⟩ :: visitList skip (joinPath pfx m.name) (pos + 1) kids
/-- `for object in phil_object.objects: reindex_phil_objects(object, path_index)` -/
def visitList (skip : Int → Bool) (pfx : Str) (pos : Nat) : List Obj → List Visit
  | [] => []
  | o :: os => visitObj skip pfx pos o ++ visitList skip pfx (pos + o.nodeCount) os
end

/-- a value of the dict `_full_path_index` -/
inductive PEntry
  /-- `path_index[path] = phil_object` -/
  | one (pos : Nat) (o : Obj)
  /-- `path_index[path] = [phil_object, …]` (`.multiple` objects, in the order met) -/
  | many (l : List (Nat × Obj))
  /-- the Python has raised here: `path_index[path].append(obj)` on a value that is an object, not a
      list (AttributeError) — a `.multiple` object met after a non-multiple object of the same path.
      From the first `stray` on the model value is not meaningful (the driver answers `unsupported`). -/
  | stray

/-- the dict, in insertion order of its keys -/
abbrev PathIndex := List (Str × PEntry)

def PathIndex.get (ix : PathIndex) (p : Str) : Option PEntry :=
  match ix with
  | [] => none
  | (q, e) :: rest => if q == p then some e else PathIndex.get rest p

/-- `d[p] = e`: an existing key keeps its place, a new key goes last -/
def PathIndex.set (ix : PathIndex) (p : Str) (e : PEntry) : PathIndex :=
  match ix with
  | [] => [(p, e)]
  | (q, e') :: rest => if q == p then (q, e) :: rest else (q, e') :: PathIndex.set rest p e

/-- the new value of `path_index[full_path]` after one visit -/
def entryStep (old : Option PEntry) (v : Visit) : PEntry :=
  if multipleIsTrue v.obj then
    match old with
    | some (.many l) => .many (l ++ [(v.pos, v.obj)])     -- path_index[full_path].append(phil_object)
    | none => .many [(v.pos, v.obj)]                       -- path_index[full_path] = [phil_object]
    | some (.one _ _) => .stray                            -- AttributeError
    | some .stray => .stray
  else .one v.pos v.obj                                    -- path_index[full_path] = phil_object

/-- the dict update of one call of `reindex_phil_objects` -/
def insertVisit (ix : PathIndex) (v : Visit) : PathIndex :=
  ix.set v.path (entryStep (ix.get v.path) v)

/-- the visits of a whole working tree: the root scope (empty name, position 0), then its objects -/
def visitsOf (skip : Int → Bool) (w : List Obj) : List Visit :=
  ⟨[], 0, rootOf w⟩ :: visitList skip [] 1 w

def buildIndex (skip : Int → Bool) (w : List Obj) : PathIndex :=
  (visitsOf skip w).foldl insertVisit []

/-- `rebuild_index()`: `self._full_path_index = {}; reindex_phil_objects(self.working_phil, …)` -/
def reindex (w : List Obj) : PathIndex := buildIndex (fun t => decide (t < 0)) w

/-- `build_index()` as far as `_full_path_index` goes (`index_phil_objects` returns at
    `is_template == -1`) -/
def indexInit (w : List Obj) : PathIndex := buildIndex (fun t => t == -1) w

/-- the document-order walk of the working tree that fixes the positions (every object, templates too) -/
def walkOf (w : List Obj) : List Visit := visitsOf (fun _ => false) w

/-! ### the state machine with the index -/

structure IState where
  base : Index.State (List Obj) PVal
  pathIndex : PathIndex

variable {E : Type}

/-- does the code path of this operation from this state go through `rebuild_index()`?
    (`rebuild_index(only_scope=…)` ignores its argument: it always resets the dict and walks the whole
    working tree, so the edit type `E` may carry an `only_scope` without any effect here) -/
def rebuilds (k : Index.Kernel (List Obj) PVal E) (s : Index.State (List Obj) PVal) :
    Index.Op PVal E → Bool
  | .update e => (k.merge s.working e).isSome          -- merge_phil: `if rebuild_index: self.rebuild_index(…)`
  | .updateFromPython (some _) => true                 -- push_state(); working = format(obj); rebuild_index()
  | .updateFromPython none => s.params.isSome          -- `return False` when there is no cached object
  | .push => false                                     -- push_state: no rebuild
  | .pop => !s.states.isEmpty                          -- pop_state: only when a state was popped
  | .setState i => (s.states[i]?).isSome               -- set_state
  | .getPython => false

def iinit (k : Index.Kernel (List Obj) PVal E) (w : List Obj) : IState :=
  { base := Index.init k w, pathIndex := indexInit w }

/-- one operation: the abstract machine's step, and the index rebuilt from the NEW working tree where
    the code rebuilds it, left alone elsewhere -/
def istep (k : Index.Kernel (List Obj) PVal E) (s : IState) (op : Index.Op PVal E) :
    IState × Option PVal :=
  let r := Index.step k s.base op
  ({ base := r.1, pathIndex := if rebuilds k s.base op then reindex r.1.working else s.pathIndex }, r.2)

def irun (k : Index.Kernel (List Obj) PVal E) (s : IState) : List (Index.Op PVal E) → IState
  | [] => s
  | op :: ops => irun k (istep k s op).1 ops

/-! ### edits with `only_scope` (`index.update(text, only_scope=…)`, `merge_phil(…, only_scope=…)`)

  `only_scope` reaches two places: `delete_phil_objects(old_phil, redundant_paths, only_scope=…)`,
  where it restricts the deletion to objects on, above or below that path, and
  `rebuild_index(only_scope=…)` → `reindex_phil_objects(…, only_scope=…)`, where it is IGNORED. -/

/-- the test of `delete_phil_objects`: the object's path is `only_scope`, a prefix scope of it, or
    below it -/
def inOnlyScope (only fp : Str) : Bool :=
  only == fp || startsWith (fp ++ ['.']) only || startsWith (only ++ ['.']) fp

/-- interface.delete_phil_objects with its `only_scope` argument -/
def deletePhilObjectsScoped : Nat → Option Str → List Str → Str → List Obj → List Obj
  | 0, _, _, _, objs => objs
  | fuel + 1, only, paths, pfx, objs =>
    objs.filterMap fun o =>
      let fp := joinPath pfx o.name
      if (match only with | some s => !inOnlyScope s fp | none => false) then some o
      else if o.meta.tmpl != 0 then some o
      else if paths.contains fp then none
      else match o with
        | .scope m kids =>
          if paths.any (fun p => startsWith fp p) then
            some (.scope m (deletePhilObjectsScoped fuel only paths fp kids))
          else some o
        | d => some d

/-- the concrete kernel whose edits are (text, only_scope); with `only_scope = None` it is
    `concreteKernel c` (`Phil.C20.scoped_none_is_plain` in Phil/Props/C20Paths.lean) -/
def concreteKernelScoped (c : IndexCtx) : Index.Kernel (List Obj) PVal (Str × Option Str) where
  merge := fun w ed =>
    match parseObjs ed.1 with
    | .error _ => none
    | .ok edit =>
      match fetchRoot c.envs false c.master [edit] with
      | .error _ => none
      | .ok _ =>
        let newPaths := allPathNames 1000 [] edit
        let redundant := newPaths.filter (fun p => c.multiple.contains p)
        let old := if redundant.isEmpty then w else deletePhilObjectsScoped 1000 ed.2 redundant [] w
        match fetchRoot c.envs false c.master [old, edit] with
        | .error _ => none
        | .ok (r, _) => some r.children
  refetch := (concreteKernel c).refetch
  extract := (concreteKernel c).extract
  format := (concreteKernel c).format

/-- `index.get_scope_by_name(path)` without `phil_parent` and prefix: the dict lookup -/
def IState.lookup (s : IState) (p : Str) : Option PEntry := s.pathIndex.get p

/-! ### what travels on the wire: path, kind, positions -/

def PEntry.kind : PEntry → String
  | .one _ _ => "one"
  | .many _ => "many"
  | .stray => "stray"

def PEntry.positions : PEntry → List Nat
  | .one p _ => [p]
  | .many l => l.map (·.1)
  | .stray => []

def PEntry.objs : PEntry → List Obj
  | .one _ o => [o]
  | .many l => l.map (·.2)
  | .stray => []

def PathIndex.hasStray (ix : PathIndex) : Bool :=
  ix.any (fun kv => match kv.2 with | .stray => true | _ => false)

end Phil
