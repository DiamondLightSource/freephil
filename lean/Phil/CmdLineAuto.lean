/-
  Phil.CmdLineAuto — repair of the argument-interpreter model for `.expert_level = Auto`.

  `Phil.CmdLine.expertsObj` treats an `Auto` level like an unset one.  Python does not:
  `recursive_expert_level` returns any level that `is not None` — `Auto` included, inherited by the
  objects below — and the tie-break of an AMBIGUOUS best class evaluates `100 * score - exp_lvl` for
  every best match, which raises `TypeError: unsupported operand type(s) for -: 'int' and 'AutoType'`
  when that level is `Auto`.  (`score == max_score` is tested first, so only best matches count; with a
  unique best match the expression is never evaluated.)

  This file adds the `Auto` flags (`expertAutos`, aligned with `expertLevels`), the selection step with
  the TypeError (`choosePathA`) and `process_arg` on top of it (`processArgA`).  Where no competing
  target carries `Auto` they are `choosePath` / `processArg` (Phil/Proofs/NoStray.lean), so every
  theorem about those applies unchanged.  The driver (Main.lean) answers with `processArgA`.
-/
import Phil.CmdLine
namespace Phil

/-- the (inherited) level of an object given the inherited flag: an integer level is not `Auto`, an
    `Auto` level is, anything else (unset) inherits -/
def autoFlag (own : AttrVal) (inh : Bool) : Bool :=
  match own with
  | .int _ => false
  | .auto => true
  | _ => inh

/-- "the recursive expert level is `Auto`" for every entry of `all_definitions`, in the same order as
    `expertsObj` -/
def autosObj : Obj → Bool → List Bool
  | .defn m _, inh =>
    if m.name == "include".toList then [] else [autoFlag (m.attrs.get "expert_level") inh]
  | .scope m os, inh => autosList os (autoFlag (m.attrs.get "expert_level") inh)
where
  autosList : List Obj → Bool → List Bool
    | [], _ => []
    | o :: os, inh => (if o.meta.disabled then [] else autosObj o inh) ++ autosList os inh

def expertAutos (rootObjs : List Obj) : List Bool := autosObj.autosList rootObjs false

/-- target paths with their recursive expert levels and `Auto` flags, one entry per parameter (the same
    de-duplication as `targetEntries`) -/
def targetEntriesA (rootObjs : List Obj) (experts : List Int) (autos : List Bool) : List (Str × Int × Bool) :=
  let all := ((allDefsObj.allDefsList rootObjs []).map (·.1)).zip (experts.zip autos)
  all.foldl (fun acc pe => if acc.any (·.1 == pe.1) then acc else acc ++ [pe]) []

/-- "a best match carries `Auto`": the condition under which `100 * score - exp_lvl` raises -/
def autoInBest (scores : List Nat) (autos : List Bool) (mx : Nat) : Bool :=
  (scores.zip autos).any (fun p => p.1 == mx && p.2)

/-- the selection step with the TypeError of the tie-break -/
def choosePathA (home : Option Str) (targets : List Str) (experts : List Int) (autos : List Bool)
    (src : Str) : Except Err Choice :=
  let scores := targets.map (getPathScore home src)
  let mx := maxNat scores
  if mx == 0 then .ok .unknown
  else
    match indicesOf (· == mx) scores with
    | [i] => .ok (.chosen i false)
    | _ =>
      if autoInBest scores autos mx then .error (.stray "TypeError" "expert_tiebreak")
      else .ok (choosePath home targets experts src)

/-- argument_interpreter.process_arg with the repaired selection step -/
def processArgA (home : Option Str) (targets : List Str) (experts : List Int) (autos : List Bool)
    (arg : Str) : ArgOutcome :=
  match parseObjs arg with
  | .error (.unsupported w) => .runtime (.unsupported w)
  | .error _ => .sorry_ "arg_syntax" []
  | .ok objs =>
    let defs := allDefinitions objs
    let step : Option (Except ArgOutcome Str) → (Str × Meta × List Word) → Option (Except ArgOutcome Str) :=
      fun acc (path, m, ws) =>
        match acc with
        | some (.error e) => some (.error e)
        | some (.ok text) =>
          (match choosePathA home targets experts autos path with
           | .error e => some (.error (.runtime e))
           | .ok c =>
             (match c with
              | .unknown => some (.error (.sorry_ "unknown" []))
              | .ambiguous best => some (.error (.sorry_ "ambiguous" (best.filterMap (targets[·]?))))
              | .chosen i _ =>
                (match targets[i]? with
                 | none => some (.error (.runtime (.stray "IndexError" "target_paths")))
                 | some tp =>
                   (match showDefn {} { m with name := tp, tmpl := 0 } ws [] [] with
                    | .error e => some (.error (.runtime e))
                    | .ok lines => some (.ok (text ++ unlines lines))))))
        | none => none
    match defs.foldl step (some (.ok [])) with
    | some (.error out) => out
    | some (.ok text) =>
      if text.isEmpty then .sorry_ "no_effect" []
      else (match parseObjs text with
        | .ok r => .ok r
        | .error e => .runtime e)
    | none => .runtime (.stray "?" "unreachable")

end Phil
