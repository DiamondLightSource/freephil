/-
  Phil.Heap — an object-identity (heap) model of the PHIL object graph, for the copy clauses of C17 and
  the detachment clause of C18.

  Model of: src/freephil/common.py — `definition.copy`, `scope.copy` (`cls(**{slot: getattr(self, slot)})`),
  `definition.customized_copy`, `scope.customized_copy`, `scope.adopt` (sets `primary_parent_scope`,
  appends to `objects`), `legacy.slots_getstate_setstate.__getstate__/__setstate__` as used by
  `copy.deepcopy` and `pickle` (the state is the dict of ALL slots, `primary_parent_scope` included),
  slot assignment `o.f = v`; `scope.extract`, `definition.extract`, `scope_extract.__phil_set__`,
  `__phil_join__` and the converters' `from_words` as far as *which objects are fresh* is concerned.

  A heap is a finite map from object ids to nodes: `Heap = List Node`, the id of an object is its
  position, allocation appends (ids are never reused; Python's garbage collection is not observable
  by `is`-comparisons of live objects).  A node is a definition (slots, words, parent id) or a scope
  (slots, child ids, parent id); all scalar slots are carried by `Meta` (Phil.Basic).

  What is NOT an object of this heap (stated assumptions):
  * `list` objects are inlined: the `objects` slot of a scope is the list of child ids, the `words` slot
    of a definition the list of words.  Hence `o.objects = l` (slot assignment) is modelled,
    `o.objects.append(x)` (in-place mutation of the list object) is not — `copy()` hands the SAME list
    object to the copy, so an in-place append through a shallow copy is visible in the original
    (on the library `s.copy().objects is s.objects`); the property speaks of assigning fields only.
  * `tokenizer.word` objects and converter objects (`.type`) are immutable values here.
  * pickle round trip = deepcopy: both serialise `__getstate__()` of everything reachable with a memo
    (assumption; validated by the identity-graph correspondence of the harness).
-/
import Phil.Basic
namespace Phil.Heap

/-- one PHIL object: `definition` or `scope`; `parent` is the slot `primary_parent_scope` -/
inductive Node
  | defn (m : Meta) (words : List Word) (parent : Option Nat)
  | scope (m : Meta) (kids : List Nat) (parent : Option Nat)
  deriving Repr, Inhabited, DecidableEq

abbrev Heap := List Node

def Node.parent : Node → Option Nat
  | .defn _ _ p => p
  | .scope _ _ p => p
def Node.kids : Node → List Nat
  | .defn .. => []
  | .scope _ ks _ => ks
def Node.meta : Node → Meta
  | .defn m _ _ => m
  | .scope m _ _ => m
def Node.isScope : Node → Bool
  | .scope .. => true
  | _ => false

/-- the object ids a node refers to, in slot order (`objects` comes before `primary_parent_scope`
    in `__slots__`, which is the order `__getstate__` lists them and deepcopy visits them) -/
def Node.succs (n : Node) : List Nat := n.kids ++ n.parent.toList

/-! ### slot assignment -/

/-- the right-hand sides of `o.f = v`: any scalar slot (name, is_disabled, is_template, where_str,
    merge_names, primary_id, every attribute: a function on `Meta`), `words`, `objects`,
    `primary_parent_scope` -/
inductive Assign
  | slot (f : Meta → Meta)
  | words (ws : List Word)
  | objects (ks : List Nat)
  | parent (p : Option Nat)

/-- `__slots__` has no `words` on a scope and no `objects` on a definition: such an assignment raises
    AttributeError and changes nothing -/
def Node.assign : Node → Assign → Node
  | .defn m ws p, .slot f => .defn (f m) ws p
  | .defn m _ p, .words ws => .defn m ws p
  | .defn m ws _, .parent p => .defn m ws p
  | .defn m ws p, .objects _ => .defn m ws p
  | .scope m ks p, .slot f => .scope (f m) ks p
  | .scope m _ p, .objects ks => .scope m ks p
  | .scope m ks _, .parent p => .scope m ks p
  | .scope m ks p, .words _ => .scope m ks p

/-- `o.f = v` on the object with id `x` -/
def assign (h : Heap) (x : Nat) (a : Assign) : Heap :=
  match h[x]? with
  | none => h
  | some n => h.set x (n.assign a)

/-- a finite history of slot assignments -/
def assignMany (h : Heap) : List (Nat × Assign) → Heap
  | [] => h
  | (x, a) :: rest => assignMany (assign h x a) rest

/-! ### shallow copies -/

/-- `definition.copy()` / `scope.copy()`: `cls(**{k: getattr(self, k) for k in __slots__})` — a NEW
    object every slot of which holds the SAME value: same child ids (the same list object even),
    same words, same parent.  The parent does not list the copy. -/
def copy (h : Heap) (x : Nat) : Option (Heap × Nat) :=
  h[x]?.map fun n => (h ++ [n], h.length)

/-- `customized_copy(name=None, words=None)` / `customized_copy(name=None, objects=None)`:
    `copy()`, then the given slots are assigned, then `is_template = 0` -/
def customizedCopy (h : Heap) (x : Nat) (name : Option Str) (words : Option (List Word))
    (objects : Option (List Nat)) : Option (Heap × Nat) :=
  match copy h x with
  | none => none
  | some (h1, c) =>
    let h2 := match name with | some n => assign h1 c (.slot fun m => { m with name := n }) | none => h1
    let h3 := match words with | some ws => assign h2 c (.words ws) | none => h2
    let h4 := match objects with | some ks => assign h3 c (.objects ks) | none => h3
    some (assign h4 c (.slot fun m => { m with tmpl := 0 }), c)

/-! ### deepcopy / pickle -/

/-- the memo-driven traversal of `copy.deepcopy` with an explicit stack: an object not yet in the memo
    is entered in it (`seen`: id and state read, in order of first visit) and its slots are visited in
    order — children, then the parent.  `none`: out of fuel, or a dangling id. -/
def visit : Nat → Heap → List Nat → List (Nat × Node) → Option (List (Nat × Node))
  | 0, _, _, _ => none
  | _ + 1, _, [], seen => some seen
  | f + 1, h, x :: todo, seen =>
    if x ∈ seen.map (·.1) then visit f h todo seen
    else match h[x]? with
      | none => none
      | some n => visit f h (n.succs ++ todo) (seen ++ [(x, n)])

/-- enough fuel for `visit`: one step per stack entry ever pushed -/
def visitFuel (h : Heap) : Nat := (h.map fun n => n.succs.length).sum + h.length + 2

/-- replace every object reference of a node -/
def Node.rename (ρ : Nat → Nat) : Node → Node
  | .defn m ws p => .defn m ws (p.map ρ)
  | .scope m ks p => .scope m (ks.map ρ) (p.map ρ)

structure Copied where
  heap : Heap
  result : Nat
  /-- the objects that were copied, in memo order; the copy of `comp[j]` has id `base + j` -/
  comp : List Nat
  deriving Repr

/-- where the copy of object `i` lives -/
def memo (base : Nat) (comp : List Nat) (i : Nat) : Nat := base + comp.idxOf i

/-- `copy.deepcopy(x)` (and `pickle.loads(pickle.dumps(x))`): every object reachable from `x` through
    `objects` and `primary_parent_scope` is copied once, every reference among them is redirected to
    the copies; nothing else is touched. -/
def deepcopy (h : Heap) (x : Nat) : Option Copied :=
  match visit (visitFuel h) h [x] [] with
  | none => none
  | some comp =>
    let ρ := memo h.length (comp.map (·.1))
    some { heap := h ++ comp.map (fun p => p.2.rename ρ), result := ρ x, comp := comp.map (·.1) }

/-! ### abstraction to the tree of Phil.Basic -/

def mapOpt {α β : Type} (f : α → Option β) : List α → Option (List β)
  | [] => some []
  | a :: as => match f a, mapOpt f as with
    | some b, some bs => some (b :: bs)
    | _, _ => none

/-- the abstract `Obj` the object `x` denotes (children by following ids); `none`: out of fuel or dangling -/
def absF : Nat → Heap → Nat → Option Obj
  | 0, _, _ => none
  | f + 1, h, x =>
    match h[x]? with
    | none => none
    | some (.defn m ws _) => some (.defn m ws)
    | some (.scope m ks _) => (mapOpt (absF f h) ks).map (Obj.scope m)

/-- `x` denotes `o` in `h` -/
def Abs (h : Heap) (x : Nat) (o : Obj) : Prop := ∃ f, absF f h x = some o

/-- executable abstraction (fuel = number of objects + 1 suffices on well-formed heaps) -/
def abs (h : Heap) (x : Nat) : Option Obj := absF (h.length + 1) h x

/-! ### parse-shaped construction: `scope.adopt` -/

mutual
/-- number of objects of a tree -/
def size : Obj → Nat
  | .defn _ _ => 1
  | .scope _ os => 1 + sizeKids os
def sizeKids : List Obj → Nat
  | [] => 0
  | o :: os => size o + sizeKids os
end

/-- ids of the children when the first one is allocated at `b` (each subtree is a contiguous block) -/
def kidIds : List Obj → Nat → List Nat
  | [], _ => []
  | o :: os, b => b :: kidIds os (b + size o)

mutual
/-- the block of objects the parser creates for a tree whose root gets id `b` and parent `p`:
    pre-order allocation; `adopt` sets `child.primary_parent_scope = self` and appends the child to
    `self.objects` -/
def cells : Obj → Option Nat → Nat → List Node
  | .defn m ws, p, _ => [.defn m ws p]
  | .scope m os, p, b => .scope m (kidIds os (b + 1)) p :: kidCells os b (b + 1)
def kidCells : List Obj → Nat → Nat → List Node
  | [], _, _ => []
  | o :: os, p, b => cells o (some p) b ++ kidCells os p (b + size o)
end

/-- allocate a tree in a heap; the root's `primary_parent_scope` is `p` -/
def build (o : Obj) (p : Option Nat) (h : Heap) : Heap × Nat := (h ++ cells o p h.length, h.length)

/-- the heap of one parsed document: the root scope (name "") with the parsed objects -/
def ofObjs (os : List Obj) : Heap := (build (.scope { name := [] } os) none []).1

/-! ### well-formedness (decidable) -/

/-- no dangling reference -/
def closedB (h : Heap) : Bool :=
  h.all fun n => n.succs.all fun k => decide (k < h.length)

/-- `children linked to their own parent`: every child of a scope has that scope as parent -/
def kidsLinkedB (h : Heap) : Bool :=
  (List.range h.length).all fun i =>
    match h[i]? with
    | some n => n.kids.all fun k => (h[k]?.map Node.parent) == some (some i)
    | none => true

/-- every object with a parent is listed by that parent -/
def parentListsB (h : Heap) : Bool :=
  (List.range h.length).all fun i =>
    match h[i]? with
    | some n => (match n.parent with
      | none => true
      | some p => (match h[p]? with
        | some q => q.isScope && q.kids.contains i
        | none => false))
    | none => true

/-- no object occurs twice in one `objects` list (with `kidsLinkedB`: no sharing between scopes either) -/
def nodupKidsB (h : Heap) : Bool := h.all fun n => decide n.kids.Nodup

/-- following `primary_parent_scope` from `x` ends at an object without parent within `f` steps -/
def rootOf : Nat → Heap → Nat → Option Nat
  | 0, _, _ => none
  | f + 1, h, x =>
    match h[x]? with
    | none => none
    | some n => (match n.parent with
      | none => some x
      | some p => rootOf f h p)

def acyclicB (h : Heap) : Bool :=
  (List.range h.length).all fun i => (rootOf (h.length + 1) h i).isSome

/-- parent pointers agree with child lists, no sharing, acyclic, no dangling reference -/
def wfB (h : Heap) : Bool := closedB h && kidsLinkedB h && parentListsB h && nodupKidsB h && acyclicB h

/-! ### the identity graph, as the harness sees it -/

/-- what the harness observes of one object: kind, name, parent, children -/
structure GNode where
  isScope : Bool
  name : Str
  parent : Option Nat
  kids : List Nat
  deriving DecidableEq, Repr

/-- the identity graph: one `GNode` per object, by id -/
def graph (h : Heap) : List GNode :=
  h.map fun n => ⟨n.isScope, n.meta.name, n.parent, n.kids⟩

end Phil.Heap
