/-
  C18, detachment clause, tied to the pure extraction model.

  Phil/HeapExtract.lean reads the value tree of an extraction off the object heap (`extractT`), keeping
  which definition handed out its own word list; Phil/Fetch.lean (`extractObj`) is the pure model of
  `scope.extract` the correspondence harness compares with the real `extract()` on every run.  Here:

  * `extract_erase`: for every heap, object `x` and abstract tree `o` with `Abs h x o`, at every fuel,
    `erase (extractT e fuel h x) = extractObj e fuel o` — results and errors alike;
  * every value tree an extraction builds is normal (`pure` never holds a scope_extract);
  * `detached_pure`: after any safe history of in-place mutations of extracted value objects the PHIL
    object still denotes the same abstract tree and every later extraction, identity erased, is the pure
    extraction of that tree — the statement `detached` of C18Detach, transferred to what the
    correspondence run compares.
-/
import Phil.Props.C18Detach
import Phil.Proofs.HeapErase
import Phil.Proofs.HeapTotal
namespace Phil.C18DetachPure
open Phil Phil.Heap

/-- **erase ∘ extractT = extractObj ∘ abs.**  Whatever abstract tree `o` the object `x` denotes (any heap:
    trees, fetch results, shallow copies), the heap-level extraction with identity erased is the pure
    extraction of `o`: same value, or the same error, at every fuel. -/
theorem extract_erase (e : Envs) (fuel : Nat) (h : Heap) (x : Nat) (o : Obj) (ha : Abs h x o) :
    (extractT e fuel h x).map erase = extractObj e fuel o := by
  obtain ⟨f, hf⟩ := ha
  exact (extractT_rel e fuel h x o f hf).map_eq

/-- both directions spelled out: a successful heap-level extraction IS a successful pure extraction of the
    erased value, an error is the same error, and conversely -/
theorem extract_erase_iff (e : Envs) (fuel : Nat) (h : Heap) (x : Nat) (o : Obj) (ha : Abs h x o) :
    (∀ v, extractObj e fuel o = .ok v ↔ ∃ t, extractT e fuel h x = .ok t ∧ erase t = v) ∧
    (∀ err, extractObj e fuel o = .error err ↔ extractT e fuel h x = .error err) := by
  have key := extract_erase e fuel h x o ha
  cases ht : extractT e fuel h x with
  | error err0 =>
    rw [ht] at key
    have hp : extractObj e fuel o = .error err0 := key.symm
    rw [hp]
    constructor
    · intro v
      constructor
      · intro hh; cases hh
      · rintro ⟨t, hh, _⟩; cases hh
    · intro err
      constructor
      · intro hh; cases hh; rfl
      · intro hh; cases hh; rfl
  | ok t =>
    rw [ht] at key
    have hp : extractObj e fuel o = .ok (erase t) := key.symm
    rw [hp]
    constructor
    · intro v
      constructor
      · intro hh; cases hh; exact ⟨t, rfl, rfl⟩
      · rintro ⟨t', hh, hv⟩; cases hh; rw [hv]
    · intro err
      constructor
      · intro hh; cases hh
      · intro hh; cases hh

/-- **Extracted value trees are normal**: a value built afresh by a converter is never a scope_extract or a
    scope_extract_list (no `from_words` returns one), at any depth. -/
theorem extract_normal (e : Envs) (fuel : Nat) (h : Heap) (x : Nat) (o : Obj) (ha : Abs h x o) (t : TVal)
    (ht : extractT e fuel h x = .ok t) : t.norm = true := by
  obtain ⟨f, hf⟩ := ha
  have := extractT_rel e fuel h x o f hf
  rw [ht] at this
  exact this.1

/-- no converter returns a scope_extract / scope_extract_list -/
theorem converters_return_atomic (c : Conv) (env : EvalEnv) (opt : AttrVal) (ws : List Word) (v : PVal)
    (h : fromWords c env opt ws = .ok v) : v.atomic = true :=
  fromWords_atomic c env opt ws v h

/-- `__phil_set__` on the heap-level value tree, identity erased, is the pure `__phil_set__` — on normal
    trees (the only ones extraction builds) -/
theorem philSet_erase (fs : List (Str × TVal)) (name : Str) (opt : AttrVal) (mult : Bool) (x : XT)
    (hfs : normFields fs = true) (hx : x.norm = true) :
    (philSetT fs name opt mult x).map eraseFields = philSet (eraseFields fs) name opt mult (eraseX x) :=
  (philSet_rel fs name opt mult x hfs hx).map_eq

/-- `__phil_join__` likewise -/
theorem philJoin_erase (fuel : Nat) (a b : List (Str × TVal)) (ha : normFields a = true) (hb : normFields b = true) :
    (philJoinT fuel a b).map eraseFields = philJoin fuel (eraseFields a) (eraseFields b) :=
  (philJoin_rel fuel a b ha hb).map_eq

/-- **Parsed documents.**  For the heap of any parsed document, extraction from the root object, identity
    erased, is the pure extraction of the root scope over the parsed objects. -/
theorem extract_of_parsed_document (e : Envs) (fuel : Nat) (text : List Char) (objs : List Obj)
    (_hp : parseObjs text = .ok objs) :
    (extractT e fuel (ofObjs objs) 0).map erase = extractObj e fuel (.scope { name := [] } objs) :=
  extract_erase e fuel (ofObjs objs) 0 _ (build_abs (.scope { name := [] } objs) none [])

/-- … and of every object of it: each denotes a tree (`abs` answers) whose pure extraction it is -/
theorem extract_of_parsed_object (e : Envs) (fuel : Nat) (objs : List Obj) (x : Nat) (hx : x < (ofObjs objs).length) :
    ∃ o, abs (ofObjs objs) x = some o ∧ (extractT e fuel (ofObjs objs) x).map erase = extractObj e fuel o := by
  have := (ofObjs_treeHeap objs).abs_isSome x hx
  cases ha : abs (ofObjs objs) x with
  | none => rw [ha] at this; cases this
  | some o => exact ⟨o, rfl, extract_erase e fuel _ x o ⟨_, ha⟩⟩

/-- **Detachment, on the pure model.**  Extract `x` (which denotes `o`); mutate extracted value objects by any
    history that does not go through a handed-out word list.  Then
    (a) the first extraction, identity erased, was the pure extraction of `o`;
    (b) the PHIL heap is unchanged, so `x` — and every other object — denotes what it denoted;
    (c) every later extraction of ANY object `y` denoting `o'`, at any fuel, identity erased, is the pure
        extraction of `o'`: `extract()` after the mutations returns what the correspondence run compares
        with the real library for the unmodified tree. -/
theorem detached_pure (e : Envs) (fuel : Nat) (s s1 : Store) (x : Nat) (v1 : VRef) (o : Obj)
    (h1 : extractStore e fuel s x = .ok (s1, v1)) (ha : Abs s.phil x o)
    (ops : List (Nat × MutOp)) (hs : SafeHist s1 ops) :
    (∃ t, extractT e fuel s.phil x = .ok t ∧ v1 = (reify t s.vals.length).2 ∧ t.norm = true ∧
        extractObj e fuel o = .ok (erase t)) ∧
    (∀ y o', Abs (mutateMany s1 ops).phil y o' ↔ Abs s.phil y o') ∧
    (∀ fuel' y o', Abs s.phil y o' →
        (extractT e fuel' (mutateMany s1 ops).phil y).map erase = extractObj e fuel' o') := by
  obtain ⟨hphil, _, t, ht, hv, _⟩ := C18Detach.detached e fuel s s1 x v1 h1 ops hs
  refine ⟨⟨t, ht, hv, extract_normal e fuel s.phil x o ha t ht, ?_⟩, ?_, ?_⟩
  · have := extract_erase e fuel s.phil x o ha
    rw [ht] at this
    exact this.symm
  · intro y o'
    rw [hphil]
  · intro fuel' y o' hy
    rw [hphil]
    exact extract_erase e fuel' s.phil y o' hy

/-- without `.type = words` in sight every history is safe (C18Detach.detached_without_words), and the
    later extractions are the pure ones -/
theorem detached_pure_without_words (e : Envs) (fuel : Nat) (s s1 : Store) (x : Nat) (v1 : VRef) (o : Obj)
    (h1 : extractStore e fuel s x = .ok (s1, v1)) (ha : Abs s.phil x o) (hn : noAliasB s.vals = true)
    (hw : ∀ t, extractT e fuel s.phil x = .ok t → t.noHandout = true) (ops : List (Nat × MutOp)) :
    (mutateMany s1 ops).phil = s.phil ∧
    ∀ fuel' y o', Abs s.phil y o' →
      (extractT e fuel' (mutateMany s1 ops).phil y).map erase = extractObj e fuel' o' := by
  obtain ⟨hsafe, hphil, _⟩ := C18Detach.detached_without_words e fuel s s1 x v1 h1 hn hw ops
  exact ⟨hphil, (detached_pure e fuel s s1 x v1 o h1 ha ops hsafe).2.2⟩

/-! ### sharp edges (kernel-checked) -/

/-- number of fields of the scope_extract stored under `k` -/
def fieldCountP (fs : List (Str × PVal)) (k : Str) : Option Nat :=
  match fieldGet fs k with
  | some (.record r) => some r.length
  | _ => none

/-- **Normality is needed** for `philSet_erase`: on the NON-normal tree `a ↦ pure (record [b])` (a converter
    result that is a scope_extract — which no converter produces) the heap-level `__phil_set__` overwrites
    (1 field) where the pure one joins (2 fields). -/
theorem philSet_erase_needs_normal :
    normFields [("a".toList, TVal.pure (.record [("b".toList, .str "x".toList)]))] = false ∧
    (match philSetT [("a".toList, TVal.pure (.record [("b".toList, .str "x".toList)]))] "a".toList .none false
        (.val (.record [("c".toList, .pure .none)])) with
      | .ok r => fieldCountP (eraseFields r) "a".toList | .error _ => none) = some 1 ∧
    (match philSet (eraseFields [("a".toList, TVal.pure (.record [("b".toList, .str "x".toList)]))]) "a".toList .none false
        (eraseX (.val (.record [("c".toList, .pure .none)]))) with
      | .ok r => fieldCountP r "a".toList | .error _ => none) = some 2 := by
  decide +kernel

/-- **`Abs h x o` is needed**: on a heap with a dangling child the heap-level extraction raises the model's
    `LookupError`, which no pure extraction does -/
theorem extract_of_dangling :
    (match extractT C18Detach.noEnv 5 [Node.scope { name := [] } [3] none] 0 with
      | .error (.stray c _) => c | _ => "") = "LookupError" ∧ abs [Node.scope { name := [] } [3] none] 0 = none := by
  decide +kernel

/-- the erased value really forgets something: the extraction of `docText` (C18Detach) hands out the word
    list of definition 1, and its erasure is the plain `words` value -/
theorem erase_forgets_handout :
    (match extractT C18Detach.noEnv 10 (C18Detach.heapOfText C18Detach.docText) 1 with
      | .ok (.handout d ws) => some (d, ws.map (·.value), match erase (.handout d ws) with | .words ws' => ws'.map (·.value) | _ => [])
      | _ => none) = some (1, ["a".toList, "b".toList], ["a".toList, "b".toList]) := by
  -- the text is decoded in a hypothesis: the check of a rewrite below the `match` evaluates the parse
  generalize hh : C18Detach.heapOfText _ = hp
  rw [C18Detach.docText, C18Detach.heapOfText_ofList] at hh
  subst hh
  decide +kernel

/-! ### the hypotheses are satisfiable -/

/-- `detached_pure` applies to the document of C18Detach: the root denotes the parsed tree, extraction
    succeeds, and the append to the extracted `.type = strings` list (value object 3) is a safe history -/
example : ∃ objs s1 v1, parseObjs C18Detach.docText.toList = .ok objs ∧
    extractStore C18Detach.noEnv 10 ⟨ofObjs objs, []⟩ 0 = .ok (s1, v1) ∧
    Abs (ofObjs objs) 0 (.scope { name := [] } objs) ∧
    SafeHist s1 [(3, .append (.atom (.str "Z".toList)))] := by
  have key : (match parseObjs C18Detach.docText.toList with
      | .ok objs => (match extractStore C18Detach.noEnv 10 ⟨ofObjs objs, []⟩ 0 with
        | .ok (s1, _) => (match s1.vals[3]? with | some (VCell.list _ _) => true | _ => false)
        | .error _ => false)
      | .error _ => false) = true := by
    generalize hl : String.toList _ = l
    rw [C18Detach.docText, String.toList_ofList] at hl
    subst hl
    decide +kernel
  cases hp : parseObjs C18Detach.docText.toList with
  | error err => rw [hp] at key; cases key
  | ok objs =>
    rw [hp] at key
    simp only at key
    cases hx : extractStore C18Detach.noEnv 10 ⟨ofObjs objs, []⟩ 0 with
    | error err => rw [hx] at key; cases key
    | ok r =>
      obtain ⟨s1, v1⟩ := r
      rw [hx] at key
      simp only at key
      have hroot : Abs (ofObjs objs) 0 (.scope { name := [] } objs) := by
        have := build_abs (.scope { name := [] } objs) none []
        simpa [ofObjs, build] using this
      refine ⟨objs, s1, v1, rfl, hx, hroot, ?_, trivial⟩
      intro d hd
      rw [hd] at key
      cases key

end Phil.C18DetachPure

#print axioms Phil.C18DetachPure.extract_erase
#print axioms Phil.C18DetachPure.extract_erase_iff
#print axioms Phil.C18DetachPure.extract_normal
#print axioms Phil.C18DetachPure.converters_return_atomic
#print axioms Phil.C18DetachPure.philSet_erase
#print axioms Phil.C18DetachPure.philJoin_erase
#print axioms Phil.C18DetachPure.extract_of_parsed_document
#print axioms Phil.C18DetachPure.extract_of_parsed_object
#print axioms Phil.C18DetachPure.detached_pure
#print axioms Phil.C18DetachPure.detached_pure_without_words
#print axioms Phil.C18DetachPure.philSet_erase_needs_normal
#print axioms Phil.C18DetachPure.extract_of_dangling
#print axioms Phil.C18DetachPure.erase_forgets_handout
