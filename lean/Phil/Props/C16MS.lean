/-
  C16 (masters with `.multiple` scopes, the annotation pass, the expert tie-break) — User mistakes
  surface as RuntimeError or Sorry, never as internal errors; every call returns.

    A. `scope.fetch` on `MSMaster` masters (nested scopes, `.multiple` or not, `.multiple` definitions,
       sibling names distinct) against ARBITRARY sources, WITHOUT the hypothesis `KeysDefinedMS` of
       `fetch_ms_no_stray` (Props/C16More.lean): `fetch_ms_errors`, `fetchRoot_ms_errors` — ok,
       RuntimeError "incompatible", or the error of a converter call (`definition.extract` =
       `type.from_words`, `definition.format` = `type.as_words`) made while a candidate of a `.multiple`
       object is rendered for the list rule.  Never `stray`, never `outOfFuel`.
    B. `scope.extract` of such a fetch result: `extract_ms_no_stray` — ok or a converter error.
    C. the annotation pass `preResolve` (Phil/Vars.lean): every error it records is one of the five
       variable sites or "unsupported" (`preResolve_err_sites`); fetch of sources WITH `$variables`
       against a `TreeMaster` (`fetch_with_variables_errors`): ok, "incompatible", or the RuntimeError
       of `resolve_variables` at one of the five sites.
    D. the expert tie-break with `.expert_level = Auto` (model repaired in Phil/CmdLineAuto.lean, the
       driver answers with `processArgA`): `choosePathA_stray_iff` (TypeError iff the name matches, the
       best class is not a single target and a best match carries an — inherited — `Auto` level),
       `processArgA_no_stray` (that TypeError is the ONLY stray of `process_arg`),
       `processArgA_no_auto` (= `processArg` when no target carries `Auto`).
  Property theorems only; lemmas are in Phil/Proofs/NoStray3.lean.
-/
import Phil.Proofs.NoStray3
import Phil.Props.C16More
import Phil.Props.C12Fetch
namespace Phil.C16
open Phil Phil.C12

local instance exceptDecEqC16MS {ε α : Type} [DecidableEq ε] [DecidableEq α] : DecidableEq (Except ε α) :=
  fun a b =>
  match a, b with
  | .ok x, .ok y => if h : x = y then isTrue (by rw [h]) else isFalse (fun h' => by cases h'; exact h rfl)
  | .error x, .error y => if h : x = y then isTrue (by rw [h]) else isFalse (fun h' => by cases h'; exact h rfl)
  | .ok _, .error _ => isFalse (fun h => by cases h)
  | .error _, .ok _ => isFalse (fun h => by cases h)

/-! ### A. fetch on `MSMaster` masters, keys not assumed to be defined -/

/-- **the two converter call sites.**  `err` is the error of `definition.extract` (`type.from_words` on
    the words of a candidate) or of `definition.format` (`type.as_words` on the extracted value) of some
    definition, and it is a RuntimeError or "outside the modelled domain" — not a `stray`, not the loop
    bound. -/
def ConverterError (e : Envs) (err : Err) : Prop :=
  ((∃ s l, err = .runtime s l) ∨ (∃ w, err = .unsupported w)) ∧
    ((∃ m ws, extractDefn e m ws = .error err) ∨ (∃ m ws v, formatDefn e m ws v = .error err))

theorem converterError_of_n3 {e : Envs} {err : Err} (h : ConvErr_n3 e err) : ConverterError e err :=
  ⟨(Err.benign_iff err).1 h.1, h.2⟩

/-- **C16, `scope.fetch`, masters WITH `.multiple` scopes and definitions, any sources.**  With fuel
    beyond the nesting depth, a master of the class `MSMaster` whose definitions carry a word, and
    sources whose enabled definitions resolve and carry a word and whose enabled scopes are named (what
    the parser delivers), the fetch returns, and its only failures are RuntimeError "incompatible" (a
    scope where the master has a definition or the reverse) and the RuntimeError a converter raises
    while a candidate of a `.multiple` object — or the master's own block — is rendered
    (`master_object.extract_format(source=candidate).as_str()`).  No `KeysDefinedMS`. -/
theorem fetch_ms_errors (e : Envs) (fuel : Nat) (sm : Meta) (mkids srcs : List Obj)
    (hf : MSMaster mkids) (hw : wordsKidsB_ns mkids = true) (hfuel : depthL mkids < fuel)
    (hsd : sm.disabled = false) (hsrc : SrcTree srcs) (hsw : SrcWords_ns srcs) (err : Err)
    (h : fetchScope e fuel false sm mkids srcs = .error err) :
    err = .runtime "incompatible" none ∨ ConverterError e err := by
  rcases (fetch_ms_good_n3 e fuel sm mkids srcs hf hw hfuel hsd ⟨hsrc, hsw⟩).1 err h with h1 | h1
  · exact .inl h1
  · exact .inr (converterError_of_n3 h1)

/-- never `stray` (none of the ten sites of `fetchRoot_stray_sites` is reachable on this class), never
    the loop bound, never Sorry: the error is a RuntimeError or outside the modelled domain -/
theorem fetch_ms_never_stray (e : Envs) (fuel : Nat) (sm : Meta) (mkids srcs : List Obj)
    (hf : MSMaster mkids) (hw : wordsKidsB_ns mkids = true) (hfuel : depthL mkids < fuel)
    (hsd : sm.disabled = false) (hsrc : SrcTree srcs) (hsw : SrcWords_ns srcs) (err : Err)
    (h : fetchScope e fuel false sm mkids srcs = .error err) :
    (∃ s l, err = .runtime s l) ∨ (∃ w, err = .unsupported w) := by
  rcases fetch_ms_errors e fuel sm mkids srcs hf hw hfuel hsd hsrc hsw err h with h1 | h1
  · exact .inl ⟨_, _, h1⟩
  · exact h1.1

theorem fetch_ms_ne_stray (e : Envs) (fuel : Nat) (sm : Meta) (mkids srcs : List Obj)
    (hf : MSMaster mkids) (hw : wordsKidsB_ns mkids = true) (hfuel : depthL mkids < fuel)
    (hsd : sm.disabled = false) (hsrc : SrcTree srcs) (hsw : SrcWords_ns srcs) (cls site : String) :
    fetchScope e fuel false sm mkids srcs ≠ .error (.stray cls site) ∧
    fetchScope e fuel false sm mkids srcs ≠ .error .outOfFuel := by
  constructor <;> intro h <;>
    rcases fetch_ms_never_stray e fuel sm mkids srcs hf hw hfuel hsd hsrc hsw _ h with ⟨_, _, h1⟩ | ⟨_, h1⟩ <;>
    cases h1

/-- the same at the entry point `master.fetch(sources)` (its fuel is adequate for depth ≤ 1000) -/
theorem fetchRoot_ms_errors (e : Envs) (master : List Obj) (ss : List (List Obj))
    (hf : MSMaster master) (hw : wordsKidsB_ns master = true) (hd : depthL master ≤ 1000)
    (hsrc : SrcTree ss.flatten) (hsw : SrcWords_ns ss.flatten) (err : Err)
    (h : fetchRoot e false master ss = .error err) :
    err = .runtime "incompatible" none ∨ ConverterError e err :=
  fetch_ms_errors e _ _ master ss.flatten hf hw (fetchRoot_fuel_tree master hd) rfl hsrc hsw err h

/-- a successful fetch has the block structure of its master (`RKids_n3`): one block per master child
    in master order, a non-multiple child contributes at most one object, every definition carries a
    word, live scopes are again such results -/
theorem fetch_ms_result_blocks (e : Envs) (fuel : Nat) (sm : Meta) (mkids srcs : List Obj)
    (hf : MSMaster mkids) (hw : wordsKidsB_ns mkids = true) (hfuel : depthL mkids < fuel)
    (hsd : sm.disabled = false) (hsrc : SrcTree srcs) (hsw : SrcWords_ns srcs) (ro : Obj) (used : List Nat)
    (h : fetchScope e fuel false sm mkids srcs = .ok (ro, used)) :
    ∃ out, ro = .scope { sm with tmpl := 0 } out ∧ RKids_n3 mkids out :=
  (fetch_ms_good_n3 e fuel sm mkids srcs hf hw hfuel hsd ⟨hsrc, hsw⟩).2 (ro, used) h

/-! ### B. extraction of the fetch result -/

/-- **C16, `scope.extract` of a fetch result, `MSMaster`.**  Extraction of the result of a fetch of an
    `MSMaster` (the `scope_extract_list`s of `.multiple` objects included) fails only with a converter's
    RuntimeError (or leaves the modelled domain): `__phil_set__` / `__phil_join__` never raise, because
    the result consists of one block per master child and a block of several objects belongs to a
    `.multiple` child; extraction fuel beyond the depth is never exhausted. -/
theorem extract_ms_no_stray (e : Envs) (fuel xfuel : Nat) (sm : Meta) (mkids srcs : List Obj)
    (hf : MSMaster mkids) (hw : wordsKidsB_ns mkids = true) (hfuel : depthL mkids < fuel)
    (hsd : sm.disabled = false) (hsrc : SrcTree srcs) (hsw : SrcWords_ns srcs)
    (hx : depthL mkids + 1 < xfuel) (ro : Obj) (used : List Nat)
    (h : fetchScope e fuel false sm mkids srcs = .ok (ro, used)) (err : Err)
    (he : extractObj e xfuel ro = .error err) : ConverterError e err := by
  obtain ⟨out, rfl, hrk⟩ := fetch_ms_result_blocks e fuel sm mkids srcs hf hw hfuel hsd hsrc hsw ro used h
  cases xfuel with
  | zero => exact absurd hx (Nat.not_lt_zero _)
  | succ xf =>
    exact converterError_of_n3 ((extract_root_n3 e xf _ mkids out hf hrk (by omega)).1 err he)

/-- … and a value it returns is a `scope_extract` typed by the master (`VKids_n3`): every slot of a
    `.multiple` child is a `scope_extract_list`, every slot of a definition holds a value its converter
    formats without TypeError/AssertionError -/
theorem extract_ms_typed (e : Envs) (fuel xfuel : Nat) (sm : Meta) (mkids srcs : List Obj)
    (hf : MSMaster mkids) (hw : wordsKidsB_ns mkids = true) (hfuel : depthL mkids < fuel)
    (hsd : sm.disabled = false) (hsrc : SrcTree srcs) (hsw : SrcWords_ns srcs)
    (hx : depthL mkids + 1 < xfuel) (ro : Obj) (used : List Nat)
    (h : fetchScope e fuel false sm mkids srcs = .ok (ro, used)) (v : PVal)
    (he : extractObj e xfuel ro = .ok v) : ∃ fs, v = .record fs ∧ VKids_n3 mkids fs := by
  obtain ⟨out, rfl, hrk⟩ := fetch_ms_result_blocks e fuel sm mkids srcs hf hw hfuel hsd hsrc hsw ro used h
  cases xfuel with
  | zero => exact absurd hx (Nat.not_lt_zero _)
  | succ xf => exact (extract_root_n3 e xf _ mkids out hf hrk (by omega)).2 v he

/-- `master.fetch(sources)` followed by `.extract()`, hypotheses in executable form (for parsed
    instances) -/
theorem fetch_extract_ms_checked (e : Envs) (master : List Obj) (ss : List (List Obj))
    (hm : msMasterB master = true) (hd : depthL master ≤ 1000) (hw : wordsKidsB_ns master = true)
    (hs : srcCheck ss.flatten = true) (hsw : srcWordsB_ns ss.flatten = true) :
    (∀ err, fetchRoot e false master ss = .error err →
      err = .runtime "incompatible" none ∨ ConverterError e err) ∧
    (∀ ro used, fetchRoot e false master ss = .ok (ro, used) →
      ∀ xfuel, depthL master + 1 < xfuel → ∀ err, extractObj e xfuel ro = .error err →
        ConverterError e err) := by
  have hf := msMasterB_sound master hm
  have hsrc := (srcCheck_sound ss.flatten hs).tree
  have hsw' := srcWordsB_sound_ns _ hsw
  refine ⟨fun err h => fetchRoot_ms_errors e master ss hf hw hd hsrc hsw' err h, ?_⟩
  intro ro used h xfuel hx err he
  exact extract_ms_no_stray e _ xfuel _ master ss.flatten hf hw (fetchRoot_fuel_tree master hd) rfl hsrc hsw'
    hx ro used h err he

/-! ### instances through the parser -/

/-- non-vacuity, and an outcome `fetch_ms_no_stray` does not cover: on the three-level master of
    Props/C05TreeMS.lean (`.multiple` scopes inside `.multiple` scopes) the source `s { b = maybe }`
    gives a candidate whose key is NOT defined — the fetch raises the bool converter's RuntimeError with
    the line of the word; the executable hypotheses hold -/
example :
    (msMasterB C05.msM && wordsKidsB_ns C05.msM && srcCheck (C05.tmObjs "s { b = maybe }\n") &&
      srcWordsB_ns (C05.tmObjs "s { b = maybe }\n")) = true ∧
    Phil.errOf (fetchRoot C05.envTm false C05.msM [C05.tmObjs "s { b = maybe }\n"])
      = some (.runtime "bool_expected" (some 1)) ∧
    Phil.errOf (fetchRoot C05.envTm false C05.msM [C05.tmObjs "s { t = 1 }\n"])
      = some (.runtime "incompatible" none) := by
  rw [C05.msM_eq, C05.tmObjs_ofList, C05.tmObjs_ofList]
  decide +kernel

/-- a second parsed master: a `.multiple` scope with a `.multiple` definition, and a plain bool -/
def msX : List Obj := C05.tmObjs "m\n.multiple=True\n{\n  c = yes\n  .type=bool\n  .multiple=True\n}\nf = yes\n.type=bool\n"

section
attribute [local instance] objDecEq

theorem msX_eq : msX =
    [
      .scope { name := "m".toList, id := some 1, line := some 1, attrs := [("multiple", .bool true)] } [
        .defn
          { name := "c".toList, id := some 2, line := some 4,
            attrs := [("type", .conv .bool), ("multiple", .bool true)] }
          [{ value := "yes".toList, line := some 4 }]],
      .defn { name := "f".toList, id := some 3, line := some 8, attrs := [("type", .conv .bool)] }
        [{ value := "yes".toList, line := some 8 }]] := by
  unfold msX
  rw [C05.tmObjs_ofList]
  decide +kernel

end

/-- fetch, then extract: a value for a well-formed file; for `f = maybe` the fetch succeeds
    (non-multiple definitions are not rendered by the fetch) and extraction raises the bool converter's
    RuntimeError; `m { c = maybe }` fails already in the fetch, with the bool converter's RuntimeError,
    because the candidate block is rendered for the list rule -/
example :
    (msMasterB msX && wordsKidsB_ns msX) = true ∧
    (match fetchRoot C05.envTm false msX [C05.tmObjs "m { c = no }\nm { c = no\n c = yes }\nf = no\n"] with
     | .ok (ro, _) => Phil.errOf (extractObj C05.envTm 50 ro)
     | .error err => some err) = none ∧
    (match fetchRoot C05.envTm false msX [C05.tmObjs "f = maybe\n"] with
     | .ok (ro, _) => Phil.errOf (extractObj C05.envTm 50 ro)
     | .error err => some (.unsupported "fetch failed")) = some (.runtime "bool_expected" (some 1)) ∧
    Phil.errOf (fetchRoot C05.envTm false msX [C05.tmObjs "m { c = no\n c = maybe }\n"])
      = some (.runtime "bool_expected" (some 2)) := by
  rw [msX_eq]
  -- the texts are decoded in hypotheses: the check of a rewrite below a `match` evaluates the parse
  generalize h1 : C05.tmObjs _ = s1
  generalize h2 : C05.tmObjs _ = s2
  generalize h3 : C05.tmObjs _ = s3
  rw [C05.tmObjs_ofList] at h1 h2 h3
  subst h1 h2 h3
  decide +kernel

/-! ### C. the annotation pass and fetch with `$variables` -/

/-- **the annotation pass records only named errors.**  For every document without earlier annotations
    (what the parser delivers), every environment, both modes: an `.err site line` stored by
    `preResolve` in any definition at any depth has `site` among the five RuntimeError sites of
    `resolve_variables` (`varsSites`: `$` without identifier, missing `)`, improper variable name, "Not
    a definition", "Undefined variable") or is `"unsupported"` (a referenced definition without id, or
    the loop bound: neither arises on parser outputs, `fetch_with_variables_errors`). -/
theorem preResolve_err_sites (env : Env) (diff : Bool) (root : List Obj)
    (hfresh : ∀ m ∈ metasOfs root, m.varRes = none) :
    ∀ m ∈ metasOfs (preResolve env diff root), ∀ site line,
      m.varRes = some (.err site line) → site ∈ varsSites ∨ site = "unsupported" :=
  preResolveList_err_sites_n3 env diff _ _ [] root hfresh

/-- `fetch_value` turns a recorded error into that RuntimeError and nothing else -/
theorem srcWordsR_error_sites (m : Meta) (ws : List Word) (err : Err) (h : srcWordsR m ws = .error err) :
    (∃ site line, m.varRes = some (.err site line) ∧ err = .runtime site line) ∨
      (m.varRes = none ∧ err = .unsupported "variable in source") := by
  unfold srcWordsR at h
  cases hv : m.varRes with
  | none =>
    rw [hv] at h
    simp only at h
    split at h <;> cases h
    exact .inr ⟨rfl, rfl⟩
  | some r =>
    rw [hv] at h
    cases r with
    | ok rws refs => cases h
    | err site line => cases h; exact .inl ⟨site, line, rfl, rfl⟩

/-- **C16, `master.fetch(sources)` with `$variables` in the sources, `TreeMaster`.**  For documents
    numbered like parser outputs, without earlier annotations, whose enabled scopes are named, annotated
    by `preResolve` in any environment: the fetch returns, and its only failures are RuntimeError
    "incompatible" and the RuntimeError of `resolve_variables` at one of the five named sites (carrying
    the line of the offending word, see the instances below).  No `stray`, no Sorry, no loop bound, and
    nothing outside the modelled domain.  (Converters are not called by a non-diff fetch of a master
    without `.multiple`; their RuntimeErrors arise at extraction, `extract_tree_no_stray`.) -/
theorem fetch_with_variables_errors (e : Envs) (env : Env) (master : List Obj) (docs : List (List Obj))
    (hf : TreeMaster master) (hd : depthL master ≤ 1000) (hdocs : ∀ d ∈ docs, DocIds d)
    (hfresh : ∀ d ∈ docs, Fresh d) (hnamed : ScopesNamed docs.flatten) (err : Err)
    (h : fetchRoot e false master (docs.map (preResolve env false)) = .error err) :
    err = .runtime "incompatible" none ∨ ∃ s ∈ varsSites, ∃ l, err = .runtime s l := by
  rw [fetchRoot_preResolved e env master docs hf hd hdocs hnamed] at h
  unfold treeFetch at h
  cases hfe : firstErr master (docs.map (denoteDoc env false)).flatten with
  | none => rw [hfe] at h; cases h
  | some e' =>
    rw [hfe] at h
    cases h
    rw [firstErr_eq_findSome] at hfe
    obtain ⟨mo, _, hmo⟩ := List.exists_of_findSome?_eq_some hfe
    rcases firstErrObj_some_n3 _ _ _ hmo with h1 | ⟨x, hx, hxd, hxe⟩
    · exact .inl h1
    · refine .inr ?_
      obtain ⟨l, hl, hxl⟩ := activeIn_flatten_fv hx
      obtain ⟨d, hdm, rfl⟩ := List.mem_map.mp hl
      obtain ⟨pos, m, ws, hobj, _, _, hspec, _⟩ :=
        activeDefn_denoted env false d (hdocs d hdm) (hfresh d hdm) hxl hxd
      rw [hxe] at hspec
      cases hden : denote env d pos false with
      | ok r => rw [hden] at hspec; cases hspec
      | error e2 =>
        rw [hden] at hspec
        cases hspec
        exact denote_err_sites_n3 env d (hdocs d hdm) pos m ws hobj false err hden

/-- with the hypotheses in executable form, one document -/
theorem fetch_with_variables_checked (e : Envs) (env : Env) (master doc : List Obj)
    (hm : treeMasterB master = true) (hd : depthL master ≤ 1000) (hdoc : docIdsB doc = true)
    (hfresh : freshB doc = true) (hnamed : scopesNamedB doc = true) (err : Err)
    (h : fetchRoot e false master [preResolve env false doc] = .error err) :
    err = .runtime "incompatible" none ∨ ∃ s ∈ varsSites, ∃ l, err = .runtime s l := by
  refine fetch_with_variables_errors e env master [doc] (treeMasterB_sound master hm) hd ?_ ?_ ?_ err h
  · intro d hdm; rw [List.mem_singleton] at hdm; subst hdm; exact (docIdsB_iff_vs d).mp hdoc
  · intro d hdm; rw [List.mem_singleton] at hdm; subst hdm; exact freshB_sound d hfresh
  · simp only [List.flatten_cons, List.flatten_nil, List.append_nil]; exact scopesNamedB_sound doc hnamed

/-- error of `master.fetch(parse(t))` for the master `a = 1 ; s { b = 2 ; c = 3 }` of Props/C12Fetch.lean,
    empty environment -/
def varsErrX (t : String) : Option Err :=
  Phil.errOf (fetchRoot env12 false C12Fetch.mT [preResolve C12Fetch.noEnv false (C06.objsOf t)])

theorem varsErrX_ofList (l : List Char) :
    varsErrX (String.ofList l) =
      Phil.errOf (fetchRoot env12 false C12Fetch.mT [preResolve C12Fetch.noEnv false
        (match parseObjs l with
         | .ok m => m
         | .error _ => [])]) := by
  unfold varsErrX
  rw [C06.objsOf_ofList]
  rfl

/-- instances through the parser: the hypotheses hold … -/
example : (treeMasterB C12Fetch.mT && docIdsB (C06.objsOf "a = 1\na = $nope\n") &&
    freshB (C06.objsOf "a = 1\na = $nope\n") && scopesNamedB (C06.objsOf "a = 1\na = $nope\n")) = true := by
  rw [C12Fetch.mT_eq, C06.objsOf_ofList]
  decide +kernel
/-- … every variable site is reached, with the line of the offending word … -/
example : varsErrX "a = 1\na = $nope\n" = some (.runtime "undefined_variable" (some 2)) := by
  rw [varsErrX_ofList, C12Fetch.mT_eq]
  decide +kernel
example : varsErrX "s { q = 1 }\na = $s\n" = some (.runtime "not_a_definition" (some 2)) := by
  rw [varsErrX_ofList, C12Fetch.mT_eq]
  decide +kernel
example : varsErrX "a = 1\n\na = x $\n" = some (.runtime "dollar_identifier" (some 3)) := by
  rw [varsErrX_ofList, C12Fetch.mT_eq]
  decide +kernel
example : varsErrX "a = $(x\n" = some (.runtime "missing_paren" (some 1)) := by
  rw [varsErrX_ofList, C12Fetch.mT_eq]
  decide +kernel
example : varsErrX "a = $1\n" = some (.runtime "improper_variable_name" (some 1)) := by
  rw [varsErrX_ofList, C12Fetch.mT_eq]
  decide +kernel
/-- … a clash of kinds is "incompatible", and a well-formed file goes through (an undefined variable in
    a definition the master does not declare is never resolved) -/
example : varsErrX "q = 1\ns = $q\n" = some (.runtime "incompatible" none) := by
  rw [varsErrX_ofList, C12Fetch.mT_eq]
  decide +kernel
example : varsErrX "q = 5\na = $q x$(q)\nz = $nope\n" = none := by
  rw [varsErrX_ofList, C12Fetch.mT_eq]
  decide +kernel

/-- `Fresh` is needed: an error recorded before the pass on a `$`-free definition is kept and raised
    under its own site name -/
theorem fresh_needed_for_sites :
    let doc : List Obj := [.defn { name := "a".toList, id := some 1, varRes := some (.err "whatever" none) }
      [{ value := "1".toList }]]
    docIdsB doc = true ∧ freshB doc = false ∧
    Phil.errOf (fetchRoot env12 false C12Fetch.mT [preResolve C12Fetch.noEnv false doc]) = some (.runtime "whatever" none) := by
  rw [C12Fetch.mT_eq]
  decide +kernel

/-! ### D. the expert tie-break with `.expert_level = Auto` -/

/-- **the TypeError of the tie-break, exactly.**  The selection step fails iff the argument name matches
    some target (`max_score ≠ 0`), the best class does not consist of exactly one target, and some best
    match carries the (inherited) level `Auto` (`autoInBest`: an index with `score == max_score` whose
    flag is set) — and then with `TypeError` (`100 * score - exp_lvl`).  Python (replayed): master
    `a { x = 1 .expert_level = Auto } b { x = 2 }`, argument `x=3` → `TypeError: unsupported operand
    type(s) for -: 'int' and 'AutoType'`; the same with the level on the scope `a`. -/
theorem choosePathA_stray_iff (home : Option Str) (targets : List Str) (experts : List Int)
    (autos : List Bool) (src : Str) (e : Err) :
    choosePathA home targets experts autos src = .error e ↔
      e = .stray "TypeError" "expert_tiebreak" ∧
      maxNat (targets.map (getPathScore home src)) ≠ 0 ∧
      (indicesOf (· == maxNat (targets.map (getPathScore home src)))
        (targets.map (getPathScore home src))).length ≠ 1 ∧
      autoInBest (targets.map (getPathScore home src)) autos
        (maxNat (targets.map (getPathScore home src))) = true := by
  rw [choosePathA_eq_ns]
  constructor
  · intro h
    split at h
    · rename_i hc; cases h; exact ⟨rfl, hc⟩
    · cases h
  · rintro ⟨rfl, hc⟩
    exact if_pos hc

/-- otherwise the step is the Auto-free `choosePath` (all of C14 applies to it) -/
theorem choosePathA_ok (home : Option Str) (targets : List Str) (experts : List Int)
    (autos : List Bool) (src : Str) (c : Choice) (h : choosePathA home targets experts autos src = .ok c) :
    c = choosePath home targets experts src := choosePathA_ok_ns h

/-- **C16/C14, `process_arg` with `Auto` levels.**  For every argument text, every list of target paths
    with their levels and `Auto` flags, every home scope: the parsed objects, a Sorry, a RuntimeError,
    outside the modelled domain — or the TypeError of the tie-break, and no other `stray`. -/
theorem processArgA_no_stray (home : Option Str) (targets : List Str) (experts : List Int)
    (autos : List Bool) (arg : Str) :
    (∃ objs, processArgA home targets experts autos arg = .ok objs) ∨
    (∃ kind paths, processArgA home targets experts autos arg = .sorry_ kind paths) ∨
    (∃ s l, processArgA home targets experts autos arg = .runtime (.runtime s l)) ∨
    (∃ w, processArgA home targets experts autos arg = .runtime (.unsupported w)) ∨
    processArgA home targets experts autos arg = .runtime (.stray "TypeError" "expert_tiebreak") := by
  have h := processArgA_fine_ns home targets experts autos arg
  cases hp : processArgA home targets experts autos arg with
  | ok objs => exact .inl ⟨objs, rfl⟩
  | sorry_ k p => exact .inr (.inl ⟨k, p, rfl⟩)
  | runtime e =>
    rw [hp] at h
    rcases h with h | h
    · rcases (Err.benign_iff e).1 h with ⟨s, l, rfl⟩ | ⟨w, rfl⟩
      · exact .inr (.inr (.inl ⟨s, l, rfl⟩))
      · exact .inr (.inr (.inr (.inl ⟨w, rfl⟩)))
    · obtain ⟨rfl, _⟩ := h; exact .inr (.inr (.inr (.inr rfl)))

/-- **no `Auto` level among the targets: never a stray** — the repaired interpreter is `processArg`, to
    which `processArg_no_stray` and the C14 theorems apply.  (If the parser refused `.expert_level =
    Auto`, every master would be of this kind and the corollary for parser outputs would read "never".) -/
theorem processArgA_no_auto (home : Option Str) (targets : List Str) (experts : List Int)
    (autos : List Bool) (h : ∀ a ∈ autos, a = false) (arg : Str) :
    processArgA home targets experts autos arg = processArg home targets experts arg := by
  unfold processArgA processArg
  simp only [choosePathA_no_auto_ns home targets experts autos h]
  rfl

/-- through the parser, as the driver computes it: master text, argument text -/
def argAutoX (m arg : String) : String :=
  let mobjs := C05.tmObjs m
  let entries := targetEntriesA mobjs (expertLevels mobjs) (expertAutos mobjs)
  match processArgA none (entries.map (·.1)) (entries.map (·.2.1)) (entries.map (·.2.2)) arg.toList with
  | .ok _ => "ok"
  | .sorry_ k _ => "refusal:" ++ k
  | .runtime (.stray c s) => "stray:" ++ c ++ ":" ++ s
  | .runtime _ => "runtime"

theorem argAutoX_ofList (m arg : List Char) :
    argAutoX (String.ofList m) (String.ofList arg) =
      let mobjs := match parseObjs m with
        | .ok m => m
        | .error _ => []
      let entries := targetEntriesA mobjs (expertLevels mobjs) (expertAutos mobjs)
      match processArgA none (entries.map (·.1)) (entries.map (·.2.1)) (entries.map (·.2.2)) arg with
      | .ok _ => "ok"
      | .sorry_ k _ => "refusal:" ++ k
      | .runtime (.stray c s) => "stray:" ++ c ++ ":" ++ s
      | .runtime _ => "runtime" := by
  unfold argAutoX
  rw [C05.tmObjs_ofList, String.toList_ofList]
  rfl

/-- **parser outputs reach the TypeError** (`.expert_level = Auto` is accepted by the parser), on the
    definition and inherited from the scope; a unique best match, an exact path, a name that matches
    nothing, and integer levels are unaffected (Python replayed: TypeError, TypeError, ok, ok, Sorry
    "Unknown", ok with the warning) -/
theorem auto_level_strays_in_tiebreak :
    argAutoX "a {\n  x = 1\n  .expert_level = Auto\n}\nb {\n  x = 2\n}\n" "x=3" = "stray:TypeError:expert_tiebreak" ∧
    argAutoX "a\n.expert_level = Auto\n{\n  x = 1\n}\nb {\n  x = 2\n}\n" "x=3" = "stray:TypeError:expert_tiebreak" ∧
    argAutoX "a {\n  x = 1\n  .expert_level = Auto\n}\nb {\n  x = 2\n}\nc {\n  y = 1\n}\n" "y=3" = "ok" ∧
    argAutoX "a {\n  x = 1\n  .expert_level = Auto\n}\nb {\n  x = 2\n}\n" "a.x=3" = "ok" ∧
    argAutoX "a {\n  x = 1\n  .expert_level = Auto\n}\nb {\n  x = 2\n}\n" "q=3" = "refusal:unknown" ∧
    argAutoX "a {\n  x = 1\n  .expert_level = 1\n}\nb {\n  x = 2\n}\n" "x=3" = "ok" := by
  repeat rw [argAutoX_ofList]
  decide +kernel

/-! ### every hypothesis of §A/§B is needed (kernel-checked; the parsed ones replayed on Python) -/

/-- **sibling names must be distinct**: `x` declared as a plain scope and again as a `.multiple` scope
    inside a `.multiple` scope — `M.fetch()` raises AttributeError (`'scope_extract' object has no
    attribute 'append'`, Python replayed).  `msMasterB` refuses the master. -/
theorem ms_distinct_needed :
    let m := C05.tmObjs "m\n.multiple = True\n{\nx { a = 1 }\nx\n.multiple = True\n{ a = 2 }\n}\n"
    msMasterB m = false ∧ wordsKidsB_ns m = true ∧
    Phil.errOf (fetchRoot C05.envTm false m [[]]) = some (.stray "AttributeError" "phil_set_append") := by
  rw [C05.tmObjs_ofList]
  decide +kernel

/-- **choices are excluded** (`DefnMeta`): a choice whose master value is `None` — `M.fetch(source)`
    raises a bare AssertionError (Python replayed) -/
theorem ms_no_choice_needed :
    let m := C05.tmObjs "a = None\n.type = choice\n"
    msMasterB m = false ∧ wordsKidsB_ns m = true ∧
    Phil.errOf (fetchRoot C05.envTm false m [C05.tmObjs "a = x\n"])
      = some (.stray "AssertionError" "choice_fetch") := by
  rw [C05.tmObjs_ofList, C05.tmObjs_ofList]
  decide +kernel

/-- **master definitions must carry a word** (the parser guarantees it; a tree built by hand need
    not): a `.multiple` bool without words — `assert len(words) > 0` -/
theorem ms_master_words_needed :
    let m : List Obj := [.defn { name := "b".toList, attrs := [("type", .conv .bool), ("multiple", .bool true)] } []]
    msMasterB m = true ∧ wordsKidsB_ns m = false ∧
    Phil.errOf (fetchRoot C05.envTm false m [[]]) = some (.stray "AssertionError" "bool_from_words") := by
  decide +kernel

/-- **source definitions must carry a word**: the same through a source built by hand -/
theorem ms_source_words_needed :
    let m : List Obj := [.defn { name := "b".toList, attrs := [("type", .conv .bool), ("multiple", .bool true)] }
      [{ value := "yes".toList }]]
    let s : List Obj := [.defn { name := "b".toList } []]
    msMasterB m = true ∧ wordsKidsB_ns m = true ∧ srcCheck s = true ∧ srcWordsB_ns s = false ∧
    Phil.errOf (fetchRoot C05.envTm false m [s]) = some (.stray "AssertionError" "bool_from_words") := by
  decide +kernel

/-- **the fuel must exceed the depth**: `msX` has depth 1; with fuel 1 the loop bound is hit, with
    fuel 2 the fetch returns -/
theorem ms_fuel_needed :
    depthL msX = 1 ∧
    Phil.errOf (fetchScope C05.envTm 1 false { name := [] } msX []) = some .outOfFuel ∧
    Phil.errOf (fetchScope C05.envTm 2 false { name := [] } msX []) = none := by
  rw [msX_eq]
  decide +kernel

/-- **sources must resolve** (`SrcTree`) for the classification (not for "no stray"): a `$` the
    annotation pass has not resolved leaves the modelled domain of the variable-free fetch — see §C for
    sources with variables -/
theorem ms_src_resolved_needed :
    srcCheck (C05.tmObjs "f = $x\n") = false ∧
    Phil.errOf (fetchRoot C05.envTm false msX [C05.tmObjs "f = $x\n"])
      = some (.unsupported "variable in source") := by
  rw [msX_eq, C05.tmObjs_ofList]
  decide +kernel

end Phil.C16

#print axioms Phil.C16.fetch_ms_errors
#print axioms Phil.C16.fetch_ms_never_stray
#print axioms Phil.C16.fetch_ms_ne_stray
#print axioms Phil.C16.fetchRoot_ms_errors
#print axioms Phil.C16.fetch_ms_result_blocks
#print axioms Phil.C16.extract_ms_no_stray
#print axioms Phil.C16.extract_ms_typed
#print axioms Phil.C16.fetch_extract_ms_checked
#print axioms Phil.C16.preResolve_err_sites
#print axioms Phil.C16.srcWordsR_error_sites
#print axioms Phil.C16.fetch_with_variables_errors
#print axioms Phil.C16.fetch_with_variables_checked
#print axioms Phil.C16.fresh_needed_for_sites
#print axioms Phil.C16.choosePathA_stray_iff
#print axioms Phil.C16.choosePathA_ok
#print axioms Phil.C16.processArgA_no_stray
#print axioms Phil.C16.processArgA_no_auto
#print axioms Phil.C16.auto_level_strays_in_tiebreak
#print axioms Phil.C16.ms_distinct_needed
#print axioms Phil.C16.ms_no_choice_needed
#print axioms Phil.C16.ms_master_words_needed
#print axioms Phil.C16.ms_source_words_needed
#print axioms Phil.C16.ms_fuel_needed
#print axioms Phil.C16.ms_src_resolved_needed
