/-
  C15 — Reported source lines are right: the line counter of the tokenizer always equals the starting
  line plus the number of newline characters consumed so far, and the line stored in a word is the
  line on which the word's first character stands.
  Property theorems only; lemmas are in Phil/Proofs/Lines.lean.
-/
import Phil.Proofs.Lines
namespace Phil.C15
open Phil

/-- One step of the word iterator (`word_iterator.__next__`), any settings, any input, started
    inside or outside a comment: the input is `pre ++ body ++ rest` where `pre` is what was skipped
    (blanks and comments), `body` (non-empty) the characters of the word and `rest` the text left;
    the word's recorded line is the start line plus the newlines of `pre` — the line on which the
    first character of `body` stands — and the counter afterwards is the start line plus the newlines
    of everything consumed. -/
theorem word_line_correct (s : Settings) (inComment : Bool) (cs : Str) (line : Nat) (w : Word)
    (rest : Str) (line' : Nat)
    (h : nextWordAux s inComment cs line = .ok (some (w, ⟨rest, line'⟩))) :
    ∃ pre body, cs = pre ++ body ++ rest ∧ body ≠ [] ∧ w.line = some (line + nlCount pre) ∧
      line' = line + nlCount (pre ++ body) := by
  have := nextWordAux_counts s cs inComment line
  rw [h] at this
  obtain ⟨pre, c, tail, hcs, _, _, hwl, hl⟩ := this
  exact ⟨pre, c :: tail, hcs, by simp, hwl, hl⟩

/-- Sharper form of `word_line_correct`: `body = c :: tail` where `c` is not a space character (so it
    is not a newline and stands on line `line + nlCount pre`), and the word is exactly what `wordAt`
    reads at `c` with the counter at that line. -/
theorem word_line_correct_strong (s : Settings) (inComment : Bool) (cs : Str) (line : Nat) (w : Word)
    (rest : Str) (line' : Nat)
    (h : nextWordAux s inComment cs line = .ok (some (w, ⟨rest, line'⟩))) :
    ∃ (pre : Str) (c : Char) (tail : Str),
      cs = pre ++ c :: tail ++ rest ∧ isSpace c = false ∧
      wordAt s c (tail ++ rest) (line + nlCount pre) = .ok (w, ⟨rest, line'⟩) ∧
      w.line = some (line + nlCount pre) ∧
      line' = line + nlCount (pre ++ c :: tail) := by
  have := nextWordAux_counts s cs inComment line
  rwa [h] at this

/-- "missing closing quote" raised by the word iterator cites the line reached at the end of the
    input: start line plus every newline of the remaining text. -/
theorem missing_quote_line_correct (s : Settings) (inComment : Bool) (cs : Str) (line l : Nat)
    (h : nextWordAux s inComment cs line = .error (.missingClosingQuote l)) :
    l = line + nlCount cs := by
  have := nextWordAux_counts s cs inComment line
  rwa [h] at this

/-- The quoted-string scanner (quote character `q` other than newline; the tokenizer only uses `"`
    and `'`), single or triple style, with or without a pending backslash: on success it has consumed
    a prefix of its input and advanced the counter by exactly the newlines of that prefix (including
    escaped newlines, which do not enter the value); on failure it cites the line at end of input. -/
theorem quoted_scan_counts_lines (q : Char) (hq : q ≠ '\n') (triple esc : Bool) (cs : Str)
    (line : Nat) (acc : Str) :
    (∀ v rest line', scanQ q triple esc cs line acc = .ok (v, rest, line') →
      ∃ consumed, cs = consumed ++ rest ∧ line' = line + nlCount consumed) ∧
    (∀ l, scanQ q triple esc cs line acc = .error l → l = line + nlCount cs) := by
  have := scanQ_counts q hq triple cs esc line acc
  exact ⟨fun v rest line' h => by rwa [h] at this, fun l h => by rwa [h] at this⟩

/-- `character_iterator.scan_for_start` (the primitive that skips a `#phil __OFF__` region): for any
    intro marker and follow-up markers that contain no newline, any fuel and any text, the counter
    after the scan is the start line plus the newlines of the consumed prefix. -/
theorem off_region_counts_lines (intro : Str) (fs : List Str) (hi : nlCount intro = 0)
    (hf : ∀ f, f ∈ fs → nlCount f = 0) (fuel : Nat) (cs : Str) (line i : Nat) (rest : Str)
    (line' : Nat) (h : scanForStart intro fs fuel cs line = (i, ⟨rest, line'⟩)) :
    ∃ consumed, cs = consumed ++ rest ∧ line' = line + nlCount consumed :=
  scanForStart_line intro fs hi hf fuel cs line i rest line' h

/-- `off_region_counts_lines` with the markers the parser passes: no side condition left. -/
theorem off_region_counts_lines_phil (fuel : Nat) (cs : Str) (line i : Nat) (rest : Str)
    (line' : Nat)
    (h : scanForStart "#phil".toList ["__END__".toList, "__ON__".toList] fuel cs line
          = (i, ⟨rest, line'⟩)) :
    ∃ consumed, cs = consumed ++ rest ∧ line' = line + nlCount consumed :=
  scanForStart_phil_line fuel cs line i rest line' h

/-- A concrete instance: two blank lines, a comment line, then a quoted word that spans a line
    break.  The word starts on line 4 and the counter ends on line 5. -/
example : nextWordAux structSettings false "\n\n  # c\n  'a\nb' x".toList 1
    = .ok (some ({ value := "a\nb".toList, quote := some .s1, line := some 4 },
                 ⟨" x".toList, 5⟩)) := by rfl

/-- A concrete instance of the OFF-region scan: the `__ON__` marker (index 1) is found, the four
    newlines before `rest` are consumed, so the counter goes from line 1 to line 5. -/
example : scanForStart "#phil".toList ["__END__".toList, "__ON__".toList] 100
      "zz\n\n#phil  \n __ON__  \nrest".toList 1 = (1, ⟨"rest".toList, 5⟩) := by decide +kernel

end Phil.C15
