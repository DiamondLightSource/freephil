/-
  C05 (NESTED masters whose DEFINITIONS may be `.multiple`) — "multiples accumulate, everything else:
  last value wins", at every depth; with the companions for the same class of C04 — "a fetch result
  has the master's parameter structure" —, C06 — "the reported list is exactly the set of source
  definitions whose path names no master parameter" — and C07 — "fetching is idempotent"
  (namespaces `Phil.C05`, `Phil.C04`, `Phil.C06`, `Phil.C07`).

  Model: Phil/Fetch.lean (`fetchScope`/`fetchRoot`).  Lemmas: Phil/Proofs/FetchTree.lean
  (`fetch_tree_multi_total`: the closed form for nested masters, with the list rule for flat masters of
  Phil/Proofs/FetchSpec.lean at every `.multiple` definition; Props/C05Multi.lean, Props/C05Tree.lean
  and Props/C06Tree.lean state the two special cases) and its corollaries in
  Phil/Proofs/FetchTreeMulti.lean.

  Class covered (unbounded: every such master, every such source list, every adequate fuel):
    * master: `TreeMultiMaster` — a TREE of enabled, NON-multiple scopes to any depth (names non-empty
      and dot-free, sibling names pairwise distinct) whose definitions are enabled, not
      `.deprecated`, not choices, typed or not, `.multiple` or not, at any depth.  (`.multiple`
      SCOPES stay outside: their keys are renderings of whole blocks.)  Non-diff mode; fetched at
      the root or as a sub-scope.
    * sources: arbitrary lists of definitions and scopes to any depth, enabled or disabled, repeated
      or not, in any spelling (`SrcTree`; for the exact account of the ids also `SrcPlain`).
    * keys: `KeysDefinedTree e mkids srcs` — at every `.multiple` master definition,
      `extract_format` succeeds on the master definition and on the candidate built from every
      enabled source definition reached by its path (it fails e.g. on `x` for an `int`); `eval` and
      `"%.10g"` stay abstract (`Envs`).  For a definition the key does not depend on the fuel, so
      the specification is fuel-free (`keyOf e 0`).
    * fuel: `depthL mkids + 1 ≤ fuel`; `fetchRoot` provides it for masters nested ≤ 1000 deep.
  Specification (structural recursion on the master tree, sources followed by `srcStep`):
    `tmBlock e mo srcs` — what the master child `mo` contributes, given the source objects at its
        level: a non-multiple definition — `[lastWins mo (defsNamed mo.name srcs)]`; a `.multiple`
        definition — `multiBlock mo k₀ cands`: the template (flag 0 mandatory / 1 nothing survives /
        -1) followed by the `dedupKeepLast` survivors among the candidates whose key differs from
        the master's key `k₀`, the candidates being built from `defsNamed mo.name srcs` in document
        order; a scope — itself, rebuilt from `srcStep srcs mo.name`;
    `treeMultiResult e mkids srcs` — the concatenation of the blocks, in master order;
    `treeMultiUsed = treeUsed`, `noClash`, `defPaths` — as for masters without `.multiple`.
  Facts:
    * C05 `fetch_tree_multi_total`: the fetch equals `treeMultiResult`/`treeMultiUsed` when
      `noClash`, and fails with RuntimeError ("incompatible") otherwise — a TOTAL description;
      `multiple_list_rule_at_depth`, `multiple_list_rule_all_definitions`,
      `last_value_wins_at_depth_multi`: what stands at the path of a master definition;
    * C04 `tree_multi_result_shape` (skeleton = master skeleton with `.multiple` definitions repeated
      once per survivor), `tree_multi_result_paths`;
    * C06 `tree_multi_used_exact`, `tree_multi_unused_exact`, `reported_iff_tree_multi`;
    * C07 `tree_multi_refetch_idempotent`.
  Validation of the specification against the real library before proving: 900 random instances
  (nested masters, multiple definitions at depths 0–3, typed/untyped, non-canonical defaults;
  sources repeating values, equal to defaults, dotted/braced/mixed spellings, disabled, clashes):
  858 compared (832 results, 26 clash errors), 42 outside the class (undefined keys), 0 mismatches.
-/
import Phil.Proofs.FetchTreeMulti
import Phil.Proofs.ObjEq
import Phil.Props.C06
import Phil.Parse

namespace Phil.C05
open Phil

/-! ### the closed form -/

/-- **Closed form of the fetch of a nested master whose definitions may be `.multiple` (total).**
    With fuel beyond the nesting depth and defined keys, the fetch succeeds exactly when no enabled
    source scope sits where the master has a definition (`.multiple` or not) and no enabled source
    definition where the master has a scope, at any depth (`noClash`); its result is
    `treeMultiResult`, the consumed ids are `treeMultiUsed` (in this order); otherwise it raises
    RuntimeError ("incompatible"). -/
theorem fetch_tree_multi_total (e : Envs) (fuel : Nat) (sm : Meta) (mkids srcs : List Obj)
    (hf : TreeMultiMaster mkids) (hfuel : depthL mkids + 1 ≤ fuel) (hsd : sm.disabled = false)
    (hsrc : SrcTree srcs) (hkeys : KeysDefinedTree e mkids srcs) :
    fetchScope e fuel false sm mkids srcs =
      if noClash mkids srcs then
        .ok (.scope { sm with tmpl := 0 } (treeMultiResult e mkids srcs), treeMultiUsed mkids srcs)
      else .error (.runtime "incompatible" none) :=
  Phil.fetch_tree_multi_total e fuel sm mkids srcs hf hfuel hsd hsrc hkeys

/-- the success case -/
theorem fetch_tree_multi (e : Envs) (fuel : Nat) (sm : Meta) (mkids srcs : List Obj)
    (hf : TreeMultiMaster mkids) (hfuel : depthL mkids + 1 ≤ fuel) (hsd : sm.disabled = false)
    (hsrc : SrcTree srcs) (hkeys : KeysDefinedTree e mkids srcs) (hnc : noClash mkids srcs = true) :
    fetchScope e fuel false sm mkids srcs =
      .ok (.scope { sm with tmpl := 0 } (treeMultiResult e mkids srcs), treeMultiUsed mkids srcs) := by
  rw [fetch_tree_multi_total e fuel sm mkids srcs hf hfuel hsd hsrc hkeys, hnc]
  rfl

/-- **A clash of kinds at any depth is an error** — also where the master definition is
    `.multiple`. -/
theorem tree_multi_clash_fails (e : Envs) (fuel : Nat) (sm : Meta) (mkids srcs : List Obj)
    (hf : TreeMultiMaster mkids) (hfuel : depthL mkids + 1 ≤ fuel) (hsd : sm.disabled = false)
    (hsrc : SrcTree srcs) (hkeys : KeysDefinedTree e mkids srcs) (hnc : noClash mkids srcs = false) :
    fetchScope e fuel false sm mkids srcs = .error (.runtime "incompatible" none) := by
  rw [fetch_tree_multi_total e fuel sm mkids srcs hf hfuel hsd hsrc hkeys, hnc]
  rfl

/-- **`master.fetch(sources)`** on parsed roots: the fuel `fetchRoot` computes is adequate. -/
theorem fetchRoot_tree_multi (e : Envs) (master : List Obj) (ss : List (List Obj))
    (hf : TreeMultiMaster master) (hd : depthL master ≤ 1000) (hsrc : SrcTree ss.flatten)
    (hkeys : KeysDefinedTree e master ss.flatten) :
    fetchRoot e false master ss =
      if noClash master ss.flatten then
        .ok (.scope { name := [], id := some 0 } (treeMultiResult e master ss.flatten),
             treeMultiUsed master ss.flatten)
      else .error (.runtime "incompatible" none) :=
  fetch_tree_multi_total e _ _ master ss.flatten hf (fetchRoot_fuel_tree master hd) rfl hsrc hkeys

/-- the specification spelled out: a `.multiple` definition … -/
theorem tmBlock_multiple (e : Envs) (mm : Meta) (mws : List Word) (srcs : List Obj)
    (h : isMultiple (.defn mm mws) = true) :
    tmBlock e (.defn mm mws) srcs =
      multiBlock (.defn mm mws) (keyOf e 0 (.defn mm mws) (.defn mm mws))
        ((defsNamed mm.name srcs).map (fun d =>
          (Obj.defn { mm with tmpl := 0 } d.srcWords,
           keyOf e 0 (.defn mm mws) (Obj.defn { mm with tmpl := 0 } d.srcWords)))) := by
  rw [tmBlock]; simp only [h, if_true]; rfl

/-- … a non-multiple definition … -/
theorem tmBlock_plain (e : Envs) (mm : Meta) (mws : List Word) (srcs : List Obj)
    (h : isMultiple (.defn mm mws) = false) :
    tmBlock e (.defn mm mws) srcs = [lastWins (.defn mm mws) (defsNamed mm.name srcs)] := by
  rw [tmBlock]; simp only [h, Bool.false_eq_true, if_false]

/-- … a scope … -/
theorem tmBlock_scope (e : Envs) (mm : Meta) (kids srcs : List Obj) :
    tmBlock e (.scope mm kids) srcs =
      [.scope { mm with tmpl := 0 } (treeMultiResult e kids (srcStep srcs mm.name))] := by
  rw [tmBlock]

/-- … and the whole result: the blocks in master order. -/
theorem treeMultiResult_eq (e : Envs) (mkids srcs : List Obj) :
    treeMultiResult e mkids srcs = mkids.flatMap (fun mo => tmBlock e mo srcs) :=
  treeMultiResult_eq_flatMap e srcs mkids

/-- for a master without `.multiple` the specification is that of Props/C06Tree.lean -/
theorem treeMultiResult_of_treeMaster (e : Envs) (mkids srcs : List Obj) (hf : TreeMaster mkids) :
    treeMultiResult e mkids srcs = treeResult mkids srcs :=
  treeMultiResult_eq_treeResult_tm e mkids srcs hf.kids

/-- the keys of definitions do not depend on the fuel: `KeysDefined` and the keys of the flat rule
    (`keyOf e fuel`, Props/C05Multi.lean) are those used here (`keyOf e 0`) -/
theorem key_fuel_independent (e : Envs) (fuel : Nat) (mm : Meta) (mws : List Word) (d : Obj) :
    keyOf e fuel (.defn mm mws) (candOfSrc (.defn mm mws) d) =
        keyOf e 0 (.defn mm mws) (candOfSrc (.defn mm mws) d) ∧
      keyOf e fuel (.defn mm mws) (.defn mm mws) = keyOf e 0 (.defn mm mws) (.defn mm mws) :=
  ⟨keyOf_fuel_tm e fuel mm mws _ _, keyOf_fuel_tm e fuel mm mws mm mws⟩

/-! ### what stands at the path of a master definition -/

/-- **The list rule at every depth.**  Whenever the fetch succeeds: where the master has the
    `.multiple` definition `.defn mm mws` at the path `ps.n`, the enabled objects called `n` that the
    result has at that path are the template followed by the survivors of the list rule
    (`multiBlock`) over the candidates built, in document order, from the enabled source definitions
    called `n` reached by that path (`srcAt`: all sources, all spellings, enabled scopes only):
    candidates whose key is the master's are dropped, of candidates with equal keys the LAST stays,
    the survivors are ordered by their last occurrence. -/
theorem multiple_list_rule_at_depth (e : Envs) (fuel : Nat) (sm : Meta) (mkids srcs : List Obj)
    (hf : TreeMultiMaster mkids) (hfuel : depthL mkids + 1 ≤ fuel) (hsd : sm.disabled = false)
    (hsrc : SrcTree srcs) (hkeys : KeysDefinedTree e mkids srcs) (ro : Obj) (used : List Nat)
    (h : fetchScope e fuel false sm mkids srcs = .ok (ro, used))
    (ps : List Str) (n : Str) (mm : Meta) (mws : List Word)
    (hm : defAt mkids ps n = some (.defn mm mws)) (hmult : isMultiple (.defn mm mws) = true) :
    activeNamed n (srcAt ro.children ps) =
      multiBlock (.defn mm mws) (keyOf e 0 (.defn mm mws) (.defn mm mws))
        (candsOf e 0 (.defn mm mws) (defsNamed n (srcAt srcs ps))) := by
  obtain ⟨_, rfl, _⟩ := ok_of_total (fetch_tree_multi_total e fuel sm mkids srcs hf hfuel hsd hsrc hkeys) h
  exact multiple_list_rule_at_depth_tm e mkids srcs hf ps n mm mws hm hmult

/-- the instances alone: the `dedupKeepLast` of the candidates at the path `ps.n` whose key differs
    from the master's, in the order of their last occurrence -/
theorem multiple_instances_at_depth (e : Envs) (fuel : Nat) (sm : Meta) (mkids srcs : List Obj)
    (hf : TreeMultiMaster mkids) (hfuel : depthL mkids + 1 ≤ fuel) (hsd : sm.disabled = false)
    (hsrc : SrcTree srcs) (hkeys : KeysDefinedTree e mkids srcs) (ro : Obj) (used : List Nat)
    (h : fetchScope e fuel false sm mkids srcs = .ok (ro, used))
    (ps : List Str) (n : Str) (mm : Meta) (mws : List Word)
    (hm : defAt mkids ps n = some (.defn mm mws)) (hmult : isMultiple (.defn mm mws) = true) :
    (activeNamed n (srcAt ro.children ps)).tail =
      (dedupKeepLast ((candsOf e 0 (.defn mm mws) (defsNamed n (srcAt srcs ps))).filter
        (fun y => y.2 != keyOf e 0 (.defn mm mws) (.defn mm mws)))).map (·.1) := by
  rw [multiple_list_rule_at_depth e fuel sm mkids srcs hf hfuel hsd hsrc hkeys ro used h ps n mm mws hm hmult]
  rfl

/-- **… in terms of `all_definitions(sources)`** (sources with dot-free names, as parsed): the
    candidates are built from the entries of `all_definitions(sources)` whose dotted path is `ps.n`,
    in order. -/
theorem multiple_list_rule_all_definitions (e : Envs) (fuel : Nat) (sm : Meta) (mkids srcs : List Obj)
    (hf : TreeMultiMaster mkids) (hfuel : depthL mkids + 1 ≤ fuel) (hsd : sm.disabled = false)
    (hsrc : SrcTree srcs) (hkeys : KeysDefinedTree e mkids srcs)
    (hdot : ∀ x, ActiveIn x srcs → '.' ∉ x.name) (ro : Obj) (used : List Nat)
    (h : fetchScope e fuel false sm mkids srcs = .ok (ro, used))
    (ps : List Str) (n : Str) (hinc : n ≠ "include".toList) (mm : Meta) (mws : List Word)
    (hm : defAt mkids ps n = some (.defn mm mws)) (hmult : isMultiple (.defn mm mws) = true) :
    activeNamed n (srcAt ro.children ps) =
      multiBlock (.defn mm mws) (keyOf e 0 (.defn mm mws) (.defn mm mws))
        (candsOf e 0 (.defn mm mws)
          (((allDefinitions srcs).filter (fun x => x.1 == dottedPath ps n)).map
            (fun x => Obj.defn x.2.1 x.2.2))) := by
  obtain ⟨_, rfl, _⟩ := ok_of_total (fetch_tree_multi_total e fuel sm mkids srcs hf hfuel hsd hsrc hkeys) h
  obtain ⟨hn, hps⟩ := defAt_dotfree_tm ps mkids n _ hf.kids hm
  rw [defsNamed_of_allDefs_tm n hn hinc ps srcs hps hdot]
  exact multiple_list_rule_at_depth_tm e mkids srcs hf ps n mm mws hm hmult

/-- **Last value wins at every depth** for the NON-multiple definitions of such a master: the result
    has exactly one enabled object called `n` at the path `ps` — the master definition with the
    (resolved) words of the LAST enabled source definition reached by that path, or the master
    definition itself if there is none. -/
theorem last_value_wins_at_depth_multi (e : Envs) (fuel : Nat) (sm : Meta) (mkids srcs : List Obj)
    (hf : TreeMultiMaster mkids) (hfuel : depthL mkids + 1 ≤ fuel) (hsd : sm.disabled = false)
    (hsrc : SrcTree srcs) (hkeys : KeysDefinedTree e mkids srcs) (ro : Obj) (used : List Nat)
    (h : fetchScope e fuel false sm mkids srcs = .ok (ro, used))
    (ps : List Str) (n : Str) (mm : Meta) (mws : List Word)
    (hm : defAt mkids ps n = some (.defn mm mws)) (hmult : isMultiple (.defn mm mws) = false) :
    activeNamed n (srcAt ro.children ps) =
      [match lastDef (srcAt srcs ps) n with
       | some d => .defn { mm with tmpl := 0 } d.srcWords
       | none => .defn mm mws] := by
  obtain ⟨_, rfl, _⟩ := ok_of_total (fetch_tree_multi_total e fuel sm mkids srcs hf hfuel hsd hsrc hkeys) h
  have hn : mm.name = n := (defAt_name ps mkids n _ hm).1
  subst hn
  show activeNamed mm.name (srcAt (treeMultiResult e mkids srcs) ps) = _
  rw [block_at_path_tm e ps mkids srcs _ mm mws hf hm, tmBlock]
  simp only [hmult, Bool.false_eq_true, if_false]
  unfold lastWins lastDef
  cases (defsNamed mm.name (srcAt srcs ps)).getLast? <;> rfl

/-- the block of any master definition at any depth, in one statement -/
theorem block_at_path (e : Envs) (mkids srcs : List Obj) (hf : TreeMultiMaster mkids)
    (ps : List Str) (n : Str) (mm : Meta) (mws : List Word)
    (hm : defAt mkids ps n = some (.defn mm mws)) :
    activeNamed n (srcAt (treeMultiResult e mkids srcs) ps) = tmBlock e (.defn mm mws) (srcAt srcs ps) :=
  block_at_path_tm e ps mkids srcs n mm mws hf hm

/-- **`master.fetch(sources)`** on parsed roots, side conditions in executable form
    (`masterCheck_tm`, `srcCheck`, `keysDefinedTreeB`) -/
theorem fetchRoot_multiple_list_rule_at_depth (e : Envs) (master : List Obj) (ss : List (List Obj))
    (hm : masterCheck_tm master = true) (hs : srcCheck ss.flatten = true)
    (hk : keysDefinedTreeB e master ss.flatten = true)
    (ro : Obj) (used : List Nat)
    (h : fetchRoot e false master ss = .ok (ro, used))
    (ps : List Str) (n : Str) (mm : Meta) (mws : List Word)
    (hdef : defAt master ps n = some (.defn mm mws)) (hmult : isMultiple (.defn mm mws) = true) :
    activeNamed n (srcAt ro.children ps) =
      multiBlock (.defn mm mws) (keyOf e 0 (.defn mm mws) (.defn mm mws))
        (candsOf e 0 (.defn mm mws) (defsNamed n (srcAt ss.flatten ps))) :=
  have hM := masterCheck_tm_sound master hm
  have hS := srcCheck_sound ss.flatten hs
  multiple_list_rule_at_depth e _ _ master ss.flatten hM.tree (fetchRoot_fuel_tree master hM.depth) rfl
    hS.tree (keysDefinedTreeB_sound e master _ hk) ro used h ps n mm mws hdef hmult

/-! ### non-vacuity: a nested instance through the parser -/

def tmObjs (t : String) : List Obj :=
  match parseObjs t.toList with
  | .ok m => m
  | .error _ => []

/-- For `rw` and the kernel a literal is `String.ofList […]`: rewriting with this avoids UTF-8 decoding. -/
theorem tmObjs_ofList (l : List Char) :
    tmObjs (String.ofList l) = match parseObjs l with | .ok m => m | .error _ => [] := by
  rw [tmObjs, String.toList_ofList]

/-- `eval` knows the digits and `4/2` (= 2.0), `"%.10g"` the digits -/
def envTm : Envs :=
  { eval := fun s =>
      if s == "4/2".toList then some (.num (.flt 2 1))
      else match s with
        | [c] => if c.isDigit then some (.num (.int (c.toNat - 48))) else none
        | _ => none,
    fmt := fun n => match n with
      | .int i => if 0 ≤ i && i ≤ 9 then some [Char.ofNat (48 + i.toNat)] else none
      | _ => none }

/-- master: `a = 1 (int) ; s { d = 4/2 (int, multiple) ; b = x ;
    t { f = yes (bool, multiple, mandatory) ; w = p q (multiple) } }` -/
def tmM : List Obj := tmObjs "a = 1\n.type=int\ns {\n  d = 4/2\n  .type=int\n  .multiple=True\n  b = x\n  t {\n    f = yes\n    .type=bool\n    .multiple=True\n    .optional=False\n    w = p q\n    .multiple=True\n  }\n}\n"

/-- sources: dotted and braced spellings; `s.d`: 3, 2 (= the default `4/2`), 5, 3 again, and once
    disabled; `s.t.f`: no, True (= the default `yes`), no again; `s.t.w`: `p q` (the default), r -/
def tmS : List Obj :=
  tmObjs "s.d = 3\ns {\n  d = 2\n  d = 5\n}\ns.t.f = no\ns.d = 3\ns.t {\n  f = True\n  w = p q\n  w = r\n}\ns.t.f = no\na = 7\nz = 1\ns.t.e = 2\n!s.d = 9\n"

section
attribute [local instance] objDecEq

theorem tmM_eq : tmM =
    [
      .defn { name := "a".toList, id := some 1, line := some 1, attrs := [("type", .conv (.int {}))] }
        [{ value := "1".toList, line := some 1 }],
      .scope { name := "s".toList, id := some 2, line := some 3 } [
        .defn
          { name := "d".toList, id := some 3, line := some 4,
            attrs := [("type", .conv (.int {})), ("multiple", .bool true)] }
          [{ value := "4/2".toList, line := some 4 }],
        .defn { name := "b".toList, id := some 4, line := some 7 }
          [{ value := "x".toList, line := some 7 }],
        .scope { name := "t".toList, id := some 5, line := some 8 } [
          .defn
            { name := "f".toList, id := some 6, line := some 9,
              attrs := [("type", .conv .bool), ("multiple", .bool true), ("optional", .bool false)] }
            [{ value := "yes".toList, line := some 9 }],
          .defn { name := "w".toList, id := some 7, line := some 13, attrs := [("multiple", .bool true)] }
            [{ value := "p".toList, line := some 13 }, { value := "q".toList, line := some 13 }]]]] := by
  rw [tmM, tmObjs_ofList]
  decide +kernel

theorem tmS_eq : tmS =
    [
      .scope { name := "s".toList, id := some 1 } [
        .defn { name := "d".toList, id := some 1, line := some 1, mergeNames := true }
          [{ value := "3".toList, line := some 1 }]],
      .scope { name := "s".toList, id := some 2, line := some 2 } [
        .defn { name := "d".toList, id := some 3, line := some 3 }
          [{ value := "2".toList, line := some 3 }],
        .defn { name := "d".toList, id := some 4, line := some 4 }
          [{ value := "5".toList, line := some 4 }]],
      .scope { name := "s".toList, id := some 5 } [
        .scope { name := "t".toList, id := some 5, mergeNames := true } [
          .defn { name := "f".toList, id := some 5, line := some 6, mergeNames := true }
            [{ value := "no".toList, line := some 6 }]]],
      .scope { name := "s".toList, id := some 6 } [
        .defn { name := "d".toList, id := some 6, line := some 7, mergeNames := true }
          [{ value := "3".toList, line := some 7 }]],
      .scope { name := "s".toList, id := some 7 } [
        .scope { name := "t".toList, id := some 7, line := some 8, mergeNames := true } [
          .defn { name := "f".toList, id := some 8, line := some 9 }
            [{ value := "True".toList, line := some 9 }],
          .defn { name := "w".toList, id := some 9, line := some 10 }
            [{ value := "p".toList, line := some 10 }, { value := "q".toList, line := some 10 }],
          .defn { name := "w".toList, id := some 10, line := some 11 }
            [{ value := "r".toList, line := some 11 }]]],
      .scope { name := "s".toList, id := some 11 } [
        .scope { name := "t".toList, id := some 11, mergeNames := true } [
          .defn { name := "f".toList, id := some 11, line := some 13, mergeNames := true }
            [{ value := "no".toList, line := some 13 }]]],
      .defn { name := "a".toList, id := some 12, line := some 14 }
        [{ value := "7".toList, line := some 14 }],
      .defn { name := "z".toList, id := some 13, line := some 15 }
        [{ value := "1".toList, line := some 15 }],
      .scope { name := "s".toList, id := some 14 } [
        .scope { name := "t".toList, id := some 14, mergeNames := true } [
          .defn { name := "e".toList, id := some 14, line := some 16, mergeNames := true }
            [{ value := "2".toList, line := some 16 }]]],
      .scope { name := "s".toList, id := some 15 } [
        .defn { name := "d".toList, id := some 15, disabled := true, line := some 17, mergeNames := true }
          [{ value := "9".toList, line := some 17 }]]] := by
  rw [tmS, tmObjs_ofList]
  decide +kernel

end

theorem tmInst_master : masterCheck_tm tmM = true := by
  rw [tmM_eq]
  decide +kernel

theorem tmInst_src : srcCheck tmS = true := by
  rw [tmS_eq]
  decide +kernel

theorem tmInst_keys : keysDefinedTreeB envTm tmM tmS = true := by
  rw [tmM_eq, tmS_eq]
  decide +kernel

/-- the (path, template flag, words) triples of the definitions of a tree -/
def instOf (kids : List Obj) : List (String × Int × List String) :=
  (allDefinitions kids).map (fun x => (String.ofList x.1, x.2.1.tmpl, x.2.2.map (fun w => String.ofList w.value)))

/-- the parsed instance satisfies every hypothesis -/
example : (tmM.length == 2 && tmS.length == 10 && masterCheck_tm tmM && srcCheck tmS &&
    keysDefinedTreeB envTm tmM tmS && noClash tmM tmS && depthL tmM == 2 &&
    decide (((allDefinitions tmS).map (fun x => x.2.1.id)).Nodup) &&
    (allDefinitions tmS).all (fun x => x.2.1.id.isSome)) = true := by
  rw [tmM_eq, tmS_eq]
  decide +kernel

/-- the specification on the instance (the real library returns exactly this): `s.d`: template `-1`,
    then 5 and 3 (3 moved behind 5 by its repetition; 2 is the default `4/2`); `s.t.f` (mandatory):
    template `0`, then `no` once (`True` is the default `yes`); `s.t.w`: template `-1`, then `r` -/
example : instOf (treeMultiResult envTm tmM tmS) =
    [("a", 0, ["7"]), ("s.d", -1, ["4/2"]), ("s.d", 0, ["5"]), ("s.d", 0, ["3"]), ("s.b", 0, ["x"]),
     ("s.t.f", 0, ["yes"]), ("s.t.f", 0, ["no"]), ("s.t.w", -1, ["p", "q"]), ("s.t.w", 0, ["r"])] := by
  rw [tmM_eq, tmS_eq]
  decide +kernel

/-- the candidates of `s.d` in document order, its master key and the surviving keys -/
example :
    ((defsNamed "d".toList (srcAt tmS ["s".toList])).map (fun o => o.words.map (fun w => String.ofList w.value)),
     (defAt tmM ["s".toList] "d".toList).map (fun mo => String.ofList (keyOf envTm 0 mo mo)),
     (defAt tmM ["s".toList] "d".toList).map (fun mo =>
        (survivorsOf_tm envTm mo (srcAt tmS ["s".toList])).map (fun x => String.ofList x.2))) =
    ([["3"], ["2"], ["5"], ["3"]], some "d = 2\n", some ["d = 5\n", "d = 3\n"]) := by
  rw [tmM_eq, tmS_eq]
  decide +kernel

/-- the model agrees with the specification on the instance (result, consumed ids, reported list) -/
example :
    (match fetchRoot envTm false tmM [tmS] with
     | .ok (ro, used) => some (instOf ro.children, used == treeMultiUsed tmM tmS,
         (C06.unusedOf tmS used).map (fun x => String.ofList x.1))
     | .error _ => none) =
      some ([("a", 0, ["7"]), ("s.d", -1, ["4/2"]), ("s.d", 0, ["5"]), ("s.d", 0, ["3"]), ("s.b", 0, ["x"]),
             ("s.t.f", 0, ["yes"]), ("s.t.f", 0, ["no"]), ("s.t.w", -1, ["p", "q"]), ("s.t.w", 0, ["r"])],
            true, ["z", "s.t.e"]) := by
  rw [tmM_eq, tmS_eq]
  decide +kernel

/-- the theorem applied to the instance: what stands at `s.d` follows from
    `fetchRoot_multiple_list_rule_at_depth` (all its hypotheses are discharged by kernel evaluation) -/
example (ro : Obj) (used : List Nat) (h : fetchRoot envTm false tmM [tmS] = .ok (ro, used)) :
    (activeNamed "d".toList (srcAt ro.children ["s".toList])).map
      (fun o => (o.meta.tmpl, o.words.map (fun w => String.ofList w.value))) =
      [(-1, ["4/2"]), (0, ["5"]), (0, ["3"])] := by
  have hfl : ([tmS] : List (List Obj)).flatten = tmS := by simp
  have hm : ∃ mm mws, defAt tmM ["s".toList] "d".toList = some (.defn mm mws) ∧
      isMultiple (.defn mm mws) = true := by
    have : (match defAt tmM ["s".toList] "d".toList with
            | some (.defn mm mws) => isMultiple (.defn mm mws)
            | _ => false) = true := by rw [tmM_eq]; decide +kernel
    cases hd : defAt tmM ["s".toList] "d".toList with
    | none => rw [hd] at this; cases this
    | some o =>
      cases o with
      | defn mm mws => rw [hd] at this; exact ⟨mm, mws, rfl, this⟩
      | scope _ _ => rw [hd] at this; cases this
  obtain ⟨mm, mws, hm, hmult⟩ := hm
  have := fetchRoot_multiple_list_rule_at_depth envTm tmM [tmS] tmInst_master
    (by rw [hfl]; exact tmInst_src) (by rw [hfl]; exact tmInst_keys)
    ro used h _ _ mm mws hm hmult
  rw [hfl] at this
  rw [this]
  have hb : (match defAt tmM ["s".toList] "d".toList with
      | some mo => (multiBlock mo (keyOf envTm 0 mo mo)
          (candsOf envTm 0 mo (defsNamed "d".toList (srcAt tmS ["s".toList])))).map
            (fun o => (o.meta.tmpl, o.words.map (fun w => String.ofList w.value)))
      | none => []) = [(-1, ["4/2"]), (0, ["5"]), (0, ["3"])] := by rw [tmM_eq, tmS_eq]; decide +kernel
  rw [hm] at hb
  exact hb

/-- a source scope where the master has a `.multiple` definition (`s.d`): `noClash` is false and
    the fetch fails -/
example : (noClash tmM (tmObjs "s.d = 3\ns.d.x = 1\n"),
    errOf (fetchRoot envTm false tmM [tmObjs "s.d = 3\ns.d.x = 1\n"])) =
      (false, some (.runtime "incompatible" none)) := by
  rw [tmM_eq, tmObjs_ofList]
  decide +kernel

/-- a source definition where the master has a scope -/
example : (noClash tmM (tmObjs "s.t = 1\n"),
    errOf (fetchRoot envTm false tmM [tmObjs "s.t = 1\n"])) =
      (false, some (.runtime "incompatible" none)) := by
  rw [tmM_eq, tmObjs_ofList]
  decide +kernel

end Phil.C05

namespace Phil.C04
open Phil

/-- **C04 for nested masters with `.multiple` definitions: the result has the master's parameter
    structure.**  Whenever the fetch succeeds, the skeleton of the result (`shapeObj`: words and
    template marks erased; kinds, names, attributes, ids, order and nesting kept) is `tmShape`: the
    master's skeleton in which every non-multiple definition and every scope stands exactly once
    and a `.multiple` definition stands `1 +` (number of survivors of the list rule) times, in
    place. -/
theorem tree_multi_result_shape (e : Envs) (fuel : Nat) (sm : Meta) (mkids srcs : List Obj)
    (hf : TreeMultiMaster mkids) (hfuel : depthL mkids + 1 ≤ fuel) (hsd : sm.disabled = false)
    (hsrc : SrcTree srcs) (hkeys : KeysDefinedTree e mkids srcs) (ro : Obj) (used : List Nat)
    (h : fetchScope e fuel false sm mkids srcs = .ok (ro, used)) :
    shapeObj ro = .scope { sm with tmpl := 0 } (tmShape e mkids srcs) := by
  obtain ⟨_, rfl, _⟩ := ok_of_total (fetch_tree_multi_total e fuel sm mkids srcs hf hfuel hsd hsrc hkeys) h
  rw [shapeObj, shapeList_treeMultiResult_tm]

/-- `tmShape` spelled out for a definition … -/
theorem tmShapeObj_defn (e : Envs) (mm : Meta) (mws : List Word) (srcs : List Obj) :
    tmShapeObj e (.defn mm mws) srcs =
      List.replicate
        (if isMultiple (.defn mm mws) then (survivorsOf_tm e (.defn mm mws) srcs).length + 1 else 1)
        (shapeObj (.defn mm mws)) := by
  rw [tmShapeObj]

/-- … and for a scope -/
theorem tmShapeObj_scope (e : Envs) (mm : Meta) (kids srcs : List Obj) :
    tmShapeObj e (.scope mm kids) srcs =
      [.scope { mm with tmpl := 0 } (tmShape e kids (srcStep srcs mm.name))] := by
  rw [tmShapeObj]

/-- the result declares exactly the master's parameter paths (a `.multiple` one possibly several
    times): no path is lost, none is invented -/
theorem tree_multi_result_paths (e : Envs) (fuel : Nat) (sm : Meta) (mkids srcs : List Obj)
    (hf : TreeMultiMaster mkids) (hfuel : depthL mkids + 1 ≤ fuel) (hsd : sm.disabled = false)
    (hsrc : SrcTree srcs) (hkeys : KeysDefinedTree e mkids srcs) (ro : Obj) (used : List Nat)
    (h : fetchScope e fuel false sm mkids srcs = .ok (ro, used)) (q : Str) :
    q ∈ defPaths ro.children [] ↔ q ∈ defPaths mkids [] := by
  obtain ⟨_, rfl, _⟩ := ok_of_total (fetch_tree_multi_total e fuel sm mkids srcs hf hfuel hsd hsrc hkeys) h
  exact mem_defPaths_treeMultiResult_tm e mkids srcs [] q

example : ((defPaths C05.tmM []).map String.ofList,
    (defPaths (treeMultiResult C05.envTm C05.tmM C05.tmS) []).map String.ofList) =
    (["a", "s.d", "s.b", "s.t.f", "s.t.w"],
     ["a", "s.d", "s.d", "s.d", "s.b", "s.t.f", "s.t.f", "s.t.w", "s.t.w"]) := by
  rw [C05.tmM_eq, C05.tmS_eq]
  decide +kernel

end Phil.C04

namespace Phil.C06
open Phil

/-- **Consumed ids, exactly.**  Whenever the fetch succeeds, `i` is consumed iff it is the id of an
    entry of `all_definitions(sources)` — an enabled definition below enabled scopes only, at any
    depth, in any spelling — whose dotted path is the path of a master definition, `.multiple` or
    not (instances equal to the default or superseded by a later equal one are consumed too). -/
theorem tree_multi_used_exact (e : Envs) (fuel : Nat) (sm : Meta) (mkids srcs : List Obj)
    (hf : TreeMultiMaster mkids) (hfuel : depthL mkids + 1 ≤ fuel) (hsd : sm.disabled = false)
    (hinc : NoIncludeTree mkids) (hsrc : SrcTree srcs) (hs : SrcPlain srcs)
    (hkeys : KeysDefinedTree e mkids srcs) (ro : Obj) (used : List Nat)
    (h : fetchScope e fuel false sm mkids srcs = .ok (ro, used)) (i : Nat) :
    i ∈ used ↔ ∃ x ∈ allDefinitions srcs, x.2.1.id = some i ∧ x.1 ∈ defPaths mkids [] := by
  obtain ⟨_, _, rfl⟩ := ok_of_total (fetch_tree_multi_total e fuel sm mkids srcs hf hfuel hsd hsrc hkeys) h
  exact mem_treeUsed_tm mkids srcs [] i hf.kids hinc hs

/-- **The reported list, exactly.**  Whenever the fetch succeeds and the entries of
    `all_definitions(sources)` carry pairwise distinct ids, the reported list is the list of the
    entries of `all_definitions(sources)` (in order) whose full path is not the path of an active
    master parameter. -/
theorem tree_multi_unused_exact (e : Envs) (fuel : Nat) (sm : Meta) (mkids srcs : List Obj)
    (hf : TreeMultiMaster mkids) (hfuel : depthL mkids + 1 ≤ fuel) (hsd : sm.disabled = false)
    (hinc : NoIncludeTree mkids) (hsrc : SrcTree srcs) (hs : SrcPlain srcs)
    (hkeys : KeysDefinedTree e mkids srcs)
    (hsome : ∀ x ∈ allDefinitions srcs, x.2.1.id ≠ none)
    (hids : ((allDefinitions srcs).map (fun x => x.2.1.id)).Nodup)
    (ro : Obj) (used : List Nat)
    (h : fetchScope e fuel false sm mkids srcs = .ok (ro, used)) :
    unusedOf srcs used =
      (allDefinitions srcs).filter (fun x => !((allDefinitions mkids).map (·.1)).contains x.1) := by
  rw [← defPaths_eq_allDefinitions_tm mkids hf hinc]
  obtain ⟨_, _, rfl⟩ := ok_of_total (fetch_tree_multi_total e fuel sm mkids srcs hf hfuel hsd hsrc hkeys) h
  exact unused_filter_exact_tree _ srcs _ hsome hids (fun i => mem_treeUsed_tm mkids srcs [] i hf.kids hinc hs)

/-- membership form: an entry of `all_definitions(sources)` is reported iff its path names no active
    master parameter -/
theorem reported_iff_tree_multi (e : Envs) (fuel : Nat) (sm : Meta) (mkids srcs : List Obj)
    (hf : TreeMultiMaster mkids) (hfuel : depthL mkids + 1 ≤ fuel) (hsd : sm.disabled = false)
    (hinc : NoIncludeTree mkids) (hsrc : SrcTree srcs) (hs : SrcPlain srcs)
    (hkeys : KeysDefinedTree e mkids srcs)
    (hsome : ∀ x ∈ allDefinitions srcs, x.2.1.id ≠ none)
    (hids : ((allDefinitions srcs).map (fun x => x.2.1.id)).Nodup)
    (ro : Obj) (used : List Nat)
    (h : fetchScope e fuel false sm mkids srcs = .ok (ro, used))
    (x : Str × Meta × List Word) :
    x ∈ unusedOf srcs used ↔
      x ∈ allDefinitions srcs ∧ x.1 ∉ (allDefinitions mkids).map (·.1) := by
  rw [tree_multi_unused_exact e fuel sm mkids srcs hf hfuel hsd hinc hsrc hs hkeys hsome hids ro used h,
    List.mem_filter]
  simp

/-- **`master.fetch(sources, track_unused_definitions=True)`** on parsed roots, with the side
    conditions in their executable form. -/
theorem fetchRoot_tree_multi_unused_exact (e : Envs) (master : List Obj) (ss : List (List Obj))
    (hm : masterCheck_tm master = true) (hs : srcCheck ss.flatten = true)
    (hk : keysDefinedTreeB e master ss.flatten = true)
    (hsome : ∀ x ∈ allDefinitions ss.flatten, x.2.1.id ≠ none)
    (hids : ((allDefinitions ss.flatten).map (fun x => x.2.1.id)).Nodup)
    (ro : Obj) (used : List Nat)
    (h : fetchRoot e false master ss = .ok (ro, used)) :
    unusedOf ss.flatten used =
      (allDefinitions ss.flatten).filter
        (fun x => !((allDefinitions master).map (·.1)).contains x.1) := by
  have hM := masterCheck_tm_sound master hm
  have hS := srcCheck_sound ss.flatten hs
  exact tree_multi_unused_exact e _ _ master ss.flatten hM.tree (fetchRoot_fuel_tree master hM.depth) rfl
    hM.noInclude hS.tree hS.plain (keysDefinedTreeB_sound e master _ hk) hsome hids ro used h

/-- the theorem applied to the instance of `Phil.C05`: the reported list follows from
    `fetchRoot_tree_multi_unused_exact` (hypotheses discharged by kernel evaluation) -/
example (ro : Obj) (used : List Nat) (h : fetchRoot C05.envTm false C05.tmM [C05.tmS] = .ok (ro, used)) :
    (unusedOf C05.tmS used).map (fun x => String.ofList x.1) = ["z", "s.t.e"] := by
  have hfl : ([C05.tmS] : List (List Obj)).flatten = C05.tmS := by simp
  have := fetchRoot_tree_multi_unused_exact C05.envTm C05.tmM [C05.tmS] C05.tmInst_master
    (by rw [hfl]; exact C05.tmInst_src) (by rw [hfl]; exact C05.tmInst_keys)
    (by
      rw [hfl]
      intro x hx
      have hall : ((allDefinitions C05.tmS).all (fun x => x.2.1.id.isSome)) = true := by
        rw [C05.tmS_eq]; decide +kernel
      have := List.all_eq_true.mp hall x hx
      intro hn; rw [hn] at this; cases this)
    (by rw [hfl, C05.tmS_eq]; decide +kernel)
    ro used h
  rw [hfl] at this
  rw [this, C05.tmM_eq, C05.tmS_eq]
  decide +kernel

end Phil.C06

namespace Phil.C07
open Phil

/-- **C07 for nested masters with `.multiple` definitions: fetching is idempotent.**  Whenever the
    fetch succeeds, fetching its result again — as the only source — succeeds and returns the same
    result (master definitions not template-marked, no recorded variable resolutions, variable-free
    words: `RefetchTree`, `SrcNoDollar`).  No stability hypothesis on the keys is needed: the
    candidate built from a surviving instance is that instance, the one built from the template is
    the master definition, whose key is the master's — it is dropped again. -/
theorem tree_multi_refetch_idempotent (e : Envs) (fuel : Nat) (sm : Meta) (mkids srcs : List Obj)
    (hf : TreeMultiMaster mkids) (hfuel : depthL mkids + 1 ≤ fuel) (hsd : sm.disabled = false)
    (hr : RefetchTree mkids) (hsrc : SrcTree srcs) (hdol : SrcNoDollar srcs)
    (hkeys : KeysDefinedTree e mkids srcs) (ro : Obj) (used : List Nat)
    (h : fetchScope e fuel false sm mkids srcs = .ok (ro, used)) :
    ∃ used', fetchScope e fuel false sm mkids ro.children = .ok (ro, used') := by
  obtain ⟨_, rfl, _⟩ := ok_of_total (fetch_tree_multi_total e fuel sm mkids srcs hf hfuel hsd hsrc hkeys) h
  refine ⟨treeMultiUsed mkids (treeMultiResult e mkids srcs), ?_⟩
  show fetchScope e fuel false sm mkids (treeMultiResult e mkids srcs) = _
  rw [C05.fetch_tree_multi e fuel sm mkids _ hf hfuel hsd (srcTree_treeMultiResult_tm e mkids srcs hf hr hdol)
    (keysDefined_treeMultiResult_tm e mkids srcs hf hr hkeys)
    (noClash_treeMultiResult_tm e mkids srcs hf), treeMultiResult_idem_tm e mkids srcs hf hr]

/-- the specification is idempotent -/
theorem treeMultiResult_idempotent (e : Envs) (mkids srcs : List Obj) (hf : TreeMultiMaster mkids)
    (hr : RefetchTree mkids) :
    treeMultiResult e mkids (treeMultiResult e mkids srcs) = treeMultiResult e mkids srcs :=
  treeMultiResult_idem_tm e mkids srcs hf hr

/-- the re-fetch needs no further hypotheses: the result never clashes with its master and its keys
    are defined -/
theorem refetch_hypotheses (e : Envs) (mkids srcs : List Obj) (hf : TreeMultiMaster mkids)
    (hr : RefetchTree mkids) (hdol : SrcNoDollar srcs) (hkeys : KeysDefinedTree e mkids srcs) :
    noClash mkids (treeMultiResult e mkids srcs) = true ∧ SrcTree (treeMultiResult e mkids srcs) ∧
      KeysDefinedTree e mkids (treeMultiResult e mkids srcs) :=
  ⟨noClash_treeMultiResult_tm e mkids srcs hf, srcTree_treeMultiResult_tm e mkids srcs hf hr hdol,
    keysDefined_treeMultiResult_tm e mkids srcs hf hr hkeys⟩

/-- **`master.fetch(source=master.fetch(sources))`** on parsed roots, side conditions in executable
    form -/
theorem fetchRoot_tree_multi_idempotent (e : Envs) (master : List Obj) (ss : List (List Obj))
    (hm : masterCheck_tm master = true) (hs : srcCheck ss.flatten = true)
    (hk : keysDefinedTreeB e master ss.flatten = true)
    (ro : Obj) (used : List Nat)
    (h : fetchRoot e false master ss = .ok (ro, used)) :
    ∃ used', fetchRoot e false master [ro.children] = .ok (ro, used') := by
  have hM := masterCheck_tm_sound master hm
  have hS := srcCheck_sound ss.flatten hs
  rw [fetchRoot, List.flatten_singleton]
  exact tree_multi_refetch_idempotent e _ _ master ss.flatten hM.tree (fetchRoot_fuel_tree master hM.depth) rfl
    hM.refetch hS.tree hS.noDollar (keysDefinedTreeB_sound e master _ hk) ro used h

/-- the theorem applied to the instance of `Phil.C05` (hypotheses discharged by kernel evaluation) -/
example (ro : Obj) (used : List Nat) (h : fetchRoot C05.envTm false C05.tmM [C05.tmS] = .ok (ro, used)) :
    ∃ used', fetchRoot C05.envTm false C05.tmM [ro.children] = .ok (ro, used') :=
  fetchRoot_tree_multi_idempotent C05.envTm C05.tmM [C05.tmS] C05.tmInst_master
    (by rw [List.flatten_singleton]; exact C05.tmInst_src)
    (by rw [List.flatten_singleton]; exact C05.tmInst_keys) ro used h

/-- the instance: the second fetch reproduces the first -/
example :
    (match fetchRoot C05.envTm false C05.tmM [C05.tmS] with
     | .ok (ro, _) =>
       (match fetchRoot C05.envTm false C05.tmM [ro.children] with
        | .ok (ro2, _) => some (C05.instOf ro.children == C05.instOf ro2.children, (C05.instOf ro2.children).length)
        | .error _ => none)
     | .error _ => none) = some (true, 9) := by
  rw [C05.tmM_eq, C05.tmS_eq]
  decide +kernel

end Phil.C07
