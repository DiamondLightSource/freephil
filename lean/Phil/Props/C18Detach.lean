/-
  C18, detachment clause, on the object-identity model (Phil/Heap.lean, Phil/HeapExtract.lean):
  "changing or appending to any extracted value never alters the PHIL tree it came from nor what later
  extractions return" — with the raw word list of `.type = words` as the stated exception.

  A store is a PHIL heap and a separate value heap.  `extractStore` reads the PHIL heap and appends the
  objects of the extracted value to the value heap; `mutate` rewrites one value object in place (append,
  item assignment, clear, attribute assignment / `__inject__`), and acts on the PHIL heap only through an
  alias cell `wordsOf d` — the `words` list handed out by `words_converters.from_words`.
-/
import Phil.Proofs.HeapExtractLemmas
import Phil.Parse
namespace Phil.C18Detach
open Phil Phil.Heap

/-- **Extraction only allocates.**  The PHIL heap is not written and every earlier value object is left
    as it was; the result is the reified value tree `extractT` reads off the PHIL heap. -/
theorem extract_frame (e : Envs) (fuel : Nat) (s s' : Store) (x : Nat) (v : VRef)
    (h : extractStore e fuel s x = .ok (s', v)) :
    s'.phil = s.phil ∧
    ∃ t, extractT e fuel s.phil x = .ok t ∧ s'.vals = s.vals ++ (reify t s.vals.length).1 ∧
      v = (reify t s.vals.length).2 := by
  unfold extractStore at h
  cases ht : extractT e fuel s.phil x with
  | error err => rw [ht] at h; cases h
  | ok t =>
    rw [ht] at h
    simp only [Except.ok.injEq, Prod.mk.injEq] at h
    obtain ⟨rfl, rfl⟩ := h
    exact ⟨rfl, t, rfl, rfl, rfl⟩

/-- **Mutation frame.**  Any finite history of in-place mutations of value objects, none of which goes
    through a handed-out word list, leaves the PHIL heap exactly as it was (every object, every slot) —
    hence also its abstract tree and its printed form. -/
theorem mutations_leave_phil_heap (s : Store) (ops : List (Nat × MutOp)) (hs : SafeHist s ops) :
    (mutateMany s ops).phil = s.phil := by
  induction ops generalizing s with
  | nil => rfl
  | cons p rest ih => rw [mutateMany, ih _ hs.2, mutate_phil_of_not_alias s p.1 p.2 hs.1]

/-- **Detachment.**  Extract; then mutate the extracted objects (and any other value objects) by any
    history that does not go through a handed-out word list; then the PHIL heap is unchanged, and a
    later extraction of ANY object `y` (with any fuel) reads the same value tree as it would have
    before the mutations — in particular the later `x.extract()` builds the reification of the very
    tree `t` the first extraction built, in objects that are all new. -/
theorem detached (e : Envs) (fuel : Nat) (s s1 : Store) (x : Nat) (v1 : VRef)
    (h1 : extractStore e fuel s x = .ok (s1, v1)) (ops : List (Nat × MutOp)) (hs : SafeHist s1 ops) :
    (mutateMany s1 ops).phil = s.phil ∧
    (∀ fuel' y, extractT e fuel' (mutateMany s1 ops).phil y = extractT e fuel' s.phil y) ∧
    ∃ t, extractT e fuel s.phil x = .ok t ∧ v1 = (reify t s.vals.length).2 ∧
      extractStore e fuel (mutateMany s1 ops) x =
        .ok ({ phil := s.phil, vals := (mutateMany s1 ops).vals ++ (reify t (mutateMany s1 ops).vals.length).1 },
             (reify t (mutateMany s1 ops).vals.length).2) := by
  obtain ⟨hp, t, ht, _, hv⟩ := extract_frame e fuel s s1 x v1 h1
  have hphil : (mutateMany s1 ops).phil = s.phil := by rw [mutations_leave_phil_heap s1 ops hs, hp]
  refine ⟨hphil, fun fuel' y => by rw [hphil], t, ht, hv, ?_⟩
  unfold extractStore
  rw [hphil, ht]

/-- mutations never create or delete value objects (they rewrite one) -/
theorem mutations_keep_object_count (s : Store) (ops : List (Nat × MutOp)) :
    (mutateMany s ops).vals.length = s.vals.length := by
  induction ops generalizing s with
  | nil => rfl
  | cons p rest ih => rw [mutateMany, ih, mutate_vals_length]

/-- **No `.type = words` in sight: unconditional detachment.**  If the value heap has no alias cell
    before the extraction and the extracted value tree hands out no word list, then EVERY history of
    mutations is safe: whatever is changed or appended, on whichever extracted list or nested
    extracted scope, the PHIL heap and all later extractions are unaffected. -/
theorem detached_without_words (e : Envs) (fuel : Nat) (s s1 : Store) (x : Nat) (v1 : VRef)
    (h1 : extractStore e fuel s x = .ok (s1, v1)) (hn : noAliasB s.vals = true)
    (hw : ∀ t, extractT e fuel s.phil x = .ok t → t.noHandout = true)
    (ops : List (Nat × MutOp)) :
    SafeHist s1 ops ∧ (mutateMany s1 ops).phil = s.phil ∧
    (∀ fuel' y, extractT e fuel' (mutateMany s1 ops).phil y = extractT e fuel' s.phil y) := by
  obtain ⟨_, t, ht, hvals, _⟩ := extract_frame e fuel s s1 x v1 h1
  have hsafe : SafeHist s1 ops := by
    apply safe_of_noAlias
    rw [hvals]
    exact noAlias_append _ _ hn (reify_noAlias t _ (hw t ht))
  obtain ⟨a, b, _⟩ := detached e fuel s s1 x v1 h1 ops hsafe
  exact ⟨hsafe, a, b⟩

/-- a reified value without handed-out word list consists of lists and scope_extracts only -/
theorem reified_has_no_alias (t : TVal) (b : Nat) (h : t.noHandout = true) : noAliasB (reify t b).1 = true :=
  reify_noAlias t b h

/-! ### the stated exception, kernel-checked (on Python: the identity oracle of harness/props/C18.py) -/

def heapOfText (t : String) : Heap :=
  match parseObjs t.toList with
  | .ok os => ofObjs os
  | .error _ => []

/-- For `rw` and the kernel a literal is `String.ofList […]`: rewriting with this avoids UTF-8 decoding. -/
theorem heapOfText_ofList (l : List Char) : heapOfText (String.ofList l) =
    match parseObjs l with
    | .ok os => ofObjs os
    | .error _ => [] := by
  unfold heapOfText
  rw [String.toList_ofList]

def noEnv : Envs := { eval := fun _ => none, fmt := fun _ => none }

/-- the words of definition `d` -/
def wordsAt (h : Heap) (d : Nat) : Option (List Str) :=
  match h[d]? with
  | some (.defn _ ws _) => some (ws.map (·.value))
  | _ => none

/-- the document `w = a b (.type = words)`, `s { l = x y (.type = strings)  t = 1 }` -/
def docText : String := "w = a b\n  .type = words\ns {\n  l = x y\n    .type = strings\n  t = 1\n}\n"

/-- after extracting the root into an empty value heap -/
def extracted : Option Store :=
  match extractStore noEnv 10 ⟨heapOfText docText, []⟩ 0 with
  | .ok (s, _) => some s
  | .error _ => none

/-- **The exception.**  Object 1 of the value heap is the alias of the word list of PHIL object 1
    (`w`): `ex.w.append(word("Z"))` rewrites the PHIL definition (`w = a b Z`) — the hypothesis
    `SafeHist` of `detached` is sharp … -/
theorem words_list_is_handed_out :
    extracted.map (fun s => (s.vals.length, wordsAt s.phil 1,
      wordsAt (mutate s 1 (.append (.atom (.str "Z".toList)))).phil 1)) =
    some (5, some ["a".toList, "b".toList], some ["a".toList, "b".toList, "Z".toList]) := by
  decide +kernel

/-- … whereas the same append on the extracted `.type = strings` list (value object 3) leaves the PHIL
    heap as it was (instance of `mutations_leave_phil_heap`, here evaluated) -/
example :
    extracted.map (fun s => decide ((mutate s 3 (.append (.atom (.str "Z".toList)))).phil = s.phil)) =
    some true := by
  decide +kernel

/-- the hypotheses of `detached_without_words` hold on a concrete document without `.type = words` -/
example :
    (match extractT noEnv 10 (heapOfText "a = 1 2\ns {\n  l = x y\n    .type = strings\n}\n") 0 with
     | .ok t => t.noHandout
     | .error _ => false) = true := by
  decide +kernel

end Phil.C18Detach

#print axioms Phil.C18Detach.extract_frame
#print axioms Phil.C18Detach.mutations_leave_phil_heap
#print axioms Phil.C18Detach.detached
#print axioms Phil.C18Detach.mutations_keep_object_count
#print axioms Phil.C18Detach.detached_without_words
#print axioms Phil.C18Detach.reified_has_no_alias
#print axioms Phil.C18Detach.words_list_is_handed_out
