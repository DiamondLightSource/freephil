/-
  C01 (part) — every built-in `.type` with every constructor argument prints (`str(converter)`,
  `Conv.render`) and re-parses (`definition_converters_from_words`, `convFromExpr`) to the same type.
  The statement is for every converter inside the modelled expression grammar (`Printable`): any
  combination of `value_min`/`value_max`/`allow_none`, of `size`/`size_min`/`size_max`, of
  `allow_none_elements`/`allow_auto_elements`, integer bounds of magnitude below 10^6 and float bounds
  `n/d` in lowest terms with `d ∈ {2,4,8}` and magnitude below 10^6.
  Property theorems only; lemmas are in Phil/Proofs/RoundTrip.lean.
-/
import Phil.Proofs.RoundTrip
import Phil.Props.C03
namespace Phil.C01
open Phil

/-- used by the concrete examples only (`decide +kernel`) -/
local instance {ε α : Type} [DecidableEq ε] [DecidableEq α] : DecidableEq (Except ε α) := fun a b =>
  match a, b with
  | .ok x, .ok y => if h : x = y then isTrue (by rw [h]) else isFalse (fun e => h (by cases e; rfl))
  | .error x, .error y => if h : x = y then isTrue (by rw [h]) else isFalse (fun e => h (by cases e; rfl))
  | .ok _, .error _ => isFalse (fun e => by cases e)
  | .error _, .ok _ => isFalse (fun e => by cases e)

/-! ### the word-level print / re-read law (by reference to C03) -/

/-- Every word the printer emits in quotes is read back by the tokenizer as exactly that word:
    `tokenize_value_literal(quote_python_str(q, s))` is the single word `s` with style `q`. -/
theorem word_print_reread (q : Quote) (s : Str) :
    tokenizeValueLiteral (quoteStr q s) = .ok [{ value := s, quote := some q, line := some 1 }] :=
  Phil.C03.tokenize_quote q s

example : tokenizeValueLiteral (quoteStr .d1 "a \"b\" \\ c".toList)
    = .ok [{ value := "a \"b\" \\ c".toList, quote := some .d1, line := some 1 }] := word_print_reread _ _

/-! ### the printable types -/

/-- `Printable` spelled out for `int`: each bound is absent or an integer of magnitude below 10^6,
    and the bounds are in order whenever both are given (the constructor's own check). -/
theorem printable_int (a : NumArgs) :
    Printable (.int a) = true ↔
      intBoundOk a.valueMin = true ∧ intBoundOk a.valueMax = true ∧ boundsOrdered a.valueMin a.valueMax = true := by
  simp [Printable, and_assoc]

/-- for two integer bounds "in order" is `i ≤ j` -/
theorem boundsOrdered_int (i j : Int) : boundsOrdered (some (.int i)) (some (.int j)) = true ↔ i ≤ j := by
  simp [boundsOrdered, numLE, Rat.intCast_le_intCast]

/-- `Printable` spelled out for `ints` -/
theorem printable_ints (a : ListArgs) :
    Printable (.ints a) = true ↔
      sizesOk a.sizeMin a.sizeMax = true ∧ intBoundOk a.valueMin = true ∧ intBoundOk a.valueMax = true ∧
      boundsOrdered a.valueMin a.valueMax = true := by
  simp [Printable, and_assoc]

/-- sizes: each absent or positive, and `size_min ≤ size_max` when both are given -/
theorem sizesOk_iff (smin smax : Option Int) :
    sizesOk smin smax = true ↔
      (∀ a, smin = some a → 0 < a) ∧ (∀ b, smax = some b → 0 < b) ∧
      (∀ a b, smin = some a → smax = some b → a ≤ b) := by
  cases smin <;> cases smax <;> simp [sizesOk, and_assoc]

/-! ### the round trip, type by type -/

/-- the seven argument-free types -/
theorem type_round_trip_simple (c : Conv)
    (hc : c = .words ∨ c = .strings ∨ c = .str ∨ c = .qstr ∨ c = .path ∨ c = .key ∨ c = .bool)
    (line : Option Nat) : convFromExpr (Conv.render c) line = .ok c := by
  rcases hc with rfl | rfl | rfl | rfl | rfl | rfl | rfl <;> rfl

example : Conv.render .qstr = "qstr".toList := rfl

/-- `choice` and `choice(multi=True)` -/
theorem type_round_trip_choice (multi : Bool) (line : Option Nat) :
    convFromExpr (Conv.render (.choice multi)) line = .ok (.choice multi) :=
  Phil.type_round_trip _ line rfl

example : Conv.render (.choice true) = "choice(multi=True)".toList := rfl

/-- `int(value_min=…, value_max=…, allow_none=…)`, every combination -/
theorem type_round_trip_int (a : NumArgs) (line : Option Nat) (h : Printable (.int a) = true) :
    convFromExpr (Conv.render (.int a)) line = .ok (.int a) :=
  Phil.type_round_trip _ line h

example : convFromExpr (Conv.render (.int { valueMin := some (.int (-3)), valueMax := some (.int 12), allowNone := false })) none
    = .ok (.int { valueMin := some (.int (-3)), valueMax := some (.int 12), allowNone := false }) :=
  type_round_trip_int _ _ (by decide +kernel)

/-- `ints(size=… | size_min=…, size_max=…, value_min=…, value_max=…, allow_none_elements=…,
    allow_auto_elements=…)`, every combination -/
theorem type_round_trip_ints (a : ListArgs) (line : Option Nat) (h : Printable (.ints a) = true) :
    convFromExpr (Conv.render (.ints a)) line = .ok (.ints a) :=
  Phil.type_round_trip _ line h

def exInts : ListArgs := { sizeMin := some 2, sizeMax := some 2, valueMax := some (.int (-7)), allowNoneEl := true }
example : convFromExpr (Conv.render (.ints exInts)) none = .ok (.ints exInts) :=
  type_round_trip_ints _ _ (by decide +kernel)

/-- the float bound leg: on the stated domain the `"%.10g"` text of `n/d` is a decimal literal whose
    exact value, reduced to lowest terms, is `n/d` again -/
theorem float_bound_round_trip (n : Int) (d : Nat) (hd : d = 2 ∨ d = 4 ∨ d = 8)
    (hg : Nat.gcd n.natAbs d = 1) (hm : n.natAbs < 1000000 * d) (s : Str)
    (h : fmtG10 (.flt n d) = some s) : parseFloatLit s = some (n, d) := by
  obtain ⟨s', h1, h2, _⟩ := float_bound_text n d hd hg hm
  rw [h1] at h; cases h; exact h2

example : fmtG10 (.flt (-11) 8) = some "-1.375".toList ∧ parseFloatLit "-1.375".toList = some (-11, 8) := by
  decide +kernel

/-- … and `fmtG10` is defined on all of that domain -/
theorem float_bound_prints (n : Int) (d : Nat) (hd : d = 2 ∨ d = 4 ∨ d = 8)
    (hg : Nat.gcd n.natAbs d = 1) (hm : n.natAbs < 1000000 * d) :
    ∃ s, fmtG10 (.flt n d) = some s ∧ parseLit s = some (.num (.flt n d)) := by
  obtain ⟨s, h1, _, _, h4⟩ := float_bound_text n d hd hg hm
  exact ⟨s, h1, h4⟩

/-- an integer bound in a float type prints as an integer literal and re-parses as the same `int` -/
theorem int_bound_in_float_type (i : Int) (h : i.natAbs < 1000000) :
    boundStr false (.int i) = intStr i ∧ parseLit (intStr i) = some (.num (.int i)) ∧
    boundArg false (some (.num (.int i))) = some (some (.int i)) := by
  refine ⟨?_, parseLit_intStr i, by simp [boundArg, h]⟩
  have : i.natAbs < 10000000000 := by omega
  simp [boundStr, fmtG10, this]

/-- `float(…)`, every combination, integer and float bounds mixed -/
theorem type_round_trip_float (a : NumArgs) (line : Option Nat) (h : Printable (.float a) = true) :
    convFromExpr (Conv.render (.float a)) line = .ok (.float a) :=
  Phil.type_round_trip _ line h

example : convFromExpr (Conv.render (.float { valueMin := some (.flt (-3) 2), valueMax := some (.int 7) })) none
    = .ok (.float { valueMin := some (.flt (-3) 2), valueMax := some (.int 7) }) :=
  type_round_trip_float _ _ (by decide +kernel)

/-- `floats(…)`, every combination -/
theorem type_round_trip_floats (a : ListArgs) (line : Option Nat) (h : Printable (.floats a) = true) :
    convFromExpr (Conv.render (.floats a)) line = .ok (.floats a) :=
  Phil.type_round_trip _ line h

example : convFromExpr (Conv.render (.floats { sizeMin := some 2, valueMin := some (.flt 5 4), allowAutoEl := true })) none
    = .ok (.floats { sizeMin := some 2, valueMin := some (.flt 5 4), allowAutoEl := true }) :=
  type_round_trip_floats _ _ (by decide +kernel)

/-- **C01, types**: every printable built-in type prints and re-parses to the same type, whatever the
    line the `.type` attribute stands on. -/
theorem type_round_trip (c : Conv) (line : Option Nat) (h : Printable c = true) :
    convFromExpr (Conv.render c) line = .ok c :=
  Phil.type_round_trip c line h

/-! ### why the side conditions: what lies outside `Printable` -/

/-- an integral float bound prints without a point and comes back as an `int` bound (equal as a
    number, different as an object) -/
theorem integral_float_bound_reparses_as_int :
    Conv.render (.float { valueMin := some (.flt 3 1) }) = "float(value_min=3, allow_none=True)".toList ∧
    convFromExpr "float(value_min=3, allow_none=True)".toList none = .ok (.float { valueMin := some (.int 3) }) := by
  repeat rw [String.toList_ofList]
  decide +kernel

/-- a converter the constructor would have refused (`size_min=0`) prints to a text that is refused -/
theorem refused_sizes_do_not_reparse :
    convFromExpr (Conv.render (.ints { sizeMin := some 0 })) none = .error (.runtime "type_construct" none) := by
  decide +kernel

end Phil.C01
