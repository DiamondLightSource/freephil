/-
  Phil.Props.Translated — the definitions that harness/translate.py regenerates from the Python source on every
  run (Phil/Generated/Translated.lean, semantics of the subset in Phil/Generated/PyPrelude.lean) are EQUAL, on all
  inputs, to the hand-written model functions the property theorems are about.  A changed source changes the
  generated definition; either these proofs still check (harmless rewrite) or the obligation breaks.
-/
import Phil.Generated.Translated
import Phil.CmdLine
import Phil.Proofs.ParseIds
import Phil.Proofs.ParseLemmas
namespace Phil.Translated

/-! ### command_line.argument_interpreter.get_path_score  (C14) -/

theorem findSub_eq_isInfix (p s : Str) : findSub p s = Py.isInfix p s := by
  induction s with
  | nil => rfl
  | cons c cs ih => simp only [findSub, Py.isInfix, ih]

theorem find_neg (t s : Str) : decide (Py.find t s < 0) = !findSub s t := by
  rw [findSub_eq_isInfix]
  cases h : Py.isInfix s t
  · simpa using (Py.find_neg_iff t s).mpr h
  · have : ¬ Py.find t s < 0 := fun hlt => by
      have := (Py.find_neg_iff t s).mp hlt
      simp [h] at this
    simpa using this

theorem find_whole (t s : Str) : (Py.find t s == 0 && Py.len s == Py.len t) = (s == t) := by
  by_cases he : s = t
  · subst he
    have : Py.find s s = 0 := (Py.find_zero_iff s s).mpr (by simp [Py.startswith, startsWith])
    simp [this]
  · have hne : (s == t) = false := by simpa using he
    rw [hne]
    by_cases hl : Py.len s = Py.len t
    · have hz : ¬ Py.find t s = 0 := by
        intro hz
        have hs := (Py.find_zero_iff t s).mp hz
        simp only [Py.startswith, startsWith, beq_iff_eq] at hs
        have hl' : s.length = t.length := by simp only [Py.len] at hl; omega
        rw [hl', List.take_length] at hs
        exact he hs.symm
      simp [hz]
    · simp [hl]

theorem findSub_self (t : Str) : findSub t t = true := by
  rw [findSub_eq_isInfix]; exact (Py.isInfix_iff t t).mpr ⟨[], [], by simp⟩

/-- the translated `get_path_score` is the model's `getPathScore` (all home scopes, all strings) -/
theorem get_path_score_eq (h : Option Str) (s t : Str) :
    Gen.get_path_score h s t = ((getPathScore h s t : Nat) : Int) := by
  unfold Gen.get_path_score getPathScore
  simp only [find_neg, find_whole, Py.startswith, Py.endswith]
  cases h with
  | none =>
    simp only [List.singleton_append]
    by_cases h1 : findSub s t = true <;> by_cases h2 : s = t <;> by_cases h3 : endsWith ('.' :: s) t = true <;>
      by_cases h4 : endsWith s t = true <;> simp [h1, h2, h3, h4, findSub_self]
  | some hh =>
    simp only [List.singleton_append, List.append_assoc]
    by_cases h1 : findSub s t = true <;> by_cases h2 : s = t <;> by_cases h3 : endsWith ('.' :: s) t = true <;>
      by_cases h4 : endsWith s t = true <;> by_cases h5 : hh ++ '.' :: s = t <;>
      by_cases h6 : startsWith (hh ++ ['.']) t = true <;> simp [h1, h2, h3, h4, h5, h6, findSub_self]

example : Gen.get_path_score (some "h".toList) "b".toList "h.a.b".toList = 6 := by decide


/-! ### common.is_reserved_identifier  (C02, C16) -/

theorem is_reserved_identifier_eq (s : Str) : Gen.is_reserved_identifier s = isReserved s := by
  unfold Gen.is_reserved_identifier isReserved
  simp only [Py.len, Py.startswith, Py.endswith, startsWith, endsWith, List.length_cons, List.length_nil]
  by_cases h : s.length < 5
  · have h1 : ((s.length : Int) < 5) := by omega
    have h2 : ¬ (5 ≤ s.length) := by omega
    simp [h1, h2]
  · have h1 : ¬ ((s.length : Int) < 5) := by omega
    have h2 : (5 ≤ s.length) := by omega
    have h3 : 2 ≤ s.length := by omega
    simp [h1, h2, h3]

example : Gen.is_reserved_identifier "__phil__".toList = true := by decide

/-! ### tokenizer.escape_python_str / quote_python_str  (C01, C03) -/

/-- the translated `escape_python_str` (two successive `str.replace`) is the model's one-pass `escape`, for every
    quote character other than the backslash -/
theorem escape_python_str_eq (q : Char) (hq : q ≠ '\\') (s : Str) :
    Gen.escape_python_str [q] s = escape q s := by
  unfold Gen.escape_python_str
  rw [Py.replace_single]
  have hq' : ¬ '\\' = q := fun h => hq h.symm
  induction s with
  | nil => rfl
  | cons c cs ih =>
    rw [Py.replace1_cons, Py.replace1_append, ih]
    by_cases hc : c = '\\'
    · subst hc
      simp [escape, Py.replace1, hq']
    · by_cases hcq : c = q
      · subst hcq; simp [escape, Py.replace1, hc]
      · simp [escape, Py.replace1, hc, hcq]

/-- sharpness of `q ≠ '\\'`: with the backslash as quote character Python doubles twice -/
theorem escape_python_str_backslash_differs :
    Gen.escape_python_str ['\\'] ['\\'] ≠ escape '\\' ['\\'] := by decide

theorem index_token (q : Quote) : Py.index q.token 0 = [q.char] := by cases q <;> decide

/-- the translated `quote_python_str` on the four quote tokens is the model's `quoteStr` -/
theorem quote_python_str_eq (q : Quote) (s : Str) : Gen.quote_python_str q.token s = quoteStr q s := by
  have hq : q.char ≠ '\\' := by cases q <;> decide
  simp only [Gen.quote_python_str, quoteStr, index_token, escape_python_str_eq q.char hq, List.append_assoc]

example : Gen.quote_python_str "\"".toList "a\"b\\".toList = "\"a\\\"b\\\\\"".toList := by decide +kernel

/-! ### tokens.is_plain_none / is_plain_auto -/

/-- the test both functions make, for any spelling `lit`: one unquoted word that is `lit` in lower case -/
theorem plain_word (lit : Str) (ws : List Word) :
    ((Py.len ws == 1) && (Py.first ws).quote.isNone && (Py.lower (Py.first ws).value == lit))
      = (match ws with | [w] => w.quote.isNone && lower w.value == lit | _ => false) := by
  match ws with
  | [] => simp [Py.len]
  | [w] => simp [Py.len, Py.first, Py.lower]
  | w :: w2 :: rest =>
    have : ¬ ((rest.length : Int) + 1 + 1 = 1) := by omega
    simp [Py.len, this]

theorem is_plain_none_eq (ws : List Word) : Gen.is_plain_none ws = isPlainNone ws := plain_word _ ws

theorem is_plain_auto_eq (ws : List Word) : Gen.is_plain_auto ws = isPlainAuto ws := plain_word _ ws


/-! ### tokens.is_standard_identifier  (C02, C16) -/

theorem isIdStart_big (c : Char) (hc : 128 ≤ c.toNat) : isIdStart c = false := by
  have h1 : c ≠ '_' := by intro h; subst h; simp at hc
  simp [isIdStart, isUpperAscii, isLowerAscii, h1]; omega

theorem isIdCont_big (c : Char) (hc : 128 ≤ c.toNat) : isIdCont c = false := by
  have h1 : c ≠ '.' := by intro h; subst h; simp at hc
  simp [isIdCont, isIdStart_big c hc, isDigit, h1]; omega

/-- membership of a character in a list, decided on the character codes: the kernel compares `Nat`s far
    faster than `Char`s -/
theorem contains_codes (set : List Char) (c : Char) :
    set.contains c = (set.map Char.toNat).contains c.toNat := by
  induction set with
  | nil => rfl
  | cons d ds ih =>
    rw [List.map_cons, List.contains_cons, List.contains_cons, ih]
    congr 1
    rw [Bool.eq_iff_iff, beq_iff_eq, beq_iff_eq]
    exact ⟨congrArg _, fun h => Char.toNat_inj.mp h⟩

/-- A character set of tokens.py is an ASCII test `q` of the model when every member passes the test
    (`hall`: one evaluation of `q` per member) and every ASCII character that passes it is a member (`hlow`:
    the set is searched only for those, and each search ends at the hit). -/
theorem inChars_eq_of_codes (set : List Char) (q : Char → Bool) (hall : set.all q = true)
    (hbig : ∀ c : Char, 128 ≤ c.toNat → q c = false)
    (hlow : ∀ n : Fin 128, q (Char.ofNat n) = true → (set.map Char.toNat).contains n.val = true)
    (c : Char) : Py.inChars [c] set = q c := by
  show set.contains c = q c
  cases hq : q c with
  | true =>
    have hc : c.toNat < 128 := by
      apply Nat.lt_of_not_le
      intro h
      rw [hbig c h] at hq
      cases hq
    rw [contains_codes]
    exact hlow ⟨c.toNat, hc⟩ (by simpa [Char.ofNat_toNat] using hq)
  | false =>
    cases hm : set.contains c with
    | false => rfl
    | true =>
      have := List.all_eq_true.mp hall c (by simpa using hm)
      rw [hq] at this
      cases this

/-- the module-level set `standard_identifier_start_characters` of tokens.py is the model's `isIdStart` -/
theorem inStart (c : Char) : Py.inChars [c] Gen.standard_identifier_start_characters = isIdStart c :=
  inChars_eq_of_codes _ isIdStart (by decide +kernel) isIdStart_big (by decide +kernel) c

/-- the module-level set `standard_identifier_continuation_characters` is the model's `isIdCont` -/
theorem inCont (c : Char) : Py.inChars [c] Gen.standard_identifier_continuation_characters = isIdCont c :=
  inChars_eq_of_codes _ isIdCont (by decide +kernel) isIdCont_big (by decide +kernel) c

theorem all_congr_mem {α : Type} (l : List α) (p q : α → Bool) (h : ∀ x ∈ l, p x = q x) : l.all p = l.all q := by
  induction l with
  | nil => rfl
  | cons x xs ih =>
    simp only [List.all_cons, h x (List.mem_cons_self ..), ih (fun y hy => h y (List.mem_cons_of_mem _ hy))]

theorem fuel_nil (n : Nat) : Gen.is_standard_identifier_fuel n [] = false := by
  cases n <;> simp [Gen.is_standard_identifier_fuel, Py.len]

theorem fuel_step (n : Nat) (c : Char) (cs : Str) :
    Gen.is_standard_identifier_fuel (n + 1) (c :: cs) =
      (isIdStart c && cs.all isIdCont &&
        (decide ((splitOn '.' (c :: cs)).length ≤ 1) ||
          (splitOn '.' (c :: cs)).all (fun sub => Gen.is_standard_identifier_fuel n sub))) := by
  rw [Gen.is_standard_identifier_fuel]
  simp only [Py.len, Py.index_zero_cons, Py.sliceFrom_one, Py.chars_any, Py.split1]
  simp only [inStart, inCont, List.length_cons, ← List.not_all_eq_any_not]
  have h0 : ¬ ((cs.length : Int) + 1 = 0) := by omega
  by_cases h3 : (splitOn '.' (c :: cs)).length ≤ 1
  · have h3' : ¬ (((splitOn '.' (c :: cs)).length : Int) > 1) := by omega
    cases isIdStart c <;> cases cs.all isIdCont <;> simp [h0, h3, h3']
  · have h3' : (((splitOn '.' (c :: cs)).length : Int) > 1) := by omega
    cases isIdStart c <;> cases cs.all isIdCont <;>
      cases (splitOn '.' (c :: cs)).all (fun sub => Gen.is_standard_identifier_fuel n sub) <;> simp [h0, h3, h3']

/-- on a dot-free string one level of fuel suffices and the translated function is `isSimpleIdent` -/
theorem fuel_simple (n : Nat) (sub : Str) (h : '.' ∉ sub) :
    Gen.is_standard_identifier_fuel (n + 1) sub = isSimpleIdent sub := by
  cases sub with
  | nil => rw [fuel_nil]; rfl
  | cons c cs =>
    rw [fuel_step, splitOn_of_not_mem '.' (c :: cs) h]
    have hall : cs.all isIdCont = cs.all (fun d => isIdStart d || isDigit d) := by
      apply all_congr_mem
      intro d hd
      have : d ≠ '.' := by intro e; subst e; exact h (List.mem_cons_of_mem _ hd)
      have h' : (d == '.') = false := by simpa using this
      simp only [isIdCont, h', Bool.or_false]
    simp [isSimpleIdent, hall]

theorem fuel_enough (n : Nat) (s : Str) : Gen.is_standard_identifier_fuel (n + 2) s = isStdIdent s := by
  cases s with
  | nil => rw [fuel_nil]; rfl
  | cons c cs =>
    rw [fuel_step]
    have hall : (splitOn '.' (c :: cs)).all (fun sub => Gen.is_standard_identifier_fuel (n + 1) sub)
        = (splitOn '.' (c :: cs)).all isSimpleIdent := by
      apply all_congr_mem
      intro sub hsub
      exact fuel_simple n sub (Phil.C12.splitOn_comp_pid '.' (c :: cs) sub hsub)
    simp [isStdIdent, hall]

/-- the translated (recursive, fuel-bounded) `is_standard_identifier` is the model's `isStdIdent` on all strings;
    in particular the translator's depth bound `len(string) + 1` suffices -/
theorem is_standard_identifier_eq (s : Str) : Gen.is_standard_identifier s = isStdIdent s := by
  unfold Gen.is_standard_identifier Py.fuel
  cases s with
  | nil => rw [fuel_nil]; rfl
  | cons c cs => exact fuel_enough cs.length (c :: cs)

example : Gen.is_standard_identifier "a.b_1.c".toList = true := by decide +kernel
example : Gen.is_standard_identifier "a..b".toList = false := by decide +kernel

end Phil.Translated

#print axioms Phil.Translated.get_path_score_eq
#print axioms Phil.Translated.is_reserved_identifier_eq
#print axioms Phil.Translated.escape_python_str_eq
#print axioms Phil.Translated.escape_python_str_backslash_differs
#print axioms Phil.Translated.quote_python_str_eq
#print axioms Phil.Translated.is_plain_none_eq
#print axioms Phil.Translated.is_plain_auto_eq
#print axioms Phil.Translated.inStart
#print axioms Phil.Translated.inCont
#print axioms Phil.Translated.is_standard_identifier_eq
