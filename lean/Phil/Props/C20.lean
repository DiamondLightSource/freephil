/-
  C20 — The parameter index stays coherent with its working parameters.

    "After any sequence of edits through the parameter index (update from a string, merge, update from
     a Python object, push / pop / set of saved states), the Python object it hands out equals a fresh
     extraction of its current working parameters, …, and popping a state restores exactly the working
     parameters that were current at the matching push.  Applying the same edit twice in a row leaves
     the working parameters as after the first application."

  Model: Phil/Index.lean (state machine over an abstract `Kernel`).  All theorems hold for every
  kernel, every state and every history (no length bound).  Lemmas and the definitions `Coherent`,
  `RoundTrip*`, `Balanced`, `IdemKernel`, `stepBuggy`, `outputs` are in Phil/Proofs/IndexLemmas.lean.

    1. cache coherence      — `handed_out_is_fresh` (+ `_all`, `_noFromPython`), `handed_out_is_complete`;
                              in the middle of a history: `reachable_get_python_is_fresh_mid` (IndexLemmas)
       negation witnesses   — `prefix_pop_is_stale` (why pop must invalidate),
                              `law_is_needed_fromCache`, `law_is_needed_fromPython` (why the round-trip
                              law is a hypothesis)
    2. pop restores         — `pop_restores` (+ `_reachable`, `fromPython_pop_restores`), `balanced_stack`
    3. refused edits        — `refused_edit_changes_nothing`
    4. edit idempotence     — `same_edit_twice` (+ `_state`), `idem_law_is_needed`
    5. getPython            — `get_python_twice`, `get_python_keeps_working`, `get_python_keeps_states`
-/
import Phil.Proofs.IndexLemmas
namespace Phil.C20
open Phil.Index

variable {W P E : Type}

/-! ### 1. the object handed out is a fresh extraction -/

/-- **C20, cache coherence.**  After any history `ops` from the initial state, if `get_python_object`
    hands out `v` then `v` is the extraction of the current working parameters.  Hypotheses: the C09
    round-trip law for the objects the program passed to `update_from_python` (`RoundTripOps`) and for
    the objects that are the extraction of some working set (`RoundTripExtracted`; needed because
    `update_from_python(None)` re-formats the cached object). -/
theorem handed_out_is_fresh (k : Kernel W P E) (w : W) (ops : List (Op P E)) (v : P)
    (hp : RoundTripOps k ops) (hx : RoundTripExtracted k)
    (h : (step k (run k (init k w) ops) .getPython).2 = some v) :
    k.extract (run k (init k w) ops).working = some v ∧
    (step k (run k (init k w) ops) .getPython).1.working = (run k (init k w) ops).working :=
  ⟨reachable_get_python_is_fresh hp hx h, getPython_working k _⟩

/-- the same under the single law "every object round-trips" -/
theorem handed_out_is_fresh_all (k : Kernel W P E) (w : W) (ops : List (Op P E)) (v : P)
    (hl : RoundTripAll k)
    (h : (step k (run k (init k w) ops) .getPython).2 = some v) :
    k.extract (run k (init k w) ops).working = some v :=
  reachable_get_python_is_fresh (hl.ops ops) hl.extracted h

/-- histories that never call `update_from_python` need no law at all -/
theorem handed_out_is_fresh_noFromPython (k : Kernel W P E) (w : W) (ops : List (Op P E)) (v : P)
    (hn : NoFromPython ops)
    (h : (step k (run k (init k w) ops) .getPython).2 = some v) :
    k.extract (run k (init k w) ops).working = some v :=
  get_python_is_fresh' (run_coherent_noFromPython (init_coherent k w) hn) h

/-- and conversely nothing is withheld: whenever a fresh extraction succeeds, that value is handed out -/
theorem handed_out_is_complete (k : Kernel W P E) (w : W) (ops : List (Op P E)) (v : P)
    (hp : RoundTripOps k ops) (hx : RoundTripExtracted k)
    (h : k.extract (run k (init k w) ops).working = some v) :
    (step k (run k (init k w) ops) .getPython).2 = some v := by
  rw [get_python_eq_extract (run_coherent (init_coherent k w) hp hx)]
  exact h

/-- the invariant itself, for every reachable state -/
theorem reachable_coherent (k : Kernel W P E) (w : W) (ops : List (Op P E))
    (hp : RoundTripOps k ops) (hx : RoundTripExtracted k) :
    Coherent k (run k (init k w) ops) :=
  run_coherent (init_coherent k w) hp hx

/-! #### concrete instances and negation witnesses -/

/-- the toy kernel: an edit replaces the working set, everything else is the identity -/
def toy : Kernel Nat Nat Nat :=
  { merge := fun _ e => some e, refetch := id, extract := some, format := id }

theorem toy_roundTrip : RoundTripAll toy := fun _ => rfl

def hist : List (Op Nat Nat) := [.push, .update 2, .getPython, .pop, .getPython]

/-- the fixed machine: after the pop the object handed out is `1`, the extraction of the restored
    working set -/
example : outputs toy (init toy 1) hist = [none, none, some 2, none, some 1] := by decide
example : toy.extract (run toy (init toy 1) hist).working = some 1 := by decide

/-- **negation witness (why `pop_state` must invalidate the cache).**  The machine whose `pop` keeps
    `params`/`dirty` hands out the stale `2` after the pop although the working set is back to `1`;
    its state after the pop violates the invariant. -/
theorem prefix_pop_is_stale :
    outputsBuggy toy (init toy 1) hist = [none, none, some 2, none, some 2] ∧
    toy.extract (runBuggy toy (init toy 1) hist).working = some 1 ∧
    ¬ Coherent toy (runBuggy toy (init toy 1) [.push, .update 2, .getPython, .pop]) := by
  refine ⟨by decide, by decide, ?_⟩
  intro h
  rcases h with h | h | ⟨v, hv, hev⟩
  · exact absurd h (by decide)
  · exact absurd h (by decide)
  · have h1 : (runBuggy toy (init toy 1) [.push, .update 2, .getPython, .pop]).params = some 2 := by decide
    have h2 : toy.extract (runBuggy toy (init toy 1) [.push, .update 2, .getPython, .pop]).working = some 1 := by
      decide
    rw [h1] at hv; rw [h2] at hev; cases hv; cases hev

/-- a kernel whose format/extract pair does not round-trip -/
def lossy : Kernel Nat Nat Nat :=
  { merge := fun _ e => some e, refetch := id, extract := fun w => some (w + 1), format := id }

/-- **the law on extracted values is needed**: with `lossy`, `update_from_python(None)` re-formats the
    cached `2` into the working set `2`, whose extraction is `3`, yet the cached `2` is handed out.
    (The history passes no object, so `RoundTripOps` holds vacuously: only `RoundTripExtracted` fails.) -/
theorem law_is_needed_fromCache :
    RoundTripOps lossy [Op.getPython, .updateFromPython none] ∧
    (step lossy (run lossy (init lossy 1) [.getPython, .updateFromPython none]) .getPython).2 = some 2 ∧
    lossy.extract (run lossy (init lossy 1) [.getPython, .updateFromPython none]).working = some 3 := by
  refine ⟨?_, by decide, by decide⟩
  intro p hp
  simp at hp

/-- **the law on program-given objects is needed** likewise -/
theorem law_is_needed_fromPython :
    (step lossy (run lossy (init lossy 1) [.updateFromPython (some 4)]) .getPython).2 = some 4 ∧
    lossy.extract (run lossy (init lossy 1) [.updateFromPython (some 4)]).working = some 5 := by
  exact ⟨by decide, by decide⟩

/-- non-vacuity of `handed_out_is_fresh_all` on a history using every kind of operation -/
example :
    (step toy (run toy (init toy 1)
        [.update 5, .getPython, .updateFromPython none, .updateFromPython (some 9), .push, .update 7,
         .setState 0, .pop, .pop]) .getPython).2 = some 5 := by decide
example :
    toy.extract (run toy (init toy 1)
        [.update 5, .getPython, .updateFromPython none, .updateFromPython (some 9), .push, .update 7,
         .setState 0, .pop, .pop]).working = some 5 :=
  handed_out_is_fresh_all toy 1 _ 5 toy_roundTrip (by decide)

/-! ### 2. pop restores the working parameters of the matching push -/

/-- a balanced history leaves the stack of saved states as it found it -/
theorem balanced_stack (k : Kernel W P E) (s : State W P) (ops : List (Op P E)) (hb : Balanced ops) :
    (run k s ops).states = s.states :=
  run_balanced_states hb s

/-- **C20, pop restores.**  For every state `s` and every balanced `inner` history, the `pop` matching
    a `push` makes the re-fetched copy of the working set current at the push (`push_state` stores
    `master.fetch(working)`) current again and restores the stack; the cache is invalidated. -/
theorem pop_restores (k : Kernel W P E) (s : State W P) (inner : List (Op P E)) (hb : Balanced inner) :
    (run k s (.push :: (inner ++ [.pop]))).working = k.refetch s.working ∧
    (run k s (.push :: (inner ++ [.pop]))).states = s.states ∧
    (run k s (.push :: (inner ++ [.pop]))).dirty = true ∧
    (run k s (.push :: (inner ++ [.pop]))).params = none := by
  rw [push_pop_restores_state hb]; exact ⟨rfl, rfl, rfl, rfl⟩

/-- when re-fetching a working set against its own master is the identity (C10 for fetched sets) the
    restored working set is literally the one current at the push -/
theorem pop_restores_exact (k : Kernel W P E) (s : State W P) (inner : List (Op P E))
    (hb : Balanced inner) (hr : k.refetch s.working = s.working) :
    (run k s (.push :: (inner ++ [.pop]))).working = s.working := by
  rw [(pop_restores k s inner hb).1, hr]

/-- anywhere in a history starting from the initial state -/
theorem pop_restores_reachable (k : Kernel W P E) (w : W) (pre inner : List (Op P E))
    (hb : Balanced inner) :
    (run k (init k w) (pre ++ .push :: (inner ++ [.pop]))).working
      = k.refetch (run k (init k w) pre).working ∧
    (run k (init k w) (pre ++ .push :: (inner ++ [.pop]))).states
      = (run k (init k w) pre).states := by
  rw [run_append, push_pop_restores_state hb]
  exact ⟨rfl, rfl⟩

/-- `update_from_python(obj)` pushes the pre-edit working set, so the matching `pop` undoes it -/
theorem fromPython_pop_restores (k : Kernel W P E) (s : State W P) (p : P) (inner : List (Op P E))
    (hb : Balanced inner) :
    (run k s (.updateFromPython (some p) :: (inner ++ [.pop]))).working = k.refetch s.working ∧
    (run k s (.updateFromPython (some p) :: (inner ++ [.pop]))).states = s.states := by
  rw [pushing_pop_restores hb (s := s) (op := .updateFromPython (some p)) rfl]; exact ⟨rfl, rfl⟩

/-- a balanced history with nested brackets, an implicit push and a `set_state` inside -/
def innerEx : List (Op Nat Nat) :=
  [.update 5, .push, .update 7, .setState 0, .pop, .getPython, .updateFromPython (some 9), .update 3, .pop]

theorem innerEx_balanced : Balanced innerEx :=
  .update 5 (.push (inner := [.update 7, .setState 0]) (.update 7 (.setState 0 .nil))
    (.getPython (.fromPython 9 (inner := [.update 3]) (.update 3 .nil) .nil)))

example : (run toy (init toy 1) (.push :: (innerEx ++ [.pop]))).working = 1 := by decide
example : (run toy (init toy 1) (.push :: (innerEx ++ [.pop]))).working = 1 :=
  (pop_restores toy (init toy 1) innerEx innerEx_balanced).1
/-- the working set really moved in between -/
example : (run toy (init toy 1) (.push :: innerEx)).working = 5 := by decide
example : (run toy (init toy 1) (.push :: innerEx)).states = [1] := by decide

/-- `pop` on an empty stack is a no-op (the Python method returns without touching anything) -/
theorem pop_empty (k : Kernel W P E) (s : State W P) (h : s.states = []) : (step k s .pop).1 = s := by
  rw [step_pop_empty k s h]

/-! ### 3. refused edits change nothing -/

theorem refused_edit_changes_nothing (k : Kernel W P E) (s : State W P) (e : E)
    (h : k.merge s.working e = none) : (step k s (.update e)).1 = s :=
  update_refused h

/-- a kernel that refuses the edit `0` and adds every other edit to the working set -/
def adder : Kernel Nat Nat Nat :=
  { merge := fun w e => if e = 0 then none else some (w + e), refetch := id, extract := some, format := id }

example : (step adder (run adder (init adder 1) [.getPython]) (.update 0)).1
    = run adder (init adder 1) [.getPython] :=
  refused_edit_changes_nothing adder _ 0 (by decide)

/-! ### 4. the same edit twice -/

/-- **C20, edit idempotence.**  Under the kernel law `IdemKernel k e` (merging `e` into its own result
    changes nothing — C10/C16 on the Fetch model) the second application leaves the working set (in
    fact the whole state) as after the first. -/
theorem same_edit_twice (k : Kernel W P E) (s : State W P) (e : E) (hk : IdemKernel k e) :
    (run k s [.update e, .update e]).working = (run k s [.update e]).working := by
  rw [update_twice_state (fun _ h => hk _ _ h)]

theorem same_edit_twice_state (k : Kernel W P E) (s : State W P) (e : E) (hk : IdemKernel k e) :
    run k s [.update e, .update e] = run k s [.update e] :=
  update_twice_state (fun _ h => hk _ _ h)

theorem toy_idem (e : Nat) : IdemKernel toy e := fun _ _ h => h

example : (run toy (init toy 1) [.update 4, .update 4]).working = 4 := by decide
example : (run toy (init toy 1) [.update 4, .update 4]).working = (run toy (init toy 1) [.update 4]).working :=
  same_edit_twice toy _ 4 (toy_idem 4)

/-- the kernel law is a real hypothesis: the machine adds nothing of its own, so a non-idempotent
    merge shows through -/
theorem idem_law_is_needed :
    (run adder (init adder 1) [.update 3, .update 3]).working = 7 ∧
    (run adder (init adder 1) [.update 3]).working = 4 ∧ ¬ IdemKernel adder 3 := by
  refine ⟨by decide, by decide, ?_⟩
  intro h
  have := h 1 4 (by decide)
  exact absurd this (by decide)

/-! ### 5. `get_python_object` twice -/

/-- two `get_python_object` calls in a row hand out the same object and leave the same state -/
theorem get_python_twice (k : Kernel W P E) (s : State W P) :
    (step k (step k s .getPython).1 .getPython).2 = (step k s .getPython).2 ∧
    (step k (step k s .getPython).1 .getPython).1 = (step k s .getPython).1 := by
  rw [getPython_idempotent]; exact ⟨rfl, rfl⟩

theorem get_python_keeps_working (k : Kernel W P E) (s : State W P) :
    (step k s .getPython).1.working = s.working := getPython_working k s

theorem get_python_keeps_states (k : Kernel W P E) (s : State W P) :
    (step k s .getPython).1.states = s.states := getPython_states k s

example : outputs toy (init toy 1) [.update 6, .getPython, .getPython] = [none, some 6, some 6] := by decide

end Phil.C20
