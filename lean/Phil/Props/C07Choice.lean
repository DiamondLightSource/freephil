/-
  C06 / C07 on NESTED masters WITH CHOICES (`TreeMasterC`, Phil/Proofs/FetchChoice.lean: definitions
  of any type, choices and `.deprecated` included; only `.multiple` stays outside).

  C06: `tree_choice_used_exact`, `tree_choice_unused_exact`, `reported_iff_tree_choice`,
       `fetchRoot_tree_choice_unused_exact`: whenever the fetch succeeds and the entries of
       `all_definitions(sources)` carry pairwise distinct ids, the reported list is exactly the
       sub-list of `all_definitions(sources)` whose dotted path names no master definition.
       (A choice never changes WHICH sources are consumed: every enabled source definition whose
       path names a master definition is marked, whatever `choiceFetch` makes of its words.)
  C07: `tree_choice_refetch_idempotent` / `fetchRoot_tree_choice_refetch` (M.fetch(W) = W for
       W = M.fetch(S)), `tree_choice_fetch_master_itself` / `fetchRoot_tree_choice_master_itself`
       (M.fetch(M) = M.fetch()), `choice_refetch_identity` (choiceFetch of its own result), under
       `RefetchTreeC` (executable: `refetchCheckC`); sharp-edge witnesses for every clause.
  Lemmas: Phil/Proofs/FetchChoice2.lean.
-/
import Phil.Proofs.FetchChoice2
import Phil.Proofs.ObjEq
import Phil.Props.C06Tree
import Phil.Props.C11Tree
namespace Phil.C07C
open Phil

/-! ## C06 -/

/-- **Consumed ids, exactly (masters with choices).** -/
theorem tree_choice_used_exact (e : Envs) (fuel : Nat) (sm : Meta) (mkids srcs : List Obj)
    (hf : TreeMasterC mkids) (hfuel : depthL mkids < fuel) (hsd : sm.disabled = false)
    (hinc : NoIncludeTree mkids) (hsrc : SrcTree srcs) (hs : SrcPlain srcs)
    (ro : Obj) (used : List Nat)
    (h : fetchScope e fuel false sm mkids srcs = .ok (ro, used)) (i : Nat) :
    i ∈ used ↔ ∃ x ∈ allDefinitions srcs, x.2.1.id = some i ∧ x.1 ∈ (allDefinitions mkids).map (·.1) := by
  obtain ⟨_, hu⟩ := fetch_tree_choice_ok e fuel sm mkids srcs hf hfuel hsd hsrc ro used h
  subst hu
  exact defPaths_eq_allDefs_of treeObjC_pathClass mkids [] hf.obj hinc ▸
    mem_treeUsed_of treeObjC_pathClass i (fun m _ => m.id = some i) mkids srcs [] hf.obj hinc hs.dotfree (hs.marks i)

/-- **The reported list, exactly (masters with choices).**  Whenever the fetch succeeds and the
    entries of `all_definitions(sources)` carry pairwise distinct ids, the reported list is the list
    of the entries of `all_definitions(sources)` (in order) whose full path is not the path of an
    active master parameter. -/
theorem tree_choice_unused_exact (e : Envs) (fuel : Nat) (sm : Meta) (mkids srcs : List Obj)
    (hf : TreeMasterC mkids) (hfuel : depthL mkids < fuel) (hsd : sm.disabled = false)
    (hinc : NoIncludeTree mkids) (hsrc : SrcTree srcs) (hs : SrcPlain srcs)
    (hsome : ∀ x ∈ allDefinitions srcs, x.2.1.id ≠ none)
    (hids : ((allDefinitions srcs).map (fun x => x.2.1.id)).Nodup)
    (ro : Obj) (used : List Nat)
    (h : fetchScope e fuel false sm mkids srcs = .ok (ro, used)) :
    C06.unusedOf srcs used =
      (allDefinitions srcs).filter (fun x => !((allDefinitions mkids).map (·.1)).contains x.1) :=
  unused_filter_exact_tree _ srcs used hsome hids
    (tree_choice_used_exact e fuel sm mkids srcs hf hfuel hsd hinc hsrc hs ro used h)

/-- membership form -/
theorem reported_iff_tree_choice (e : Envs) (fuel : Nat) (sm : Meta) (mkids srcs : List Obj)
    (hf : TreeMasterC mkids) (hfuel : depthL mkids < fuel) (hsd : sm.disabled = false)
    (hinc : NoIncludeTree mkids) (hsrc : SrcTree srcs) (hs : SrcPlain srcs)
    (hsome : ∀ x ∈ allDefinitions srcs, x.2.1.id ≠ none)
    (hids : ((allDefinitions srcs).map (fun x => x.2.1.id)).Nodup)
    (ro : Obj) (used : List Nat)
    (h : fetchScope e fuel false sm mkids srcs = .ok (ro, used))
    (x : Str × Meta × List Word) :
    x ∈ C06.unusedOf srcs used ↔
      x ∈ allDefinitions srcs ∧ x.1 ∉ (allDefinitions mkids).map (·.1) := by
  rw [tree_choice_unused_exact e fuel sm mkids srcs hf hfuel hsd hinc hsrc hs hsome hids ro used h,
    List.mem_filter]
  simp

/-- executable master-side conditions: `TreeMasterC` nested at most 1000 deep, no definition called
    `include` -/
def masterCheckC (mkids : List Obj) : Bool :=
  treeMasterCB mkids && allActive (fun d => !d.isDefn || d.name != "include".toList) mkids

theorem masterCheckC_sound (mkids : List Obj) (h : masterCheckC mkids = true) :
    TreeMasterC mkids ∧ depthL mkids ≤ 1000 ∧ NoIncludeTree mkids := by
  unfold masterCheckC at h
  rw [Bool.and_eq_true] at h
  have h1 := treeMasterCB_sound mkids h.1
  refine ⟨h1.1, h1.2, ?_⟩
  intro d hd hdef
  have := allActive_sound _ hd h.2
  simp only [hdef, Bool.not_true, Bool.false_or, bne_iff_ne, ne_eq] at this
  exact this

/-- **`master.fetch(sources, track_unused_definitions=True)`** on parsed roots, executable side
    conditions -/
theorem fetchRoot_tree_choice_unused_exact (e : Envs) (master : List Obj) (ss : List (List Obj))
    (hm : masterCheckC master = true) (hs : srcCheck ss.flatten = true)
    (hsome : ∀ x ∈ allDefinitions ss.flatten, x.2.1.id ≠ none)
    (hids : ((allDefinitions ss.flatten).map (fun x => x.2.1.id)).Nodup)
    (ro : Obj) (used : List Nat)
    (h : fetchRoot e false master ss = .ok (ro, used)) :
    C06.unusedOf ss.flatten used =
      (allDefinitions ss.flatten).filter
        (fun x => !((allDefinitions master).map (·.1)).contains x.1) := by
  have hM := masterCheckC_sound master hm
  have hS := srcCheck_sound ss.flatten hs
  exact tree_choice_unused_exact e _ _ master ss.flatten hM.1 (fetchRoot_fuel_tree master hM.2.1) rfl
    hM.2.2 hS.tree hS.plain hsome hids ro used h

/-! ### non-vacuity -/

/-- master with a single choice, a multi choice, a deprecated choice and a plain definition -/
def chM : List Obj := C06.objsOf
  "s {\n c = a *b\n .type=choice\n k = x y z\n .type=choice(multi=True)\n o = p q\n .type=choice\n .deprecated=True\n t { d = 1 }\n}\n"

def chS : List Obj := C06.objsOf "s.c = a\ns {\n k = x+z\n q = 0\n t.e = 3\n}\nz = 1\ns.o = *q\n!s.c = nope\ns.t.d = 5\n"

section
attribute [local instance] objDecEq

theorem chM_eq : chM =
    [
      .scope { name := "s".toList, id := some 1, line := some 1 } [
        .defn
          { name := "c".toList, id := some 2, line := some 2, attrs := [("type", .conv (.choice false))] }
          [{ value := "a".toList, line := some 2 }, { value := "*b".toList, line := some 2 }],
        .defn
          { name := "k".toList, id := some 3, line := some 4, attrs := [("type", .conv (.choice true))] }
          [{ value := "x".toList, line := some 4 }, { value := "y".toList, line := some 4 },
          { value := "z".toList, line := some 4 }],
        .defn
          { name := "o".toList, id := some 4, line := some 6,
            attrs := [("type", .conv (.choice false)), ("deprecated", .bool true)] }
          [{ value := "p".toList, line := some 6 }, { value := "q".toList, line := some 6 }],
        .scope { name := "t".toList, id := some 5, line := some 9 } [
          .defn { name := "d".toList, id := some 6, line := some 9 }
            [{ value := "1".toList, line := some 9 }]]]] := by
  unfold chM
  rw [C06.objsOf_ofList]
  decide +kernel

theorem chS_eq : chS =
    [
      .scope { name := "s".toList, id := some 1 } [
        .defn { name := "c".toList, id := some 1, line := some 1, mergeNames := true }
          [{ value := "a".toList, line := some 1 }]],
      .scope { name := "s".toList, id := some 2, line := some 2 } [
        .defn { name := "k".toList, id := some 3, line := some 3 }
          [{ value := "x+z".toList, line := some 3 }],
        .defn { name := "q".toList, id := some 4, line := some 4 }
          [{ value := "0".toList, line := some 4 }],
        .scope { name := "t".toList, id := some 5 } [
          .defn { name := "e".toList, id := some 5, line := some 5, mergeNames := true }
            [{ value := "3".toList, line := some 5 }]]],
      .defn { name := "z".toList, id := some 6, line := some 7 } [{ value := "1".toList, line := some 7 }],
      .scope { name := "s".toList, id := some 7 } [
        .defn { name := "o".toList, id := some 7, line := some 8, mergeNames := true }
          [{ value := "*q".toList, line := some 8 }]],
      .scope { name := "s".toList, id := some 8 } [
        .defn { name := "c".toList, id := some 8, disabled := true, line := some 9, mergeNames := true }
          [{ value := "nope".toList, line := some 9 }]],
      .scope { name := "s".toList, id := some 9 } [
        .scope { name := "t".toList, id := some 9, mergeNames := true } [
          .defn { name := "d".toList, id := some 9, line := some 10, mergeNames := true }
            [{ value := "5".toList, line := some 10 }]]]] := by
  unfold chS
  rw [C06.objsOf_ofList]
  decide +kernel

end

example : (masterCheckC chM && srcCheck chS && depthL chM == 2 &&
    decide (((allDefinitions chS).map (fun x => x.2.1.id)).Nodup) &&
    (allDefinitions chS).all (fun x => x.2.1.id.isSome)) = true := by
  rw [chM_eq, chS_eq]
  decide +kernel

/-- the model on the instance: the values and the reported list -/
example :
    (match fetchRoot env12 false chM [chS] with
     | .ok (ro, used) => some (C06.valsOf ro.children, (C06.unusedOf chS used).map (fun (x : Str × Meta × List Word) => String.ofList x.1))
     | .error _ => none) =
      some ([("s.c", ["*a", "b"]), ("s.k", ["*x", "y", "*z"]), ("s.o", ["p", "*q"]), ("s.t.d", ["5"])],
        ["s.q", "s.t.e", "z"]) := by
  rw [chM_eq, chS_eq]
  decide +kernel

/-- the theorem applied to the instance -/
example (ro : Obj) (used : List Nat) (h : fetchRoot env12 false chM [chS] = .ok (ro, used)) :
    (C06.unusedOf chS used).map (fun (x : Str × Meta × List Word) => String.ofList x.1) = ["s.q", "s.t.e", "z"] := by
  have hfl : ([chS] : List (List Obj)).flatten = chS := by simp
  have := fetchRoot_tree_choice_unused_exact env12 chM [chS] (by rw [chM_eq]; decide +kernel)
    (by rw [hfl, chS_eq]; decide +kernel)
    (by
      rw [hfl]
      intro x hx
      have hall : ((allDefinitions chS).all (fun x => x.2.1.id.isSome)) = true := by
        rw [chS_eq]
        decide +kernel
      have := List.all_eq_true.mp hall x hx
      intro hn; rw [hn] at this; cases this)
    (by rw [hfl, chS_eq]; decide +kernel)
    ro used h
  rw [hfl] at this
  rw [this, chM_eq, chS_eq]
  decide +kernel

/-! ## C07: re-fetching the result of a master with choices

  Hypothesis (`RefetchTreeC`, executable form `refetchCheckC`): every active master definition is
  not template-marked, has no recorded resolution, is not `.deprecated`, and — when its type is a
  choice — has `ChoiceRefetchOK` alternatives: a number of alternatives OTHER THAN ONE, no `+` in
  an alternative, no double star, pairwise distinct lower-cased names.  Each clause is sharp (see
  the witnesses below, all replayed on the Python library). -/

/-- **`choice_converters.fetch` is idempotent** on `ChoiceRefetchOK` alternatives: what a successful
    fetch returned (for ANY source words) is returned again when fetched against the same master. -/
theorem choice_refetch_identity (mws : List Word) (opt : AttrVal) (src out : List Word)
    (h : ChoiceRefetchOK mws) (hf : choiceFetch mws opt src false = .ok out) :
    choiceFetch mws opt out false = .ok out :=
  choiceFetch_refetch mws opt src out h hf

/-- **the master's own choice value is a fixed point** (`M.fetch(M)` at one definition) -/
theorem choice_self_identity (mws : List Word) (opt : AttrVal) (h : ChoiceRefetchOK mws) :
    choiceFetch mws opt mws false = .ok mws :=
  choiceFetch_self mws opt h

/-- **the specification is idempotent** -/
theorem tree_choice_spec_idempotent (mkids srcs r : List Obj) (hf : TreeMasterC mkids)
    (hr : RefetchTreeC mkids) (h : treeResultC mkids srcs = .ok r) : treeResultC mkids r = .ok r :=
  treeResultC_idem mkids srcs r hf hr h

/-- **C07 on masters with choices.**  Whenever the fetch of a `TreeMasterC` master fit for
    re-fetching succeeds with result `W`, fetching `W` again as the only source succeeds and
    returns `W`. -/
theorem tree_choice_refetch_idempotent (e : Envs) (fuel : Nat) (sm : Meta) (mkids srcs : List Obj)
    (hf : TreeMasterC mkids) (hfuel : depthL mkids < fuel) (hsd : sm.disabled = false)
    (hr : RefetchTreeC mkids) (hn : NoDollarTree mkids) (hsrc : SrcTree srcs) (hdol : SrcNoDollar srcs)
    (ro : Obj) (used : List Nat)
    (h : fetchScope e fuel false sm mkids srcs = .ok (ro, used)) :
    fetchScope e fuel false sm mkids ro.children = .ok (ro, treeUsed mkids ro.children) := by
  obtain ⟨⟨r, hres, rfl⟩, _⟩ := fetch_tree_choice_ok e fuel sm mkids srcs hf hfuel hsd hsrc ro used h
  exact Phil.tree_choice_refetch_idempotent e fuel sm mkids srcs r hf hfuel hsd hr hn hdol hres

/-- **`M.fetch(M.fetch()) = M.fetch()`**: the fetch without sources never fails on this class, and
    its result is reproduced -/
theorem tree_choice_nosource_refetch (e : Envs) (fuel : Nat) (sm : Meta) (mkids : List Obj)
    (hf : TreeMasterC mkids) (hfuel : depthL mkids < fuel) (hsd : sm.disabled = false)
    (hr : RefetchTreeC mkids) (hn : NoDollarTree mkids) (ro : Obj) (used : List Nat)
    (h : fetchScope e fuel false sm mkids [] = .ok (ro, used)) :
    fetchScope e fuel false sm mkids ro.children = .ok (ro, treeUsed mkids ro.children) :=
  tree_choice_refetch_idempotent e fuel sm mkids [] hf hfuel hsd hr hn srcTree_nil SrcNoDollar.nil ro used h


/-- **the master as its own source (specification)** -/
theorem tree_choice_spec_master_itself (mkids : List Obj) (hf : TreeMasterC mkids) (hr : RefetchTreeC mkids) :
    treeResultC mkids mkids = treeResultC mkids [] :=
  treeResultC_master_itself mkids hf hr

/-- **`M.fetch(M) = M.fetch()`** on masters with choices (results compared; the consumed ids
    differ, of course) -/
theorem tree_choice_fetch_master_itself (e : Envs) (fuel : Nat) (sm : Meta) (mkids : List Obj)
    (hf : TreeMasterC mkids) (hfuel : depthL mkids < fuel) (hsd : sm.disabled = false)
    (hr : RefetchTreeC mkids) (hn : NoDollarTree mkids) :
    (fetchScope e fuel false sm mkids mkids).map (·.1) = (fetchScope e fuel false sm mkids []).map (·.1) :=
  Phil.tree_choice_fetch_master_itself e fuel sm mkids hf hfuel hsd hr hn

/-- executable form of `RefetchTreeC` and `NoDollarTree` -/
def refetchCheckC (mkids : List Obj) : Bool :=
  allActive (fun d => !d.isDefn ||
    (d.meta.tmpl == 0 && d.meta.varRes.isNone && !hasDollar d.words &&
      !(d.meta.attrs.get "deprecated").truthy &&
      (match d.meta.attrs.get "type" with
       | .conv (.choice _) => choiceRefetchOKB d.words
       | _ => true))) mkids

theorem refetchCheckC_sound (mkids : List Obj) (h : refetchCheckC mkids = true) :
    RefetchTreeC mkids ∧ NoDollarTree mkids := by
  unfold refetchCheckC at h
  have key : ∀ d, ActiveIn d mkids → d.isDefn = true →
      DefRefetchOK d.meta d.words ∧ hasDollar d.words = false := by
    intro d hd hdef
    have := allActive_sound _ hd h
    simp only [hdef, Bool.not_true, Bool.false_or, Bool.and_eq_true, beq_iff_eq,
      Option.isNone_iff_eq_none, Bool.not_eq_true'] at this
    refine ⟨⟨this.1.1.1.1, this.1.1.1.2, this.1.2, ?_⟩, this.1.1.2⟩
    intro b hb
    have h2 := this.2
    rw [hb] at h2
    exact choiceRefetchOKB_sound _ h2
  exact ⟨fun d hd hdef => (key d hd hdef).1, fun d hd hdef => (key d hd hdef).2⟩


/-- **`M.fetch(M.fetch(S)) = M.fetch(S)`** on parsed roots, executable side conditions -/
theorem fetchRoot_tree_choice_refetch (e : Envs) (master : List Obj) (ss : List (List Obj))
    (hm : masterCheckC master = true) (hr : refetchCheckC master = true)
    (hs : srcCheck ss.flatten = true) (ro : Obj) (used : List Nat)
    (h : fetchRoot e false master ss = .ok (ro, used)) :
    fetchRoot e false master [ro.children] = .ok (ro, treeUsed master ro.children) := by
  have hM := masterCheckC_sound master hm
  have hR := refetchCheckC_sound master hr
  have hS := srcCheck_sound ss.flatten hs
  have := tree_choice_refetch_idempotent e _ _ master ss.flatten hM.1
    (fetchRoot_fuel_tree master hM.2.1) rfl hR.1 hR.2 hS.tree hS.noDollar ro used h
  have hfl : ([ro.children] : List (List Obj)).flatten = ro.children := by simp
  unfold fetchRoot
  rw [hfl]
  exact this

/-- **`M.fetch(M) = M.fetch()`** on parsed roots -/
theorem fetchRoot_tree_choice_master_itself (e : Envs) (master : List Obj)
    (hm : masterCheckC master = true) (hr : refetchCheckC master = true) :
    (fetchRoot e false master [master]).map (·.1) = (fetchRoot e false master []).map (·.1) := by
  have hM := masterCheckC_sound master hm
  have hR := refetchCheckC_sound master hr
  have := tree_choice_fetch_master_itself e _ { name := [], id := some 0 } master hM.1
    (fetchRoot_fuel_tree master hM.2.1) rfl hR.1 hR.2
  have hfl : ([master] : List (List Obj)).flatten = master := by simp
  unfold fetchRoot
  rw [hfl]
  exact this

/-! ### non-vacuity and sharpness -/

/-- the `chM` master without its deprecated choice: fit for re-fetching -/
def chM2 : List Obj := C06.objsOf
  "s {\n c = a *b\n .type=choice\n k = x y z\n .type=choice(multi=True)\n t { d = 1 }\n}\n"

section
attribute [local instance] objDecEq

theorem chM2_eq : chM2 =
    [
      .scope { name := "s".toList, id := some 1, line := some 1 } [
        .defn
          { name := "c".toList, id := some 2, line := some 2, attrs := [("type", .conv (.choice false))] }
          [{ value := "a".toList, line := some 2 }, { value := "*b".toList, line := some 2 }],
        .defn
          { name := "k".toList, id := some 3, line := some 4, attrs := [("type", .conv (.choice true))] }
          [{ value := "x".toList, line := some 4 }, { value := "y".toList, line := some 4 },
          { value := "z".toList, line := some 4 }],
        .scope { name := "t".toList, id := some 4, line := some 6 } [
          .defn { name := "d".toList, id := some 5, line := some 6 }
            [{ value := "1".toList, line := some 6 }]]]] := by
  unfold chM2
  rw [C06.objsOf_ofList]
  decide +kernel

end

example : (masterCheckC chM2 && refetchCheckC chM2 && srcCheck chS) = true := by
  rw [chM2_eq, chS_eq]
  decide +kernel

/-- the instance: first fetch and re-fetch agree in the model, on a non-trivial source -/
example :
    (match fetchRoot env12 false chM2 [chS] with
     | .ok (ro, _) => (match fetchRoot env12 false chM2 [ro.children] with
        | .ok (ro2, _) => some (C06.valsOf ro.children, C06.valsOf ro2.children == C06.valsOf ro.children)
        | .error _ => none)
     | .error _ => none) =
      some ([("s.c", ["*a", "b"]), ("s.k", ["*x", "y", "*z"]), ("s.t.d", ["5"])], true) := by
  rw [chM2_eq, chS_eq]
  decide +kernel


/-- the theorem applied to the instance: the re-fetch of whatever `chM2.fetch(chS)` returned -/
example (ro : Obj) (used : List Nat) (h : fetchRoot env12 false chM2 [chS] = .ok (ro, used)) :
    (fetchRoot env12 false chM2 [ro.children]).map (·.1) = .ok ro := by
  have hfl : ([chS] : List (List Obj)).flatten = chS := by simp
  rw [fetchRoot_tree_choice_refetch env12 chM2 [chS] (by rw [chM2_eq]; decide +kernel)
    (by rw [chM2_eq]; decide +kernel) (by rw [hfl, chS_eq]; decide +kernel) ro used h]
  rfl

/-- `M.fetch(M) = M.fetch()` on the instance, in the model -/
example : (match fetchRoot env12 false chM2 [chM2], fetchRoot env12 false chM2 [] with
    | .ok (a, _), .ok (b, _) => C06.valsOf a.children == C06.valsOf b.children && C06.valsOf a.children ==
        [("s.c", ["a", "*b"]), ("s.k", ["x", "y", "z"]), ("s.t.d", ["1"])]
    | _, _ => false) = true := by
  rw [chM2_eq]
  decide +kernel

def twice (m s : List Obj) : Option (List String) × Option (List String) × Bool :=
  (C11.wordsAt (treeResultC m s) [] "c",
   C11.wordsAt (match treeResultC m s with | .ok r => treeResultC m r | .error err => .error err) [] "c",
   match treeResultC m s with
   | .ok r => (match treeResultC m r with | .ok _ => true | .error _ => false)
   | .error _ => false)

def plusM : List Obj := C06.objsOf "c = a+b d\n.type=choice\n"
def dupM : List Obj := C06.objsOf "c = *a A\n.type=choice(multi=True)\n"
def dblM : List Obj := C06.objsOf "c = **a b\n.type=choice(multi=True)\n"
def depChM : List Obj := C06.objsOf "c = p *q\n.type=choice\n.deprecated=True\n"

/-- sharp: an alternative with `+` — `M.fetch()` keeps `a+b d`, the re-fetch raises Sorry ("Not a
    possible choice for c: a"); Python agrees -/
theorem plus_alternative_refetch_fails : twice plusM [] = (some ["a+b", "d"], none, false) := by
  unfold plusM
  rw [C06.objsOf_ofList]
  decide +kernel

/-- sharp: two alternatives with the same lower-cased name — `M.fetch()` keeps `*a A`, the re-fetch
    gives `a A`; Python agrees -/
theorem duplicate_key_refetch_unstars : twice dupM [] = (some ["*a", "A"], some ["a", "A"], true) := by
  unfold dupM
  rw [C06.objsOf_ofList]
  decide +kernel

/-- sharp: a double star — with the source `c = b` the fetch gives `*a *b`, the re-fetch raises
    Sorry ("Not a possible choice for c: a"); Python agrees -/
theorem double_star_refetch_fails :
    twice dblM (C06.objsOf "c = b\n") = (some ["*a", "*b"], none, false) := by
  unfold dblM
  rw [C06.objsOf_ofList, C06.objsOf_ofList]
  decide +kernel

/-- sharp (and a C07 counterexample on the library): a DEPRECATED choice `c = p *q` with the source
    `c = q` is kept as `c = p *q` (the source text differs from the default), but the re-fetch sees
    the default's own text and DROPS the definition; Python: `[o.name for o in W.objects] = ['c']`,
    `M.fetch(W).objects = []` -/
theorem deprecated_choice_dropped_by_refetch :
    twice depChM (C06.objsOf "c = q\n") = (some ["p", "*q"], none, true) := by
  unfold depChM
  rw [C06.objsOf_ofList, C06.objsOf_ofList]
  decide +kernel

/-- sharp: the single-alternative witness of Phil/Props/C11Tree.lean is exactly what
    `ChoiceRefetchOK.notOne` excludes -/
theorem single_alternative_not_ok : refetchCheckC C11.oneAltM = false := by
  unfold C11.oneAltM
  rw [C06.objsOf_ofList]
  decide +kernel

end Phil.C07C

#print axioms Phil.C07C.tree_choice_used_exact
#print axioms Phil.C07C.tree_choice_unused_exact
#print axioms Phil.C07C.reported_iff_tree_choice
#print axioms Phil.C07C.masterCheckC_sound
#print axioms Phil.C07C.fetchRoot_tree_choice_unused_exact
#print axioms Phil.C07C.choice_refetch_identity
#print axioms Phil.C07C.choice_self_identity
#print axioms Phil.C07C.tree_choice_spec_idempotent
#print axioms Phil.C07C.tree_choice_refetch_idempotent
#print axioms Phil.C07C.tree_choice_nosource_refetch
#print axioms Phil.C07C.refetchCheckC_sound
#print axioms Phil.C07C.tree_choice_spec_master_itself
#print axioms Phil.C07C.tree_choice_fetch_master_itself
#print axioms Phil.C07C.fetchRoot_tree_choice_refetch
#print axioms Phil.C07C.fetchRoot_tree_choice_master_itself
#print axioms Phil.C07C.plus_alternative_refetch_fails
#print axioms Phil.C07C.duplicate_key_refetch_unstars
#print axioms Phil.C07C.double_star_refetch_fails
#print axioms Phil.C07C.deprecated_choice_dropped_by_refetch
#print axioms Phil.C07C.single_alternative_not_ok
