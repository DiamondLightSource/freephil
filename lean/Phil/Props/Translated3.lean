/-
  Phil.Props.Translated3 — translated pieces (harness/translate.py, Phil/Generated/Translated.lean)
  proved EQUAL to the hand-written model: `number_from_value_string` (C10), `full_path` (C18/C13), the printer
  decisions of `definition.show` / `show_attributes` (C01, C19, C04).
-/
import Phil.Generated.Translated
import Phil.Conv
import Phil.Show
import Phil.IncludeParents
import Phil.Props.Translated
namespace Phil.Translated3

/-! ### converters.number_from_value_string

Python computes `value_string.lower().strip()`, the model `lower (strip s)`.  With the model's ASCII `lower` and
the `str.isspace` table `isSpace` the two commute on ALL strings (an ASCII capital and its lower-case letter are both
non-space; every other character is unchanged). -/

theorem toNat_ofNat_small (n : Nat) (h : n < 0xd800) : (Char.ofNat n).toNat = n := by
  have hv : n.isValidChar := Or.inl h
  simp only [Char.ofNat, hv, dite_true]
  show (Char.ofNatAux n hv).val.toNat = n
  unfold Char.ofNatAux
  rfl

theorem isSpace_lowerChar (c : Char) : isSpace (lowerChar c) = isSpace c := by
  unfold lowerChar
  split
  · rename_i h
    have hA : 'A'.toNat = 65 := by decide
    have hZ : 'Z'.toNat = 90 := by decide
    simp only [isUpperAscii, Bool.and_eq_true, decide_eq_true_eq, hA, hZ] at h
    have hv := toNat_ofNat_small (c.toNat + 32) (by omega)
    have e1 : isSpace (Char.ofNat (c.toNat + 32)) = false := by
      unfold isSpace
      simp only [hv]
      simp only [Bool.or_eq_false_iff, Bool.and_eq_false_iff, decide_eq_false_iff_not, beq_eq_false_iff_ne]
      omega
    have e2 : isSpace c = false := by
      unfold isSpace
      simp only [Bool.or_eq_false_iff, Bool.and_eq_false_iff, decide_eq_false_iff_not, beq_eq_false_iff_ne]
      omega
    rw [e1, e2]
  · rfl

theorem dropWhile_isSpace_lower (s : Str) : (lower s).dropWhile isSpace = lower (s.dropWhile isSpace) := by
  induction s with
  | nil => rfl
  | cons c r ih =>
    show (lowerChar c :: lower r).dropWhile isSpace = _
    simp only [List.dropWhile_cons, isSpace_lowerChar]
    split
    · exact ih
    · rfl

theorem lower_reverse (s : Str) : lower s.reverse = (lower s).reverse := by
  simp [lower, List.map_reverse]

/-- `.lower().strip()` (Python's order) = `lower (strip s)` (the model's order): all strings -/
theorem strip_lower (s : Str) : strip (lower s) = lower (strip s) := by
  unfold strip
  rw [dropWhile_isSpace_lower, ← lower_reverse, dropWhile_isSpace_lower, lower_reverse]

theorem lit_none : ("none".toList : Str) = ['n','o','n','e'] := by decide
theorem lit_auto : ("auto".toList : Str) = ['a','u','t','o'] := by decide

/-- the continuation of `number_from_value_string` after the spelling checks (`int(value_string)`, then
    `eval(value_string, math.__dict__, {})`): the harness's eval answer for the text -/
def evalTail (env : EvalEnv) (ws : List Word) (s : Str) : R PVal :=
  match env s with
  | Option.none => .error (.unsupported "value string without an eval answer")
  | some (.num n) => .ok (.num n)
  | some (.bool b) => .ok (.bool b)
  | some .noneVal => .ok .none
  | some .other => .ok (.str [])
  | some .raises => .error (wordsErr "numeric_expected" ws)

/-- the translated `number_from_value_string` on a `str` object is the model's `numberFromValueString`
    (all strings, all word lists, all eval environments) -/
theorem number_from_value_string_eq (env : EvalEnv) (ws : List Word) (s : Str) :
    Gen.number_from_value_string (evalTail env ws s) (.str s) ws = numberFromValueString env ws s := by
  unfold Gen.number_from_value_string numberFromValueString evalTail
  simp only [Py.isNone, Py.isAuto, Py.strOf, Py.lower, strip_lower, Py.where_, wordsErr, Bool.false_eq_true, if_false]
  have e1 : ("true".toList : Str) = ['t','r','u','e'] := by decide
  have e2 : ("false".toList : Str) = ['f','a','l','s','e'] := by decide
  rw [e1, e2, lit_none, lit_auto]
  simp only [List.contains_cons, List.contains_nil, Bool.or_false]
  rfl

/-- on `None` / `Auto` the function returns the object (the model handles these at the word-list level) -/
theorem number_from_value_string_none (t : R PVal) (ws : List Word) :
    Gen.number_from_value_string t .none ws = .ok .none := rfl
theorem number_from_value_string_auto (t : R PVal) (ws : List Word) :
    Gen.number_from_value_string t .auto ws = .ok .auto := rfl

example : Gen.number_from_value_string (.ok (.num (.int 7))) (.str " \tNoNe ".toList) [] = .ok .none := by rfl
example : Gen.number_from_value_string (.ok (.num (.int 7))) (.str " TRUE\n".toList) [{ value := "x".toList, line := some 3 }]
    = .error (.runtime "numeric_expected" (some 3)) := by rfl

/-! ### common.full_path

The translator turns `while pps is not None:` over `primary_parent_scope` into a structural recursion over the
list of the ancestors' names (innermost first; the end of the list is `None`).  The model's parent chain is a
`PChain` (Phil/IncludeParents.lean); its names are `par.map (·.name)`. -/

theorem full_path_climb_eq (ps : PChain) (acc : List Str) :
    Gen.full_path_climb (ps.map (·.name)) acc = acc ++ climbNames ps := by
  induction ps generalizing acc with
  | nil => simp [Gen.full_path_climb, climbNames]
  | cons f rest ih =>
    simp only [List.map_cons, Gen.full_path_climb, climbNames]
    cases hn : f.name with
    | nil => simp
    | cons c cs =>
      have h1 : ((c :: cs) == ([] : Str)) = false := rfl
      simp only [h1, Bool.false_eq_true, if_false, List.isEmpty_cons, ih]
      simp

/-- the translated `full_path` on the names of a parent chain is the model's `fullPathOf` (all names, all chains) -/
theorem full_path_eq (name : Str) (par : PChain) :
    Gen.full_path name (par.map (·.name)) = fullPathOf name par := by
  unfold Gen.full_path fullPathOf Py.join
  simp only [full_path_climb_eq]
  rfl

/-- `o.full_path()` of an object with parent links -/
theorem full_path_obj_eq (o : PObj) : Gen.full_path o.name (o.par.map (·.name)) = fullPathP o :=
  full_path_eq o.name o.par

example : Gen.full_path "d".toList ["b.c".toList, "a".toList, [], "zz".toList] = "a.b.c.d".toList := by
  decide +kernel

/-! ### printer decisions: show_attributes -/

theorem attrIsNone_eq (v : AttrVal) : Py.attrIsNone v = v.isNone := by cases v <;> rfl
theorem attrTruthy_eq (v : AttrVal) : Py.attrTruthy v = v.truthy := by cases v <;> rfl

theorem name_beq (name lit : String) : (name.toList == lit.toList) = (name == lit) := by
  rw [Bool.eq_iff_iff]
  simp only [beq_iff_eq]
  exact String.toList_inj

theorem lit_help : (['h', 'e', 'l', 'p'] : Str) = "help".toList := by decide
theorem lit_alias : (['a', 'l', 'i', 'a', 's'] : Str) = "alias".toList := by decide
theorem lit_deprecated : (['d', 'e', 'p', 'r', 'e', 'c', 'a', 't', 'e', 'd'] : Str) = "deprecated".toList := by
  decide +kernel

/-- `if attributes_level <= 0: return` -/
theorem attr_level_off_eq (level : Int) : Gen.attr_level_off level = decide (level ≤ 0) := rfl

/-- `(name == "deprecated") and (not value)` -/
theorem attr_skip_deprecated_eq (name : String) (v : AttrVal) :
    Gen.attr_skip_deprecated name.toList v = (name == "deprecated" && !v.truthy) := by
  unfold Gen.attr_skip_deprecated
  rw [lit_deprecated, name_beq, attrTruthy_eq]

/-- the level gate: which attribute is printed at which `attributes_level` (the chain of `or`s) -/
theorem attr_level_gate_eq (name : String) (v : AttrVal) (level : Int) :
    Gen.attr_level_gate name.toList v level
      = ((name == "help" && !v.isNone) || (name == "alias" && !v.isNone) ||
         (!v.isNone && decide (level > 1)) || decide (level > 2)) := by
  unfold Gen.attr_level_gate
  rw [lit_help, lit_alias, name_beq, name_beq, attrIsNone_eq]

/-- `(name == "alias") and (value is None)` -/
theorem attr_skip_alias_eq (name : String) (v : AttrVal) :
    Gen.attr_skip_alias name.toList v = (name == "alias" && v.isNone) := by
  unfold Gen.attr_skip_alias
  rw [lit_alias, name_beq, attrIsNone_eq]

/-- `indent = prefix + " " * (3 + len(name) + 3)` -/
theorem attr_indent_eq (pfx : Str) (name : String) :
    Gen.attr_indent pfx name.toList = pfx ++ spaces (3 + name.length + 3) := by
  unfold Gen.attr_indent Py.repeat_ Py.len spaces
  rw [List.flatten_replicate_singleton]
  congr 2

/-- `fits_on_one_line = len(indent + value) < print_width` (both assignments) -/
theorem attr_fits_eq (indent v : Str) (width : Int) :
    Gen.attr_fits indent v width = decide (((indent ++ v).length : Int) < width) := rfl
theorem attr_fits_quoted_eq (indent v : Str) (width : Int) :
    Gen.attr_fits_quoted indent v width = decide (((indent ++ v).length : Int) < width) := rfl

theorem lit_none_auto (t : Str) :
    ([['n', 'o', 'n', 'e'], ['a', 'u', 't', 'o']] : List Str).contains t
      = (t == "none".toList || t == "auto".toList) := by
  rw [lit_none, lit_auto]
  simp only [List.contains_cons, List.contains_nil, Bool.or_false]

/-- the quoting decision for a string attribute: not a standard identifier, or `lower()` in (none, auto), or does
    not fit -/
theorem attr_need_quote_eq (v : Str) (fits : Bool) :
    Gen.attr_need_quote v fits
      = (!isStdIdent v || lower v == "none".toList || lower v == "auto".toList || !fits) := by
  unfold Gen.attr_need_quote
  rw [Translated.is_standard_identifier_eq, lit_none_auto, Py.lower]
  simp only [Bool.or_assoc]

/-- one attribute of `show_attributes`, written with the TRANSLATED decisions (the statements between them —
    the `print` calls, `str(tokenizer.word(...))`, `textwrap.wrap` — as in the model) -/
def attrStepGen (attrs : Attrs) (prefix_ : Str) (level width : Int) (out : List Str) (name : String) : R (List Str) :=
  let value := attrs.get name
  if Gen.attr_skip_deprecated name.toList value then .ok out
  else if Gen.attr_level_gate name.toList value level then
    if Gen.attr_skip_alias name.toList value then .ok out
    else
      let head := prefix_ ++ "  .".toList ++ name.toList ++ " = ".toList
      match value with
      | .str v =>
        let indent := Gen.attr_indent prefix_ name.toList
        let fits0 := Gen.attr_fits indent v width
        let needQuote := Gen.attr_need_quote v fits0
        let v' := if needQuote then quoteStr .d1 v else v
        let fits1 := if needQuote then Gen.attr_fits_quoted indent v' width else fits0
        if fits1 then .ok (out ++ [head ++ v'])
        else
          let w : Int := width - 2 - indent.length
          if w ≤ 0 then .error (.stray "ValueError" "textwrap_width")
          else if v'.contains '\t' then .error (.unsupported "tab in wrapped attribute")
          else
            let inner := (v'.drop 1).take (v'.length - 2)
            let blocks := twWrap inner w.toNat
            let lines := blocks.zipIdx.map fun (b, i) =>
              if i == 0 then head ++ '"' :: b ++ ['"'] else indent ++ '"' :: b ++ ['"']
            .ok (out ++ lines)
      | v => .ok (out ++ [head ++ v.pyStr])
  else .ok out

theorem bool_if {α : Type} (p : Prop) [Decidable p] (a b : α) :
    (if decide p = true then a else b) = (if p then a else b) := by
  by_cases h : p <;> simp [h]

/-- the model's `showAttributes` is the loop over the attribute names with the translated decisions
    (all name lists, attribute tables, prefixes, levels, widths) -/
theorem showAttributes_eq_gen (names : List String) (attrs : Attrs) (prefix_ : Str) (level width : Int) :
    showAttributes names attrs prefix_ level width
      = if Gen.attr_level_off level then .ok []
        else names.foldlM (init := []) (attrStepGen attrs prefix_ level width) := by
  unfold showAttributes
  rw [attr_level_off_eq, bool_if]
  congr 2
  funext out name
  unfold attrStepGen
  simp only [attr_skip_deprecated_eq, attr_level_gate_eq, attr_skip_alias_eq, attr_indent_eq, attr_fits_eq,
    attr_fits_quoted_eq, attr_need_quote_eq]
  cases attrs.get name with
  | str v =>
    dsimp only
    cases hq : (!isStdIdent v || lower v == "none".toList || lower v == "auto".toList ||
        !decide (((prefix_ ++ spaces (3 + name.length + 3) ++ v).length : Int) < width))
    · simp only [Bool.false_eq_true, if_false]
    · simp only [if_true]
  | none => rfl
  | auto => rfl
  | bool b => rfl
  | int i => rfl
  | conv c => rfl

/-! ### printer decisions: definition.show / scope.show -/

/-- an `expert_level` attribute that holds `None` or an int (what the parser's `int` converter stores) -/
def optIntAttr : Option Int → AttrVal
  | Option.none => .none
  | some e => .int e

/-- the expert gate `self.expert_level is not None and expert_level is not None and expert_level >= 0 and
    self.expert_level > expert_level` is the model's `expertHidden` (all `None`-able ints) -/
theorem definition_expert_gate_eq (e k : Option Int) :
    expertHidden (optIntAttr e) k = .ok (Gen.definition_expert_gate e k) := by
  cases e <;> cases k <;> simp [expertHidden, optIntAttr, Gen.definition_expert_gate, Py.getInt]

theorem scope_expert_gate_eq (e k : Option Int) :
    expertHidden (optIntAttr e) k = .ok (Gen.scope_expert_gate e k) := definition_expert_gate_eq e k

/-- the `None`-able-int hypothesis on the attribute is sharp: with a string in `.expert_level` Python's `>` raises
    TypeError (model: a stray error), the translated Boolean expression cannot -/
theorem expert_gate_str_raises :
    expertHidden (.str "x".toList) (some 0) = .error (.stray "TypeError" "expert_level_compare") := by rfl

/-- `self.is_template < 0 and attributes_level < 2` -/
theorem definition_template_gate_eq (tmpl level : Int) :
    Gen.definition_template_gate tmpl level = (decide (tmpl < 0) && decide (level < 2)) := rfl
theorem scope_template_gate_eq (tmpl level : Int) :
    Gen.scope_template_gate tmpl level = (decide (tmpl < 0) && decide (level < 2)) := rfl

/-- `self.deprecated and attributes_level < 3` -/
theorem definition_deprecated_gate_eq (dep : AttrVal) (level : Int) :
    Gen.definition_deprecated_gate dep level = (dep.truthy && decide (level < 3)) := by
  unfold Gen.definition_deprecated_gate
  rw [attrTruthy_eq]

/-- the rest of the model's `showDefn` after its three gates: the name line, the words and the attributes -/
def showDefnBody (o : ShowOpts) (m : Meta) (words : List Word) (merged : List Str) (prefix_ : Str) : R (List Str) :=
  let dep := (m.attrs.get "deprecated").truthy
  let hash : Str := if m.disabled then ['!'] else []
  let line0 := prefix_ ++ hash ++ joinWith ['.'] (merged ++ [m.name])
  let line := if m.name != "include".toList then line0 ++ " =".toList else line0
  let indent := prefix_ ++ spaces (line.length - prefix_.length)
  let warn := if dep then [prefix_ ++ "# WARNING: deprecated parameter".toList] else []
  let body := showWords o.width indent words line []
  match showAttributes defAttrNames m.attrs prefix_ o.level o.width with
  | .error e => .error e
  | .ok attrs => .ok (warn ++ body ++ attrs)

/-- `definition.show` on a definition whose `expert_level` is `None` or an int: the three translated gates, then the
    body -/
theorem showDefn_gates (o : ShowOpts) (m : Meta) (words : List Word) (merged : List Str) (prefix_ : Str)
    (e : Option Int) (he : m.attrs.get "expert_level" = optIntAttr e) :
    showDefn o m words merged prefix_
      = if Gen.definition_template_gate m.tmpl o.level
            || Gen.definition_deprecated_gate (m.attrs.get "deprecated") o.level
            || Gen.definition_expert_gate e o.expert then .ok []
        else showDefnBody o m words merged prefix_ := by
  unfold showDefn showDefnBody
  dsimp only
  rw [he, definition_expert_gate_eq, definition_template_gate_eq, definition_deprecated_gate_eq]
  cases (decide (m.tmpl < 0) && decide (o.level < 2)) <;>
    cases ((m.attrs.get "deprecated").truthy && decide (o.level < 3)) <;>
    cases Gen.definition_expert_gate e o.expert <;> rfl

/-- the three gates of `definition.show` in the translated form: a definition whose `expert_level` is `None` or an
    int prints nothing exactly when one of them holds … -/
theorem showDefn_hidden (o : ShowOpts) (m : Meta) (words : List Word) (merged : List Str) (prefix_ : Str)
    (e : Option Int) (he : m.attrs.get "expert_level" = optIntAttr e)
    (h : (Gen.definition_template_gate m.tmpl o.level
          || Gen.definition_deprecated_gate (m.attrs.get "deprecated") o.level
          || Gen.definition_expert_gate e o.expert) = true) :
    showDefn o m words merged prefix_ = .ok [] := by
  rw [showDefn_gates o m words merged prefix_ e he, if_pos h]

/-- … and otherwise prints the name line, the words and the attributes (`showDefnBody`) -/
theorem showDefn_shown (o : ShowOpts) (m : Meta) (words : List Word) (merged : List Str) (prefix_ : Str)
    (e : Option Int) (he : m.attrs.get "expert_level" = optIntAttr e)
    (h : (Gen.definition_template_gate m.tmpl o.level
          || Gen.definition_deprecated_gate (m.attrs.get "deprecated") o.level
          || Gen.definition_expert_gate e o.expert) = false) :
    showDefn o m words merged prefix_ = showDefnBody o m words merged prefix_ := by
  rw [showDefn_gates o m words merged prefix_ e he, h]
  rfl

/-- the line-continuation test of the word loop of `definition.show`:
    `len(line_plus) > print_width - 2 and len(line) > len(indent)` -/
theorem definition_wrap_test_eq (linePlus line indent : Str) (width : Int) :
    Gen.definition_wrap_test linePlus width line indent
      = (decide ((linePlus.length : Int) > width - 2) && decide (line.length > indent.length)) := by
  unfold Gen.definition_wrap_test Py.len
  congr 1
  simp

/-- one step of the model's word loop with the translated test -/
theorem showWords_cons_gen (width : Int) (indent : Str) (w : Word) (ws : List Word) (line : Str) (out : List Str) :
    showWords width indent (w :: ws) line out
      = if Gen.definition_wrap_test (line ++ ' ' :: w.str) width line indent then
          showWords width indent ws (indent ++ ' ' :: w.str) (out ++ [line ++ " \\".toList])
        else showWords width indent ws (line ++ ' ' :: w.str) out := by
  rw [definition_wrap_test_eq]
  rfl

/-! concrete instances (hypotheses satisfiable; the decisions on parsed input) -/

def okAnd3 {α : Type} (x : R α) (p : α → Bool) : Bool := match x with | .ok a => p a | .error _ => false

/-- `full_path_obj_eq` on every object of a parsed text (Python: `['s', 's.t', 's.t.u', 's.t.u.a']`) -/
example : okAnd3 (parseObjs "s {\n t.u {\n  a = 1\n }\n}\n".toList) (fun objs =>
    (nodesP (annotL (rootChain objs) objs)).map (fun o => Gen.full_path o.name (o.par.map (·.name)))
      == ["s".toList, "s.t".toList, "s.t.u".toList, "s.t.u.a".toList]) = true := by
  repeat rw [String.toList_ofList]
  decide +kernel

/-- the hypotheses of `showDefn_hidden` (expert level 1) and `showDefn_shown` (expert level 2) hold on a parsed
    definition with `.expert_level = 2` -/
example : okAnd3 (parseObjs "a = 1\n  .expert_level = 2\n  .help = None\n".toList) (fun objs => match objs with
    | [.defn m _] => decide (m.attrs.get "expert_level" = optIntAttr (some 2))
        && (Gen.definition_template_gate m.tmpl 0 || Gen.definition_deprecated_gate (m.attrs.get "deprecated") 0
            || Gen.definition_expert_gate (some 2) (some 1))
        && !(Gen.definition_template_gate m.tmpl 0 || Gen.definition_deprecated_gate (m.attrs.get "deprecated") 0
            || Gen.definition_expert_gate (some 2) (some 2))
    | _ => false) = true := by
  repeat rw [String.toList_ofList]
  decide +kernel

example : Gen.attr_need_quote "None".toList true = true := by decide +kernel
example : Gen.attr_need_quote "a b".toList true = true := by decide +kernel
example : Gen.attr_need_quote "a.b".toList true = false := by decide +kernel
example : Gen.attr_need_quote "a.b".toList false = true := by decide +kernel
example : Gen.attr_level_gate "help".toList (.str "x".toList) 1 = true := by decide
example : Gen.attr_level_gate "caption".toList (.str "x".toList) 1 = false := by decide
example : Gen.attr_level_gate "caption".toList .none 3 = true := by decide
example : Gen.definition_expert_gate (some 2) (some 1) = true := by decide
example : Gen.definition_expert_gate (some 2) (some (-1)) = false := by decide
example : Gen.attr_indent "  ".toList "help".toList = "            ".toList := by decide +kernel

end Phil.Translated3

#print axioms Phil.Translated3.full_path_eq
#print axioms Phil.Translated3.full_path_obj_eq
#print axioms Phil.Translated3.attr_level_off_eq
#print axioms Phil.Translated3.attr_skip_deprecated_eq
#print axioms Phil.Translated3.attr_level_gate_eq
#print axioms Phil.Translated3.attr_skip_alias_eq
#print axioms Phil.Translated3.attr_indent_eq
#print axioms Phil.Translated3.attr_fits_eq
#print axioms Phil.Translated3.attr_fits_quoted_eq
#print axioms Phil.Translated3.attr_need_quote_eq
#print axioms Phil.Translated3.showAttributes_eq_gen
#print axioms Phil.Translated3.definition_expert_gate_eq
#print axioms Phil.Translated3.scope_expert_gate_eq
#print axioms Phil.Translated3.expert_gate_str_raises
#print axioms Phil.Translated3.definition_template_gate_eq
#print axioms Phil.Translated3.scope_template_gate_eq
#print axioms Phil.Translated3.definition_deprecated_gate_eq
#print axioms Phil.Translated3.showDefn_hidden
#print axioms Phil.Translated3.showDefn_shown
#print axioms Phil.Translated3.definition_wrap_test_eq
#print axioms Phil.Translated3.showWords_cons_gen



#print axioms Phil.Translated3.strip_lower
#print axioms Phil.Translated3.number_from_value_string_eq
