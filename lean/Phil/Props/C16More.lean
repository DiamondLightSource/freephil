/-
  C16 (remaining entry points) — User mistakes surface as RuntimeError or Sorry, never as internal
  errors; every call returns.  Also the C01/C19-facing fact "printing a parsed tree fails only at two
  named sites".

    A. the printer (`scope.as_str`, `Phil.Show`): the exact failure function (`asStr_error_iff`), the two
       stray sites characterised (`expert_site_iff`, `width_site_iff`), every failure has a witness in the
       tree (`asStr_error_witness`), parser outputs carry only None / Auto / integer expert levels
       (`parsed_expert_levels`; **Auto is reachable and strays** — `parsed_auto_level_strays`, a finding
       replayed on Python), the sharp width bound `2·depth + 26` (`asStr_wide_no_valueerror`,
       `width_bound_sharp`), totality on parser outputs (`asStr_parsed_total`).
    B. variable resolution (`Phil.Vars`).   C. include expansion (`Phil.Include`).
    D. fetch on masters with `.multiple` scopes.   E. the index machine (citations of C20).
  Property theorems only; lemmas are in Phil/Proofs/NoStray2.lean.
-/
import Phil.Proofs.NoStray2
import Phil.Props.C05TreeMS
import Phil.Index
namespace Phil.C16
open Phil

local instance exceptDecEqC16More {ε α : Type} [DecidableEq ε] [DecidableEq α] : DecidableEq (Except ε α) :=
  fun a b =>
  match a, b with
  | .ok x, .ok y => if h : x = y then isTrue (by rw [h]) else isFalse (fun h' => by cases h'; exact h rfl)
  | .error x, .error y => if h : x = y then isTrue (by rw [h]) else isFalse (fun h' => by cases h'; exact h rfl)
  | .ok _, .error _ => isFalse (fun h => by cases h)
  | .error _, .ok _ => isFalse (fun h => by cases h)

/-! ### A. the printer -/

/-- **Exact failure function of `scope.as_str`.**  For every tree, every expert level, attributes level,
    width and prefix: printing fails with `e` iff `showFail` — a structural recursion over the tree that
    visits the sites in print order — returns `e`.  (Validated against Python on 600 random parsed
    documents × options: same exception class in every case.) -/
theorem asStr_error_iff (o : ShowOpts) (root : Obj) (pre : Str) (e : Err) :
    asStr o root pre = .error e ↔ showFail o root pre.length = some e := by
  rw [← asStr_fail_n2, errOf_eq_some_n2]

theorem asStr_ok_iff (o : ShowOpts) (root : Obj) (pre : Str) :
    (∃ s, asStr o root pre = .ok s) ↔ showFail o root pre.length = none := by
  rw [← asStr_fail_n2, errOf_eq_none_n2]

/-- **Stray site 1, `self.expert_level > expert_level`** fires iff the gate is on (`expert_level=k`,
    `k ≥ 0`) and the object's own level is neither unset nor an integer. -/
theorem expert_site_iff (own : AttrVal) (k : Option Int) (e : Err) :
    expertHidden own k = .error e ↔
      e = .stray "TypeError" "expert_level_compare" ∧ (∃ k', k = some k' ∧ 0 ≤ k') ∧ expertOkVal own = false := by
  constructor
  · exact expertHidden_error_n2 own k e
  · rintro ⟨h1, ⟨k', h2, h3⟩, h4⟩
    subst h1 h2
    cases own <;> simp [expertOkVal] at h4 <;> simp [expertHidden, h3]

/-- **Stray site 2, `textwrap.wrap(width ≤ 0)`** fires for a shown attribute iff its value is a string
    that has to be quoted (not an identifier, or None/Auto, or too long for the line) and
    `width ≤ indent + 2`, where `indent = |prefix| + |name| + 6`. -/
theorem width_site_iff (pre : Str) (width : Int) (name : String) (v : AttrVal) :
    attrLines pre width name v = .error (.stray "ValueError" "textwrap_width") ↔
      ∃ s, v = .str s ∧ needsQuote (pre.length + (3 + name.length + 3)) width s = true ∧
        width ≤ ((pre.length + (3 + name.length + 3) + 2 : Nat) : Int) := by
  rw [← errOf_eq_some_n2, attrLines_fail_n2]
  constructor
  · intro h
    rcases attrFail_cases_n2 _ _ _ _ _ h with ⟨_, h⟩ | h
    · exact h
    · cases h
  · rintro ⟨s, rfl, hq, hw⟩
    rw [attrFail, if_pos hq, if_pos hw]

/-- **Every failure of the printer has a witness in the tree** (any tree, any options): an object whose
    expert level is neither unset nor an integer (gate on), or a string attribute `n` with
    `width ≤ |prefix| + 2·depth + |n| + 8`, or a tab in a wrapped value (outside the model) — the last
    two only when attributes are shown. -/
theorem asStr_error_witness (o : ShowOpts) (root : Obj) (pre : Str) (e : Err)
    (h : asStr o root pre = .error e) :
    ShowWitness o (metasOf root) (pre.length + 2 * showDepth root) e :=
  showFail_witness_obj_n2 o root pre.length e ((asStr_error_iff o root pre e).1 h)

/-- the error classes of printing: the two stray sites, or outside the model; never RuntimeError,
    Sorry or `outOfFuel` -/
theorem asStr_error_classes (o : ShowOpts) (root : Obj) (pre : Str) (e : Err)
    (h : asStr o root pre = .error e) :
    e = .stray "TypeError" "expert_level_compare" ∨ e = .stray "ValueError" "textwrap_width" ∨
      e = .unsupported "tab in wrapped attribute" := by
  rcases asStr_error_witness o root pre e h with h1 | h1 | h1
  · exact .inl h1.1
  · exact .inr (.inl h1.1)
  · exact .inr (.inr h1.1)

/-- **Parser outputs**: `is_template = 0` and every `.expert_level` is None, Auto or an integer
    (`int_from_words`), on every object of every parsed text. -/
theorem parsed_expert_levels (text : Str) (objs : List Obj) (h : parseObjs text = .ok objs) :
    ∀ m ∈ metasOfs objs, m.tmpl = 0 ∧ expertShape (m.attrs.get "expert_level") = true := by
  intro m hm
  have := parseObjs_pshape_n2 text objs h
  rw [pshapes_eq_all_n2, List.all_eq_true] at this
  have := this m hm
  simp only [metaShape, Bool.and_eq_true, decide_eq_true_eq] at this
  exact ⟨this.1, attrsShape_get_n2 this.2⟩

/-- **The requested statement "parser outputs never carry a non-integer expert level" is false**:
    `.expert_level = Auto` is accepted by the parser (definitions and scopes) and printing the parsed
    tree with the gate on raises TypeError.  Python (replayed): `parse("a = 1\n.expert_level = Auto\n")
    .as_str(expert_level=0)` → `TypeError: '>' not supported between instances of 'AutoType' and 'int'`. -/
theorem parsed_auto_level_strays :
    (parseObjs "a = 1\n.expert_level = Auto\n".toList).map (fun objs =>
        (asStr { expert := some 0 } (rootOf objs), asStr { expert := none } (rootOf objs)))
      = .ok (.error (.stray "TypeError" "expert_level_compare"), .ok "a = 1\n".toList) ∧
    (parseObjs "s\n.expert_level = Auto\n{\n}\n".toList).map (fun objs =>
        asStr { expert := some 3 } (rootOf objs))
      = .ok (.error (.stray "TypeError" "expert_level_compare")) := by
  repeat rw [String.toList_ofList]
  decide +kernel

/-- On parser outputs the TypeError needs an `Auto` level and the gate on: with `expert_level=None`,
    a negative level, or no `.expert_level = Auto` in the text, printing never raises it. -/
theorem asStr_parsed_no_typeerror (o : ShowOpts) (text : Str) (objs : List Obj) (pre : Str)
    (h : parseObjs text = .ok objs)
    (hgate : o.expert = none ∨ (∃ k, o.expert = some k ∧ k < 0) ∨
      ∀ m ∈ metasOfs objs, m.attrs.get "expert_level" ≠ .auto) :
    asStr o (rootOf objs) pre ≠ .error (.stray "TypeError" "expert_level_compare") := by
  intro herr
  rcases asStr_error_witness o _ pre _ herr with ⟨_, ⟨k, hk, hk0⟩, m, hm, hbad⟩ | ⟨h1, _⟩ | ⟨h1, _⟩
  · rcases hgate with hg | ⟨k', hk', hneg⟩ | hg
    · rw [hg] at hk; cases hk
    · rw [hk'] at hk; cases hk; omega
    · simp only [rootOf, metasOf, List.mem_cons] at hm
      rcases hm with hm | hm
      · subst hm; simp [Attrs.get, expertOkVal] at hbad
      · have hs := (parsed_expert_levels text objs h m hm).2
        have hna := hg m hm
        cases hv : m.attrs.get "expert_level" <;> rw [hv] at hs hbad hna <;>
          simp [expertShape, expertOkVal] at hs hbad hna
  · exact absurd h1 (by decide)
  · cases h1

/-- **Width bound, any tree.**  With `print_width ≥ |prefix| + 2·depth + 26` (depth = number of nested
    `name {` blocks) `textwrap.wrap` is never called with a non-positive width. -/
theorem asStr_wide_no_valueerror (o : ShowOpts) (root : Obj) (pre : Str)
    (hw : ((pre.length + 2 * showDepth root + 26 : Nat) : Int) ≤ o.width) :
    asStr o root pre ≠ .error (.stray "ValueError" "textwrap_width") := by
  intro herr
  rcases asStr_error_witness o _ pre _ herr with ⟨h1, _⟩ | ⟨_, _, m, _, n, hn, s, _, hle⟩ | ⟨h1, _⟩
  · exact absurd h1 (by decide)
  · have := attrName_length_n2 n hn
    omega
  · cases h1

/-- **The bound is sharp**: a scope at depth 0 whose `.sequential_format` (the longest attribute name,
    17 characters) is a string that needs quotes fails at width 25 and prints at width 26.  Python
    (replayed): `parse('s\n.sequential_format = "%d x"\n{\n}\n').as_str(attributes_level=2,
    print_width=25)` → `ValueError: invalid width 0 (must be > 0)`; width 26 prints. -/
theorem width_bound_sharp :
    let t : Obj := .scope { name := "s".toList, attrs := [("sequential_format", .str "%d x".toList)] } []
    showDepth t = 1 ∧
    asStr { level := 2, width := 25 } t = .error (.stray "ValueError" "textwrap_width") ∧
    asStr { level := 2, width := 26 } t
      = .ok "s\n  .sequential_format = \"%d\"\n                       \"x\"\n{\n}\n".toList := by
  repeat rw [String.toList_ofList]
  decide +kernel

/-- the same through the parser, for the longest string attribute the model parses (`short_caption`):
    width 21 fails, width 22 prints.  Python (replayed): same. -/
theorem width_bound_sharp_parsed :
    (parseObjs "a = 1\n.short_caption = x y\n".toList).map (fun objs =>
        (asStr { level := 2, width := 21 } (rootOf objs), asStr { level := 2, width := 22 } (rootOf objs)))
      = .ok (.error (.stray "ValueError" "textwrap_width"),
             .ok "a = 1\n  .short_caption = \"x\"\n                   \"y\"\n".toList) := by
  rw [String.toList_ofList, String.toList_ofList]
  decide +kernel

/-- **Printing a parsed tree is total** (C01/C19 support): for every text the parser accepts, every
    attributes level, every expert level other than "gate on with an `Auto` level in the text", and every
    width `≥ |prefix| + 2·depth + 26`, `as_str` returns a string — or the tree has a tab inside an
    attribute string that must be wrapped, which is outside the model. -/
theorem asStr_parsed_total (o : ShowOpts) (text : Str) (objs : List Obj) (pre : Str)
    (h : parseObjs text = .ok objs)
    (hgate : o.expert = none ∨ (∃ k, o.expert = some k ∧ k < 0) ∨
      ∀ m ∈ metasOfs objs, m.attrs.get "expert_level" ≠ .auto)
    (hw : ((pre.length + 2 * showDepths objs + 26 : Nat) : Int) ≤ o.width) :
    (∃ s, asStr o (rootOf objs) pre = .ok s) ∨
      asStr o (rootOf objs) pre = .error (.unsupported "tab in wrapped attribute") := by
  cases hr : asStr o (rootOf objs) pre with
  | ok s => exact .inl ⟨s, rfl⟩
  | error e =>
    refine .inr ?_
    rcases asStr_error_classes o _ pre e hr with h1 | h1 | h1
    · subst h1; exact absurd hr (asStr_parsed_no_typeerror o text objs pre h hgate)
    · subst h1
      refine absurd hr (asStr_wide_no_valueerror o _ pre ?_)
      have : showDepth (rootOf objs) = showDepths objs := by simp [rootOf, showDepth]
      rw [this]; exact hw
    · rw [h1]

/-- at attributes level 0 (the default) no attribute is printed: the width plays no role and the result
    is always a string -/
theorem asStr_parsed_level0_total (o : ShowOpts) (text : Str) (objs : List Obj) (pre : Str)
    (h : parseObjs text = .ok objs) (hl : o.level ≤ 0)
    (hgate : o.expert = none ∨ (∃ k, o.expert = some k ∧ k < 0) ∨
      ∀ m ∈ metasOfs objs, m.attrs.get "expert_level" ≠ .auto) :
    ∃ s, asStr o (rootOf objs) pre = .ok s := by
  cases hr : asStr o (rootOf objs) pre with
  | ok s => exact ⟨s, rfl⟩
  | error e =>
    exfalso
    -- at level ≤ 0 no attribute is printed: neither the width site nor a tab can arise
    rcases asStr_error_witness o _ pre e hr with ⟨h1, _⟩ | ⟨_, h2, _⟩ | ⟨_, h2⟩
    · subst h1; exact asStr_parsed_no_typeerror o text objs pre h hgate hr
    · omega
    · omega

/-- non-vacuity of `asStr_parsed_total`: a nested text with attributes, integer levels, printed with the
    gate on at attributes level 2 and the minimal width of the theorem (depth 2 → 30) -/
example :
    (parseObjs "s\n  .help = some words here\n{\n  t {\n    a = 1\n      .expert_level = 2\n      .caption = x y z\n  }\n}\n".toList).map
      (fun objs => (showDepths objs, (metasOfs objs).all (fun m => m.attrs.get "expert_level" != .auto),
        (asStr { expert := some 3, level := 2, width := 30 } (rootOf objs)).toOption.isSome))
      = .ok (2, true, true) := by
  rw [String.toList_ofList]
  decide +kernel


/-! ### B. variable resolution (`definition.resolve_variables`, `Phil.Vars`) -/

/-- the fragment scanner of `variable_substitution_proxy` fails only with its three syntax errors; the
    model's loop bound (site "fuel") is never reported -/
theorem fragments_errors (v : Str) (e : String) (h : fragments v = .error e) :
    e ∈ ["dollar_identifier", "missing_paren", "improper_variable_name"] :=
  fragments_error_sites h

/-- **`resolve_variables`, any document, any chain, any fuel**: a value, or RuntimeError at one of the
    five named sites (`varsSites`: `$` without identifier, missing `)`, improper variable name, "Not a
    definition", "Undefined variable"), or a referenced definition without id (outside the domain), or
    the loop bound.  Never `stray`, never Sorry. -/
theorem resolveWords_no_stray (env : Env) (f : Nat) (chain : Chain) (id : Nat) (ws : List Word)
    (diff : Bool) (e : Err) (h : resolveWords env f chain id ws diff = .error e) :
    (∃ s ∈ varsSites, ∃ l, e = .runtime s l) ∨ e = .unsupported "referenced definition without id" ∨
      e = .outOfFuel :=
  resolveWords_errors_n2 env f chain id ws diff e h

/-- **`resolve_variables` on a parsed document** (every text, every position, every environment, both
    modes): a value, RuntimeError at a named site, or outside the domain.  No `stray`, no `outOfFuel`:
    every call returns. -/
theorem resolveAt_parsed_no_stray (env : Env) (text : Str) (root : List Obj) (pos : List Nat) (diff : Bool)
    (hp : parseObjs text = .ok root) (e : Err) (h : resolveAt env root pos diff = .error e) :
    (∃ s ∈ varsSites, ∃ l, e = .runtime s l) ∨ (∃ w, e = .unsupported w) := by
  rcases resolveAt_errors_n2 env root pos diff e h with (h1 | h1 | h1) | h1 | h1
  · exact .inl h1
  · exact .inr ⟨_, h1⟩
  · subst h1
    exact absurd h (C12.resolveAt_ne_outOfFuel_vs env root (C12.parse_docIds_pid text root hp) pos diff)
  · exact .inr ⟨_, h1⟩
  · exact .inr ⟨_, h1⟩

/-- the same on any tree: the loop bound is the only further outcome (it needs ids out of order, which the
    parser never produces) -/
theorem resolveAt_no_stray (env : Env) (root : List Obj) (pos : List Nat) (diff : Bool) (e : Err)
    (h : resolveAt env root pos diff = .error e) :
    (∃ s ∈ varsSites, ∃ l, e = .runtime s l) ∨ (∃ w, e = .unsupported w) ∨ e = .outOfFuel := by
  rcases resolveAt_errors_n2 env root pos diff e h with (h1 | h1 | h1) | h1 | h1
  · exact .inl h1
  · exact .inr (.inl ⟨_, h1⟩)
  · exact .inr (.inr h1)
  · exact .inr (.inl ⟨_, h1⟩)
  · exact .inr (.inl ⟨_, h1⟩)

/-- every listed site is reached from a parsed text (position of the last definition, empty
    environment), with the line of the offending word -/
theorem vars_sites_reached :
    let at_ (t : String) (i : Nat) : Option Err :=
      match parseObjs t.toList with
      | .ok root => errOf (resolveAt (fun _ => none) root [i] false)
      | .error _ => none
    at_ "a = $x\n" 0 = some (.runtime "undefined_variable" (some 1)) ∧
    at_ "s { b = 1 }\na = $s\n" 1 = some (.runtime "not_a_definition" (some 2)) ∧
    at_ "a = 1\nb = $\n" 1 = some (.runtime "dollar_identifier" (some 2)) ∧
    at_ "a = $(x\n" 0 = some (.runtime "missing_paren" (some 1)) ∧
    at_ "a = $1\n" 0 = some (.runtime "improper_variable_name" (some 1)) ∧
    at_ "x = 1\na = $x $(x)b '$y'\n" 1 = none := by
  decide +kernel


/-! ### C. include expansion (`parse(file_name=…, process_includes=True)`, `Phil.Include`)

  Classification of the missing file.  Python's `open()` raises `FileNotFoundError` (an `OSError`), which
  is neither RuntimeError nor Sorry; the model records it as `stray "FileNotFoundError" "open"`.  Replayed:
  a file `root.phil` containing `include file missing.phil`, `parse(file_name=root.phil,
  process_includes=True)` → `FileNotFoundError: [Errno 2] No such file or directory: …/missing.phil`; the
  same for a root file that does not exist.  C16 speaks of "any text offered as a parameter file"; a text
  naming a file that does not exist therefore leaves the RuntimeError/Sorry contract through `open()`.
  This is the only stray site of include processing (`expand_errors`). -/

/-- the parser's own loop bound is never hit, so the two side conditions of C13's totality theorems hold
    for every file system and every import table -/
theorem parseFuelOK_always (fs : FS) : ParseFuelOK fs :=
  fun pt _ h => Err.benign_ne_outOfFuel (parseObjs_benign pt.2 _ h) rfl
theorem importsParseFuelOK_always (imports : List (Str × Str)) : ImportsParseFuelOK imports :=
  fun pt _ h => Err.benign_ne_outOfFuel (parseObjs_benign pt.2 _ h) rfl

/-- **include expansion, every file system, every import table, every root**: the objects, RuntimeError
    (syntax error in a file with its line, include syntax, dependency cycle, scope not found), outside the
    domain (`$` in an include, unknown python import), the include-depth bound, or `open()` of a missing
    file.  No other `stray`, no Sorry. -/
theorem expand_errors (env : IncEnv) (root : Path) (e : Err) (h : expand env root = .error e) :
    (∃ s l, e = .runtime s l) ∨ (∃ w, e = .unsupported w) ∨ e = .outOfFuel ∨
      e = .stray "FileNotFoundError" "open" :=
  (include_errors_n2 env _).1 root [] e h

/-- the same for the two workers at any fuel, stack and directory -/
theorem expandFile_errors (env : IncEnv) (fuel : Nat) (path : Path) (stack : List Path) (e : Err)
    (h : expandFile env fuel path stack = .error e) : IncErr e :=
  (include_errors_n2 env fuel).1 path stack e h
theorem processIncludes_errors (env : IncEnv) (fuel : Nat) (refdir : Path) (stack : List Path)
    (objs : List Obj) (e : Err) (h : processIncludes env fuel refdir stack objs = .error e) : IncErr e :=
  (include_errors_n2 env fuel).2 objs refdir stack e h

/-- **every call returns**: when imported scopes are ranked (no scope-import cycle — Python itself has no
    cycle detection there and recurses without bound), the depth bound is never hit -/
theorem expand_ranked_errors (env : IncEnv) (hrk : ImportsRanked env) (root : Path) (e : Err)
    (h : expand env root = .error e) :
    (∃ s l, e = .runtime s l) ∨ (∃ w, e = .unsupported w) ∨ e = .stray "FileNotFoundError" "open" := by
  rcases expand_errors env root e h with h1 | h1 | h1 | h1
  · exact .inl h1
  · exact .inr (.inl h1)
  · subst h1
    exact absurd h (expand_ne_outOfFuel env (parseFuelOK_always _) (importsParseFuelOK_always _) hrk root)
  · exact .inr (.inr h1)

/-- files only (no python imports): no side condition at all -/
theorem expand_files_errors (env : IncEnv) (hi : env.imports = []) (root : Path) (e : Err)
    (h : expand env root = .error e) :
    (∃ s l, e = .runtime s l) ∨ (∃ w, e = .unsupported w) ∨ e = .stray "FileNotFoundError" "open" :=
  expand_ranked_errors env (importsRanked_nil env hi) root e h

/-- the stray site fires for a root that does not exist … -/
theorem missing_root_strays (env : IncEnv) (root : Path) (h : env.fs.read root = none) :
    expand env root = .error (.stray "FileNotFoundError" "open") := by
  unfold expand
  rw [expandFile_succ, h]

/-- … and for an `include file` statement (first object of a file being expanded) whose target does not
    exist -/
theorem missing_include_strays (env : IncEnv) (f : Nat) (path : Path) (stack : List Path) (text : Str)
    (o : Obj) (rest : List Obj) (name : Str) (hin : path ∉ stack) (hread : env.fs.read path = some text)
    (hparse : parseObjs text = .ok (o :: rest)) (ht : includeTarget o = some name)
    (hmiss : env.fs.read (resolvePath path.dropLast name) = none) :
    expandFile env (f + 2) path stack = .error (.stray "FileNotFoundError" "open") := by
  rw [expandFile_fresh env (f + 1) path stack text _ hin hread hparse, processIncludes_cons,
    includeHere_include' env (f + 1) _ _ o name ht, expandFile_succ, hmiss]
  rfl

/-- a concrete instance (Python, replayed: `FileNotFoundError: [Errno 2] No such file or directory:
    '…/missing.phil'`) -/
def fsMissing : IncEnv :=
  { fs := [(["d".toList, "root.phil".toList], "include file missing.phil\na = 1\n".toList)] }

section
attribute [local instance] objDecEq

example : expand fsMissing ["d".toList, "root.phil".toList] = .error (.stray "FileNotFoundError" "open") := by
  show expandFile fsMissing (1 + 2) ["d".toList, "root.phil".toList] [] = _
  exact missing_include_strays fsMissing 1 ["d".toList, "root.phil".toList] []
    "include file missing.phil\na = 1\n".toList
    (.defn { name := "include".toList, id := some 1, line := some 1 }
      [⟨"file".toList, none, some 1⟩, ⟨"missing.phil".toList, none, some 1⟩])
    [.defn { name := "a".toList, id := some 2, line := some 2 } [⟨"1".toList, none, some 2⟩]]
    "missing.phil".toList (by simp) (by decide +kernel)
    (by rw [String.toList_ofList]; decide +kernel) (by decide +kernel) (by decide +kernel)

end


/-! ### D. fetch on masters with `.multiple` scopes (`MSMaster`, Phil/Proofs/FetchTreeMS.lean) -/

/-- **C16, `scope.fetch`, nested masters WITH `.multiple` scopes and definitions** (extends
    `fetch_tree_no_stray`): when the keys the list rule compares are defined (`KeysDefinedMS`, decidable:
    `keysDefinedMSB`), the only failure of the fetch against ANY sources is RuntimeError "incompatible".
    When a key is not defined the fetch raises the converter's RuntimeError for the offending value
    instead (`C05.keysDefined_needed`: `s.b = maybe` for a bool → "bool_expected" with its line); in
    general the stray sites are bounded by `fetchRoot_stray_sites`. -/
theorem fetch_ms_no_stray (e : Envs) (fuel : Nat) (sm : Meta) (mkids srcs : List Obj)
    (hf : MSMaster mkids) (hfuel : depthL mkids < fuel) (hsd : sm.disabled = false)
    (hsrc : SrcTree srcs) (hkeys : KeysDefinedMS e mkids srcs) (err : Err)
    (h : fetchScope e fuel false sm mkids srcs = .error err) : err = .runtime "incompatible" none := by
  rw [fetch_ms_total e fuel sm mkids srcs hf hfuel hsd hsrc hkeys] at h
  split at h
  · cases h
  · cases h; rfl

/-- the same at the entry point `master.fetch(sources)` -/
theorem fetchRoot_ms_no_stray (e : Envs) (master : List Obj) (ss : List (List Obj))
    (hf : MSMaster master) (hd : depthL master ≤ 1000) (hsrc : SrcTree ss.flatten)
    (hkeys : KeysDefinedMS e master ss.flatten) (err : Err)
    (h : fetchRoot e false master ss = .error err) : err = .runtime "incompatible" none := by
  rw [C05.fetchRoot_ms e master ss hf hd hsrc hkeys] at h
  split at h
  · cases h
  · cases h; rfl

/-- with the side conditions in executable form -/
theorem fetchRoot_ms_checked_no_stray (e : Envs) (master : List Obj) (ss : List (List Obj))
    (hm : masterCheck_ms master = true) (hs : srcCheck ss.flatten = true)
    (hk : keysDefinedMSB e master ss.flatten = true) (err : Err)
    (h : fetchRoot e false master ss = .error err) : err = .runtime "incompatible" none := by
  rw [C05.fetchRoot_ms_checked e master ss hm hs hk] at h
  split at h
  · cases h
  · cases h; rfl

/-- non-vacuity and both outcomes on the parsed instance of Props/C05TreeMS.lean (three levels, `.multiple`
    scopes inside `.multiple` scopes): the hypotheses hold and the fetch succeeds; against a clashing
    source the error is "incompatible" -/
example :
    (masterCheck_ms C05.msM && srcCheck C05.msS && keysDefinedMSB C05.envTm C05.msM C05.msS) = true ∧
    errOf (fetchRoot C05.envTm false C05.msM [C05.msS]) = none ∧
    errOf (fetchRoot C05.envTm false C05.msM [C05.tmObjs "s = 1\n"]) = some (.runtime "incompatible" none) := by
  refine ⟨by rw [C05.msInst_master, C05.msInst_src, C05.msInst_keys]; rfl, ?_⟩
  rw [C05.msM_eq, C05.msS_eq, C05.tmObjs_ofList]
  decide +kernel

/-! ### E. the index machine (`Phil/Index.lean`, `IndexConcrete`, `IndexPaths`)

  Totality is by construction: `Index.step` / `Index.run` (and the concrete kernels) are total functions
  without fuel and without an error type — every operation returns.  "Refusals leave the state unchanged"
  is in Props/C20.lean for two operations (`C20.pop_empty`, `C20.refused_edit_changes_nothing`); the
  theorem below states it for all of them at once. -/

section IndexRefusals
open Phil.Index
variable {W P E : Type}

/-- the refusals of the index: an edit the kernel refuses (parse / fetch error), `update_from_python()`
    with neither an object nor a cached one, `pop_state` on an empty stack, `set_state` out of range,
    `get_python_object` whose extraction raises.  (`push_state` is never refused.) -/
def indexRefused (k : Kernel W P E) (s : State W P) : Op P E → Prop
  | .update e => k.merge s.working e = none
  | .updateFromPython p => p = none ∧ s.params = none
  | .push => False
  | .pop => s.states = []
  | .setState i => s.states.length ≤ i
  | .getPython => (s.dirty || s.params.isNone) = true ∧ k.extract s.working = none

/-- **every refusal leaves the whole state unchanged** (working parameters, cache, dirty flag, stack),
    for every kernel -/
theorem index_refusal_unchanged (k : Kernel W P E) (s : State W P) (op : Op P E)
    (h : indexRefused k s op) : (step k s op).1 = s ∧ (step k s op).2 = none := by
  cases op with
  | update e => simp only [indexRefused] at h; simp [step, h]
  | updateFromPython p => obtain ⟨h1, h2⟩ := h; subst h1; simp [step, h2]
  | push => exact h.elim
  | pop => simp only [indexRefused] at h; simp [step, h]
  | setState i =>
    simp only [indexRefused] at h
    have : s.states[i]? = none := by simp [h]
    simp [step, this]
  | getPython => obtain ⟨h1, h2⟩ := h; simp [step, h1, h2]

/-- conversely an operation that is not refused and is not a cache hit changes or re-derives the state
    through the kernel only; in particular `step` is a total function: every operation returns a state -/
theorem index_step_total (k : Kernel W P E) (s : State W P) (op : Op P E) :
    ∃ s' r, step k s op = (s', r) := ⟨_, _, rfl⟩

end IndexRefusals

/-! ### model gap found on the way (reported, not repaired: model files are not edited here)

  `CmdLine.expertsObj` treats an `Auto` expert level like an unset one (the enclosing level is
  inherited); Python's tie-break computes `Auto / 100` and raises TypeError:
  master `a {\n b = 1\n .expert_level = Auto\n}\nc { b = 2 }`, argument `b=3` →
  `TypeError: unsupported operand type(s) for /: 'AutoType' and 'int'` (replayed).  So
  `processArg_no_stray` holds for the model but not for Python on such masters. -/
example : (parseObjs "a {\n b = 1\n .expert_level = Auto\n}\nc { b = 2 }\n".toList).map expertLevels
    = .ok [0, 0] := by
  rw [String.toList_ofList]
  decide +kernel

end Phil.C16

#print axioms Phil.C16.asStr_error_iff
#print axioms Phil.C16.asStr_ok_iff
#print axioms Phil.C16.expert_site_iff
#print axioms Phil.C16.width_site_iff
#print axioms Phil.C16.asStr_error_witness
#print axioms Phil.C16.asStr_error_classes
#print axioms Phil.C16.parsed_expert_levels
#print axioms Phil.C16.parsed_auto_level_strays
#print axioms Phil.C16.asStr_parsed_no_typeerror
#print axioms Phil.C16.asStr_wide_no_valueerror
#print axioms Phil.C16.width_bound_sharp
#print axioms Phil.C16.width_bound_sharp_parsed
#print axioms Phil.C16.asStr_parsed_total
#print axioms Phil.C16.asStr_parsed_level0_total
#print axioms Phil.C16.fragments_errors
#print axioms Phil.C16.resolveWords_no_stray
#print axioms Phil.C16.resolveAt_parsed_no_stray
#print axioms Phil.C16.resolveAt_no_stray
#print axioms Phil.C16.vars_sites_reached
#print axioms Phil.C16.parseFuelOK_always
#print axioms Phil.C16.importsParseFuelOK_always
#print axioms Phil.C16.expand_errors
#print axioms Phil.C16.expandFile_errors
#print axioms Phil.C16.processIncludes_errors
#print axioms Phil.C16.expand_ranked_errors
#print axioms Phil.C16.expand_files_errors
#print axioms Phil.C16.missing_root_strays
#print axioms Phil.C16.missing_include_strays
#print axioms Phil.C16.fetch_ms_no_stray
#print axioms Phil.C16.fetchRoot_ms_no_stray
#print axioms Phil.C16.fetchRoot_ms_checked_no_stray
#print axioms Phil.C16.index_refusal_unchanged
#print axioms Phil.C16.index_step_total
