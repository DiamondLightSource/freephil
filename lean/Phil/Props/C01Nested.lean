/-
  C01 (part) — printing a PHIL tree and re-parsing the text reproduces the tree (up to ids and source
  positions) and the second print is byte-identical: the unbounded theorems for TREES OF NESTED SCOPES
  (any depth, any number of children, empty scopes, dotted ("merged") chains `a.b.c {` / `a.b = 1`
  as `scope.adopt` builds them), at every print width.  Property theorems only; the lemmas are in
  Phil/Proofs/PrintParseNested.lean, DottedNames.lean and NestedRoundTrip.lean (the instance for this class of
  the induction over trees with attributes, Phil/Proofs/AttrTrees.lean).  The flat case (a root scope
  holding definitions only) is Phil/Props/C01RoundTrip.lean; it is the special case `RTDefn.toTree`.

  What is covered: trees whose objects are enabled, carry no attributes, have good undotted names
  (`goodName`), printed at attributes level 0 with the empty prefix.
  What is not covered: attributes (level > 0), disabled objects, a non-empty prefix, templates.
-/
import Phil.Proofs.NestedRoundTrip
import Phil.Props.C01RoundTrip
namespace Phil.C01
open Phil

attribute [local instance] objDecEqInst exceptDecEqRT

/-! ### the class of trees

  * `PlainMetaPP mg m`: the object data `m` is `{ name, id, line, mergeNames := mg }` — enabled, no
    attributes, `is_template = 0`; `primary_id` and source line are arbitrary.
  * `RTNode ms x` (Phil/Proofs/PrintParseNested.lean, by recursion on the tree): `x` stands below the
    chain `ms` of scopes that merge their names into its printed name.
      - a definition: `PlainMetaPP (ms ≠ []) m`, `goodName m.name`, the printed dotted name
        `dottedName ms m.name` is not a reserved identifier, at least one word, every word `goodWord`;
      - a scope: `PlainMetaPP (ms ≠ []) m`, `goodName m.name`, and its children are
          either (proper scope, printed `name {` … `}`) any number — also none — of trees `RTNode []`,
            the printed dotted name not being reserved,
          or (dotted chain) exactly one tree `RTNode (ms ++ [m.name])`, whose `merge_names` is True.
  * `RTTree x := RTNode [] x`: an object of the root scope or of a proper scope. -/

/-- the class of trees the nested round trip is proved for -/
def RTTree (x : Obj) : Prop := RTNode [] x

instance (x : Obj) : Decidable (RTTree x) := by unfold RTTree; exact inferInstance

/-- `RTTree` for a definition, spelled out: exactly the flat class `RTDefn` -/
theorem RTTree_defn (m : Meta) (ws : List Word) :
    RTTree (.defn m ws) ↔
      (PlainMetaPP false m ∧ goodName m.name = true ∧ ws ≠ [] ∧ ∀ w ∈ ws, goodWord w = true) := by
  unfold RTTree RTNode
  constructor
  · rintro ⟨h1, h2, _, h4, h5⟩; exact ⟨h1, h2, h4, h5⟩
  · rintro ⟨h1, h2, h4, h5⟩; exact ⟨h1, h2, goodName_not_reserved h2, h4, h5⟩

/-- `RTTree` for a scope, spelled out -/
theorem RTTree_scope (m : Meta) (os : List Obj) :
    RTTree (.scope m os) ↔
      (PlainMetaPP false m ∧ goodName m.name = true ∧
        ((∀ c ∈ os, RTTree c) ∨ ∃ c, os = [c] ∧ RTNode [m.name] c)) := by
  unfold RTTree
  rw [RTNode]
  have hres : ∀ h : goodName m.name = true, isReserved (dottedName [] m.name) = false :=
    fun h => goodName_not_reserved h
  constructor
  · rintro ⟨h1, h2, h3⟩
    refine ⟨h1, h2, ?_⟩
    rcases h3 with ⟨_, h3⟩ | h3
    · exact Or.inl ((RTAll_iff os).mp h3)
    · cases os with
      | nil => unfold RTOne at h3; exact h3.elim
      | cons c cs => unfold RTOne at h3; exact Or.inr ⟨c, by rw [h3.2], h3.1⟩
  · rintro ⟨h1, h2, h3⟩
    refine ⟨h1, h2, ?_⟩
    rcases h3 with h3 | ⟨c, rfl, h3⟩
    · exact Or.inl ⟨hres h2, (RTAll_iff os).mpr h3⟩
    · exact Or.inr (by unfold RTOne; exact ⟨h3, rfl⟩)

/-- the flat class of Phil/Props/C01RoundTrip.lean is the definition case of `RTTree` -/
theorem RTDefn.toTree {x : Obj} (h : RTDefn x) : RTTree x := by
  obtain ⟨nm, ws, i, l, rfl⟩ := h.plain
  exact (RTTree_defn _ _).mpr ⟨rfl, h.name, h.nonempty, h.words⟩

theorem rtAll_of_forall {objs : List Obj} (h : ∀ x ∈ objs, RTTree x) : RTAll objs :=
  (RTAll_iff objs).mpr h

/-! ### what is printed

  `treeText w x ms ind` (by recursion on the tree) is the text printed for `x` at print width `w`
  with pending merged names `ms` at indentation `ind`:
    * a definition: `ind ++ dotted-name ++ " =" ++ wrapTail … ++ "\n"` (the value, wrapped at `w`
      exactly as in the flat case, continuation lines indented by `ind` plus the width of `name =`);
    * a proper scope: `ind ++ dotted-name ++ " {\n"`, the children at indentation `ind ++ "  "`,
      `ind ++ "}\n"` (an empty scope: the two lines `name {` and `}`);
    * a scope whose first child merges names: the children, with the scope's name pending.
  `kidsText w objs [] []` is the text of a whole document. -/

/-- **The printer on the class.**  At attributes level 0 the root scope of a document of `RTTree`s
    prints as `kidsText` — at every width, to any depth. -/
theorem print_tree (o : ShowOpts) (hl : o.level = 0) (objs : List Obj) (h : ∀ x ∈ objs, RTTree x) :
    asStr o (rootOf objs) = .ok (kidsText o.width objs [] []) :=
  asStr_trees o (by omega) objs (rtAll_of_forall h)

/-! ### the round trip -/

/-- **Nested scopes at any width, exact condition.**  For every print width: if every definition of
    every tree satisfies `wrapOK` for that width *at the indentation and with the dotted name it is
    printed with* (`WrapsOK`, by recursion on the tree: the indentation grows by two blanks per proper
    scope), then the printed text parses and the parser returns the same trees up to ids and source
    positions (`eraseList`: same nesting, names, `merge_names` flags, words with values and quote
    styles).  Ids: `idsList objs'` (document order, a scope before its children) is
    `expIdsSeq 1 objs` — one id per printed item (definition line or `name {` header) counted from 1
    in document order; the scopes of a dotted chain `a.b.c` share the id of their item. -/
theorem print_parse_tree_exact (o : ShowOpts) (hl : o.level = 0) (objs : List Obj)
    (h : ∀ x ∈ objs, RTTree x) (hok : ∀ x ∈ objs, WrapsOK o.width x [] []) :
    ∃ text objs', asStr o (rootOf objs) = .ok text ∧ text = kidsText o.width objs [] [] ∧
      parseObjs text = .ok objs' ∧ eraseList objs' = eraseList objs ∧
      idsList objs' = (expIdsSeq 1 objs).map some := by
  obtain ⟨objs', h2, h3, h4⟩ := parseObjs_trees o.width objs (rtAll_of_forall h)
    ((WrapsOKs_iff o.width objs [] []).mpr hok)
  exact ⟨_, objs', print_tree o hl objs h, rfl, h2, h3, h4⟩

/-- **C01 for nested scopes, whatever print width is used.**  If in every definition of every tree
    only the LAST word may contain a newline character, then for EVERY print width (also widths at
    which every word is wrapped, zero and negative widths) printing the root scope and parsing the
    text succeeds and reproduces the trees up to ids and source positions; ids as in
    `print_parse_tree_exact`. -/
theorem print_parse_tree (o : ShowOpts) (hl : o.level = 0) (objs : List Obj)
    (h : ∀ x ∈ objs, RTTree x) (hnl : ∀ x ∈ objs, x.allDefns NlOnlyLast) :
    ∃ text objs', asStr o (rootOf objs) = .ok text ∧ parseObjs text = .ok objs' ∧
      eraseList objs' = eraseList objs ∧ idsList objs' = (expIdsSeq 1 objs).map some := by
  obtain ⟨text, objs', h1, _, h2, h3, h4⟩ := print_parse_tree_exact o hl objs h
    (fun x hx => wrapsOK_of_nlOnlyLast o.width x [] [] (hnl x hx))
  exact ⟨text, objs', h1, h2, h3, h4⟩

/-- **Nested scopes, nothing wrapped.**  If every printed definition line — indentation, dotted name,
    ` =` and all words — fits into `width - 2` columns (`Fits`, the indentation included) and in no
    definition an unquoted word directly follows a word that contains a newline (`ChainOK`, as in the
    flat case), the text is `flatKids objs [] []` (no continuation lines) and the round trip holds. -/
theorem print_parse_tree_nowrap (o : ShowOpts) (hl : o.level = 0) (objs : List Obj)
    (h : ∀ x ∈ objs, RTTree x) (hfit : ∀ x ∈ objs, Fits o.width x [] [])
    (hchain : ∀ x ∈ objs, x.allDefns ChainOK) :
    asStr o (rootOf objs) = .ok (flatKids objs [] []) ∧
    ∃ objs', parseObjs (flatKids objs [] []) = .ok objs' ∧
      eraseList objs' = eraseList objs ∧ idsList objs' = (expIdsSeq 1 objs).map some := by
  obtain ⟨htext, hw⟩ := fits_kids o.width objs [] [] ((FitsAll_iff _ _ _ _).mpr hfit)
  obtain ⟨text, objs', h1, h1', h2, h3, h4⟩ := print_parse_tree_exact o hl objs h
    ((WrapsOKs_iff _ _ _ _).mp (hw ((allDefnsList_iff _ _).mpr hchain)))
  subst h1'
  rw [htext] at h1 h2
  exact ⟨h1, objs', h2, h3, h4⟩

/-- **Ids without dotted chains.**  When no scope merges its name (`noChains`), every object is a
    printed item and the parser numbers the objects `1, 2, …, n` in document order (a scope before its
    children), `n` the number of objects of the document. -/
theorem tree_ids_noChains (objs : List Obj) (h : ∀ x ∈ objs, x.noChains) :
    expIdsSeq 1 objs = List.range' 1 (nodesList objs) :=
  (expIds_noChains.2 objs ((noChainsList_iff objs).mpr h)).2 1

/-! ### the second print is byte-identical -/

/-- **Print, parse, print again (nested).**  In the setting of `print_parse_tree_exact` (in particular
    in the setting of `print_parse_tree`, at every width): the re-parsed root prints byte-identically
    to the original root — at the same width and at every other width, level and prefix. -/
theorem second_print_identical_tree (o : ShowOpts) (hl : o.level = 0) (objs : List Obj)
    (h : ∀ x ∈ objs, RTTree x) (hok : ∀ x ∈ objs, WrapsOK o.width x [] []) :
    ∃ text root', asStr o (rootOf objs) = .ok text ∧ parse text = .ok root' ∧
      asStr o root' = .ok text ∧
      ∀ (o' : ShowOpts) (pre : Str), asStr o' root' pre = asStr o' (rootOf objs) pre := by
  obtain ⟨text, objs', h1, _, h2, h3, _⟩ := print_parse_tree_exact o hl objs h hok
  obtain ⟨g1, g2⟩ := reparsed_root h2 h3
  exact ⟨text, _, h1, g1, by rw [g2 o [], h1], g2⟩

/-- the width-independent form -/
theorem second_print_identical_tree_any_width (o : ShowOpts) (hl : o.level = 0) (objs : List Obj)
    (h : ∀ x ∈ objs, RTTree x) (hnl : ∀ x ∈ objs, x.allDefns NlOnlyLast) :
    ∃ text root', asStr o (rootOf objs) = .ok text ∧ parse text = .ok root' ∧
      asStr o root' = .ok text ∧
      ∀ (o' : ShowOpts) (pre : Str), asStr o' root' pre = asStr o' (rootOf objs) pre :=
  second_print_identical_tree o hl objs h
    (fun x hx => wrapsOK_of_nlOnlyLast o.width x [] [] (hnl x hx))

/-! ### non-vacuity: a concrete nested document through the theorems

  ```
  x = 1
  a {
    y = "p q" 'r' "u⏎v"
    e {
    }
    c.d {
      z = 3
    }
    f.g = 4 5
  }
  w = 4
  ```
  (`c` holds the single scope `d` with `merge_names`, `f` the single definition `g` with `merge_names`;
  the scope `a` carries an arbitrary id and line, which the printer ignores.)  Replayed on the Python
  library: the same texts at widths 79 and 14, the same ids 1 2 3 4 5 5 6 7 7 8. -/

def exTree : List Obj :=
  [ .defn { name := ['x'] } [{ value := ['1'] }],
    .scope { name := ['a'], id := some 9, line := some 3 }
      [ .defn { name := ['y'] } [{ value := "p q".toList, quote := some .d1 },
          { value := ['r'], quote := some .s1 }, { value := "u\nv".toList, quote := some .d1 }],
        .scope { name := ['e'] } [],
        .scope { name := ['c'] }
          [.scope { name := ['d'], mergeNames := true } [.defn { name := ['z'] } [{ value := ['3'] }]]],
        .scope { name := ['f'] }
          [.defn { name := ['g'], mergeNames := true } [{ value := ['4'] }, { value := ['5'] }]] ],
    .defn { name := ['w'] } [{ value := ['4'] }] ]

theorem exTree_ok : ∀ x ∈ exTree, RTTree x := by decide +kernel
theorem exTree_nl : ∀ x ∈ exTree, x.allDefns NlOnlyLast := by decide +kernel

/-- the text at the default width -/
example : asStr {} (rootOf exTree)
    = .ok ("x = 1\na {\n  y = \"p q\" 'r' \"u\nv\"\n  e {\n  }\n  c.d {\n    z = 3\n  }\n" ++
           "  f.g = 4 5\n}\nw = 4\n").toList := by
  simp only [String.toList_append]
  -- a literal is `String.ofList […]` for `rw` and the kernel: no UTF-8 decoding
  repeat rw [String.toList_ofList]
  decide +kernel

/-- the text at width 14: the value of `y` is wrapped inside the scope, continuation lines indented by
    the two blanks of the scope and the width of `y =` -/
example : asStr { width := 14 } (rootOf exTree)
    = .ok ("x = 1\na {\n  y = \"p q\" \\\n      'r' \\\n      \"u\nv\"\n  e {\n  }\n  c.d {\n" ++
           "    z = 3\n  }\n  f.g = 4 5\n}\nw = 4\n").toList := by
  simp only [String.toList_append]
  repeat rw [String.toList_ofList]
  decide +kernel

/-- the ids the theorem promises for the example: the chain scopes `c`,`d` share 5 and `f`,`g` share 7 -/
example : expIdsSeq 1 exTree = [1, 2, 3, 4, 5, 5, 6, 7, 7, 8] := by decide +kernel

/-- through `print_parse_tree` at width 14: the wrapped text parses back to the tree, ids as above -/
example : ∃ objs', parseObjs ("x = 1\na {\n  y = \"p q\" \\\n      'r' \\\n      \"u\nv\"\n  e {\n  }\n" ++
      "  c.d {\n    z = 3\n  }\n  f.g = 4 5\n}\nw = 4\n").toList = .ok objs' ∧
    eraseList objs' = eraseList exTree ∧
    idsList objs' = [some 1, some 2, some 3, some 4, some 5, some 5, some 6, some 7, some 7, some 8] := by
  simp only [String.toList_append]
  repeat rw [String.toList_ofList]
  obtain ⟨text, objs', h1, h2, h3, h4⟩ := print_parse_tree { width := 14 } rfl exTree exTree_ok exTree_nl
  have e : asStr { width := 14 } (rootOf exTree)
      = .ok ("x = 1\na {\n  y = \"p q\" \\\n      'r' \\\n      \"u\nv\"\n  e {\n  }\n  c.d {\n" ++
             "    z = 3\n  }\n  f.g = 4 5\n}\nw = 4\n").toList := by
    simp only [String.toList_append]
    repeat rw [String.toList_ofList]
    decide +kernel
  simp only [String.toList_append] at e
  repeat rw [String.toList_ofList] at e
  rw [e] at h1
  cases h1
  exact ⟨objs', h2, h3, by rw [h4]; decide +kernel⟩

/-- through `print_parse_tree_nowrap` at the default width -/
example : ∃ objs', parseObjs ("x = 1\na {\n  y = \"p q\" 'r' \"u\nv\"\n  e {\n  }\n  c.d {\n    z = 3\n" ++
      "  }\n  f.g = 4 5\n}\nw = 4\n").toList = .ok objs' ∧ eraseList objs' = eraseList exTree := by
  simp only [String.toList_append]
  repeat rw [String.toList_ofList]
  obtain ⟨_, objs', h2, h3, _⟩ := print_parse_tree_nowrap {} rfl exTree exTree_ok
    (by decide +kernel) (by decide +kernel)
  have e : flatKids exTree [] [] = ("x = 1\na {\n  y = \"p q\" 'r' \"u\nv\"\n  e {\n  }\n  c.d {\n" ++
      "    z = 3\n  }\n  f.g = 4 5\n}\nw = 4\n").toList := by
    simp only [String.toList_append]
    repeat rw [String.toList_ofList]
    decide +kernel
  simp only [String.toList_append] at e
  repeat rw [String.toList_ofList] at e
  rw [e] at h2
  exact ⟨objs', h2, h3⟩

/-- print, parse, print again at width 14 -/
example : ∃ text root', asStr { width := 14 } (rootOf exTree) = .ok text ∧ parse text = .ok root' ∧
    asStr { width := 14 } root' = .ok text :=
  let ⟨text, root', h1, h2, h3, _⟩ :=
    second_print_identical_tree_any_width { width := 14 } rfl exTree exTree_ok exTree_nl
  ⟨text, root', h1, h2, h3⟩

/-- a document without dotted chains: ids 1..n -/
example : expIdsSeq 1 [Obj.scope { name := ['a'] } [.defn { name := ['y'] } [{ value := ['2'] }],
      .scope { name := ['b'] } []], .defn { name := ['w'] } [{ value := ['4'] }]] = [1, 2, 3, 4] := by
  rw [tree_ids_noChains _ (by decide +kernel)]
  decide +kernel

/-! ### sharp edges (kernel-checked in the model; each replayed on the Python library, which agrees) -/

/-- the definition `a = xxxxx "y⏎z" "zzzzzzz"` -/
def edgeDefn : Obj := .defn { name := ['a'] } [{ value := "xxxxx".toList },
  { value := "y\nz".toList, quote := some .d1 }, { value := "zzzzzzz".toList, quote := some .d1 }]

/-- **The indentation counts.**  The definition `a = xxxxx "y⏎z" "zzzzzzz"` round-trips at width 27 as
    an object of the root scope (nothing is wrapped), but NOT one level deeper: inside `s { … }` the
    two blanks of indentation make the printer wrap in front of the last word, the continuation ` \`
    then follows a word containing a newline (finding D6) and the text does not parse
    (Python: `Syntax error: improper definition name "\" (input line 3)`).  `WrapsOK` — the
    hypothesis of `print_parse_tree_exact` — tells the two apart. -/
theorem indentation_changes_wrapping :
    asStr { width := 27 } (rootOf [edgeDefn]) = .ok "a = xxxxx \"y\nz\" \"zzzzzzz\"\n".toList ∧
    parseObjs "a = xxxxx \"y\nz\" \"zzzzzzz\"\n".toList
      = .ok [.defn { name := ['a'], id := some 1, line := some 1 }
          [{ value := "xxxxx".toList, line := some 1 },
           { value := "y\nz".toList, quote := some .d1, line := some 1 },
           { value := "zzzzzzz".toList, quote := some .d1, line := some 2 }]] ∧
    WrapsOK 27 edgeDefn [] [] ∧
    asStr { width := 27 } (rootOf [.scope { name := ['s'] } [edgeDefn]])
      = .ok "s {\n  a = xxxxx \"y\nz\" \\\n      \"zzzzzzz\"\n}\n".toList ∧
    parseObjs "s {\n  a = xxxxx \"y\nz\" \\\n      \"zzzzzzz\"\n}\n".toList
      = .error (.runtime "improper_definition_name" (some 3)) ∧
    ¬ WrapsOK 27 (.scope { name := ['s'] } [edgeDefn]) [] [] := by
  repeat rw [String.toList_ofList]
  repeat rw [String.toList_ofList]
  decide +kernel

/-- **A dotted chain may print a reserved identifier.**  The scope `__a` holding the single
    definition `b__` with `merge_names` (neither name is reserved) prints as `__a.b__ = 1`; the
    parser tests the FULL dotted name and refuses it (Python: `Reserved identifier: "__a.b__" (input
    line 1)`).  Hence the hypothesis `isReserved (dottedName ms name) = false` in `RTNode`. -/
theorem dotted_chain_prints_reserved_name :
    asStr {} (rootOf [.scope { name := "__a".toList }
        [.defn { name := "b__".toList, mergeNames := true } [{ value := ['1'] }]]])
      = .ok "__a.b__ = 1\n".toList ∧
    parseObjs "__a.b__ = 1\n".toList = .error (.runtime "reserved" (some 1)) ∧
    goodName "__a".toList = true ∧ goodName "b__".toList = true ∧
    ¬ RTTree (.scope { name := "__a".toList }
        [.defn { name := "b__".toList, mergeNames := true } [{ value := ['1'] }]]) := by
  decide +kernel

/-- **A merging scope with two children is split.**  The scope `a` holding `b` and `c`, both with
    `merge_names`, prints as `a.b = 1` / `a.c = 2`; the parser builds TWO scopes `a` (ids 1 and 2),
    so the tree is not reproduced — although the second print IS byte-identical.  Hence "exactly one
    child" in the dotted-chain case of `RTNode`. -/
theorem merging_scope_with_two_children_is_split :
    let t : List Obj := [.scope { name := ['a'] }
      [.defn { name := ['b'], mergeNames := true } [{ value := ['1'] }],
       .defn { name := ['c'], mergeNames := true } [{ value := ['2'] }]]]
    asStr {} (rootOf t) = .ok "a.b = 1\na.c = 2\n".toList ∧
    parseObjs "a.b = 1\na.c = 2\n".toList
      = .ok [.scope { name := ['a'], id := some 1 }
               [.defn { name := ['b'], id := some 1, line := some 1, mergeNames := true }
                  [{ value := ['1'], line := some 1 }]],
             .scope { name := ['a'], id := some 2 }
               [.defn { name := ['c'], id := some 2, line := some 2, mergeNames := true }
                  [{ value := ['2'], line := some 2 }]]] ∧
    (∀ objs', parseObjs "a.b = 1\na.c = 2\n".toList = .ok objs' →
      eraseList objs' ≠ eraseList t ∧ asStr {} (rootOf objs') = asStr {} (rootOf t)) ∧
    ¬ (∀ x ∈ t, RTTree x) := by
  refine ⟨by decide +kernel, by decide +kernel, ?_, by decide +kernel⟩
  intro objs' h
  have e : parseObjs "a.b = 1\na.c = 2\n".toList
      = .ok [.scope { name := ['a'], id := some 1 }
               [.defn { name := ['b'], id := some 1, line := some 1, mergeNames := true }
                  [{ value := ['1'], line := some 1 }]],
             .scope { name := ['a'], id := some 2 }
               [.defn { name := ['c'], id := some 2, line := some 2, mergeNames := true }
                  [{ value := ['2'], line := some 2 }]]] := by
    repeat rw [String.toList_ofList]
    decide +kernel
  rw [e] at h
  cases h
  decide +kernel

/-- **The last component of a dotted name escapes the reserved-identifier test.**  `a.__b__ = 1` is
    accepted (model and Python) and yields a definition named `__b__` inside `a`, although
    `a {` / `__b__ = 1` / `}` is refused; such trees do print and re-parse, but they are outside
    `RTTree` (`goodName` excludes reserved names). -/
theorem reserved_last_component_accepted :
    parseObjs "a.__b__ = 1\n".toList
      = .ok [.scope { name := ['a'], id := some 1 }
          [.defn { name := "__b__".toList, id := some 1, line := some 1, mergeNames := true }
            [{ value := ['1'], line := some 1 }]]] ∧
    asStr {} (rootOf [.scope { name := ['a'], id := some 1 }
          [.defn { name := "__b__".toList, id := some 1, line := some 1, mergeNames := true }
            [{ value := ['1'], line := some 1 }]]]) = .ok "a.__b__ = 1\n".toList ∧
    parseObjs "a {\n  __b__ = 1\n}\n".toList = .error (.runtime "reserved" (some 2)) := by
  repeat rw [String.toList_ofList]
  decide +kernel

/-- an unclosed scope and a stray closing brace (the parser model on the edges of the block structure) -/
example : parseObjs "a {\n".toList = .error (.runtime "no_matching_brace" (some 1)) ∧
    parseObjs "a {\n}\n}\n".toList = .error (.runtime "unexpected_end" none) := by decide +kernel

#print axioms RTTree_defn
#print axioms RTTree_scope
#print axioms RTDefn.toTree
#print axioms print_tree
#print axioms print_parse_tree_exact
#print axioms print_parse_tree
#print axioms print_parse_tree_nowrap
#print axioms tree_ids_noChains
#print axioms second_print_identical_tree
#print axioms second_print_identical_tree_any_width
#print axioms exTree_ok
#print axioms indentation_changes_wrapping
#print axioms dotted_chain_prints_reserved_name
#print axioms merging_scope_with_two_children_is_split
#print axioms reserved_last_component_accepted

end Phil.C01
