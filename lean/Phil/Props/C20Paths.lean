/-
  C20 (path index) — "every parameter path that is not inside a multiple scope looks up to the live
  object(s) of the current working tree".

  Model: Phil/IndexPaths.lean.  The state machine of Phil/Index.lean carries the dict
  `_full_path_index` as a further state component (`IState.pathIndex`); it is built by
  `build_index()` in `__init__` (`indexInit`) and rebuilt by `rebuild_index()` (`reindex`) exactly
  where the code rebuilds it (`rebuilds`: `merge_phil`/`update` when the merge went through,
  `update_from_python` when there is an object, `pop_state` when a state was popped, `set_state`;
  NOT `push_state`, NOT `get_python_object`).  Objects are identified by their position in the
  document-order walk of the working tree (`walkOf`).  Lemmas: Phil/Proofs/IndexPathsLemmas.lean.

  All theorems hold for EVERY kernel `k` over every edit type `E` — hence for `concreteKernel c` of every
  context and for `concreteKernelScoped c`, whose edits are (text, only_scope) as in
  `index.update(text, only_scope=…)` / `merge_phil(…, only_scope=…)` — every initial working tree and
  every history (no bound).  `only_scope` reaches `delete_phil_objects` (part of the kernel's merge) and
  `rebuild_index(only_scope=…)`, which IGNORES it: the dict is reset and the WHOLE working tree is
  walked (`reindex_phil_objects` never reads its `only_scope` parameter).  The model does exactly that
  (`rebuilds`), so the invariant below is what rules out a partial rebuild.

    1. `index_is_reindex` (+ `_from`)   — after any history the stored index is `reindex` of the
                                           current working tree; `init_needs_range` (sharpness of the
                                           one hypothesis), `pop_without_rebuild_is_stale` (why
                                           `pop_state` must rebuild), `push_need_not_rebuild`
    2. `lookup_closed`                   — the entry at `p` is the fold of the dict update over the
                                           visited objects of the working tree whose full path is `p`
       `lookup_all_multiple`, `lookup_single`, `lookup_last_plain`, `lookup_absent`, `lookup_exact`
    3. `entries_are_live`                — every object an entry carries IS the object of the working
                                           tree at the position the entry carries, and its full path
                                           is the key
    4. `inside_multiple_scope_only_last` — why the property excludes paths inside `.multiple` scopes
                                           (replayed on the library)
-/
import Phil.Props.C20Concrete
import Phil.Proofs.IndexPathsLemmas
namespace Phil.C20
open Phil Phil.Index

variable {E : Type}

/-- the template test of `reindex_phil_objects`: `is_template < 0` -/
abbrev skipNeg : Int → Bool := fun t => decide (t < 0)

/-- the objects of the working tree `reindex_phil_objects` visits (everything not below an object with
    `is_template < 0`; the root scope first), in document order, with full path and position -/
abbrev liveVisits (w : List Obj) : List Visit := visitsOf skipNeg w

/-- … those whose full path is `p` -/
abbrev liveAt (w : List Obj) (p : Str) : List Visit := visitsAt p (liveVisits w)

/-! ### 1. the stored index is the re-index of the current working tree -/

/-- `build_index` (skips `is_template == -1`) and `rebuild_index` (skips `is_template < 0`) -/
theorem init_index_is_reindex (w : List Obj) (hw : tmplRangeList w = true) : indexInit w = reindex w := by
  unfold indexInit reindex buildIndex visitsOf
  rw [visitList_skip_congr_ipl w [] 1 hw]

/-- the machine with the index is the machine of Phil/Index.lean plus one component: every theorem
    of Phil/Props/C20.lean and C20Concrete.lean applies to `.base` -/
theorem index_machine_refines (k : Kernel (List Obj) PVal E) (s : IState) (ops : List (Op PVal E)) :
    (irun k s ops).base = run k s.base ops := by
  induction ops generalizing s with
  | nil => rfl
  | cons op ops ih => exact ih _

/-- from any state whose index is live (no hypothesis on template flags) every history leads to a state
    whose index is live -/
theorem index_is_reindex_from (k : Kernel (List Obj) PVal E) (s : IState) (hs : IndexLive s)
    (ops : List (Op PVal E)) : IndexLive (irun k s ops) := by
  induction ops generalizing s with
  | nil => exact hs
  | cons op ops ih => exact ih _ (istep_live_ipl k s op hs)

/-- **C20, the index invariant.**  For every kernel, every initial working tree whose template flags
    are ≥ -1 (`tmplRangeList`; the library only ever writes -1, 0, 1) and EVERY history, the stored
    `_full_path_index` equals `reindex` of the current working tree. -/
theorem index_is_reindex (k : Kernel (List Obj) PVal E) (w : List Obj) (hw : tmplRangeList w = true)
    (ops : List (Op PVal E)) :
    (irun k (iinit k w) ops).pathIndex = reindex (run k (init k w) ops).working := by
  have h := index_is_reindex_from k (iinit k w) (init_index_is_reindex w hw) ops
  unfold IndexLive at h
  rw [h, index_machine_refines]
  rfl

/-- after ONE rebuilding operation the index is live whatever it was before -/
theorem rebuild_makes_live (k : Kernel (List Obj) PVal E) (s : IState) (op : Op PVal E)
    (h : rebuilds k s.base op = true) : IndexLive (istep k s op).1 := by
  unfold IndexLive
  show (if rebuilds k s.base op then reindex (step k s.base op).1.working else s.pathIndex) = _
  rw [h]
  rfl

/-- `push_state` does not rebuild and need not: it leaves the working tree alone -/
theorem push_need_not_rebuild (k : Kernel (List Obj) PVal E) (s : IState) :
    (istep k s .push).1.pathIndex = s.pathIndex ∧ (istep k s .push).1.base.working = s.base.working :=
  ⟨rfl, rfl⟩

/-- what is compared: path, kind, positions -/
def showIx (ix : PathIndex) : List (String × String × List Nat) :=
  ix.map (fun kv => (String.ofList kv.1, kv.2.kind, kv.2.positions))

/-- **the hypothesis on template flags is sharp**: an object with `is_template = -2` is indexed by
    `build_index` (test `== -1`) and skipped by `rebuild_index` (test `< 0`).  (The library never
    writes -2; set by hand, `index(master_phil=m, working_phil=w)` followed by `rebuild_index()`
    shows the same difference.) -/
theorem init_needs_range :
    tmplRangeList [Obj.defn { name := ['a'], tmpl := -2 } []] = false ∧
    showIx (indexInit [Obj.defn { name := ['a'], tmpl := -2 } []]) = [("", "one", [0]), ("a", "one", [1])] ∧
    showIx (reindex [Obj.defn { name := ['a'], tmpl := -2 } []]) = [("", "one", [0])] := by
  refine ⟨by decide, by decide, by decide⟩

/-! #### a literal context with a nested scope, a `.multiple` definition and a `.multiple` scope -/

/-- ```
    n = 1
      .type = int
    g {
      s = a
        .type = str
        .multiple = True
      b = True
        .type = bool
    }
    m
      .multiple = True
    {
      x = a
        .type = str
    }
    ``` -/
def pMasterText : Str :=
  ("n = 1\n  .type = int\ng {\n  s = a\n    .type = str\n    .multiple = True\n  b = True\n    .type = bool\n}\n" ++
   "m\n  .multiple = True\n{\n  x = a\n    .type = str\n}\n").toList

def pMaster : List Obj := match parseObjs pMasterText with | .ok m => m | .error _ => []

/-- the initial working tree `master.fetch()` -/
def pW0 : List Obj := match fetchRoot env12 false pMaster [] with | .ok (r, _) => r.children | .error _ => []

/-- the context as the driver (and `index.__init__`) builds it -/
def pC : IndexCtx := { envs := env12, master := pMaster, multiple := multiplePaths 1000 [] pW0 }

section
attribute [local instance] objDecEq

theorem pMaster_eq : pMaster =
    [
      .defn { name := "n".toList, id := some 1, line := some 1, attrs := [("type", .conv (.int {}))] }
        [{ value := "1".toList, line := some 1 }],
      .scope { name := "g".toList, id := some 2, line := some 3 } [
        .defn
          { name := "s".toList, id := some 3, line := some 4,
            attrs := [("type", .conv .str), ("multiple", .bool true)] }
          [{ value := "a".toList, line := some 4 }],
        .defn { name := "b".toList, id := some 4, line := some 7, attrs := [("type", .conv .bool)] }
          [{ value := "True".toList, line := some 7 }]],
      .scope { name := "m".toList, id := some 5, line := some 10, attrs := [("multiple", .bool true)] } [
        .defn { name := "x".toList, id := some 6, line := some 13, attrs := [("type", .conv .str)] }
          [{ value := "a".toList, line := some 13 }]]] := by
  decide +kernel

theorem pW0_eq : pW0 =
    [
      .defn { name := "n".toList, id := some 1, line := some 1, attrs := [("type", .conv (.int {}))] }
        [{ value := "1".toList, line := some 1 }],
      .scope { name := "g".toList, id := some 2, line := some 3 } [
        .defn
          { name := "s".toList, id := some 3, line := some 4, tmpl := 1,
            attrs := [("type", .conv .str), ("multiple", .bool true)] }
          [{ value := "a".toList, line := some 4 }],
        .defn { name := "b".toList, id := some 4, line := some 7, attrs := [("type", .conv .bool)] }
          [{ value := "True".toList, line := some 7 }]],
      .scope { name := "m".toList, id := some 5, line := some 10, tmpl := 1,
               attrs := [("multiple", .bool true)] } [
        .defn { name := "x".toList, id := some 6, line := some 13, attrs := [("type", .conv .str)] }
          [{ value := "a".toList, line := some 13 }]]] := by
  decide +kernel

theorem pC_eq : pC = { envs := env12, master := pMaster, multiple := ["g.s".toList, "m".toList] } := by
  have h : multiplePaths 1000 [] pW0 = ["g.s".toList, "m".toList] := by
    rw [pW0_eq]
    decide +kernel
  rw [pC, h]

end

local notation "K₁" => concreteKernel pC

def pe1 : Str := "g.s = x\ng.s = y\nn = 2".toList
def pe2 : Str := "m {\n  x = b\n}\nm {\n  x = c\n}\n".toList

example : pC.multiple.map String.ofList = ["g.s", "m"] := by
  rw [pC_eq]
  decide +kernel

theorem pW0_range : tmplRangeList pW0 = true := by
  rw [pW0_eq]
  decide +kernel

/-- the index after `__init__` -/
example : showIx (iinit K₁ pW0).pathIndex =
    [("", "one", [0]), ("n", "one", [1]), ("g", "one", [2]), ("g.s", "many", [3]), ("g.b", "one", [4]),
     ("m", "many", [5]), ("m.x", "one", [6])] := by
  rw [pC_eq, pMaster_eq, pW0_eq]
  decide +kernel

/-- the working tree after two edits (the second inside a push/pop bracket), as the walk sees it:
    path, position, template flag -/
example : (walkOf (irun K₁ (iinit K₁ pW0) [.update pe1, .push, .update pe2]).base.working).map
      (fun v => (String.ofList v.path, v.pos, v.obj.meta.tmpl)) =
    [("", 0, 0), ("n", 1, 0), ("g", 2, 0), ("g.s", 3, -1), ("g.s", 4, 0), ("g.s", 5, 0), ("g.b", 6, 0),
     ("m", 7, -1), ("m.x", 8, 0), ("m", 9, 0), ("m.x", 10, 0), ("m", 11, 0), ("m.x", 12, 0)] := by
  rw [pC_eq, pMaster_eq, pW0_eq]
  decide +kernel

/-- … and its index: the template objects (positions 3, 7 and everything below 7) are skipped,
    `g.s` and `m` list their instances -/
example : showIx (irun K₁ (iinit K₁ pW0) [.update pe1, .push, .update pe2]).pathIndex =
    [("", "one", [0]), ("n", "one", [1]), ("g", "one", [2]), ("g.s", "many", [4, 5]), ("g.b", "one", [6]),
     ("m", "many", [9, 11]), ("m.x", "one", [12])] := by
  rw [pC_eq, pMaster_eq, pW0_eq]
  decide +kernel

/-- the invariant on the instance, by the theorem -/
example : (irun K₁ (iinit K₁ pW0) [.update pe1, .push, .update pe2, .pop, .getPython]).pathIndex =
    reindex (run K₁ (init K₁ pW0) [.update pe1, .push, .update pe2, .pop, .getPython]).working :=
  index_is_reindex K₁ pW0 pW0_range _

/-- **why `pop_state` must rebuild** (negation witness): the machine whose `pop` leaves the index
    alone still indexes the objects of the discarded working tree after the pop — positions 9, 11, 12
    where the restored tree has 9 objects (positions 0 … 8).  (The correspondence harness shows the
    same on the library with `rebuild_index()` removed from `pop_state`: 226 of 589 histories
    disagree.) -/
theorem pop_without_rebuild_is_stale :
    showIx (irunNoPop K₁ (iinit K₁ pW0) [.update pe1, .push, .update pe2, .pop]).pathIndex =
      [("", "one", [0]), ("n", "one", [1]), ("g", "one", [2]), ("g.s", "many", [4, 5]), ("g.b", "one", [6]),
       ("m", "many", [9, 11]), ("m.x", "one", [12])] ∧
    showIx (reindex (irunNoPop K₁ (iinit K₁ pW0) [.update pe1, .push, .update pe2, .pop]).base.working) =
      [("", "one", [0]), ("n", "one", [1]), ("g", "one", [2]), ("g.s", "many", [4, 5]), ("g.b", "one", [6]),
       ("m", "many", [7]), ("m.x", "one", [8])] ∧
    (walkOf (irunNoPop K₁ (iinit K₁ pW0) [.update pe1, .push, .update pe2, .pop]).base.working).length = 9 := by
  rw [pC_eq, pMaster_eq, pW0_eq]
  refine ⟨by decide +kernel, by decide +kernel, by decide +kernel⟩

/-! #### edits with `only_scope` -/

/-- the invariant for histories whose edits carry `only_scope` (instance of `index_is_reindex`) -/
theorem index_is_reindex_scoped (c : IndexCtx) (w : List Obj) (hw : tmplRangeList w = true)
    (ops : List (Op PVal (Str × Option Str))) :
    (irun (concreteKernelScoped c) (iinit (concreteKernelScoped c) w) ops).pathIndex =
      reindex (run (concreteKernelScoped c) (init (concreteKernelScoped c) w) ops).working :=
  index_is_reindex (concreteKernelScoped c) w hw ops

/-- an edit with `only_scope = None` is an edit of the plain concrete kernel -/
theorem scoped_none_is_plain (c : IndexCtx) (w : List Obj) (text : Str) :
    (concreteKernelScoped c).merge w (text, none) = (concreteKernel c).merge w text := by
  unfold concreteKernelScoped concreteKernel
  simp only [deletePhilScoped_none_ipl]
  rfl

/-- `update("m { x = c }", only_scope="g")` after `update("m { x = b }")`: the deletion of the old
    instance of `m` is restricted to objects on / above / below `g`, so the old instance stays and the
    working tree has two instances of `m` (without `only_scope`: one) — and the index, rebuilt from
    the WHOLE tree, lists both although `m` lies outside `only_scope`.  Replayed on the library:
    `[('', 0), ('n', 1), ('g', 2), ('g.s', [3]), ('g.b', 4), ('m', [7, 9]), ('m.x', 10)]` with
    `only_scope="g"`, `… ('m', [7]), ('m.x', 8)` without. -/
theorem only_scope_index_is_whole_tree :
    showIx (irun (concreteKernelScoped pC) (iinit (concreteKernelScoped pC) pW0)
      [.update ("m {\n  x = b\n}\n".toList, none), .update ("m {\n  x = c\n}\n".toList, some "g".toList)]).pathIndex =
    [("", "one", [0]), ("n", "one", [1]), ("g", "one", [2]), ("g.s", "many", [3]), ("g.b", "one", [4]),
     ("m", "many", [7, 9]), ("m.x", "one", [10])] ∧
    showIx (irun (concreteKernelScoped pC) (iinit (concreteKernelScoped pC) pW0)
      [.update ("m {\n  x = b\n}\n".toList, none), .update ("m {\n  x = c\n}\n".toList, none)]).pathIndex =
    [("", "one", [0]), ("n", "one", [1]), ("g", "one", [2]), ("g.s", "many", [3]), ("g.b", "one", [4]),
     ("m", "many", [7]), ("m.x", "one", [8])] := by
  rw [pC_eq, pMaster_eq, pW0_eq]
  refine ⟨by decide +kernel, by decide +kernel⟩

/-! ### 2. what a lookup returns -/

/-- **C20, lookup (closed form).**  After any history, `_full_path_index[p]` is the fold of the dict
    update (`entryStep`: a `.multiple` object is appended to the list, any other object overwrites)
    over the visited objects of the CURRENT working tree whose full path is `p`, in document order. -/
theorem lookup_closed (k : Kernel (List Obj) PVal E) (w : List Obj) (hw : tmplRangeList w = true)
    (ops : List (Op PVal E)) (p : Str) :
    (irun k (iinit k w) ops).lookup p = entryFold none (liveAt (run k (init k w) ops).working p) := by
  unfold IState.lookup
  rw [index_is_reindex k w hw ops]
  exact get_buildIndex_ipl _ _ p

/-- the live objects at `p` are all `.multiple` (a `.multiple` definition or scope outside `.multiple`
    scopes): the lookup returns the list of ALL of them, in document order -/
theorem lookup_all_multiple (k : Kernel (List Obj) PVal E) (w : List Obj) (hw : tmplRangeList w = true)
    (ops : List (Op PVal E)) (p : Str) (v : Visit) (vs : List Visit)
    (hocc : liveAt (run k (init k w) ops).working p = v :: vs)
    (hm : ∀ x ∈ v :: vs, multipleIsTrue x.obj = true) :
    (irun k (iinit k w) ops).lookup p = some (.many (pairsOf (v :: vs))) := by
  rw [lookup_closed k w hw ops p, hocc]
  exact entryFold_all_multiple_ipl v vs hm

/-- in general a non-multiple object overwrites: when the LAST live object at `p` is not `.multiple`
    the lookup returns it alone, however many others there are (paths inside `.multiple` scopes) -/
theorem lookup_last_plain (k : Kernel (List Obj) PVal E) (w : List Obj) (hw : tmplRangeList w = true)
    (ops : List (Op PVal E)) (p : Str) (vs : List Visit) (v : Visit)
    (hocc : liveAt (run k (init k w) ops).working p = vs ++ [v]) (hm : multipleIsTrue v.obj = false) :
    (irun k (iinit k w) ops).lookup p = some (.one v.pos v.obj) := by
  rw [lookup_closed k w hw ops p, hocc]
  exact entryFold_last_plain_ipl none vs v hm

/-- exactly one live object at `p`, not `.multiple`: the lookup returns it -/
theorem lookup_single (k : Kernel (List Obj) PVal E) (w : List Obj) (hw : tmplRangeList w = true)
    (ops : List (Op PVal E)) (p : Str) (v : Visit)
    (hocc : liveAt (run k (init k w) ops).working p = [v]) (hm : multipleIsTrue v.obj = false) :
    (irun k (iinit k w) ops).lookup p = some (.one v.pos v.obj) :=
  lookup_last_plain k w hw ops p [] v hocc hm

/-- no live object at `p`: the path is not a key -/
theorem lookup_absent (k : Kernel (List Obj) PVal E) (w : List Obj) (hw : tmplRangeList w = true)
    (ops : List (Op PVal E)) (p : Str) (hocc : liveAt (run k (init k w) ops).working p = []) :
    (irun k (iinit k w) ops).lookup p = none := by
  rw [lookup_closed k w hw ops p, hocc]
  rfl

/-- the live objects at `p` are *uniform*: all `.multiple`, or a single object that is not -/
def UniformAt (w : List Obj) (p : Str) : Prop :=
  (∀ x ∈ liveAt w p, multipleIsTrue x.obj = true) ∨
    (∃ v, liveAt w p = [v] ∧ multipleIsTrue v.obj = false)

/-- **C20, lookup returns exactly the live objects.**  Whenever the live objects at `p` are uniform
    and there is at least one, the lookup returns an entry whose (position, object) pairs are EXACTLY
    the live objects at `p`, in document order — a list for `.multiple` objects, the object itself
    otherwise. -/
theorem lookup_exact (k : Kernel (List Obj) PVal E) (w : List Obj) (hw : tmplRangeList w = true)
    (ops : List (Op PVal E)) (p : Str)
    (hne : liveAt (run k (init k w) ops).working p ≠ [])
    (hu : UniformAt (run k (init k w) ops).working p) :
    ∃ e, (irun k (iinit k w) ops).lookup p = some e ∧
      e.pairs = pairsOf (liveAt (run k (init k w) ops).working p) := by
  rcases hu with hm | ⟨v, hv, hm⟩
  · cases hocc : liveAt (run k (init k w) ops).working p with
    | nil => exact absurd hocc hne
    | cons v vs =>
      rw [hocc] at hm
      exact ⟨_, lookup_all_multiple k w hw ops p v vs hocc hm, rfl⟩
  · rw [hv]
    exact ⟨_, lookup_single k w hw ops p v hv hm, rfl⟩

/-! ### 3. index entries refer to live objects -/

/-- **C20, liveness.**  After any history, every (position, object) pair of every entry of the index
    is a node of the document-order walk of the CURRENT working tree: the object found at that
    position is that object, and its full path is the key.  (No stale object is ever handed out by a
    lookup — on the library this is the `is` comparison of the correspondence harness.) -/
theorem entries_are_live (k : Kernel (List Obj) PVal E) (w : List Obj) (hw : tmplRangeList w = true)
    (ops : List (Op PVal E)) (p : Str) (e : PEntry)
    (h : (irun k (iinit k w) ops).lookup p = some e) :
    ∀ x ∈ e.pairs, (walkOf (run k (init k w) ops).working)[x.1]? = some ⟨p, x.1, x.2⟩ := by
  unfold IState.lookup at h
  rw [index_is_reindex k w hw ops] at h
  exact entry_pairs_live_ipl _ _ p e h

/-- the positions of the walk are 0, 1, 2, …: a position names one object -/
theorem walk_positions (w : List Obj) : (walkOf w).map (·.pos) = List.range (1 + nodeCountL w) :=
  walkOf_pos_ipl w

/-- every live object's path is a key (nothing visited is missing from the index) -/
theorem live_path_is_key (k : Kernel (List Obj) PVal E) (w : List Obj) (hw : tmplRangeList w = true)
    (ops : List (Op PVal E)) (v : Visit) (hv : v ∈ liveVisits (run k (init k w) ops).working) :
    ((irun k (iinit k w) ops).lookup v.path).isSome = true := by
  rw [lookup_closed k w hw ops v.path]
  have hmem : v ∈ liveAt (run k (init k w) ops).working v.path := by
    unfold liveAt visitsAt
    exact List.mem_filter.mpr ⟨hv, by simp⟩
  generalize liveAt (run k (init k w) ops).working v.path = l at hmem
  cases l with
  | nil => cases hmem
  | cons a l =>
    obtain ⟨init, last, hl⟩ : ∃ init last, a :: l = init ++ [last] :=
      ⟨(a :: l).dropLast, (a :: l).getLast (List.cons_ne_nil _ _),
        (List.dropLast_concat_getLast (List.cons_ne_nil _ _)).symm⟩
    rw [hl]
    unfold entryFold
    rw [List.foldl_append]
    rfl

/-! ### 4. instances -/

/-- the history used below: two edits, the second inside a bracket that stays open -/
def pHist : List (Op PVal Str) := [.update pe1, .push, .update pe2]

/-- the live objects at `g.s` (a `.multiple` definition inside a plain scope): the two instances -/
example : (liveAt (run K₁ (init K₁ pW0) pHist).working "g.s".toList).map (fun v => (v.pos, multipleIsTrue v.obj)) =
    [(4, true), (5, true)] := by
  rw [pC_eq, pMaster_eq, pW0_eq]
  decide +kernel

/-- `lookup_exact` applies to `g.s`, `m` (all `.multiple`) and to `n`, `g`, `g.b` (single) … -/
example : ∃ e, (irun K₁ (iinit K₁ pW0) pHist).lookup "g.s".toList = some e ∧
    e.pairs = pairsOf (liveAt (run K₁ (init K₁ pW0) pHist).working "g.s".toList) := by
  apply lookup_exact K₁ pW0 pW0_range pHist
  · intro h
    have : (liveAt (run K₁ (init K₁ pW0) pHist).working "g.s".toList).length = 2 := by
      rw [pC_eq, pMaster_eq, pW0_eq]
      decide +kernel
    rw [h] at this; cases this
  · left
    have : (liveAt (run K₁ (init K₁ pW0) pHist).working "g.s".toList).all (fun x => multipleIsTrue x.obj) = true := by
      rw [pC_eq, pMaster_eq, pW0_eq]
      decide +kernel
    exact fun x hx => List.all_eq_true.mp this x hx

/-- **why the property excludes paths inside `.multiple` scopes** (kernel-checked, replayed on the
    library): `m` has two instances, so there are two live objects with path `m.x` (positions 10 and
    12); the index holds only the LAST one, because a non-multiple object overwrites
    (`lookup_last_plain`).  `UniformAt` fails for `m.x`.

    Library (unchanged tree), same master and edits:
    ```
    idx = index(master_phil=m); idx.update("g.s = x\ng.s = y\nn = 2"); idx.push_state()
    idx.update("m {\n  x = b\n}\nm {\n  x = c\n}\n")
    # positions of the indexed objects in a walk of idx.working_phil:
    # [('', 0), ('n', 1), ('g', 2), ('g.s', [4, 5]), ('g.b', 6), ('m', [9, 11]), ('m.x', 12)]
    # live m.x objects: [10, 12];  get_scope_by_name('m.x') is the one at 12
    ``` -/
theorem inside_multiple_scope_only_last :
    (liveAt (run K₁ (init K₁ pW0) pHist).working "m.x".toList).map (fun v => (v.pos, multipleIsTrue v.obj)) =
      [(10, false), (12, false)] ∧
    ((irun K₁ (iinit K₁ pW0) pHist).lookup "m.x".toList).map (fun e => (e.kind, e.positions)) =
      some ("one", [12]) := by
  rw [pC_eq, pMaster_eq, pW0_eq]
  refine ⟨by decide +kernel, by decide +kernel⟩

end Phil.C20

#print axioms Phil.C20.index_is_reindex
#print axioms Phil.C20.index_is_reindex_from
#print axioms Phil.C20.index_machine_refines
#print axioms Phil.C20.rebuild_makes_live
#print axioms Phil.C20.push_need_not_rebuild
#print axioms Phil.C20.init_index_is_reindex
#print axioms Phil.C20.init_needs_range
#print axioms Phil.C20.pW0_range
#print axioms Phil.C20.pop_without_rebuild_is_stale
#print axioms Phil.C20.index_is_reindex_scoped
#print axioms Phil.C20.scoped_none_is_plain
#print axioms Phil.C20.only_scope_index_is_whole_tree
#print axioms Phil.C20.lookup_closed
#print axioms Phil.C20.lookup_all_multiple
#print axioms Phil.C20.lookup_single
#print axioms Phil.C20.lookup_last_plain
#print axioms Phil.C20.lookup_absent
#print axioms Phil.C20.lookup_exact
#print axioms Phil.C20.entries_are_live
#print axioms Phil.C20.walk_positions
#print axioms Phil.C20.live_path_is_key
#print axioms Phil.C20.inside_multiple_scope_only_last
