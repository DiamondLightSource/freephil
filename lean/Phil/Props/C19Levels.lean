/-
  C19 (part) — "Raising the attributes level only adds information: level 0 shows names and values,
  1 adds help and alias, 2 adds every attribute that is set, 3 adds the unset ones, and the tree
  re-parsed from any level is the same once attributes are ignored" — and the expert filter combined
  with attribute levels.  Generalises `filtered_text_parses_to_subtree` (Phil/Props/C19Closed.lean,
  attributes level 0) to every attributes level.  Property theorems only; lemmas in
  Phil/Proofs/AttrRoundTrip.lean.
-/
import Phil.Props.C01Attrs
import Phil.Props.C19Closed
namespace Phil.C19
open Phil Phil.C01

attribute [local instance] objDecEqInst exceptDecEqRT

/-! ### which attributes a level shows -/

/-- level ≤ 0: no attribute line at all -/
theorem level0_shows_no_attribute (isDef : Bool) (L : Int) (hL : L ≤ 0) (attrs : Attrs) (pre : Str) (w : Int) :
    shownAttrs isDef L attrs = [] ∧ attrBlock isDef pre L w attrs = [] := by
  simp [shownAttrs, attrBlock, hL]

/-- level 1 shows exactly the help and alias attributes that are set -/
theorem level1_shows_help_and_alias (n : String) (v : AttrVal) :
    attrShown 1 n v = true ↔ (n = "help" ∨ n = "alias") ∧ v.isNone = false := by
  rw [attrShown_eq_B_art]
  have h1 : decide ((1 : Int) > 1) = false := by decide
  have h2 : decide ((1 : Int) > 2) = false := by decide
  rw [h1, h2]
  by_cases hh : n = "help"
  · subst hh
    have key : ∀ t i : Bool, (attrShownB false true false t i false false = true) ↔ i = false := by decide
    simpa using key v.truthy v.isNone
  · by_cases ha : n = "alias"
    · subst ha
      have key : ∀ t i : Bool, (attrShownB false false true t i false false = true) ↔ i = false := by decide
      simpa using key v.truthy v.isNone
    · have hh' : (n == "help") = false := by simpa using hh
      have ha' : (n == "alias") = false := by simpa using ha
      rw [hh', ha']
      have key : ∀ d t i : Bool, attrShownB d false false t i false false = false := by decide
      simp [key, hh, ha]

/-- level 2 shows exactly the attributes that are set (a `deprecated` only when it is truthy) -/
theorem level2_shows_set_attributes (n : String) (v : AttrVal) :
    attrShown 2 n v = true ↔ v.isNone = false ∧ (n = "deprecated" → v.truthy = true) := by
  rw [attrShown_eq_B_art]
  have h1 : decide ((2 : Int) > 1) = true := by decide
  have h2 : decide ((2 : Int) > 2) = false := by decide
  rw [h1, h2]
  by_cases hd : n = "deprecated"
  · subst hd
    have key : ∀ t i : Bool, (attrShownB true false false t i true false = true) ↔ (i = false ∧ t = true) := by
      decide
    simpa using key v.truthy v.isNone
  · have hd' : (n == "deprecated") = false := by simpa using hd
    rw [hd']
    have key : ∀ h a t i : Bool, (attrShownB false h a t i true false = true) ↔ i = false := by decide
    simp [key, hd]

/-- level 3 (and above) shows every attribute, set or not, except an unset `alias` and a `deprecated`
    that is not truthy -/
theorem level3_shows_unset_attributes (L : Int) (hL : 3 ≤ L) (n : String) (v : AttrVal) :
    attrShown L n v = true ↔
      (n = "deprecated" → v.truthy = true) ∧ (n = "alias" → v.isNone = false) := by
  rw [attrShown_eq_B_art]
  have h1 : decide (L > 1) = true := by simp; omega
  have h2 : decide (L > 2) = true := by simp; omega
  rw [h1, h2]
  by_cases hd : n = "deprecated"
  · subst hd
    have key : ∀ t i : Bool, (attrShownB true false false t i true true = true) ↔ t = true := by decide
    simpa using key v.truthy v.isNone
  · have hd' : (n == "deprecated") = false := by simpa using hd
    rw [hd']
    by_cases ha : n = "alias"
    · subst ha
      have key : ∀ t i : Bool, (attrShownB false false true t i true true = true) ↔ i = false := by decide
      simpa using key v.truthy v.isNone
    · have ha' : (n == "alias") = false := by simpa using ha
      rw [ha']
      have key : ∀ h t i : Bool, attrShownB false h false t i true true = true := by decide
      simp [key, hd, ha]

/-- **Raising the level only adds**: what is shown at a level is shown at every higher level … -/
theorem raising_level_only_adds (L L' : Int) (hLL : L ≤ L') (n : String) (v : AttrVal)
    (h : attrShown L n v = true) : attrShown L' n v = true :=
  attrShown_mono hLL n v h

/-- … with the same value when read back: the attributes read back from level `L` are read back from
    every higher level -/
theorem higher_level_reads_back_more (isDef : Bool) (L L' : Int) (hL : 0 < L) (hLL : L ≤ L')
    (attrs : Attrs) (n : String) (hn : n ∈ attrNamesOf isDef)
    (h : (shownAttrs isDef L attrs).get n ≠ .none) :
    (shownAttrs isDef L' attrs).get n = (shownAttrs isDef L attrs).get n := by
  rw [get_shownAttrs_art isDef L attrs n hn] at h ⊢
  rw [get_shownAttrs_art isDef L' attrs n hn]
  by_cases hs : attrShown L n (attrs.get n) = true
  · have hs' := raising_level_only_adds L L' hLL n _ hs
    have : 0 < L' := by omega
    simp [hs, hs', hL, this]
  · simp [hs] at h

/-! ### the re-parsed tree is the same at every level once attributes are ignored -/

/-- **The tree re-parsed from any attributes level is the same once attributes are ignored**: names,
    nesting, order, flags, words and quote styles (`eraseAttrsList`), at every level and width. -/
theorem any_level_reparses_to_same_tree (o : ShowOpts) (he : o.expert = none) (objs : List Obj)
    (h : ∀ x ∈ objs, RTTreeAttr o.level o.width x) (hnl : ∀ x ∈ objs, x.allDefns NlOnlyLast)
    (hnd : depPlacedList objs = true) :
    ∃ text objs', asStr o (rootOf objs) = .ok text ∧ parseObjs text = .ok objs' ∧
      eraseAttrsList objs' = eraseAttrsList objs := by
  obtain ⟨text, objs', h1, _, h2, h3, _⟩ := print_parse_tree_attrs o he objs h hnl hnd
  exact ⟨text, objs', h1, h2, by
    rw [eraseAttrsList_of_eraseList_ert h3, eraseAttrsList_normAList_art]⟩

/-! ### the expert filter at every attributes level -/

/-- **The filtered text parses to exactly the shown sub-tree, at every attributes level.**  For a
    forest of the class (`RTTreeAttr` at the level and width used), every expert setting (absent,
    negative, `k ≥ 0`), every width and every prefix `p` of blanks: the printed text is the text of
    the shown objects (`shownAt`: everything, or `pruneList k`) with their attribute lines; it parses,
    and the parser returns the shown objects, each with exactly the attributes printed at the level
    (`normAList`) — hence the shown sub-tree once attributes are ignored. -/
theorem filtered_text_parses_to_subtree_levels (o : ShowOpts) (objs : List Obj) (p : Str)
    (hp : ∀ c ∈ p, c = ' ')
    (h : RTAll (stripAttrsList objs)) (hok : attrsOKsAt o.level o.width objs p = true)
    (hnl : ∀ x ∈ objs, x.allDefns NlOnlyLast) (hnd : ∀ x ∈ objs, x.noDeprecated = true)
    (hw : ExpertWFs objs = true) :
    ∃ text objs', asStr o (rootOf objs) p = .ok text ∧
      text = kidsTextA o.level o.width (shownAt o.expert objs) [] p ∧
      parseObjs text = .ok objs' ∧
      eraseList objs' = eraseList (normAList o.level (shownAt o.expert objs)) ∧
      eraseAttrsList objs' = eraseAttrsList (shownAt o.expert objs) ∧
      idsList objs' = (expIdsSeq 1 (shownAt o.expert objs)).map some := by
  obtain ⟨objs', h1, h2, h3, h4⟩ := filtered_round_trip_attrs_art o objs p hp h hok
    ((noDeprecatedList_iff_ert objs).mpr hnd) ((allDefnsList_iff NlOnlyLast objs).mpr hnl)
    (fun _ _ _ => hw)
  exact ⟨_, objs', h1, rfl, h2, h3, by
    rw [eraseAttrsList_of_eraseList_ert h3, eraseAttrsList_normAList_art], h4⟩

/-- the case `expert_level = k ≥ 0`, empty prefix: the pruned forest -/
theorem filtered_text_parses_to_pruned_levels (k : Int) (hk : 0 ≤ k) (L w : Int) (objs : List Obj)
    (h : ∀ x ∈ objs, RTTreeAttr L w x) (hnl : ∀ x ∈ objs, x.allDefns NlOnlyLast)
    (hnd : ∀ x ∈ objs, x.noDeprecated = true) (hw : ExpertWFs objs = true) :
    ∃ text objs', asStr { level := L, width := w, expert := some k } (rootOf objs) = .ok text ∧
      parseObjs text = .ok objs' ∧
      eraseList objs' = eraseList (normAList L (pruneList k objs)) ∧
      eraseAttrsList objs' = eraseAttrsList (pruneList k objs) := by
  obtain ⟨r1, r2⟩ := rtAllAttr_of_forall h
  obtain ⟨text, objs', h1, _, h2, h3, h4, _⟩ := filtered_text_parses_to_subtree_levels
    { level := L, width := w, expert := some k } objs [] (by intro c hc; cases hc) r1 r2 hnl hnd hw
  simp only [shownAt_nonneg_ert k hk] at h3 h4
  exact ⟨text, objs', h1, h2, h3, h4⟩

/-! ### non-vacuity: the example document of Phil/Props/C01Attrs.lean, expert level 1, attributes level 3 -/

theorem exAttr_wf : ExpertWFs exAttrForest = true := by decide +kernel

/-- at expert level 1 the scope `s` (level 2) is hidden with everything in it; at attributes level 2
    the definition `a` keeps its three attributes -/
example : ∃ text objs', asStr { level := 2, width := 79, expert := some 1 } (rootOf exAttrForest) = .ok text ∧
    parseObjs text = .ok objs' ∧ eraseList objs' = exAttrForest.take 1 := by
  obtain ⟨text, objs', h1, h2, h3, _⟩ := filtered_text_parses_to_pruned_levels 1 (by decide) 2 79
    exAttrForest exAttr_ok2 exAttr_nl (by decide +kernel) exAttr_wf
  exact ⟨text, objs', h1, h2, by rw [h3]; decide +kernel⟩

example : ∃ text objs', asStr { level := 1 } (rootOf exAttrForest) = .ok text ∧
    parseObjs text = .ok objs' ∧ eraseAttrsList objs' = eraseAttrsList exAttrForest :=
  any_level_reparses_to_same_tree { level := 1 } rfl exAttrForest exAttr_ok1 exAttr_nl exAttr_nd

#print axioms level0_shows_no_attribute
#print axioms level1_shows_help_and_alias
#print axioms level2_shows_set_attributes
#print axioms level3_shows_unset_attributes
#print axioms raising_level_only_adds
#print axioms higher_level_reads_back_more
#print axioms any_level_reparses_to_same_tree
#print axioms filtered_text_parses_to_subtree_levels
#print axioms filtered_text_parses_to_pruned_levels
#print axioms exAttr_wf

end Phil.C19
