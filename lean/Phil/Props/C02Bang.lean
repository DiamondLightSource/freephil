/-
  C02 (closed form, `!` on definitions of flat documents) — "a `!` prefix disables exactly the one
  construct it precedes and nothing else".

  Setting: the flat documents of Phil/Props/C02Layout.lean (a list of definitions `name = w1 … wk`,
  each with a layout: filler lines, indentation, blanks around `=` and between the words, the way the
  definition ends).  Every definition carries one more bit: `bang : Bool` — the text `!` glued
  directly in front of its name (`!name = …`; indentation and filler stay in front of the `!`).

    * `renderB_l2 ds post`  — the text of the flagged document (`ds : List (DefSpec × DefLayout × Bool)`),
    * `unbang_l2 ds`        — the same definitions and layouts without the flags,
    * `bangs_l2 ds`         — the list of flags,
    * `Obj.setDisabled_l2 o b` — `o` with `is_disabled := b` (every other field — name, primary id,
                              source line, attributes, `merge_names`, words or children — unchanged),
    * `setFlags_l2 bs objs` — position by position.

  Property theorems only; lemmas are in Phil/Proofs/Layout2.lean.  Every sharp edge below was replayed
  on the Python library (`freephil.parse(input_string=…)`); model and library agree on all of them.
-/
import Phil.Proofs.LayoutAll
import Phil.Props.C02Layout
import Phil.Props.C01RoundTrip
namespace Phil.C02
open Phil

attribute [local instance] Phil.C01.objDecEqInst Phil.C01.exceptDecEqRT

/-- **C02, `!` on definitions.**  Take any well-formed layout of a flat document and glue `!` in
    front of the names of an arbitrary subset of its definitions (`bangs_l2 ds`).  Then both texts
    parse, and the tree of the text with the `!`s is *exactly* the tree `objs` of the text without
    them in which the `k`-th definition has `is_disabled = True` iff the `k`-th flag is set:
    names, primary ids, source lines of the definitions and of every word, word values and quote
    styles, order — all identical (`setFlags_l2` only touches `disabled`).  `objs` itself is the tree
    of `layout_independent`: no object of it is disabled, it is the abstract tree of the definitions
    up to ids and lines, with ids `1..n`. -/
theorem bang_disables_exactly_one (ds : List (DefSpec × DefLayout × Bool)) (post : Pre)
    (h : wfDoc (unbang_l2 ds) post = true) :
    ∃ objs, parseObjs (render (unbang_l2 ds) post) = .ok objs ∧
      parseObjs (renderB_l2 ds post) = .ok (setFlags_l2 (bangs_l2 ds) objs) ∧
      objs.length = ds.length ∧ (∀ o ∈ objs, o.meta.disabled = false) ∧
      eraseList objs = eraseList (flatTree ((unbang_l2 ds).map Prod.fst)) ∧
      objs.map (fun x => x.meta.id) = (List.range' 1 ds.length).map some := by
  refine ⟨parsedLay 1 1 (unbang_l2 ds), parseObjs_render _ post h, ?_, ?_, ?_, ?_, ?_⟩
  · exact parseObjs_renderB_l2 ds post h
  · have := congrArg List.length (parsedLay_ids (unbang_l2 ds) 1 1)
    simpa [unbang_l2] using this
  · have : ∀ (xs : List (DefSpec × DefLayout)) l i, ∀ o ∈ parsedLay l i xs, o.meta.disabled = false := by
      intro xs
      induction xs with
      | nil => intro l i o ho; simp [parsedLay] at ho
      | cons x rest ih =>
        obtain ⟨d, L⟩ := x
        intro l i o ho
        simp only [parsedLay, List.mem_cons] at ho
        rcases ho with rfl | ho
        · rfl
        · exact ih _ _ o ho
    exact this _ 1 1
  · rw [parsedLay_erase, erase_flatTree]
  · have := parsedLay_ids (unbang_l2 ds) 1 1
    simpa [unbang_l2] using this

/-- `setFlags_l2`, position by position -/
theorem setFlags_get (bs : List Bool) (objs : List Obj) (k : Nat) (b : Bool) (o : Obj)
    (hb : bs[k]? = some b) (ho : objs[k]? = some o) :
    (setFlags_l2 bs objs)[k]? = some (o.setDisabled_l2 b) := by
  rw [setFlags_eq_zipWith, List.getElem?_zipWith, hb, ho]

/-- an enabled object stays what it is when its flag is not set -/
theorem setDisabled_false (o : Obj) (h : o.meta.disabled = false) : o.setDisabled_l2 false = o := by
  cases o with
  | defn m ws => simp only [Obj.meta] at h; simp only [Obj.setDisabled_l2, Obj.withMeta, ← h]
  | scope m os => simp only [Obj.meta] at h; simp only [Obj.setDisabled_l2, Obj.withMeta, ← h]

/-- **Nothing else is touched.**  The object at position `k` of the text with `!`s is the object at
    position `k` of the text without them if the `k`-th definition carries no `!`, and that object
    with `is_disabled = True` (and no other difference) if it does. -/
theorem bang_pointwise (ds : List (DefSpec × DefLayout × Bool)) (post : Pre)
    (h : wfDoc (unbang_l2 ds) post = true) :
    ∃ objs objsB, parseObjs (render (unbang_l2 ds) post) = .ok objs ∧
      parseObjs (renderB_l2 ds post) = .ok objsB ∧ objsB.length = objs.length ∧
      ∀ (k : Nat) (d : DefSpec) (L : DefLayout) (b : Bool), ds[k]? = some (d, L, b) →
        ∃ o, objs[k]? = some o ∧ o.meta.disabled = false ∧
          objsB[k]? = some (if b then o.setDisabled_l2 true else o) := by
  obtain ⟨objs, h1, h2, hlen, hdis, _, _⟩ := bang_disables_exactly_one ds post h
  refine ⟨objs, _, h1, h2, by simp [setFlags_eq_zipWith, bangs_l2, hlen], ?_⟩
  intro k d L b hk
  have hk' : k < objs.length := by
    rw [hlen]
    exact (List.getElem?_eq_some_iff.mp hk).1
  refine ⟨objs[k], List.getElem?_eq_getElem hk', hdis _ (List.getElem_mem hk'), ?_⟩
  have hb : (bangs_l2 ds)[k]? = some b := by simp [bangs_l2, hk]
  rw [setFlags_get _ _ k b objs[k] hb (List.getElem?_eq_getElem hk')]
  cases b with
  | true => rfl
  | false => simp [setDisabled_false _ (hdis _ (List.getElem_mem hk'))]

/-- **Flipping one `!`.**  Two flagged documents with the same definitions and layouts whose flags
    differ at most at position `k` parse to trees that agree at every position other than `k`. -/
theorem bang_flip_one (ds1 ds2 : List (DefSpec × DefLayout × Bool)) (post : Pre) (k : Nat)
    (hsame : unbang_l2 ds1 = unbang_l2 ds2)
    (hflags : ∀ j, j ≠ k → (bangs_l2 ds1)[j]? = (bangs_l2 ds2)[j]?)
    (h : wfDoc (unbang_l2 ds1) post = true) :
    ∃ o1 o2, parseObjs (renderB_l2 ds1 post) = .ok o1 ∧ parseObjs (renderB_l2 ds2 post) = .ok o2 ∧
      o1.length = o2.length ∧ ∀ j, j ≠ k → o1[j]? = o2[j]? := by
  obtain ⟨objs, hp1, h1, hl1, _, _, _⟩ := bang_disables_exactly_one ds1 post h
  obtain ⟨objs', hp', h2, hl2, _, _, _⟩ := bang_disables_exactly_one ds2 post (hsame ▸ h)
  have hobjs : objs' = objs := by
    rw [← hsame, hp1] at hp'
    injection hp' with e
    exact e.symm
  subst hobjs
  refine ⟨_, _, h1, h2, by simp [setFlags_eq_zipWith, bangs_l2, ← hl1, ← hl2], fun j hj => ?_⟩
  rw [setFlags_eq_zipWith, setFlags_eq_zipWith, List.getElem?_zipWith, List.getElem?_zipWith, hflags j hj]

/-! ### non-vacuity: the airy layout of C02Layout with `!` on the first and the third definition -/

/-- `exAiry` with flags `true, false, true` -/
def exAiryB : List (DefSpec × DefLayout × Bool) :=
  (exAiry.zip [true, false, true]).map (fun x => (x.1.1, x.1.2, x.2))

example : unbang_l2 exAiryB = exAiry := by
  unfold exAiryB exAiry exSpecs
  -- a literal is `String.ofList […]` for `rw` and the kernel: no UTF-8 decoding
  repeat rw [String.toList_ofList]
  decide +kernel

example : renderB_l2 exAiryB exPost =
    ("\n # it's {x}; ok\\n\n\t!a \t=  1\r\n" ++
     "# a stand-alone comment read by the value collector\n #'quote\n\t\n" ++
     "b_2 = x*y\t\t\"p q\" it's # trailing; {comment}\n" ++
     "#\n  !c = '''l1\nl2''' ';#'\n" ++
     "\n# the end\n ").toList := by
  unfold exAiryB exAiry exPost exSpecs
  simp only [String.toList_append]
  repeat rw [String.toList_ofList]
  decide +kernel

/-- through the theorem: the flagged text parses to the tree of the plain text with the first and
    third definition disabled -/
example : ∃ objs, parseObjs (render exAiry exPost) = .ok objs ∧
    parseObjs (renderB_l2 exAiryB exPost) = .ok (setFlags_l2 [true, false, true] objs) := by
  obtain ⟨objs, h1, h2, _⟩ := bang_disables_exactly_one exAiryB exPost (by
    unfold exAiryB exAiry exPost exSpecs
    repeat rw [String.toList_ofList]
    decide +kernel)
  exact ⟨objs, h1, h2⟩

/-! ### sharp edges: what `!` does outside the layout language (model = Python on every line) -/

/-- reference: `!` glued to the name disables that definition only -/
example : parseObjs "!a = 1\nb = 2".toList = .ok
    [.defn { name := ['a'], id := some 1, disabled := true, line := some 1 } [{ value := ['1'], line := some 1 }],
     .defn { name := ['b'], id := some 2, line := some 2 } [{ value := ['2'], line := some 2 }]] := by
  repeat rw [String.toList_ofList]
  decide +kernel

/-- a blank between `!` and the name: the lead word is the lone `!`, its name is empty — refused
    (Python: `Syntax error: improper definition name "" (input line 1)`).  `!` must be glued. -/
example : parseObjs "! a = 1\nb = 2".toList = .error (.runtime "improper_definition_name" (some 1)) := by
  repeat rw [String.toList_ofList]
  repeat rw [String.toList_ofList]
  decide +kernel

/-- two `!`: only one is stripped, `!a` is not a name (Python: `improper definition name "!a"`) -/
example : parseObjs "!!a = 1\nb = 2".toList = .error (.runtime "improper_definition_name" (some 1)) := by
  decide +kernel

/-- **`!` in front of a dotted name disables the innermost object only**: `!a.b = 1` yields an ENABLED
    scope `a` (built by `scope.adopt`) holding the disabled definition `b` — whereas `!a {` / `b = 1` /
    `}` yields a DISABLED scope `a` holding an enabled `b`.  So with `!` the dotted and the nested
    spelling are not interchangeable (they are without, see `dotted_equals_nested`). -/
theorem bang_dotted_versus_nested :
    parseObjs "!a.b = 1\n".toList = .ok
      [.scope { name := ['a'], id := some 1 }
        [.defn { name := ['b'], id := some 1, disabled := true, line := some 1, mergeNames := true }
          [{ value := ['1'], line := some 1 }]]] ∧
    parseObjs "!a {\n  b = 1\n}\n".toList = .ok
      [.scope { name := ['a'], id := some 1, disabled := true, line := some 1 }
        [.defn { name := ['b'], id := some 2, line := some 2 } [{ value := ['1'], line := some 2 }]]] := by
  repeat rw [String.toList_ofList]
  repeat rw [String.toList_ofList]
  decide +kernel

/-- `!` in the middle of a line is an ordinary character of a word of the value -/
example : parseObjs "a = 1 !b = 2".toList = .ok
    [.defn { name := ['a'], id := some 1, line := some 1 }
      [{ value := ['1'], line := some 1 }, { value := "!b".toList, line := some 1 },
       { value := ['='], line := some 1 }, { value := ['2'], line := some 1 }]] := by
  repeat rw [String.toList_ofList]
  decide +kernel

/-- … but after `;` a new definition starts and `!` disables it -/
example : parseObjs "!a = 1;!b = 2".toList = .ok
    [.defn { name := ['a'], id := some 1, disabled := true, line := some 1 } [{ value := ['1'], line := some 1 }],
     .defn { name := ['b'], id := some 2, disabled := true, line := some 1 } [{ value := ['2'], line := some 1 }]] := by
  repeat rw [String.toList_ofList]
  decide +kernel

/-- `!` inside the value does nothing: `!1` is a word -/
example : parseObjs "!a = !1".toList = .ok
    [.defn { name := ['a'], id := some 1, disabled := true, line := some 1 }
      [{ value := "!1".toList, line := some 1 }]] := by decide +kernel

/-- **`!` on one attribute**: `!.help = x` is read (name, `=`, value) and dropped; the definition and
    its other attributes are untouched.  Without the `!` the attribute is set. -/
theorem bang_on_attribute :
    parseObjs "a = 1\n!.help = x\n.caption = y\nb = 2".toList = .ok
      [.defn { name := ['a'], id := some 1, line := some 1, attrs := [("caption", .str ['y'])] }
         [{ value := ['1'], line := some 1 }],
       .defn { name := ['b'], id := some 2, line := some 4 } [{ value := ['2'], line := some 4 }]] ∧
    parseObjs "a = 1\n.help = x\n.caption = y\nb = 2".toList = .ok
      [.defn { name := ['a'], id := some 1, line := some 1,
               attrs := [("help", .str ['x']), ("caption", .str ['y'])] }
         [{ value := ['1'], line := some 1 }],
       .defn { name := ['b'], id := some 2, line := some 4 } [{ value := ['2'], line := some 4 }]] := by
  repeat rw [String.toList_ofList]
  decide +kernel

/-- **`!` on a whole scope**: the scope is disabled with header attributes and body kept as they are
    (the children are NOT flagged themselves); the definition after the scope is untouched. -/
theorem bang_on_scope :
    parseObjs "!s\n.help = h\n{\n  b = 1\n  !c = 2\n}\nd = 3".toList = .ok
      [.scope { name := ['s'], id := some 1, disabled := true, line := some 1,
                attrs := [("help", .str ['h'])] }
         [.defn { name := ['b'], id := some 2, line := some 4 } [{ value := ['1'], line := some 4 }],
          .defn { name := ['c'], id := some 3, disabled := true, line := some 5 }
            [{ value := ['2'], line := some 5 }]],
       .defn { name := ['d'], id := some 4, line := some 7 } [{ value := ['3'], line := some 7 }]] := by
  repeat rw [String.toList_ofList]
  repeat rw [String.toList_ofList]
  decide +kernel

/-- a disabled attribute of a scope header: `!.help` is dropped, the scope stays enabled -/
example : parseObjs "s\n!.help = h\n{\n}\n".toList = .ok
    [.scope { name := ['s'], id := some 1, line := some 1 } []] := by
  repeat rw [String.toList_ofList]
  decide +kernel

/-- a lone `!` on its own line is an error, not "nothing" -/
example : parseObjs "a = 1\n!\nb = 2".toList = .error (.runtime "improper_definition_name" (some 2)) := by
  repeat rw [String.toList_ofList]
  decide +kernel

/-- `!include x` is a disabled `include` definition (no `=`), not an include directive -/
example : parseObjs "!include x".toList = .ok
    [.defn { name := "include".toList, id := some 1, disabled := true, line := some 1 }
      [{ value := ['x'], line := some 1 }]] := by decide +kernel

#print axioms bang_disables_exactly_one
#print axioms setFlags_get
#print axioms setDisabled_false
#print axioms bang_pointwise
#print axioms bang_flip_one
#print axioms bang_dotted_versus_nested
#print axioms bang_on_attribute
#print axioms bang_on_scope

end Phil.C02
