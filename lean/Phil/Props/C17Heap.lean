/-
  C17 (copies) on the object-identity model Phil/Heap.lean: what `copy()`, `customized_copy()`,
  `copy.deepcopy` and a pickle round trip share with the object they were made from, and which slot
  assignments can be seen through which object.

  Reading of the code (src/freephil/common.py, legacy.py), checked on the real objects by the identity-graph
  correspondence of harness/props/C17.py:
  * `copy()` is `cls(**{slot: getattr(self, slot)})`: a new object whose every slot holds the same value —
    the same children (the same `objects` list), the same words, the same parent; the parent does not
    list the copy.
  * `deepcopy` / pickle take `__getstate__()` = the dict of ALL slots, `primary_parent_scope` included:
    everything reachable through `objects` AND parent pointers is copied once (memo); deep-copying a
    child copies the whole document it sits in, and the result's parent is the COPY of the parent.
  All theorems are about arbitrary heaps (any graph — trees, fetch results whose children point into
  the master, shallow copies); hypotheses are the decidable checkers of Phil/Heap.lean.
-/
import Phil.Proofs.HeapLemmas
import Phil.Proofs.HeapBuild
import Phil.Parse
namespace Phil.C17Heap
open Phil Phil.Heap

/-! ### (1) deepcopy / pickle: the result is isomorphic to the original -/

/-- **Isomorphic.**  Whatever abstract tree the object `x` denotes, the result of `deepcopy(x)` denotes
    the same tree in the new heap (same names, slots, words, children in order, at every depth).
    Any heap, any object. -/
theorem deepcopy_isomorphic (h : Heap) (x : Nat) (c : Copied) (o : Obj)
    (hd : deepcopy h x = some c) (ha : Abs h x o) : Abs c.heap c.result o := by
  obtain ⟨comp, s⟩ := deepcopy_spec hd
  obtain ⟨f, hf⟩ := ha
  exact ⟨f, by rw [s.result, s.absF_eq f x s.root]; exact hf⟩

/-- the same for EVERY copied object (the parent chain and the siblings of `x` included): the copy of
    `i` — `memo h.length c.comp i` — denotes what `i` denotes, at every fuel -/
theorem deepcopy_isomorphic_everywhere (h : Heap) (x : Nat) (c : Copied) (hd : deepcopy h x = some c)
    (i : Nat) (hi : i ∈ c.comp) (f : Nat) :
    absF f c.heap (memo h.length c.comp i) = absF f h i := by
  obtain ⟨comp, s⟩ := deepcopy_spec hd
  exact s.absF_eq f i hi

/-- executable form: `abs` (fuel = number of objects + 1) -/
theorem deepcopy_abs (h : Heap) (x : Nat) (c : Copied) (o : Obj)
    (hd : deepcopy h x = some c) (ha : abs h x = some o) : abs c.heap c.result = some o := by
  obtain ⟨comp, s⟩ := deepcopy_spec hd
  unfold abs at ha ⊢
  have : absF (h.length + 1) c.heap c.result = some o := by
    rw [s.result, s.absF_eq _ x s.root]; exact ha
  exact absF_mono (fun _ _ => id) (by rw [s.length]; omega) this

/-- the copy is made cell by cell: the copy of `i` has the slots and words of `i`, and every reference
    of `i` (children, parent) replaced by the copy of the referenced object -/
theorem deepcopy_cell (h : Heap) (x : Nat) (c : Copied) (hd : deepcopy h x = some c)
    (i : Nat) (hi : i ∈ c.comp) : ∃ n, h[i]? = some n ∧
      c.heap[memo h.length c.comp i]? = some (n.rename (memo h.length c.comp)) := by
  obtain ⟨comp, s⟩ := deepcopy_spec hd
  obtain ⟨n, hn, _⟩ := s.mem_state hi
  exact ⟨n, hn, s.lookup hi hn⟩

/-- what is copied: `x`, and with every copied object its children and its parent -/
theorem deepcopy_component (h : Heap) (x : Nat) (c : Copied) (hd : deepcopy h x = some c) :
    x ∈ c.comp ∧ c.comp.Nodup ∧
    ∀ i ∈ c.comp, ∃ n, h[i]? = some n ∧ (∀ k ∈ n.kids, k ∈ c.comp) ∧ (∀ p, n.parent = some p → p ∈ c.comp) := by
  obtain ⟨comp, s⟩ := deepcopy_spec hd
  refine ⟨s.root, s.nodup, ?_⟩
  intro i hi
  obtain ⟨n, hn, hmem⟩ := s.mem_state hi
  exact ⟨n, hn, fun k hk => s.closed _ hmem k (mem_succs_of_kid hk),
    fun p hp => s.closed _ hmem p (mem_succs_of_parent hp)⟩

/-! ### (2) deepcopy / pickle: nothing shared, children linked to their own (copied) parent -/

/-- **Disjoint.**  The objects of the copy are exactly `c.comp.length` NEW objects: ids
    `h.length … h.length + c.comp.length - 1`, one per copied object (`memo` is injective), while every
    object of the original heap has an id below `h.length`.  No object is shared. -/
theorem deepcopy_disjoint (h : Heap) (x : Nat) (c : Copied) (hd : deepcopy h x = some c) :
    c.heap.length = h.length + c.comp.length ∧
    h.length ≤ c.result ∧ c.result < c.heap.length ∧
    (∀ i ∈ c.comp, i < h.length ∧ h.length ≤ memo h.length c.comp i ∧ memo h.length c.comp i < c.heap.length) ∧
    (∀ i ∈ c.comp, ∀ j ∈ c.comp, memo h.length c.comp i = memo h.length c.comp j → i = j) := by
  obtain ⟨comp, s⟩ := deepcopy_spec hd
  refine ⟨s.length, ?_, ?_, ?_, fun i hi j hj => memo_inj hi hj⟩
  · rw [s.result]; exact memo_ge _ _ _
  · rw [s.result, s.length]; exact memo_lt s.root
  · intro i hi
    exact ⟨s.lt_length hi, memo_ge _ _ _, by rw [s.length]; exact memo_lt hi⟩

/-- every reference held by an object of the copy (child or parent) is an object of the copy -/
theorem deepcopy_references_inside (h : Heap) (x : Nat) (c : Copied) (hd : deepcopy h x = some c)
    (i : Nat) (hi : i ∈ c.comp) (n' : Node) (hn' : c.heap[memo h.length c.comp i]? = some n') :
    ∀ y ∈ n'.succs, h.length ≤ y ∧ ∃ j ∈ c.comp, y = memo h.length c.comp j := by
  obtain ⟨comp, s⟩ := deepcopy_spec hd
  obtain ⟨n, hn, hmem⟩ := s.mem_state hi
  rw [s.lookup hi hn] at hn'
  cases hn'
  intro y hy
  rw [rename_succs] at hy
  obtain ⟨k, hk, rfl⟩ := List.mem_map.mp hy
  exact ⟨memo_ge _ _ _, k, s.closed _ hmem k hk, rfl⟩

/-- **Children linked to their own parent.**  If in the original every child of a scope has that scope
    as `primary_parent_scope` (`kidsLinkedB`, true of every parsed document), then every child of a
    copied scope is a new object whose parent is that copied scope. -/
theorem deepcopy_children_linked (h : Heap) (x : Nat) (c : Copied) (hd : deepcopy h x = some c)
    (hl : kidsLinkedB h = true) (i : Nat) (hi : i ∈ c.comp) (n' : Node)
    (hn' : c.heap[memo h.length c.comp i]? = some n') :
    ∀ k ∈ n'.kids, ∃ nk, c.heap[k]? = some nk ∧ nk.parent = some (memo h.length c.comp i) ∧ h.length ≤ k := by
  obtain ⟨comp, s⟩ := deepcopy_spec hd
  obtain ⟨n, hn, hmem⟩ := s.mem_state hi
  rw [s.lookup hi hn] at hn'
  cases hn'
  intro k hk
  rw [rename_kids] at hk
  obtain ⟨k0, hk0, rfl⟩ := List.mem_map.mp hk
  obtain ⟨nk, hnk, hpar⟩ := kidsLinkedB_sound hl i n hn k0 hk0
  refine ⟨_, s.lookup (s.closed (i, n) hmem k0 (mem_succs_of_kid hk0)) hnk, ?_, memo_ge _ _ _⟩
  rw [rename_parent, hpar]
  rfl

/-- **The parent of the copied root.**  `deepcopy(x).primary_parent_scope` is `None` if `x` has no
    parent, and otherwise the COPY of `x`'s parent — a new object, never the original parent. -/
theorem deepcopy_root_parent (h : Heap) (x : Nat) (c : Copied) (hd : deepcopy h x = some c) :
    ∃ n n', h[x]? = some n ∧ c.heap[c.result]? = some n' ∧
      n'.parent = n.parent.map (memo h.length c.comp) ∧ ∀ p', n'.parent = some p' → h.length ≤ p' := by
  obtain ⟨comp, s⟩ := deepcopy_spec hd
  obtain ⟨n, hn, _⟩ := s.mem_state s.root
  refine ⟨n, _, hn, by rw [s.result]; exact s.lookup s.root hn, rename_parent _ _, ?_⟩
  intro p' hp'
  rw [rename_parent] at hp'
  cases hp : n.parent with
  | none => rw [hp] at hp'; simp at hp'
  | some p =>
    rw [hp] at hp'
    simp only [Option.map_some, Option.some.injEq] at hp'
    rw [← hp']
    exact memo_ge _ _ _

/-! ### (3) frame: the original is unchanged by the copy and by any later assignment to the copy -/

/-- deepcopy writes no slot of any existing object -/
theorem deepcopy_frame (h : Heap) (x : Nat) (c : Copied) (hd : deepcopy h x = some c) :
    ∀ i, i < h.length → c.heap[i]? = h[i]? := by
  obtain ⟨comp, s⟩ := deepcopy_spec hd
  exact fun i hi => s.old hi

/-- **Frame theorem.**  After `deepcopy`, ANY finite history of slot assignments (any slot: scalar slots,
    `words`, `objects`, `primary_parent_scope`; any value) to objects of the copy — or to any object
    created later — leaves every cell of the original heap as it was, hence the abstract tree of every
    original object (at every fuel). -/
theorem deepcopy_assign_frame (h : Heap) (x : Nat) (c : Copied) (hd : deepcopy h x = some c)
    (hc : closedB h = true) (ops : List (Nat × Assign)) (hops : ∀ op ∈ ops, h.length ≤ op.1) :
    (∀ i, i < h.length → (assignMany c.heap ops)[i]? = h[i]?) ∧
    (∀ f i, i < h.length → absF f (assignMany c.heap ops) i = absF f h i) := by
  obtain ⟨comp, s⟩ := deepcopy_spec hd
  exact assignMany_frame hc (fun i hi => s.old hi) ops hops

/-- the objects of the copy are legitimate targets of the frame theorem -/
theorem deepcopy_targets (h : Heap) (x : Nat) (c : Copied) (_hd : deepcopy h x = some c)
    (ops : List (Nat × Assign)) (hops : ∀ op ∈ ops, ∃ i ∈ c.comp, op.1 = memo h.length c.comp i) :
    ∀ op ∈ ops, h.length ≤ op.1 := by
  intro op hop
  obtain ⟨i, _, hi⟩ := hops op hop
  rw [hi]; exact memo_ge _ _ _

/-- in `Abs` form: every original object denotes after the history what it denoted before the copy -/
theorem deepcopy_assign_frame_abs (h : Heap) (x : Nat) (c : Copied) (hd : deepcopy h x = some c)
    (hc : closedB h = true) (ops : List (Nat × Assign)) (hops : ∀ op ∈ ops, h.length ≤ op.1)
    (i : Nat) (hi : i < h.length) (o : Obj) : Abs (assignMany c.heap ops) i o ↔ Abs h i o := by
  have := (deepcopy_assign_frame h x c hd hc ops hops).2
  exact ⟨Abs.congr fun f => (this f i hi).symm, Abs.congr fun f => this f i hi⟩

/-! ### (4) shallow copies -/

/-- **What `copy()` shares.**  The copy is ONE new object (id `h.length`) whose cell equals the cell of
    `x`: the same slots and words, the SAME child objects (`objects` holds the same ids — the children
    are shared, not copied) and the same parent.  No existing cell is written. -/
theorem copy_shares (h : Heap) (x : Nat) (h' : Heap) (c : Nat) (hc : copy h x = some (h', c)) :
    c = h.length ∧ h'.length = h.length + 1 ∧ h'[c]? = h[x]? ∧ (∀ i, i < h.length → h'[i]? = h[i]?) := by
  obtain ⟨n, hn, rfl, rfl⟩ := copy_eq hc
  refine ⟨rfl, by simp, ?_, fun i hi => List.getElem?_append_left hi⟩
  rw [List.getElem?_append_right (Nat.le_refl _), Nat.sub_self, hn]; rfl

/-- the copy prints and behaves like the original: it denotes the same abstract tree -/
theorem copy_isomorphic (h : Heap) (x : Nat) (h' : Heap) (c : Nat) (hc : copy h x = some (h', c))
    (hcl : closedB h = true) (f : Nat) : absF f h' c = absF f h x := by
  obtain ⟨n, hn, rfl, rfl⟩ := copy_eq hc
  have hid : n.assign (.slot id) = n := by cases n <;> rfl
  have := absF_append_slot h n x hn (closedB_sound hcl) id f
  rw [hid] at this
  rw [this]
  cases absF f h x with
  | none => rfl
  | some o => cases o <;> rfl

/-- the parent of `x` does not list the copy (no existing object refers to the copy at all) -/
theorem copy_unlisted (h : Heap) (x : Nat) (h' : Heap) (c : Nat) (hc : copy h x = some (h', c))
    (hcl : closedB h = true) (i : Nat) (hi : i < h.length) (n : Node) (hn : h'[i]? = some n) : c ∉ n.succs := by
  obtain ⟨n0, hn0, rfl, rfl⟩ := copy_eq hc
  rw [List.getElem?_append_left hi] at hn
  intro hmem
  exact Nat.lt_irrefl _ (closedB_sound hcl i n hn _ hmem)

/-- **Assigning any field of a shallow copy never changes the object it was made from** — nor any other
    existing object: after `copy()`, any history of slot assignments to the copy (or to later objects)
    leaves every original cell and every original abstract tree unchanged. -/
theorem copy_assign_frame (h : Heap) (x : Nat) (h' : Heap) (c : Nat) (hc : copy h x = some (h', c))
    (hcl : closedB h = true) (ops : List (Nat × Assign)) (hops : ∀ op ∈ ops, c ≤ op.1) :
    (∀ i, i < h.length → (assignMany h' ops)[i]? = h[i]?) ∧
    (∀ f i, i < h.length → absF f (assignMany h' ops) i = absF f h i) := by
  obtain ⟨n, hn, rfl, rfl⟩ := copy_eq hc
  exact assignMany_frame hcl (fun i hi => List.getElem?_append_left hi) ops hops

/-- the same for `customized_copy` (a `copy()` followed by assignments to the copy): no existing object is
    written, whatever name / words / objects are passed -/
theorem customizedCopy_frame (h : Heap) (x : Nat) (name : Option Str) (ws : Option (List Word))
    (ks : Option (List Nat)) (h' : Heap) (c : Nat) (hc : customizedCopy h x name ws ks = some (h', c)) :
    c = h.length ∧ ∀ i, i < h.length → h'[i]? = h[i]? := by
  obtain ⟨n, _, rfl, rfl⟩ := customizedCopy_eq hc
  exact ⟨rfl, fun i hi => List.getElem?_append_left hi⟩

/-! ### parse-shaped construction -/

/-- **abs ∘ build = id.**  The object the parser-shaped construction (`scope.adopt`: pre-order allocation,
    `child.primary_parent_scope = self`, `self.objects.append(child)`) allocates for a tree `o` denotes `o` —
    every tree, every heap it is allocated in, every parent. -/
theorem build_denotes (o : Obj) (p : Option Nat) (h : Heap) : Abs (build o p h).1 (build o p h).2 o :=
  build_abs o p h

/-- building allocates `size o` new objects and writes no existing one -/
theorem build_allocates (o : Obj) (p : Option Nat) (h : Heap) :
    (build o p h).1.length = h.length + size o ∧ ∀ i, i < h.length → (build o p h).1[i]? = h[i]? :=
  build_frame o p h

/-- a deep copy of a parsed tree denotes that tree (every tree `o`) -/
theorem deepcopy_of_built_tree (o : Obj) (p : Option Nat) (h : Heap) (c : Copied)
    (hd : deepcopy (build o p h).1 (build o p h).2 = some c) : Abs c.heap c.result o :=
  deepcopy_isomorphic _ _ c o hd (build_abs o p h)

/-! ### sharp edges (kernel-checked, replayed on Python) -/

/-- the heap of a parsed text -/
def heapOfText (t : String) : Heap :=
  match parseObjs t.toList with
  | .ok os => ofObjs os
  | .error _ => []

/-- For `rw` and the kernel a literal is `String.ofList […]`: rewriting with this avoids UTF-8 decoding. -/
theorem heapOfText_ofList (l : List Char) :
    heapOfText (String.ofList l) = match parseObjs l with | .ok os => ofObjs os | .error _ => [] := by
  unfold heapOfText
  rw [String.toList_ofList]

/-- the names and attribute lists of the children of what `x` denotes -/
def childSlots (h : Heap) (x : Nat) : Option (List (Str × Attrs)) :=
  (abs h x).map fun o => o.children.map fun k => (k.name, k.meta.attrs)

def setCaption : Assign := .slot fun m => { m with attrs := m.attrs ++ [("short_caption", .str "A".toList)] }

/-- **Assignment THROUGH a shallow copy leaks (finding D21).**  Master `s .multiple=True { a = 1 }`:
    objects 0 = root, 1 = s, 2 = a.  The template entry `fetch` emits for `s` is `s.copy()` (object 3):
    its `objects` are the master's own children, so `template.objects[0].short_caption = "A"` — an
    assignment to a field of an object reached through the copy, which is what `interface.index(M)`
    does — changes what the MASTER's `s` denotes.  The hypothesis `c ≤ op.1` of `copy_assign_frame` is sharp. -/
theorem template_copy_shares_master_children :
    (copy (heapOfText "s\n  .multiple = True\n{\n  a = 1\n}\n") 1).map (fun r =>
      (r.2, r.1[r.2]?.map Node.kids, (heapOfText "s\n  .multiple = True\n{\n  a = 1\n}\n")[1]?.map Node.kids,
       decide (childSlots (assign r.1 2 setCaption) 1 ≠
               childSlots (heapOfText "s\n  .multiple = True\n{\n  a = 1\n}\n") 1))) =
    some (3, some [2], some [2], true) := by
  rw [heapOfText_ofList]
  decide +kernel

/-- … whereas assigning the same field of the copy ITSELF is invisible in the master (instance of
    `copy_assign_frame`, here evaluated) -/
example :
    (copy (heapOfText "s\n  .multiple = True\n{\n  a = 1\n}\n") 1).map (fun r =>
      decide (childSlots (assign r.1 r.2 setCaption) 0 =
              childSlots (heapOfText "s\n  .multiple = True\n{\n  a = 1\n}\n") 0)) = some true := by
  rw [heapOfText_ofList]
  decide +kernel

/-- **`deepcopy` of a child copies the whole document.**  `a = 1 ⏎ s { b = 2 }`: objects 0 = root,
    1 = a, 2 = s, 3 = b.  `deepcopy(s)` creates four objects (s', b', root', a' = 4, 5, 6, 7); the result's
    parent is root' = 6, which lists a' and the result. -/
theorem deepcopy_of_child_copies_document :
    (deepcopy (heapOfText "a = 1\ns {\n  b = 2\n}\n") 2).map (fun c => (c.result, c.comp, (graph c.heap).drop 4)) =
      some (4, [2, 3, 0, 1],
        [⟨true, "s".toList, some 6, [5]⟩, ⟨false, "b".toList, some 4, []⟩,
         ⟨true, [], none, [7, 4]⟩, ⟨false, "a".toList, some 6, []⟩]) := by
  rw [heapOfText_ofList]
  decide +kernel

/-- a result scope (2) listing the master's definition (1), whose parent is the master root (0) -/
def fetchShaped : Heap :=
  [.scope { name := [] } [1] none, .defn { name := "a".toList } [] (some 0), .scope { name := [] } [1] none]

/-- **`kidsLinkedB` is needed for `deepcopy_children_linked`.**  A fetch result keeps the master's parent
    pointers (`customized_copy` copies the slot): here object 2 is a result scope listing the master's
    definition 1, whose parent is the master root 0.  In the deep copy the child's parent is the copy of
    the MASTER root (4), not the copied result scope (3). -/
theorem children_of_fetch_results_point_into_master :
    kidsLinkedB fetchShaped = false ∧
    (deepcopy fetchShaped 2).map (fun c => (c.result, (graph c.heap).drop 3)) =
      some (3, [⟨true, [], none, [4]⟩, ⟨false, "a".toList, some 5, []⟩, ⟨true, [], none, [4]⟩]) := by
  decide +kernel

/-! ### the hypotheses are satisfiable -/

/-- a parsed document: well-formed, deepcopy succeeds on every object, and the theorems apply -/
example :
    wfB (heapOfText "a = 1\ns {\n  b = 2 3\n  t { c = x }\n}\n") = true ∧
    (heapOfText "a = 1\ns {\n  b = 2 3\n  t { c = x }\n}\n").length = 6 ∧
    (List.range 6).all (fun x => (deepcopy (heapOfText "a = 1\ns {\n  b = 2 3\n  t { c = x }\n}\n") x).isSome) = true ∧
    (abs (heapOfText "a = 1\ns {\n  b = 2 3\n  t { c = x }\n}\n") 0).isSome = true := by
  rw [heapOfText_ofList]
  decide +kernel

example : ∃ c, deepcopy (heapOfText "a = 1\ns {\n  b = 2 3\n  t { c = x }\n}\n") 2 = some c ∧
    ∀ ops : List (Nat × Assign), (∀ op ∈ ops, 6 ≤ op.1) → ∀ f i, i < 6 →
      absF f (assignMany c.heap ops) i = absF f (heapOfText "a = 1\ns {\n  b = 2 3\n  t { c = x }\n}\n") i := by
  have hl : (heapOfText "a = 1\ns {\n  b = 2 3\n  t { c = x }\n}\n").length = 6 := by
    rw [heapOfText_ofList]
    decide +kernel
  cases hd : deepcopy (heapOfText "a = 1\ns {\n  b = 2 3\n  t { c = x }\n}\n") 2 with
  | none => exact absurd hd (by rw [heapOfText_ofList]; decide +kernel)
  | some c =>
    refine ⟨c, rfl, fun ops hops f i hi => ?_⟩
    exact (deepcopy_assign_frame _ 2 c hd (by rw [heapOfText_ofList]; decide +kernel) ops (by rw [hl]; exact hops)).2 f i (by rw [hl]; exact hi)

end Phil.C17Heap

#print axioms Phil.C17Heap.deepcopy_isomorphic
#print axioms Phil.C17Heap.deepcopy_isomorphic_everywhere
#print axioms Phil.C17Heap.deepcopy_abs
#print axioms Phil.C17Heap.deepcopy_cell
#print axioms Phil.C17Heap.deepcopy_component
#print axioms Phil.C17Heap.deepcopy_disjoint
#print axioms Phil.C17Heap.deepcopy_references_inside
#print axioms Phil.C17Heap.deepcopy_children_linked
#print axioms Phil.C17Heap.deepcopy_root_parent
#print axioms Phil.C17Heap.deepcopy_frame
#print axioms Phil.C17Heap.deepcopy_assign_frame
#print axioms Phil.C17Heap.deepcopy_targets
#print axioms Phil.C17Heap.deepcopy_assign_frame_abs
#print axioms Phil.C17Heap.copy_shares
#print axioms Phil.C17Heap.copy_isomorphic
#print axioms Phil.C17Heap.copy_unlisted
#print axioms Phil.C17Heap.copy_assign_frame
#print axioms Phil.C17Heap.customizedCopy_frame
#print axioms Phil.C17Heap.build_denotes
#print axioms Phil.C17Heap.build_allocates
#print axioms Phil.C17Heap.deepcopy_of_built_tree
#print axioms Phil.C17Heap.template_copy_shares_master_children
#print axioms Phil.C17Heap.deepcopy_of_child_copies_document
#print axioms Phil.C17Heap.children_of_fetch_results_point_into_master
