/-
  C05 (NESTED masters) — "last value wins", at every depth; with the companions for the same class of
  C04 — "a fetch result has exactly the master's parameter structure" — and C07 — "fetching is
  idempotent" (namespaces `Phil.C05`, `Phil.C04`, `Phil.C07`).

  Model: Phil/Fetch.lean (`fetchScope`/`fetchRoot`).  Lemmas: Phil/Proofs/FetchTree.lean.  The closed
  form these corollaries rest on is `Phil.C06.fetch_tree_total` (Phil/Props/C06Tree.lean), where the
  class is described: masters that are TREES without `.multiple` (`TreeMaster`), arbitrary sources of
  definitions and named scopes to any depth (`SrcTree`), fuel `depthL mkids + 1 ≤ fuel`.

  Specification functions (structural recursion on the master tree):
    `srcStep objs n` — the children of all enabled scopes called `n` among `objs`, in document order;
    `srcAt objs ps`  — `srcStep` iterated along the path `ps`: the active source objects reached by
                       the path, over all sources and all spellings (dotted or braced, repeated);
    `lastDef objs n` — the last enabled definition called `n` among `objs`;
    `treeResult mkids srcs` — each master definition with the words of the last matching source
                       definition (or itself), each master scope rebuilt from `srcStep`;
    `defAt objs ps n` — the definition at the path `ps.n` of a tree (first object of each name).
  Facts:
    * C05 `last_value_wins_at_depth`: the result definition at `ps.n` carries the words of
      `lastDef (srcAt srcs ps) n`, or is the master definition if there is none;
      `last_value_wins_all_definitions`: the same in terms of `all_definitions(sources)`: the LAST
      entry whose dotted path is `ps.n`;
    * C04 `tree_result_shape`: result and master have the same skeleton (kinds, names, attributes,
      order, nesting — everything but the words and the template marks), `tree_result_paths`;
    * C07 `tree_refetch_idempotent`: fetching the result again (as the only source) returns the same
      result, and cannot fail.
-/
import Phil.Proofs.FetchTree
import Phil.Props.C06Tree

namespace Phil.C05
open Phil

/-- **Last value wins at every depth.**  Whenever the fetch of a tree master succeeds: where the
    master has the definition `mm` at the path `ps.n`, the result has, at the same path, that
    definition with the (resolved) words of the LAST enabled source definition reached by that path
    (`srcAt`: all sources, all spellings, enabled scopes only), or the master definition itself if
    there is none. -/
theorem last_value_wins_at_depth (e : Envs) (fuel : Nat) (sm : Meta) (mkids srcs : List Obj)
    (hf : TreeMaster mkids) (hfuel : depthL mkids + 1 ≤ fuel) (hsd : sm.disabled = false)
    (hsrc : SrcTree srcs) (ro : Obj) (used : List Nat)
    (h : fetchScope e fuel false sm mkids srcs = .ok (ro, used))
    (ps : List Str) (n : Str) (mm : Meta) (mws : List Word)
    (hm : defAt mkids ps n = some (.defn mm mws)) :
    defAt ro.children ps n =
      some (match lastDef (srcAt srcs ps) n with
            | some d => .defn { mm with tmpl := 0 } d.srcWords
            | none => .defn mm mws) := by
  obtain ⟨_, rfl, _⟩ := ok_of_total (fetch_tree_total e fuel sm mkids srcs hf hfuel hsd hsrc) h
  exact last_value_wins_at_depth_tree mkids srcs ps n mm mws hm

/-- **… in terms of `all_definitions(sources)`** (sources with dot-free names, as parsed): the words
    of the result definition at `ps.n` are the (resolved) words of the LAST entry of
    `all_definitions(sources)` whose dotted path is `ps.n`; the master's words if there is none. -/
theorem last_value_wins_all_definitions (e : Envs) (fuel : Nat) (sm : Meta) (mkids srcs : List Obj)
    (hf : TreeMaster mkids) (hfuel : depthL mkids + 1 ≤ fuel) (hsd : sm.disabled = false)
    (hsrc : SrcTree srcs) (hdot : ∀ x, ActiveIn x srcs → '.' ∉ x.name)
    (ro : Obj) (used : List Nat)
    (h : fetchScope e fuel false sm mkids srcs = .ok (ro, used))
    (ps : List Str) (n : Str) (hinc : n ≠ "include".toList) (mm : Meta) (mws : List Word)
    (hm : defAt mkids ps n = some (.defn mm mws)) :
    (defAt ro.children ps n).map Obj.words =
      some (match ((allDefinitions srcs).filter (fun x => x.1 == dottedPath ps n)).getLast? with
            | some x => (Obj.defn x.2.1 x.2.2).srcWords
            | none => mws) := by
  obtain ⟨_, rfl, _⟩ := ok_of_total (fetch_tree_total e fuel sm mkids srcs hf hfuel hsd hsrc) h
  exact last_value_wins_allDefs_tree mkids srcs hf hdot ps n hinc mm mws hm

/-- the entries of `all_definitions(sources)` with the dotted path `ps.n` are the enabled
    definitions called `n` reached by the path `ps`, in document order -/
theorem all_definitions_at_path (srcs : List Obj) (hdot : ∀ x, ActiveIn x srcs → '.' ∉ x.name)
    (ps : List Str) (hps : ∀ s ∈ ps, '.' ∉ s) (n : Str) (hn : '.' ∉ n) (hinc : n ≠ "include".toList) :
    (allDefinitions srcs).filter (fun x => x.1 == dottedPath ps n) =
      (defsNamed n (srcAt srcs ps)).map (fun d => (dottedPath ps n, d.meta, d.words)) :=
  allDefs_at_path_tree n hn hinc ps srcs [] hps hdot

/-- **`master.fetch(sources)`** on parsed roots, side conditions in executable form -/
theorem fetchRoot_last_value_wins (e : Envs) (master : List Obj) (ss : List (List Obj))
    (hm : masterCheck master = true) (hs : srcCheck ss.flatten = true)
    (ro : Obj) (used : List Nat)
    (h : fetchRoot e false master ss = .ok (ro, used))
    (ps : List Str) (n : Str) (mm : Meta) (mws : List Word)
    (hdef : defAt master ps n = some (.defn mm mws)) :
    defAt ro.children ps n =
      some (match lastDef (srcAt ss.flatten ps) n with
            | some d => .defn { mm with tmpl := 0 } d.srcWords
            | none => .defn mm mws) :=
  have hM := masterCheck_sound master hm
  have hS := srcCheck_sound ss.flatten hs
  last_value_wins_at_depth e _ _ master ss.flatten hM.tree (fetchRoot_fuel_tree master hM.depth) rfl
    hS.tree ro used h ps n mm mws hdef

/-! ### non-vacuity (instance of Phil/Props/C06Tree.lean, through the parser) -/

/-- `s.t.c` is given twice (`s.t.c = 4`, then `s.t { c = 6 }`) and once disabled (`!s.t.c = 9`): the
    last enabled value `6` wins; `s.t.d` has no source: the master's value stays -/
example : ((defAt (treeResult C06.treeM C06.treeS) ["s".toList, "t".toList] "c".toList).map
      (fun o => o.words.map (fun w => String.ofList w.value)),
    (defAt (treeResult C06.treeM C06.treeS) ["s".toList, "t".toList] "d".toList).map
      (fun o => o.words.map (fun w => String.ofList w.value)),
    ((allDefinitions C06.treeS).filter (fun x => x.1 == dottedPath ["s".toList, "t".toList] "c".toList)).map
      (fun x => x.2.2.map (fun w => String.ofList w.value))) =
    (some ["6"], some ["2"], [["4"], ["6"]]) := by
  rw [C06.treeM_eq, C06.treeS_eq]
  decide +kernel

/-- the theorem applied to the instance -/
example (ro : Obj) (used : List Nat) (h : fetchRoot env12 false C06.treeM [C06.treeS] = .ok (ro, used)) :
    (defAt ro.children ["s".toList, "t".toList] "c".toList).map
      (fun o => o.words.map (fun w => String.ofList w.value)) = some ["6"] := by
  have hfl : ([C06.treeS] : List (List Obj)).flatten = C06.treeS := by simp
  have hm : ∃ mm mws, defAt C06.treeM ["s".toList, "t".toList] "c".toList = some (.defn mm mws) := by
    have : (match defAt C06.treeM ["s".toList, "t".toList] "c".toList with
            | some (.defn _ _) => true
            | _ => false) = true := by
      rw [C06.treeM_eq]
      decide +kernel
    cases hd : defAt C06.treeM ["s".toList, "t".toList] "c".toList with
    | none => rw [hd] at this; cases this
    | some o =>
      cases o with
      | defn mm mws => exact ⟨mm, mws, rfl⟩
      | scope _ _ => rw [hd] at this; cases this
  obtain ⟨mm, mws, hm⟩ := hm
  have := fetchRoot_last_value_wins env12 C06.treeM [C06.treeS] C06.treeM_check
    (by rw [hfl]; exact C06.treeS_check) ro used h _ _ mm mws hm
  rw [hfl] at this
  rw [this]
  have hl : (lastDef (srcAt C06.treeS ["s".toList, "t".toList]) "c".toList).map
      (fun d => d.srcWords.map (fun w => String.ofList w.value)) = some ["6"] := by
    rw [C06.treeS_eq]
    decide +kernel
  cases hld : lastDef (srcAt C06.treeS ["s".toList, "t".toList]) "c".toList with
  | none => rw [hld] at hl; cases hl
  | some d =>
    rw [hld] at hl
    simpa [Obj.words] using hl

end Phil.C05

namespace Phil.C04
open Phil

/-- **C04 for nested masters: the result has exactly the master's parameter structure.**  Whenever
    the fetch of a tree master succeeds, result and master have the same skeleton (`shapeObj`:
    words and template marks erased; kinds, names, attributes, ids, order and nesting kept) — the
    result is the master tree with other values. -/
theorem tree_result_shape (e : Envs) (fuel : Nat) (sm : Meta) (mkids srcs : List Obj)
    (hf : TreeMaster mkids) (hfuel : depthL mkids + 1 ≤ fuel) (hsd : sm.disabled = false)
    (hsrc : SrcTree srcs) (ro : Obj) (used : List Nat)
    (h : fetchScope e fuel false sm mkids srcs = .ok (ro, used)) :
    shapeObj ro = shapeObj (.scope sm mkids) := by
  obtain ⟨_, rfl, _⟩ := ok_of_total (fetch_tree_total e fuel sm mkids srcs hf hfuel hsd hsrc) h
  rw [shapeObj, shapeObj, shapeList_treeResult]

/-- the specification itself is a map over the master tree -/
theorem treeResult_shape (mkids srcs : List Obj) : shapeList (treeResult mkids srcs) = shapeList mkids :=
  shapeList_treeResult mkids srcs

/-- the result declares exactly the master's parameter paths, in the master's order; in particular
    it has the master's names at every level -/
theorem tree_result_paths (e : Envs) (fuel : Nat) (sm : Meta) (mkids srcs : List Obj)
    (hf : TreeMaster mkids) (hfuel : depthL mkids + 1 ≤ fuel) (hsd : sm.disabled = false)
    (hsrc : SrcTree srcs) (ro : Obj) (used : List Nat)
    (h : fetchScope e fuel false sm mkids srcs = .ok (ro, used)) :
    defPaths ro.children [] = defPaths mkids [] ∧ ro.children.map Obj.name = mkids.map Obj.name := by
  obtain ⟨_, rfl, _⟩ := ok_of_total (fetch_tree_total e fuel sm mkids srcs hf hfuel hsd hsrc) h
  exact ⟨defPaths_treeResult mkids srcs [], treeResult_names mkids srcs⟩

example : (defPaths (treeResult C06.treeM C06.treeS) []).map String.ofList = ["a", "s.b", "s.t.c", "s.t.d"] := by
  rw [C06.treeM_eq, C06.treeS_eq]
  decide +kernel

end Phil.C04

namespace Phil.C07
open Phil

/-- **C07 for nested masters: fetching is idempotent.**  Whenever the fetch of a tree master
    succeeds, fetching its result again — as the only source — succeeds and returns the same result
    (master definitions not template-marked, no recorded variable resolutions, variable-free words:
    `RefetchTree`, `SrcNoDollar`). -/
theorem tree_refetch_idempotent (e : Envs) (fuel : Nat) (sm : Meta) (mkids srcs : List Obj)
    (hf : TreeMaster mkids) (hfuel : depthL mkids + 1 ≤ fuel) (hsd : sm.disabled = false)
    (hr : RefetchTree mkids) (hsrc : SrcTree srcs) (hdol : SrcNoDollar srcs)
    (ro : Obj) (used : List Nat)
    (h : fetchScope e fuel false sm mkids srcs = .ok (ro, used)) :
    ∃ used', fetchScope e fuel false sm mkids ro.children = .ok (ro, used') := by
  obtain ⟨_, rfl, _⟩ := ok_of_total (fetch_tree_total e fuel sm mkids srcs hf hfuel hsd hsrc) h
  exact ⟨_, Phil.tree_refetch_idempotent e fuel sm mkids srcs hf hfuel hsd hr hdol⟩

/-- the specification is idempotent -/
theorem treeResult_idempotent (mkids srcs : List Obj) (hf : TreeMaster mkids) (hr : RefetchTree mkids) :
    treeResult mkids (treeResult mkids srcs) = treeResult mkids srcs :=
  treeResult_idem mkids srcs hf hr

/-- **`master.fetch(source=master.fetch(sources))`** on parsed roots, side conditions in executable
    form -/
theorem fetchRoot_tree_idempotent (e : Envs) (master : List Obj) (ss : List (List Obj))
    (hm : masterCheck master = true) (hs : srcCheck ss.flatten = true)
    (ro : Obj) (used : List Nat)
    (h : fetchRoot e false master ss = .ok (ro, used)) :
    ∃ used', fetchRoot e false master [ro.children] = .ok (ro, used') := by
  have hM := masterCheck_sound master hm
  have hS := srcCheck_sound ss.flatten hs
  rw [fetchRoot, List.flatten_singleton]
  exact tree_refetch_idempotent e _ _ master ss.flatten hM.tree (fetchRoot_fuel_tree master hM.depth) rfl
    hM.refetch hS.tree hS.noDollar ro used h

/-- the instance: the second fetch reproduces the first -/
example :
    (match fetchRoot env12 false C06.treeM [C06.treeS] with
     | .ok (ro, _) =>
       (match fetchRoot env12 false C06.treeM [ro.children] with
        | .ok (ro2, _) => some (C06.valsOf ro.children, C06.valsOf ro2.children)
        | .error _ => none)
     | .error _ => none) =
      some ([("a", ["7"]), ("s.b", ["5"]), ("s.t.c", ["6"]), ("s.t.d", ["2"])],
            [("a", ["7"]), ("s.b", ["5"]), ("s.t.c", ["6"]), ("s.t.d", ["2"])]) := by
  rw [C06.treeM_eq, C06.treeS_eq]
  decide +kernel

end Phil.C07
