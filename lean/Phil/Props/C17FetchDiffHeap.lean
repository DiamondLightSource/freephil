/-
  C17, the `fetch_diff` clause, on the object-identity model: purity of `scope.fetch(diff=True)` / `scope.fetch_diff`
  as theorems about the heap-level model `fetchDiffH` (Phil/HeapFetchDiff.lean), which follows common.py line by line
  for what the call ALLOCATES, WRITES and SHARES (`-1` marker, empty scopes dropped, no templates, the master key of a
  `.multiple` scope through a NON-diff fetch) and is tied to /repo by the identity-graph correspondence
  `heap_fetch_diff_graph` of ./check C17.

  * `fetchDiffH_frame`    — no existing cell is written: the heap only grows; the only other effect are the
                             `tmp = True` marks, and they go to definition cells;
  * `fetchDiffH_sharing`  — the shape of the result (`FreshShape`): NEW cells all the way down — a diff result holds no
                             template copy (contrast `fetchH_sharing`, finding D21);
  * `fetchDiffH_disjoint` — hence NO object of the master or of a source is reachable from a diff result;
  * `fetchDiffH_assign_frame` — any history of field assignments to new objects leaves every old object unchanged:
                             with `fetchDiffH_disjoint`, every object reachable from the result qualifies;
  * `fetchDiffRootH_pure` — the same for `master.fetch_diff(sources=…)` of parsed documents (no hypothesis left).

  Input class: every heap without dangling child / parent reference (`closedB`; every parsed document), every master
  scope `self`, every list of source object ids, every fuel, every state of `tmp` marks, every outcome `ok`.
  Variable-free sources (others are answered `unsupported` by `fetchValueH`).
  `fetchDiffH_abs` (the result denotes `fetchScope … true`) is in Phil/Props/C17FetchDiffAbs.lean.
-/
import Phil.Proofs.HeapFetchLemmas
import Phil.Props.C17FetchHeap
namespace Phil.C17FetchDiffHeap
open Phil Phil.Heap Phil.C17FetchHeap

/-- **`fetch_diff` writes no existing cell.** -/
theorem fetchDiffH_frame (e : Envs) (fuel self : Nat) (combined : List Nat) (s s' : HS) (r : Nat)
    (hc : closedB s.heap = true) (hself : self < s.heap.length)
    (hf : fetchDiffH e fuel self combined s = .ok (s', r)) :
    (∃ ext, s'.heap = s.heap ++ ext) ∧
    (∀ i, i < s.heap.length → s'.heap[i]? = s.heap[i]?) ∧
    (∃ t, s'.tmp = s.tmp ++ t ∧ ∀ i ∈ t, ∃ m ws p, s'.heap[i]? = some (.defn m ws p)) := by
  have h := (fetchF_spec e s.heap.length fuel true self combined s s' r ⟨Nat.le_refl _, (closedB_sound hc).below⟩
    hself (fetchF_true e fuel ▸ hf)).1
  exact ⟨h.heap, fun i hi => h.grows.get_lt hi, h.tmp⟩

/-- **The shape of a diff result**: a new object; below it every object is new — a definition, or a scope whose
    children are again such objects.  No template copy. -/
theorem fetchDiffH_sharing (e : Envs) (fuel self : Nat) (combined : List Nat) (s s' : HS) (r : Nat)
    (hc : closedB s.heap = true) (hself : self < s.heap.length)
    (hf : fetchDiffH e fuel self combined s = .ok (s', r)) :
    FreshShape s.heap.length s'.heap r :=
  (fetchF_spec e s.heap.length fuel true self combined s s' r ⟨Nat.le_refl _, (closedB_sound hc).below⟩ hself
    (fetchF_true e fuel ▸ hf)).2

theorem freshShape_reach {n0 : Nat} {h : Heap} {x z : Nat} (hr : KReach h x z) :
    FreshShape n0 h x → FreshShape n0 h z := by
  induction hr with
  | refl x => exact id
  | @step x k z n hx hk _ ih =>
    intro hs
    cases hs with
    | defn _ hcell => rw [hcell] at hx; cases hx; cases hk
    | scope _ hcell hkids =>
      rw [hcell] at hx; cases hx
      exact ih (hkids k hk)

theorem freshShape_reach_new {n0 : Nat} {h : Heap} {x z : Nat} (hr : KReach h x z) :
    FreshShape n0 h x → n0 ≤ z :=
  fun hs => (freshShape_reach hr hs).ge

/-- **A diff result shares NO object with the master or the sources**: whatever is reachable from it through
    `objects` lists is a new object. -/
theorem fetchDiffH_disjoint (e : Envs) (fuel self : Nat) (combined : List Nat) (s s' : HS) (r z : Nat)
    (hc : closedB s.heap = true) (hself : self < s.heap.length)
    (hf : fetchDiffH e fuel self combined s = .ok (s', r))
    (hreach : KReach s'.heap r z) : s.heap.length ≤ z :=
  freshShape_reach_new hreach (fetchDiffH_sharing e fuel self combined s s' r hc hself hf)

/-- the diff result has the weaker shape of a non-diff result as well (so every corollary of `ResShape` applies) -/
theorem fetchDiffH_resShape (e : Envs) (fuel self : Nat) (combined : List Nat) (s s' : HS) (r : Nat)
    (hc : closedB s.heap = true) (hself : self < s.heap.length)
    (hf : fetchDiffH e fuel self combined s = .ok (s', r)) :
    ResShape s.heap.length s'.heap r ∧ ∀ c y, ¬ (TemplateCopyOf s.heap.length s'.heap c y ∧ KReach s'.heap r c ∧
      ∃ k n, s'.heap[c]? = some n ∧ k ∈ n.kids) := by
  have hs := fetchDiffH_sharing e fuel self combined s s' r hc hself hf
  refine ⟨hs.toRes, ?_⟩
  rintro c y ⟨⟨_, hy, m, ks, p, t, hcy, hcc, _⟩, hreach, k, n, hn, hk⟩
  -- the children of a template copy are those of an old scope, hence old; those of a fresh-shaped scope are new
  have hfr := (fetchDiffH_frame e fuel self combined s s' r hc hself hf).2.1
  have hold : s.heap[y]? = some (.scope m ks p) := by rw [← hfr y hy]; exact hcy
  rw [hcc] at hn
  cases hn
  have hk0 : k < s.heap.length := (closedB_sound hc).below y _ hy hold k hk
  cases freshShape_reach hreach hs with
  | defn _ hcell => rw [hcc] at hcell; cases hcell
  | scope _ hcell hkids =>
    rw [hcc] at hcell
    cases hcell
    exact absurd (hkids k hk).ge (by omega)

/-- **Assigning fields of a diff result never changes the objects it was made from.** -/
theorem fetchDiffH_assign_frame (e : Envs) (fuel self : Nat) (combined : List Nat) (s s' : HS) (r : Nat)
    (hc : closedB s.heap = true) (hself : self < s.heap.length)
    (hf : fetchDiffH e fuel self combined s = .ok (s', r))
    (ops : List (Nat × Assign)) (hops : ∀ op ∈ ops, s.heap.length ≤ op.1) :
    (∀ i, i < s.heap.length → (assignMany s'.heap ops)[i]? = s.heap[i]?) ∧
    (∀ x o, x < s.heap.length → Abs s.heap x o → Abs (assignMany s'.heap ops) x o) :=
  have h := assignMany_frame hc (fetchDiffH_frame e fuel self combined s s' r hc hself hf).2.1 ops hops
  ⟨h.1, fun x _ hx => Abs.congr fun f => h.2 f x hx⟩

/-- **`master.fetch_diff(sources=…)` of parsed documents**: frame, marks, shape, disjointness — no hypothesis beyond
    "the call returned". -/
theorem fetchDiffRootH_pure (e : Envs) (master : List Obj) (sources : List (List Obj)) (s' : HS) (r : Nat)
    (hf : (fetchDiffRootH e master sources).2 = .ok (s', r)) :
    let h0 := (fetchDiffRootH e master sources).1
    (∃ ext, s'.heap = h0 ++ ext) ∧
    (∀ i ∈ s'.tmp, ∃ m ws p, s'.heap[i]? = some (.defn m ws p)) ∧
    FreshShape h0.length s'.heap r ∧
    (∀ z, KReach s'.heap r z → h0.length ≤ z) := by
  intro h0
  obtain ⟨hc, hpos⟩ := fetchRootH_start e master sources
  have hc' : closedB h0 = true := hc
  have hpos' : 0 < h0.length := hpos
  have hf' : fetchDiffH e _ 0 _ { heap := h0, tmp := [] } = .ok (s', r) := hf
  obtain ⟨h1, _, ⟨t, ht, hd⟩⟩ := fetchDiffH_frame e _ 0 _ { heap := h0, tmp := [] } s' r hc' hpos' hf'
  refine ⟨h1, ?_, fetchDiffH_sharing e _ 0 _ { heap := h0, tmp := [] } s' r hc' hpos' hf', ?_⟩
  · intro i hi
    simp only [List.nil_append] at ht
    exact hd i (ht ▸ hi)
  · intro z hz
    exact fetchDiffH_disjoint e _ 0 _ { heap := h0, tmp := [] } s' r z hc' hpos' hf' hz

/-! ### witnesses (kernel-checked) -/

/-- master `s .multiple=True { a = 1 } ; b = 2 ; t { c = 3 }`, source `s { a = 5 } ; b = 7 ; t { c = 3 }` -/
def dMaster : String := "s\n  .multiple = True\n{\n  a = 1\n}\nb = 2\nt {\n  c = 3\n}\n"
def dSource : String := "s {\n  a = 5\n}\nb = 7\nt {\n  c = 3\n}\n"

def dRun : Option (Heap × HS × Nat) :=
  match parseObjs dMaster.toList, parseObjs dSource.toList with
  | .ok m, .ok s =>
    (match fetchDiffRootH envNone m [s] with
     | (h0, .ok (s', r)) => some (h0, s', r)
     | _ => none)
  | _, _ => none

section
local instance : DecidableEq HS := fun a b =>
  decidable_of_iff (a.heap = b.heap ∧ a.tmp = b.tmp) (by cases a; cases b; simp)

theorem dRun_eq : dRun =
    (let h0 : Heap := [
      .scope { name := [], id := some 0 } [1, 3, 4] none,
      .scope { name := "s".toList, id := some 1, line := some 1, attrs := [("multiple", .bool true)] } [2]
        (some 0),
      .defn { name := "a".toList, id := some 2, line := some 4 } [{ value := "1".toList, line := some 4 }]
        (some 1),
      .defn { name := "b".toList, id := some 3, line := some 6 } [{ value := "2".toList, line := some 6 }]
        (some 0),
      .scope { name := "t".toList, id := some 4, line := some 7 } [5] (some 0),
      .defn { name := "c".toList, id := some 5, line := some 8 } [{ value := "3".toList, line := some 8 }]
        (some 4),
      .scope { name := [] } [7, 9, 10] none,
      .scope { name := "s".toList, id := some 1, line := some 1 } [8] (some 6),
      .defn { name := "a".toList, id := some 2, line := some 2 } [{ value := "5".toList, line := some 2 }]
        (some 7),
      .defn { name := "b".toList, id := some 3, line := some 4 } [{ value := "7".toList, line := some 4 }]
        (some 6),
      .scope { name := "t".toList, id := some 4, line := some 5 } [11] (some 6),
      .defn { name := "c".toList, id := some 5, line := some 6 } [{ value := "3".toList, line := some 6 }]
        (some 10)]
     some (h0, { heap := h0 ++ [
      .scope { name := [], id := some 0 } [7, 9, 10] none,
      .scope { name := "s".toList, id := some 1, line := some 1, attrs := [("multiple", .bool true)] } []
        (some 0),
      .defn { name := "a".toList, id := some 2, line := some 4 } [{ value := "1".toList, line := some 4 }]
        (some 1),
      .scope { name := "s".toList, id := some 1, line := some 1, attrs := [("multiple", .bool true)] } [14]
        (some 0),
      .scope { name := "s".toList, id := some 1, line := some 1, attrs := [("multiple", .bool true)] } [8]
        (some 0),
      .defn { name := "a".toList, id := some 2, line := some 2 } [{ value := "5".toList, line := some 2 }]
        (some 7),
      .defn { name := "a".toList, id := some 2, line := some 4 } [{ value := "5".toList, line := some 2 }]
        (some 1),
      .scope { name := "s".toList, id := some 1, line := some 1, attrs := [("multiple", .bool true)] } [18]
        (some 0),
      .defn { name := "b".toList, id := some 3, line := some 4 } [{ value := "7".toList, line := some 4 }]
        (some 6),
      .defn { name := "b".toList, id := some 3, line := some 6 } [{ value := "7".toList, line := some 4 }]
        (some 0),
      .scope { name := "t".toList, id := some 4, line := some 7 } [11] (some 0),
      .defn { name := "c".toList, id := some 5, line := some 6 } [{ value := "3".toList, line := some 6 }]
        (some 10),
      .defn { name := "c".toList, id := some 5, line := some 8 } [{ value := "3".toList, line := some 6 }]
        (some 4),
      .scope { name := "t".toList, id := some 4, line := some 7 } [] (some 0),
      .scope { name := [], id := some 0 } [19, 21] none], tmp := [8, 9, 11] }, 26)) := by
  decide +kernel
end

/-- the run returns: `fetchDiffRootH_pure` applies; its hypotheses-free form is satisfiable on a non-trivial input -/
example : dRun.isSome = true := by
  rw [dRun_eq]
  decide +kernel

/-- 12 old cells; the three source definitions are marked; the result holds the `s` instance and `b` only: the
    scope `t` (no difference: its diff has no objects) is dropped, no template copy of `s` is made -/
theorem diff_witness_run :
    dRun.map (fun x => (x.1.length, x.2.1.tmp, x.2.2)) = some (12, [8, 9, 11], 26) := by
  rw [dRun_eq]
  decide +kernel

theorem diff_witness_result :
    dRun.map (fun x => (abs x.2.1.heap x.2.2).map (fun o => o.children.map (fun k => (k.name, k.meta.tmpl)))) =
    some (some [("s".toList, 0), ("b".toList, 0)]) := by
  rw [dRun_eq]
  decide +kernel

/-- every child of the witness result is a new cell -/
theorem diff_witness_children_new :
    dRun.map (fun x => (kidsOf x.2.1.heap x.2.2).all (fun k => decide (x.1.length ≤ k))) = some true := by
  rw [dRun_eq]
  decide +kernel

/-- `closedB` costs nothing: on a heap with a dangling child the heap-level diff fetch does not return -/
theorem fetchDiffH_dangling_fails :
    (match fetchDiffH envNone 3 0 [] { heap := [.scope { name := [] } [5] none], tmp := [] } with
     | .ok _ => false
     | .error _ => true) = true := by
  decide +kernel

end Phil.C17FetchDiffHeap

#print axioms Phil.C17FetchDiffHeap.fetchDiffH_frame
#print axioms Phil.C17FetchDiffHeap.fetchDiffH_sharing
#print axioms Phil.C17FetchDiffHeap.freshShape_reach_new
#print axioms Phil.C17FetchDiffHeap.fetchDiffH_disjoint
#print axioms Phil.C17FetchDiffHeap.fetchDiffH_resShape
#print axioms Phil.C17FetchDiffHeap.fetchDiffH_assign_frame
#print axioms Phil.C17FetchDiffHeap.fetchDiffRootH_pure
#print axioms Phil.C17FetchDiffHeap.diff_witness_run
#print axioms Phil.C17FetchDiffHeap.diff_witness_result
#print axioms Phil.C17FetchDiffHeap.diff_witness_children_new
#print axioms Phil.C17FetchDiffHeap.fetchDiffH_dangling_fails
