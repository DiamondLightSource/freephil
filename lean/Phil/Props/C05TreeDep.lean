/-
  C05 / C04 — `.deprecated` definitions inside the closed form of fetch for masters WITH `.multiple`
  scopes (namespace `Phil.C05`).  Lemmas: Phil/Proofs/FetchDepMS.lean (on top of
  Phil/Proofs/FetchTreeMS.lean and Phil/Proofs/FetchChoice.lean).

  Class `MSMasterD` (decidable: `msMasterDB`): `MSMaster` — nested masters with `.multiple` definitions
  and `.multiple` scopes — plus DEPRECATED definitions (`.deprecated` truthy, not `.multiple`, not a
  choice) at every level that is not inside a `.multiple` scope.  (Inside a `.multiple` scope the class
  is `MSMaster`: the keys of the list rule are renderings of whole blocks; deprecated definitions of
  masters without `.multiple`, choices included, are in Phil/Props/C11Tree.lean.)
  Specification `msResultD`: `msResult` where a deprecated definition contributes `depBlock` — the `dep`
  early exit of `definition.fetch_value`: NOTHING without a source or when the LAST source re-states
  the default (same word values, both `None`, or both `Auto`); otherwise the definition with the words
  of the last source.
  Validation: 1000 random (master with `.multiple` scopes/definitions and deprecated definitions,
  source) inputs: `msResultD` = the real `master.fetch(source)` (names, `is_template`, words) on all.
-/
import Phil.Proofs.FetchDepMS
import Phil.Props.C05TreeMS
import Phil.Props.C06Tree

namespace Phil.C05
open Phil

/-- **Closed form of fetch with `.multiple` scopes and deprecated definitions**: with fuel beyond the
    depth and defined keys the fetch succeeds exactly when there is no clash of kinds; its result is
    `msResultD`, the consumed ids are `msUsed` (a deprecated definition consumes its sources like any
    other); a clash fails with RuntimeError ("incompatible"). -/
theorem fetch_ms_dep_total (e : Envs) (fuel : Nat) (sm : Meta) (mkids srcs : List Obj)
    (hf : MSMasterD mkids) (hfuel : depthL mkids + 1 ≤ fuel) (hsd : sm.disabled = false)
    (hsrc : SrcTree srcs) (hkeys : KeysDefinedMS e mkids srcs) :
    fetchScope e fuel false sm mkids srcs =
      if msNoClash mkids srcs then
        .ok (.scope { sm with tmpl := 0 } (msResultD e mkids srcs), msUsed mkids srcs)
      else .error incompatibleErr :=
  Phil.fetch_ms_dep_total e fuel sm mkids srcs hf hfuel hsd hsrc hkeys

/-- `master.fetch(sources)` on parsed roots, side conditions in executable form -/
theorem fetchRoot_ms_dep_checked (e : Envs) (master : List Obj) (ss : List (List Obj))
    (hm : msMasterDB master = true) (hs : srcCheck ss.flatten = true)
    (hk : keysDefinedMSB e master ss.flatten = true) :
    fetchRoot e false master ss =
      if msNoClash master ss.flatten then
        .ok (.scope { name := [], id := some 0 } (msResultD e master ss.flatten), msUsed master ss.flatten)
      else .error incompatibleErr :=
  have hM := msMasterDB_sound master hm
  fetch_ms_dep_total e _ _ master ss.flatten hM.1 (fetchRoot_fuel_tree master hM.2) rfl
    (srcCheck_sound _ hs).tree (keysDefinedMSB_sound e master _ hk)

/-- the class extends `MSMaster`, and on `MSMaster` the specification is `msResult` -/
theorem msMaster_is_msMasterD {mkids : List Obj} (h : MSMaster mkids) : MSMasterD mkids := h.toD
theorem msResultD_on_msMaster (e : Envs) (mkids srcs : List Obj) (h : MSMaster mkids) :
    msResultD e mkids srcs = msResult e mkids srcs := msResultD_eq_ms e mkids srcs h.kids

/-- **a deprecated definition without a source is not in the result** -/
theorem deprecated_block_no_source (mm : Meta) (mws : List Word) (srcs : List Obj) (hp : DepMeta mm)
    (h : lastDef srcs mm.name = none) : depBlock mm mws srcs = [] := by
  unfold depBlock; rw [h]; simp [finishC, hp.deprecated]

/-- **… with sources, the LAST one decides**: dropped when it re-states the default, kept with the
    source's words otherwise -/
theorem deprecated_block_last_source (mm : Meta) (mws : List Word) (srcs : List Obj) (hp : DepMeta mm)
    (sm : Meta) (sws : List Word) (h : lastDef srcs mm.name = some (.defn sm sws)) :
    depBlock mm mws srcs =
      if (isPlainNone (Obj.defn sm sws).srcWords && isPlainNone mws) ||
         (isPlainAuto (Obj.defn sm sws).srcWords && isPlainAuto mws) ||
         (!isPlainNone (Obj.defn sm sws).srcWords && !isPlainAuto (Obj.defn sm sws).srcWords &&
           !isPlainNone mws && !isPlainAuto mws &&
           (Obj.defn sm sws).srcWords.map (fun (w : Word) => w.value) == mws.map (fun (w : Word) => w.value))
      then [] else [.defn { mm with tmpl := 0 } (Obj.defn sm sws).srcWords] := by
  unfold depBlock
  rw [h]
  simp only [srcVal, fetchValueW, hp.deprecated, Bool.true_and]
  split
  · simp [valOfC, finishC, hp.deprecated]
  · split
    · rename_i b hb; exact absurd hb (hp.notChoice b)
    · simp [valOfC, finishC]

/-! ### an instance through the parser (replayed on the Python library) -/

/-- the names (with `#is_template` and `=words`) of a tree, depth first -/
def obsD (pre : String) : Nat → List Obj → List String
  | 0, _ => []
  | f + 1, l => l.flatMap (fun o => match o with
    | .defn m ws => [pre ++ String.ofList m.name ++ (if m.tmpl == 0 then "" else "#" ++ toString m.tmpl) ++ "=" ++
        " ".intercalate (ws.map (fun w => String.ofList w.value))]
    | .scope m kids => (pre ++ String.ofList m.name ++ (if m.tmpl == 0 then "" else "#" ++ toString m.tmpl)) ::
        obsD (pre ++ String.ofList m.name ++ ".") f kids)

/-- master: a deprecated int `old`, a `.multiple` scope `s { b = x }`, a scope `g` with a deprecated
    `gone` and a plain `keep` -/
def depMS : List Obj :=
  C06.objsOf "old = 1\n.type=int\n.deprecated=True\ns\n.multiple=True\n{\n  b = x\n}\ng {\n  gone = a\n  .deprecated=True\n  keep = 2\n}\n"
def depS1 : List Obj := C06.objsOf "old = 5\ns { b = y }\ns { b = z }\ng.gone = a\n"
def depS2 : List Obj := C06.objsOf "old = 5\nold = 1\ng.gone = q\n"

/-- the instance satisfies every executable hypothesis, for both source texts and for no source -/
theorem depMS_in_class :
    (msMasterDB depMS && srcCheck depS1 && srcCheck depS2 && keysDefinedMSB env12 depMS depS1 &&
     keysDefinedMSB env12 depMS depS2 && keysDefinedMSB env12 depMS [] && msNoClash depMS depS1 &&
     msNoClash depMS depS2) = true := by
  unfold depMS depS1 depS2
  rw [C06.objsOf_ofList, C06.objsOf_ofList, C06.objsOf_ofList]
  decide +kernel

/-- without sources both deprecated definitions are gone; `old = 5` is kept, `g.gone = a` (the
    default) is dropped; `old = 5` then `old = 1` (the default, LAST) is dropped, `g.gone = q` kept.
    (Python `master.fetch(...)`: exactly these three lists.) -/
theorem depMS_evaluated :
    (obsD "" 5 (msResultD env12 depMS []), obsD "" 5 (msResultD env12 depMS depS1),
     obsD "" 5 (msResultD env12 depMS depS2)) =
    (["s#1", "s.b=x", "g", "g.keep=2"],
     ["old=5", "s#-1", "s.b=x", "s", "s.b=y", "s", "s.b=z", "g", "g.keep=2"],
     ["s#1", "s.b=x", "g", "g.gone=q", "g.keep=2"]) := by
  unfold depMS depS1 depS2
  rw [C06.objsOf_ofList, C06.objsOf_ofList, C06.objsOf_ofList]
  decide +kernel

/-- the closed form applied to the instance: that is what the real entry point returns -/
example : fetchRoot env12 false depMS [depS1] =
    .ok (.scope { name := [], id := some 0 } (msResultD env12 depMS depS1), msUsed depMS depS1) := by
  have hc := depMS_in_class
  simp only [Bool.and_eq_true] at hc
  have hfl : ([depS1] : List (List Obj)).flatten = depS1 := by simp
  have h := fetchRoot_ms_dep_checked env12 depMS [depS1] hc.1.1.1.1.1.1.1 (by rw [hfl]; exact hc.1.1.1.1.1.1.2)
    (by rw [hfl]; exact hc.1.1.1.1.2)
  rw [hfl, hc.1.2] at h
  exact h

end Phil.C05

#print axioms Phil.C05.fetch_ms_dep_total
#print axioms Phil.C05.fetchRoot_ms_dep_checked
#print axioms Phil.C05.msMaster_is_msMasterD
#print axioms Phil.C05.msResultD_on_msMaster
#print axioms Phil.C05.deprecated_block_no_source
#print axioms Phil.C05.deprecated_block_last_source
#print axioms Phil.C05.depMS_in_class
#print axioms Phil.C05.depMS_evaluated
