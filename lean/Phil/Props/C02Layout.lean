/-
  C02 (closed form for flat documents) — all surface spellings of one abstract tree parse to that
  same tree.  A flat document is a list of definitions `name = w1 … wk` (no scopes, no attributes).
  Its *layout* is data: for every definition the filler in front of the name (blank lines, whole-line
  `#` comments, indentation), the blanks between name and `=`, the blanks in front of every word, and
  the way the definition ends (newline, `;`, trailing `# comment`, end of the text).  `render` turns
  definitions + layout into text.  The theorems say: whatever well-formed layout is chosen, `parse`
  succeeds and returns the same tree — names, word values, quote styles, order — with ids 1..n.

  Property theorems only; lemmas are in Phil/Proofs/Layout.lean.

  ## The layout (definitions in Phil/Proofs/Layout.lean, `inlineB` in Phil/Proofs/PrintParse.lean)

  * `inlineB sp`      — every character of `sp` is white space (`str.isspace()`) other than the newline
                        (blank, tab, `\r`, form feed, no-break space, …).
  * `FillLine`        — `ind : Str`, `cmt : Option Str`; text `ind ++ ('#' ++ cmt)? ++ "\n"`;
                        well formed: `inlineB ind` and `cmtSafe cmt` for a comment line.
  * `cmtSafe c`       — no newline in `c`; `c` does not start with `phil`; and if the `#` stands alone
                        (`c` empty or starting with white space or one of `{ } ;`) then `commentOk false
                        true c`: no word of the comment starts with a quote character and its last word
                        is not a lone backslash.  (`#text` directly after the `#` may contain anything.)
  * `Pre`             — `lines : List FillLine`, `ind : Str` (blanks on the line of the name).
  * `Terminator`      — `nl tb` (`tb ++ "\n"`), `semi sb` (`sb ++ ";"`), `comment sb cmt`
                        (`sb ++ "#" ++ cmt ++ "\n"`, `sb` non-empty, `#` stand-alone, `commentOk`), `eof`.
  * `DefLayout`       — `pre : Pre`, `sp1 : Str` (between name and `=`, may be empty),
                        `gaps : List Str` (in front of each word; the first may be empty), `term`.
  * `wfDef d L`       — `L.pre.wf`, `inlineB L.sp1`, `gapsOK true L.gaps d.2` (one gap per word, all
                        `inlineB`, all but the first non-empty), `L.term.wf`.
  * `goodDef d`       — `goodName d.1`, at least one word, every word `goodWord` (quoted with ANY
                        content — also newlines — or a plain unquoted word), `chainOK true d.2` (an
                        unquoted word does not follow a quoted word that contains a newline).
  * `wfDoc ds post`   — every `goodDef`/`wfDef`; `eof` only on the last definition and then `post` has
                        no lines; `post.wf`.
  * `render ds post`  — the text.
-/
import Phil.Proofs.FlatLayout
namespace Phil.C02
open Phil

/-- the abstract tree of a flat document: one definition per `(name, words)`, no ids, no lines -/
def flatTree (specs : List DefSpec) : List Obj := specs.map (fun d => .defn { name := d.1 } d.2)

theorem erase_flatTree (specs : List DefSpec) : eraseList (flatTree specs) = treeOf specs := by
  rw [eraseList_eq_map, flatTree, List.map_map]
  exact List.map_congr_left fun d _ => Obj.erase_defn _ _

/-- the tree of the canonical text `docText specs` (C01: `parsedDefs_erase`) is the abstract tree too -/
theorem parsedDefs_erase_flat (specs : List DefSpec) (l i : Nat) :
    eraseList (parsedDefs l i specs) = eraseList (flatTree specs) := by
  have e : (flatTree specs).map Obj.spec = specs := by
    rw [flatTree, List.map_map]; exact List.map_id'' (fun _ => rfl) _
  have := parsedDefs_erase (flatTree specs) (fun x hx => by
    obtain ⟨d, _, rfl⟩ := List.mem_map.mp hx
    exact ⟨_, _, _, _, rfl⟩) l i
  rwa [e] at this

/-- **C02, flat documents: the tree does not depend on the layout.**
    `ds` pairs every definition `(name, words)` with a layout, `post` is the filler after the last
    definition, `wfDoc ds post` is the (decidable) well-formedness of the whole.  Then `parse` of the
    rendered text succeeds, the tree it returns is — up to ids and source lines (`eraseList`) — the
    abstract tree of the definitions alone (names, word values, quote styles, order; enabled, no
    attributes), and the ids are `1, 2, …, n` in document order.  Nothing of the layout (blank lines,
    comment lines, indentation, blanks around `=` and between words, the choice of newline / `;` /
    trailing comment / end of text) is visible in the tree. -/
theorem layout_independent (ds : List (DefSpec × DefLayout)) (post : Pre)
    (h : wfDoc ds post = true) :
    ∃ objs, parseObjs (render ds post) = .ok objs ∧
      eraseList objs = eraseList (flatTree (ds.map Prod.fst)) ∧
      objs.map (fun x => x.meta.id) = (List.range' 1 ds.length).map some :=
  ⟨parsedLay 1 1 ds, parseObjs_render ds post h,
    by rw [parsedLay_erase, erase_flatTree], parsedLay_ids ds 1 1⟩

/-- **Two layouts, one tree.**  Two well-formed layouts of the same list of definitions parse to
    trees that are equal up to ids and source lines — and the ids are equal too. -/
theorem two_layouts_same_tree (ds1 ds2 : List (DefSpec × DefLayout)) (post1 post2 : Pre)
    (hsame : ds1.map Prod.fst = ds2.map Prod.fst)
    (h1 : wfDoc ds1 post1 = true) (h2 : wfDoc ds2 post2 = true) :
    ∃ o1 o2, parseObjs (render ds1 post1) = .ok o1 ∧ parseObjs (render ds2 post2) = .ok o2 ∧
      eraseList o1 = eraseList o2 ∧
      o1.map (fun x => x.meta.id) = o2.map (fun x => x.meta.id) := by
  obtain ⟨o1, p1, e1, i1⟩ := layout_independent ds1 post1 h1
  obtain ⟨o2, p2, e2, i2⟩ := layout_independent ds2 post2 h2
  refine ⟨o1, o2, p1, p2, by rw [e1, e2, hsame], ?_⟩
  have hl : ds1.length = ds2.length := by
    have := congrArg List.length hsame
    simpa using this
  rw [i1, i2, hl]

/-- **Every layout agrees with the canonical print.**  The tree of any well-formed layout is the tree
    `parse` returns for the canonical text `name = w1 … wk⏎` per definition (what `definition.show`
    prints when nothing is wrapped, C01). -/
theorem same_as_canonical_text (ds : List (DefSpec × DefLayout)) (post : Pre)
    (h : wfDoc ds post = true) :
    ∃ o1 o2, parseObjs (render ds post) = .ok o1 ∧ parseObjs (docText (ds.map Prod.fst)) = .ok o2 ∧
      eraseList o1 = eraseList o2 := by
  obtain ⟨o1, p1, e1, _⟩ := layout_independent ds post h
  have hgood : ∀ d ∈ ds.map Prod.fst, GoodDefn d := by
    intro d hd
    obtain ⟨x, hx, rfl⟩ := List.mem_map.mp hd
    exact goodDef_good (wfDoc_mem h x hx).1
  refine ⟨o1, _, p1, parseObjs_docText _ hgood, ?_⟩
  rw [e1, parsedDefs_erase_flat]

/-! ### non-vacuity: one document, two very different layouts -/

/-- three definitions: a plain word, a mix of plain and quoted words, a multi-line quoted word -/
def exSpecs : List DefSpec :=
  [ ("a".toList, [{ value := "1".toList }]),
    ("b_2".toList, [{ value := "x*y".toList }, { value := "p q".toList, quote := some .d1 },
                    { value := "it's".toList }]),
    ("c".toList, [{ value := "l1\nl2".toList, quote := some .s3 },
                  { value := ";#".toList, quote := some .s1 }]) ]

/-- the plainest layout: `name = w1 w2⏎` -/
def layPlain (n : Nat) : DefLayout := { gaps := List.replicate n [' '] }

/-- a dense layout: comment header, no blanks around `=`, `;` separators on one line, the end of the
    text as last terminator -/
def exDense : List (DefSpec × DefLayout) :=
  [ (exSpecs[0]!, { pre := { lines := [⟨[], some "header 'x".toList⟩] }, sp1 := [], gaps := [[]],
                    term := .semi [] }),
    (exSpecs[1]!, { sp1 := [], gaps := [[], ['\t'], [' ', ' ']], term := .semi [' '] }),
    (exSpecs[2]!, { sp1 := [], gaps := [[], [' ']], term := .eof }) ]

/-- an airy layout: blank lines, indented comment lines (stand-alone `#` and `#text`), tabs,
    `\r\n` line ends, trailing comments -/
def exAiry : List (DefSpec × DefLayout) :=
  [ (exSpecs[0]!, { pre := { lines := [⟨[], none⟩, ⟨[' '], some " it's {x}; ok\\n".toList⟩], ind := ['\t'] },
                    sp1 := [' ', '\t'], gaps := [[' ', ' ']], term := .nl ['\r'] }),
    (exSpecs[1]!, { pre := { lines := [⟨[], some " a stand-alone comment read by the value collector".toList⟩,
                                        ⟨[' '], some "'quote".toList⟩, ⟨['\t'], none⟩] },
                    gaps := [[' '], ['\t', '\t'], [' ']], term := .comment [' '] " trailing; {comment}".toList }),
    (exSpecs[2]!, { pre := { lines := [⟨[], some "".toList⟩], ind := [' ', ' '] },
                    gaps := [[' '], [' ']], term := .nl [] }) ]

def exPost : Pre := { lines := [⟨[], none⟩, ⟨[], some " the end".toList⟩], ind := [' '] }

example : render exDense {} =
    "#header 'x\na=1;b_2=x*y\t\"p q\"  it's ;c='''l1\nl2''' ';#'".toList := by
  unfold exDense exSpecs
  -- a literal is `String.ofList […]` for `rw` and the kernel: no UTF-8 decoding
  repeat rw [String.toList_ofList]
  decide +kernel

example : render exAiry exPost =
    ("\n # it's {x}; ok\\n\n\ta \t=  1\r\n" ++
     "# a stand-alone comment read by the value collector\n #'quote\n\t\n" ++
     "b_2 = x*y\t\t\"p q\" it's # trailing; {comment}\n" ++
     "#\n  c = '''l1\nl2''' ';#'\n" ++
     "\n# the end\n ").toList := by
  unfold exAiry exPost exSpecs
  simp only [String.toList_append]
  repeat rw [String.toList_ofList]
  decide +kernel

theorem exDense_wf : wfDoc exDense {} = true := by
  unfold exDense exSpecs
  repeat rw [String.toList_ofList]
  decide +kernel
theorem exAiry_wf : wfDoc exAiry exPost = true := by
  unfold exAiry exPost exSpecs
  repeat rw [String.toList_ofList]
  decide +kernel

/-- both layouts, through the theorem: same tree, same ids -/
example : ∃ o1 o2, parseObjs (render exDense {}) = .ok o1 ∧ parseObjs (render exAiry exPost) = .ok o2 ∧
    eraseList o1 = eraseList o2 ∧ o1.map (fun x => x.meta.id) = o2.map (fun x => x.meta.id) :=
  two_layouts_same_tree exDense exAiry {} exPost (by decide +kernel) exDense_wf exAiry_wf

/-! ### sharp edges: spellings outside the layout language, and what the parser does with them

  A summary of the parse result that has decidable equality: per definition its name, id, line and
  words; `none` for a scope. -/

def briefObj : Obj → Option (Str × Option Nat × Option Nat × List Word)
  | .defn m ws => some (m.name, m.id, m.line, ws)
  | .scope _ _ => none

inductive Brief
  | inl (e : Err)
  | inr (ds : List (Option (Str × Option Nat × Option Nat × List Word)))
  deriving DecidableEq

def brief (s : String) : Brief :=
  match parseObjs s.toList with
  | .error e => .inl e
  | .ok os => .inr (os.map briefObj)

theorem brief_ofList (l : List Char) : brief (String.ofList l) =
    match parseObjs l with
    | .error e => .inl e
    | .ok os => .inr (os.map briefObj) := by
  unfold brief
  rw [String.toList_ofList]

/-- reference: two definitions on two lines -/
example : brief "a = 1\nb = 2" = .inr
    [some ("a".toList, some 1, some 1, [{ value := "1".toList, line := some 1 }]),
     some ("b".toList, some 2, some 2, [{ value := "2".toList, line := some 2 }])] := by
  rw [brief_ofList]
  repeat rw [String.toList_ofList]
  decide +kernel

/-- `#` glued to text is not a comment in value context: `#c` becomes a word of `a`
    (`Terminator.comment` demands a stand-alone `#`) -/
example : brief "a = 1 #c\nb = 2" = .inr
    [some ("a".toList, some 1, some 1, [{ value := "1".toList, line := some 1 },
                                         { value := "#c".toList, line := some 1 }]),
     some ("b".toList, some 2, some 2, [{ value := "2".toList, line := some 2 }])] := by
  rw [brief_ofList]
  repeat rw [String.toList_ofList]
  decide +kernel

/-- no blank in front of `#`: it is part of the word (`Terminator.comment` demands `sb ≠ []`) -/
example : brief "a = 1# c\nb = 2" = .inr
    [some ("a".toList, some 1, some 1, [{ value := "1#".toList, line := some 1 },
                                         { value := "c".toList, line := some 1 }]),
     some ("b".toList, some 2, some 2, [{ value := "2".toList, line := some 2 }])] := by
  rw [brief_ofList]
  repeat rw [String.toList_ofList]
  decide +kernel

/-- a newline between the name and `=` is refused when the value is unquoted (`sp1` must be `inlineB`) -/
example : brief "a\n= 1" = .inl (.runtime "missing_value" (some 1)) := by
  rw [brief_ofList]
  repeat rw [String.toList_ofList]
  decide +kernel

/-- … and a newline after `=` as well (`gaps` must be `inlineB`) -/
example : brief "a =\n1" = .inl (.runtime "missing_value" (some 1)) := by
  rw [brief_ofList]
  repeat rw [String.toList_ofList]
  decide +kernel

/-- a quoted word at the start of the next line continues the value (a `Pre` cannot start with a quote) -/
example : brief "a = 1\n\"x\"\nb = 2" = .inr
    [some ("a".toList, some 1, some 1, [{ value := "1".toList, line := some 1 },
                                         { value := "x".toList, quote := some .d1, line := some 2 }]),
     some ("b".toList, some 2, some 3, [{ value := "2".toList, line := some 3 }])] := by
  rw [brief_ofList]
  repeat rw [String.toList_ofList]
  decide +kernel

/-- a `;` directly followed by a quoted word: the structure tokenizer refuses it as a name -/
example : brief "a = 1;\"x\" = 2" = .inl (.runtime "unquoted_expected" (some 1)) := by
  rw [brief_ofList]
  repeat rw [String.toList_ofList]
  decide +kernel

/-- two `;`: the second is glued to the next name (`;` is not special in structure context) -/
example : brief "a = 1;;b = 2" = .inl (.runtime "improper_definition_name" (some 1)) := by
  rw [brief_ofList]
  repeat rw [String.toList_ofList]
  decide +kernel

/-- no terminator between two definitions (`eof` in the middle): one definition with four words -/
example : brief "a = 1 b = 2" = .inr
    [some ("a".toList, some 1, some 1, [{ value := "1".toList, line := some 1 },
       { value := "b".toList, line := some 1 }, { value := "=".toList, line := some 1 },
       { value := "2".toList, line := some 1 }])] := by
  rw [brief_ofList]
  repeat rw [String.toList_ofList]
  decide +kernel

/-- missing blank between an unquoted and a quoted word: one word (`gapsOK`: inner gaps non-empty) -/
example : brief "a = 1\"x\"" = .inr
    [some ("a".toList, some 1, some 1, [{ value := "1\"x\"".toList, line := some 1 }])] := by
  rw [brief_ofList]
  repeat rw [String.toList_ofList]
  decide +kernel

/-- an unquoted word after a quoted word that contains a newline ends the value and is then taken
    for a name (`chainOK`) -/
example : brief "a = \"x\ny\" z\nb = 2" = .inl (.runtime "expected" (some 3)) := by
  rw [brief_ofList]
  repeat rw [String.toList_ofList]
  decide +kernel

/-- a stand-alone `#` comment line right after a newline-terminated value is read by the *value*
    collector: a word-initial quote in it swallows the following lines (`cmtSafe`; finding D20) … -/
example : brief "a = 1\n# c 'q\nb = 2'\nd = 3" = .inr
    [some ("a".toList, some 1, some 1, [{ value := "1".toList, line := some 1 }]),
     some ("d".toList, some 2, some 4, [{ value := "3".toList, line := some 4 }])] := by
  rw [brief_ofList]
  repeat rw [String.toList_ofList]
  decide +kernel

/-- … while the same text glued to the `#` is skipped by the structure tokenizer and is harmless -/
example : brief "a = 1\n#c 'q\nb = 2" = .inr
    [some ("a".toList, some 1, some 1, [{ value := "1".toList, line := some 1 }]),
     some ("b".toList, some 2, some 3, [{ value := "2".toList, line := some 3 }])] := by
  rw [brief_ofList]
  repeat rw [String.toList_ofList]
  decide +kernel

/-- a comment whose last word is a lone backslash continues over the next line: `b = 2` is lost -/
example : brief "a = 1 # foo \\\nb = 2\nc = 3" = .inr
    [some ("a".toList, some 1, some 1, [{ value := "1".toList, line := some 1 }]),
     some ("c".toList, some 2, some 3, [{ value := "3".toList, line := some 3 }])] := by
  rw [brief_ofList]
  repeat rw [String.toList_ofList]
  decide +kernel

/-- `#phil` at the start of a word is a directive, not a comment (`cmtSafe`) -/
example : brief "a = 1\n #phil x\nb = 2" = .inl (.runtime "unknown_phil" (some 2)) := by
  rw [brief_ofList]
  repeat rw [String.toList_ofList]
  decide +kernel

/-- the reader `cmtSafe` on these texts -/
example : cmtSafe " c 'q".toList = false := by decide +kernel
example : cmtSafe "c 'q".toList = true := by decide +kernel
example : cmtSafe "phil x".toList = false := by decide +kernel
example : cmtSafe " foo \\".toList = false := by decide +kernel
example : cmtSafe " say \"hi\"".toList = false := by decide +kernel
example : cmtSafe " it's {x}; ok\\n".toList = true := by decide +kernel

end Phil.C02
