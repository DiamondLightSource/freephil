/-
  C13 (parents and ids; finding D71) — what `include` leaves in `primary_parent_scope` and `primary_id` of the
  spliced objects, and what `full_path()` and `$variable` look-ups make of it.

  Model: Phil/IncludeParents.lean (`expandP` = `parse(file_name=…, process_includes=True)` with the parent link
  of every object, as a chain of frames (`name`, `.objects`) innermost first; `fullPathP` = `full_path()`;
  `lexicalGetP o v` = `o.primary_parent_scope.lexical_get(v, stop_id=o.primary_id)`, the look-up of
  `definition.resolve_variables`).  Lemmas and auxiliary definitions (`pathsUnder`, `PathsRight`, `includesAtTop`,
  `TopLevelIncludes`, `inclPAt`) are in Phil/Proofs/IncludeParentsLemmas.lean.  Correspondence: driver op `expandp`
  (full path, id, number of parents, and the look-up of every name of the tree from every object), compared with
  the real objects in harness/props/C13.py.

  `pathsUnder up objs` = the `full_path()`s inside ONE consistently linked tree (a parsed text: the inlined text).
  All theorems hold for every environment, fuel, stack, chain and object list; `decide`/`rfl` only in witnesses.
-/
import Phil.Proofs.IncludeParentsLemmas
namespace Phil.C13
open Phil

/-! ### 1. erasure -/

/-- forgetting the parent links gives the include model of C13 (same trees, same ids, same errors) -/
theorem expandP_erases_to_expand (env : IncEnv) (root : Path) :
    (expandP env root).map eraseL = expand env root :=
  expandFileP_erase env _ root []

/-- the same for every file, fuel and include stack -/
theorem expandFileP_erases_to_expandFile (env : IncEnv) (fuel : Nat) (path : Path) (stack : List Path) :
    (expandFileP env fuel path stack).map eraseL = expandFile env fuel path stack :=
  expandFileP_erase env fuel path stack

/-! ### 2. full paths -/

/-- decidable form of `TopLevelIncludes` -/
def topLevelIncludesB (env : IncEnv) : Bool :=
  env.fs.all fun pt => match parseObjs pt.2 with
    | .ok objs => includesAtTop objs
    | .error _ => true

theorem topLevelIncludes_of_check (env : IncEnv) (h : topLevelIncludesB env = true) : TopLevelIncludes env := by
  intro pt hpt objs hp
  have := List.all_eq_true.mp h pt hpt
  simpa [hp] using this

/-- **include at top level**: when every file places its `include file` statements at top level (`include scope`
    may stand anywhere), every object of the expanded tree reports the full path it has in the tree — i.e. in the
    parse of the inlined text (`expand` is that tree by `expandP_erases_to_expand` and the inlining laws of C13) -/
theorem full_path_of_included_toplevel (env : IncEnv) (htop : TopLevelIncludes env) (root : Path)
    (r : List PObj) (h : expandP env root = .ok r) :
    fullPathsP r = pathsUnder [] (eraseL r) ∧ expand env root = .ok (eraseL r) := by
  refine ⟨expandFileP_pathsRight env htop _ root [] r h, ?_⟩
  rw [← expandP_erases_to_expand, h]
  rfl

/-- **D71, positive statement**: a well-formed `include file name` statement standing ANYWHERE (parent chain `ch`:
    inside scope `s`, `ch = ⟨s, …⟩ :: …`) contributes exactly the objects `inc` of the separately processed file —
    same parent links, same ids; nothing of `ch` enters them … -/
theorem included_objects_ignore_site (env : IncEnv) (fuel : Nat) (refdir : Path) (stack : List Path)
    (ch : PChain) (o : Obj) (rest : List Obj) (name : Str) (h : includeTarget o = some name) :
    processListP env (inclPAt env fuel) fuel refdir stack ch (o :: rest) =
      match inclPAt env fuel (resolvePath refdir name) stack with
      | .error e => .error e
      | .ok inc => (processListP env (inclPAt env fuel) fuel refdir stack ch rest).map (fun r => inc ++ r) := by
  rw [processListP, processObjP_include env _ fuel refdir stack ch o name h]
  cases inclPAt env fuel (resolvePath refdir name) stack <;> rfl

/-- … hence inside scope `s` the spliced objects report their paths WITHOUT the prefix of the scope: their
    `full_path()`s are the ones in the included file read from ITS root (`pathsUnder []`), whatever `ch` is; the
    inlined text would give `pathsUnder (climbNames ch)` (`full_paths_of_inlined_text`) -/
theorem full_path_of_included_in_scope (env : IncEnv) (htop : TopLevelIncludes env) (fuel : Nat)
    (refdir : Path) (stack : List Path) (ch : PChain) (o : Obj) (rest : List Obj) (name : Str)
    (h : includeTarget o = some name) (r : List PObj)
    (hr : processListP env (inclPAt env fuel) fuel refdir stack ch (o :: rest) = .ok r) :
    ∃ inc r', r = inc ++ r' ∧ inclPAt env fuel (resolvePath refdir name) stack = .ok inc ∧
      fullPathsP inc = pathsUnder [] (eraseL inc) := by
  obtain ⟨inc, r', ho, _, rfl⟩ := processListP_cons_ok env _ fuel refdir stack hr
  rw [processObjP_include env _ fuel refdir stack ch o name h] at ho
  exact ⟨inc, r', rfl, ho, expandFileP_pathsRight env htop fuel _ _ inc (inclPAt_eq env fuel ▸ ho)⟩

/-- what the inlined text gives: in a consistently linked tree below the chain `ch` the full paths carry the
    names of `ch` -/
theorem full_paths_of_inlined_text (ch : PChain) (objs : List Obj) :
    fullPathsP (annotL ch objs) = pathsUnder (climbNames ch) objs :=
  fullPathsP_annotL objs ch

/-- **include scope**: a well-formed `include scope p [q]` statement below the chain `ch` contributes the selection
    `sel` re-linked below `ch` (`change_primary_parent_scope`): the full paths are right (they carry the names of
    `ch`), the objects — ids included — are those of the imported scope (foreign ids) -/
theorem include_scope_paths_right_ids_foreign (env : IncEnv) (incl : Path → List Path → R (List PObj))
    (fuel : Nat) (refdir : Path) (stack : List Path) (ch : PChain) (o : Obj) (p : Str) (sub : Option Str)
    (sel : List Obj) (h : scopeTarget o = some (p, sub))
    (hsel : includeScope env fuel stack p sub o.meta.line = .ok sel) :
    ∃ r, processObjP env incl fuel refdir stack ch o = .ok r ∧
      fullPathsP r = pathsUnder (climbNames ch) sel ∧ eraseL r = sel := by
  refine ⟨annotL ch sel, ?_, fullPathsP_annotL sel ch, erase_annotL sel ch⟩
  rw [processObjP_scopeTarget env incl fuel refdir stack ch o p sub h, hsel]
  rfl

/-- objects that are kept (ordinary definitions) keep the parent they were parsed with -/
theorem kept_definition_keeps_parent (env : IncEnv) (incl : Path → List Path → R (List PObj)) (fuel : Nat)
    (refdir : Path) (stack : List Path) (ch : PChain) (m : Meta) (ws : List Word)
    (hn : m.name ≠ "include".toList) :
    processObjP env incl fuel refdir stack ch (.defn m ws) = .ok [.defn m ws ch] := by
  have hn' : (m.name != "include".toList) = true := by simpa using hn
  rw [processObjP]
  by_cases hd : m.disabled = true
  · simp only [hd, ↓reduceIte]
  · simp only [hd, hn', Bool.false_eq_true, ↓reduceIte]

/-! ### 3. variables -/

/-- **a reference inside the included file resolves as in the file alone**: the look-up from a top-level definition
    of a file parsed as `objs` runs over the chain `[objs]` — the file's own PRE-expansion objects, exactly the chain
    `Phil.resolveAt` uses for the file parsed alone — wherever the file is included -/
theorem include_internal_reference (objs : List Obj) (m : Meta) (ws : List Word) (id : Nat) (v : Str)
    (hid : m.id = some id) :
    lexicalGetP (.defn m ws (rootChain objs)) v = lexicalGet (2 * v.length + 1 + 1) [objs] v id true := by
  simp [lexicalGetP, PObj.meta, PObj.par, hid, rootChain, PChain.toChain]

/-- the spliced objects of an included file are those of the file processed alone, as objects (parent links
    included): every look-up from them gives what it gives in the file alone -/
theorem included_objects_are_the_files_own (env : IncEnv) (fuel : Nat) (refdir : Path) (stack : List Path)
    (ch : PChain) (o : Obj) (rest : List Obj) (name : Str) (h : includeTarget o = some name) (r : List PObj)
    (hr : processListP env (inclPAt env fuel) fuel refdir stack ch (o :: rest) = .ok r) :
    ∃ inc, inclPAt env fuel (resolvePath refdir name) stack = .ok inc ∧ ∀ d ∈ inc, d ∈ r := by
  obtain ⟨inc, r', ho, _, rfl⟩ := processListP_cons_ok env _ fuel refdir stack hr
  rw [processObjP_include env _ fuel refdir stack ch o name h] at ho
  exact ⟨inc, ho, fun d hd => List.mem_append_left _ hd⟩

/-- a name is a candidate of `lexical_get` among `objs` -/
def candidateIn (objs : List Obj) (v : Str) : Bool :=
  objs.any fun o => o.name == v || (stripPrefixDot o.name v).isSome

/-- a root-level look-up of a name none of the root's objects matches finds nothing -/
theorem lexicalGet_root_none (fuel : Nat) (objs : List Obj) (v : Str) (id : Nat)
    (hdot : (v.take 1 == ['.']) = false) (hc : candidateIn objs v = false) :
    lexicalGet (fuel + 1) [objs] v id true = none := by
  unfold lexicalGet
  simp only [hdot, Bool.false_eq_true, ↓reduceIte]
  split
  · rename_i r heq
    exfalso
    obtain ⟨a, ha, hfa⟩ := List.exists_of_findSome?_eq_some heq
    have ha' : a ∈ objs :=
      (List.takeWhile_sublist _).subset (List.mem_filter.mp (List.mem_reverse.mp ha)).1
    have hn := (List.any_eq_false.mp hc) a ha'
    simp only [Bool.or_eq_true, not_or, Bool.not_eq_true, Option.isSome_eq_false_iff,
      Option.isNone_iff_eq_none] at hn
    simp [hn.1, hn.2] at hfa
  · rfl

/-- **a reference across the include boundary is undefined**: from a top-level definition of an included file
    (parsed as `objs`) a name that the file itself does not define is not found — whatever the including file
    defines (its objects are not on the parent chain of the spliced definition at all) -/
theorem include_boundary_undefined (objs : List Obj) (m : Meta) (ws : List Word) (v : Str)
    (hdot : (v.take 1 == ['.']) = false) (hc : candidateIn objs v = false) :
    lexicalGetP (.defn m ws (rootChain objs)) v = none := by
  cases hid : m.id with
  | none => simp [lexicalGetP, PObj.meta, hid]
  | some id =>
    rw [include_internal_reference objs m ws id v hid]
    exact lexicalGet_root_none _ objs v id hdot hc

/-! ### witnesses (finding D71, known_findings.json; replayed on Python) -/

def okAnd {α : Type} (x : R α) (p : α → Bool) : Bool :=
  match x with
  | .ok r => p r
  | .error _ => false

def strs (l : List String) : List Str := l.map String.toList

def pMainW : Path := ["main.params".toList]
/-- main.params: `s { a = 1  include file inc.params }`, inc.params: `b = $a  t { c = 3 }` -/
def envD71 : IncEnv :=
  { fs := [(["main.params".toList], "s {\n  a = 1\n  include file inc.params\n}\n".toList),
           (["inc.params".toList], "b = $a\nt {\n  c = 3\n}\n".toList)] }

/-- observed: the spliced `b`, `t`, `t.c` lack the prefix `s.` … -/
theorem d71_observed_full_paths :
    okAnd (expandP envD71 pMainW) (fun r => fullPathsP r == strs ["s", "s.a", "b", "t", "t.c"]) = true := by
  unfold envD71 pMainW
  repeat rw [String.toList_ofList]
  decide +kernel

/-- … the tree itself (= the parse of the inlined text) has `s.b`, `s.t`, `s.t.c` -/
theorem d71_inlined_full_paths :
    okAnd (expandP envD71 pMainW)
      (fun r => pathsUnder [] (eraseL r) == strs ["s", "s.a", "s.b", "s.t", "s.t.c"]) = true := by
  unfold envD71 pMainW
  repeat rw [String.toList_ofList]
  decide +kernel

/-- the hypothesis `TopLevelIncludes` of `full_path_of_included_toplevel` is sharp: here it fails, and so does
    the conclusion -/
theorem d71_not_toplevel : topLevelIncludesB envD71 = false := by
  unfold envD71
  repeat rw [String.toList_ofList]
  decide +kernel
theorem d71_paths_differ :
    okAnd (expandP envD71 pMainW) (fun r => fullPathsP r != pathsUnder [] (eraseL r)) = true := by
  unfold envD71 pMainW
  repeat rw [String.toList_ofList]
  decide +kernel

/-- ids restart in the included file: `s`/`b` both carry id 1, `a`/`t` both id 2 -/
theorem d71_ids_restart :
    okAnd (expandP envD71 pMainW) (fun r => (nodesP r).map (fun o => (o.name, o.meta.id))
      == [("s".toList, some 1), ("a".toList, some 2), ("b".toList, some 1), ("t".toList, some 2),
          ("c".toList, some 3)]) = true := by
  unfold envD71 pMainW
  repeat rw [String.toList_ofList]
  decide +kernel

/-- `$a` from the spliced `b` is undefined (Python: "Undefined variable: $a") … -/
theorem d71_boundary_lookup :
    okAnd (expandP envD71 pMainW) (fun r => (nodesP r).map (fun o => (lexicalGetP o "a".toList).map (·.1.meta.id))
      == [none, none, none, none, none]) = true := by
  unfold envD71 pMainW
  repeat rw [String.toList_ofList]
  decide +kernel
/-- … in the inlined text every object after `a` finds it (id 2) -/
theorem d71_inlined_lookup :
    okAnd (parseObjs "s {\n  a = 1\n  b = $a\n  t {\n    c = 3\n  }\n}\n".toList)
      (fun r => (nodesP (annotL (rootChain r) r)).map (fun o => (lexicalGetP o "a".toList).map (·.1.meta.id))
        == [none, none, some (some 2), some (some 2), some (some 2)]) = true := by
  repeat rw [String.toList_ofList]
  decide +kernel

/-- a reference inside the included file to an earlier name of that file is found (id 1 of inc2.params, chain of
    length 1: the file's own root) wherever the file is included -/
def envInternal : IncEnv :=
  { fs := [(["main.params".toList], "s {\n  include file inc2.params\n}\nx = outer\n".toList),
           (["inc2.params".toList], "x = inner\nr = $x\n".toList)] }
theorem internal_reference_found :
    okAnd (expandP envInternal pMainW) (fun r => (nodesP r).map (fun o =>
        (fullPathP o, (lexicalGetP o "x".toList).map (fun f => (f.1.meta.id, f.2.length))))
      == [("s".toList, none), ("x".toList, none), ("r".toList, some (some 1, 1)), ("x".toList, none)]) = true := by
  unfold envInternal pMainW
  repeat rw [String.toList_ofList]
  decide +kernel

/-- the hypotheses of the general theorems are satisfiable: the witness with the include at top level -/
def envTop : IncEnv :=
  { fs := [(["main.params".toList], "a = 1\ninclude file inc.params\ns {\n  d = 4\n}\n".toList),
           (["inc.params".toList], "b = $a\nt {\n  c = 3\n}\n".toList)] }
theorem envTop_toplevel : TopLevelIncludes envTop := by
  unfold envTop
  repeat rw [String.toList_ofList]
  exact topLevelIncludes_of_check _ (by decide +kernel)
example : okAnd (expandP envTop pMainW)
    (fun r => fullPathsP r == strs ["a", "b", "t", "t.c", "s", "s.d"]) = true := by
  unfold envTop pMainW
  repeat rw [String.toList_ofList]
  decide +kernel
/-- `include_boundary_undefined` applies to the spliced `b` of the witness: `a` is no candidate in inc.params -/
example : okAnd (parseObjs "b = $a\nt {\n  c = 3\n}\n".toList)
    (fun objs => !candidateIn objs "a".toList && !("a".toList.take 1 == ['.'])) = true := by
  repeat rw [String.toList_ofList]
  decide +kernel
/-- `candidateIn` is needed: with `a` defined in the included file the look-up succeeds -/
theorem candidate_needed :
    okAnd (parseObjs "a = 0\nb = $a\n".toList) (fun objs => candidateIn objs "a".toList &&
       (lexicalGetP (.defn { name := "b".toList, id := some 2 } [] (rootChain objs)) "a".toList).isSome) = true := by
  repeat rw [String.toList_ofList]
  decide +kernel

/-- **include scope keeps foreign ids** (replayed on Python: `s { a = 1  include scope m.x }`, m.x = `b = $a  t { c = 3 }`):
    the selection re-linked below the site `s { a = 1 … }` (`a` has id 2 there) reports the right paths `s.b`, `s.t`,
    `s.t.c`, but keeps the ids 1, 2, 3 of the imported text, and "earlier" is judged on those: `$a` is NOT found
    from `b` (id 1) and `t` (id 2), it is found from `c` (id 3) -/
def scopeSite : PChain :=
  [{ name := "s".toList, objs := [.defn { name := "a".toList, id := some 2 } []] }, { name := [], objs := [] }]
theorem include_scope_foreign_ids_lookup :
    okAnd (parseObjs "b = $a\nt {\n  c = 3\n}\n".toList) (fun sel =>
      let r := annotL scopeSite sel
      fullPathsP r == strs ["s.b", "s.t", "s.t.c"] &&
      (nodesP r).map (fun o => (o.meta.id, (lexicalGetP o "a".toList).map (·.1.meta.id)))
        == [(some 1, none), (some 2, none), (some 3, some (some 2))]) = true := by
  repeat rw [String.toList_ofList]
  decide +kernel

/-- the including file's own references look into its PRE-expansion tree (kept objects keep the original parent,
    whose `.objects` still hold the `include` statement): `x = outer / include file inc3 (x = inner) / r = $x`
    resolves `$x` from `r` to `outer`; in the inlined text the nearest earlier `x` is `inner` (replayed on Python) -/
def envPre : IncEnv :=
  { fs := [(["main.params".toList], "x = outer\ninclude file inc3.params\nr = $x\n".toList),
           (["inc3.params".toList], "x = inner\n".toList)] }
theorem reference_uses_preexpansion_tree :
    okAnd (expandP envPre pMainW) (fun r => (nodesP r).map (fun o =>
        (o.name, match lexicalGetP o "x".toList with
          | some (.defn _ ws, _) => ws.map (·.value)
          | _ => []))
      == [("x".toList, []), ("x".toList, []), ("r".toList, ["outer".toList])]) = true := by
  unfold envPre
  repeat rw [String.toList_ofList]
  decide +kernel
theorem reference_in_inlined_text :
    okAnd (parseObjs "x = outer\nx = inner\nr = $x\n".toList) (fun objs =>
      (nodesP (annotL (rootChain objs) objs)).map (fun o =>
        (o.name, match lexicalGetP o "x".toList with
          | some (.defn _ ws, _) => ws.map (·.value)
          | _ => []))
      == [("x".toList, []), ("x".toList, ["outer".toList]), ("r".toList, ["inner".toList])]) = true := by
  repeat rw [String.toList_ofList]
  decide +kernel

end Phil.C13

#print axioms Phil.C13.expandP_erases_to_expand
#print axioms Phil.C13.expandFileP_erases_to_expandFile
#print axioms Phil.C13.topLevelIncludes_of_check
#print axioms Phil.C13.full_path_of_included_toplevel
#print axioms Phil.C13.included_objects_ignore_site
#print axioms Phil.C13.full_path_of_included_in_scope
#print axioms Phil.C13.full_paths_of_inlined_text
#print axioms Phil.C13.include_scope_paths_right_ids_foreign
#print axioms Phil.C13.kept_definition_keeps_parent
#print axioms Phil.C13.include_internal_reference
#print axioms Phil.C13.included_objects_are_the_files_own
#print axioms Phil.C13.lexicalGet_root_none
#print axioms Phil.C13.include_boundary_undefined
#print axioms Phil.C13.d71_observed_full_paths
#print axioms Phil.C13.d71_inlined_full_paths
#print axioms Phil.C13.d71_not_toplevel
#print axioms Phil.C13.d71_paths_differ
#print axioms Phil.C13.d71_ids_restart
#print axioms Phil.C13.d71_boundary_lookup
#print axioms Phil.C13.d71_inlined_lookup
#print axioms Phil.C13.internal_reference_found
#print axioms Phil.C13.envTop_toplevel
#print axioms Phil.C13.candidate_needed
#print axioms Phil.C13.include_scope_foreign_ids_lookup
#print axioms Phil.C13.reference_uses_preexpansion_tree
#print axioms Phil.C13.reference_in_inlined_text
