/-
  C01 / C19 (part) — the attribute round trip without the placement hypothesis.  Property theorems only;
  the lemmas are in Phil/Proofs/AttrTrees.lean and AttrRoundTrip.lean.  Continues Phil/Props/C01Attrs.lean, C01Attrs2.lean.

  The parse theorems of C01Attrs (`print_parse_tree_attrs`, `second_print_identical_attrs`), of C01Attrs2
  (`fetch_result_reparsed`) and of C19Levels (`any_level_reparses_to_same_tree`) carry the hypothesis
  `depPlacedList objs`: no deprecated definition directly follows a definition.  Here it is removed:
  at attributes level 3 the `# WARNING: deprecated parameter` line printed in front of a deprecated
  definition is consumed by `collect_assigned_words` of the LAST ATTRIBUTE LINE of the definition before
  it (from level 3 on every definition prints `.expert_level`, so there is one) — whatever that line is:
  plain words (`.expert_level = None`, `.deprecated = True`), a plain or quoted string (`.alias = "two
  words"`), or a wrapped string on several lines — and `collect_objects` goes on exactly as if it stood
  in front of the warning line.
-/
import Phil.Props.C01Attrs2
import Phil.Props.C19Levels
namespace Phil.C01
open Phil

attribute [local instance] objDecEqInst exceptDecEqRT

/-! ### the value collector in front of the warning line -/

/-- **At the newline in front of a warning line the value collector never stops**: whatever the last
    word was (plain, quoted, on any line), the `#` of the next line switches it to comment mode, the
    words of the warning are dropped, and it stops in front of the newline that ends the warning line
    (possibly leaving blanks `tb`).  `warnRest ind Y` = `ind ++ "# WARNING: deprecated parameter⏎" ++ Y`. -/
theorem warning_line_consumed_after_any_word (ind Y : Str) (hind : ∀ c ∈ ind, c = ' ')
    (hnext : ∀ c, firstNonSpace Y = some c → isQuoteChar c = false)
    (fuel l : Nat) (last : Word) (acc : List Word) (hf : warnBody.length + 3 ≤ fuel) :
    ∃ tb, InlineSpace tb ∧
      collectAssignedAux fuel ⟨'\n' :: warnRest ind Y, l⟩ last false acc
        = .ok (acc.reverse, ⟨tb ++ '\n' :: Y, l + 1⟩) :=
  cAA_warn_end_ar3 ind Y hind hnext fuel l last acc hf

/-- **Every attribute line of the round-trip class is read back when the warning line follows it**
    (`attrOK`: values of the kind of the name; strings that stay on the line — plain or quoted — or are
    wrapped single-spaced text): `collect_assigned_words` returns the words it returns without the
    warning line, `assign_attribute` yields the value, and the collector stops after the warning line.
    Generalises `warning_line_consumed` (one plain word) of C01Attrs2. -/
theorem attribute_line_then_warning (isDef : Bool) (pre : Str) (hb : ∀ c ∈ pre, c = ' ') (width : Int)
    (n : String) (v : AttrVal) (h : attrOK isDef pre width n v = true)
    (ind Y : Str) (l : Nat) (lead : Word) (hl : lead.line = some l) (hbs : isUnq lead "\\" = false)
    (hind : ∀ c ∈ ind, c = ' ') (hnext : ∀ c, firstNonSpace Y = some c → isQuoteChar c = false) :
    ∃ ws l' tb, InlineSpace tb ∧
      collectAssigned ⟨attrTail pre width n v ++ '\n' :: warnRest ind Y, l⟩ lead
        = .ok (ws, ⟨tb ++ '\n' :: Y, l' + 1⟩) ∧
      attrValueOf isDef n ws = .ok v := by
  obtain ⟨ws, l', _, ⟨tb, htb, rfl⟩, h1, h2⟩ :=
    (attr_line_art isDef pre hb width n v h).2 _ _ (endsVal_warn ind Y hind hnext) l lead hl hbs
  exact ⟨ws, l', tb, htb, h1, h2⟩

/-- **The attribute block of a definition in front of a warning line** (level ≥ 3): one turn of
    `collect_objects` per printed attribute; all values are assigned to the pending definition in
    printing order; the parser continues IN FRONT OF the warning line — the same resulting state as
    when ordinary text follows.  Generalises `attribute_then_warning_one_turn` of C01Attrs2. -/
theorem attribute_block_then_warning (pre : Str) (hb : ∀ c ∈ pre, c = ' ') (level width : Int) (h3 : 3 ≤ level)
    (attrs : Attrs) (hok : attrsOK true pre level width attrs = true)
    (fuel : Nat) (ind Y : Str) (l i : Nat) (stop : Option Word) (prevLine : Nat) (acc : List Obj) (d : Obj)
    (hind : ∀ c ∈ ind, c = ' ') (hq : ∀ c, firstNonSpace Y = some c → isQuoteChar c = false)
    (hs : ∀ l, ∃ r, nextWordAux structSettings false Y l = .ok (some r)) :
    ∃ l' prevLine',
      collectObjects (fuel + (shownAttrs true level attrs).length)
          { ci := ⟨'\n' :: (attrBlock true pre level width attrs ++ warnRest ind Y), l⟩, nextId := i } stop
          prevLine acc (some d)
        = collectObjects fuel { ci := ⟨'\n' :: warnRest ind Y, l'⟩, nextId := i } stop prevLine' acc
            (some (d.withMeta (fun m => { m with attrs := m.attrs ++ shownAttrs true level attrs }))) :=
  (defn_attrs_block2_W_ar3 pre hb level width attrs hok _ l i stop prevLine acc d
    (Or.inr ⟨h3, ind, Y, hind, rfl, hq, hs⟩)).imp fun _ h => h.imp fun _ h => h fuel

/-! ### the round trip, deprecated definitions anywhere -/

/-- **Print → parse for trees with attributes, deprecated definitions ANYWHERE.**  For every forest of
    the attribute round-trip class (`RTTreeAttr` at the level and width used; newlines only in last
    words), at every attributes level and width: the text printed is `kidsTextA`, it parses, and the
    parser returns the forest, every object carrying exactly the attributes shown at the level with
    their values (`normAList`), ids as expected.  `print_parse_tree_attrs` without `depPlacedList`. -/
theorem print_parse_tree_attrs_any_placement (o : ShowOpts) (he : o.expert = none) (objs : List Obj)
    (h : ∀ x ∈ objs, RTTreeAttr o.level o.width x) (hnl : ∀ x ∈ objs, x.allDefns NlOnlyLast) :
    ∃ text objs', asStr o (rootOf objs) = .ok text ∧ text = kidsTextA o.level o.width objs [] [] ∧
      parseObjs text = .ok objs' ∧ eraseList objs' = eraseList (normAList o.level objs) ∧
      idsList objs' = (expIdsSeq 1 objs).map some := by
  obtain ⟨h1, h2⟩ := rtAllAttr_of_forall h
  obtain ⟨objs', e1, e2, e3⟩ := parseObjs_treesW_ar3 o.level o.width objs [] (by intro d hd; simp at hd)
    h1 ((allDefnsList_iff NlOnlyLast objs).mpr hnl) h2
  exact ⟨_, objs', print_tree_attrs o he objs h, rfl, e1, e2, e3⟩

/-- **Print, parse, print again: byte-identical text — deprecated definitions anywhere.** -/
theorem second_print_identical_attrs_any_placement (o : ShowOpts) (he : o.expert = none) (objs : List Obj)
    (h : ∀ x ∈ objs, RTTreeAttr o.level o.width x) (hnl : ∀ x ∈ objs, x.allDefns NlOnlyLast) :
    ∃ text root', asStr o (rootOf objs) = .ok text ∧ parse text = .ok root' ∧
      asStr o root' = .ok text := by
  obtain ⟨text, objs', h1, ht, h2, h3, _⟩ := print_parse_tree_attrs_any_placement o he objs h hnl
  obtain ⟨r1, r2⟩ := rtAllAttr_of_forall h
  obtain ⟨g1, g2⟩ := reparsed_root h2 h3
  exact ⟨text, _, h1, g1, by rw [g2 o [], asStr_normA_treesA_art o he objs [] (by intro d hd; cases hd) r1 r2, ht]⟩

/-- **Re-parsing a printed fetch result** (`fetch_result_reparsed` of C01Attrs2) without the placement
    hypothesis -/
theorem fetch_result_reparsed_any_placement (o : ShowOpts) (he : o.expert = none) (objs : List Obj)
    (hwf : tmplWFs o.level objs = true)
    (h : ∀ x ∈ visTList o.level objs, RTTreeAttr o.level o.width x)
    (hnl : ∀ x ∈ visTList o.level objs, x.allDefns NlOnlyLast) :
    ∃ text objs' root', asStr o (rootOf objs) = .ok text ∧ parseObjs text = .ok objs' ∧
      eraseList objs' = eraseList (normAList o.level (visTList o.level objs)) ∧
      parse text = .ok root' ∧ asStr o root' = .ok text := by
  obtain ⟨text, objs', h1, _, h2, h3, _⟩ := print_parse_tree_attrs_any_placement o he _ h hnl
  obtain ⟨text', root', g1, g2, g3⟩ := second_print_identical_attrs_any_placement o he _ h hnl
  have : text' = text := by rw [h1] at g1; cases g1; rfl
  subst this
  exact ⟨text', objs', root', by rw [fetch_result_prints_as_visible o objs hwf]; exact h1, h2, h3, g2, g3⟩

end Phil.C01

namespace Phil.C19
open Phil Phil.C01

/-- **C19: the tree re-parsed from any attributes level is the same once attributes are ignored** —
    deprecated definitions anywhere (`any_level_reparses_to_same_tree` without `depPlacedList`) -/
theorem any_level_reparses_to_same_tree_any_placement (o : ShowOpts) (he : o.expert = none) (objs : List Obj)
    (h : ∀ x ∈ objs, RTTreeAttr o.level o.width x) (hnl : ∀ x ∈ objs, x.allDefns NlOnlyLast) :
    ∃ text objs', asStr o (rootOf objs) = .ok text ∧ parseObjs text = .ok objs' ∧
      eraseAttrsList objs' = eraseAttrsList objs := by
  obtain ⟨text, objs', h1, _, h2, h3, _⟩ := print_parse_tree_attrs_any_placement o he objs h hnl
  exact ⟨text, objs', h1, h2, by
    rw [eraseAttrsList_of_eraseList_ert h3, eraseAttrsList_normAList_art]⟩

end Phil.C19

namespace Phil.C01
open Phil

attribute [local instance] objDecEqInst exceptDecEqRT

/-! ### non-vacuity: deprecated definitions directly after definitions

  ```
  a = 1
    .alias = "two words"
  b = 2
    .deprecated = True
  s {
    c = 3
      .alias = "aaaaaaa bb ccccccc dddddd eeeeeee fff"
    d = 4
      .deprecated = True
    p.q = 5
    p.r = 6
      .deprecated = True
  }
  ```
  At level 3, width 40: the warning line of `b` follows the QUOTED `.alias = "two words"` of `a`; the
  warning line of `d` follows the WRAPPED alias of `c` (two quoted blocks on two lines); the warning
  line of `p.r` follows `.expert_level = None` of `p.q` (through the dotted prefix).  Replayed on the
  Python library: same text (83 lines), re-parsed attribute values equal, second print identical. -/

def exDep3Src : Str :=
  ("a = 1\n  .alias = \"two words\"\nb = 2\n  .deprecated = True\ns {\n  c = 3\n" ++
   "    .alias = \"aaaaaaa bb ccccccc dddddd eeeeeee fff\"\n  d = 4\n    .deprecated = True\n  p.q = 5\n" ++
   "  p.r = 6\n    .deprecated = True\n}\n").toList

def exDep3Forest : List Obj :=
  [ .defn { name := ['a'], attrs := [("alias", .str "two words".toList)] } [{ value := ['1'] }],
    .defn { name := ['b'], attrs := [("deprecated", .bool true)] } [{ value := ['2'] }],
    .scope { name := ['s'] }
      [ .defn { name := ['c'], attrs := [("alias", .str "aaaaaaa bb ccccccc dddddd eeeeeee fff".toList)] }
          [{ value := ['3'] }],
        .defn { name := ['d'], attrs := [("deprecated", .bool true)] } [{ value := ['4'] }],
        .scope { name := ['p'] } [.defn { name := ['q'], mergeNames := true } [{ value := ['5'] }]],
        .scope { name := ['p'] }
          [.defn { name := ['r'], mergeNames := true, attrs := [("deprecated", .bool true)] } [{ value := ['6'] }]] ] ]

/-- the forest is what the parser builds from the text; it is in the class at level 3, width 40; it
    violates the placement hypothesis `depPlacedList`; the alias of `c` is wrapped at that width -/
theorem exDep3_facts :
    (parseObjs exDep3Src).map eraseList = .ok exDep3Forest ∧
    (∀ x ∈ exDep3Forest, RTTreeAttr 3 40 x) ∧ (∀ x ∈ exDep3Forest, x.allDefns NlOnlyLast) ∧
    depPlacedList exDep3Forest = false ∧
    strOneLine [' ', ' '] 40 "alias" "aaaaaaa bb ccccccc dddddd eeeeeee fff".toList = false ∧
    strOneLine [] 40 "alias" "two words".toList = true ∧
    strNeedQuote [] 40 "alias" "two words".toList = true := by
  unfold exDep3Src exDep3Forest
  simp only [String.toList_append]
  -- a literal is `String.ofList […]` for `rw` and the kernel: no UTF-8 decoding
  repeat rw [String.toList_ofList]
  decide +kernel

/-- the round trip of the example at level 3, width 40, through the theorems -/
example : ∃ text objs' root', asStr { level := 3, width := 40 } (rootOf exDep3Forest) = .ok text ∧
    parseObjs text = .ok objs' ∧ eraseList objs' = eraseList (normAList 3 exDep3Forest) ∧
    parse text = .ok root' ∧ asStr { level := 3, width := 40 } root' = .ok text := by
  obtain ⟨_, h2, h3, _⟩ := exDep3_facts
  obtain ⟨text, objs', h1, _, e2, e3, _⟩ :=
    print_parse_tree_attrs_any_placement { level := 3, width := 40 } rfl exDep3Forest h2 h3
  obtain ⟨text', root', g1, g2, g3⟩ :=
    second_print_identical_attrs_any_placement { level := 3, width := 40 } rfl exDep3Forest h2 h3
  have : text' = text := by rw [h1] at g1; cases g1; rfl
  subst this
  exact ⟨text', objs', root', h1, e2, e3, g2, g3⟩

/-- the re-parsed definitions of the example carry the alias and the deprecated flag -/
example : (eraseList (normAList 3 exDep3Forest)).map (fun x => (x.attr "alias", x.attr "deprecated"))
    = [(.str "two words".toList, .none), (.none, .bool true), (.none, .none)] := by
  decide +kernel

/-- non-vacuity of `attribute_line_then_warning`: the quoted alias line in front of the warning line -/
example : ∃ ws l' tb, InlineSpace tb ∧
    collectAssigned ⟨attrTail [] 40 "alias" (.str "two words".toList) ++ '\n' :: warnRest [] "b = 2\n".toList, 2⟩
        { value := ".alias".toList, line := some 2 }
      = .ok (ws, ⟨tb ++ '\n' :: "b = 2\n".toList, l' + 1⟩) ∧
    attrValueOf true "alias" ws = .ok (.str "two words".toList) := by
  refine attribute_line_then_warning true [] (by intro c hc; cases hc) 40 "alias" _ (by decide +kernel)
    [] "b = 2\n".toList 2 _ rfl (by decide +kernel) (by intro c hc; cases hc) ?_
  intro c hc
  have e : firstNonSpace "b = 2\n".toList = some 'b' := by decide
  rw [e] at hc
  cases hc
  decide

/-! ### sharp edges (kernel-checked; replayed on the Python library) -/

/-- **The warning line is consumed only because it is a comment on the NEXT line**: the same words
    without the `#` (`WARNING: deprecated parameter` as an ordinary line) end the value of the line
    before and are then refused as a definition without `=`.  Python (replayed): `RuntimeError: Syntax error:
    improper definition name "WARNING:" (input line 2)`. -/
theorem warning_without_hash_is_not_consumed :
    (parseObjs "a = 1\nWARNING: deprecated parameter\nb = 2\n".toList).toOption = none ∧
    (parseObjs "a = 1\n# WARNING: deprecated parameter\nb = 2\n".toList).map eraseList
      = .ok [.defn { name := ['a'] } [{ value := ['1'] }], .defn { name := ['b'] } [{ value := ['2'] }]] := by
  repeat rw [String.toList_ofList]
  decide +kernel

/-- **What follows the warning line must not start with a quote** (hypothesis `hnext` of the collector
    lemmas; always true in printed text, where an item name follows): in comment mode a quoted word on a
    later line does not end the value — it is swallowed together with the rest of its line.  Python
    (replayed): `a = 1⏎# WARNING: deprecated parameter⏎"x" y⏎b = 2` parses to `a = 1⏎b = 2`. -/
theorem quoted_word_after_warning_line_is_swallowed :
    (parseObjs "a = 1\n# WARNING: deprecated parameter\n\"x\" y\nb = 2\n".toList).map eraseList
      = .ok [.defn { name := ['a'] } [{ value := ['1'] }], .defn { name := ['b'] } [{ value := ['2'] }]] := by
  repeat rw [String.toList_ofList]
  decide +kernel

#print axioms warning_line_consumed_after_any_word
#print axioms attribute_line_then_warning
#print axioms attribute_block_then_warning
#print axioms print_parse_tree_attrs_any_placement
#print axioms second_print_identical_attrs_any_placement
#print axioms fetch_result_reparsed_any_placement
#print axioms Phil.C19.any_level_reparses_to_same_tree_any_placement
#print axioms exDep3_facts
#print axioms warning_without_hash_is_not_consumed
#print axioms quoted_word_after_warning_line_is_swallowed

end Phil.C01
