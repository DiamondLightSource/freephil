/-
  C17 / finding D21, stated positively on the object-identity model: what the template entry that
  `scope.fetch` emits for a `.multiple` object shares with the master.

  `fetchTemplate h x t` is `obj = master_object.copy(); obj.is_template = t` (Phil/HeapFetch.lean).
  * exactly ONE new object is created (the template entry); no existing cell is written;
  * the new cell has the slots and words of the master object with `is_template = t`, the SAME parent and the
    SAME child objects: every child of the template entry is an object of the master (id below the old heap
    size), still pointing to the master object as its parent;
  * hence: assignments to the template entry itself are invisible in the master (`fetchTemplate_own_fields_private`),
    assignments to an object reached THROUGH it are assignments to the master's own children
    (`fetchTemplate_children_are_masters`) — the sharp edge is C17Heap.template_copy_shares_master_children;
  * a definition has no children: its template entry shares nothing mutable of this heap (its `words` list is
    a value here; see Phil/Heap.lean, stated assumptions).
-/
import Phil.Props.C17Heap
import Phil.Proofs.HeapFetchLemmas
namespace Phil.C17FetchTemplate
open Phil Phil.Heap

/-- **What the template entry shares.**  One new object `c = h.length`; every old cell untouched; the new
    cell is the master object's cell with `is_template = t`: same kind, same parent, same child ids. -/
theorem fetchTemplate_shares (h : Heap) (x : Nat) (t : Int) (h' : Heap) (c : Nat)
    (hf : fetchTemplate h x t = some (h', c)) :
    c = h.length ∧ h'.length = h.length + 1 ∧ (∀ i, i < h.length → h'[i]? = h[i]?) ∧
    ∃ n n', h[x]? = some n ∧ h'[c]? = some n' ∧
      n'.kids = n.kids ∧ n'.parent = n.parent ∧ n'.isScope = n.isScope ∧
      n'.meta = { n.meta with tmpl := t } := by
  obtain ⟨n, hn, rfl, rfl⟩ := fetchTemplate_eq' hf
  refine ⟨rfl, by simp, fun i hi => List.getElem?_append_left hi, n,
    n.assign (.slot fun m => { m with tmpl := t }), hn, ?_, ?_, ?_, ?_, ?_⟩
  · rw [List.getElem?_append_right (Nat.le_refl _), Nat.sub_self]; rfl
  all_goals cases n <;> rfl

/-- **The children of a template entry are the master's own objects**: each is an object that existed
    before (`k < h.length`), is a child of the master object `x`, and — in a heap whose children point to
    their scope (`kidsLinkedB`, every parsed document) — still has the MASTER object as its parent, not the
    template entry. -/
theorem fetchTemplate_children_are_masters (h : Heap) (x : Nat) (t : Int) (h' : Heap) (c : Nat)
    (hf : fetchTemplate h x t = some (h', c)) (hc : closedB h = true) (hl : kidsLinkedB h = true)
    (n' : Node) (hn' : h'[c]? = some n') :
    ∀ k ∈ n'.kids, k < h.length ∧ (∃ n, h[x]? = some n ∧ k ∈ n.kids) ∧
      ∃ nk, h'[k]? = some nk ∧ h[k]? = some nk ∧ nk.parent = some x := by
  obtain ⟨_, _, hold, n, n'', hn, hn'', hk, _⟩ := fetchTemplate_shares h x t h' c hf
  rw [hn'] at hn''
  cases hn''
  intro k hkk
  rw [hk] at hkk
  have hlt : k < h.length := closedB_sound hc x n hn k (mem_succs_of_kid hkk)
  obtain ⟨nk, hnk, hp⟩ := kidsLinkedB_sound hl x n hn k hkk
  exact ⟨hlt, ⟨n, hn, hkk⟩, nk, by rw [hold k hlt]; exact hnk, hnk, hp⟩

/-- **Assigning a field of an object reached through the template entry IS assigning the master's object**:
    for a child `k` of the template entry, `template.objects[j].f = v` rewrites cell `k`, which is the cell the
    master object `x` lists — afterwards the master's child holds the assigned state. -/
theorem fetchTemplate_child_assignment_hits_master (h : Heap) (x : Nat) (t : Int) (h' : Heap) (c : Nat)
    (hf : fetchTemplate h x t = some (h', c)) (hc : closedB h = true) (hl : kidsLinkedB h = true)
    (n' : Node) (hn' : h'[c]? = some n') (k : Nat) (hk : k ∈ n'.kids) (a : Assign) :
    ∃ n nk, h[x]? = some n ∧ k ∈ n.kids ∧ h[k]? = some nk ∧ (assign h' k a)[k]? = some (nk.assign a) ∧
      (assign h' k a)[x]? = (if x = k then some (nk.assign a) else some n) := by
  obtain ⟨hlt, ⟨n, hn, hkn⟩, nk, hnk', hnk, _⟩ :=
    fetchTemplate_children_are_masters h x t h' c hf hc hl n' hn' k hk
  obtain ⟨_, _, hold, _⟩ := fetchTemplate_shares h x t h' c hf
  refine ⟨n, nk, hn, hkn, hnk, assign_get_self h' k a nk hnk', ?_⟩
  by_cases hxk : x = k
  · subst hxk
    rw [if_pos rfl]
    exact assign_get_self h' x a nk hnk'
  · rw [if_neg hxk, assign_get_ne h' k x a hxk]
    have hx : x < h.length := (List.getElem?_eq_some_iff.mp hn).1
    rw [hold x hx]; exact hn

/-- **Assigning any field of the template entry itself never changes the master** (nor any other existing
    object): any history of assignments to the entry or to later objects leaves every old cell and every
    old abstract tree unchanged. -/
theorem fetchTemplate_own_fields_private (h : Heap) (x : Nat) (t : Int) (h' : Heap) (c : Nat)
    (hf : fetchTemplate h x t = some (h', c)) (hc : closedB h = true)
    (ops : List (Nat × Assign)) (hops : ∀ op ∈ ops, c ≤ op.1) :
    (∀ i, i < h.length → (assignMany h' ops)[i]? = h[i]?) ∧
    (∀ f i, i < h.length → absF f (assignMany h' ops) i = absF f h i) := by
  obtain ⟨rfl, _, hold, _⟩ := fetchTemplate_shares h x t h' c hf
  exact assignMany_frame hc hold ops hops

/-- the template entry prints like the master object except for `is_template`: it denotes the master's tree
    with `tmpl := t` at the root, the children being the very same objects -/
theorem fetchTemplate_denotes (h : Heap) (x : Nat) (t : Int) (h' : Heap) (c : Nat)
    (hf : fetchTemplate h x t = some (h', c)) (hc : closedB h = true) (f : Nat) :
    absF f h' c = (absF f h x).map (fun o => o.withMeta (fun m => { m with tmpl := t })) := by
  obtain ⟨n, hn, rfl, rfl⟩ := fetchTemplate_eq' hf
  exact absF_append_slot h n x hn (closedB_sound hc) _ f

/-- **The result scope** `self.customized_copy(objects = result_objects)`: one more new object, listing
    exactly the given objects; no existing cell written (instance of `customizedCopy_frame`) -/
theorem fetchResult_frame (h : Heap) (self : Nat) (ros : List Nat) (h' : Heap) (r : Nat)
    (hf : fetchResult h self ros = some (h', r)) :
    r = h.length ∧ ∀ i, i < h.length → h'[i]? = h[i]? :=
  C17Heap.customizedCopy_frame h self none none (some ros) h' r hf

/-! ### the sharp edge and a concrete instance -/

/-- master `s .multiple=True { a = 1 }` (0 = root, 1 = s, 2 = a): the template entry is object 3, its only
    child is the master's object 2 whose parent is still 1; a definition's template entry (of `a`) has no
    child at all -/
theorem template_entry_concrete :
    (fetchTemplate (C17Heap.heapOfText "s\n  .multiple = True\n{\n  a = 1\n}\n") 1 1).map (fun r =>
      (r.2, (graph r.1).drop 1)) =
      some (3, [⟨true, "s".toList, some 0, [2]⟩, ⟨false, "a".toList, some 1, []⟩, ⟨true, "s".toList, some 0, [2]⟩]) ∧
    (fetchTemplate (C17Heap.heapOfText "s\n  .multiple = True\n{\n  a = 1\n}\n") 2 1).map (fun r =>
      (r.2, (graph r.1).drop 3)) = some (3, [⟨false, "a".toList, some 1, []⟩]) := by
  repeat rw [String.toList_ofList]
  decide +kernel

/-- the hypotheses hold on every parsed document (`ofObjs`), for every object -/
example (objs : List Obj) (x : Nat) (hx : x < (ofObjs objs).length) (t : Int) :
    ∃ r, fetchTemplate (ofObjs objs) x t = some r := by
  unfold fetchTemplate copy
  rw [List.getElem?_eq_getElem hx]
  exact ⟨_, rfl⟩

end Phil.C17FetchTemplate

#print axioms Phil.C17FetchTemplate.fetchTemplate_shares
#print axioms Phil.C17FetchTemplate.fetchTemplate_children_are_masters
#print axioms Phil.C17FetchTemplate.fetchTemplate_child_assignment_hits_master
#print axioms Phil.C17FetchTemplate.fetchTemplate_own_fields_private
#print axioms Phil.C17FetchTemplate.fetchTemplate_denotes
#print axioms Phil.C17FetchTemplate.fetchResult_frame
#print axioms Phil.C17FetchTemplate.template_entry_concrete
