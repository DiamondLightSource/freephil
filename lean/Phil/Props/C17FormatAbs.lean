/-
  C17, the `format` clause, abstraction level: the heap-level model `formatH` (Phil/HeapFormat.lean — what
  `scope.format(python_object)` / `definition.format` ALLOCATE, WRITE and SHARE) REFINES the pure model `formatObj`
  (Phil/Fetch.lean — WHAT the result is).  Simulation lemmas: Phil/Proofs/HeapFormatAbs.lean (`formatH_sim`, via the
  named pure loop bodies `fstepP` / `finnerP` / `fmtAppP` of Phil/Proofs/FormatLoop.lean).

  * `formatH_abs`          — if the master object `x` denotes the tree `o` and `formatH` returns `(h', r)`, then
                              `formatObj` returns on `(o, v)` with the same fuel and `r` denotes its result in `h'`;
  * `formatH_abs_eq`       — the executable abstraction of the result cell, whenever it answers, is the pure result;
  * `formatH_denotes`      — no hypothesis at all: a run that returns was a run on a master that denotes a tree;
  * `formatH_grows`        — the heap only grows and every object keeps its denotation (here WITHOUT the closedness
                              hypothesis of `C17FormatHeap.formatH_frame`: `Abs h x o` is enough);
  * `formatH_representation_independent` — two masters (in any two heaps) that denote the same tree give results that
                              denote the same tree: sharing / identity of the master's cells is not observable in WHAT
                              `format` returns;
  * `formatRootH_abs`      — the same for `master.format(python_object)` of a parsed master (no hypothesis left).

  Input class: EVERY heap, every object id `x` that denotes a tree (`Abs h x o`: reachable part acyclic and without
  dangling child ids — every object of every parsed document), EVERY python value `v`, every fuel, outcome `ok`.
  Not proved here: the converse (pure `ok` ⇒ heap `ok`), which needs adequacy of the fuel `h.length + 1` of `abs`.
-/
import Phil.Proofs.HeapFormatAbs
import Phil.Proofs.FetchLemmas   -- `envNone` in `format_witness_abs` is `Phil.envNone`, defined there
import Phil.Props.C17FormatHeap
import Phil.Props.C17HeapTotal
namespace Phil.C17FormatAbs
open Phil Phil.Heap

/-- **The heap-level `format` refines the pure model.**  Let the master object `x` denote the tree `o`.  Whenever
    `formatH` returns `(h', r)`, the pure `formatObj` returns on `(o, v)` with the same fuel, and `r` denotes its
    result in the new heap. -/
theorem formatH_abs (e : Envs) (fuel x : Nat) (v : PVal) (h h' : Heap) (r : Nat) (o : Obj)
    (ha : Abs h x o) (hf : formatH e fuel x v h = .ok (h', r)) :
    ∃ ro, formatObj e fuel o v = .ok ro ∧ Abs h' r ro :=
  (formatH_sim e fuel x v h h' r o ha hf).2.1

/-- `abs` form: the executable abstraction of the result, whenever it answers, is the pure result -/
theorem formatH_abs_eq (e : Envs) (fuel x : Nat) (v : PVal) (h h' : Heap) (r : Nat) (o : Obj)
    (ha : Abs h x o) (hf : formatH e fuel x v h = .ok (h', r)) (ro : Obj) (hr : abs h' r = some ro) :
    formatObj e fuel o v = .ok ro := by
  obtain ⟨ro', h1, h2⟩ := formatH_abs e fuel x v h h' r o ha hf
  rw [h1, Abs_unique ⟨_, hr⟩ h2]

/-- **The heap only grows, denotations are kept** — for every master that denotes a tree, closed heap or not. -/
theorem formatH_grows (e : Envs) (fuel x : Nat) (v : PVal) (h h' : Heap) (r : Nat) (o : Obj)
    (ha : Abs h x o) (hf : formatH e fuel x v h = .ok (h', r)) :
    (∃ ext, h' = h ++ ext) ∧ (∀ i, i < h.length → h'[i]? = h[i]?) ∧ (∀ y oy, Abs h y oy → Abs h' y oy) := by
  have g := (formatH_sim e fuel x v h h' r o ha hf).1
  exact ⟨g, fun i hi => g.get_lt hi, fun y oy hy => hy.grows g⟩

/-- **No hypothesis**: a run of `formatH` that returns was a run on a master object that denotes a tree; the pure
    model returns on that tree and the result cell denotes the pure result. -/
theorem formatH_denotes (e : Envs) (fuel x : Nat) (v : PVal) (h h' : Heap) (r : Nat)
    (hf : formatH e fuel x v h = .ok (h', r)) :
    ∃ o ro, Abs h x o ∧ formatObj e fuel o v = .ok ro ∧ Abs h' r ro := by
  obtain ⟨o, ha⟩ := formatH_master_abs hf
  obtain ⟨ro, h1, h2⟩ := formatH_abs e fuel x v h h' r o ha hf
  exact ⟨o, ro, ha, h1, h2⟩

/-- **What `format` returns does not depend on the representation of the master.**  Two master objects, in any two
    heaps, that denote the same tree: the two results denote the same tree. -/
theorem formatH_representation_independent (e : Envs) (fuel x1 x2 : Nat) (v : PVal) (h1 h1' h2 h2' : Heap)
    (r1 r2 : Nat) (o : Obj) (a1 : Abs h1 x1 o) (a2 : Abs h2 x2 o)
    (f1 : formatH e fuel x1 v h1 = .ok (h1', r1)) (f2 : formatH e fuel x2 v h2 = .ok (h2', r2)) :
    ∃ ro, Abs h1' r1 ro ∧ Abs h2' r2 ro := by
  obtain ⟨ro1, p1, q1⟩ := formatH_abs e fuel x1 v h1 h1' r1 o a1 f1
  obtain ⟨ro2, p2, q2⟩ := formatH_abs e fuel x2 v h2 h2' r2 o a2 f2
  rw [p1] at p2
  cases p2
  exact ⟨ro1, q1, q2⟩

/-- **Parsed masters**: `master.format(python_object)` on the heap of a parsed document returns a cell that denotes
    what the pure model computes for the document (no hypothesis left). -/
theorem formatRootH_abs (e : Envs) (master : List Obj) (v : PVal) (h' : Heap) (r : Nat)
    (hf : (formatRootH e master v).2 = .ok (h', r)) :
    ∃ ro, formatObj e ((master.foldl (fun a k => Nat.max a (depthObj 1000 k)) 0) + 3)
        (.scope { name := [] } master) v = .ok ro ∧ Abs h' r ro ∧
      Abs h' 0 (.scope { name := [] } master) := by
  have hroot := C17HeapTotal.ofObjs_root master
  obtain ⟨ro, h1, h2⟩ := formatH_abs e _ 0 v (ofObjs master) h' r _ hroot hf
  exact ⟨ro, h1, h2, (formatH_grows e _ 0 v (ofObjs master) h' r _ hroot hf).2.2 _ _ hroot⟩

/-! ### the hypotheses are satisfiable: the run of Phil/Props/C17FormatHeap.lean (a `.multiple` scope with a template
    copy, a definition, a plain scope; the python object comes from `fetch` + `extract`) -/

open Phil.C17FormatHeap Phil.C17FetchHeap

/-- the run returns (so `formatH_denotes` / `formatRootH_abs` apply), and on it the executable abstraction of the
    result cell answers -/
example : fRun.map (fun x => (abs x.2.1 x.2.2).isSome) = some true := by
  rw [fRun_eq]
  decide +kernel

/-- … and the pure model, run on the same master and python object, returns a tree with exactly the children the
    heap result denotes: template copy of `s`, the instance, `b`, `t` -/
theorem format_witness_abs :
    fRun.map (fun x => (abs x.2.1 x.2.2).map (fun o => o.children.map (fun k => (k.name, k.meta.tmpl)))) =
      some (some [("s".toList, -1), ("s".toList, 0), ("b".toList, 0), ("t".toList, 0)]) ∧
    (match parseObjs fMaster.toList, parseObjs fSource.toList with
     | .ok m, .ok s =>
       (match fetchRoot envNone false m [s] with
        | .ok (ro, _) =>
          (match extractObj envNone 1000 ro with
           | .ok v =>
             (match formatObj envNone ((m.foldl (fun a k => Nat.max a (depthObj 1000 k)) 0) + 3)
                 (.scope { name := [] } m) v with
              | .ok fo => some (fo.children.map (fun k => (k.name, k.meta.tmpl)))
              | .error _ => none)
           | _ => none)
        | _ => none)
     | _, _ => none) = some [("s".toList, -1), ("s".toList, 0), ("b".toList, 0), ("t".toList, 0)] := by
  rw [fRun_eq]
  -- a literal is `String.ofList […]` for the unifier and the kernel: no UTF-8 decoding; done in a hypothesis,
  -- since the check of a rewrite below the `match` evaluates the parse
  generalize hm : fMaster.toList = m
  generalize hs : fSource.toList = s
  have hm' : m = _ := hm.symm.trans String.toList_ofList
  have hs' : s = _ := hs.symm.trans String.toList_ofList
  subst hm' hs'
  decide +kernel

#print axioms formatH_abs
#print axioms formatH_abs_eq
#print axioms formatH_grows
#print axioms formatH_denotes
#print axioms formatH_representation_independent
#print axioms formatRootH_abs
#print axioms format_witness_abs

end Phil.C17FormatAbs
