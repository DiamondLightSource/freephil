/-
  C08 — fetch_diff is faithful and minimal.
    "`master.fetch_diff(source)` returns just the parameters whose value differs from the master's."

  Model: Phil/Fetch.lean with `diff = true`.  Lemmas and auxiliary definitions: `stepG`,
  `fetchMatching` in Phil/Proofs/FetchLoop.lean, `NoEmptyScope` in Phil/Proofs/FetchLemmas.lean.

  Status: PARTIAL.  Proved here, for every master, all sources and all fuel: the *structural* part of
  minimality — a diff never contains an empty scope or a template object, at any depth, and a
  non-multiple master scope with nothing to report contributes nothing — together with the shape,
  order, disabled-objects and tracking theorems of C04/C06, which hold for both modes.  The
  value-level statements (every reported definition differs from the default under the canonical
  rendering; re-merging the diff restores the values) are proved per class of masters in Props/C08Restore.lean
  (flat), Props/C08Tree.lean (nested), Props/C08TreeMS.lean and Props/C08TreeMS2.lean (`.multiple` scopes), and
  checked by the harness beyond those classes.
-/
import Phil.Proofs.FetchLemmas
namespace Phil.C08
open Phil

/-- **Empty scopes are dropped.**  In diff mode, the iteration of the master loop for a non-multiple
    master scope whose recursive diff has no children appends nothing to the result (the definitions
    consumed below it are still recorded). -/
theorem diff_drops_empty_scopes (e : Envs) (fuel : Nat) (sm : Meta) (mkids combined : List Obj)
    (st : List Obj × List Nat) (idx : Nat) (mm : Meta) (kids : List Obj) (ro : Obj) (u2 : List Nat)
    (hmult : isMultiple (.scope mm kids) = false)
    (hnd : (fetchMatching fuel sm combined (.scope mm kids)).find? (·.isDefn) = none)
    (hrec : fetchScope e fuel true mm kids
      ((fetchMatching fuel sm combined (.scope mm kids)).flatMap Obj.children) = .ok (ro, u2))
    (hempty : ro.children = []) :
    stepG (fetchScope e fuel) e fuel true sm mkids combined st (idx, .scope mm kids) =
      .ok (st.1, st.2 ++ u2) := by
  unfold stepG
  simp only [hmult, Bool.not_false, if_true]
  unfold scopeBranch
  simp only [hnd, hrec, hempty, List.isEmpty_nil, Bool.and_self, if_true]

/-- … and a non-empty recursive diff is appended as it is. -/
theorem diff_keeps_nonempty_scopes (e : Envs) (fuel : Nat) (sm : Meta) (mkids combined : List Obj)
    (st : List Obj × List Nat) (idx : Nat) (mm : Meta) (kids : List Obj) (ro : Obj) (u2 : List Nat)
    (hmult : isMultiple (.scope mm kids) = false)
    (hnd : (fetchMatching fuel sm combined (.scope mm kids)).find? (·.isDefn) = none)
    (hrec : fetchScope e fuel true mm kids
      ((fetchMatching fuel sm combined (.scope mm kids)).flatMap Obj.children) = .ok (ro, u2))
    (hne : ro.children ≠ []) :
    stepG (fetchScope e fuel) e fuel true sm mkids combined st (idx, .scope mm kids) =
      .ok (st.1 ++ [ro], st.2 ++ u2) := by
  have : ro.children.isEmpty = false := by
    cases h : ro.children with
    | nil => exact absurd h hne
    | cons => rfl
  unfold stepG
  simp only [hmult, Bool.not_false, if_true]
  unfold scopeBranch
  simp only [hnd, hrec, this, Bool.and_false, Bool.false_eq_true, if_false]

/-- **A diff contains no empty scope, at any depth** (multiple or not): every child of a diff result
    is a definition or a scope with at least one child, recursively.  In particular no template
    copy of a master object occurs in a diff. -/
theorem diff_no_empty_scopes (e : Envs) (fuel : Nat) (sm : Meta) (mkids combined : List Obj)
    (ro : Obj) (used : List Nat) (h : fetchScope e fuel true sm mkids combined = .ok (ro, used)) :
    ∀ k ∈ ro.children, NoEmptyScope k :=
  Phil.diff_no_empty_scopes e fuel sm mkids combined ro used h

/-- a diff has the master's structure, like every fetch (C04, deep form) -/
theorem diff_conforms (e : Envs) (fuel : Nat) (sm : Meta) (mkids combined : List Obj)
    (ro : Obj) (used : List Nat) (h : fetchScope e fuel true sm mkids combined = .ok (ro, used)) :
    ConfObj (.scope sm mkids) ro :=
  Phil.fetch_conforms e fuel true sm mkids combined ro used h

/-- splitting the sources does not change a diff (C05) -/
theorem diff_split_law (e : Envs) (master s1 s2 : List Obj) :
    fetchRoot e true master [s1 ++ s2] = fetchRoot e true master [s1, s2] :=
  Phil.split_law e true master s1 s2

/-! ### non-vacuity: concrete diffs -/

/-- `a = 1 .type=int ; s { b = x }` -/
def exMaster : List Obj :=
  [.defn { name := ['a'], id := some 1, attrs := [("type", .conv (.int {}))] } [{ value := ['1'] }],
   .scope { name := ['s'], id := some 2 }
     [.defn { name := ['b'], id := some 3 } [{ value := ['x'] }]]]

/-- names of the children and grandchildren of a result -/
def summary (r : R (Obj × List Nat)) : Option (List Str × List Str) :=
  match r with
  | .ok (o, _) => some (o.children.map Obj.name, (o.children.flatMap Obj.children).map Obj.name)
  | .error _ => none

/-- the self-diff is empty: with no sources nothing is reported, the scope `s` is dropped -/
example : summary (fetchRoot env12 true exMaster []) = some ([], []) := by decide +kernel

/-- `a = 2 ; a = 1 ; s.b = z` (last `a` equals the default): only `s { b }` is reported -/
example : summary (fetchRoot env12 true exMaster
    [[.defn { name := ['a'], id := some 11 } [{ value := ['2'] }],
      .defn { name := ['a'], id := some 12 } [{ value := ['1'] }],
      .scope { name := ['s'], id := some 14 } [.defn { name := ['b'], id := some 16 } [{ value := ['z'] }]]]])
    = some ([['s']], [['b']]) := by decide +kernel

/-- a source that only repeats the defaults gives the empty diff -/
example : summary (fetchRoot env12 true exMaster
    [[.defn { name := ['a'], id := some 11 } [{ value := ['1'] }],
      .scope { name := ['s'], id := some 14 } [.defn { name := ['b'], id := some 16 } [{ value := ['x'] }]]]])
    = some ([], []) := by decide +kernel

end Phil.C08
