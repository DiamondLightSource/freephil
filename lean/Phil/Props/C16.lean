/-
  C16 — User mistakes surface as RuntimeError or Sorry, never as internal errors.  No other exception
  type escapes, and every call returns.

  In the model an escaping exception of any other class is `Err.stray`, a loop bound that was too
  small is `Err.outOfFuel`; `Err.unsupported` marks inputs the model declares outside its domain
  (CPython `eval`, imports …) and says nothing about the implementation.
  Property theorems only; lemmas are in Phil/Proofs/TotalityLemmas.lean.
-/
import Phil.Proofs.TotalityLemmas
import Phil.Props.EvalCheck
namespace Phil.C16
open Phil

/-! ### 1. the tokenizer makes progress -/

/-- Every word returned by `word_iterator.__next__` (any settings) consumes at least one character
    of the input: the basis of "every call returns". -/
theorem nextWord_consumes (s : Settings) (ci : CI) (w : Word) (ci' : CI)
    (h : nextWord s ci = .ok (some (w, ci'))) : ci'.rest.length < ci.rest.length :=
  Phil.nextWord_consumes s ci w ci' h

/-! ### 2. collect_assigned_words -/

/-- a successful `collect_assigned_words` returns at least one word -/
theorem collectAssigned_nonempty (ci : CI) (lead : Word) (ws : List Word) (ci' : CI)
    (h : collectAssigned ci lead = .ok (ws, ci')) : ws ≠ [] :=
  Phil.collectAssigned_nonempty h

/-- it never moves the input backwards past its starting point (`backup()` may return to it) -/
theorem collectAssigned_progress (ci : CI) (lead : Word) (ws : List Word) (ci' : CI)
    (h : collectAssigned ci lead = .ok (ws, ci')) : ci'.rest.length ≤ ci.rest.length :=
  Phil.collectAssigned_progress h

/-- the loop of `collect_assigned_words` ends: fuel above the length of the remaining input is
    never exhausted -/
theorem collectAssignedAux_fuel (fuel : Nat) (ci : CI) (last : Word) (haveComment : Bool)
    (acc : List Word) (hf : ci.rest.length < fuel) :
    collectAssignedAux fuel ci last haveComment acc ≠ .error .outOfFuel := fun h =>
  nomatch (collectAssignedAux_good fuel ci last haveComment acc).error_true h hf

/-- hence `collect_assigned_words` always returns -/
theorem collectAssigned_total (ci : CI) (lead : Word) : collectAssigned ci lead ≠ .error .outOfFuel := by
  intro h
  have := collectAssigned_isRuntime h
  cases this

/-- its only failures: RuntimeError "missing closing quote" (from the tokenizer, with a line) and
    RuntimeError "missing value" citing the line of the lead word -/
theorem collectAssigned_errors (ci : CI) (lead : Word) (e : Err)
    (h : collectAssigned ci lead = .error e) :
    (∃ l, e = .runtime "missing_closing_quote" (some l)) ∨ e = .runtime "missing_value" lead.line :=
  Phil.collectAssigned_errors h

/-! ### 3. attribute values -/

/-- `.type = …`: the expression reader fails with RuntimeError or leaves the modelled domain -/
theorem convFromExpr_errors (expr : Str) (line : Option Nat) (e : Err)
    (h : convFromExpr expr line = .error e) :
    (∃ s l, e = .runtime s l) ∨ (∃ w, e = .unsupported w) :=
  (Err.benign_iff e).1 ((convFromExpr_okOrBenign expr line).error h)

/-- `bool_from_words` on a non-empty word list fails only with RuntimeError "bool_expected"; the
    `assert len(words) > 0`-style branch of the model (`Err.stray "AssertionError"`) needs `ws = []`,
    which `collect_assigned_words` never delivers (`collectAssigned_nonempty`). -/
theorem boolFromWords_errors (ws : List Word) (hne : ws ≠ []) (e : Err)
    (h : boolFromWords ws = .error e) : e = .runtime "bool_expected" (firstLine ws) :=
  Phil.boolFromWords_errors hne h

/-- the hypothesis `ws ≠ []` is needed: the empty list reaches the stray branch -/
example : boolFromWords [] = .error (.stray "AssertionError" "bool_from_words") :=
  error_of_check (by decide +kernel)

theorem intFromWordsLit_errors (ws : List Word) (e : Err) (h : intFromWordsLit ws = .error e) :
    (∃ s l, e = .runtime s l) ∨ (∃ w, e = .unsupported w) :=
  (Err.benign_iff e).1 ((intFromWordsLit_okOrBenign ws).error h)

/-- `definition.assign_attribute` on the words of an attribute assignment -/
theorem defAttrValue_errors (name : String) (ws : List Word) (hne : ws ≠ []) (e : Err)
    (h : defAttrValue name ws = .error e) :
    (∃ s l, e = .runtime s l) ∨ (∃ w, e = .unsupported w) :=
  (Err.benign_iff e).1 ((defAttrValue_okOrBenign name hne).error h)

/-- `scope.assign_attribute` on the words of an attribute assignment -/
theorem scopeAttrValue_errors (name : String) (ws : List Word) (hne : ws ≠ []) (e : Err)
    (h : scopeAttrValue name ws = .error e) :
    (∃ s l, e = .runtime s l) ∨ (∃ w, e = .unsupported w) :=
  (Err.benign_iff e).1 ((scopeAttrValue_okOrBenign name hne).error h)

/-! ### 4. the parser never strays -/

/-- the scope-attribute loop: RuntimeError, outside the domain, or (too little fuel) `outOfFuel` -/
theorem scopeAttrsLoop_no_stray (fuel : Nat) (ci : CI) (w : Word) (attrs : Attrs) (e : Err)
    (h : scopeAttrsLoop fuel ci w attrs = .error e) :
    (∃ s l, e = .runtime s l) ∨ (∃ w, e = .unsupported w) ∨ e = .outOfFuel := by
  rcases (scopeAttrsLoop_good fuel ci w attrs).no_stray h with h | h
  · rcases (Err.benign_iff e).1 h with h | h
    · exact .inl h
    · exact .inr (.inl h)
  · exact .inr (.inr h)

/-- `collect_objects`, any fuel, any state, any stop token -/
theorem collectObjects_no_stray (fuel : Nat) (st : PState) (stop : Option Word) (prev : Nat)
    (acc : List Obj) (pending : Option Obj) (e : Err)
    (h : collectObjects fuel st stop prev acc pending = .error e) :
    (∃ s l, e = .runtime s l) ∨ (∃ w, e = .unsupported w) ∨ e = .outOfFuel := by
  rcases (collectObjects_good fuel st stop prev acc pending).no_stray h with h | h
  · rcases (Err.benign_iff e).1 h with h | h
    · exact .inl h
    · exact .inr (.inl h)
  · exact .inr (.inr h)

/-- **C16, parser, "no other exception type escapes"**: `parse(input_string=text)` returns the
    objects, raises RuntimeError, or the text leaves the modelled domain.  No `stray`, no `sorry_`.
    (The third alternative of the requested statement, `e = .outOfFuel`, is excluded by
    `parse_total`; it is kept here so that the statement is the one asked for.) -/
theorem parse_no_stray (text : Str) (e : Err) (h : parseObjs text = .error e) :
    (∃ s l, e = .runtime s l) ∨ (∃ w, e = .unsupported w) ∨ e = .outOfFuel := by
  rcases (Err.benign_iff e).1 (parseObjs_benign text e h) with h | h
  · exact .inl h
  · exact .inr (.inl h)

/-! ### 5. the parser terminates -/

/-- the scope-attribute loop ends, and leaves no more input than it was given -/
theorem scopeAttrsLoop_total (fuel : Nat) (ci : CI) (w : Word) (attrs : Attrs)
    (hf : ci.rest.length < fuel) : scopeAttrsLoop fuel ci w attrs ≠ .error .outOfFuel :=
  fun h => Err.benign_ne_outOfFuel ((scopeAttrsLoop_good fuel ci w attrs).error_true h hf) rfl

theorem scopeAttrsLoop_progress (fuel : Nat) (ci : CI) (w : Word) (attrs attrs' : Attrs) (b : Word)
    (ci' : CI) (h : scopeAttrsLoop fuel ci w attrs = .ok (attrs', b, ci')) :
    ci'.rest.length ≤ ci.rest.length :=
  Phil.scopeAttrsLoop_progress h

/-- `collect_objects` (nested scopes included) ends whenever its fuel exceeds the length of the
    remaining input … -/
theorem collectObjects_total (fuel : Nat) (st : PState) (stop : Option Word) (prev : Nat)
    (acc : List Obj) (pending : Option Obj) (hf : st.ci.rest.length < fuel) :
    collectObjects fuel st stop prev acc pending ≠ .error .outOfFuel :=
  Phil.collectObjects_total stop prev acc pending hf

/-- … and never returns a state with more input left than it started with -/
theorem collectObjects_progress (fuel : Nat) (st : PState) (stop : Option Word) (prev : Nat)
    (acc : List Obj) (pending : Option Obj) (objs : List Obj) (st' : PState)
    (h : collectObjects fuel st stop prev acc pending = .ok (objs, st')) :
    st'.ci.rest.length ≤ st.ci.rest.length :=
  (collectObjects_good fuel st stop prev acc pending).ok h

/-- **C16, parser, "every call returns"**: the loop bound of the model is never hit -/
theorem parse_total (text : Str) : parseObjs text ≠ .error .outOfFuel := fun h =>
  Err.benign_ne_outOfFuel (parseObjs_benign text _ h) rfl

/-- items 4 and 5 together: every failure of `parse` is a RuntimeError or a text outside the
    modelled domain -/
theorem parse_errors (text : Str) (e : Err) (h : parseObjs text = .error e) :
    (∃ s l, e = .runtime s l) ∨ (∃ w, e = .unsupported w) :=
  (Err.benign_iff e).1 (parseObjs_benign text e h)

/-- the same for the root scope returned by `parse` -/
theorem parse_root_errors (text : Str) (e : Err) (h : parse text = .error e) :
    (∃ s l, e = .runtime s l) ∨ (∃ w, e = .unsupported w) := by
  unfold parse at h
  cases hp : parseObjs text with
  | ok os => rw [hp] at h; cases h
  | error e' => rw [hp] at h; cases h; exact parse_errors text _ hp

/-! ### 6. converters on user text -/

/-- `type.from_words(words, master)` for every built-in type, every `eval` oracle and every
    `.optional`: a value, a RuntimeError, or outside the modelled domain -/
theorem fromWords_no_stray (c : Conv) (env : EvalEnv) (opt : AttrVal) (ws : List Word)
    (hne : ws ≠ []) (e : Err) (h : fromWords c env opt ws = .error e) :
    (∃ s l, e = .runtime s l) ∨ (∃ w, e = .unsupported w) :=
  (Err.benign_iff e).1 ((fromWords_okOrBenign c env opt fun _ => hne).error h)

/-- `ws ≠ []` is needed for `bool` only -/
example : fromWords .bool (fun _ => none) .none [] = .error (.stray "AssertionError" "bool_from_words") := by
  rfl

/-- `choice_converters.fetch`: unless the master's words are plain None/Auto (an `assert` of the
    implementation) the only failure is Sorry "Not a possible choice" listing the alternatives -/
theorem choiceFetch_no_stray (mwords : List Word) (opt : AttrVal) (src : List Word) (ign : Bool)
    (hm : (isPlainNone mwords || isPlainAuto mwords) = false) (e : Err)
    (h : choiceFetch mwords opt src ign = .error e) :
    e = .sorry_ "not_a_possible_choice" (mwords.map (·.value)) := by
  rcases choiceFetch_error mwords opt src ign e h with ⟨h1, _⟩ | ⟨_, _, h2⟩
  · rw [hm] at h1; cases h1
  · exact h2

/-- the hypothesis on the master is needed -/
example : choiceFetch [{ value := "none".toList }] .none [{ value := "a".toList }]
    = .error (.stray "AssertionError" "choice_fetch") := error_of_check (by decide +kernel)

/-! ### non-vacuity: malformed texts and the RuntimeError they produce -/

def errOf {α : Type} (r : R α) : Option Err :=
  match r with
  | .ok _ => none
  | .error e => some e

example : errOf (parseObjs "a = 'unclosed".toList) = some (.runtime "missing_closing_quote" (some 1)) := by
  decide +kernel
example : errOf (parseObjs "s { ".toList) = some (.runtime "no_matching_brace" (some 1)) := by
  decide +kernel
example : errOf (parseObjs "1a = 3".toList) = some (.runtime "improper_definition_name" (some 1)) := by
  decide +kernel
example : errOf (parseObjs "a = ".toList) = some (.runtime "missing_value" (some 1)) := by
  decide +kernel
example : errOf (parseObjs "a".toList) = some (.runtime "unexpected_end" none) := by
  decide +kernel
example : errOf (parseObjs "a b".toList) = some (.runtime "expected" (some 1)) := by
  decide +kernel
example : errOf (parseObjs "{".toList) = some (.runtime "unexpected_open_brace" (some 1)) := by
  decide +kernel
example : errOf (parseObjs "\"a\" = 1".toList) = some (.runtime "unquoted_expected" (some 1)) := by
  decide +kernel
example : errOf (parseObjs "s .bogus = 1 {}".toList) = some (.runtime "unexpected_scope_attribute" (some 1)) := by
  decide +kernel
example : errOf (parseObjs "a = 1\n.bogus = 2".toList)
    = some (.runtime "unexpected_definition_attribute" (some 2)) := by
  rw [String.toList_ofList]
  decide +kernel
example : errOf (parseObjs "a = 1\n.optional = maybe".toList) = some (.runtime "bool_expected" (some 2)) := by
  rw [String.toList_ofList]
  decide +kernel
example : errOf (parseObjs "a = 1\n.type = nonsense".toList) = some (.runtime "type_unexpected" (some 2)) := by
  rw [String.toList_ofList]
  decide +kernel
example : errOf (parseObjs "a = 1\n.type = int(value_min=3,value_max=1)".toList)
    = some (.runtime "type_construct" (some 2)) := by
  rw [String.toList_ofList]
  decide +kernel
example : errOf (parseObjs "a = 1\n.expert_level = true".toList)
    = some (.runtime "numeric_expected" (some 2)) := by
  rw [String.toList_ofList]
  decide +kernel
example : errOf (parseObjs "__x__ = 1".toList) = some (.runtime "reserved" (some 1)) := by
  decide +kernel
example : errOf (parseObjs "#phil __BOGUS__".toList) = some (.runtime "unknown_phil" (some 1)) := by
  decide +kernel
example : errOf (parseObjs "s {\n#phil __END__".toList) = some (.runtime "no_matching_brace" (some 1)) := by
  rw [String.toList_ofList]
  decide +kernel
/-- outside the modelled domain, not a verdict on the implementation -/
example : errOf (parseObjs "a = 1\n.expert_level = 1+1".toList)
    = some (.unsupported "attribute value needs eval") := by
  rw [String.toList_ofList]
  decide +kernel
/-- a well-formed text with nested scopes parses -/
example : errOf (parseObjs "s { a = 1 } t { b = 2 \n c { d = 3 } }".toList) = none := by
  rw [String.toList_ofList]
  decide +kernel

example : errOf (collectAssigned ⟨"  ".toList, 1⟩ { value := "a".toList, line := some 1 })
    = some (.runtime "missing_value" (some 1)) := by
  decide +kernel
example : errOf (fromWords (.int {}) (fun _ => some .raises) .none [{ value := "x".toList, line := some 3 }])
    = some (.runtime "numeric_expected" (some 3)) := by
  decide +kernel
example : errOf (fromWords (.choice false) (fun _ => none) .none
      [{ value := "*x".toList, line := some 3 }, { value := "*y".toList }])
    = some (.runtime "choice_multiple" (some 3)) := by
  decide +kernel
example : errOf (fromWords .bool (fun _ => none) .none [{ value := "maybe".toList, line := some 3 }])
    = some (.runtime "bool_expected" (some 3)) := by
  decide +kernel
example : errOf (choiceFetch [{ value := "a".toList }, { value := "b".toList }] .none [{ value := "c".toList }])
    = some (.sorry_ "not_a_possible_choice" ["a".toList, "b".toList]) := by
  decide +kernel

end Phil.C16
