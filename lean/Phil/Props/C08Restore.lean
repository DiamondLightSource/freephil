/-
  C08 (closed form on flat masters) — "fetch_diff is a faithful and minimal difference":
    for a master M and working parameters W = M.fetch(sources), D = M.fetch_diff(W) contains only
    parameters whose value differs from the master default; merging D back reproduces W; the
    difference of the master's own defaults is empty; the difference of a difference-restored W is
    D again.

  Model: Phil/Fetch.lean, `fetchScope … diff := true` (= `scope.fetch(diff=True)`, which is what
  `scope.fetch_diff` calls; `definition.fetch_diff` = the diff branch of `fetchDefn`).
  Lemmas: Phil/Proofs/DiffSpec.lean (on top of Phil/Proofs/FetchSpec.lean).

  Class covered (unbounded: every such master, every such source list, every fuel `f + 2`, every
  `Envs`): `DiffSetting e f sm mkids combined` —
    * master: `FlatMultiMaster` (root-level enabled definitions, `.multiple` or not, typed or not,
      pairwise distinct non-empty names, not `.deprecated`, not choices — the class of C05's list
      rule), fit for re-fetching (`RefetchOK`: not template-marked, `$`-free defaults), at the root;
    * sources: `$`-free definitions (`SrcOK`, `hasDollar … = false`);
    * `KeysDefined`: `extract_format` succeeds on every master definition and on the candidate of
      every matching source (kept abstract: `eval` and `"%.10g"` are parameters).
  Fuel: the diff branch of `definition.fetch` renders with the fuel of the loop iteration, which must
  be positive — hence `f + 2` (`fetchRoot` starts a flat master with fuel 4 = `diffFuel master + 2`).

  Results.
    1. `diff_closed_form`: the difference in closed form — per master definition `mo`
       (`diffBlockOf`): not `.multiple`: the candidate built from the LAST matching source iff its
       key differs from the key of `mo`, else nothing; `.multiple`: the survivors of the list rule
       (candidates with the key of `mo` dropped, of equal keys the last one kept, in the order of
       those last occurrences) WITHOUT the template copy of `mo`.
    2. `diff_minimal`: every definition of a difference has a key different from the key of its
       master definition.
    3. `self_diff_empty_nosrc`, `self_diff_empty`: no sources, or W₀ = M.fetch(): empty difference.
    4. `diff_of_working`: M.fetch_diff(M.fetch(S)) = M.fetch_diff(S) (children).
    5. `restore`: M.fetch(D) succeeds; its children `W'` are `restoredSet`, and correspond to `W`
       position by position (`RestoredAs`): `W'ᵢ = Wᵢ`, EXCEPT that a non-multiple working value
       whose key is the key of the master definition comes back as the master definition.
       Hence `restore_keys` (same meta data and same keys everywhere), `restore_exact` (`W' = W`
       as trees, template flags included, when no working value merely re-spells its default),
       `restore_values` (same extracted values PROVIDED a working value with the default's key
       has the default's value).
       Tree equality in general is FALSE: `restore_not_tree_equal` (`b = True .type=bool`,
       source `b = yes`: W says `yes`, W' says `True`; Python agrees).  Value equality in general
       is FALSE as well: `restore_values_fails_float` (`a = 0.5 .type=float`, source
       `a = 0.50000000000001`: both render as `0.5` under `"%.10g"`, D is empty, W' extracts 0.5
       but W extracts 0.50000000000001) — reproduced on the real code, see the comment there.
    5'. `restore_twice`: `W'` is a fixed point of M.fetch.
    6. `diff_restore_fixed_point`: M.fetch_diff(W') = D.
-/
import Phil.Proofs.DiffSpec
set_option linter.unusedVariables false
namespace Phil.C08
open Phil

variable {e : Envs} {f : Nat} {sm : Meta} {mkids combined : List Obj}

/-! ### 1. the difference in closed form -/

/-- the block of a non-multiple master definition in a difference: the candidate of the last
    enabled source definition of its name, unless its key is the key of the master definition -/
theorem diffBlockOf_plain (e : Envs) (fuel : Nat) (D : List Obj) (mo : Obj) (h : isMultiple mo = false) :
    diffBlockOf e fuel D mo =
      match (activeNamed mo.name D).getLast? with
      | none => []
      | some d =>
        if keyOf e fuel mo (candOfSrc mo d) == keyOf e fuel mo mo then [] else [candOfSrc mo d] :=
  diffBlockL_plain e fuel mo _ h

/-- the block of a `.multiple` master definition in a difference: the survivors of the list rule,
    no template -/
theorem diffBlockOf_multiple (e : Envs) (fuel : Nat) (D : List Obj) (mo : Obj) (h : isMultiple mo = true) :
    diffBlockOf e fuel D mo =
      (dedupKeepLast ((candsOf e fuel mo (activeNamed mo.name D)).filter
        (fun y => y.2 != keyOf e fuel mo mo))).map (·.1) := by
  unfold diffBlockOf diffBlockL survivorsOf; rw [h]; rfl

/-- … which is the non-diff block (C05's `multiBlock`) without its head, the template -/
theorem diffBlockOf_multiple_tail (e : Envs) (fuel : Nat) (D : List Obj) (mo : Obj) (h : isMultiple mo = true) :
    diffBlockOf e fuel D mo = (blockOf e fuel D mo).tail := by
  unfold diffBlockOf diffBlockL blockOf; rw [h]; simp only [if_true]; rw [multiBlock_eq_cons]; rfl

/-- **The difference in closed form.**  `master.fetch_diff(sources)` succeeds; its children are the
    concatenation, in master order, of `diffBlockOf` per master definition; every enabled source
    definition named like a master definition is consumed. -/
theorem diff_closed_form (e : Envs) (f : Nat) (sm : Meta) (mkids combined : List Obj)
    (hf : FlatMultiMaster mkids) (hsm : sm.name = []) (hsd : sm.disabled = false)
    (hdef : ∀ o ∈ combined, o.isDefn = true) (hsrc : ∀ o ∈ combined, SrcOK o)
    (hkeys : ∀ mo ∈ mkids, KeysDefined e (f + 1) mo (activeNamed mo.name combined)) :
    fetchScope e (f + 2) true sm mkids combined =
      .ok (.scope { sm with tmpl := 0 } (mkids.flatMap (diffBlockOf e (f + 1) combined)),
           flatUsed mkids combined) :=
  diff_flat_multi e f sm mkids combined hf hsd hdef hsrc hkeys

/-- … with sources mixing root-level definitions and named scopes none of which bears a master name
    (the scopes are ignored) -/
theorem diff_closed_form_mixed (e : Envs) (f : Nat) (sm : Meta) (mkids combined : List Obj)
    (hf : FlatMultiMaster mkids) (hdot : ∀ mo ∈ mkids, '.' ∉ mo.name)
    (hsm : sm.name = []) (hsd : sm.disabled = false)
    (hmix : MixedSrc (mkids.map Obj.name) combined)
    (hsrc : ∀ o ∈ combined, o.isDefn = true → SrcOK o)
    (hkeys : ∀ mo ∈ mkids, KeysDefined e (f + 1) mo (activeNamed mo.name (defnsOf combined))) :
    fetchScope e (f + 2) true sm mkids combined =
      .ok (.scope { sm with tmpl := 0 } (mkids.flatMap (diffBlockOf e (f + 1) (defnsOf combined))),
           flatUsed mkids (defnsOf combined)) :=
  diff_flat_multi_of_matching e f sm mkids combined (defnsOf combined) hf
    (hf.matching_mixed (f + 1) sm combined hdot hsd hmix) (fun o ho => (mem_defnsOf.mp ho).2)
    (fun o ho => hsrc o (mem_defnsOf.mp ho).1 (mem_defnsOf.mp ho).2) hkeys

/-- **`master.fetch_diff(sources=…)`** — the same for the entry point on parsed roots -/
theorem fetchRoot_diff_closed_form (e : Envs) (master : List Obj) (ss : List (List Obj))
    (hf : FlatMultiMaster master)
    (hdef : ∀ o ∈ ss.flatten, o.isDefn = true) (hsrc : ∀ o ∈ ss.flatten, SrcOK o)
    (hkeys : ∀ mo ∈ master, KeysDefined e (diffFuel master + 1) mo (activeNamed mo.name ss.flatten)) :
    fetchRoot e true master ss =
      .ok (.scope { name := [], id := some 0 }
            (master.flatMap (diffBlockOf e (diffFuel master + 1) ss.flatten)),
           flatUsed master ss.flatten) := by
  rw [fetchRoot_eq_diffFuel]
  exact diff_flat_multi e _ _ master ss.flatten hf rfl hdef hsrc hkeys

/-- in diff mode the iteration for a `.multiple` master definition (inside ANY master) appends the
    survivors only -/
theorem diff_multiple_step (F : FetchFn) (e : Envs) (f : Nat) (sm : Meta) (mkids combined : List Obj)
    (st : List Obj × List Nat) (idx : Nat) (mm : Meta) (mws : List Word) (k0 : Str)
    (cks : List (Obj × Str))
    (hmult : isMultiple (.defn mm mws) = true)
    (hfm : fromMasterOf mkids idx (.defn mm mws) = [])
    (hk0 : extractFormatStr e (f + 1 + 64) (.defn mm mws) (.defn mm mws) = .ok k0)
    (hl : Forall2 (fun ms ck => CandLink e (f + 1) (.defn mm mws) ms ck ∧ ∃ cm cws, ck.1 = .defn cm cws)
      (fetchMatching (f + 1) sm combined (.defn mm mws)) cks) :
    stepG F e (f + 1) true sm mkids combined st (idx, .defn mm mws) =
      .ok (st.1 ++ survivorsOf k0 cks,
           st.2 ++ (fetchMatching (f + 1) sm combined (.defn mm mws)).flatMap marksOf) :=
  diff_multi_step F e f sm mkids combined st idx mm mws k0 cks hmult hfm hk0 (hl.imp fun _ _ h => h.1)

/-! ### 2. minimality -/

/-- **Minimality.**  Every definition `o` of `master.fetch_diff(sources)` is the candidate built
    from an enabled source definition named like a master definition `mo`, and its key
    `mo.extract_format(source=o).as_str()` differs from `mo.extract_format().as_str()`. -/
theorem diff_minimal (e : Envs) (f : Nat) (sm : Meta) (mkids combined : List Obj)
    (hf : FlatMultiMaster mkids) (hsm : sm.name = []) (hsd : sm.disabled = false)
    (hdef : ∀ o ∈ combined, o.isDefn = true) (hsrc : ∀ o ∈ combined, SrcOK o)
    (hkeys : ∀ mo ∈ mkids, KeysDefined e (f + 1) mo (activeNamed mo.name combined))
    (rm : Meta) (D : List Obj) (used : List Nat)
    (h : fetchScope e (f + 2) true sm mkids combined = .ok (.scope rm D, used)) :
    ∀ o ∈ D, ∃ mo ∈ mkids, (∃ d ∈ activeNamed mo.name combined, o = candOfSrc mo d) ∧
      keyOf e (f + 1) mo o ≠ keyOf e (f + 1) mo mo :=
  Phil.diff_minimal e f sm mkids combined hf hsm hsd hdef hsrc hkeys rm D used h

/-- minimality for the difference of a working set (the statement of C08): every definition of
    `D = master.fetch_diff(W)`, `W = master.fetch(sources)`, has a key different from its master
    default's -/
theorem diff_of_working_minimal (S : DiffSetting e f sm mkids combined)
    (rm : Meta) (W : List Obj) (u : List Nat)
    (hW : fetchScope e (f + 2) false sm mkids combined = .ok (.scope rm W, u))
    (rd : Meta) (D : List Obj) (ud : List Nat)
    (hD : fetchScope e (f + 2) true sm mkids W = .ok (.scope rd D, ud)) :
    ∀ o ∈ D, ∃ mo ∈ mkids, o.name = mo.name ∧ keyOf e (f + 1) mo o ≠ keyOf e (f + 1) mo mo := by
  obtain ⟨ud', h⟩ := S.diff_of_working rm W u hW
  rw [h] at hD
  cases hD
  intro o ho
  obtain ⟨mo, hmo, ho'⟩ := List.mem_flatMap.mp ho
  obtain ⟨⟨d, _, rfl⟩, hk⟩ := mem_diffBlockL ho'
  exact ⟨mo, hmo, by cases mo <;> rfl, hk⟩

/-! ### 3. empty self-difference -/

/-- **No sources: empty difference** (nothing consumed). -/
theorem self_diff_empty_nosrc (e : Envs) (f : Nat) (sm : Meta) (mkids : List Obj)
    (hf : FlatMultiMaster mkids) (hsm : sm.name = []) (hsd : sm.disabled = false)
    (hk0 : ∀ mo ∈ mkids, ∃ k, extractFormatStr e (f + 1 + 64) mo mo = .ok k) :
    fetchScope e (f + 2) true sm mkids [] = .ok (.scope { sm with tmpl := 0 } [], []) := by
  rw [diff_flat_multi e f sm mkids [] hf hsd (fun o ho => by cases ho) (fun o ho => by cases ho)
    (fun mo hmo => ⟨hk0 mo hmo, fun d hd => by cases hd⟩)]
  rw [show mkids.flatMap (diffBlockOf e (f + 1) []) = diffSet e (f + 1) mkids [] from rfl, diffSet_nil, flatUsed_nil]

/-- **The difference of the master's own defaults is empty**: `W₀ = master.fetch()`,
    `master.fetch_diff(W₀)` has no children. -/
theorem self_diff_empty (e : Envs) (f : Nat) (sm : Meta) (mkids : List Obj)
    (hf : FlatMultiMaster mkids) (hr : RefetchOK mkids) (hsm : sm.name = []) (hsd : sm.disabled = false)
    (hk0 : ∀ mo ∈ mkids, ∃ k, extractFormatStr e (f + 1 + 64) mo mo = .ok k)
    (rm : Meta) (W0 : List Obj) (u : List Nat)
    (hW : fetchScope e (f + 2) false sm mkids [] = .ok (.scope rm W0, u)) :
    ∃ u', fetchScope e (f + 2) true sm mkids W0 = .ok (.scope rm [], u') :=
  Phil.self_diff_empty e f sm mkids hf hr hsm hsd hk0 rm W0 u hW

/-! ### 4. the difference of the working set is the difference of the sources -/

/-- **`master.fetch_diff(master.fetch(sources))` has the children of `master.fetch_diff(sources)`**
    (and never fails). -/
theorem diff_of_working (S : DiffSetting e f sm mkids combined)
    (rm : Meta) (W : List Obj) (u : List Nat)
    (hW : fetchScope e (f + 2) false sm mkids combined = .ok (.scope rm W, u)) :
    ∃ ud ud', fetchScope e (f + 2) true sm mkids W = .ok (.scope rm (diffSet e (f + 1) mkids combined), ud) ∧
      fetchScope e (f + 2) true sm mkids combined =
        .ok (.scope rm (diffSet e (f + 1) mkids combined), ud') := by
  obtain ⟨ud, h⟩ := S.diff_of_working rm W u hW
  have h2 := S.diff_sources
  rw [S.fetch_sources] at hW
  cases hW
  exact ⟨ud, _, h, h2⟩

/-! ### 5. restoring the working set from its difference -/

/-  Full-strength statement (FALSE, see `restore_not_tree_equal` below):
      … → ∃ u', fetchScope e (f + 2) false sm mkids D = .ok (.scope rm W, u')
    What is missing is exactly the second alternative of `RestoredAs`: a non-multiple working value
    that merely re-spells the default (`b = yes` for the default `b = True`, `a = 4/2` for `a = 2`,
    `c = "x"` for `c = x`) is not reported by the difference and comes back in the master's
    spelling.  `restore_exact` is the full-strength statement under the hypothesis that excludes
    this. -/

/-- **Restore.**  Let `W = master.fetch(sources)` and `D = master.fetch_diff(W)`.  Then
    `master.fetch(D)` succeeds; its children `W'` are `restoredSet`; `W'` has the length of `W` and
    at every position `W'ᵢ = Wᵢ`, except that where `Wᵢ` is the working value of a non-multiple
    master definition `mo` with the key of `mo`, `W'ᵢ = mo`.  (`.multiple` blocks — template flag,
    instances, their order — are reproduced exactly.) -/
theorem restore (S : DiffSetting e f sm mkids combined)
    (rm : Meta) (W : List Obj) (u : List Nat)
    (hW : fetchScope e (f + 2) false sm mkids combined = .ok (.scope rm W, u))
    (rd : Meta) (D : List Obj) (ud : List Nat)
    (hD : fetchScope e (f + 2) true sm mkids W = .ok (.scope rd D, ud)) :
    ∃ W' u', fetchScope e (f + 2) false sm mkids D = .ok (.scope rm W', u') ∧
      W' = restoredSet e (f + 1) mkids combined ∧
      Forall2 (fun o o' => ∃ mo ∈ mkids, ResObj mo o ∧ RestoredAs e (f + 1) mo o o') W W' :=
  S.restore rm W u hW rd D ud hD

/-- `RestoredAs` spelled out -/
theorem restoredAs_iff (e : Envs) (fuel : Nat) (mo o o' : Obj) :
    RestoredAs e fuel mo o o' ↔
      (o' = o ∨ (isMultiple mo = false ∧ o.meta = mo.meta ∧
        keyOf e fuel mo o = keyOf e fuel mo mo ∧ o' = mo)) := Iff.rfl

/-- **Restore, keys.**  `W'` and `W` agree position by position on the meta data (name,
    attributes, template flag, …) and on the key `mo.extract_format(source=·).as_str()`. -/
theorem restore_keys (S : DiffSetting e f sm mkids combined)
    (rm : Meta) (W : List Obj) (u : List Nat)
    (hW : fetchScope e (f + 2) false sm mkids combined = .ok (.scope rm W, u))
    (rd : Meta) (D : List Obj) (ud : List Nat)
    (hD : fetchScope e (f + 2) true sm mkids W = .ok (.scope rd D, ud)) :
    ∃ W' u', fetchScope e (f + 2) false sm mkids D = .ok (.scope rm W', u') ∧
      Forall2 (fun o o' => ∃ mo ∈ mkids, o.name = mo.name ∧ SameKey e (f + 1) mo o o') W W' := by
  obtain ⟨W', u', h1, _, h3⟩ := S.restore rm W u hW rd D ud hD
  exact ⟨W', u', h1, h3.imp (fun o o' ⟨mo, hmo, hres, hr⟩ => ⟨mo, hmo, hres.name, hr.sameKey⟩)⟩

/-- **Restore, exactly.**  If no working value merely re-spells its default (`NoRedundant`: a
    non-multiple working value with the key of its master definition IS the master definition),
    merging the difference back gives `W` itself — the same tree, template flags included. -/
theorem restore_exact (S : DiffSetting e f sm mkids combined)
    (hnr : NoRedundant e (f + 1) mkids combined)
    (rm : Meta) (W : List Obj) (u : List Nat)
    (hW : fetchScope e (f + 2) false sm mkids combined = .ok (.scope rm W, u))
    (rd : Meta) (D : List Obj) (ud : List Nat)
    (hD : fetchScope e (f + 2) true sm mkids W = .ok (.scope rd D, ud)) :
    ∃ u', fetchScope e (f + 2) false sm mkids D = .ok (.scope rm W, u') := by
  obtain ⟨W', u', h1, h2, _⟩ := S.restore rm W u hW rd D ud hD
  rw [S.fetch_sources] at hW
  cases hW
  rw [h2, S.restored_eq hnr] at h1
  exact ⟨u', h1⟩

/-- **Restore, values.**  If a non-multiple working value that has the key of its master definition
    also has its VALUE (true for bool/int/str/… values; false for floats that agree with the
    default to 10 significant digits only — `restore_values_fails_float`), then `W'` and `W`
    extract to the same Python values, whatever the enclosing scope and the fuel. -/
theorem restore_values (S : DiffSetting e f sm mkids combined)
    (rm : Meta) (W : List Obj) (u : List Nat)
    (hW : fetchScope e (f + 2) false sm mkids combined = .ok (.scope rm W, u))
    (hfaith : ∀ mo ∈ mkids, ∀ o ∈ W, o.name = mo.name → isMultiple mo = false →
      keyOf e (f + 1) mo o = keyOf e (f + 1) mo mo → extractObj e 1 o = extractObj e 1 mo)
    (rd : Meta) (D : List Obj) (ud : List Nat)
    (hD : fetchScope e (f + 2) true sm mkids W = .ok (.scope rd D, ud))
    (rw' : Meta) (W' : List Obj) (u' : List Nat)
    (hW' : fetchScope e (f + 2) false sm mkids D = .ok (.scope rw' W', u'))
    (m : Meta) (n : Nat) :
    extractObj e n (.scope m W') = extractObj e n (.scope m W) := by
  obtain ⟨W'', u'', h1, h2, _⟩ := S.restore rm W u hW rd D ud hD
  rw [h1] at hW'
  cases hW'
  rw [S.fetch_sources] at hW
  cases hW
  rw [h2]
  exact S.restored_values hfaith m n

/-- **Restoring twice**: `W'` is a fixed point of `master.fetch`. -/
theorem restore_twice (S : DiffSetting e f sm mkids combined) :
    ∃ u, fetchScope e (f + 2) false sm mkids (restoredSet e (f + 1) mkids combined) =
      .ok (.scope { sm with tmpl := 0 } (restoredSet e (f + 1) mkids combined), u) :=
  ⟨_, S.fetch_famOf false (B := restoredBlockL e (f + 1)) (B' := restoredBlockL e (f + 1))
    (blockMem_restoredBlockL e (f + 1)) (fun mm mws l ht hv => blockL_restoredBlockL e (f + 1) mm mws ht hv l)⟩

/-! ### 6. the difference of the restored working set -/

/-- **The difference of a difference-restored `W` is `D` again**: with `W = master.fetch(sources)`,
    `D = master.fetch_diff(W)`, `W' = master.fetch(D)`: `master.fetch_diff(W')` succeeds and is `D`
    (same scope, same children). -/
theorem diff_restore_fixed_point (S : DiffSetting e f sm mkids combined)
    (rm : Meta) (W : List Obj) (u : List Nat)
    (hW : fetchScope e (f + 2) false sm mkids combined = .ok (.scope rm W, u))
    (rd : Meta) (D : List Obj) (ud : List Nat)
    (hD : fetchScope e (f + 2) true sm mkids W = .ok (.scope rd D, ud))
    (rw' : Meta) (W' : List Obj) (u' : List Nat)
    (hW' : fetchScope e (f + 2) false sm mkids D = .ok (.scope rw' W', u')) :
    ∃ ud', fetchScope e (f + 2) true sm mkids W' = .ok (.scope rd D, ud') :=
  S.diff_restore_fixed_point rm W u hW rd D ud hD rw' W' u' hW'

/-- the same chain for the entry point `fetchRoot` (`master.fetch(sources=…)`, `master.fetch_diff`) -/
theorem fetchRoot_restore_chain (e : Envs) (master : List Obj) (ss : List (List Obj))
    (S : DiffSetting e (diffFuel master) { name := [], id := some 0 } master ss.flatten) :
    ∃ u ud u' ud',
      fetchRoot e false master ss =
        .ok (.scope { name := [], id := some 0 } (workingSet e (diffFuel master + 1) master ss.flatten), u) ∧
      fetchRoot e true master [workingSet e (diffFuel master + 1) master ss.flatten] =
        .ok (.scope { name := [], id := some 0 } (diffSet e (diffFuel master + 1) master ss.flatten), ud) ∧
      fetchRoot e false master [diffSet e (diffFuel master + 1) master ss.flatten] =
        .ok (.scope { name := [], id := some 0 } (restoredSet e (diffFuel master + 1) master ss.flatten), u') ∧
      fetchRoot e true master [restoredSet e (diffFuel master + 1) master ss.flatten] =
        .ok (.scope { name := [], id := some 0 } (diffSet e (diffFuel master + 1) master ss.flatten), ud') := by
  have hfl : ∀ l : List Obj, ([l] : List (List Obj)).flatten = l := by intro l; simp
  refine ⟨flatUsed master ss.flatten,
    flatUsed master (workingSet e (diffFuel master + 1) master ss.flatten),
    flatUsed master (diffSet e (diffFuel master + 1) master ss.flatten),
    flatUsed master (restoredSet e (diffFuel master + 1) master ss.flatten), ?_, ?_, ?_, ?_⟩
  · rw [fetchRoot_eq_diffFuel]; exact S.fetch_sources
  · rw [fetchRoot_eq_diffFuel, hfl]; exact S.diff_working
  · rw [fetchRoot_eq_diffFuel, hfl]; exact S.fetch_diffSet
  · rw [fetchRoot_eq_diffFuel, hfl]; exact S.diff_restoredSet

/-! ### non-vacuity: an instance -/

/-- `d = x .multiple=True ; n = 1 .type=int .multiple=True .optional=False ; c = y ;
    b = True .type=bool` -/
def exM : List Obj :=
  [.defn { name := ['d'], id := some 1, attrs := [("multiple", .bool true)] } [{ value := ['x'] }],
   .defn { name := ['n'], id := some 2,
           attrs := [("type", .conv (.int {})), ("multiple", .bool true), ("optional", .bool false)] }
     [{ value := ['1'] }],
   .defn { name := ['c'], id := some 3 } [{ value := ['y'] }],
   .defn { name := ['b'], id := some 4, attrs := [("type", .conv .bool)] } [{ value := "True".toList }]]

def sd (n : Char) (i : Nat) (v : String) : Obj := .defn { name := [n], id := some i } [{ value := v.toList }]

/-- `d=p d=q n=2 d=p d=x c=z d=r n=1 d=q n=2 b=no b=yes` -/
def exS : List Obj :=
  [sd 'd' 11 "p", sd 'd' 12 "q", sd 'n' 13 "2", sd 'd' 14 "p", sd 'd' 15 "x", sd 'c' 16 "z",
   sd 'd' 17 "r", sd 'n' 18 "1", sd 'd' 19 "q", sd 'n' 20 "2", sd 'b' 21 "no", sd 'b' 22 "yes"]

theorem exM_flat : FlatMultiMaster exM := by
  constructor
  · intro mo hmo
    simp only [exM, List.mem_cons, List.not_mem_nil, or_false] at hmo
    rcases hmo with rfl | rfl | rfl | rfl <;>
      exact ⟨_, _, rfl, ⟨by decide, by intro b; cases b <;> decide⟩, by decide, rfl⟩
  · decide

theorem exM_refetchOK : RefetchOK exM := by
  intro mo hmo
  simp only [exM, List.mem_cons, List.not_mem_nil, or_false] at hmo
  rcases hmo with rfl | rfl | rfl | rfl <;> exact ⟨rfl, rfl, by decide⟩

theorem exS_all (P : Obj → Prop) (h : ∀ n i v, P (sd n i v)) : ∀ o ∈ exS, P o := by
  intro o ho
  simp only [exS, List.mem_cons, List.not_mem_nil, or_false] at ho
  rcases ho with rfl | rfl | rfl | rfl | rfl | rfl | rfl | rfl | rfl | rfl | rfl | rfl <;> exact h _ _ _

theorem exKeys (fuel : Nat) (hB : (exM.all (fun mo => keysDefinedB env12 fuel mo (activeNamed mo.name exS))) = true) :
    ∀ mo ∈ exM, KeysDefined env12 fuel mo (activeNamed mo.name exS) := by
  intro mo hmo
  exact keysDefined_of_B (List.all_eq_true.mp hB mo hmo)

/-- the instance is in the class -/
theorem exSetting : DiffSetting env12 (diffFuel exM) { name := [], id := some 0 } exM exS where
  flat := exM_flat
  refetch := exM_refetchOK
  root := rfl
  enabled := rfl
  defn := exS_all _ (fun _ _ _ => rfl)
  srcOK := by
    intro o ho
    simp only [exS, List.mem_cons, List.not_mem_nil, or_false] at ho
    rcases ho with rfl | rfl | rfl | rfl | rfl | rfl | rfl | rfl | rfl | rfl | rfl | rfl <;>
      exact .inr ⟨rfl, by decide⟩
  noDollar := by
    intro o ho
    simp only [exS, List.mem_cons, List.not_mem_nil, or_false] at ho
    rcases ho with rfl | rfl | rfl | rfl | rfl | rfl | rfl | rfl | rfl | rfl | rfl | rfl <;> decide
  keys := exKeys _ (by decide +kernel)

def view (l : List Obj) : List (Str × Int × List Str) :=
  l.map (fun k => (k.name, k.meta.tmpl, k.words.map Word.value))

/-- the working set the closed forms predict: `b = yes` (the last `b`) … -/
example : view (workingSet env12 (diffFuel exM + 1) exM exS) =
    [(['d'], -1, [['x']]), (['d'], 0, [['p']]), (['d'], 0, [['r']]), (['d'], 0, [['q']]),
     (['n'], 0, [['1']]), (['n'], 0, [['2']]), (['c'], 0, [['z']]), (['b'], 0, ["yes".toList])] := by
  decide +kernel

/-- … the difference: no templates, no `b` (`yes` has the key of `True`), no `n = 1`, no `d = x` … -/
example : view (diffSet env12 (diffFuel exM + 1) exM exS) =
    [(['d'], 0, [['p']]), (['d'], 0, [['r']]), (['d'], 0, [['q']]), (['n'], 0, [['2']]), (['c'], 0, [['z']])] := by
  decide +kernel

/-- … and the restored working set: `W` except for `b = True` -/
example : view (restoredSet env12 (diffFuel exM + 1) exM exS) =
    [(['d'], -1, [['x']]), (['d'], 0, [['p']]), (['d'], 0, [['r']]), (['d'], 0, [['q']]),
     (['n'], 0, [['1']]), (['n'], 0, [['2']]), (['c'], 0, [['z']]), (['b'], 0, ["True".toList])] := by
  decide +kernel

/-- the theorems apply: the four fetches of the chain succeed with these children -/
example : ∃ u ud u' ud',
    fetchRoot env12 false exM [exS] =
      .ok (.scope { name := [], id := some 0 } (workingSet env12 (diffFuel exM + 1) exM exS), u) ∧
    fetchRoot env12 true exM [workingSet env12 (diffFuel exM + 1) exM exS] =
      .ok (.scope { name := [], id := some 0 } (diffSet env12 (diffFuel exM + 1) exM exS), ud) ∧
    fetchRoot env12 false exM [diffSet env12 (diffFuel exM + 1) exM exS] =
      .ok (.scope { name := [], id := some 0 } (restoredSet env12 (diffFuel exM + 1) exM exS), u') ∧
    fetchRoot env12 true exM [restoredSet env12 (diffFuel exM + 1) exM exS] =
      .ok (.scope { name := [], id := some 0 } (diffSet env12 (diffFuel exM + 1) exM exS), ud') := by
  have hfl : ([exS] : List (List Obj)).flatten = exS := by simp
  have h := fetchRoot_restore_chain env12 exM [exS] (by rw [hfl]; exact exSetting)
  rw [hfl] at h
  exact h

/-- children of a result -/
def kidsOf (r : R (Obj × List Nat)) : Option (List Obj) :=
  match r with | .ok (o, _) => some o.children | .error _ => none

/-- the chain evaluated on the model's `fetchRoot` directly (not through the theorems) -/
def chain (e : Envs) (master source : List Obj) : Option (List Obj × List Obj × List Obj × List Obj) :=
  match kidsOf (fetchRoot e false master [source]) with
  | none => none
  | some W =>
    match kidsOf (fetchRoot e true master [W]) with
    | none => none
    | some D =>
      match kidsOf (fetchRoot e false master [D]) with
      | none => none
      | some W' =>
        match kidsOf (fetchRoot e true master [W']) with
        | none => none
        | some D' => some (W, D, W', D')

/-- the listings `[W, D, W', D']` of a chain -/
def chainViews (e : Envs) (master source : List Obj) : Option (List (List (Str × Int × List Str))) :=
  (chain e master source).map (fun c => [view c.1, view c.2.1, view c.2.2.1, view c.2.2.2])

/-- independent check by evaluation (Python gives the same four listings `[W, D, W', D']`) -/
example : chainViews env12 exM exS =
    some [[(['d'], -1, [['x']]), (['d'], 0, [['p']]), (['d'], 0, [['r']]), (['d'], 0, [['q']]),
           (['n'], 0, [['1']]), (['n'], 0, [['2']]), (['c'], 0, [['z']]), (['b'], 0, ["yes".toList])],
          [(['d'], 0, [['p']]), (['d'], 0, [['r']]), (['d'], 0, [['q']]), (['n'], 0, [['2']]), (['c'], 0, [['z']])],
          [(['d'], -1, [['x']]), (['d'], 0, [['p']]), (['d'], 0, [['r']]), (['d'], 0, [['q']]),
           (['n'], 0, [['1']]), (['n'], 0, [['2']]), (['c'], 0, [['z']]), (['b'], 0, ["True".toList])],
          [(['d'], 0, [['p']]), (['d'], 0, [['r']]), (['d'], 0, [['q']]), (['n'], 0, [['2']]), (['c'], 0, [['z']])]] := by
  decide +kernel

/-- the self-difference of the instance's master is empty -/
example : (kidsOf (fetchRoot env12 true exM [])).map view = some [] := by decide +kernel
example : ((kidsOf (fetchRoot env12 false exM [])).bind (fun W0 => kidsOf (fetchRoot env12 true exM [W0]))).map view
    = some [] := by decide +kernel

/-! ### counterexamples to the stronger statements (kernel-evaluated) -/

/-- `b = True .type=bool` -/
def boolM : List Obj :=
  [.defn { name := ['b'], id := some 1, attrs := [("type", .conv .bool)] } [{ value := "True".toList }]]
/-- `b = yes` -/
def boolS : List Obj := [.defn { name := ['b'], id := some 11 } [{ value := "yes".toList }]]

/-- **Tree equality `W' = W` fails**: master `b = True .type=bool`, source `b = yes`.  `W` is
    `b = yes`, the difference is empty (both render as `b = True`), `W'` is `b = True`.
    (Python: `M.fetch(S).as_str() = 'b = yes\n'`, `M.fetch_diff(W).as_str() = ''`,
    `M.fetch(D).as_str() = 'b = True\n'`.)  The extracted values agree (`True`). -/
theorem restore_not_tree_equal :
    chainViews envNone boolM boolS =
      some [[(['b'], 0, ["yes".toList])], [], [(['b'], 0, ["True".toList])], []] := by
  decide +kernel

/-- an environment that knows the floats `0.5` and `0.50000000000001` (exact binary ratios as
    `float.as_integer_ratio()` gives them) and their common rendering `"%.10g" % x = '0.5'` -/
def envHalf : Envs :=
  { eval := fun s =>
      if s == "0.5".toList then some (.num (.flt 1 2))
      else if s == "0.50000000000001".toList then some (.num (.flt 2251799813685293 4503599627370496))
      else none,
    fmt := fun n => match n with
      | .flt 1 2 => some "0.5".toList
      | .flt 2251799813685293 4503599627370496 => some "0.5".toList
      | _ => none }

/-- `a = 0.5 .type=float` -/
def floatM : List Obj :=
  [.defn { name := ['a'], id := some 1, attrs := [("type", .conv (.float {}))] } [{ value := "0.5".toList }]]
/-- `a = 0.50000000000001` -/
def floatS : List Obj := [.defn { name := ['a'], id := some 11 } [{ value := "0.50000000000001".toList }]]

/-- the number stored in the only field of an extracted scope -/
def onlyNum (r : R PVal) : Option PNum :=
  match r with
  | .ok (.record [(_, .num n)]) => some n
  | _ => none

/-- **Value equality fails for floats** (a genuine violation of C08's "merging D back reproduces W's
    extracted values exactly"): master `a = 0.5 .type=float`, source `a = 0.50000000000001`.  Both
    values render as `0.5` under `"%.10g"`, so `fetch_diff` reports nothing; merging the empty
    difference back gives the default 0.5, whereas `W` extracts 0.50000000000001.
    Python (unchanged tree):
      M = parse("a = 0.5\n  .type = float\n"); S = parse("a = 0.50000000000001\n")
      W = M.fetch(source=S); D = M.fetch_diff(source=W); W2 = M.fetch(source=D)
      W.as_str() == 'a = 0.50000000000001\n'; D.as_str() == ''; W2.as_str() == 'a = 0.5\n'
      W.extract().a == 0.50000000000001; W2.extract().a == 0.5 -/
theorem restore_values_fails_float :
    chainViews envHalf floatM floatS =
      some [[(['a'], 0, ["0.50000000000001".toList])], [], [(['a'], 0, ["0.5".toList])], []] ∧
    (chain envHalf floatM floatS).bind (fun c => onlyNum (extractObj envHalf 3 (.scope { name := [] } c.1))) =
      some (.flt 2251799813685293 4503599627370496) ∧
    (chain envHalf floatM floatS).bind (fun c => onlyNum (extractObj envHalf 3 (.scope { name := [] } c.2.2.1))) =
      some (.flt 1 2) := by
  decide +kernel

end Phil.C08
