/-
  C18, detachment clause: a SYNTACTIC criterion for unconditional detachment.

  `detached_without_words` (Props/C18Detach.lean) assumes `noHandout` of the extracted value tree.  Here that
  hypothesis is derived from the PHIL tree itself: if no definition of the document has `.type = words`
  (`noWordsTypeB`, decidable, recursive over scopes) then the value tree `extractT` builds hands out no
  word list, so EVERY history of mutations of extracted values leaves the PHIL tree and all later
  extractions unchanged (`detached_of_no_words_type`).  The criterion is sharp: one `.type = words`
  definition and the word list is handed out (`C18Detach.words_list_is_handed_out`).
-/
import Phil.Props.C18Detach
import Phil.Proofs.Generic
namespace Phil.C18DetachSyntactic
open Phil Phil.Heap

/-! ### the criterion -/

/-- the `.type` of the object is not the `words` converter -/
def metaNoWords (m : Meta) : Bool :=
  match m.attrs.get "type" with
  | .conv .words => false
  | _ => true

mutual
/-- no definition of the tree has `.type = words` -/
def noWordsTypeB : Obj → Bool
  | .defn m _ => metaNoWords m
  | .scope _ os => noWordsTypeListB os
def noWordsTypeListB : List Obj → Bool
  | [] => true
  | o :: os => noWordsTypeB o && noWordsTypeListB os
end

/-- heap form: no definition object has `.type = words` -/
def nodeNoWords : Node → Bool
  | .defn m _ _ => metaNoWords m
  | .scope .. => true

def heapNoWordsB (h : Heap) : Bool := h.all nodeNoWords

/-! ### converters other than `words` never return the word list -/

theorem fromWords_nw (c : Conv) (env : EvalEnv) (opt : AttrVal) (ws : List Word) (v : PVal)
    (hc : c ≠ .words) (h : fromWords c env opt ws = .ok v) : v.fresh = true :=
  (fromWords_fresh c env opt ws v h).resolve_right fun hw => hc hw.2

theorem extractDefn_nw (e : Envs) (m : Meta) (ws : List Word) (v : PVal) (hm : metaNoWords m = true)
    (h : extractDefn e m ws = .ok v) : v.fresh = true := by
  unfold extractDefn at h
  unfold metaNoWords at hm
  split at h
  · exact fromWords_nw _ _ _ _ _ (by intro hh; cases hh) h
  · rename_i c hc
    rw [hc] at hm
    refine fromWords_nw _ _ _ _ _ ?_ h
    intro hh; subst hh; simp at hm
  · cases h
  · cases h

theorem extractDefnT_noHandout (e : Envs) (d : Nat) (m : Meta) (ws : List Word) (t : TVal)
    (hm : metaNoWords m = true) (h : extractDefnT e d m ws = .ok t) : t.noHandout = true := by
  unfold extractDefnT at h
  split at h
  · cases h
  · rename_i ws' hx
    have := extractDefn_nw e m ws _ hm hx
    cases this
  · cases h; simp [TVal.noHandout]

/-! ### `__phil_set__` / `__phil_join__` keep handout-free value trees handout-free -/

/-- membership form of `noHandoutFields` / `noHandoutList` -/
def NH (fs : List (Str × TVal)) : Prop := ∀ p ∈ fs, p.2.noHandout = true
def NHL (l : List TVal) : Prop := ∀ x ∈ l, x.noHandout = true

theorem nhF_iff : ∀ fs : List (Str × TVal), noHandoutFields fs = true ↔ NH fs
  | [] => by simp [noHandoutFields, NH]
  | (k, v) :: rest => by
    simp only [noHandoutFields, Bool.and_eq_true, nhF_iff rest, NH, List.mem_cons, forall_eq_or_imp]

theorem nhL_iff : ∀ l : List TVal, noHandoutList l = true ↔ NHL l
  | [] => by simp [noHandoutList, NHL]
  | v :: rest => by
    simp only [noHandoutList, Bool.and_eq_true, nhL_iff rest, NHL, List.mem_cons, forall_eq_or_imp]

theorem tGet_nh {fs : List (Str × TVal)} {k : Str} {v : TVal} (h : NH fs) (hg : tGet fs k = some v) :
    v.noHandout = true := by
  obtain ⟨p, hp, rfl⟩ := Option.map_eq_some_iff.mp hg
  exact h p (List.mem_of_find?_eq_some hp)

theorem tSet_nh {fs : List (Str × TVal)} {k : Str} {v : TVal} (h : NH fs) (hv : v.noHandout = true) :
    NH (tSet fs k v) := by
  unfold tSet
  split
  · intro p hp
    rw [List.mem_map] at hp
    obtain ⟨q, hq, rfl⟩ := hp
    split
    · exact hv
    · exact h q hq
  · intro p hp
    rw [List.mem_append] at hp
    rcases hp with hp | hp
    · exact h p hp
    · simp only [List.mem_singleton] at hp; subst hp; exact hv

theorem multi_nh {o : AttrVal} {l : List TVal} : (TVal.multi o l).noHandout = true ↔ NHL l := by
  simp only [TVal.noHandout]; exact nhL_iff l

theorem record_nh {fs : List (Str × TVal)} : (TVal.record fs).noHandout = true ↔ NH fs := by
  simp only [TVal.noHandout]; exact nhF_iff fs

theorem philJoinT_nh : ∀ (fuel : Nat) (self other r : List (Str × TVal)), NH self → NH other →
    philJoinT fuel self other = .ok r → NH r := by
  intro fuel
  induction fuel with
  | zero => intro self other r _ _ h; cases h
  | succ fuel ih =>
    intro self other r hs ho h
    unfold philJoinT at h
    refine foldlM_inv NH _ other ?_ self r hs h
    intro acc kv acc' hmem hacc hstep
    obtain ⟨key, ov⟩ := kv
    have hov : ov.noHandout = true := ho _ hmem
    simp only at hstep
    split at hstep
    · cases hstep; exact hacc
    · split at hstep
      · cases hstep; exact tSet_nh hacc hov
      · rename_i opt l hg
        have hl : NHL l := multi_nh.mp (tGet_nh hacc hg)
        split at hstep
        · rename_i o2 l2
          have hl2 : NHL l2 := multi_nh.mp hov
          cases hstep
          apply tSet_nh hacc
          apply multi_nh.mpr
          have hl' : NHL (l ++ l2.filter (fun x => !x.isNone)) := by
            intro x hx
            rw [List.mem_append] at hx
            rcases hx with hx | hx
            · exact hl x hx
            · exact hl2 x (List.mem_filter.mp hx).1
          split
          · rename_i x rr heq
            split
            · intro y hy
              apply hl'
              rw [heq]; exact List.mem_cons_of_mem _ hy
            · exact hl'
          · exact hl'
        · cases hstep
      · rename_i sf hg
        have hsf : NH sf := record_nh.mp (tGet_nh hacc hg)
        split at hstep
        · rename_i of_
          have hof : NH of_ := record_nh.mp hov
          cases hj : philJoinT fuel sf of_ with
          | error err => rw [hj] at hstep; cases hstep
          | ok rr =>
            rw [hj] at hstep
            cases hstep
            exact tSet_nh hacc (record_nh.mpr (ih sf of_ rr hsf hof hj))
        · cases hstep
      · cases hstep; exact tSet_nh hacc hov

theorem ite_ok {α : Type} {c : Bool} {a b r : α}
    (h : (if c = true then (Except.ok a : R α) else .ok b) = .ok r) : r = a ∨ r = b := by
  cases c <;> simp at h <;> simp [h]

def XT.nh : XT → Prop
  | .disabled => True
  | .val v => v.noHandout = true

theorem philSetT_nh (fs r : List (Str × TVal)) (name : Str) (opt : AttrVal) (mult : Bool) (x : XT)
    (hfs : NH fs) (hx : XT.nh x) (h : philSetT fs name opt mult x = .ok r) : NH r := by
  unfold philSetT at h
  split at h
  · -- single
    have hv : (match x with | .disabled => TVal.pure .none | .val v => v).noHandout = true := by
      cases x with
      | disabled => rfl
      | val v => exact hx
    simp only at h
    split at h
    · rename_i node val hg hveq
      have hv' : (TVal.record val).noHandout = true := hveq ▸ hv
      cases hj : philJoinT (node.length + val.length + 64) node val with
      | error err => rw [hj] at h; cases h
      | ok rr =>
        rw [hj] at h
        cases h
        exact tSet_nh hfs (record_nh.mpr (philJoinT_nh _ _ _ _ (record_nh.mp (tGet_nh hfs hg)) (record_nh.mp hv') hj))
    · cases h; exact tSet_nh hfs hv
  · -- multiple: the value is appended to the list under `name`
    have happ : ∀ (c : TVal → Bool) (fs0 : List (Str × TVal)) (o : AttrVal) (l : List TVal), NH fs0 → NHL l →
        (match x with
          | .disabled => (Except.ok fs0 : R (List (Str × TVal)))
          | .val v => if c v = true then .ok (tSet fs0 name (.multi o (l ++ [v]))) else .ok fs0) = .ok r →
        NH r := by
      intro c fs0 o l h0 hl hr
      cases x with
      | disabled => cases hr; exact h0
      | val v =>
        rcases ite_ok hr with rfl | rfl
        · exact tSet_nh h0 (multi_nh.mpr fun y hy =>
            (List.mem_append.mp hy).elim (hl y) fun hy => List.mem_singleton.mp hy ▸ hx)
        · exact h0
    cases hg : tGet fs name with
    | none =>
      rw [hg] at h
      exact happ _ _ opt [] (tSet_nh hfs (multi_nh.mpr fun _ hy => by cases hy)) (fun _ hy => by cases hy) h
    | some n =>
      rw [hg] at h
      simp only at h
      split at h
      · rename_i o l heq
        cases heq
        exact happ _ fs o l hfs (multi_nh.mp (tGet_nh hfs hg)) h
      · cases x with
        | disabled => cases h; exact hfs
        | val v => cases h

/-! ### extraction from a heap without `.type = words` hands out nothing -/

theorem heap_defn_noWords {h : Heap} {x : Nat} {m : Meta} {ws : List Word} {p : Option Nat}
    (hh : heapNoWordsB h = true) (hx : h[x]? = some (.defn m ws p)) : metaNoWords m = true := by
  unfold heapNoWordsB at hh
  rw [List.all_eq_true] at hh
  exact hh _ (List.mem_of_getElem? hx)

/-- **No `.type = words` definition in the heap ⇒ no handout**, for every object and every fuel. -/
theorem extractT_noHandout (e : Envs) (h : Heap) (hh : heapNoWordsB h = true) :
    ∀ (fuel : Nat) (x : Nat) (t : TVal), extractT e fuel h x = .ok t → t.noHandout = true := by
  intro fuel
  induction fuel with
  | zero => intro x t ht; cases ht
  | succ fuel ih =>
    intro x t ht
    unfold extractT at ht
    split at ht
    · cases ht
    · rename_i m ws p hx
      exact extractDefnT_noHandout e x m ws t (heap_defn_noWords hh hx) ht
    · rename_i m ks p hx
      simp only at ht
      generalize hstep : (fun (fs : List (Str × TVal)) (k : Nat) => _) = step at ht
      cases hf : ks.foldlM step ([] : List (Str × TVal)) with
      | error err => rw [hf] at ht; cases ht
      | ok fs =>
        rw [hf] at ht
        cases ht
        apply record_nh.mpr
        refine foldlM_inv NH step ks ?_ [] fs (fun _ hp => by cases hp) hf
        intro acc k acc' _ hacc hs
        subst hstep
        simp only at hs
        split at hs
        · cases hs
        · split at hs
          · cases hs; exact hacc
          · split at hs
            · cases hs
            · rename_i xv hxv
              refine philSetT_nh _ _ _ _ _ xv hacc ?_ hs
              split at hxv
              · cases hxv; trivial
              · cases hk : extractT e fuel h k with
                | error err => rw [hk] at hxv; cases hxv
                | ok tk => rw [hk] at hxv; cases hxv; exact ih k tk hk

/-! ### from the tree to the heap -/

mutual
theorem cells_noWords : ∀ (o : Obj) (p : Option Nat) (b : Nat), noWordsTypeB o = true →
    (cells o p b).all nodeNoWords = true
  | .defn m ws, p, b, h => by
    simp only [noWordsTypeB] at h
    simp [cells, nodeNoWords, h]
  | .scope m os, p, b, h => by
    simp only [noWordsTypeB] at h
    simp only [cells, List.all_cons, nodeNoWords, Bool.true_and]
    exact kidCells_noWords os b (b + 1) h
theorem kidCells_noWords : ∀ (os : List Obj) (p b : Nat), noWordsTypeListB os = true →
    (kidCells os p b).all nodeNoWords = true
  | [], _, _, _ => by simp [kidCells]
  | o :: os, p, b, h => by
    simp only [noWordsTypeListB, Bool.and_eq_true] at h
    simp only [kidCells, List.all_append, Bool.and_eq_true]
    exact ⟨cells_noWords o (some p) b h.1, kidCells_noWords os p (b + size o) h.2⟩
end

/-- the heap of a document none of whose definitions has `.type = words` -/
theorem ofObjs_noWords (os : List Obj) (h : noWordsTypeListB os = true) : heapNoWordsB (ofObjs os) = true := by
  unfold heapNoWordsB ofObjs build
  simp only [List.nil_append, List.length_nil]
  exact cells_noWords (.scope { name := [] } os) none 0 (by simpa [noWordsTypeB] using h)

/-- **The value tree of a `words`-free document has no handout** (any object of it, any fuel). -/
theorem noHandout_of_no_words_type (e : Envs) (os : List Obj) (hw : noWordsTypeListB os = true)
    (fuel x : Nat) (t : TVal) (ht : extractT e fuel (ofObjs os) x = .ok t) : t.noHandout = true :=
  extractT_noHandout e (ofObjs os) (ofObjs_noWords os hw) fuel x t ht

/-- **Unconditional detachment, from the syntax alone.**  Parse a document; if none of its definitions has
    `.type = words`, then after extracting ANY object `x` of it into a value heap without alias cell, EVERY
    history of mutations of value objects (append, item assignment, clear, attribute assignment, on any
    extracted list or nested scope_extract) is safe, leaves the PHIL heap exactly as it was, and every later
    extraction of every object reads what it would have read before.  No hypothesis on the value tree. -/
theorem detached_of_no_words_type (e : Envs) (text : List Char) (os : List Obj)
    (_hp : parseObjs text = .ok os) (hw : noWordsTypeListB os = true)
    (fuel : Nat) (vals : VHeap) (hn : noAliasB vals = true) (x : Nat) (s1 : Store) (v1 : VRef)
    (h1 : extractStore e fuel ⟨ofObjs os, vals⟩ x = .ok (s1, v1)) (ops : List (Nat × MutOp)) :
    SafeHist s1 ops ∧ (mutateMany s1 ops).phil = ofObjs os ∧
    (∀ fuel' y, extractT e fuel' (mutateMany s1 ops).phil y = extractT e fuel' (ofObjs os) y) :=
  C18Detach.detached_without_words e fuel ⟨ofObjs os, vals⟩ s1 x v1 h1 hn
    (fun t ht => noHandout_of_no_words_type e os hw fuel x t ht) ops

/-- heap form (any heap: trees, fetch results, copies) -/
theorem detached_of_heap_no_words (e : Envs) (fuel : Nat) (s s1 : Store) (x : Nat) (v1 : VRef)
    (hh : heapNoWordsB s.phil = true) (hn : noAliasB s.vals = true)
    (h1 : extractStore e fuel s x = .ok (s1, v1)) (ops : List (Nat × MutOp)) :
    SafeHist s1 ops ∧ (mutateMany s1 ops).phil = s.phil ∧
    (∀ fuel' y, extractT e fuel' (mutateMany s1 ops).phil y = extractT e fuel' s.phil y) :=
  C18Detach.detached_without_words e fuel s s1 x v1 h1 hn
    (fun t ht => extractT_noHandout e s.phil hh fuel x t ht) ops

/-! ### witnesses -/

def criterionOfText (t : String) : Option Bool :=
  match parseObjs t.toList with
  | .ok os => some (noWordsTypeListB os)
  | .error _ => none

/-- For `rw` and the kernel a literal is `String.ofList […]`: rewriting with this avoids UTF-8 decoding. -/
theorem criterionOfText_ofList (l : List Char) : criterionOfText (String.ofList l) =
    match parseObjs l with
    | .ok os => some (noWordsTypeListB os)
    | .error _ => none := by
  unfold criterionOfText
  rw [String.toList_ofList]

/-- the hypotheses of `detached_of_no_words_type` hold on a parsed, non-trivial document (strings, a nested
    scope, a bool): the criterion answers `true` and the extraction succeeds -/
example : criterionOfText "a = 1 2\ns {\n  l = x y\n    .type = strings\n  b = True\n    .type = bool\n}\n" = some true := by
  rw [criterionOfText_ofList]
  decide +kernel

example :
    (match extractStore C18Detach.noEnv 10
        ⟨C18Detach.heapOfText "a = 1 2\ns {\n  l = x y\n    .type = strings\n  b = True\n    .type = bool\n}\n", []⟩ 0 with
     | .ok (s, _) => s.vals.length
     | .error _ => 0) = 4 := by
  -- done in a hypothesis: the check of a rewrite below the `match` evaluates the parse
  generalize hh : C18Detach.heapOfText _ = hp
  rw [C18Detach.heapOfText_ofList] at hh
  subst hh
  decide +kernel

/-- **Sharpness.**  The criterion rejects the document of `C18Detach.words_list_is_handed_out`
    (`w = a b  .type = words`), on which the extracted `w` IS the definition's word list and
    `ex.w.append(...)` rewrites the PHIL definition. -/
theorem criterion_rejects_words_document : criterionOfText C18Detach.docText = some false := by
  unfold C18Detach.docText
  rw [criterionOfText_ofList]
  decide +kernel

end Phil.C18DetachSyntactic

#print axioms Phil.C18DetachSyntactic.fromWords_nw
#print axioms Phil.C18DetachSyntactic.philJoinT_nh
#print axioms Phil.C18DetachSyntactic.philSetT_nh
#print axioms Phil.C18DetachSyntactic.extractT_noHandout
#print axioms Phil.C18DetachSyntactic.ofObjs_noWords
#print axioms Phil.C18DetachSyntactic.noHandout_of_no_words_type
#print axioms Phil.C18DetachSyntactic.detached_of_no_words_type
#print axioms Phil.C18DetachSyntactic.detached_of_heap_no_words
#print axioms Phil.C18DetachSyntactic.criterion_rejects_words_document
