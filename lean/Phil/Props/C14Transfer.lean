/-
  C14 (value-transfer clause) — "… The value words reach the addressed parameter exactly as they would
  from a file, and processing a list of arguments and fetching equals fetching the individually
  interpreted arguments in order."

  Phil/Props/C14.lean proves WHICH parameter an argument addresses (`choosePath`); this file proves
  WHAT the successful result of `argument_interpreter.process_arg` (`processArg`) is.
  The lemmas are in Phil/Proofs/ArgTransfer.lean.

  `process_arg` parses the argument, renames every definition of it to the chosen full target path,
  prints it with `as_str()` (attributes level 0, width 79) and parses the concatenation.

  One definition `src = ws` gives the chain of scopes of the target path holding one definition with
  exactly the words `ws` (§1); that is the parse of the file line `full.path = ws` up to ids and
  positions, and for lines of at most 77 columns LITERALLY the parse of the file text, ids, positions
  and failures included (§2); several definitions in one argument (§3); fetching the results of a
  list of arguments (§4); kernel-checked examples, replayed on the Python library (§5).

  Domain of §1–§3 (the domain of the closed print → parse theorems, Phil/Props/C01Nested.lean):
  the components of the target path are `goodName`s, the full path is not a reserved identifier
  (`__a.b__`), the words are `goodWord`s (quoted words of any content, plain unquoted words), there
  is at least one word, and `wrapOK 79 …` — the exact condition under which the value printed at
  width 79 is read back (finding D6: no continuation ` \` directly after a word containing a newline,
  no unquoted word directly after such a word); `∀ w ∈ ws.dropLast, '\n' ∉ w.value` suffices.
  The definition of the argument may carry attributes (they are not printed at level 0, hence
  dropped) unless it is `.deprecated` (then nothing is printed: see `deprecated_argument_has_no_effect`).
-/
import Phil.Proofs.ArgTransfer
import Phil.Props.C01RoundTrip
namespace Phil.C14
open Phil

attribute [local instance] Phil.C01.objDecEqInst Phil.C01.exceptDecEqRT

/-- equality test on outcomes; used by the concrete examples only (`decide +kernel`) -/
local instance argOutcomeDecEq_at : DecidableEq ArgOutcome := fun a b =>
  match a, b with
  | .ok x, .ok y => if h : x = y then isTrue (by rw [h]) else isFalse (fun e => h (by cases e; rfl))
  | .sorry_ k p, .sorry_ k' p' =>
    if h : k = k' ∧ p = p' then isTrue (by rw [h.1, h.2])
    else isFalse (fun e => h (by cases e; exact ⟨rfl, rfl⟩))
  | .runtime x, .runtime y =>
    if h : x = y then isTrue (by rw [h]) else isFalse (fun e => h (by cases e; rfl))
  | .ok _, .sorry_ _ _ => isFalse (fun e => by cases e)
  | .ok _, .runtime _ => isFalse (fun e => by cases e)
  | .sorry_ _ _, .ok _ => isFalse (fun e => by cases e)
  | .sorry_ _ _, .runtime _ => isFalse (fun e => by cases e)
  | .runtime _, .ok _ => isFalse (fun e => by cases e)
  | .runtime _, .sorry_ _ _ => isFalse (fun e => by cases e)

/-! ### the tree a value ends up in

  `nestIn id b [m1, …, mk] x` (Phil/Proofs/DottedNames.lean) is `m1 { m2 { … mk { x } } }` as
  `scope.adopt` builds it for the dotted name `m1.….mk.x`: every scope holds exactly one object,
  `merge_names` is False for `m1` and True below.  `dottedName [m1, …, mk] nm` is `m1.….mk.nm`. -/

/-- the parameter `tms.tnm` holding exactly the words `ws` (values and quote kinds; no ids, no source
    positions): what the file line `tms.tnm = ws` means -/
def addressed_at (tms : List Str) (tnm : Str) (ws : List Word) : Obj :=
  nestIn none false tms (.defn { name := tnm, mergeNames := !tms.isEmpty } (ws.map Word.erase))

example : addressed_at ["refine".toList, "ncs".toList] "max".toList [{ value := ['3'], line := some 7 }]
    = .scope { name := "refine".toList }
        [.scope { name := "ncs".toList, mergeNames := true }
          [.defn { name := "max".toList, mergeNames := true } [{ value := ['3'] }]]] := by
  decide +kernel

/-- `addressed_at` is the erased chain of the lemma file -/
theorem addressed_eq_at (tms : List Str) (tnm : Str) (ws : List Word) :
    addressed_at tms tnm ws = (chainOf_at (tms, tnm, ws)).erase := by
  rw [chainOf_erase_at]; rfl

/-! ### 1. one definition -/

/-- **The value words reach the addressed parameter.**  Let the argument text parse, and let its
    parse hold exactly ONE active definition: `src = ws` (`src` its full dotted path inside the
    argument, `m` its object data — any id, any source position, any attributes but `.deprecated`).
    If the selection step chooses index `i` for `src` (with or without the expert-level warning),
    `targets[i]` is the dotted path `tms.tnm` of good components, and the words are good words
    satisfying the wrapping condition for width 79, then `process_arg` succeeds and its result is —
    up to ids and source positions — the single tree `addressed_at tms tnm ws`: the scopes of the
    target path nested in each other, holding one definition named by the last component with
    EXACTLY the words `ws` (values and quote kinds, in order).  All objects of the result carry
    `primary_id` 1. -/
theorem process_arg_single (home : Option Str) (targets : List Str) (experts : List Int) (arg : Str)
    (objs : List Obj) (src : Str) (m : Meta) (ws : List Word) (i : Nat) (wn : Bool)
    (tms : List Str) (tnm : Str)
    (hparse : parseObjs arg = .ok objs) (hone : allDefinitions objs = [(src, m, ws)])
    (hdep : (m.attrs.get "deprecated").truthy = false)
    (hch : choosePath home targets experts src = .chosen i wn)
    (htp : targets[i]? = some (dottedName tms tnm))
    (hpath : ∀ n ∈ tms, goodName n = true) (hname : goodName tnm = true)
    (hres : isReserved (dottedName tms tnm) = false)
    (hne : ws ≠ []) (hwords : ∀ x ∈ ws, goodWord x = true)
    (hwrap : wrapOK 79 (defIndent (dottedName tms tnm)) ws (defHead (dottedName tms tnm)) true = true) :
    ∃ r, processArg home targets experts arg = .ok r ∧
      eraseList r = [addressed_at tms tnm ws] ∧
      idsList r = List.replicate (tms.length + 1) (some 1) := by
  have hen : m.disabled = false :=
    allDefinitions_enabled_at objs (src, m, ws) (by rw [hone]; simp)
  exact processArg_single_at home targets experts arg objs (src, m, ws) (tms, tnm) hparse hone
    ⟨⟨i, wn, hch, htp⟩, hen, hdep, ⟨hpath, hname, hres, hne, hwords, hwrap⟩⟩

/-- the attribute-free, width-independent form: the definition of the argument carries no
    attributes, and only the LAST word may contain a newline character -/
theorem process_arg_single_plain (home : Option Str) (targets : List Str) (experts : List Int)
    (arg : Str) (objs : List Obj) (src : Str) (m : Meta) (ws : List Word) (i : Nat) (wn : Bool)
    (tms : List Str) (tnm : Str)
    (hparse : parseObjs arg = .ok objs) (hone : allDefinitions objs = [(src, m, ws)])
    (hattrs : m.attrs = [])
    (hch : choosePath home targets experts src = .chosen i wn)
    (htp : targets[i]? = some (dottedName tms tnm))
    (hpath : ∀ n ∈ tms, goodName n = true) (hname : goodName tnm = true)
    (hres : isReserved (dottedName tms tnm) = false)
    (hne : ws ≠ []) (hwords : ∀ x ∈ ws, goodWord x = true)
    (hnl : ∀ w ∈ ws.dropLast, '\n' ∉ w.value) :
    ∃ r, processArg home targets experts arg = .ok r ∧
      eraseList r = [addressed_at tms tnm ws] ∧
      idsList r = List.replicate (tms.length + 1) (some 1) :=
  process_arg_single home targets experts arg objs src m ws i wn tms tnm hparse hone
    (attrs_nil_notDeprecated_at m hattrs) hch htp hpath hname hres hne hwords
    (wrapOK_of_noNl 79 _ ws _ true (fun _ => rfl) (fun w hw => nlCount_of_not_mem (hnl w hw)))

/-- **The same with the argument in closed form.**  The argument is the text `src = w1 … wk`
    (one blank around `=` and between the words, a final newline: the printed form), `src` the dotted
    name `sms.snm` of good components; no hypothesis mentions the parser.  (Other spellings of the
    same definition — `max=3`, no final newline — are covered by `process_arg_single`; see the
    examples.) -/
theorem process_arg_printed_form (home : Option Str) (targets : List Str) (experts : List Int)
    (sms : List Str) (snm : Str) (ws : List Word) (i : Nat) (wn : Bool) (tms : List Str) (tnm : Str)
    (hspath : ∀ n ∈ sms, goodName n = true) (hsname : goodName snm = true)
    (hsres : isReserved (dottedName sms snm) = false)
    (hch : choosePath home targets experts (dottedName sms snm) = .chosen i wn)
    (htp : targets[i]? = some (dottedName tms tnm))
    (hpath : ∀ n ∈ tms, goodName n = true) (hname : goodName tnm = true)
    (hres : isReserved (dottedName tms tnm) = false)
    (hne : ws ≠ []) (hwords : ∀ x ∈ ws, goodWord x = true)
    (hwrap : wrapOK 79 (defIndent (dottedName tms tnm)) ws (defHead (dottedName tms tnm)) true = true) :
    ∃ r, processArg home targets experts
          (dottedName sms snm ++ " =".toList ++ wordsText ws ++ "\n".toList) = .ok r ∧
      eraseList r = [addressed_at tms tnm ws] ∧
      idsList r = List.replicate (tms.length + 1) (some 1) := by
  have hgood : ChainGood_at argWidth_at (tms, tnm, ws) := ⟨hpath, hname, hres, hne, hwords, hwrap⟩
  obtain ⟨objs, d, hparse, hone, hd1, hd2, hd3, hd4⟩ := allDefinitions_fileLine_at (sms, snm, ws)
    ⟨hspath, hsname, hsres, hne, hwords, hgood.toFile.chain⟩
  obtain ⟨r, hr, he, hi⟩ := processArg_single_at home targets experts _ objs d (tms, tnm) hparse hone
    ⟨⟨i, wn, by rw [hd1]; exact hch, htp⟩, hd2, attrs_nil_notDeprecated_at _ hd3,
      chainGood_congr_at hd4 hgood⟩
  refine ⟨r, hr, ?_, hi⟩
  rw [he, hd4]
  rfl

/-! ### 2. exactly as from a file -/

/-- **As from a file.**  In the setting of `process_arg_single`, the file line
    `full.target.path = w1 … wk` parses, and the result of `process_arg` and the parse of that file
    line are the same tree with the same ids; they can differ in source line numbers only (and only
    when `definition.show` wraps the value at width 79). -/
theorem process_arg_as_from_file (home : Option Str) (targets : List Str) (experts : List Int)
    (arg : Str) (objs : List Obj) (src : Str) (m : Meta) (ws : List Word) (i : Nat) (wn : Bool)
    (tms : List Str) (tnm : Str)
    (hparse : parseObjs arg = .ok objs) (hone : allDefinitions objs = [(src, m, ws)])
    (hdep : (m.attrs.get "deprecated").truthy = false)
    (hch : choosePath home targets experts src = .chosen i wn)
    (htp : targets[i]? = some (dottedName tms tnm))
    (hpath : ∀ n ∈ tms, goodName n = true) (hname : goodName tnm = true)
    (hres : isReserved (dottedName tms tnm) = false)
    (hne : ws ≠ []) (hwords : ∀ x ∈ ws, goodWord x = true)
    (hwrap : wrapOK 79 (defIndent (dottedName tms tnm)) ws (defHead (dottedName tms tnm)) true = true) :
    ∃ r f, processArg home targets experts arg = .ok r ∧
      parseObjs (dottedName tms tnm ++ " =".toList ++ wordsText ws ++ "\n".toList) = .ok f ∧
      eraseList r = eraseList f ∧ idsList r = idsList f := by
  obtain ⟨r, hr, he, hi⟩ := process_arg_single home targets experts arg objs src m ws i wn tms tnm
    hparse hone hdep hch htp hpath hname hres hne hwords hwrap
  have hgood : ChainGood_at argWidth_at (tms, tnm, ws) := ⟨hpath, hname, hres, hne, hwords, hwrap⟩
  obtain ⟨f, hf, hef, hif⟩ := parse_fileLines_at [(tms, tnm, ws)] (by
    intro c hc; rw [List.mem_singleton.mp hc]; exact hgood.toFile)
  simp only [List.flatMap_cons, List.flatMap_nil, List.append_nil] at hf
  refine ⟨r, f, hr, hf, ?_, ?_⟩
  · rw [he, hef, List.map_cons, List.map_nil, eraseList_cons, eraseList_nil, addressed_eq_at]
  · rw [hi, hif]
    exact (expIdsSeq_single_chain_at (tms, tnm, ws)).symm

/-- **Lines that fit: literally the parse of the file text.**  Let the parse of the argument hold the
    active definitions `d1 … dn` (n ≥ 1), each addressed by the selection step to a target path `tp_k`
    (ANY string but `include`), none `.deprecated`, and let every line `tp_k = words_k` have at most
    77 characters (so `definition.show` wraps nothing at the default width 79).  Then the outcome of
    `process_arg` IS the outcome of parsing the file text consisting of the lines `tp_k = words_k`:
    the same objects with the same ids and source positions if it parses, the same RuntimeError if
    it does not.  No hypothesis on the words or on the target paths. -/
theorem process_arg_fits_is_file_parse (home : Option Str) (targets : List Str) (experts : List Int)
    (arg : Str) (objs : List Obj) (dts : List (ArgDef_at × Str)) (hne : dts ≠ [])
    (hparse : parseObjs arg = .ok objs) (hdefs : allDefinitions objs = dts.map (·.1))
    (hchosen : ∀ p ∈ dts, ∃ i wn, choosePath home targets experts p.1.1 = .chosen i wn ∧
      targets[i]? = some p.2)
    (hdep : ∀ p ∈ dts, (p.1.2.1.attrs.get "deprecated").truthy = false)
    (hinc : ∀ p ∈ dts, p.2 ≠ "include".toList)
    (hfit : ∀ p ∈ dts, (p.2 ++ " =".toList ++ wordsText p.1.2.2).length ≤ 77) :
    processArg home targets experts arg =
      match parseObjs (dts.flatMap (fun p => p.2 ++ " =".toList ++ wordsText p.1.2.2 ++ "\n".toList)) with
      | .ok r => .ok r
      | .error e => .runtime e := by
  have hen : ∀ p ∈ dts, p.1.2.1.disabled = false := fun p hp =>
    allDefinitions_enabled_at objs p.1 (by rw [hdefs]; exact List.mem_map_of_mem hp)
  rw [processArg_eq_at, hparse]
  dsimp only
  rw [hdefs]
  exact processDefs_ok_at home targets experts (·.1) (fun p => fileLine_at p.2 p.1.2.2) dts hne
    (fun p => by simp [fileLine_at])
    (fun p hp => argDefnText_fits_at
      ⟨hchosen p hp, hen p hp, hdep p hp, hinc p hp, Int.ofNat_le.mpr (hfit p hp)⟩)

/-! ### 3. several definitions in one argument -/

/-- **An argument with several definitions** (`a=1;b=2`).  Let the parse of the argument hold the
    active definitions `d1 … dn` (n ≥ 1, `dts` pairs each with its target `(scopes, name)`), each
    transferred (`Transfers_at`: chosen by the selection step independently of the others, not
    `.deprecated`, good target components, good words, wrapping condition).  Then `process_arg`
    succeeds; its result is, up to ids and source positions, the list of the trees
    `addressed_at target_k words_k` in the order of the definitions; and for ANY individual
    arguments `a1 … an` whose parses hold the one definition `d'_k` with the words of `d_k` (up to
    source lines) transferred to the same target, the results `r1 … rn` of the individual arguments
    exist and the joint result is their concatenation `r1 ++ … ++ rn` (up to ids and positions: the
    individual results all carry id 1, the joint result the ids 1 … n). -/
theorem process_arg_many (home : Option Str) (targets : List Str) (experts : List Int) (arg : Str)
    (objs : List Obj) (dts : List (ArgDef_at × (List Str × Str))) (hne : dts ≠ [])
    (hparse : parseObjs arg = .ok objs) (hdefs : allDefinitions objs = dts.map (·.1))
    (h : ∀ p ∈ dts, Transfers_at home targets experts p.1 p.2) :
    ∃ r, processArg home targets experts arg = .ok r ∧
      eraseList r = dts.map (fun p => addressed_at p.2.1 p.2.2 p.1.2.2) ∧
      ∀ args : List Str,
        ListRel_at (fun (a : Str) (p : ArgDef_at × (List Str × Str)) =>
          ∃ o d', parseObjs a = .ok o ∧ allDefinitions o = [d'] ∧
            Transfers_at home targets experts d' p.2 ∧
            d'.2.2.map Word.erase = p.1.2.2.map Word.erase) args dts →
        ∃ rs, ListRel_at (fun a rk => processArg home targets experts a = .ok rk) args rs ∧
          eraseList r = eraseList rs.flatten := by
  obtain ⟨r, hr, he, _⟩ := processDefs_transfer_at home targets experts dts hne h
  refine ⟨r, ?_, ?_, ?_⟩
  · rw [processArg_eq_at, hparse]
    dsimp only
    rw [hdefs]
    exact hr
  · rw [he, eraseList_eq_map, List.map_map, List.map_map]
    apply List.map_congr_left
    intro p _
    exact (addressed_eq_at p.2.1 p.2.2 p.1.2.2).symm
  · intro args hF
    obtain ⟨rs, hrs, hers⟩ := processArg_individual_at home targets experts args dts hF
    exact ⟨rs, hrs, by rw [he, hers]⟩

/-- **The first refusal wins.**  If the definitions of the argument are `pre ++ d :: post`, every
    definition of `pre` is accepted by the selection step, and `d` is refused — unknown, or
    ambiguous with the best indices `best` — the whole argument is refused with that refusal,
    whatever `post` holds. -/
theorem process_arg_first_refusal (home : Option Str) (targets : List Str) (experts : List Int)
    (arg : Str) (objs : List Obj) (pre post : List ArgDef_at) (d : ArgDef_at)
    (hparse : parseObjs arg = .ok objs) (hdefs : allDefinitions objs = pre ++ d :: post)
    (hpre : ∀ x ∈ pre, ∃ i wn, choosePath home targets experts x.1 = .chosen i wn) :
    (choosePath home targets experts d.1 = .unknown →
      processArg home targets experts arg = .sorry_ "unknown" []) ∧
    (∀ best, choosePath home targets experts d.1 = .ambiguous best →
      processArg home targets experts arg = .sorry_ "ambiguous" (best.filterMap (targets[·]?))) := by
  have hacc : ∀ x ∈ pre, ∃ t, argDefnText_at home targets experts x = .ok t := by
    intro x hx
    obtain ⟨i, wn, hc⟩ := hpre x hx
    exact argDefnText_ok_of_chosen_at home targets experts x i wn hc
  have key : ∀ out, argDefnText_at home targets experts d = .error out →
      processArg home targets experts arg = out := by
    intro out hout
    rw [processArg_eq_at, hparse]
    dsimp only
    rw [hdefs]
    exact processDefs_refusal_at home targets experts pre post d out hacc hout
  constructor
  · intro hu
    apply key
    unfold argDefnText_at
    rw [hu]
  · intro best hb
    apply key
    unfold argDefnText_at
    rw [hb]

/-! ### 4. processing a list of arguments and fetching

  `process(args=[a1, …, an])` interprets the arguments one by one (`process_args`; for plain
  `name=value` arguments it is `process_arg` of each) and returns the list of results;
  `master.fetch(sources=[r1, …, rn])` is `fetchRoot e diff master [r1, …, rn]` on the lists of
  top-level objects. -/

/-- `process_args` on plain, non-blank `name=value` arguments, as far as it succeeds: the results in order.
    The error branch is the model's own (the first refusal of `process_arg`): the library swallows that
    refusal and raises Sorry "Uninterpretable … argument" instead; only `.ok` is used below. -/
def processArgList_at (home : Option Str) (targets : List Str) (experts : List Int) :
    List Str → Except ArgOutcome (List (List Obj))
  | [] => .ok []
  | a :: as =>
    match processArg home targets experts a with
    | .ok r =>
      (match processArgList_at home targets experts as with
       | .ok rs => .ok (r :: rs)
       | .error out => .error out)
    | out => .error out

/-- **Fetching the results of a list of arguments = fetching their concatenation.**  The fetch of the
    sources `[r1, …, rn]` (the interpreted arguments, in order) equals the fetch of the ONE source
    `r1 ++ … ++ rn`: the same result, the same consumed definitions, the same error if any. -/
theorem fetch_of_args_is_fetch_of_list (e : Envs) (diff : Bool) (master : List Obj)
    (rs : List (List Obj)) :
    fetchRoot e diff master rs = fetchRoot e diff master [rs.flatten] :=
  fetchRoot_flatten e diff master _ _ (by simp)

/-- the split law (`Phil.C05.split_law`) for argument results: the arguments may be grouped in any
    way — all sources, two groups, one source — without changing the fetch -/
theorem fetch_args_split (e : Envs) (diff : Bool) (master : List Obj) (rs1 rs2 : List (List Obj)) :
    fetchRoot e diff master (rs1 ++ rs2) = fetchRoot e diff master [rs1.flatten, rs2.flatten] ∧
    fetchRoot e diff master [rs1.flatten, rs2.flatten]
      = fetchRoot e diff master [rs1.flatten ++ rs2.flatten] :=
  ⟨fetchRoot_flatten e diff master _ _ (by simp), (split_law e diff master _ _).symm⟩

/-- one more argument: fetching `r :: rs` is fetching the two sources `r` and `rs` concatenated -/
theorem fetch_args_cons (e : Envs) (diff : Bool) (master : List Obj) (r : List Obj)
    (rs : List (List Obj)) :
    fetchRoot e diff master (r :: rs) = fetchRoot e diff master [r, rs.flatten] :=
  fetchRoot_flatten e diff master _ _ (by simp)

/-- **Processing a list and fetching.**  When the list of arguments is interpreted successfully, its
    results are the results of the individual arguments in order, and fetching them (as the list of
    sources `process` returns) equals fetching the concatenation of the interpreted arguments. -/
theorem process_args_then_fetch (home : Option Str) (targets : List Str) (experts : List Int)
    (args : List Str) (rs : List (List Obj))
    (h : processArgList_at home targets experts args = .ok rs) (e : Envs) (diff : Bool)
    (master : List Obj) :
    ListRel_at (fun a r => processArg home targets experts a = .ok r) args rs ∧
    fetchRoot e diff master rs = fetchRoot e diff master [rs.flatten] := by
  refine ⟨?_, fetch_of_args_is_fetch_of_list e diff master rs⟩
  induction args generalizing rs with
  | nil =>
    rw [processArgList_at] at h
    cases h
    exact .nil
  | cons a as ih =>
    rw [processArgList_at] at h
    cases ha : processArg home targets experts a with
    | ok r =>
      rw [ha] at h
      dsimp only at h
      cases has : processArgList_at home targets experts as with
      | ok rs' =>
        rw [has] at h
        cases h
        exact .cons ha (ih rs' has)
      | error out => rw [has] at h; cases h
    | sorry_ k p => rw [ha] at h; cases h
    | runtime x => rw [ha] at h; cases h

/-! ### 5. examples (kernel-checked; every one replayed on the Python library, which agrees)

  Master `refine { ncs { max = None } max_cycles = None } out { max = None }`, i.e. the parameter paths
  `refine.ncs.max`, `refine.max_cycles`, `out.max`; home scope `refine`.  Python:
  `master.command_line_argument_interpreter(home_scope="refine").process(arg=…)` — the same trees
  (names, `merge_names`, words, quote kinds, `primary_id`s, line numbers), the same refusals. -/

def exMasterText_at : Str :=
  "refine {\n  ncs {\n    max = None\n  }\n  max_cycles = None\n}\nout {\n  max = None\n}\n".toList

def exMaster_at : List Obj :=
  match parseObjs exMasterText_at with
  | .ok objs => objs
  | .error _ => []

theorem exMaster_at_eq : exMaster_at =
    [ .scope { name := "refine".toList, id := some 1, line := some 1 } [
        .scope { name := "ncs".toList, id := some 2, line := some 2 } [
          .defn { name := "max".toList, id := some 3, line := some 3 }
            [{ value := "None".toList, line := some 3 }] ],
        .defn { name := "max_cycles".toList, id := some 4, line := some 5 }
          [{ value := "None".toList, line := some 5 }] ],
      .scope { name := "out".toList, id := some 5, line := some 7 } [
        .defn { name := "max".toList, id := some 6, line := some 8 }
          [{ value := "None".toList, line := some 8 }] ] ] := by
  decide +kernel

/-- its parameter paths, home scope `refine` -/
def exTargets_at : List Str :=
  ["refine.ncs.max".toList, "refine.max_cycles".toList, "out.max".toList]
def exHome_at : Option Str := some "refine".toList

/-- the target paths and expert levels `process_arg` computes from the master -/
example : targetEntries exMaster_at (expertLevels exMaster_at)
    = [("refine.ncs.max".toList, 0), ("refine.max_cycles".toList, 0), ("out.max".toList, 0)] := by
  rw [exMaster_at_eq]
  decide +kernel

example : processArg exHome_at exTargets_at [0, 0, 0] "max=3".toList
    = .ok [.scope { name := "refine".toList, id := some 1 }
        [.scope { name := "ncs".toList, id := some 1, mergeNames := true }
          [.defn { name := "max".toList, id := some 1, line := some 1, mergeNames := true }
            [{ value := ['3'], line := some 1 }]]]] := by
  -- A string literal is `String.ofList […]` for `rw` and for the kernel: rewriting `toList` away before
  -- evaluating keeps the kernel from decoding the literal's UTF-8 bytes, which is most of the work even
  -- for texts as short as these.
  unfold exHome_at exTargets_at
  repeat rw [String.toList_ofList]
  decide +kernel

example : processArg exHome_at exTargets_at [0, 0, 0] "ncs.max = \"a b\" c".toList
    = .ok [.scope { name := "refine".toList, id := some 1 }
        [.scope { name := "ncs".toList, id := some 1, mergeNames := true }
          [.defn { name := "max".toList, id := some 1, line := some 1, mergeNames := true }
            [{ value := "a b".toList, quote := some .d1, line := some 1 },
             { value := ['c'], line := some 1 }]]]] := by
  unfold exHome_at exTargets_at
  repeat rw [String.toList_ofList]
  decide +kernel

example : processArg exHome_at exTargets_at [0, 0, 0] "out.max=1;max_cycles=2".toList
    = .ok [.scope { name := "out".toList, id := some 1 }
          [.defn { name := "max".toList, id := some 1, line := some 1, mergeNames := true }
            [{ value := ['1'], line := some 1 }]],
        .scope { name := "refine".toList, id := some 2 }
          [.defn { name := "max_cycles".toList, id := some 2, line := some 2, mergeNames := true }
            [{ value := ['2'], line := some 2 }]]] := by
  unfold exHome_at exTargets_at
  repeat rw [String.toList_ofList]
  decide +kernel

example : processArg exHome_at exTargets_at [0, 0, 0] "m=1".toList
    = .sorry_ "ambiguous" ["refine.ncs.max".toList, "refine.max_cycles".toList] := by
  unfold exHome_at exTargets_at
  repeat rw [String.toList_ofList]
  decide +kernel
example : processArg none exTargets_at [0, 0, 0] "max=3".toList
    = .sorry_ "ambiguous" ["refine.ncs.max".toList, "out.max".toList] := by
  unfold exTargets_at
  repeat rw [String.toList_ofList]
  decide +kernel
example : processArg exHome_at exTargets_at [0, 0, 0] "foo=1".toList = .sorry_ "unknown" [] := by
  unfold exHome_at exTargets_at
  repeat rw [String.toList_ofList]
  decide +kernel
example : processArg exHome_at exTargets_at [0, 0, 0] "max=1;foo=2;m=3".toList
    = .sorry_ "unknown" [] := by
  unfold exHome_at exTargets_at
  repeat rw [String.toList_ofList]
  decide +kernel
example : processArg exHome_at exTargets_at [0, 0, 0] "max=1;m=3;foo=2".toList
    = .sorry_ "ambiguous" ["refine.ncs.max".toList, "refine.max_cycles".toList] := by
  unfold exHome_at exTargets_at
  repeat rw [String.toList_ofList]
  decide +kernel
theorem deprecated_argument_has_no_effect :
    processArg exHome_at exTargets_at [0, 0, 0] "max=3\n.deprecated=True".toList
      = .sorry_ "no_effect" [] := by
  unfold exHome_at exTargets_at
  repeat rw [String.toList_ofList]
  decide +kernel
example : processArg exHome_at exTargets_at [0, 0, 0] "max=3\n.help=hello".toList
    = processArg exHome_at exTargets_at [0, 0, 0] "max=3".toList := by
  unfold exHome_at exTargets_at
  repeat rw [String.toList_ofList]
  decide +kernel

def exResult_at (a : String) : List Obj :=
  match processArg exHome_at exTargets_at [0, 0, 0] a.toList with
  | .ok r => r
  | _ => []

example : (match fetchRoot envNone false exMaster_at
      [exResult_at "max=3", exResult_at "ncs.max = \"a b\" c", exResult_at "out.max=1;max_cycles=2"] with
    | .ok (ro, _) => asStr {} ro
    | .error e => .error e)
    = .ok ("refine {\n  ncs {\n    max = \"a b\" c\n  }\n  max_cycles = 2\n}\nout {\n  max = 1\n}\n").toList := by
  rw [String.toList_ofList, exMaster_at_eq]
  decide +kernel

/-! ### the examples through the theorems (non-vacuity) -/

/-- non-vacuity of `process_arg_single`: `max=3` (home scope `refine`) -/
example : ∃ r, processArg exHome_at exTargets_at [0, 0, 0] "max=3".toList = .ok r ∧
    eraseList r = [.scope { name := "refine".toList }
        [.scope { name := "ncs".toList, mergeNames := true }
          [.defn { name := "max".toList, mergeNames := true } [{ value := ['3'] }]]]] ∧
    idsList r = [some 1, some 1, some 1] := by
  obtain ⟨r, h1, h2, h3⟩ := process_arg_single exHome_at exTargets_at [0, 0, 0] "max=3".toList
    [.defn { name := "max".toList, id := some 1, line := some 1 } [{ value := ['3'], line := some 1 }]]
    "max".toList { name := "max".toList, id := some 1, line := some 1 }
    [{ value := ['3'], line := some 1 }] 0 false ["refine".toList, "ncs".toList] "max".toList
    (by decide +kernel) (by decide +kernel) (by decide +kernel) (by decide +kernel) (by decide +kernel)
    (by decide +kernel) (by decide +kernel) (by decide +kernel) (by simp) (by decide +kernel)
    (by decide +kernel)
  exact ⟨r, h1, h2.trans (by decide +kernel), h3⟩

/-- non-vacuity of `process_arg_printed_form`: `ncs.max = "a b" c` -/
example : ∃ r, processArg exHome_at exTargets_at [0, 0, 0] "ncs.max = \"a b\" c\n".toList = .ok r ∧
    eraseList r = [.scope { name := "refine".toList }
        [.scope { name := "ncs".toList, mergeNames := true }
          [.defn { name := "max".toList, mergeNames := true }
            [{ value := "a b".toList, quote := some .d1 }, { value := ['c'] }]]]] := by
  obtain ⟨r, h1, h2, _⟩ := process_arg_printed_form exHome_at exTargets_at [0, 0, 0]
    ["ncs".toList] "max".toList [{ value := "a b".toList, quote := some .d1 }, { value := ['c'] }]
    0 false ["refine".toList, "ncs".toList] "max".toList
    (by decide +kernel) (by decide +kernel) (by decide +kernel) (by decide +kernel) (by decide +kernel)
    (by decide +kernel) (by decide +kernel) (by decide +kernel) (by simp) (by decide +kernel)
    (by decide +kernel)
  have e : dottedName ["ncs".toList] "max".toList ++ " =".toList ++
      wordsText [{ value := "a b".toList, quote := some .d1 }, { value := ['c'] }] ++ "\n".toList
      = "ncs.max = \"a b\" c\n".toList := by decide +kernel
  rw [e] at h1
  exact ⟨r, h1, h2.trans (by decide +kernel)⟩

/-- non-vacuity of `process_arg_as_from_file`: the result of `max=3` against the file line
    `refine.ncs.max = 3` -/
example : ∃ r f, processArg exHome_at exTargets_at [0, 0, 0] "max=3".toList = .ok r ∧
    parseObjs "refine.ncs.max = 3\n".toList = .ok f ∧ eraseList r = eraseList f ∧ idsList r = idsList f := by
  obtain ⟨r, f, h1, h2, h3, h4⟩ := process_arg_as_from_file exHome_at exTargets_at [0, 0, 0]
    "max=3".toList
    [.defn { name := "max".toList, id := some 1, line := some 1 } [{ value := ['3'], line := some 1 }]]
    "max".toList { name := "max".toList, id := some 1, line := some 1 }
    [{ value := ['3'], line := some 1 }] 0 false ["refine".toList, "ncs".toList] "max".toList
    (by decide +kernel) (by decide +kernel) (by decide +kernel) (by decide +kernel) (by decide +kernel)
    (by decide +kernel) (by decide +kernel) (by decide +kernel) (by simp) (by decide +kernel)
    (by decide +kernel)
  have e : dottedName ["refine".toList, "ncs".toList] "max".toList ++ " =".toList ++
      wordsText [{ value := ['3'], line := some 1 }] ++ "\n".toList = "refine.ncs.max = 3\n".toList := by
    decide +kernel
  rw [e] at h2
  exact ⟨r, f, h1, h2, h3, h4⟩

/-- the two definitions of `out.max=1;max_cycles=2`, each with its target -/
def exD1_at : ArgDef_at × (List Str × Str) :=
  (("out.max".toList, { name := "max".toList, id := some 1, line := some 1, mergeNames := true },
      [{ value := ['1'], line := some 1 }]), (["out".toList], "max".toList))
def exD2_at : ArgDef_at × (List Str × Str) :=
  (("max_cycles".toList, { name := "max_cycles".toList, id := some 2, line := some 1 },
      [{ value := ['2'], line := some 1 }]), (["refine".toList], "max_cycles".toList))

theorem exD1_transfers_at : Transfers_at exHome_at exTargets_at [0, 0, 0] exD1_at.1 exD1_at.2 :=
  ⟨⟨2, false, by decide +kernel, by decide +kernel⟩, rfl, rfl,
    ⟨show ∀ n ∈ ["out".toList], goodName n = true by decide +kernel, by decide +kernel,
     by decide +kernel, List.cons_ne_nil _ _, by decide +kernel, by decide +kernel⟩⟩

/-- (the same holds whatever id and source line the parser gave the definition) -/
theorem exD2_transfers_at (i l : Option Nat) : Transfers_at exHome_at exTargets_at [0, 0, 0]
    ("max_cycles".toList, { name := "max_cycles".toList, id := i, line := l },
      [{ value := ['2'], line := some 1 }]) exD2_at.2 :=
  ⟨⟨1, false,
      show choosePath exHome_at exTargets_at [0, 0, 0] "max_cycles".toList = .chosen 1 false by
        decide +kernel,
      by decide +kernel⟩, rfl, rfl,
    ⟨show ∀ n ∈ ["refine".toList], goodName n = true by decide +kernel,
     show goodName "max_cycles".toList = true by decide +kernel,
     show isReserved (dottedName ["refine".toList] "max_cycles".toList) = false by decide +kernel,
     by simp,
     show ∀ x ∈ [({ value := ['2'], line := some 1 } : Word)], goodWord x = true by decide +kernel,
     show wrapOK 79 (defIndent (dottedName ["refine".toList] "max_cycles".toList))
       [{ value := ['2'], line := some 1 }]
       (defHead (dottedName ["refine".toList] "max_cycles".toList)) true = true by decide +kernel⟩⟩

/-- non-vacuity of `process_arg_many`: `out.max=1;max_cycles=2` against `out.max=1` and
    `max_cycles=2` -/
example : ∃ r r1 r2, processArg exHome_at exTargets_at [0, 0, 0] "out.max=1;max_cycles=2".toList = .ok r ∧
    processArg exHome_at exTargets_at [0, 0, 0] "out.max=1".toList = .ok r1 ∧
    processArg exHome_at exTargets_at [0, 0, 0] "max_cycles=2".toList = .ok r2 ∧
    eraseList r = eraseList (r1 ++ r2) ∧
    eraseList r = [.scope { name := "out".toList }
                     [.defn { name := "max".toList, mergeNames := true } [{ value := ['1'] }]],
                   .scope { name := "refine".toList }
                     [.defn { name := "max_cycles".toList, mergeNames := true } [{ value := ['2'] }]]] := by
  obtain ⟨r, h1, h2, h3⟩ := process_arg_many exHome_at exTargets_at [0, 0, 0]
    "out.max=1;max_cycles=2".toList
    [.scope { name := "out".toList, id := some 1 }
       [.defn { name := "max".toList, id := some 1, line := some 1, mergeNames := true }
          [{ value := ['1'], line := some 1 }]],
     .defn { name := "max_cycles".toList, id := some 2, line := some 1 } [{ value := ['2'], line := some 1 }]]
    [exD1_at, exD2_at] (by simp) (by decide +kernel) (by decide +kernel) (by
      intro p hp
      simp only [List.mem_cons, List.not_mem_nil, or_false] at hp
      rcases hp with rfl | rfl
      · exact exD1_transfers_at
      · exact exD2_transfers_at _ _)
  obtain ⟨rs, hrs, he⟩ := h3 ["out.max=1".toList, "max_cycles=2".toList]
    (.cons ⟨[.scope { name := "out".toList, id := some 1 }
               [.defn { name := "max".toList, id := some 1, line := some 1, mergeNames := true }
                  [{ value := ['1'], line := some 1 }]]],
            exD1_at.1, by decide +kernel, by decide +kernel, exD1_transfers_at, rfl⟩
      (.cons ⟨[.defn { name := "max_cycles".toList, id := some 1, line := some 1 }
                 [{ value := ['2'], line := some 1 }]],
              ("max_cycles".toList, { name := "max_cycles".toList, id := some 1, line := some 1 },
                [{ value := ['2'], line := some 1 }]),
              by decide +kernel, by decide +kernel, exD2_transfers_at _ _, rfl⟩ .nil))
  cases hrs with
  | cons ha hrest =>
    cases hrest with
    | cons hb hnil =>
      cases hnil
      rename_i r1 r2
      refine ⟨r, r1, r2, h1, ha, hb, ?_, h2.trans (by decide +kernel)⟩
      rw [he]
      simp

/-- non-vacuity of `process_arg_first_refusal`: in `max=1;foo=2;m=3` the unknown `foo` refuses the
    argument (the ambiguous `m` after it is never looked at) -/
example : processArg exHome_at exTargets_at [0, 0, 0] "max=1;foo=2;m=3".toList = .sorry_ "unknown" [] :=
  (process_arg_first_refusal exHome_at exTargets_at [0, 0, 0] "max=1;foo=2;m=3".toList
    [.defn { name := "max".toList, id := some 1, line := some 1 } [{ value := ['1'], line := some 1 }],
     .defn { name := "foo".toList, id := some 2, line := some 1 } [{ value := ['2'], line := some 1 }],
     .defn { name := "m".toList, id := some 3, line := some 1 } [{ value := ['3'], line := some 1 }]]
    [("max".toList, { name := "max".toList, id := some 1, line := some 1 }, [{ value := ['1'], line := some 1 }])]
    [("m".toList, { name := "m".toList, id := some 3, line := some 1 }, [{ value := ['3'], line := some 1 }])]
    ("foo".toList, { name := "foo".toList, id := some 2, line := some 1 }, [{ value := ['2'], line := some 1 }])
    (by decide +kernel) (by decide +kernel)
    (by intro x hx; rw [List.mem_singleton.mp hx]; exact ⟨0, false, by decide +kernel⟩)).1
    (by decide +kernel)

/-- non-vacuity of `process_arg_fits_is_file_parse`: `max=3` is, literally, the parse of the file line
    `refine.ncs.max = 3` -/
example : processArg exHome_at exTargets_at [0, 0, 0] "max=3".toList
    = (match parseObjs "refine.ncs.max = 3\n".toList with
       | .ok r => .ok r
       | .error e => .runtime e) := by
  have h := process_arg_fits_is_file_parse exHome_at exTargets_at [0, 0, 0] "max=3".toList
    [.defn { name := "max".toList, id := some 1, line := some 1 } [{ value := ['3'], line := some 1 }]]
    [(("max".toList, { name := "max".toList, id := some 1, line := some 1 },
        [{ value := ['3'], line := some 1 }]), "refine.ncs.max".toList)]
    (by simp) (by decide +kernel) (by decide +kernel)
    (by intro p hp; rw [List.mem_singleton.mp hp]; exact ⟨0, false, by decide +kernel, by decide +kernel⟩)
    (by intro p hp; rw [List.mem_singleton.mp hp]; rfl)
    (by intro p hp; rw [List.mem_singleton.mp hp]; decide +kernel)
    (by intro p hp; rw [List.mem_singleton.mp hp]; decide +kernel)
  -- the line the theorem builds is the literal: said once, so that neither the unifier nor the kernel runs the parser to find out
  rw [h]
  generalize hx : List.flatMap _ _ = x
  have : x = "refine.ncs.max = 3\n".toList := by rw [← hx]; decide +kernel
  rw [this]

/-! ### the wrapping hypothesis is necessary -/

def exLong_at : Str := List.replicate 70 'z'

/-- **An argument that parses, addresses a parameter, and still fails (finding D6 reached through
    `process_arg`).**  `max = "y⏎z" "zzz…z"` (a quoted word containing a newline, then a long quoted
    word) parses, and `max` addresses `refine.ncs.max`; but the re-rendered line
    `refine.ncs.max = "y⏎z" "zzz…z"` is longer than 77 columns, `definition.show` wraps in front of the
    last word, the continuation ` \` follows a word containing a newline, and the text
    `complete_definitions` does not parse: `process_arg` raises RuntimeError (not Sorry) —
    Python: `Syntax error: improper definition name "\" (command line argument, line 2)`.
    `wrapOK 79 …` — the hypothesis of `process_arg_single` — is false here. -/
theorem wrapped_argument_fails_at :
    (∃ objs, parseObjs ("max = \"y\nz\" \"".toList ++ exLong_at ++ "\"".toList) = .ok objs) ∧
    processArg exHome_at exTargets_at [0, 0, 0] ("max = \"y\nz\" \"".toList ++ exLong_at ++ "\"".toList)
      = .runtime (.runtime "improper_definition_name" (some 2)) ∧
    wrapOK 79 (defIndent "refine.ncs.max".toList)
      [{ value := "y\nz".toList, quote := some .d1 }, { value := exLong_at, quote := some .d1 }]
      (defHead "refine.ncs.max".toList) true = false := by
  unfold exHome_at exTargets_at
  repeat rw [String.toList_ofList]
  exact ⟨exists_ok_of_toBool_at _ (by decide +kernel), by decide +kernel, by decide +kernel⟩

#print axioms addressed_eq_at
#print axioms process_arg_single
#print axioms process_arg_single_plain
#print axioms process_arg_printed_form
#print axioms process_arg_as_from_file
#print axioms process_arg_fits_is_file_parse
#print axioms process_arg_many
#print axioms process_arg_first_refusal
#print axioms fetch_of_args_is_fetch_of_list
#print axioms fetch_args_split
#print axioms fetch_args_cons
#print axioms process_args_then_fetch
#print axioms deprecated_argument_has_no_effect
#print axioms exD1_transfers_at
#print axioms exD2_transfers_at
#print axioms wrapped_argument_fails_at

end Phil.C14
