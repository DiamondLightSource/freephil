/-
  C12 as a DENOTATIONAL closed form.

  "During fetch, $name / $(name) in an unquoted or double-quoted word is replaced by the value of the
  nearest definition of that (possibly dotted, possibly root-anchored) name that appears earlier in the
  same source — searching the enclosing scopes outward — falling back to the process environment and
  otherwise raising 'Undefined variable' with the source line; text in single quotes and text without
  '$' is passed through untouched.  A word that is exactly one unquoted variable takes over the
  referenced words as they are; any other mixture becomes one double-quoted string.  Definitions
  appearing later in the file, and the environment when an earlier definition exists, never influence
  the result, and resolution always terminates."

  The SPECIFICATION (Phil/Proofs/VarsSpec.lean, part A; no fuel, no lookup loop): `nearestEarlier root pos name`,
  the object a `$name` in the definition at `pos` refers to (enclosing scopes from the innermost outward, in each
  the LAST object numbered before the definition that the dotted name denotes; a leading '.' anchors the name at
  the root); `substWord env diff ref w`, one word, given the meaning `ref` of its variables; `denote env root pos
  diff`, the value of the definition at `pos`, by recursion on the id of the referencing definition;
  `DocIds root`, well-formedness of a parsed document (decidable).

  The THEOREM: on documents numbered like the parser numbers them, the operational model
  (`resolveAt`: `lexicalGet` with fuel, `resolveWords` with fuel) computes exactly `denote`.

  Lemmas: Phil/Proofs/VarsSpec.lean (part B) and Phil/Proofs/VarsLemmas.lean.
-/
import Phil.Proofs.VarsSpec
import Phil.Proofs.ObjEq
namespace Phil.C12
open Phil

/-! ### 1. the operational model computes the specification -/

/-- **Main theorem.**  For every environment, every document whose ids are the parser's
    document-order numbering (`DocIds`), every tree position and both modes of `resolve_variables`:
    `resolveAt` (the model of `definition.resolve_variables`) equals `denote`.  This covers dotted and
    root-anchored names, redefinitions, shadowing, references to scopes, undefined names, syntax
    errors in `$…`, and positions that are not definitions (both sides: the same `unsupported`). -/
theorem resolveAt_eq_denote (env : Env) (root : List Obj) (hd : DocIds root) (pos : List Nat)
    (diff : Bool) : resolveAt env root pos diff = denote env root pos diff :=
  resolveAt_eq_denote_vs env root hd pos diff

/-- the form of the task statement (`diff_mode = False`) -/
theorem resolveAt_eq_denote_fetch (env : Env) (root : List Obj) (hd : DocIds root) (pos : List Nat) :
    resolveAt env root pos false = denote env root pos :=
  resolveAt_eq_denote_vs env root hd pos false

/-- **The operational lookup is `nearestEarlier`.**  For the definition `d` at `pos` (id `n`, enclosing
    chain `ch`) and every variable name `fragments` can produce (`GoodName`: after an optional leading
    '.', non-empty components), `scope.lexical_get` with the fuel `resolveWords` passes returns the
    object at the position `nearestEarlier` designates, together with its enclosing chain. -/
theorem lexicalGet_eq_nearestEarlier (root : List Obj) (hd : DocIds root) (pos : List Nat) (d : Obj)
    (ch : Chain) (n : Nat) (hc : chainAt root pos [] = some (d, ch)) (hid : d.meta.id = some n)
    (name : Str) (hg : GoodName name) :
    lexicalGet (2 * name.length + ch.length + 1) ch name n true
      = (nearestEarlier root pos name).bind (fun p => chainAt root p []) := by
  rw [lexicalGet_nearestEarlier_vs root hd.1 pos d ch n hc hid name hg]
  unfold foundOr
  cases nearestEarlier root pos name <;> rfl

/-- every variable name that `fragments` produces is a `GoodName` -/
theorem fragments_good_names (value : Str) (frags : List Fragment) (hv : Bool)
    (h : fragments value = .ok (frags, hv)) : ∀ name, Fragment.var name ∈ frags → GoodName name :=
  fragments_good_vs value frags hv h

/-! ### 2. what the specification says, clause by clause -/

/-- **Earlier in the same source.**  Whatever `nearestEarlier` designates exists in the document and
    has an id strictly smaller than the id of the referencing definition. -/
theorem nearestEarlier_is_earlier_spec (root : List Obj) (pos : List Nat) (name : Str) (p : List Nat)
    (h : nearestEarlier root pos name = some p) :
    ∃ n o i, idAt root pos = some n ∧ objAt root p = some o ∧ o.meta.id = some i ∧ i < n := by
  obtain ⟨n, o, hn, ho, he⟩ := nearestEarlier_earlier_vs root pos name p h
  obtain ⟨i, hi, hlt⟩ := earlier_id_vs he
  exact ⟨n, o, i, hn, ho, hi, hlt⟩

/-- **Unfolding of `denote`** at a definition: every word is substituted, variables mean `refOf`:
    `.undefined` if `nearestEarlier` finds nothing, `.notDefinition` if it finds a scope, the value
    `denote env root p false` of the definition at the position `p` it finds otherwise. -/
theorem denote_unfold_spec (env : Env) (root : List Obj) (pos : List Nat) (diff : Bool) (m : Meta)
    (ws : List Word) (h : objAt root pos = some (.defn m ws)) :
    denote env root pos diff
      = (ws.mapM (substWord env diff (refOf env root pos))).map List.flatten :=
  denote_defn_vs env root pos diff m ws h

/-- **Untouched.**  A definition all of whose words are single-quoted or free of '$' denotes exactly
    its words — in every environment, every document (no well-formedness needed), both modes. -/
theorem single_quote_untouched_spec (env : Env) (root : List Obj) (pos : List Nat) (diff : Bool)
    (m : Meta) (ws : List Word) (h : objAt root pos = some (.defn m ws))
    (hw : ∀ w ∈ ws, w.quote = some .s1 ∨ '$' ∉ w.value) :
    denote env root pos diff = .ok ws := by
  rw [denote_defn_vs env root pos diff m ws h, mapM_untouched_vs env diff _ ws hw]
  simp [Except.map, flatten_singletons_vs]

/-- one word: single-quoted or without '$' → the word itself -/
theorem substWord_untouched_spec (env : Env) (diff : Bool) (ref : Str → VarRef) (w : Word)
    (h : w.quote = some .s1 ∨ '$' ∉ w.value) : substWord env diff ref w = .ok [w] :=
  substWord_untouched_vs env diff ref w h

/-- **Sole variable.**  An unquoted word that is exactly one variable denotes the words of that
    variable as they are (number of words, quotes and line numbers included). -/
theorem sole_variable_spec (env : Env) (diff : Bool) (ref : Str → VarRef) (w : Word) (name : Str)
    (r : R (List Word)) (hq : w.quote = none) (hf : fragments w.value = .ok ([.var name], true))
    (href : ref name = .value r) : substWord env diff ref w = r := by
  rw [substWord_sole_vs env diff ref w name hq hf]
  simp [varWords, href]

/-- **Mixture.**  A word with variables that is quoted (not single-quoted) or has more than one
    fragment denotes ONE double-quoted word: the concatenation of the literal fragments and of the
    blank-joined values of the variables (or the error of the first failing variable). -/
theorem mixture_spec (env : Env) (diff : Bool) (ref : Str → VarRef) (w : Word)
    (frags : List Fragment) (hq : w.quote ≠ some .s1) (hf : fragments w.value = .ok (frags, true))
    (hmix : w.quote.isSome ∨ frags.length > 1) :
    substWord env diff ref w
      = (frags.mapM (fragText env diff ref w)).map (fun texts => [wordDq texts.flatten]) :=
  substWord_forced_vs env diff ref w frags hq hf hmix

/-- **Fallbacks.**  A variable without an earlier object is the environment's value as one
    double-quoted word; without that, the error 'Undefined variable' with the line of the word that
    contains it.  A variable whose nearest earlier object is a scope is the error 'Not a definition'
    with that line.  In `diff` mode an undefined variable stays as the text `$name`. -/
theorem varWords_cases_spec (env : Env) (ref : Str → VarRef) (w : Word) (name : Str) :
    (ref name = .undefined → env name = none →
      varWords env false ref w name = .error (.runtime "undefined_variable" w.line)) ∧
    (∀ v, ref name = .undefined → env name = some v →
      varWords env false ref w name = .ok [{ value := v, quote := some .d1 }]) ∧
    (ref name = .undefined →
      varWords env true ref w name = .ok [{ value := '$' :: name, quote := some .d1 }]) ∧
    (∀ diff, ref name = .notDefinition →
      varWords env diff ref w name = .error (.runtime "not_a_definition" w.line)) ∧
    (∀ diff r, ref name = .value r → varWords env diff ref w name = r) := by
  refine ⟨?_, ?_, ?_, ?_, ?_⟩
  · intro h1 h2; simp [varWords, h1, h2]
  · intro v h1 h2; simp [varWords, h1, h2, wordDq]
  · intro h1; simp [varWords, h1, wordDq]
  · intro diff h1; simp [varWords, h1]
  · intro diff r h1; simp [varWords, h1]

/-! ### 3. later objects, the environment, termination — on the specification -/

/-- **Later objects are irrelevant.**  Two well-formed documents with the same words (and the same
    id `n`) at position `pos` that agree on everything before that definition — `pruneBeforeList n` cuts, at
    every depth, everything from the first object numbered `≥ n` onwards: the definition itself and
    all that follows it in the source — give the definition the same value.  So everything at or after
    the referencing definition can be changed or deleted. -/
theorem later_objects_irrelevant_spec (env : Env) (root1 root2 : List Obj) (hd1 : DocIds root1)
    (hd2 : DocIds root2) (pos : List Nat) (diff : Bool) (m1 m2 : Meta) (ws : List Word) (n : Nat)
    (h1 : objAt root1 pos = some (.defn m1 ws)) (h2 : objAt root2 pos = some (.defn m2 ws))
    (hid1 : m1.id = some n) (hid2 : m2.id = some n)
    (hp : pruneBeforeList n root1 = pruneBeforeList n root2) :
    denote env root1 pos diff = denote env root2 pos diff := by
  obtain ⟨c1, hc1, e1⟩ := resolveAt_defn_vs env root1 hd1 pos diff m1 ws n h1 hid1
  obtain ⟨c2, hc2, e2⟩ := resolveAt_defn_vs env root2 hd2 pos diff m2 ws n h2 hid2
  rw [e1, e2]
  exact resolveWords_frame env _ _ c1 c2 n ws diff rfl
    (prune_chain_agree_vs n _ root1 root2 [] [] c1 c2 hd1.1 hd2.1 hp rfl
      ((chainAt_spec_vs pos root1 []).2 _ _ hc1) ((chainAt_spec_vs pos root2 []).2 _ _ hc2))

/-- **The environment is only a fallback** (one variable).  When an earlier object of that name
    exists, the words the variable contributes depend on the environment only through the value of
    the referenced definition; the environment entry of the same name is never consulted. -/
theorem env_irrelevant_when_defined_spec (env1 env2 : Env) (root : List Obj) (pos : List Nat)
    (diff : Bool) (w : Word) (name : Str) (p : List Nat)
    (h : nearestEarlier root pos name = some p)
    (hrec : denote env1 root p false = denote env2 root p false) :
    varWords env1 diff (refOf env1 root pos) w name = varWords env2 diff (refOf env2 root pos) w name := by
  unfold varWords refOf
  simp only [h]
  cases objAt root p with
  | none => rfl
  | some o =>
    cases o with
    | scope m k => rfl
    | defn m ws => simp only [hrec]

/-- **The environment is only a fallback** (whole definition).  If the definition has a value with
    the EMPTY environment — every variable, transitively, has an earlier definition — it has the same
    value in every environment. -/
theorem env_irrelevant_when_closed_spec (env : Env) (root : List Obj) (hd : DocIds root)
    (pos : List Nat) (diff : Bool) (r : List Word)
    (h : denote (fun _ => none) root pos diff = .ok r) : denote env root pos diff = .ok r :=
  env_closed_vs env root hd pos diff r h

/-- **Termination.**  `denote` is a total function defined by well-founded recursion on the id of the
    referencing definition: the decreasing step is this fact. -/
theorem references_go_to_smaller_ids_spec (root : List Obj) (pos : List Nat) (name : Str) (p : List Nat)
    (h : nearestEarlier root pos name = some p) :
    (idAt root p).getD 0 < (idAt root pos).getD 0 :=
  nearestEarlier_id_lt_vs root pos name p h

/-- … and the operational model, on well-formed documents, therefore never runs out of fuel. -/
theorem resolveAt_never_outOfFuel (env : Env) (root : List Obj) (hd : DocIds root) (pos : List Nat)
    (diff : Bool) : resolveAt env root pos diff ≠ .error .outOfFuel :=
  resolveAt_ne_outOfFuel_vs env root hd pos diff

/-! ### 4. kernel-checked instances through the parser (`decide +kernel`) -/

/-- used by the concrete examples only (`decide +kernel`) -/
local instance exceptDecEqC12 {ε α : Type} [DecidableEq ε] [DecidableEq α] : DecidableEq (Except ε α) := fun a b =>
  match a, b with
  | .ok x, .ok y => if h : x = y then isTrue (by rw [h]) else isFalse (fun e => h (by cases e; rfl))
  | .error x, .error y => if h : x = y then isTrue (by rw [h]) else isFalse (fun e => h (by cases e; rfl))
  | .ok _, .error _ => isFalse (fun e => by cases e)
  | .error _, .ok _ => isFalse (fun e => by cases e)

/-- equality test on trees; used by the concrete examples only (`decide +kernel`) -/
def objDecEqC12 : (a b : Obj) → Decidable (a = b) := objDecEq
local instance objDecEqInstC12 : DecidableEq Obj := objDecEqC12

/-- the parsed document (empty if the text does not parse) -/
def parsed (text : String) : List Obj := (parseObjs text.toList).toOption.getD []

/-- For `rw` and the kernel a literal is `String.ofList […]`: rewriting with this avoids UTF-8 decoding. -/
theorem parsed_ofList (l : List Char) : parsed (String.ofList l) = (parseObjs l).toOption.getD [] := by
  unfold parsed
  rw [String.toList_ofList]

theorem parsed_ok (text : String) (h : (parseObjs text.toList).toBool = true) :
    parseObjs text.toList = .ok (parsed text) := by
  unfold parsed
  cases hp : parseObjs text.toList with
  | error e => simp [hp, Except.toBool] at h
  | ok r => simp [Except.toOption]

theorem parsed_ok_of_cons (text : String) (o : Obj) (os : List Obj) (h : parsed text = o :: os) :
    parseObjs text.toList = .ok (parsed text) := by
  unfold parsed at h ⊢
  cases hp : parseObjs text.toList with
  | error e => simp [hp, Except.toOption] at h
  | ok r => simp [Except.toOption]

def envNone : Env := fun _ => none
def envEvery : Env := fun _ => some "ENV".toList
/-- unquoted word of a source line -/
def wl (s : String) (line : Nat) : Word := { value := s.toList, line := some line }
/-- double-quoted word produced by a substitution (no line) -/
def dq (s : String) : Word := { value := s.toList, quote := some .d1 }

/-- redefinition between uses: `c = $a $b` ↦ `2 1` -/
def textRedef : String := "a=1\nb=$a\na=2\nc=$a $b\n"
theorem parsed_textRedef : parsed textRedef =
    [ .defn { name := "a".toList, id := some 1, line := some 1 } [wl "1" 1],
      .defn { name := "b".toList, id := some 2, line := some 2 } [wl "$a" 2],
      .defn { name := "a".toList, id := some 3, line := some 3 } [wl "2" 3],
      .defn { name := "c".toList, id := some 4, line := some 4 } [wl "$a" 4, wl "$b" 4] ] := by
  unfold textRedef
  rw [parsed_ofList]
  decide +kernel
example : parseObjs textRedef.toList = .ok (parsed textRedef) := parsed_ok_of_cons _ _ _ parsed_textRedef
example : DocIds (parsed textRedef) := by
  rw [parsed_textRedef]
  decide +kernel
example : nearestEarlier (parsed textRedef) [1] "a".toList = some [0] := by
  rw [parsed_textRedef]
  decide +kernel
example : nearestEarlier (parsed textRedef) [3] "a".toList = some [2] := by
  rw [parsed_textRedef]
  decide +kernel
example : denote envNone (parsed textRedef) [1] = .ok [wl "1" 1] := by
  rw [parsed_textRedef]
  decide +kernel
example : denote envNone (parsed textRedef) [3] = .ok [wl "2" 3, wl "1" 1] := by
  rw [parsed_textRedef]
  decide +kernel
example : denote envEvery (parsed textRedef) [3] = .ok [wl "2" 3, wl "1" 1] := by
  rw [parsed_textRedef]
  decide +kernel
/-- the main theorem applied: the operational model gives the same words -/
example : resolveAt envNone (parsed textRedef) [3] false = .ok [wl "2" 3, wl "1" 1] := by
  rw [resolveAt_eq_denote _ _ (by rw [parsed_textRedef]; decide +kernel), parsed_textRedef]
  decide +kernel

/-- shadowing in an inner scope, dotted reference from outside -/
def textShadow : String := "a=outer\ns{\na=inner\nb=$a\n}\nc=$a $(s.b)\n"
theorem parsed_textShadow : parsed textShadow =
    [ .defn { name := "a".toList, id := some 1, line := some 1 } [wl "outer" 1],
      .scope { name := "s".toList, id := some 2, line := some 2 } [
        .defn { name := "a".toList, id := some 3, line := some 3 } [wl "inner" 3],
        .defn { name := "b".toList, id := some 4, line := some 4 } [wl "$a" 4] ],
      .defn { name := "c".toList, id := some 5, line := some 6 } [wl "$a" 6, wl "$(s.b)" 6] ] := by
  unfold textShadow
  rw [parsed_ofList]
  decide +kernel
example : parseObjs textShadow.toList = .ok (parsed textShadow) := parsed_ok_of_cons _ _ _ parsed_textShadow
example : DocIds (parsed textShadow) := by
  rw [parsed_textShadow]
  decide +kernel
example : nearestEarlier (parsed textShadow) [1, 1] "a".toList = some [1, 0] := by
  rw [parsed_textShadow]
  decide +kernel
example : nearestEarlier (parsed textShadow) [2] "a".toList = some [0] := by
  rw [parsed_textShadow]
  decide +kernel
example : nearestEarlier (parsed textShadow) [2] "s.b".toList = some [1, 1] := by
  rw [parsed_textShadow]
  decide +kernel
example : denote envNone (parsed textShadow) [1, 1] = .ok [wl "inner" 3] := by
  rw [parsed_textShadow]
  decide +kernel
example : denote envNone (parsed textShadow) [2] = .ok [wl "outer" 1, wl "inner" 3] := by
  rw [parsed_textShadow]
  decide +kernel

/-- searching outward, root-anchored names, two scopes of the same name (the later one is tried
    first, the earlier one when the rest of the name is not found there), a reference to a scope -/
def textScopes : String :=
  "a=top\ns{\nt{\na=1\n}\n}\ns{\na=in\nt{\nb=2\nx=$a $(.a) $(s.t.a) $(t.b)\ny=$t\n}\n}\n"
theorem parsed_textScopes : parsed textScopes =
    [ .defn { name := "a".toList, id := some 1, line := some 1 } [wl "top" 1],
      .scope { name := "s".toList, id := some 2, line := some 2 } [
        .scope { name := "t".toList, id := some 3, line := some 3 } [
          .defn { name := "a".toList, id := some 4, line := some 4 } [wl "1" 4] ] ],
      .scope { name := "s".toList, id := some 5, line := some 7 } [
        .defn { name := "a".toList, id := some 6, line := some 8 } [wl "in" 8],
        .scope { name := "t".toList, id := some 7, line := some 9 } [
          .defn { name := "b".toList, id := some 8, line := some 10 } [wl "2" 10],
          .defn { name := "x".toList, id := some 9, line := some 11 }
            [wl "$a" 11, wl "$(.a)" 11, wl "$(s.t.a)" 11, wl "$(t.b)" 11],
          .defn { name := "y".toList, id := some 10, line := some 12 } [wl "$t" 12] ] ] ] := by
  unfold textScopes
  rw [parsed_ofList]
  decide +kernel
example : parseObjs textScopes.toList = .ok (parsed textScopes) := parsed_ok_of_cons _ _ _ parsed_textScopes
example : DocIds (parsed textScopes) := by
  rw [parsed_textScopes]
  decide +kernel
example : nearestEarlier (parsed textScopes) [2, 1, 1] "a".toList = some [2, 0] := by
  rw [parsed_textScopes]
  decide +kernel
example : nearestEarlier (parsed textScopes) [2, 1, 1] ".a".toList = some [0] := by
  rw [parsed_textScopes]
  decide +kernel
example : nearestEarlier (parsed textScopes) [2, 1, 1] "s.t.a".toList = some [1, 0, 0] := by
  rw [parsed_textScopes]
  decide +kernel
example : nearestEarlier (parsed textScopes) [2, 1, 1] "t.b".toList = some [2, 1, 0] := by
  rw [parsed_textScopes]
  decide +kernel
example : denote envNone (parsed textScopes) [2, 1, 1]
    = .ok [wl "in" 8, wl "top" 1, wl "1" 4, wl "2" 10] := by
  rw [parsed_textScopes]
  decide +kernel
/-- `$t` is the enclosing scope `t` itself: 'Not a definition', with the line of the word -/
example : nearestEarlier (parsed textScopes) [2, 1, 2] "t".toList = some [2, 1] := by
  rw [parsed_textScopes]
  decide +kernel
example : denote envNone (parsed textScopes) [2, 1, 2] = .error (.runtime "not_a_definition" (some 12)) := by
  rw [parsed_textScopes]
  decide +kernel

/-- self reference, forward reference, environment fallback, undefined, diff mode -/
def textUndef : String := "x=$x\ny=$z\nz=1\n"
theorem parsed_textUndef : parsed textUndef =
    [ .defn { name := "x".toList, id := some 1, line := some 1 } [wl "$x" 1],
      .defn { name := "y".toList, id := some 2, line := some 2 } [wl "$z" 2],
      .defn { name := "z".toList, id := some 3, line := some 3 } [wl "1" 3] ] := by
  unfold textUndef
  rw [parsed_ofList]
  decide +kernel
example : parseObjs textUndef.toList = .ok (parsed textUndef) := parsed_ok_of_cons _ _ _ parsed_textUndef
example : DocIds (parsed textUndef) := by
  rw [parsed_textUndef]
  decide +kernel
example : nearestEarlier (parsed textUndef) [0] "x".toList = none := by
  rw [parsed_textUndef]
  decide +kernel
example : nearestEarlier (parsed textUndef) [1] "z".toList = none := by
  rw [parsed_textUndef]
  decide +kernel
example : denote envNone (parsed textUndef) [0] = .error (.runtime "undefined_variable" (some 1)) := by
  rw [parsed_textUndef]
  decide +kernel
example : denote envNone (parsed textUndef) [1] = .error (.runtime "undefined_variable" (some 2)) := by
  rw [parsed_textUndef]
  decide +kernel
example : denote envEvery (parsed textUndef) [1] = .ok [dq "ENV"] := by
  rw [parsed_textUndef]
  decide +kernel
example : denote envNone (parsed textUndef) [1] true = .ok [dq "$z"] := by
  rw [parsed_textUndef]
  decide +kernel

/-- sole variable keeps the words; mixtures are one double-quoted word; single quotes untouched -/
def textWords : String := "a = 1 \"two words\"\nx = $a pre$a 'lit $a' \"q $a\" plain $(a)$a\n"
theorem parsed_textWords : parsed textWords =
    [ .defn { name := "a".toList, id := some 1, line := some 1 }
        [wl "1" 1, { value := "two words".toList, quote := some .d1, line := some 1 }],
      .defn { name := "x".toList, id := some 2, line := some 2 }
        [wl "$a" 2, wl "pre$a" 2, { value := "lit $a".toList, quote := some .s1, line := some 2 },
         { value := "q $a".toList, quote := some .d1, line := some 2 }, wl "plain" 2, wl "$(a)$a" 2] ] := by
  unfold textWords
  rw [parsed_ofList]
  decide +kernel
example : parseObjs textWords.toList = .ok (parsed textWords) := parsed_ok_of_cons _ _ _ parsed_textWords
example : DocIds (parsed textWords) := by
  rw [parsed_textWords]
  decide +kernel
example : denote envNone (parsed textWords) [1]
    = .ok [wl "1" 1, { value := "two words".toList, quote := some .d1, line := some 1 },
           dq "pre1 two words", { value := "lit $a".toList, quote := some .s1, line := some 2 },
           dq "q 1 two words", wl "plain" 2, dq "1 two words1 two words"] := by
  rw [parsed_textWords]
  decide +kernel

/-- dotted definition names are nested scopes sharing the id of the definition they wrap:
    `a.b = $a` does not see its own scope `a` (environment instead), a later definition does -/
def textDotted : String := "a.b=$a\nc=$(a.b)\nd=$a\n"
theorem parsed_textDotted : parsed textDotted =
    [ .scope { name := "a".toList, id := some 1 } [
        .defn { name := "b".toList, id := some 1, line := some 1, mergeNames := true } [wl "$a" 1] ],
      .defn { name := "c".toList, id := some 2, line := some 2 } [wl "$(a.b)" 2],
      .defn { name := "d".toList, id := some 3, line := some 3 } [wl "$a" 3] ] := by
  unfold textDotted
  rw [parsed_ofList]
  decide +kernel
example : parseObjs textDotted.toList = .ok (parsed textDotted) := parsed_ok_of_cons _ _ _ parsed_textDotted
example : DocIds (parsed textDotted) := by
  rw [parsed_textDotted]
  decide +kernel
example : nearestEarlier (parsed textDotted) [0, 0] "a".toList = none := by
  rw [parsed_textDotted]
  decide +kernel
example : denote envEvery (parsed textDotted) [0, 0] = .ok [dq "ENV"] := by
  rw [parsed_textDotted]
  decide +kernel
example : denote envEvery (parsed textDotted) [1] = .ok [dq "ENV"] := by
  rw [parsed_textDotted]
  decide +kernel
example : denote envEvery (parsed textDotted) [2] = .error (.runtime "not_a_definition" (some 3)) := by
  rw [parsed_textDotted]
  decide +kernel

/-- `later_objects_irrelevant_spec` applied: everything from `x` on is changed / deleted -/
def textLater1 : String := "a=1\ns{\nb=$a\nx=$b $a\nb=9\n}\na=7\nt{\na=8\n}\n"
def textLater2 : String := "a=1\ns{\nb=$a\nx=$b $a\n}\n"
theorem parsed_textLater1 : parsed textLater1 =
    [ .defn { name := "a".toList, id := some 1, line := some 1 } [wl "1" 1],
      .scope { name := "s".toList, id := some 2, line := some 2 } [
        .defn { name := "b".toList, id := some 3, line := some 3 } [wl "$a" 3],
        .defn { name := "x".toList, id := some 4, line := some 4 } [wl "$b" 4, wl "$a" 4],
        .defn { name := "b".toList, id := some 5, line := some 5 } [wl "9" 5] ],
      .defn { name := "a".toList, id := some 6, line := some 7 } [wl "7" 7],
      .scope { name := "t".toList, id := some 7, line := some 8 } [
        .defn { name := "a".toList, id := some 8, line := some 9 } [wl "8" 9] ] ] := by
  unfold textLater1
  rw [parsed_ofList]
  decide +kernel
theorem parsed_textLater2 : parsed textLater2 =
    [ .defn { name := "a".toList, id := some 1, line := some 1 } [wl "1" 1],
      .scope { name := "s".toList, id := some 2, line := some 2 } [
        .defn { name := "b".toList, id := some 3, line := some 3 } [wl "$a" 3],
        .defn { name := "x".toList, id := some 4, line := some 4 } [wl "$b" 4, wl "$a" 4] ] ] := by
  unfold textLater2
  rw [parsed_ofList]
  decide +kernel
example : DocIds (parsed textLater1) ∧ DocIds (parsed textLater2) := by
  rw [parsed_textLater1, parsed_textLater2]
  decide +kernel
example : denote envNone (parsed textLater1) [1, 1] = denote envNone (parsed textLater2) [1, 1] := by
  have h1 : DocIds (parsed textLater1) := by
    rw [parsed_textLater1]
    decide +kernel
  have h2 : DocIds (parsed textLater2) := by
    rw [parsed_textLater2]
    decide +kernel
  obtain ⟨m1, hm1⟩ : ∃ m, objAt (parsed textLater1) [1, 1] = some (.defn m [wl "$b" 4, wl "$a" 4]) ∧ m.id = some 4 :=
    ⟨{ name := "x".toList, id := some 4, line := some 4 }, by rw [parsed_textLater1]; decide +kernel⟩
  obtain ⟨m2, hm2⟩ : ∃ m, objAt (parsed textLater2) [1, 1] = some (.defn m [wl "$b" 4, wl "$a" 4]) ∧ m.id = some 4 :=
    ⟨{ name := "x".toList, id := some 4, line := some 4 }, by rw [parsed_textLater2]; decide +kernel⟩
  exact later_objects_irrelevant_spec envNone _ _ h1 h2 [1, 1] false m1 m2 _ 4 hm1.1 hm2.1 hm1.2 hm2.2
    (by rw [parsed_textLater1, parsed_textLater2]; decide +kernel)
example : denote envNone (parsed textLater1) [1, 1] = .ok [wl "1" 1, wl "1" 1] := by
  rw [parsed_textLater1]
  decide +kernel

/-- `DocIds` is not vacuous the other way either: a hand-made tree with a missing id or decreasing
    sibling ids is rejected -/
example : ¬ DocIds [.defn { name := "a".toList } []] := by decide +kernel
example : ¬ DocIds [.defn { name := "a".toList, id := some 2 } [], .defn { name := "b".toList, id := some 1 } []] := by
  decide +kernel

end Phil.C12

section Axioms
open Phil.C12
#print axioms resolveAt_eq_denote
#print axioms resolveAt_eq_denote_fetch
#print axioms lexicalGet_eq_nearestEarlier
#print axioms fragments_good_names
#print axioms nearestEarlier_is_earlier_spec
#print axioms denote_unfold_spec
#print axioms single_quote_untouched_spec
#print axioms substWord_untouched_spec
#print axioms sole_variable_spec
#print axioms mixture_spec
#print axioms varWords_cases_spec
#print axioms later_objects_irrelevant_spec
#print axioms env_irrelevant_when_defined_spec
#print axioms env_irrelevant_when_closed_spec
#print axioms references_go_to_smaller_ids_spec
#print axioms resolveAt_never_outOfFuel
#print axioms denote
end Axioms
