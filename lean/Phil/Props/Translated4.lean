/-
  Phil.Props.Translated4 — the translated printer decisions composed into `scope.show` (C19), and the translated
  `full_path` tied to the `__phil_path__` of C18's theorems (C18).

  1. `showScope_hidden` / `showScope_shown`: `showObj` on a scope whose `.expert_level` is `None` or an int returns
     `.ok []` exactly when one of the TRANSLATED gates of `scope.show` (`Gen.scope_template_gate`,
     `Gen.scope_expert_gate`) is true; otherwise it is the header/body form `showScopeBodyT`.
  2. `phil_path_eq_full_path`: the path an extracted node reports (`philPath (chainOf …) none`, C18) is
     `Gen.full_path` of the master scope it was extracted from; `scope_paths_eq_full_paths` /
     `fetchRoot_extract_node_paths_full_path`: the same for ALL nodes of an extraction at once.
-/
import Phil.Props.Translated3
import Phil.Props.C18Tree
namespace Phil.Translated4
open Phil Phil.Translated3 Phil.C18

/-! ### 1. scope.show -/

/-- the rest of `scope.show` after the two gates: nameless scope → its objects; a scope whose first object merges
    names → the objects with the name pushed on `merged`; otherwise header (with attributes), body, closing brace -/
def showScopeBodyT (o : ShowOpts) (m : Meta) (objs : List Obj) (merged : List Str) (prefix_ : Str) : R (List Str) :=
  if m.name.isEmpty then showObjs o objs merged prefix_
  else
    let firstMerges := match objs with
      | c :: _ => c.meta.mergeNames
      | [] => false
    if firstMerges then showObjs o objs (merged ++ [m.name]) prefix_
    else
      let hash : Str := if m.disabled then ['!'] else []
      match showAttributes scopeAttrNames m.attrs prefix_ o.level o.width with
      | .error e => .error e
      | .ok attrs =>
        let mergedName := joinWith ['.'] (merged ++ [m.name])
        let head := if attrs.isEmpty then [prefix_ ++ hash ++ mergedName ++ " {".toList]
                    else [prefix_ ++ hash ++ mergedName] ++ attrs ++ [prefix_ ++ ['{']]
        match showObjs o objs [] (prefix_ ++ "  ".toList) with
        | .error e => .error e
        | .ok body => .ok (head ++ body ++ [prefix_ ++ ['}']])

/-- `scope.show` as the two gates followed by the body (all scopes, no hypothesis) -/
theorem showObj_scope_gates (o : ShowOpts) (m : Meta) (objs : List Obj) (merged : List Str) (prefix_ : Str) :
    showObj o (.scope m objs) merged prefix_ =
      if m.tmpl < 0 && o.level < 2 then .ok []
      else
        match expertHidden (m.attrs.get "expert_level") o.expert with
        | .error e => .error e
        | .ok true => .ok []
        | .ok false => showScopeBodyT o m objs merged prefix_ := by
  cases objs <;> rfl

/-- on the `None`-or-int class, "prints nothing because of a gate" is decided by the translated expression; when
    the gates are false the result is the body, whatever it is -/
theorem showScope_gate_iff (o : ShowOpts) (m : Meta) (objs : List Obj) (merged : List Str) (prefix_ : Str)
    (e : Option Int) (he : m.attrs.get "expert_level" = optIntAttr e) :
    showObj o (.scope m objs) merged prefix_
      = if Gen.scope_template_gate m.tmpl o.level || Gen.scope_expert_gate e o.expert then .ok []
        else showScopeBodyT o m objs merged prefix_ := by
  rw [showObj_scope_gates, he, scope_expert_gate_eq, scope_template_gate_eq]
  cases (decide (m.tmpl < 0) && decide (o.level < 2)) <;> cases Gen.scope_expert_gate e o.expert <;> rfl

/-- a scope whose `expert_level` is `None` or an int prints NOTHING (not even its braces, and none of its
    objects) when one of the translated gates of `scope.show` holds … -/
theorem showScope_hidden (o : ShowOpts) (m : Meta) (objs : List Obj) (merged : List Str) (prefix_ : Str)
    (e : Option Int) (he : m.attrs.get "expert_level" = optIntAttr e)
    (h : (Gen.scope_template_gate m.tmpl o.level || Gen.scope_expert_gate e o.expert) = true) :
    showObj o (.scope m objs) merged prefix_ = .ok [] := by
  rw [showScope_gate_iff o m objs merged prefix_ e he, if_pos h]

/-- … and otherwise its header/body form -/
theorem showScope_shown (o : ShowOpts) (m : Meta) (objs : List Obj) (merged : List Str) (prefix_ : Str)
    (e : Option Int) (he : m.attrs.get "expert_level" = optIntAttr e)
    (h : (Gen.scope_template_gate m.tmpl o.level || Gen.scope_expert_gate e o.expert) = false) :
    showObj o (.scope m objs) merged prefix_ = showScopeBodyT o m objs merged prefix_ := by
  rw [showScope_gate_iff o m objs merged prefix_ e he, h]
  rfl

/-- a named scope with a non-merging first object and no printed attributes: header line, body, brace -/
theorem showScopeBodyT_plain (o : ShowOpts) (m : Meta) (x : Obj) (xs : List Obj) (merged : List Str) (prefix_ : Str)
    (hn : m.name.isEmpty = false) (hm : x.meta.mergeNames = false)
    (ha : showAttributes scopeAttrNames m.attrs prefix_ o.level o.width = .ok [])
    (body : List Str) (hb : showObjs o (x :: xs) [] (prefix_ ++ "  ".toList) = .ok body) :
    showScopeBodyT o m (x :: xs) merged prefix_
      = .ok ([prefix_ ++ (if m.disabled then ['!'] else []) ++ joinWith ['.'] (merged ++ [m.name]) ++ " {".toList]
              ++ body ++ [prefix_ ++ ['}']]) := by
  unfold showScopeBodyT
  simp only [hn, hm, ha, hb, Bool.false_eq_true, if_false]
  rfl

/-- the `None`-or-int hypothesis is sharp: with a string in `.expert_level` and a non-negative requested level
    `scope.show` raises (Python: TypeError from `>`), so no Boolean gate describes it -/
theorem showScope_str_expert_raises :
    showObj { expert := some 0 } (.scope { name := "s".toList, attrs := [("expert_level", .str "x".toList)] } [])
      [] [] = .error (.stray "TypeError" "expert_level_compare") := by rfl

/-! ### 2. full_path and `__phil_path__` -/

/-- `".".join(l)` is C18's `dotted l` -/
theorem joinWith_dot_eq_dotted : ∀ (l : List Str), joinWith ['.'] l = dotted l
  | [] => rfl
  | [_] => rfl
  | x :: y :: rest => by
    show x ++ ['.'] ++ joinWith ['.'] (y :: rest) = x ++ '.' :: dotted (y :: rest)
    rw [joinWith_dot_eq_dotted (y :: rest)]
    simp

/-! #### without any hypothesis on the names

`__phil_path__` stops at a parent whose `__phil_name__` is empty exactly as `full_path` stops at a scope with an
empty name, so the two agree on EVERY chain of names (not only the parser's). -/

/-- the names `full_path_climb` collects -/
def climbS : List Str → List Str
  | [] => []
  | n :: rest => if n == ([] : Str) then [] else n :: climbS rest

theorem full_path_climb_climbS (ps acc : List Str) : Gen.full_path_climb ps acc = acc ++ climbS ps := by
  induction ps generalizing acc with
  | nil => simp [Gen.full_path_climb, climbS]
  | cons n rest ih =>
    simp only [Gen.full_path_climb, climbS]
    split
    · simp
    · rw [ih]; simp

theorem phil_path_climbS (ps : List Str) : ∀ (name : Str),
    philPath ((name :: ps).map some) none = dotted ((name :: climbS ps).reverse) := by
  induction ps with
  | nil => intro name; simp [philPath, climbS, dotted]
  | cons p rest ih =>
    intro name
    cases p with
    | nil => simp [philPath, climbS, dotted]
    | cons c cs =>
      have hstep := philPath_step name (c :: cs) (rest.map some) rfl none
      simp only [List.map_cons] at hstep ih ⊢
      rw [hstep, ih (c :: cs)]
      have h1 : ((c :: cs) == ([] : Str)) = false := rfl
      simp only [climbS, h1, Bool.false_eq_true, if_false]
      have hrev : (name :: (c :: cs) :: climbS rest).reverse = ((c :: cs) :: climbS rest).reverse ++ [name] := by simp
      rw [hrev, dotted_snoc _ _ (by simp)]
      simp

/-- **`__phil_path__()` = `full_path()` on all name chains**: a node whose `__phil_name__` is `name` and whose
    ancestors' names are `parents` (innermost first; any strings, empty ones included, any length) reports the
    translated `full_path` of an object with that name and those `primary_parent_scope` names -/
theorem phil_path_eq_full_path_all (name : Str) (parents : List Str) :
    philPath ((name :: parents).map some) none = Gen.full_path name parents := by
  rw [phil_path_climbS]
  unfold Gen.full_path Py.join
  simp only [full_path_climb_climbS, joinWith_dot_eq_dotted]
  rfl

/-! #### the parser's chains: non-empty names up to the nameless root -/

/-- a parent chain that leads through the non-empty names `q` (innermost first) to the nameless root -/
theorem climbNames_to_root (q : List Str) (hq : ∀ n ∈ q, n ≠ []) :
    ∀ (ch : PChain), ch.map (·.name) = q ++ [[]] → climbNames ch = q := by
  induction q with
  | nil =>
    intro ch h
    cases ch with
    | nil => simp at h
    | cons f rest =>
      simp only [List.map_cons, List.nil_append, List.cons.injEq] at h
      simp [climbNames, h.1]
  | cons a q ih =>
    intro ch h
    cases ch with
    | nil => simp at h
    | cons f rest =>
      simp only [List.map_cons, List.cons_append, List.cons.injEq] at h
      obtain ⟨h1, h2⟩ := h
      subst h1
      have ha : f.name ≠ [] := hq f.name (by simp)
      have hf : f.name.isEmpty = false := List.isEmpty_eq_false_iff.mpr ha
      simp only [climbNames, hf, Bool.false_eq_true, if_false]
      rw [ih (fun n hn => hq n (by simp [hn])) rest h2]

/-- **`full_path` is the dotted path.**  For an object named `name` whose parent chain leads through the scopes
    `p` (root first, all names non-empty) to the nameless root, the translated `full_path` is `p₁.….p_k.name` -/
theorem full_path_eq_dotted (name : Str) (p : List Str) (hp : ∀ n ∈ p, n ≠ []) (ch : PChain)
    (hch : ch.map (·.name) = p.reverse ++ [[]]) :
    Gen.full_path name (ch.map (·.name)) = dotted (p ++ [name]) := by
  rw [full_path_eq, fullPathOf, climbNames_to_root p.reverse (by simpa using hp) ch hch, joinWith_dot_eq_dotted]
  simp

/-- **`__phil_path__` is `full_path`.**  The extracted node reached from the root through the names `p ++ [name]`
    (its `__phil_name__` chain is `chainOf (name :: p.reverse)`) reports the `full_path()` of the master scope
    `name` whose parents are the scopes `p` — any depth (`hn`, `hp` are not used: `phil_path_eq_full_path_all`) -/
theorem phil_path_eq_full_path (name : Str) (hn : name ≠ []) (p : List Str) (hp : ∀ n ∈ p, n ≠ []) (ch : PChain)
    (hch : ch.map (·.name) = p.reverse ++ [[]]) :
    philPath (chainOf (name :: p.reverse)) none = Gen.full_path name (ch.map (·.name)) := by
  rw [hch, ← phil_path_eq_full_path_all]
  simp [chainOf]

/-- below a node with a non-empty name, the path reported for a parameter `o` is the path of a node named `o` -/
theorem philPath_parameter (n : Str) (hn : n.isEmpty = false) (ps : List (Option Str)) (o : Str) :
    philPath (some n :: ps) (some o) = philPath (some o :: some n :: ps) none := by
  rcases ps with _ | ⟨_ | p, ps⟩ <;> simp [philPath, hn]
  split <;> simp

/-- … and the path it reports for one of its parameters `o` is the `full_path()` of the master definition `o`
    in that scope (`hp` is not used) -/
theorem phil_path_parameter_eq_full_path (name : Str) (hn : name ≠ []) (p : List Str) (hp : ∀ n ∈ p, n ≠ [])
    (ch : PChain) (hch : ch.map (·.name) = p.reverse ++ [[]]) (kids : List Obj) (o : Str) :
    philPath (chainOf (name :: p.reverse)) (some o)
      = Gen.full_path o (({ name := name, objs := kids } :: ch : PChain).map (·.name)) := by
  rw [List.map_cons, hch, ← phil_path_eq_full_path_all]
  exact (philPath_parameter name (List.isEmpty_eq_false_iff.mpr hn) _ o).trans (by simp)

/-- the root node: `__phil_path__()` is `""`, the `full_path()` of the root scope (name `""`, no parent) -/
theorem phil_path_root_eq_full_path : philPath (chainOf []) none = Gen.full_path [] [] := by decide

/-! #### all nodes of an extraction at once -/

mutual
/-- the scopes of a linked tree that extract to a `scope_extract` node (enabled, not a template; nothing below a
    disabled scope or a template), pre-order -/
def liveScopesObjP : PObj → List PObj
  | .defn _ _ _ => []
  | .scope m kids par => if !m.disabled && m.tmpl == 0 then .scope m kids par :: liveScopesP kids else []
def liveScopesP : List PObj → List PObj
  | [] => []
  | o :: os => liveScopesObjP o ++ liveScopesP os
end

/-- `o.full_path()` through the translated function -/
def genFullPath (o : PObj) : Str := Gen.full_path o.name (o.par.map (·.name))

mutual
theorem scopePathsObj_eq_full_paths : ∀ (o : Obj) (p : List Str) (ch : PChain), ScopeNamed_st o →
    (∀ n ∈ p, n ≠ []) → ch.map (·.name) = p.reverse ++ [[]] →
    scopePathsObj_st o p = (liveScopesObjP (annotObj ch o)).map genFullPath
  | .defn _ _, _, _, _, _, _ => by rw [scopePathsObj_st, annotObj, liveScopesObjP]; rfl
  | .scope m kids, p, ch, hs, hp, hch => by
    rw [ScopeNamed_st] at hs
    rw [scopePathsObj_st, annotObj, liveScopesObjP]
    split
    · have hp' : ∀ n ∈ p ++ [m.name], n ≠ [] := by
        intro n h
        simp only [List.mem_append, List.mem_singleton] at h
        rcases h with h | rfl
        · exact hp n h
        · exact hs.1
      rw [List.map_cons, scopePathsKids_eq_full_paths kids (p ++ [m.name])
        ({ name := m.name, objs := kids } :: ch) hs.2 hp' (by simp [hch])]
      congr 1
      exact (full_path_eq_dotted m.name p hp ch hch).symm
    · rfl
theorem scopePathsKids_eq_full_paths : ∀ (l : List Obj) (p : List Str) (ch : PChain), ScopeNamedKids_st l →
    (∀ n ∈ p, n ≠ []) → ch.map (·.name) = p.reverse ++ [[]] →
    scopePathsKids_st l p = (liveScopesP (annotL ch l)).map genFullPath
  | [], _, _, _, _, _ => by rw [scopePathsKids_st, annotL, liveScopesP]; rfl
  | o :: os, p, ch, hs, hp, hch => by
    rw [ScopeNamedKids_st] at hs
    rw [scopePathsKids_st, annotL, liveScopesP, List.map_append,
      scopePathsObj_eq_full_paths o p ch hs.1 hp hch, scopePathsKids_eq_full_paths os p ch hs.2 hp hch]
end

/-- the root scope `parse` returns, with its parent links -/
def rootP (objs : List Obj) : PObj := .scope { name := [], id := some 0 } (annotL (rootChain objs) objs) []

/-- **`scope_paths_eq_full_paths`.**  C18's list of node paths of a tree (`scopePaths kids []`: the root, then every
    enabled non-template scope, pre-order) is the list of the TRANSLATED `full_path()` of those scope objects of
    the parsed, parent-linked tree — all trees with named scopes, any depth -/
theorem scope_paths_eq_full_paths (kids : List Obj) (hn : ScopeNamedKids_st kids) :
    scopePaths kids [] = (liveScopesObjP (rootP kids)).map genFullPath := by
  unfold scopePaths rootP
  rw [liveScopesObjP]
  simp only [Bool.not_false, Bool.true_and, show ((0 : Int) == 0) = true from rfl, if_true, List.map_cons]
  rw [scopePathsKids_eq_full_paths kids [] (rootChain kids) hn (by simp) (by simp [rootChain])]
  rfl

/-- **the extracted object's node paths are the master's full paths.**  For a nested master without `.multiple`
    (`TreeMaster`, no templates, depth ≤ 1000) and ARBITRARY sources: if `master.fetch(sources)` and `.extract()`
    succeed, then the `__phil_path__()` of ALL `scope_extract` nodes of the result, pre-order, are the translated
    `full_path()` of the master's scope objects, in document order -/
theorem fetchRoot_extract_node_paths_full_path (e : Envs) (master : List Obj) (ss : List (List Obj))
    (hf : TreeMaster master) (hd : depthL master ≤ 1000) (hsrc : SrcTree ss.flatten)
    (hlive : scopesLiveKidsB_st master = true) (hnamed : ScopeNamedKids_st master)
    (xfuel fuel' : Nat) (hx : depthL master + 1 < xfuel) (hd' : depthL master < fuel')
    (ro : Obj) (used : List Nat) (v : PVal)
    (h : fetchRoot e false master ss = .ok (ro, used)) (hv : extractObj e xfuel ro = .ok v) :
    nodePaths fuel' [some []] v = (liveScopesObjP (rootP master)).map genFullPath := by
  rw [fetchRoot_extract_node_paths' e master ss hf hd hsrc hlive xfuel fuel' hx hd' ro used v h hv,
    scope_paths_eq_full_paths master hnamed]

/-- the non-empty-name hypothesis of `full_path_eq_dotted` is sharp: below a scope with an EMPTY name `full_path`
    stops climbing, so it is not the dotted join of all names (the parser never produces an empty name) -/
theorem full_path_stops_at_empty_name :
    Gen.full_path "b".toList ["".toList, "a".toList, []] = "b".toList
    ∧ dotted ["a".toList, "".toList, "b".toList] = "a..b".toList := by decide

/-! concrete instances: the hypotheses are satisfiable on parsed input -/

/-- `showScope_hidden` (requested expert level 1) and `showScope_shown` (level 2) apply to a parsed scope with
    `.expert_level = 2` -/
example : okAnd3 (parseObjs "s\n  .expert_level = 2\n{\n  a = 1\n}\n".toList) (fun objs => match objs with
    | [.scope m _] => decide (m.attrs.get "expert_level" = optIntAttr (some 2))
        && (Gen.scope_template_gate m.tmpl 0 || Gen.scope_expert_gate (some 2) (some 1))
        && !(Gen.scope_template_gate m.tmpl 0 || Gen.scope_expert_gate (some 2) (some 2))
    | _ => false) = true := by
  repeat rw [String.toList_ofList]
  decide +kernel

/-- `scope_paths_eq_full_paths` on a parsed master with a disabled scope and a dotted scope name: the scopes are
    named, and the full paths are those Python reports (`['', 't', 't.u', 't.u.v']`) -/
example : okAnd3 (parseObjs "a = 1\n!s {\n  b = 1\n}\nt {\n  c = 1\n  u.v {\n   d = 1\n  }\n}\n".toList) (fun objs =>
    scopeNamedKidsB_st objs
      && (liveScopesObjP (rootP objs)).map genFullPath == ["".toList, "t".toList, "t.u".toList, "t.u.v".toList]
      && scopePaths objs [] == ["".toList, "t".toList, "t.u".toList, "t.u.v".toList]) = true := by
  repeat rw [String.toList_ofList]
  decide +kernel

example : philPath (["v".toList, "u".toList, "t".toList, []].map some) none
    = Gen.full_path "v".toList ["u".toList, "t".toList, []] := phil_path_eq_full_path_all _ _

end Phil.Translated4

#print axioms Phil.Translated4.showObj_scope_gates
#print axioms Phil.Translated4.showScope_hidden
#print axioms Phil.Translated4.showScope_shown
#print axioms Phil.Translated4.showScope_gate_iff
#print axioms Phil.Translated4.showScopeBodyT_plain
#print axioms Phil.Translated4.showScope_str_expert_raises
#print axioms Phil.Translated4.joinWith_dot_eq_dotted
#print axioms Phil.Translated4.climbNames_to_root
#print axioms Phil.Translated4.full_path_eq_dotted
#print axioms Phil.Translated4.phil_path_eq_full_path
#print axioms Phil.Translated4.phil_path_parameter_eq_full_path
#print axioms Phil.Translated4.phil_path_root_eq_full_path
#print axioms Phil.Translated4.scopePathsObj_eq_full_paths
#print axioms Phil.Translated4.scopePathsKids_eq_full_paths
#print axioms Phil.Translated4.scope_paths_eq_full_paths
#print axioms Phil.Translated4.fetchRoot_extract_node_paths_full_path
#print axioms Phil.Translated4.full_path_stops_at_empty_name
#print axioms Phil.Translated4.full_path_climb_climbS
#print axioms Phil.Translated4.phil_path_climbS
#print axioms Phil.Translated4.phil_path_eq_full_path_all
