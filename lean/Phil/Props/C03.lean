/-
  C03 — Quoting any string and tokenizing it back returns exactly that string.
  Property theorems only; lemmas are in Phil/Proofs/Quote.lean.
-/
import Phil.Proofs.Quote
import Phil.Parse
namespace Phil.C03
open Phil

/-- `str(word)` of a quoted word is the quoted text the printer emits (observation 3 of the property). -/
theorem str_word (q : Quote) (s : Str) (l : Option Nat) :
    (Word.mk s (some q) l).str = quoteStr q s := rfl

theorem mk'_char_triple (q : Quote) : Quote.mk' q.char q.triple = q := by
  cases q <;> rfl

theorem quote_char_cases (q : Quote) : q.char = '"' ∨ q.char = '\'' := by
  cases q <;> simp [Quote.char]

/-- One step of the word iterator on a quoted literal followed by any text that does not begin with
    the quote character, under any settings whose comment characters do not include the quote
    characters (all three settings of freephil): the word is exactly `s`, its style is `q`, the
    following text is untouched and the line counter advanced by the newlines of `s`. -/
theorem next_word_of_quoted (st : Settings) (q : Quote) (s rest : Str) (line : Nat)
    (hcm : st.commentChars.contains q.char = false)
    (hrest : ∀ r, rest ≠ q.char :: r) :
    nextWordAux st false (quoteStr q s ++ rest) line
      = .ok (some ({ value := s, quote := some q, line := some line }, ⟨rest, line + nlCount s⟩)) := by
  have hc := quote_char_cases q
  obtain ⟨_, _, hsp, _⟩ := quoteChar_facts q.char hc
  have hmem : q.char ∉ st.commentChars := by simpa using hcm
  have : quoteStr q s ++ rest = q.char :: ((if q.triple then [q.char, q.char] else []) ++
      (escape q.char s ++ q.char :: ((if q.triple then [q.char, q.char] else []) ++ rest))) := by
    cases q <;> simp [quoteStr, Quote.token, Quote.triple]
  rw [this, nextWordAux_word st _ _ _ hsp (by simp [isCommentStart, hmem]),
    wordAt_quoted st q.char hc q.triple s rest line (fun _ => hrest), mk'_char_triple]
  rfl

/-- C03, stand-alone value literal: for every string and each of the four quote styles,
    `tokenize_value_literal(quote_python_str(q, s))` is exactly one word with text `s` and style `q`. -/
theorem tokenize_quote (q : Quote) (s : Str) :
    tokenizeValueLiteral (quoteStr q s) = .ok [{ value := s, quote := some q, line := some 1 }] := by
  have h := next_word_of_quoted literalSettings q s [] 1 (by simp [literalSettings]) (by simp)
  simp only [List.append_nil] at h
  obtain ⟨n, hn⟩ : ∃ n, (quoteStr q s).length = n + 1 :=
    ⟨(quoteStr q s).length - 1, by have := quoteStr_length_pos q s; omega⟩
  simp only [tokenizeValueLiteral, allWords, allWordsAux, nextWord, h, hn]
  simp [nextWordAux]

/-- Non-vacuity / sanity: a string with every troublesome character class, all four styles. -/
example : tokenizeValueLiteral (quoteStr .d3 "a\"'\\\n $#{};=".toList)
    = .ok [{ value := "a\"'\\\n $#{};=".toList, quote := some .d3, line := some 1 }] :=
  tokenize_quote _ _

end Phil.C03
