/-
  C17, the fetch clauses, on the object-identity model: purity of `scope.fetch` (non-diff) as theorems about the
  heap-level model `fetchH` (Phil/HeapFetch2.lean), which follows common.py line by line for what the call
  ALLOCATES, WRITES and SHARES and is tied to /repo by the identity-graph correspondence `heap_fetch_graph` of
  ./check C17 (graph of the new objects reachable from the real result, parent links, old objects among the
  children, `tmp` writes).

  * `fetchH_frame`            — no existing cell is written: the heap only grows; the only other effect are the
                                 `tmp = True` marks, and they go to definition cells;
  * `fetchH_sharing`          — the shape of the result (`ResShape`): new cells all the way down, except below
                                 TEMPLATE COPIES of `.multiple` scopes, which hold the child list of an old cell;
  * `fetchH_old_only_through_templates` — exactly which old objects are reachable from the result through
                                 `objects`: those below the children of an old scope of which the result holds a
                                 template copy — nothing else (finding D21 is the sharp edge:
                                 `template_children_are_reached`, `assignment_below_template_leaks`);
  * `fetchH_assign_frame`     — any history of field assignments to NEW objects (every object of the result
                                 that is not one of those shared children) leaves the abstraction of every old
                                 object — master and sources — unchanged;
  * `fetchH_abs`              — abstraction: whenever the heap-level fetch returns, the pure model `fetchScope`
                                 (Phil/Fetch.lean, the model of C04–C08) returns on the trees that master and
                                 sources denote, and the result OBJECT denotes the pure result TREE — all masters
                                 (`.multiple` definitions and scopes, nested, mandatory, deprecated, choices), all
                                 variable-free sources;
  * `fetchRootH_*`            — the same for `master.fetch(sources=…)` of parsed documents (no hypothesis left).

  Input class: every heap without dangling child / parent reference (`closedB`, decidable; every parsed document),
  every master scope `self` in it, every list of source object ids, every fuel, every state of `tmp` marks,
  every outcome `ok`.  (`closedB` is used for the sharing statement — the master objects are old cells — and is
  kept for the frame statement because both come out of one induction; a heap with a dangling child makes `fetchH`
  fail, so nothing is lost.)
-/
import Phil.Proofs.HeapFetchLemmas
import Phil.Proofs.HeapFetchAbs
import Phil.Proofs.HeapTotal
import Phil.Proofs.HeapBuild
import Phil.Props.C17Heap
namespace Phil.C17FetchHeap
open Phil Phil.Heap

/-! ### (1) frame -/

/-- **`fetch` writes no existing cell.**  After `self.fetch(sources=…)` every cell that existed before holds
    what it held (all slots, the child list, the parent); cells were only added; the only other effect is that
    `tmp = True` was written to some objects, all of them definitions. -/
theorem fetchH_frame (e : Envs) (fuel self : Nat) (combined : List Nat) (s s' : HS) (r : Nat)
    (hc : closedB s.heap = true) (hself : self < s.heap.length)
    (hf : fetchH e fuel self combined s = .ok (s', r)) :
    (∃ ext, s'.heap = s.heap ++ ext) ∧
    (∀ i, i < s.heap.length → s'.heap[i]? = s.heap[i]?) ∧
    (∃ t, s'.tmp = s.tmp ++ t ∧ ∀ i ∈ t, ∃ m ws p, s'.heap[i]? = some (.defn m ws p)) := by
  have h := (fetchF_spec e s.heap.length fuel false self combined s s' r ⟨Nat.le_refl _, (closedB_sound hc).below⟩
    hself (fetchF_false e fuel ▸ hf)).1
  exact ⟨h.heap, fun i hi => h.grows.get_lt hi, h.tmp⟩

/-! ### (3) sharing -/

/-- **The shape of a fetch result.**  The result is a new object; below it (through `objects`) every object is
    new — a definition, or a scope whose children are again such objects — until a template copy of a
    `.multiple` scope is met: a new cell that equals an OLD scope cell up to `is_template = ±1` and holds that
    cell's own child list. -/
theorem fetchH_sharing (e : Envs) (fuel self : Nat) (combined : List Nat) (s s' : HS) (r : Nat)
    (hc : closedB s.heap = true) (hself : self < s.heap.length)
    (hf : fetchH e fuel self combined s = .ok (s', r)) :
    ResShape s.heap.length s'.heap r :=
  (fetchF_spec e s.heap.length fuel false self combined s s' r ⟨Nat.le_refl _, (closedB_sound hc).below⟩ hself
    (fetchF_false e fuel ▸ hf)).2

/-- `z` is reachable from `x` through `objects` lists -/
inductive KReach (h : Heap) : Nat → Nat → Prop
  | refl (x : Nat) : KReach h x x
  | step {x k z : Nat} {n : Node} : h[x]? = some n → k ∈ n.kids → KReach h k z → KReach h x z

/-- `c` is a template copy of the old scope `y`: a new cell, equal to the cell of `y` up to `is_template = ±1`,
    with the SAME child list -/
def TemplateCopyOf (n0 : Nat) (h : Heap) (c y : Nat) : Prop :=
  n0 ≤ c ∧ y < n0 ∧ ∃ m ks p t, h[y]? = some (.scope m ks p) ∧ h[c]? = some (.scope { m with tmpl := t } ks p) ∧
    (t = 1 ∨ t = -1)

theorem resShape_old_only_through_templates {h h' : Heap} {x z : Nat} (g : Grows h h') (hr : KReach h' x z) :
    ResShape h.length h' x → z < h.length →
    ∃ c y k, KReach h' x c ∧ TemplateCopyOf h.length h' c y ∧ (∃ n, h[y]? = some n ∧ k ∈ n.kids) ∧ KReach h' k z := by
  induction hr with
  | refl x => intro hs hz; exact absurd hs.ge (by omega)
  | @step x k z n hx hk hkz ih =>
    intro hs hz
    cases hs with
    | defn _ hcell => rw [hcell] at hx; cases hx; cases hk
    | scope _ hcell hkids =>
      rw [hcell] at hx; cases hx
      obtain ⟨c, y, k', h1, h2, h3, h4⟩ := ih (hkids k hk) hz
      exact ⟨c, y, k', .step hcell hk h1, h2, h3, h4⟩
    | @tmpl _ y m ks p t hge hy hcy hcx ht =>
      rw [hcx] at hx; cases hx
      exact ⟨x, y, k, .refl x, ⟨hge, hy, m, ks, p, t, hcy, hcx, ht⟩, ⟨_, (g.get_lt hy).symm.trans hcy, hk⟩, hkz⟩

theorem resShape_disjoint_without_templates {h h' : Heap} {r z : Nat} (g : Grows h h') (hs : ResShape h.length h' r)
    (hnt : ∀ c y, ¬ TemplateCopyOf h.length h' c y) (hreach : KReach h' r z) : h.length ≤ z :=
  Nat.le_of_not_lt fun hz =>
    have ⟨c, y, _, _, h2, _⟩ := resShape_old_only_through_templates g hreach hs hz
    hnt c y h2

/-- **Exactly which old objects are reachable from the result.**  Whatever old object `z` (an object of the
    master or of a source) is reachable from the result `r` through `objects` lists is reached through a template
    copy `c` of an old scope `y`: `z` is a child `k` of `y`, or lies below one.  Nothing else of the master or the
    sources is reachable. -/
theorem fetchH_old_only_through_templates (e : Envs) (fuel self : Nat) (combined : List Nat) (s s' : HS) (r z : Nat)
    (hc : closedB s.heap = true) (hself : self < s.heap.length)
    (hf : fetchH e fuel self combined s = .ok (s', r))
    (hreach : KReach s'.heap r z) (hz : z < s.heap.length) :
    ∃ c y k, KReach s'.heap r c ∧ TemplateCopyOf s.heap.length s'.heap c y ∧
      (∃ n, s.heap[y]? = some n ∧ k ∈ n.kids) ∧ KReach s'.heap k z :=
  resShape_old_only_through_templates (fetchH_frame e fuel self combined s s' r hc hself hf).1 hreach
    (fetchH_sharing e fuel self combined s s' r hc hself hf) hz

/-- a result without template copies shares NO object with master or sources -/
theorem fetchH_disjoint_without_templates (e : Envs) (fuel self : Nat) (combined : List Nat) (s s' : HS) (r z : Nat)
    (hc : closedB s.heap = true) (hself : self < s.heap.length)
    (hf : fetchH e fuel self combined s = .ok (s', r))
    (hnt : ∀ c y, ¬ TemplateCopyOf s.heap.length s'.heap c y)
    (hreach : KReach s'.heap r z) : s.heap.length ≤ z :=
  resShape_disjoint_without_templates (fetchH_frame e fuel self combined s s' r hc hself hf).1
    (fetchH_sharing e fuel self combined s s' r hc hself hf) hnt hreach

/-! ### (4) assignments to the result -/

/-- **Assigning fields of a fetch result never changes the objects it was made from.**  After ANY history of
    slot assignments (scalar slots, `words`, `objects`, `primary_parent_scope`) whose targets are NEW objects —
    the result, and every object below it except the shared children of template copies (`fetchH_sharing`) —
    every old cell is what it was and every old object (master, sources, their descendants) denotes the tree it
    denoted. -/
theorem fetchH_assign_frame (e : Envs) (fuel self : Nat) (combined : List Nat) (s s' : HS) (r : Nat)
    (hc : closedB s.heap = true) (hself : self < s.heap.length)
    (hf : fetchH e fuel self combined s = .ok (s', r))
    (ops : List (Nat × Assign)) (hops : ∀ op ∈ ops, s.heap.length ≤ op.1) :
    (∀ i, i < s.heap.length → (assignMany s'.heap ops)[i]? = s.heap[i]?) ∧
    (∀ x o, x < s.heap.length → Abs s.heap x o → Abs (assignMany s'.heap ops) x o) :=
  have h := assignMany_frame hc (fetchH_frame e fuel self combined s s' r hc hself hf).2.1 ops hops
  ⟨h.1, fun x _ hx => Abs.congr fun f => h.2 f x hx⟩

/-! ### (2) abstraction -/

/-- **The heap-level fetch refines the pure model.**  Let the master scope `self` be the cell
    `.scope sm mk sp`, let its children denote the trees `mobjs` and the source objects `combined` the trees
    `cobjs`.  Whenever `fetchH` returns `(s', r)`, the pure `fetchScope` returns on `(sm, mobjs, cobjs)` with the
    same fuel, and `r` denotes its result in the new heap. -/
theorem fetchH_abs (e : Envs) (fuel self : Nat) (combined : List Nat) (s s' : HS) (r : Nat)
    (sm : Meta) (mk : List Nat) (sp : Option Nat) (mobjs cobjs : List Obj)
    (hc : closedB s.heap = true) (hself : self < s.heap.length)
    (hcell : s.heap[self]? = some (.scope sm mk sp))
    (hm : Rel2 (Abs s.heap) mk mobjs) (hs : Rel2 (Abs s.heap) combined cobjs)
    (hf : fetchH e fuel self combined s = .ok (s', r)) :
    ∃ ro used, fetchScope e fuel false sm mobjs cobjs = .ok (ro, used) ∧ Abs s'.heap r ro :=
  (fetchF_sim e fuel false self combined s s' r sm mk sp mobjs cobjs hcell hm hs (fetchF_false e fuel ▸ hf)).2

/-- `abs` form: the executable abstraction of the result, whenever it answers, is the pure result -/
theorem fetchH_abs_eq (e : Envs) (fuel self : Nat) (combined : List Nat) (s s' : HS) (r : Nat)
    (sm : Meta) (mk : List Nat) (sp : Option Nat) (mobjs cobjs : List Obj)
    (hc : closedB s.heap = true) (hself : self < s.heap.length)
    (hcell : s.heap[self]? = some (.scope sm mk sp))
    (hm : Rel2 (Abs s.heap) mk mobjs) (hs : Rel2 (Abs s.heap) combined cobjs)
    (hf : fetchH e fuel self combined s = .ok (s', r)) (o : Obj) (ho : abs s'.heap r = some o) :
    (fetchScope e fuel false sm mobjs cobjs).map (·.1) = .ok o := by
  obtain ⟨ro, used, h1, h2⟩ := fetchH_abs e fuel self combined s s' r sm mk sp mobjs cobjs hc hself hcell hm hs hf
  rw [h1, Abs_unique ⟨_, ho⟩ h2]
  rfl

/-! ### parsed documents -/

theorem buildSources_closed : ∀ (ss : List (List Obj)) (h : Heap), Closed h →
    Closed (buildSources h ss).1 ∧ h.length ≤ (buildSources h ss).1.length
  | [], h, hc => ⟨hc, Nat.le_refl _⟩
  | os :: rest, h, hc => by
    simp only [buildSources]
    have h1 := build_closed (.scope { name := [] } os) none h hc (by intro q hq; cases hq)
    have h2 := (build_frame (.scope { name := [] } os) none h).1
    obtain ⟨h3, h4⟩ := buildSources_closed rest _ h1
    exact ⟨h3, by omega⟩

/-- the start heap of `master.fetch(sources=…)` on parsed documents is closed and holds the master root at 0 -/
theorem fetchRootH_start (e : Envs) (master : List Obj) (sources : List (List Obj)) :
    closedB (fetchRootH e master sources).1 = true ∧ 0 < (fetchRootH e master sources).1.length := by
  have h0 : Closed ([] : Heap) := by intro i n hi; simp at hi
  have h1 := build_closed (.scope { name := [], id := some 0 } master) none [] h0 (by intro q hq; cases hq)
  have h2 := (build_frame (.scope { name := [], id := some 0 } master) none []).1
  obtain ⟨h3, h4⟩ := buildSources_closed sources _ h1
  have hp := size_pos (.scope { name := [], id := some 0 } master)
  refine ⟨closedB_complete h3, ?_⟩
  show 0 < (buildSources _ sources).1.length
  simp only [List.length_nil, Nat.zero_add] at h2
  omega

/-- **`master.fetch(sources=…)` of parsed documents**: frame, shape of the result, and the assignment frame —
    no hypothesis beyond "the call returned". -/
theorem fetchRootH_pure (e : Envs) (master : List Obj) (sources : List (List Obj)) (s' : HS) (r : Nat)
    (hf : (fetchRootH e master sources).2 = .ok (s', r)) :
    let h0 := (fetchRootH e master sources).1
    (∃ ext, s'.heap = h0 ++ ext) ∧
    (∀ i ∈ s'.tmp, ∃ m ws p, s'.heap[i]? = some (.defn m ws p)) ∧
    ResShape h0.length s'.heap r ∧
    (∀ ops : List (Nat × Assign), (∀ op ∈ ops, h0.length ≤ op.1) →
      ∀ x o, x < h0.length → Abs h0 x o → Abs (assignMany s'.heap ops) x o) := by
  intro h0
  obtain ⟨hc, hpos⟩ := fetchRootH_start e master sources
  have hf' : fetchH e _ 0 _ { heap := h0, tmp := [] } = .ok (s', r) := hf
  obtain ⟨h1, _, ⟨t, ht, hd⟩⟩ := fetchH_frame e _ 0 _ { heap := h0, tmp := [] } s' r hc hpos hf'
  refine ⟨h1, ?_, fetchH_sharing e _ 0 _ { heap := h0, tmp := [] } s' r hc hpos hf', ?_⟩
  · intro i hi
    simp only [List.nil_append] at ht
    exact hd i (ht ▸ hi)
  · intro ops hops x o hx ha
    exact (fetchH_assign_frame e _ 0 _ { heap := h0, tmp := [] } s' r hc hpos hf' ops hops).2 x o hx ha

theorem buildSources_spec : ∀ (ss : List (List Obj)) (h : Heap),
    (∃ ext, (buildSources h ss).1 = h ++ ext) ∧
    Rel2 (fun r os => Abs (buildSources h ss).1 r (.scope { name := [] } os)) (buildSources h ss).2 ss
  | [], h => ⟨⟨[], by simp [buildSources]⟩, trivial⟩
  | os :: rest, h => by
    simp only [buildSources]
    obtain ⟨⟨ext, he⟩, hr⟩ := buildSources_spec rest (build (.scope { name := [] } os) none h).1
    refine ⟨⟨cells (.scope { name := [] } os) none h.length ++ ext, ?_⟩, ?_, hr⟩
    · rw [he]; simp only [build, List.append_assoc]
    · rw [he]; exact (build_abs (.scope { name := [] } os) none h).append ext

/-- in the start heap of `master.fetch(sources=…)` on parsed documents cell 0 is the master root, its children denote
    `master`, and the children of the source roots denote the objects of the sources -/
theorem fetchRootH_inputs (e : Envs) (master : List Obj) (sources : List (List Obj)) :
    ∃ ks p, (fetchRootH e master sources).1[0]? = some (.scope { name := [], id := some 0 } ks p) ∧
      Rel2 (Abs (fetchRootH e master sources).1) ks master ∧
      Rel2 (Abs (fetchRootH e master sources).1)
        ((buildSources (build (.scope { name := [], id := some 0 } master) none []).1 sources).2.flatMap
          (kidsOf (fetchRootH e master sources).1)) sources.flatten := by
  obtain ⟨⟨ext, he⟩, hr⟩ := buildSources_spec sources (build (.scope { name := [], id := some 0 } master) none []).1
  have hroot : Abs (fetchRootH e master sources).1 0 (.scope { name := [], id := some 0 } master) := by
    show Abs (buildSources _ sources).1 0 _
    rw [he]; exact (build_abs _ none []).append ext
  rcases Abs_cell hroot with ⟨m, ws, p, _, hx⟩ | ⟨m, ks, p, os, hcell, hx, hks⟩
  · cases hx
  · cases hx
    refine ⟨ks, p, hcell, hks, ?_⟩
    rw [List.flatten_eq_flatMap]
    exact Rel2.flatMap _ _ (fun a b hab => Abs_kidsOf hab) hr

/-- **`master.fetch(sources=…)` of parsed documents refines the pure `fetchRoot`** (the model the merge properties
    C04–C08 are proved about): if the heap-level call returns, so does `fetchRoot`, and the result object denotes
    the pure result. -/
theorem fetchRootH_abs (e : Envs) (master : List Obj) (sources : List (List Obj)) (s' : HS) (r : Nat)
    (hf : (fetchRootH e master sources).2 = .ok (s', r)) :
    ∃ ro used, fetchRoot e false master sources = .ok (ro, used) ∧ Abs s'.heap r ro := by
  obtain ⟨hc, hpos⟩ := fetchRootH_start e master sources
  obtain ⟨ks, p, hcell, hks, hcomb⟩ := fetchRootH_inputs e master sources
  exact fetchH_abs e _ 0 _ { heap := (fetchRootH e master sources).1, tmp := [] } s' r _ ks p master sources.flatten
    hc hpos hcell hks hcomb hf

/-! ### witnesses (kernel-checked): the hypotheses are satisfiable, the D21 edge is sharp -/

/-- an environment without `eval` / number-format answers: enough for untyped definitions -/
def envNone : Envs := { eval := fun _ => none, fmt := fun _ => none }

/-- master `s .multiple=True { a = 1 } ; b = 2`, source `s { a = 5 } ; b = 7` -/
def wMaster : String := "s\n  .multiple = True\n{\n  a = 1\n}\nb = 2\n"
def wSource : String := "s {\n  a = 5\n}\nb = 7\n"

def wRun : Option (Heap × HS × Nat) :=
  match parseObjs wMaster.toList, parseObjs wSource.toList with
  | .ok m, .ok s =>
    (match fetchRootH envNone m [s] with
     | (h0, .ok (s', r)) => some (h0, s', r)
     | _ => none)
  | _, _ => none

section
local instance : DecidableEq HS := fun a b =>
  decidable_of_iff (a.heap = b.heap ∧ a.tmp = b.tmp) (by cases a; cases b; simp)

theorem wRun_eq : wRun =
    (let h0 : Heap := [
      .scope { name := [], id := some 0 } [1, 3] none,
      .scope { name := "s".toList, id := some 1, line := some 1, attrs := [("multiple", .bool true)] } [2]
        (some 0),
      .defn { name := "a".toList, id := some 2, line := some 4 } [{ value := "1".toList, line := some 4 }]
        (some 1),
      .defn { name := "b".toList, id := some 3, line := some 6 } [{ value := "2".toList, line := some 6 }]
        (some 0),
      .scope { name := [] } [5, 7] none,
      .scope { name := "s".toList, id := some 1, line := some 1 } [6] (some 4),
      .defn { name := "a".toList, id := some 2, line := some 2 } [{ value := "5".toList, line := some 2 }]
        (some 5),
      .defn { name := "b".toList, id := some 3, line := some 4 } [{ value := "7".toList, line := some 4 }]
        (some 4)]
     some (h0, { heap := h0 ++ [
      .scope { name := [], id := some 0 } [5, 7] none,
      .scope { name := "s".toList, id := some 1, line := some 1, attrs := [("multiple", .bool true)] } []
        (some 0),
      .defn { name := "a".toList, id := some 2, line := some 4 } [{ value := "1".toList, line := some 4 }]
        (some 1),
      .scope { name := "s".toList, id := some 1, line := some 1, attrs := [("multiple", .bool true)] } [10]
        (some 0),
      .scope { name := "s".toList, id := some 1, line := some 1, attrs := [("multiple", .bool true)] } [6]
        (some 0),
      .defn { name := "a".toList, id := some 2, line := some 2 } [{ value := "5".toList, line := some 2 }]
        (some 5),
      .defn { name := "a".toList, id := some 2, line := some 4 } [{ value := "5".toList, line := some 2 }]
        (some 1),
      .scope { name := "s".toList, id := some 1, line := some 1, attrs := [("multiple", .bool true)] } [14]
        (some 0),
      .scope
        { name := "s".toList, id := some 1, line := some 1, tmpl := -1, attrs := [("multiple", .bool true)] }
        [2] (some 0),
      .defn { name := "b".toList, id := some 3, line := some 4 } [{ value := "7".toList, line := some 4 }]
        (some 4),
      .defn { name := "b".toList, id := some 3, line := some 6 } [{ value := "7".toList, line := some 4 }]
        (some 0),
      .scope { name := [], id := some 0 } [16, 15, 18] none], tmp := [6, 7] }, 19)) := by
  decide +kernel
end

/-- The run succeeds on 8 old cells (master: root 0, s 1, a 2, b 3; source: root 4, s 5, a 6, b 7); the source
    definitions `a` (6) and `b` (7) get `tmp = True`; the result (19) has three children: the template copy of `s`
    (16, `is_template = -1`) whose child list is `[2]` — the MASTER's own `a` —, the instance fetched from the source
    (15, child 14: new) and `b` (18: new). -/
theorem template_children_are_reached :
    wRun.map (fun x => (x.2.1.heap[x.2.2]?.map Node.kids, x.2.1.heap[16]?.map Node.kids, x.1[1]?.map Node.kids)) =
    some (some [16, 15, 18], some [2], some [2]) := by
  rw [wRun_eq]
  decide +kernel

theorem witness_run_template_flag :
    wRun.map (fun x => (x.2.1.heap[16]?.map (fun n => n.meta.tmpl), x.2.1.heap[15]?.map Node.kids)) =
    some (some (-1 : Int), some [14]) := by
  rw [wRun_eq]
  decide +kernel

theorem witness_run_marks :
    wRun.map (fun x => (x.1.length, x.2.1.tmp, x.2.2)) = some (8, [6, 7], 19) := by
  rw [wRun_eq]
  decide +kernel

/-- **D21, the stated exception of `fetchH_assign_frame` is sharp**: cell 2 is reachable from the result (through
    the template copy 16) and is OLD; assigning a field of it changes what the master's `s` (cell 1) denotes —
    whereas the same assignment to the new instance's child (14) does not. -/
theorem assignment_below_template_leaks :
    wRun.map (fun x =>
      (decide (C17Heap.childSlots (assign x.2.1.heap 2 C17Heap.setCaption) 1 ≠ C17Heap.childSlots x.1 1),
       decide (C17Heap.childSlots (assign x.2.1.heap 14 C17Heap.setCaption) 1 = C17Heap.childSlots x.1 1))) =
    some (true, true) := by
  rw [wRun_eq]
  decide +kernel

/-- `closedB` costs nothing: on a heap with a dangling child the heap-level fetch does not return (the real objects
    cannot dangle) -/
theorem fetchH_dangling_fails :
    (match fetchH envNone 3 0 [] { heap := [.scope { name := [] } [5] none], tmp := [] } with
     | .ok _ => false
     | .error _ => true) = true := by
  decide +kernel

/-- the run of the witness returns: `fetchRootH_pure` and `fetchRootH_abs` apply to it -/
example : wRun.isSome = true := by
  rw [wRun_eq]
  decide +kernel

/-- … and what its result denotes has the children the pure model computes: template `s`, instance `s`, `b` -/
example : wRun.map (fun x => (abs x.2.1.heap x.2.2).map (fun o => o.children.map (fun k => (k.name, k.meta.tmpl)))) =
    some (some [("s".toList, -1), ("s".toList, 0), ("b".toList, 0)]) := by
  rw [wRun_eq]
  decide +kernel

/-- the hypotheses of the theorems hold on this run -/
example : wRun.map (fun x => (closedB x.1, decide (0 < x.1.length))) = some (true, true) := by
  rw [wRun_eq]
  decide +kernel

end Phil.C17FetchHeap

#print axioms Phil.C17FetchHeap.fetchH_frame
#print axioms Phil.C17FetchHeap.fetchH_sharing
#print axioms Phil.C17FetchHeap.resShape_old_only_through_templates
#print axioms Phil.C17FetchHeap.fetchH_old_only_through_templates
#print axioms Phil.C17FetchHeap.fetchH_disjoint_without_templates
#print axioms Phil.C17FetchHeap.fetchH_assign_frame
#print axioms Phil.C17FetchHeap.buildSources_closed
#print axioms Phil.C17FetchHeap.fetchRootH_start
#print axioms Phil.C17FetchHeap.fetchRootH_pure
#print axioms Phil.C17FetchHeap.fetchH_abs
#print axioms Phil.C17FetchHeap.fetchH_abs_eq
#print axioms Phil.C17FetchHeap.buildSources_spec
#print axioms Phil.C17FetchHeap.fetchRootH_abs
#print axioms Phil.C17FetchHeap.template_children_are_reached
#print axioms Phil.C17FetchHeap.witness_run_marks
#print axioms Phil.C17FetchHeap.witness_run_template_flag
#print axioms Phil.C17FetchHeap.assignment_below_template_leaks
#print axioms Phil.C17FetchHeap.fetchH_dangling_fails
