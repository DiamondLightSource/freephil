/-
  C15 (closed form, flat documents, extended layout grammar) — every definition and every word
  reports the 1-based source line on which it actually starts, whatever precedes it: blank lines,
  comments, multi-line quoted strings, backslash continuations, quoted continuations over blank lines,
  `;`-separated items on one line, switched-off `#phil __OFF__` regions of any admissible content.
  Setting and vocabulary: Phil/Props/C02Layout3.lean (`Gap`, `OffRegion`, `Pre3`, `DocEnd`,
  `DefLayout3`, `wfDoc3`, `render3`).

  As in Phil/Props/C15Layout.lean the statement is not circular: the line of a definition / word is
  compared with `1 + (number of newlines in the text in front of it)`, the text in front being an
  explicit function of the definitions and the layout (`beforeName3`, `beforeWord3`, defined without
  any reference to the parser); `beforeName3_is_prefix` / `beforeWord3_is_prefix` show that these are
  the prefixes of the rendered text that end where the name / the word begins.

  Property theorems only; lemmas are in Phil/Proofs/Layout3.lean (`parseObjs_render3_lined`: Phil/Proofs/LayoutAll.lean).
-/
import Phil.Props.C02Layout3
namespace Phil.C15
open Phil

/-- `beforeName3 ds k` is the part of the text that ends exactly where the name of definition `k`
    begins -/
theorem beforeName3_is_prefix (ds : List (DefSpec × DefLayout3)) (post : Pre3) (e : DocEnd) (k : Nat)
    (d : DefSpec) (L : DefLayout3) (hk : ds[k]? = some (d, L)) :
    ∃ tail, render3 ds post e = beforeName3 ds k ++ (d.1 ++ tail) :=
  beforeName3_prefix post e ds k d L hk

/-- `beforeWord3 ds k j` is the part of the text that ends exactly where word `j` of definition `k`
    begins (`w.str` is the spelling of the word) -/
theorem beforeWord3_is_prefix (ds : List (DefSpec × DefLayout3)) (post : Pre3) (e : DocEnd)
    (h : wfDoc3 ds post e = true) (k j : Nat) (d : DefSpec) (L : DefLayout3) (w : Word)
    (hk : ds[k]? = some (d, L)) (hj : d.2[j]? = some w) :
    ∃ tail, render3 ds post e = beforeWord3 ds k j ++ (w.str ++ tail) :=
  beforeWord3_prefix post e ds k j d L w hk (wfDef3_gaps_length (wfDoc3_get post e ds k d L h hk).2) hj

/-- **C15, flat documents under the extended layout.**  For every well-formed layout `parse` returns
    one definition per definition of the document, and for every `k`: the `k`-th object is a
    definition with the `k`-th name, id `k + 1`, and its source line is `1 +` the number of newlines in
    the text in front of its name; its `j`-th word is the `j`-th word (value and quote style) with
    source line `1 +` the number of newlines in the text in front of that word.  The text in front may
    contain continuation backslashes, blank lines inside a continuation, multi-line quoted words,
    switched-off regions (whose lines are counted by `scan_for_start`, a code path of its own) and
    `;`-separated definitions. -/
theorem lines3_correct (ds : List (DefSpec × DefLayout3)) (post : Pre3) (e : DocEnd)
    (h : wfDoc3 ds post e = true) :
    ∃ objs, parseObjs (render3 ds post e) = .ok objs ∧ objs.length = ds.length ∧
      ∀ (k : Nat) (d : DefSpec) (L : DefLayout3), ds[k]? = some (d, L) →
        ∃ ws, objs[k]? = some (.defn
            { name := d.1, id := some (1 + k), line := some (1 + nlCount (beforeName3 ds k)) } ws) ∧
          ws.length = d.2.length ∧
          ∀ (j : Nat) (w' : Word), ws[j]? = some w' →
            ∃ w : Word, d.2[j]? = some w ∧ w'.value = w.value ∧ w'.quote = w.quote ∧
              w'.line = some (1 + nlCount (beforeWord3 ds k j)) := by
  refine ⟨linedObjs3 [] 1 ds, parseObjs_render3_lined ds post e h, linedObjs3_length ds [] 1, ?_⟩
  intro k d L hk
  obtain ⟨ws, h1, h2, h3⟩ := linedObjs3_spec post e ds h k d L hk
  refine ⟨ws, h1, h2, ?_⟩
  intro j w' hj
  obtain ⟨w, hw, e'⟩ := h3 j w' hj
  exact ⟨w, hw, by rw [e'], by rw [e'], by rw [e']⟩

/-- the same in one equation: the parse result is `linedObjs3 [] 1 ds` -/
theorem lines3_closed_form (ds : List (DefSpec × DefLayout3)) (post : Pre3) (e : DocEnd)
    (h : wfDoc3 ds post e = true) : parseObjs (render3 ds post e) = .ok (linedObjs3 [] 1 ds) :=
  parseObjs_render3_lined ds post e h

/-- **A switched-off region advances the line counter by exactly its number of lines**: the newlines
    of the text of a well-formed region are its opening line, its body lines and its closing line,
    and that is what `scan_for_start` adds (`Phil.C02.off_region_scan`). -/
theorem off_region_line_count (r : OffRegion) (hwf : r.wf = true) :
    nlCount r.text = r.nl ∧ r.nl = r.body.length + 2 :=
  ⟨nlCount_region r hwf, rfl⟩

/-- **Continuations advance the line of the next word by the newlines of the gap**: the `j`-th word of
    a value that starts on line `l` is reported on `l +` the newlines of everything between (gaps —
    backslash or not — and multi-line quoted words); `relineG` / `endLineG` in closed form. -/
theorem value_lines_closed_form (ws : List Word) (gaps : List Gap) (b : Str) :
    relineG (1 + nlCount b) gaps ws = linedWords3 b gaps ws :=
  relineG_eq_linedWords3 ws gaps b

/-! ### non-vacuity: the layout `exCont3` of C02Layout3 -/

open Phil.C02 in
/-- the text in front of the names and words of `exCont3`: `a` stands on line 9 (after an 6-line
    region and a blank line), its word on line 10 (backslash continuation); `b_2` on line 13 (after a
    second region) with words on lines 13, 15 (quoted continuation over a blank line) and 16
    (backslash); `c` on line 17 with words on 18 and 20 (after a two-line quoted word) -/
example : (List.range 3).map (fun k => (1 + nlCount (beforeName3 exCont3 k),
      (List.range 3).map (fun j => 1 + nlCount (beforeWord3 exCont3 k j))))
    = [(9, [10, 10, 10]), (13, [13, 15, 16]), (17, [18, 20, 20])] := by decide +kernel

open Phil.C02 in
example : beforeWord3 exCont3 1 2 =
    ("# header\n#phil __OFF__ junk { \"\nb = '\n\n #phil __ON__\n}\n#philxx\t__ON__ \n\n a=\\\n  1;" ++
     "\n#phil __OFF__\n#phil __ON__\nb_2 = x*y\n\n\t\"p q\" \\ \n ").toList := by
  unfold exCont3 exPreA3 exPreB3 exRegion3 exSpecs
  simp only [String.toList_append]
  -- a literal is `String.ofList […]` for `rw` and the kernel: no UTF-8 decoding
  repeat rw [String.toList_ofList]
  decide +kernel

open Phil.C02 in
/-- through the theorem: `b_2` of `exCont3` is on line 13, its third word on line 16 -/
example : ∃ objs ws w', parseObjs (render3 exCont3 exPost3 exEnd3) = .ok objs ∧
    objs[1]? = some (.defn { name := "b_2".toList, id := some 2, line := some 13 } ws) ∧
    ws[2]? = some w' ∧ w'.line = some 16 := by
  obtain ⟨objs, hp, _, hk⟩ := lines3_correct exCont3 exPost3 exEnd3 exCont3_wf
  obtain ⟨ws, h1, h2, h3⟩ := hk 1 _ _ rfl
  have hlen : 2 < ws.length := by rw [h2]; decide
  obtain ⟨w, _, _, _, hl⟩ := h3 2 ws[2] (List.getElem?_eq_getElem hlen)
  refine ⟨objs, ws, ws[2], hp, ?_, List.getElem?_eq_getElem hlen, ?_⟩
  · rw [h1]
    have : 1 + nlCount (beforeName3 exCont3 1) = 13 := by decide +kernel
    rw [this]; rfl
  · rw [hl]
    have : 1 + nlCount (beforeWord3 exCont3 1 2) = 16 := by decide +kernel
    rw [this]

end Phil.C15

#print axioms Phil.C15.beforeName3_is_prefix
#print axioms Phil.C15.beforeWord3_is_prefix
#print axioms Phil.C15.lines3_correct
#print axioms Phil.C15.lines3_closed_form
#print axioms Phil.C15.off_region_line_count
#print axioms Phil.C15.value_lines_closed_form
