/-
  C10 on whole trees — "For every typed parameter and every value text a user can supply, extraction
  either raises an error naming the parameter, or returns a value in the declared domain."

  Phil/Props/C10.lean proves this for one `type.from_words` call.  Here it is lifted to
  `scope.extract` of a whole tree:
    1. `extract_closed`, `extract_tree_closed` — the fuelled model `extractObj` equals the structural
       specification `extractSpec` (no fuel) on every tree without `.multiple` whose sibling names
       are pairwise distinct; the fields are, in document order, one per child that is not a
       template placeholder: `None` for disabled children and templates, the child's own extraction
       otherwise (`extract_fields_spec`, `extract_ok_iff`, `extract_field_names`);
    2. `value_at_path` — the value found in the result under a path is the conversion of the words of
       the definition at that path; `extract_tree_in_domain` — hence it lies in the declared domain;
       `extract_error_from_leaf` — and a failure of the extraction is the converter's failure on one
       enabled definition of the tree (the first in document order);
    3. `fetchRoot_extract_in_domain` — `master.fetch(sources).extract()` for a nested master without
       `.multiple` and ARBITRARY sources: the "incompatible" RuntimeError of the fetch, a converter
       error on the final words of one master definition, or a record holding at the path of every
       master definition a value of its declared domain;
    4. a recorded finding (`disabled_definition_leaves_domain`) and kernel-checked instances through
       the parser, each replayed on the Python library.
  Property theorems only; lemmas are in Phil/Proofs/ExtractTree.lean.
-/
import Phil.Proofs.ExtractTree
import Phil.Proofs.ObjEq
import Phil.Props.C10
import Phil.Props.C16Fetch
namespace Phil.C10
open Phil

/-! ### 1. the closed form of `scope.extract`

  Specification functions (Phil/Proofs/ExtractTree.lean):
  ```
  extractSpec e (.defn m ws)     = extractDefn e m ws            -- type.from_words(words, master)
  extractSpec e (.scope _ kids)  = (extractSpecKids e kids).map PVal.record
  extractSpecKids e []           = .ok []
  extractSpecKids e (o :: os)    =
    if o.meta.tmpl < 0 then extractSpecKids e os                                   -- placeholder
    else if o.meta.disabled || o.meta.tmpl > 0 then ((o.name, None) :: ·) <$> extractSpecKids e os
    else match extractSpec e o with
         | .error err => .error err
         | .ok v      => ((o.name, v) :: ·) <$> extractSpecKids e os
  ```
  `DObj_xt o`: nothing is `.multiple`, sibling names are pairwise distinct at every depth (objects may
  be disabled, templates, wordless).  `XObj_ns` of C16 implies it. -/

/-- **closed form of `scope.extract` / `definition.extract`**: with fuel beyond the depth the
    fuelled model is the structural specification — results and errors alike. -/
theorem extract_closed (e : Envs) (fuel : Nat) (o : Obj) (hx : DObj_xt o) (hd : depthT o < fuel) :
    extractObj e fuel o = extractSpec e o :=
  extractObj_eq_spec_xt e fuel o hx hd

/-- … in particular on the trees of `Phil.C16.extract_distinct_no_stray` -/
theorem extract_closed_xobj (e : Envs) (fuel : Nat) (o : Obj) (hx : XObj_ns o) (hd : depthT o < fuel) :
    extractObj e fuel o = extractSpec e o :=
  extractObj_eq_spec_xt e fuel o (dobj_of_xobj_xt o hx) hd

/-- **`extract_tree_closed`**: the extraction of a scope succeeds with the record `fields` exactly
    when the specification of its children yields `fields`.  (The root's own meta data play no
    role.) -/
theorem extract_tree_closed (e : Envs) (fuel : Nat) (m : Meta) (kids : List Obj) (fields : List (Str × PVal))
    (hk : DKids_xt kids) (hpw : (kids.map Obj.name).Pairwise (· ≠ ·)) (hd : depthL kids + 1 < fuel) :
    extractObj e fuel (.scope m kids) = .ok (.record fields) ↔ extractSpecKids e kids = .ok fields := by
  rw [extractObj_root_eq_spec_xt e fuel m kids hk hpw hd, extractSpec]
  cases extractSpecKids e kids with
  | error err => simp [Except.map]
  | ok fs => simp [Except.map]

/-- the specification of the children as one map: for every child that is not a template
    placeholder (`liveKids`), in order, the pair of its name and `kidValue` — `None` when the child is
    disabled or a template, its own extraction otherwise; the first error wins (`mapR`) -/
theorem extract_fields_spec (e : Envs) (kids : List Obj) :
    extractSpecKids e kids = mapR (fun o => (kidValue e o).map (fun v => (o.name, v))) (liveKids kids) :=
  extractSpecKids_eq_mapR_xt e kids

/-- the extraction of the children succeeds iff every leaf extraction (every `kidValue`) succeeds -/
theorem extract_ok_iff (e : Envs) (kids : List Obj) :
    (∃ fields, extractSpecKids e kids = .ok fields) ↔ ∀ o ∈ liveKids kids, ∃ v, kidValue e o = .ok v := by
  rw [extract_fields_spec, mapR_ok_iff]
  constructor
  · intro h o ho
    obtain ⟨y, hy⟩ := h o ho
    cases hv : kidValue e o with
    | error err => rw [hv] at hy; cases hy
    | ok v => exact ⟨v, rfl⟩
  · intro h o ho
    obtain ⟨v, hv⟩ := h o ho
    exact ⟨(o.name, v), by rw [hv]; rfl⟩

/-- … and then the fields carry the names of these children, in order, each with its value -/
theorem extract_field_names (e : Envs) (kids : List Obj) (fields : List (Str × PVal))
    (h : extractSpecKids e kids = .ok fields) :
    fields.map (fun p => p.1) = (liveKids kids).map Obj.name ∧
    ∀ o ∈ liveKids kids, ∃ v, kidValue e o = .ok v ∧ (o.name, v) ∈ fields := by
  refine ⟨extractSpecKids_names_st e kids fields h, fun o ho => ?_⟩
  rw [extract_fields_spec] at h
  obtain ⟨y, hy, hg⟩ := mapR_mem _ _ _ h o ho
  obtain ⟨v, hv, rfl⟩ := Except.map_eq_ok.mp hg
  exact ⟨v, hv, hy⟩

/-! ### 2. C10 on a whole tree

  `defAt kids ps n` (Phil/Proofs/FetchTree.lean) is the definition reached by the scope names `ps`
  and the final name `n`; `valueAt v ps n` the value stored under that path in the record `v`;
  `livePath_xt kids ps n` says that every object on the path is enabled and not a template;
  `declConv m` is the declared converter (`strings` when there is no `.type`). -/

/-- **the value at a path is the conversion of the definition at that path** -/
theorem value_at_path (e : Envs) (fuel : Nat) (m : Meta) (kids : List Obj) (v : PVal)
    (hk : DKids_xt kids) (hpw : (kids.map Obj.name).Pairwise (· ≠ ·)) (hd : depthL kids + 1 < fuel)
    (h : extractObj e fuel (.scope m kids) = .ok v)
    (ps : List Str) (n : Str) (dm : Meta) (dws : List Word)
    (hdef : defAt kids ps n = some (.defn dm dws)) (hlive : livePath_xt kids ps n = true) :
    ∃ leaf, valueAt v ps n = some leaf ∧ extractDefn e dm dws = .ok leaf := by
  rw [extractObj_root_eq_spec_xt e fuel m kids hk hpw hd] at h
  obtain ⟨fs, rfl, hfs⟩ := extractSpec_scope_record_xt e m kids v h
  exact valueAt_extract_xt e ps kids fs n dm dws hk hpw hfs hdef hlive

/-- **C10, whole tree (`extract_tree_in_domain`).**  If the extraction of a tree (no `.multiple`,
    distinct sibling names) succeeds with `v`, then for every path to a definition all of whose
    ancestors, and itself, are enabled and not templates, `v` holds at that path the value
    `from_words` gives for the definition's words, and that value lies in the domain of the declared
    type (`InDomain`, spelled out per type in Phil/Props/C10.lean); an untyped definition is a
    `strings`. -/
theorem extract_tree_in_domain (e : Envs) (fuel : Nat) (m : Meta) (kids : List Obj) (v : PVal)
    (hk : DKids_xt kids) (hpw : (kids.map Obj.name).Pairwise (· ≠ ·)) (hd : depthL kids + 1 < fuel)
    (h : extractObj e fuel (.scope m kids) = .ok v)
    (ps : List Str) (n : Str) (dm : Meta) (dws : List Word)
    (hdef : defAt kids ps n = some (.defn dm dws)) (hlive : livePath_xt kids ps n = true) :
    ∃ c leaf, declConv dm = some c ∧ valueAt v ps n = some leaf ∧
      fromWords c e.eval (dm.attrs.get "optional") dws = .ok leaf ∧ InDomain c leaf = true := by
  obtain ⟨leaf, h1, h2⟩ := value_at_path e fuel m kids v hk hpw hd h ps n dm dws hdef hlive
  obtain ⟨c, hc, hfw⟩ := extractDefn_ok_conv_xt e dm dws leaf h2
  exact ⟨c, leaf, hc, h1, hfw, fromWords_in_domain c e.eval _ dws leaf hfw⟩

/-- the same for the trees of C16 (`XObj_ns`) -/
theorem extract_xobj_in_domain (e : Envs) (fuel : Nat) (m : Meta) (kids : List Obj) (v : PVal)
    (hx : XObj_ns (.scope m kids)) (hd : depthL kids + 1 < fuel)
    (h : extractObj e fuel (.scope m kids) = .ok v)
    (ps : List Str) (n : Str) (dm : Meta) (dws : List Word)
    (hdef : defAt kids ps n = some (.defn dm dws)) (hlive : livePath_xt kids ps n = true) :
    ∃ c leaf, declConv dm = some c ∧ valueAt v ps n = some leaf ∧
      fromWords c e.eval (dm.attrs.get "optional") dws = .ok leaf ∧ InDomain c leaf = true := by
  have hdo := dobj_of_xobj_xt _ hx
  rw [DObj_xt] at hdo
  exact extract_tree_in_domain e fuel m kids v hdo.2.1 hdo.2.2 hd h ps n dm dws hdef hlive

/-- **the other branch: an error is the error of one parameter.**  If the extraction of the tree
    fails with `err`, then `err` is what `definition.extract` raises for one definition of the tree,
    reached by a path of enabled non-template objects (the message of the Python error cites that
    definition's words: `Err.runtime site line`). -/
theorem extract_error_from_leaf (e : Envs) (fuel : Nat) (m : Meta) (kids : List Obj) (err : Err)
    (hk : DKids_xt kids) (hpw : (kids.map Obj.name).Pairwise (· ≠ ·)) (hd : depthL kids + 1 < fuel)
    (h : extractObj e fuel (.scope m kids) = .error err) :
    ∃ ps n dm dws, defAt kids ps n = some (.defn dm dws) ∧ livePath_xt kids ps n = true ∧
      extractDefn e dm dws = .error err := by
  rw [extractObj_root_eq_spec_xt e fuel m kids hk hpw hd] at h
  exact extractSpec_error_leaf_xt e m kids err hpw hk h

/-! ### 3. fetch, then extract

  `treeWords_xt mm mws srcs` are the final words of a master definition: those of the last enabled
  source definition of its name among `srcs`, the master's own if there is none; `srcAt srcs ps` are
  the source objects reached by the scope names `ps` (Phil/Props/C05Tree.lean). -/

/-- **C10, `master.fetch(sources).extract()` (`fetchRoot_extract_in_domain`).**  For a nested master
    without `.multiple` (`TreeMaster`, depth ≤ 1000) and arbitrary sources (`SrcTree`: enabled
    definitions resolve, enabled scopes are named), with extraction fuel beyond the depth:
    * the fetch fails with RuntimeError "incompatible" (a scope where the master has a definition or
      vice versa), or
    * the fetch succeeds and the extraction fails with the error `definition.extract` raises for the
      final words of one master definition, or
    * both succeed, and at the path of every master definition (not a template) the result holds the
      conversion of that definition's final words — a value of the declared domain. -/
theorem fetchRoot_extract_in_domain (e : Envs) (master : List Obj) (ss : List (List Obj))
    (hf : TreeMaster master) (hd : depthL master ≤ 1000) (hsrc : SrcTree ss.flatten)
    (xfuel : Nat) (hx : depthL master + 1 < xfuel) :
    fetchRoot e false master ss = .error (.runtime "incompatible" none) ∨
    ∃ ro used, fetchRoot e false master ss = .ok (ro, used) ∧
      ((∃ err ps n mm mws, extractObj e xfuel ro = .error err ∧
          defAt master ps n = some (.defn mm mws) ∧
          extractDefn e mm (treeWords_xt mm mws (srcAt ss.flatten ps)) = .error err) ∨
       (∃ v, extractObj e xfuel ro = .ok v ∧
          ∀ ps n mm mws, defAt master ps n = some (.defn mm mws) → mm.tmpl = 0 →
            ∃ c leaf, declConv mm = some c ∧ valueAt v ps n = some leaf ∧
              fromWords c e.eval (mm.attrs.get "optional")
                (treeWords_xt mm mws (srcAt ss.flatten ps)) = .ok leaf ∧
              InDomain c leaf = true)) := by
  rw [fetchRoot_tree e master ss hf hd hsrc]
  cases hnc : noClash master ss.flatten with
  | false => exact .inl rfl
  | true =>
    right
    simp only [if_true]
    refine ⟨_, _, rfl, ?_⟩
    have hdk := dkids_treeResult_xt master ss.flatten hf.kids
    have hpw : ((treeResult master ss.flatten).map Obj.name).Pairwise (· ≠ ·) := by
      rw [treeResult_names]; exact hf.distinct
    have hdepth : depthL (treeResult master ss.flatten) + 1 < xfuel := by
      rw [depthL_treeResult_ns]; exact hx
    rw [extractObj_root_eq_spec_xt e xfuel _ _ hdk hpw hdepth]
    obtain ⟨herr, hok⟩ := extract_treeResult_xt e { name := [], id := some 0 } master ss.flatten hf
    cases hx : extractSpec e (.scope { name := [], id := some 0 } (treeResult master ss.flatten)) with
    | error err =>
      obtain ⟨ps, n, mm, mws, h1, h2⟩ := herr err hx
      exact .inl ⟨err, ps, n, mm, mws, rfl, h1, h2⟩
    | ok v =>
      refine .inr ⟨v, rfl, ?_⟩
      intro ps n mm mws hdef h0
      obtain ⟨leaf, h1, h2⟩ := hok v hx ps n mm mws hdef h0
      obtain ⟨c, hc, hfw⟩ := extractDefn_ok_conv_xt e mm _ leaf h2
      exact ⟨c, leaf, hc, h1, hfw, fromWords_in_domain c e.eval _ _ leaf hfw⟩

/-- the class of the extraction error, when master and sources carry at least one word per
    definition (what the parser delivers): a RuntimeError of the converter, or a text outside the
    modelled domain (`Phil.C16.extract_tree_no_stray`) -/
theorem fetchRoot_extract_error_class (e : Envs) (master : List Obj) (ss : List (List Obj))
    (hf : TreeMaster master) (hd : depthL master ≤ 1000) (hsrc : SrcTree ss.flatten)
    (hw : wordsKidsB_ns master = true) (hs : SrcWords_ns ss.flatten)
    (xfuel : Nat) (hx : depthL master + 1 < xfuel) (ro : Obj) (used : List Nat)
    (h : fetchRoot e false master ss = .ok (ro, used)) (err : Err)
    (he : extractObj e xfuel ro = .error err) :
    (∃ s l, err = .runtime s l) ∨ (∃ w, err = .unsupported w) :=
  Phil.C16.extract_tree_no_stray e _ xfuel _ master ss.flatten hf (fetchRoot_fuel_tree master hd) rfl hsrc hw
    hs hx ro used h err he

/-! ### 4. a recorded finding: a disabled definition leaves its declared domain

  `scope.extract` hands `None` to `__phil_set__` for a disabled object, whatever its type: a
  parameter declared `int(allow_none=False)` that is switched off with `!` extracts as `None`, which
  the type excludes.  (Model and Python agree; the theorems above therefore speak about enabled
  paths.) -/

/-- the smallest instance: `!a = 1  .type = int(allow_none=False)` extracts as `a = None`, and `None`
    is outside the declared domain -/
theorem disabled_definition_leaves_domain (e : Envs) (ws : List Word) :
    extractObj e 2 (.scope { name := [] }
      [.defn { name := "a".toList, disabled := true,
               attrs := [("type", .conv (.int { allowNone := false }))] } ws])
      = .ok (.record [("a".toList, .none)]) ∧
    InDomain (.int { allowNone := false }) .none = false := ⟨rfl, rfl⟩

/-! ### 5. instances through the parser (each replayed on the Python library) -/

def objsT (t : String) : List Obj :=
  match parseObjs t.toList with
  | .ok m => m
  | .error _ => []

/-- For `rw` and the kernel a literal is `String.ofList […]`: rewriting with this avoids UTF-8 decoding. -/
theorem objsT_ofList (l : List Char) :
    objsT (String.ofList l) = match parseObjs l with | .ok m => m | .error _ => [] := by
  unfold objsT
  rw [String.toList_ofList]

/-- `eval`: decimal integer literals only; `"%.10g"` is not needed -/
def envT : Envs := { eval := fun s => (parseIntLit s).map (fun i => .num (.int i)), fmt := fun _ => none }

/-- a three-level master: `a` (int ≥ 0); `s.b` (bool), `s.name` (str); `s.t.ns` (at most 4 ints),
    `s.t.c` (choice) -/
def masterT : String :=
  "a = 1\n.type = int(value_min=0)\ns {\n  b = yes\n  .type = bool\n  name = \"x y\"\n  .type = str\n  t {\n    ns = 1 2 3\n    .type = ints(size_max=4)\n    c = *red green blue\n    .type = choice\n  }\n}\n"

/-- the same without the choice (`TreeMaster` excludes choices: their fetch rewrites the words) -/
def masterP : String :=
  "a = 1\n.type = int(value_min=0)\ns {\n  b = yes\n  .type = bool\n  name = \"x y\"\n  .type = str\n  t {\n    ns = 1 2 3\n    .type = ints(size_max=4)\n  }\n}\n"

section
attribute [local instance] objDecEq

theorem masterP_eq : objsT masterP =
    [
      .defn { name := "a".toList, id := some 1, line := some 1,
              attrs := [("type", .conv (.int { valueMin := some (.int 0) }))] }
        [{ value := "1".toList, line := some 1 }],
      .scope { name := "s".toList, id := some 2, line := some 3 } [
        .defn { name := "b".toList, id := some 3, line := some 4, attrs := [("type", .conv .bool)] }
          [{ value := "yes".toList, line := some 4 }],
        .defn { name := "name".toList, id := some 4, line := some 6, attrs := [("type", .conv .str)] }
          [{ value := "x y".toList, quote := some .d1, line := some 6 }],
        .scope { name := "t".toList, id := some 5, line := some 8 } [
          .defn { name := "ns".toList, id := some 6, line := some 9,
                  attrs := [("type", .conv (.ints { sizeMax := some 4 }))] }
            [{ value := "1".toList, line := some 9 }, { value := "2".toList, line := some 9 },
             { value := "3".toList, line := some 9 }]]]] := by
  unfold masterP
  rw [objsT_ofList]
  decide +kernel

theorem masterT_eq : objsT masterT =
    [
      .defn { name := "a".toList, id := some 1, line := some 1,
              attrs := [("type", .conv (.int { valueMin := some (.int 0) }))] }
        [{ value := "1".toList, line := some 1 }],
      .scope { name := "s".toList, id := some 2, line := some 3 } [
        .defn { name := "b".toList, id := some 3, line := some 4, attrs := [("type", .conv .bool)] }
          [{ value := "yes".toList, line := some 4 }],
        .defn { name := "name".toList, id := some 4, line := some 6, attrs := [("type", .conv .str)] }
          [{ value := "x y".toList, quote := some .d1, line := some 6 }],
        .scope { name := "t".toList, id := some 5, line := some 8 } [
          .defn { name := "ns".toList, id := some 6, line := some 9,
                  attrs := [("type", .conv (.ints { sizeMax := some 4 }))] }
            [{ value := "1".toList, line := some 9 }, { value := "2".toList, line := some 9 },
             { value := "3".toList, line := some 9 }],
          .defn { name := "c".toList, id := some 7, line := some 11,
                  attrs := [("type", .conv (.choice false))] }
            [{ value := "*red".toList, line := some 11 }, { value := "green".toList, line := some 11 },
             { value := "blue".toList, line := some 11 }]]]] := by
  unfold masterT
  rw [objsT_ofList]
  decide +kernel

end

/-- `master.fetch(source).extract()` -/
def fetchExtractT (m s : String) : R PVal :=
  match fetchRoot envT false (objsT m) [objsT s] with
  | .error err => .error err
  | .ok (ro, _) => extractObj envT 50 ro

theorem fetchExtractT_ofList (m : String) (l : List Char) :
    fetchExtractT m (String.ofList l) =
      match fetchRoot envT false (objsT m) [match parseObjs l with | .ok m => m | .error _ => []] with
      | .error err => .error err
      | .ok (ro, _) => extractObj envT 50 ro := by
  rw [fetchExtractT, objsT_ofList]

/-- the result is the value `v` -/
def yields (r : R PVal) (v : PVal) : Bool :=
  match r with
  | .ok x => pvalBeq_xt x v
  | .error _ => false

theorem yields_sound {r : R PVal} {v : PVal} (h : yields r v = true) : r = .ok v := by
  unfold yields at h
  cases r with
  | error err => cases h
  | ok x => rw [pvalBeq_sound_xt x v h]

private def S (s : String) : Str := s.toList
private def I (i : Int) : PVal := .num (.int i)

/-- no source: the master's own values -/
example : yields (fetchExtractT masterT "")
    (.record [(S "a", I 1), (S "s", .record [(S "b", .bool true), (S "name", .str (S "x y")),
      (S "t", .record [(S "ns", .list [I 1, I 2, I 3]), (S "c", .str (S "red"))])])]) = true := by
  rw [fetchExtractT_ofList, masterT_eq]
  decide +kernel

/-- a parameter file touching every leaf, in another order and with dotted names -/
theorem fetchExtractT_every_leaf :
    fetchExtractT masterT "s.t.c = blue\na = 7\ns {\n b = no\n t.ns = 4 5\n}\n" = .ok
      (.record [(S "a", I 7), (S "s", .record [(S "b", .bool false), (S "name", .str (S "x y")),
        (S "t", .record [(S "ns", .list [I 4, I 5]), (S "c", .str (S "blue"))])])]) :=
  yields_sound (by rw [fetchExtractT_ofList, masterT_eq]; decide +kernel)

example : yields (fetchExtractT masterT "s.t.c = blue\na = 7\ns {\n b = no\n t.ns = 4 5\n}\n")
    (.record [(S "a", I 7), (S "s", .record [(S "b", .bool false), (S "name", .str (S "x y")),
      (S "t", .record [(S "ns", .list [I 4, I 5]), (S "c", .str (S "blue"))])])]) = true := by
  rw [fetchExtractT_every_leaf]
  decide +kernel

/-- a disabled source definition is ignored -/
example : yields (fetchExtractT masterT "!a = 5\n")
    (.record [(S "a", I 1), (S "s", .record [(S "b", .bool true), (S "name", .str (S "x y")),
      (S "t", .record [(S "ns", .list [I 1, I 2, I 3]), (S "c", .str (S "red"))])])]) = true := by
  rw [fetchExtractT_ofList, masterT_eq]
  decide +kernel

/-- user mistakes: each is the converter's RuntimeError citing the line of the offending value -/
example : Phil.errOf (fetchExtractT masterT "a = -1\n") = some (.runtime "value_min" (some 1)) := by
  rw [fetchExtractT_ofList, masterT_eq]
  decide +kernel
example : Phil.errOf (fetchExtractT masterT "s.t.ns = 1 2 3 4 5\n") = some (.runtime "too_many" (some 1)) := by
  rw [fetchExtractT_ofList, masterT_eq]
  decide +kernel
example : Phil.errOf (fetchExtractT masterT "x = 0\ns.b = maybe\n") = some (.runtime "bool_expected" (some 2)) := by
  rw [fetchExtractT_ofList, masterT_eq]
  decide +kernel
/-- a scope where the master has a definition: refused by the fetch -/
example : Phil.errOf (fetchExtractT masterT "a {\n x = 3\n}\n") = some (.runtime "incompatible" none) := by
  rw [fetchExtractT_ofList, masterT_eq]
  decide +kernel
/-- a name that is not an alternative of the choice: refused by the fetch with Sorry -/
example : Phil.errOf (fetchExtractT masterT "s.t.c = purple\n")
    = some (.sorry_ "not_a_possible_choice" [S "*red", S "green", S "blue"]) := by
  rw [fetchExtractT_ofList, masterT_eq]
  decide +kernel

/-- `masterP` satisfies the executable hypotheses of `fetchRoot_extract_in_domain` -/
theorem masterP_hyps :
    (treeMasterB (objsT masterP) && depthL (objsT masterP) == 2 && wordsKidsB_ns (objsT masterP)) = true := by
  rw [masterP_eq]
  decide +kernel

example : (treeMasterB (objsT masterP) && depthL (objsT masterP) == 2 && wordsKidsB_ns (objsT masterP)) = true :=
  masterP_hyps

/-- **the theorem applied to the parsed master and a parsed parameter file**: whatever the outcome,
    it is one of the three; in the last the record holds at `s.t.ns` a value of the domain of the
    type declared there (`mm`, `mws`: the master definition at that path). -/
example (mm : Meta) (mws : List Word)
    (hdef : defAt (objsT masterP) [S "s", S "t"] (S "ns") = some (.defn mm mws)) (h0 : mm.tmpl = 0) :
    fetchRoot envT false (objsT masterP) [objsT "a = 7\ns {\n b = no\n t.ns = 4 5\n}\n"]
        = .error (.runtime "incompatible" none) ∨
    ∃ ro used, fetchRoot envT false (objsT masterP) [objsT "a = 7\ns {\n b = no\n t.ns = 4 5\n}\n"] = .ok (ro, used) ∧
      ((∃ err, extractObj envT 50 ro = .error err) ∨
       (∃ v c leaf, extractObj envT 50 ro = .ok v ∧ declConv mm = some c ∧
          valueAt v [S "s", S "t"] (S "ns") = some leaf ∧ InDomain c leaf = true)) := by
  have hfl : ([objsT "a = 7\ns {\n b = no\n t.ns = 4 5\n}\n"] : List (List Obj)).flatten
      = objsT "a = 7\ns {\n b = no\n t.ns = 4 5\n}\n" := by simp
  have hP := masterP_hyps
  simp only [Bool.and_eq_true, beq_iff_eq] at hP
  rcases fetchRoot_extract_in_domain envT (objsT masterP) [objsT "a = 7\ns {\n b = no\n t.ns = 4 5\n}\n"]
    (treeMasterB_sound _ hP.1.1) (by rw [hP.1.2]; decide)
    (by rw [hfl]; exact (srcCheck_sound _ (by rw [objsT_ofList]; decide +kernel)).tree) 50
    (by rw [hP.1.2]; decide) with h | ⟨ro, used, h, h2⟩
  · exact .inl h
  · refine .inr ⟨ro, used, h, ?_⟩
    rcases h2 with ⟨err, _, _, _, _, he, _⟩ | ⟨v, hv, hall⟩
    · exact .inl ⟨err, he⟩
    · obtain ⟨c, leaf, hc, h1, _, h3⟩ := hall [S "s", S "t"] (S "ns") mm mws hdef h0
      exact .inr ⟨v, c, leaf, hv, hc, h1, h3⟩

/-- … the master definition at `s.t.ns` is not a template and declares `ints(size_max=4)` -/
example : (match defAt (objsT masterP) [S "s", S "t"] (S "ns") with
    | some (.defn mm _) => mm.tmpl == 0 && declConv mm == some (.ints { sizeMax := some 4 })
    | _ => false) = true := by
  rw [masterP_eq]
  decide +kernel

/-- **a tree with a choice**: `extract_tree_in_domain` applies to any tree with distinct sibling
    names — here to the result of the fetch of `masterT`, at the path `s.t.c` -/
example (ro : Obj) (used : List Nat) (kids : List Obj)
    (hro : ro = .scope { name := [], id := some 0 } kids)
    (h : fetchRoot envT false (objsT masterT) [objsT "s.t.c = blue\n"] = .ok (ro, used))
    (hshape : (dkidsB_xt kids && decide ((kids.map Obj.name).Pairwise (· ≠ ·)) && decide (depthL kids = 2)
      && livePath_xt kids [S "s", S "t"] (S "c")) = true)
    (dm : Meta) (dws : List Word) (hdef : defAt kids [S "s", S "t"] (S "c") = some (.defn dm dws))
    (v : PVal) (hv : extractObj envT 50 ro = .ok v) :
    ∃ c leaf, declConv dm = some c ∧ valueAt v [S "s", S "t"] (S "c") = some leaf ∧ InDomain c leaf = true := by
  simp only [Bool.and_eq_true, decide_eq_true_eq] at hshape
  subst hro
  obtain ⟨c, leaf, h1, h2, _, h4⟩ := extract_tree_in_domain envT 50 _ kids v (dkidsB_sound_xt _ hshape.1.1.1)
    hshape.1.1.2 (by rw [hshape.1.2]; decide) hv _ _ dm dws hdef hshape.2
  exact ⟨c, leaf, h1, h2, h4⟩

/-- … whose shape hypothesis holds for the actual result (kernel evaluation) -/
example : (match fetchRoot envT false (objsT masterT) [objsT "s.t.c = blue\n"] with
    | .ok (.scope _ kids, _) =>
      dkidsB_xt kids && decide ((kids.map Obj.name).Pairwise (· ≠ ·)) && decide (depthL kids = 2)
        && livePath_xt kids [S "s", S "t"] (S "c")
    | _ => false) = true := by
  rw [masterT_eq]
  decide +kernel

/-- the finding of §4 through the parser: `!a = 1` of type `int(allow_none=False)` extracts as `None` -/
example : yields (extractObj envT 50 (.scope { name := [] } (objsT "!a = 1\n.type = int(allow_none=False)\nb = 2\n")))
    (.record [(S "a", .none), (S "b", .list [.str (S "2")])]) = true := by
  rw [objsT_ofList]
  decide +kernel

end Phil.C10
