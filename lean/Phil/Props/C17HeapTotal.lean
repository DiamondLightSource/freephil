/-
  C17 on the object-identity model, open ends closed (Phil/Heap.lean, Phil/Proofs/HeapTotal.lean):

  (1) `deepcopy` is TOTAL: on every heap without dangling reference (`closedB`) and for every object of it
      `deepcopy h x` is `some _` (fuel adequacy of `visit` with `visitFuel`).  Every theorem of
      Phil/Props/C17Heap.lean that assumed `deepcopy h x = some c` is restated without that hypothesis
      (`…_total`: the copy exists AND has the property).
  (2) every heap built from an abstract tree (`build` into the empty heap, `ofObjs`: the parser-shaped
      construction) satisfies `wfB` — `closedB`, `kidsLinkedB`, `parentListsB`, `nodupKidsB`, `acyclicB` — so
      all C17Heap theorems apply to every parsed document without per-document kernel evaluation
      (`deepcopy_of_parsed_document`).
-/
import Phil.Props.C17Heap
import Phil.Proofs.HeapTotal
namespace Phil.C17HeapTotal
open Phil Phil.Heap

/-! ### (1) totality -/

/-- **`deepcopy` / pickle round trip always succeed** on a heap without dangling reference, for every
    object of the heap. -/
theorem deepcopy_total (h : Heap) (x : Nat) (hc : closedB h = true) (hx : x < h.length) :
    ∃ c, deepcopy h x = some c :=
  Phil.Heap.deepcopy_total h x hc hx

/-- the traversal itself: from any state whose stack holds ids of the heap, `visit` ends as soon as the
    fuel covers `todo.length + Σ_{unseen i} (succs(i).length + 1) + 1` -/
theorem visit_fuel_adequate (f : Nat) (h : Heap) (todo : List Nat) (seen : List (Nat × Node))
    (hc : closedB h = true) (ht : ∀ y ∈ todo, y < h.length)
    (hf : todo.length + costFrom (seen.map (·.1)) 0 h + 1 ≤ f) : ∃ comp, visit f h todo seen = some comp :=
  visit_total f h todo seen (closedB_sound hc) ht hf

/-- `isSome` form, for evaluation -/
theorem deepcopy_isSome (h : Heap) (x : Nat) (hc : closedB h = true) (hx : x < h.length) :
    (deepcopy h x).isSome = true := by
  obtain ⟨c, hd⟩ := deepcopy_total h x hc hx
  rw [hd]; rfl

/-- **Isomorphic (total).** -/
theorem deepcopy_isomorphic_total (h : Heap) (x : Nat) (o : Obj) (hc : closedB h = true) (ha : Abs h x o) :
    ∃ c, deepcopy h x = some c ∧ Abs c.heap c.result o := by
  have hx : x < h.length := by
    obtain ⟨f, hf⟩ := ha
    obtain ⟨n, hn, _⟩ := absF_meta hf
    exact (List.getElem?_eq_some_iff.mp hn).1
  obtain ⟨c, hd⟩ := deepcopy_total h x hc hx
  exact ⟨c, hd, C17Heap.deepcopy_isomorphic h x c o hd ha⟩

/-- every copied object denotes in the copy what it denoted in the original, at every fuel -/
theorem deepcopy_isomorphic_everywhere_total (h : Heap) (x : Nat) (hc : closedB h = true) (hx : x < h.length) :
    ∃ c, deepcopy h x = some c ∧
      ∀ i ∈ c.comp, ∀ f, absF f c.heap (memo h.length c.comp i) = absF f h i := by
  obtain ⟨c, hd⟩ := deepcopy_total h x hc hx
  exact ⟨c, hd, fun i hi f => C17Heap.deepcopy_isomorphic_everywhere h x c hd i hi f⟩

/-- executable form -/
theorem deepcopy_abs_total (h : Heap) (x : Nat) (o : Obj) (hc : closedB h = true) (hx : x < h.length)
    (ha : abs h x = some o) : ∃ c, deepcopy h x = some c ∧ abs c.heap c.result = some o := by
  obtain ⟨c, hd⟩ := deepcopy_total h x hc hx
  exact ⟨c, hd, C17Heap.deepcopy_abs h x c o hd ha⟩

/-- the copy is made cell by cell -/
theorem deepcopy_cell_total (h : Heap) (x : Nat) (hc : closedB h = true) (hx : x < h.length) :
    ∃ c, deepcopy h x = some c ∧ ∀ i ∈ c.comp, ∃ n, h[i]? = some n ∧
      c.heap[memo h.length c.comp i]? = some (n.rename (memo h.length c.comp)) := by
  obtain ⟨c, hd⟩ := deepcopy_total h x hc hx
  exact ⟨c, hd, fun i hi => C17Heap.deepcopy_cell h x c hd i hi⟩

/-- what is copied: `x`, and with every copied object its children and its parent -/
theorem deepcopy_component_total (h : Heap) (x : Nat) (hc : closedB h = true) (hx : x < h.length) :
    ∃ c, deepcopy h x = some c ∧ x ∈ c.comp ∧ c.comp.Nodup ∧
    ∀ i ∈ c.comp, ∃ n, h[i]? = some n ∧ (∀ k ∈ n.kids, k ∈ c.comp) ∧ (∀ p, n.parent = some p → p ∈ c.comp) := by
  obtain ⟨c, hd⟩ := deepcopy_total h x hc hx
  exact ⟨c, hd, C17Heap.deepcopy_component h x c hd⟩

/-- **Disjoint (total).**  The copy consists of `c.comp.length` new objects; nothing is shared. -/
theorem deepcopy_disjoint_total (h : Heap) (x : Nat) (hc : closedB h = true) (hx : x < h.length) :
    ∃ c, deepcopy h x = some c ∧
    c.heap.length = h.length + c.comp.length ∧
    h.length ≤ c.result ∧ c.result < c.heap.length ∧
    (∀ i ∈ c.comp, i < h.length ∧ h.length ≤ memo h.length c.comp i ∧ memo h.length c.comp i < c.heap.length) ∧
    (∀ i ∈ c.comp, ∀ j ∈ c.comp, memo h.length c.comp i = memo h.length c.comp j → i = j) := by
  obtain ⟨c, hd⟩ := deepcopy_total h x hc hx
  exact ⟨c, hd, C17Heap.deepcopy_disjoint h x c hd⟩

/-- every reference held by an object of the copy is an object of the copy -/
theorem deepcopy_references_inside_total (h : Heap) (x : Nat) (hc : closedB h = true) (hx : x < h.length) :
    ∃ c, deepcopy h x = some c ∧ ∀ i ∈ c.comp, ∀ n', c.heap[memo h.length c.comp i]? = some n' →
      ∀ y ∈ n'.succs, h.length ≤ y ∧ ∃ j ∈ c.comp, y = memo h.length c.comp j := by
  obtain ⟨c, hd⟩ := deepcopy_total h x hc hx
  exact ⟨c, hd, fun i hi n' hn' => C17Heap.deepcopy_references_inside h x c hd i hi n' hn'⟩

/-- **Children linked to their own parent (total).** -/
theorem deepcopy_children_linked_total (h : Heap) (x : Nat) (hc : closedB h = true) (hx : x < h.length)
    (hl : kidsLinkedB h = true) :
    ∃ c, deepcopy h x = some c ∧ ∀ i ∈ c.comp, ∀ n', c.heap[memo h.length c.comp i]? = some n' →
      ∀ k ∈ n'.kids, ∃ nk, c.heap[k]? = some nk ∧ nk.parent = some (memo h.length c.comp i) ∧ h.length ≤ k := by
  obtain ⟨c, hd⟩ := deepcopy_total h x hc hx
  exact ⟨c, hd, fun i hi n' hn' => C17Heap.deepcopy_children_linked h x c hd hl i hi n' hn'⟩

/-- **The parent of the copied root (total).** -/
theorem deepcopy_root_parent_total (h : Heap) (x : Nat) (hc : closedB h = true) (hx : x < h.length) :
    ∃ c, deepcopy h x = some c ∧ ∃ n n', h[x]? = some n ∧ c.heap[c.result]? = some n' ∧
      n'.parent = n.parent.map (memo h.length c.comp) ∧ ∀ p', n'.parent = some p' → h.length ≤ p' := by
  obtain ⟨c, hd⟩ := deepcopy_total h x hc hx
  exact ⟨c, hd, C17Heap.deepcopy_root_parent h x c hd⟩

/-- deepcopy writes no slot of any existing object -/
theorem deepcopy_frame_total (h : Heap) (x : Nat) (hc : closedB h = true) (hx : x < h.length) :
    ∃ c, deepcopy h x = some c ∧ ∀ i, i < h.length → c.heap[i]? = h[i]? := by
  obtain ⟨c, hd⟩ := deepcopy_total h x hc hx
  exact ⟨c, hd, C17Heap.deepcopy_frame h x c hd⟩

/-- **Frame theorem (total).**  The copy exists, and any later history of slot assignments to objects of
    the copy (or to later objects) leaves every original cell and every original abstract tree unchanged. -/
theorem deepcopy_assign_frame_total (h : Heap) (x : Nat) (hc : closedB h = true) (hx : x < h.length) :
    ∃ c, deepcopy h x = some c ∧ ∀ (ops : List (Nat × Assign)), (∀ op ∈ ops, h.length ≤ op.1) →
      (∀ i, i < h.length → (assignMany c.heap ops)[i]? = h[i]?) ∧
      (∀ f i, i < h.length → absF f (assignMany c.heap ops) i = absF f h i) ∧
      (∀ i, i < h.length → ∀ o, Abs (assignMany c.heap ops) i o ↔ Abs h i o) := by
  obtain ⟨c, hd⟩ := deepcopy_total h x hc hx
  refine ⟨c, hd, fun ops hops => ?_⟩
  obtain ⟨a, b⟩ := C17Heap.deepcopy_assign_frame h x c hd hc ops hops
  exact ⟨a, b, fun i hi o => C17Heap.deepcopy_assign_frame_abs h x c hd hc ops hops i hi o⟩

/-! ### sharp edges of (1), kernel-checked -/

/-- a heap with a dangling child id (object 0 lists object 5) -/
def danglingHeap : Heap := [.scope { name := [] } [5] none]

/-- **`closedB` is needed**: with a dangling reference the traversal fails (Python: cannot happen — a slot
    always holds an object; the hypothesis excludes junk heaps of the model only). -/
theorem deepcopy_of_dangling_fails : closedB danglingHeap = false ∧ deepcopy danglingHeap 0 = none := by
  decide +kernel

/-- **`x < h.length` is needed**: an id that is no object of the heap cannot be copied -/
theorem deepcopy_of_no_object_fails :
    closedB C17Heap.fetchShaped = true ∧ deepcopy C17Heap.fetchShaped 3 = none := by
  decide +kernel

/-- how generous the bound is: on the one-object heap `visitFuel` is 3, two steps are needed (enter the
    object, see the empty stack), one is not enough -/
theorem visitFuel_tight_example :
    visitFuel [Node.defn { name := "a".toList } [] none] = 3 ∧
    visit 1 [Node.defn { name := "a".toList } [] none] [0] [] = none ∧
    (visit 2 [Node.defn { name := "a".toList } [] none] [0] []).isSome = true := by
  decide +kernel

/-- the hypotheses of the total theorems on a fetch-shaped heap that is NOT a tree (object 2 lists the
    master's definition): closed, so every object can be deep-copied -/
example : ∀ x, x < 3 → ∃ c, deepcopy C17Heap.fetchShaped x = some c :=
  fun x hx => deepcopy_total C17Heap.fetchShaped x (by decide +kernel) hx

/-! ### (2) every built heap is well-formed; parsed documents -/

/-- **A tree allocated in the empty heap is well-formed**: no dangling reference, every child points to its
    scope, every object with a parent is listed by it, no duplicate child, no parent cycle.  Every tree. -/
theorem build_wf (o : Obj) : wfB (build o none []).1 = true :=
  (cells_treeHeap o).wfB

theorem build_closedB (o : Obj) : closedB (build o none []).1 = true :=
  (cells_treeHeap o).closedB

theorem build_kidsLinkedB (o : Obj) : kidsLinkedB (build o none []).1 = true :=
  (cells_treeHeap o).kidsLinkedB

/-- the heap of a document (root scope with the parsed objects) is well-formed, whatever the objects -/
theorem ofObjs_wf (os : List Obj) : wfB (ofObjs os) = true := (ofObjs_treeHeap os).wfB

/-- `heapOfText` of every text is well-formed (a text that does not parse gives the empty heap) -/
theorem heapOfText_wf (t : String) : wfB (C17Heap.heapOfText t) = true := by
  unfold C17Heap.heapOfText
  cases parseObjs t.toList with
  | ok os => exact ofObjs_wf os
  | error e => rfl

/-- allocating a tree in ANY heap (under any parent that is an object of the result) keeps `closedB` and
    `kidsLinkedB` — the hypotheses of the C17Heap theorems — e.g. a source document next to a master -/
theorem build_keeps_closed_linked (o : Obj) (p : Option Nat) (h : Heap)
    (hc : closedB h = true) (hl : kidsLinkedB h = true) (hp : ∀ q, p = some q → q < h.length + size o) :
    closedB (build o p h).1 = true ∧ kidsLinkedB (build o p h).1 = true :=
  ⟨closedB_complete (build_closed o p h (closedB_sound hc) hp),
   kidsLinkedB_complete (build_kidsLinked o p h (closedB_sound hc) (kidsLinkedB_sound hl))⟩

/-- every object of a document heap denotes an abstract tree -/
theorem ofObjs_abs_isSome (os : List Obj) (x : Nat) (hx : x < (ofObjs os).length) :
    (abs (ofObjs os) x).isSome = true :=
  (ofObjs_treeHeap os).abs_isSome x hx

/-- the root object denotes the document -/
theorem ofObjs_root (os : List Obj) : Abs (ofObjs os) 0 (.scope { name := [] } os) :=
  build_abs (.scope { name := [] } os) none []

/-- **Deep copies of parsed documents.**  For every text that parses and EVERY object `x` of its heap (the
    root, a scope, a definition at any depth): `copy.deepcopy(x)` / a pickle round trip succeeds; `x` denotes
    a tree `o` and the result denotes the same `o`; the copy consists of new objects only, one per copied
    object; every child of a copied scope is a new object whose parent is that copied scope; the original
    cells are untouched; and no later history of slot assignments to the copy (or to later objects) changes
    any original cell or what any original object denotes.  No per-document evaluation is involved. -/
theorem deepcopy_of_parsed_document (text : List Char) (objs : List Obj) (_hp : parseObjs text = .ok objs)
    (x : Nat) (hx : x < (ofObjs objs).length) :
    wfB (ofObjs objs) = true ∧ Abs (ofObjs objs) 0 (.scope { name := [] } objs) ∧
    ∃ c o, deepcopy (ofObjs objs) x = some c ∧
      abs (ofObjs objs) x = some o ∧ abs c.heap c.result = some o ∧
      c.heap.length = (ofObjs objs).length + c.comp.length ∧
      (ofObjs objs).length ≤ c.result ∧ c.result < c.heap.length ∧
      (∀ i ∈ c.comp, ∀ j ∈ c.comp, memo (ofObjs objs).length c.comp i = memo (ofObjs objs).length c.comp j → i = j) ∧
      (∀ i ∈ c.comp, ∀ n', c.heap[memo (ofObjs objs).length c.comp i]? = some n' →
        (∀ y ∈ n'.succs, (ofObjs objs).length ≤ y) ∧
        ∀ k ∈ n'.kids, ∃ nk, c.heap[k]? = some nk ∧ nk.parent = some (memo (ofObjs objs).length c.comp i)) ∧
      (∀ (ops : List (Nat × Assign)), (∀ op ∈ ops, (ofObjs objs).length ≤ op.1) →
        (∀ i, i < (ofObjs objs).length → (assignMany c.heap ops)[i]? = (ofObjs objs)[i]?) ∧
        (∀ f i, i < (ofObjs objs).length → absF f (assignMany c.heap ops) i = absF f (ofObjs objs) i)) := by
  have t := ofObjs_treeHeap objs
  have hc := t.closedB
  have hl := t.kidsLinkedB
  refine ⟨t.wfB, ofObjs_root objs, ?_⟩
  obtain ⟨c, hd⟩ := deepcopy_total _ x hc hx
  have ha := t.abs_isSome x hx
  cases hab : abs (ofObjs objs) x with
  | none => rw [hab] at ha; cases ha
  | some o =>
    obtain ⟨d1, d2, d3, _, d5⟩ := C17Heap.deepcopy_disjoint _ x c hd
    refine ⟨c, o, hd, rfl, C17Heap.deepcopy_abs _ x c o hd hab, d1, d2, d3, d5, ?_, ?_⟩
    · intro i hi n' hn'
      refine ⟨fun y hy => (C17Heap.deepcopy_references_inside _ x c hd i hi n' hn' y hy).1, ?_⟩
      intro k hk
      obtain ⟨nk, a, b, _⟩ := C17Heap.deepcopy_children_linked _ x c hd hl i hi n' hn' k hk
      exact ⟨nk, a, b⟩
    · intro ops hops
      exact C17Heap.deepcopy_assign_frame _ x c hd hc ops hops

/-- the hypotheses are satisfiable: a concrete parsed text with six objects; the theorem applies to each -/
example : ∃ objs, parseObjs "a = 1\ns {\n  b = 2 3\n  t { c = x }\n}\n".toList = .ok objs ∧
    (ofObjs objs).length = 6 := by
  have key : (match parseObjs "a = 1\ns {\n  b = 2 3\n  t { c = x }\n}\n".toList with
      | .ok os => decide ((ofObjs os).length = 6) | .error _ => false) = true := by
    -- the text is decoded in a hypothesis: the check of a rewrite below the `match` evaluates the parse
    generalize hl : String.toList _ = l
    rw [String.toList_ofList] at hl
    subst hl
    decide +kernel
  cases h : parseObjs "a = 1\ns {\n  b = 2 3\n  t { c = x }\n}\n".toList with
  | error e => rw [h] at key; cases key
  | ok objs => rw [h] at key; exact ⟨objs, rfl, of_decide_eq_true key⟩

/-! ### sharp edges of (2) -/

/-- **Only heaps built in the EMPTY heap are `wfB`**: a tree allocated under a parent that does not list it
    (what `build o (some p) h` does — and what `copy()` produces: D21) violates `parentListsB`; `closedB` and
    `kidsLinkedB` survive (`build_keeps_closed_linked`). -/
theorem build_under_parent_not_wf :
    wfB (build (.defn { name := "a".toList } []) (some 0) (ofObjs [])).1 = false ∧
    closedB (build (.defn { name := "a".toList } []) (some 0) (ofObjs [])).1 = true ∧
    kidsLinkedB (build (.defn { name := "a".toList } []) (some 0) (ofObjs [])).1 = true := by
  decide +kernel

/-- the bound on the parent in `build_keeps_closed_linked` is needed -/
theorem build_under_dangling_parent_not_closed :
    closedB (build (.defn { name := "a".toList } []) (some 7) (ofObjs [])).1 = false := by
  decide +kernel

end Phil.C17HeapTotal

#print axioms Phil.C17HeapTotal.deepcopy_total
#print axioms Phil.C17HeapTotal.visit_fuel_adequate
#print axioms Phil.C17HeapTotal.deepcopy_isSome
#print axioms Phil.C17HeapTotal.deepcopy_isomorphic_total
#print axioms Phil.C17HeapTotal.deepcopy_isomorphic_everywhere_total
#print axioms Phil.C17HeapTotal.deepcopy_abs_total
#print axioms Phil.C17HeapTotal.deepcopy_cell_total
#print axioms Phil.C17HeapTotal.deepcopy_component_total
#print axioms Phil.C17HeapTotal.deepcopy_disjoint_total
#print axioms Phil.C17HeapTotal.deepcopy_references_inside_total
#print axioms Phil.C17HeapTotal.deepcopy_children_linked_total
#print axioms Phil.C17HeapTotal.deepcopy_root_parent_total
#print axioms Phil.C17HeapTotal.deepcopy_frame_total
#print axioms Phil.C17HeapTotal.deepcopy_assign_frame_total
#print axioms Phil.C17HeapTotal.deepcopy_of_dangling_fails
#print axioms Phil.C17HeapTotal.deepcopy_of_no_object_fails
#print axioms Phil.C17HeapTotal.visitFuel_tight_example
#print axioms Phil.C17HeapTotal.build_wf
#print axioms Phil.C17HeapTotal.build_closedB
#print axioms Phil.C17HeapTotal.build_kidsLinkedB
#print axioms Phil.C17HeapTotal.ofObjs_wf
#print axioms Phil.C17HeapTotal.heapOfText_wf
#print axioms Phil.C17HeapTotal.build_keeps_closed_linked
#print axioms Phil.C17HeapTotal.ofObjs_abs_isSome
#print axioms Phil.C17HeapTotal.ofObjs_root
#print axioms Phil.C17HeapTotal.deepcopy_of_parsed_document
#print axioms Phil.C17HeapTotal.build_under_parent_not_wf
#print axioms Phil.C17HeapTotal.build_under_dangling_parent_not_closed
