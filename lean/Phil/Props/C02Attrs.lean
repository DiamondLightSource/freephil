/-
  C02 (closed form, attribute assignments inside the layout grammar) — "the tree does not depend on the
  layout" and "a `!` prefix disables exactly the one construct it precedes" for documents whose
  definitions carry attribute assignments `.name = words`.

  Setting (Phil/Proofs/Layout.lean, Phil/Proofs/LayoutAttrs.lean): a flat document is a list of *items*, each either a definition
  `[!]name = w1 … wk` or an attribute assignment `[!].attr = w1 … wk` (`AItem`), each with its own
  `DefLayout` — filler lines (blank / comment lines) and indentation in front, blanks around `=` and
  between the words, and one of the four terminators (newline, `;`, trailing comment, end of text).
  Grouped by definition: `ADef` (a definition with its list of `AttrIt`), `flattenA`.

    * `renderA xs post`       — the text;
    * `wfDocA xs post`        — the decidable input class: good names / words (as in C02Layout), attribute
                                names from `definition.attribute_names`, values the converter of that
                                attribute accepts (`attrValOf`; not required under `!`), the first item
                                a definition;
    * `parsedA 1 1 none xs`   — the tree, by recursion over the items; `groupedObjs 1 1 ds` — grouped;
    * `treeC none contents`   — the tree without ids and lines, a function of the *contents* only.

  Validation of the closed form against the Python library before proving: 872 random documents
  (random layouts rendered by `renderA`, parsed by freephil, compared with `groupedObjs`), all agree.
  Every sharp edge below was replayed on the Python library (`freephil.parse(input_string=…)`): model and
  library agree on each.

  Property theorems only; lemmas are in Phil/Proofs/LayoutAttrs.lean.
-/

import Phil.Proofs.LayoutAll
import Phil.Props.C02Bang
namespace Phil.C02
open Phil

attribute [local instance] Phil.C01.objDecEqInst Phil.C01.exceptDecEqRT

/-! ### (1) closed form and layout independence -/

/-- **Closed form, item by item.**  Every well-formed layout of a flat document with attribute
    assignments parses to `parsedA 1 1 none xs`: a definition item starts a new definition (next id,
    line of its name, words on their lines, `disabled` iff `!`), an attribute item appends
    `(name, value)` to the attributes of the definition in front of it — unless it carries `!` — and
    consumes no id. -/
theorem attrs_items_closed_form (xs : List AItem) (post : Pre) (h : wfDocA xs post = true) :
    parseObjs (renderA xs post) = .ok (parsedA 1 1 none xs) :=
  parseObjs_renderA_la xs post h

/-- **Closed form, grouped.**  One object per definition, with ids `1..n`; its attributes are the
    assignments that follow it and are not commented out, in order (`attrsOf`). -/
theorem attrs_closed_form (ds : List ADef) (post : Pre) (h : wfDocG ds post = true) :
    parseObjs (renderA (flattenA ds) post) = .ok (groupedObjs 1 1 ds) :=
  parseObjs_renderG_la ds post h

/-- **C02, layout independence with attributes.**  Two well-formed layouts of the same contents
    (same definitions, same attribute assignments with the same words and the same `!`s, in the same
    order — `AItem.content` forgets the layout and the source lines) parse to the same tree up to ids
    and source lines; that tree is `treeC none contents`.  In particular every attribute has the same
    VALUE whatever filler lines, blanks and terminators surround the assignment. -/
theorem attrs_layout_independent (xs ys : List AItem) (post post' : Pre)
    (hx : wfDocA xs post = true) (hy : wfDocA ys post' = true)
    (hc : xs.map AItem.content = ys.map AItem.content) :
    ∃ t1 t2, parseObjs (renderA xs post) = .ok t1 ∧ parseObjs (renderA ys post') = .ok t2 ∧
      eraseList t1 = eraseList t2 ∧ eraseList t1 = treeC none (xs.map AItem.content) := by
  refine ⟨_, _, parseObjs_renderA_la xs post hx, parseObjs_renderA_la ys post' hy, ?_, ?_⟩
  · rw [parsedA_erase_la, parsedA_erase_la, hc]
  · rw [parsedA_erase_la]; rfl

/-- **Every object, by index.**  The `k`-th object is the `k`-th definition: its name, id `k + 1`,
    `is_disabled` iff it carries `!`, the words (value and quote style), and exactly the attribute
    assignments `attrsOf a.attrs`. -/
theorem attrs_pointwise (ds : List ADef) (post : Pre) (h : wfDocG ds post = true) :
    ∃ objs, parseObjs (renderA (flattenA ds) post) = .ok objs ∧ objs.length = ds.length ∧
      ∀ (k : Nat) (a : ADef), ds[k]? = some a →
        ∃ m ws, objs[k]? = some (.defn m ws) ∧ m.name = a.d.1 ∧ m.id = some (1 + k) ∧
          m.disabled = a.b ∧ m.attrs = attrsOf a.attrs ∧ m.mergeNames = false ∧
          ws.map Word.erase = a.d.2.map Word.erase := by
  refine ⟨linedG [] 1 ds, parseObjs_renderG_lined_la ds post h, linedG_length_la ds [] 1, ?_⟩
  intro k a hk
  obtain ⟨_, hwd, _⟩ := wfDocG_get_la post ds k a h hk
  refine ⟨_, _, linedG_get_la ds [] 1 k a hk, rfl, rfl, rfl, rfl, rfl, ?_⟩
  have hg : gapsOK true a.L.gaps a.d.2 = true := by
    simp only [wfDef, Bool.and_eq_true] at hwd; exact hwd.1.2
  rw [← reline_eq_linedWords a.d.2 a.L.gaps true _ hg, reline_erase]

/-! ### an attribute given twice: the last assignment wins -/

/-- `getattr(obj, n)` after the assignments `ts` is the value of the LAST assignment to `n` that is not
    commented out … -/
theorem attr_last_wins (ts1 ts2 : List AttrIt) (t : AttrIt) (ht : t.b = false)
    (hlast : ∀ u ∈ ts2, u.b = false → u.n ≠ t.n) :
    Attrs.get (attrsOf (ts1 ++ t :: ts2)) t.n = (attrValOf t.n t.ws).getD .none := by
  have e : attrsOf (ts1 ++ t :: ts2)
      = (attrsOf ts1 ++ [(t.n, (attrValOf t.n t.ws).getD .none)]) ++ attrsOf ts2 := by
    rw [attrsOf_append_la]
    simp [attrsOf, ht]
  rw [e, attrs_get_append_la _ _ _ (by
    intro p hp
    obtain ⟨u, hu, hub, hun⟩ := mem_attrsOf_la ts2 p hp
    rw [hun]; exact hlast u hu hub), attrs_get_append_one_la]
  simp

/-- … and `None` if there is no such assignment. -/
theorem attr_unset (ts : List AttrIt) (n : String) (h : ∀ u ∈ ts, u.b = false → u.n ≠ n) :
    Attrs.get (attrsOf ts) n = .none := by
  have := attrs_get_append_la [] (attrsOf ts) n (by
    intro p hp
    obtain ⟨u, hu, hub, hun⟩ := mem_attrsOf_la ts p hp
    rw [hun]; exact h u hu hub)
  simpa [Attrs.get] using this

/-! ### (2) `!` on an attribute disables exactly that assignment -/

/-- what `!` on one assignment does to the attribute list: that assignment is missing, the others
    are where they were -/
theorem attrsOf_bang_item (ts1 ts2 : List AttrIt) (t : AttrIt) :
    attrsOf (ts1 ++ { t with b := true } :: ts2) = attrsOf ts1 ++ attrsOf ts2 ∧
    attrsOf (ts1 ++ { t with b := false } :: ts2)
      = attrsOf ts1 ++ (t.n, (attrValOf t.n t.ws).getD .none) :: attrsOf ts2 := by
  constructor <;> rw [attrsOf_append_la] <;> simp [attrsOf]

theorem applyAttr_id (p : Option Obj) (n : String) (ws : List Word) (b : Bool) :
    (applyAttr p n ws b).map (fun o => o.meta.id) = p.map (fun o => o.meta.id) := by
  cases b <;> rcases p with _ | _ | _ <;> rfl

theorem parsedA_ids (xs : List AItem) : ∀ (l i : Nat) (p : Option Obj),
    (parsedA l i p xs).map (fun o => o.meta.id)
      = (p.map (fun o => o.meta.id)).toList ++ (List.range' i (xs.countP AItem.isDefn)).map some := by
  induction xs with
  | nil => intro l i p; cases p <;> rfl
  | cons x rest ih =>
    intro l i p
    cases x with
    | defn d L b =>
      rw [parsedA, List.map_append, ih, List.countP_cons_of_pos (by rfl), List.range'_succ]
      cases p <;> rfl
    | attr n ws L b =>
      rw [parsedA, ih, applyAttr_id, List.countP_cons_of_neg (by simp [AItem.isDefn])]

/-- **C02, `!` on an attribute: the tree is the tree of the document with that one item removed.**
    Take a well-formed document containing a commented-out assignment `!.n = ws` (anywhere, with any
    layout) and a well-formed layout of the items in front of it and behind it without it.  Both
    parse, and the two trees are equal up to ids and source lines.  (The lines differ only because
    the second text is shorter; ids are equal anyway: attribute items consume none.) -/
theorem bang_attribute_is_removal (xs1 xs2 : List AItem) (n : String) (ws : List Word) (L : DefLayout)
    (post post' : Pre)
    (h1 : wfDocA (xs1 ++ .attr n ws L true :: xs2) post = true)
    (h2 : wfDocA (xs1 ++ xs2) post' = true) :
    ∃ t1 t2, parseObjs (renderA (xs1 ++ .attr n ws L true :: xs2) post) = .ok t1 ∧
      parseObjs (renderA (xs1 ++ xs2) post') = .ok t2 ∧ eraseList t1 = eraseList t2 ∧
      t1.map (fun o => o.meta.id) = t2.map (fun o => o.meta.id) := by
  refine ⟨_, _, parseObjs_renderA_la _ post h1, parseObjs_renderA_la _ post' h2, ?_, ?_⟩
  · rw [parsedA_erase_la, parsedA_erase_la]
    simp only [List.map_append, List.map_cons, AItem.content]
    exact treeC_drop_bang_attr_la n _ _ _ _
  · rw [parsedA_ids, parsedA_ids, List.countP_append, List.countP_append,
      List.countP_cons_of_neg (by simp [AItem.isDefn])]

/-- **C02, `!` on attributes: nothing else changes.**  Two well-formed documents that differ only in
    which attribute assignments carry `!` (same definitions, same assignments, same layouts:
    `ADef.unbangAttrs` clears the `!` of every assignment) parse to object lists that agree in
    everything except the attribute lists — names, ids, `is_disabled`, source lines of the
    definitions and of every word, words, order (`Obj.noAttrs` clears the attribute list) — and the
    attribute lists are `attrsOf` of the respective assignments (`attrs_pointwise`,
    `attrsOf_bang_item`). -/
theorem bang_attribute_nothing_else (ds ds' : List ADef) (post : Pre)
    (hsame : ds.map ADef.unbangAttrs = ds'.map ADef.unbangAttrs)
    (h : wfDocG ds post = true) (h' : wfDocG ds' post = true) :
    ∃ o1 o2, parseObjs (renderA (flattenA ds) post) = .ok o1 ∧
      parseObjs (renderA (flattenA ds') post) = .ok o2 ∧
      o1.map Obj.noAttrs = o2.map Obj.noAttrs := by
  refine ⟨_, _, parseObjs_renderG_la ds post h, parseObjs_renderG_la ds' post h', ?_⟩
  rw [groupedObjs_noAttrs_la ds, groupedObjs_noAttrs_la ds', hsame]

/-! ### (3) `!` on a definition keeps its attributes attached -/

/-- **C02, `!` on a definition with attributes.**  Glue `!` in front of the names of an arbitrary
    subset of the definitions.  Both texts parse, and the tree of the text with the `!`s is *exactly*
    the tree `objs` of the text without them with `is_disabled` set on those definitions
    (`setFlags_l2` touches nothing else): the attribute assignments that follow a disabled
    definition still attach to it, ids and source lines are unchanged, and no object of `objs` is
    disabled. -/
theorem bang_definition_keeps_attributes (ds : List ADef) (post : Pre) (h : wfDocG ds post = true) :
    ∃ objs, parseObjs (renderA (flattenA (ds.map ADef.unbang)) post) = .ok objs ∧
      parseObjs (renderA (flattenA ds) post) = .ok (setFlags_l2 (ds.map (·.b)) objs) ∧
      objs.length = ds.length ∧ (∀ o ∈ objs, o.meta.disabled = false) ∧
      ∀ (k : Nat) (a : ADef), ds[k]? = some a →
        ∃ o, objs[k]? = some o ∧ o.meta.attrs = attrsOf a.attrs := by
  have hu : wfDocG (ds.map ADef.unbang) post = true := by rw [wfDocG_unbang_la]; exact h
  refine ⟨groupedObjs 1 1 (ds.map ADef.unbang), parseObjs_renderG_la _ post hu, ?_, ?_, ?_, ?_⟩
  · rw [parseObjs_renderG_la ds post h, groupedObjs_flags_la]
  · rw [groupedObjs_length_la]; simp
  · have : ∀ (xs : List ADef) l i, ∀ o ∈ groupedObjs l i (xs.map ADef.unbang), o.meta.disabled = false := by
      intro xs
      induction xs with
      | nil => intro l i o ho; simp [groupedObjs] at ho
      | cons x rest ih =>
        intro l i o ho
        simp only [List.map_cons, groupedObjs, List.mem_cons] at ho
        rcases ho with rfl | ho
        · rfl
        · exact ih _ _ o ho
    exact this ds 1 1
  · intro k a hk
    have hk' : (ds.map ADef.unbang)[k]? = some a.unbang := by simp [hk]
    have := linedG_get_la (ds.map ADef.unbang) [] 1 k a.unbang hk'
    rw [← groupedObjs_eq_lined_la post _ hu] at this
    exact ⟨_, this, rfl⟩

/-! ### non-vacuity: a document with every kind of attribute value and every terminator -/

/-- ```
    # header
    a = 1 # trailing comment
      .help = "two words" more
    !.caption = dropped ; .type = ints(size=2)

    # stand-alone comment
    \t.optional\t=\tYes
    !b = x 'l1
    l2'
    .expert_level = 2 ; .help = first
      .help = last
    ``` -/
def exAttrs : List ADef :=
  [ { d := ("a".toList, [{ value := "1".toList }]),
      L := { pre := { lines := [⟨[], some " header".toList⟩] }, gaps := [[' ']],
             term := .comment [' '] " trailing comment".toList },
      attrs :=
        [ { n := "help", ws := [{ value := "two words".toList, quote := some .d1 }, { value := "more".toList }],
            L := { pre := { ind := "  ".toList }, gaps := [[' '], [' ']] } },
          { n := "caption", ws := [{ value := "dropped".toList }], b := true,
            L := { gaps := [[' ']], term := .semi [' '] } },
          { n := "type", ws := [{ value := "ints(size=2)".toList }],
            L := { pre := { ind := [' '] }, gaps := [[' ']] } },
          { n := "optional", ws := [{ value := "Yes".toList }],
            L := { pre := { lines := [⟨[], none⟩, ⟨[], some " stand-alone comment".toList⟩], ind := ['\t'] },
                   sp1 := ['\t'], gaps := [['\t']] } } ] },
    { d := ("b".toList, [{ value := "x".toList }, { value := "l1\nl2".toList, quote := some .s1 }]),
      L := { gaps := [[' '], [' ']] }, b := true,
      attrs :=
        [ { n := "expert_level", ws := [{ value := "2".toList }], L := { gaps := [[' ']], term := .semi [' '] } },
          { n := "help", ws := [{ value := "first".toList }], L := { pre := { ind := [' '] }, gaps := [[' ']] } },
          { n := "help", ws := [{ value := "last".toList }],
            L := { pre := { ind := "  ".toList }, gaps := [[' ']], term := .eof } } ] } ]

example : renderA (flattenA exAttrs) {} =
    ("# header\na = 1 # trailing comment\n  .help = \"two words\" more\n" ++
     "!.caption = dropped ; .type = ints(size=2)\n\n# stand-alone comment\n\t.optional\t=\tYes\n" ++
     "!b = x 'l1\nl2'\n.expert_level = 2 ; .help = first\n  .help = last").toList := by
  unfold exAttrs
  simp only [String.toList_append]
  -- a literal is `String.ofList […]` for `rw` and the kernel: no UTF-8 decoding
  repeat rw [String.toList_ofList]
  decide +kernel

theorem exAttrs_wf : wfDocG exAttrs {} = true := by
  unfold exAttrs
  repeat rw [String.toList_ofList]
  decide +kernel

/-- through the theorem: the parsed tree of that text (`.caption` dropped, `.type` converted, the
    second `.help` of `b` wins, `b` disabled with its attributes attached) -/
example : ∃ objs, parseObjs (renderA (flattenA exAttrs) {}) = .ok objs ∧
    objs.map (fun o => (o.name, o.meta.id, o.meta.disabled, o.meta.line)) =
      [("a".toList, some 1, false, some 2), ("b".toList, some 2, true, some 8)] ∧
    objs.map (fun o => o.meta.attrs) =
      [ [("help", .str "two words more".toList), ("type", .conv (.ints { sizeMin := some 2, sizeMax := some 2 })),
         ("optional", .bool true)],
        [("expert_level", .int 2), ("help", .str "first".toList), ("help", .str "last".toList)] ] ∧
    (objs.map (fun o => o.attr "help")) = [.str "two words more".toList, .str "last".toList] := by
  refine ⟨_, attrs_closed_form exAttrs {} exAttrs_wf, ?_, ?_, ?_⟩
  all_goals
    unfold exAttrs
    repeat rw [String.toList_ofList]
    decide +kernel

/-! ### sharp edges (model = Python on every line; the hypotheses of the theorems are needed) -/

/-- an unknown attribute name is refused at the line of the attribute
    (Python: `Unexpected definition attribute: .foo (input line 2)`) — `defAttrNames.contains n` -/
theorem unknown_attribute_name :
    parseObjs "a = 1\n.foo = x\nb = 2".toList
      = .error (.runtime "unexpected_definition_attribute" (some 2)) := by
  repeat rw [String.toList_ofList]
  decide +kernel

/-- attribute names are case sensitive and not dotted (`.Help`, `.help.x`: same error, line 2) -/
example : parseObjs "a = 1\n.Help = x\n".toList = .error (.runtime "unexpected_definition_attribute" (some 2)) ∧
    parseObjs "a = 1\n.help.x = x\n".toList = .error (.runtime "unexpected_definition_attribute" (some 2)) := by
  repeat rw [String.toList_ofList]
  decide +kernel

/-- an attribute before any definition is refused (`startsDefn`)
    (Python: `Unexpected definition attribute: .help (input line 1)`) -/
theorem attribute_before_any_definition :
    parseObjs ".help = x\na = 1".toList
      = .error (.runtime "unexpected_definition_attribute" (some 1)) ∧
    wfItems [.attr "help" [{ value := ['x'] }] { gaps := [[' ']] } false,
             .defn (['a'], [{ value := ['1'] }]) { gaps := [[' ']], term := .eof } false] {} = true ∧
    renderA [.attr "help" [{ value := ['x'] }] { gaps := [[' ']] } false,
             .defn (['a'], [{ value := ['1'] }]) { gaps := [[' ']], term := .eof } false] {}
      = ".help = x\na = 1".toList := by
  repeat rw [String.toList_ofList]
  decide +kernel

/-- after a scope no definition is active: the attribute is refused (line 3) -/
example : parseObjs "s {\n}\n.help = x".toList
    = .error (.runtime "unexpected_definition_attribute" (some 3)) := by decide +kernel

/-- a value the converter refuses is an error at the line of the value — `(attrValOf n ws).isSome`
    (Python: `One True or False value expected, .multiple="maybe" found (input line 2)`) … -/
theorem multiple_maybe :
    parseObjs "a = 1\n.multiple = maybe\n".toList = .error (.runtime "bool_expected" (some 2)) := by
  repeat rw [String.toList_ofList]
  decide +kernel

/-- … but under `!` the value is never converted: `!.multiple = maybe` is read and dropped -/
theorem bang_multiple_maybe :
    parseObjs "a = 1\n!.multiple = maybe\nb = 2".toList = .ok
      [.defn { name := ['a'], id := some 1, line := some 1 } [{ value := ['1'], line := some 1 }],
       .defn { name := ['b'], id := some 2, line := some 3 } [{ value := ['2'], line := some 3 }]] := by
  repeat rw [String.toList_ofList]
  decide +kernel

/-- `.type` errors cite the line of the attribute value
    (Python: `Unexpected definition type: "foo" (input line 2)`,
     `Error constructing definition type "int(value_min=3, value_max=1)": AssertionError:  (input line 2)`) -/
example : parseObjs "a = 1\n.type = foo\n".toList = .error (.runtime "type_unexpected" (some 2)) ∧
    parseObjs "a = 1\n.type = int(value_min=3, value_max=1)\n".toList
      = .error (.runtime "type_construct" (some 2)) := by
  repeat rw [String.toList_ofList]
  decide +kernel

/-- two bool words / `true` as an int: refused with the line (`bool_expected`, `numeric_expected`) -/
example : parseObjs "a = 1\n.optional = yes no\n".toList = .error (.runtime "bool_expected" (some 2)) ∧
    parseObjs "a = 1\n.expert_level = true\n".toList = .error (.runtime "numeric_expected" (some 2)) := by
  repeat rw [String.toList_ofList]
  decide +kernel

/-- an empty value (`!ws.isEmpty`): `Missing value for .help (input line 2)` -/
example : parseObjs "a = 1\n.help =\nb = 2".toList = .error (.runtime "missing_value" (some 2)) := by
  decide +kernel

/-- no `=`: `Syntax error: expected "=", found "x" (input line 2)` -/
example : parseObjs "a = 1\n.help x\n".toList = .error (.runtime "expected" (some 2)) := by decide +kernel

/-- `chainOK`: an unquoted word directly after a quoted word with a newline ends the value, so `q` is
    read as a name (`expected "=", found "b" (input line 4)`); quoted, it belongs to the value -/
example : parseObjs "a = 1\n.help = 'l1\nl2' q\nb = 2".toList = .error (.runtime "expected" (some 4)) := by
  repeat rw [String.toList_ofList]
  decide +kernel

/-- an attribute must start its line (or follow `;`): in the middle of a line `.help = x` are words
    of the value -/
example : parseObjs "a = 1 .help = x\n".toList = .ok
    [.defn { name := ['a'], id := some 1, line := some 1 }
      [{ value := ['1'], line := some 1 }, { value := ".help".toList, line := some 1 },
       { value := ['='], line := some 1 }, { value := ['x'], line := some 1 }]] := by decide +kernel

/-- `!` must be glued to the attribute: `! .help = x` is a scope with an empty name
    (Python: `Syntax error: improper scope name "" (input line 2)`); `!!.help` is not a name -/
example : parseObjs "a = 1\n! .help = x\n".toList = .error (.runtime "improper_scope_name" (some 2)) ∧
    parseObjs "a = 1\n!!.help = x\n".toList = .error (.runtime "improper_definition_name" (some 2)) := by
  repeat rw [String.toList_ofList]
  decide +kernel

/-- an attribute given twice: the last assignment not commented out wins (Python: `help == "y z"`) -/
theorem attribute_twice_last_wins :
    (parseObjs "a = 1\n.help = x\n.help = y z\n!.help = w\n".toList).map (fun os => os.map (·.attr "help"))
      = .ok [.str "y z".toList] := by
  repeat rw [String.toList_ofList]
  decide +kernel

/-- `!` on the definition: disabled, attributes attached; the next definition untouched -/
example : parseObjs "!a = 1\n.help = x\n.optional = yes\nb = 2\n".toList = .ok
    [.defn { name := ['a'], id := some 1, disabled := true, line := some 1,
             attrs := [("help", .str ['x']), ("optional", .bool true)] } [{ value := ['1'], line := some 1 }],
     .defn { name := ['b'], id := some 2, line := some 4 } [{ value := ['2'], line := some 4 }]] := by
  repeat rw [String.toList_ofList]
  decide +kernel

/-! ### scope headers with attribute assignments (Phil/Proofs/LayoutAttrsScope.lean)

  A document of top-level scopes `HScope`: `[!]name`, header assignments `[!].attr = words` (each an
  `AttrIt` with its own filler lines, blanks and terminator newline / `;` / trailing comment), the gap
  in front of `{`, a body of nested attribute-free items in any layout (`LayItem` of
  Phil/Props/C02Nested.lean), the filler in front of `}`.  `renderH` is the text, `wfDocH` the
  decidable input class, `hObjs 1 1` the parsed tree.  Validated against the Python library on 400
  random documents: all agree. -/

/-- **Closed form for scope headers with attributes.**  Every scope gets the next id, the line of its
    name, `disabled` iff `!`, and exactly the header assignments not commented out, in order
    (`sattrsOf`, values by `scope.assign_attribute`); the body is parsed as without header attributes,
    its first line being the line after the header items plus the filler lines in front of `{`. -/
theorem scope_attrs_closed_form (xs : List HScope) (post : Pre) (h : wfDocH xs post = true) :
    parseObjs (renderH xs post) = .ok (hObjs xs 1 1) :=
  parseObjs_renderH_ls xs post h

/-- **Layout independence for scope headers.**  The tree up to ids and lines is
    `xs.map HScope.tree`: names, `!` flags, header attributes, abstract trees of the bodies; and the
    header attributes depend only on the contents of the assignments (`sattrsOf_contents`).  So two
    well-formed documents with the same `HScope.tree`s parse to the same tree up to ids and lines. -/
theorem scope_attrs_layout_independent (xs ys : List HScope) (post post' : Pre)
    (hx : wfDocH xs post = true) (hy : wfDocH ys post' = true)
    (hc : eraseList (xs.map HScope.tree) = eraseList (ys.map HScope.tree)) :
    ∃ t1 t2, parseObjs (renderH xs post) = .ok t1 ∧ parseObjs (renderH ys post') = .ok t2 ∧
      eraseList t1 = eraseList t2 ∧ eraseList t1 = eraseList (xs.map HScope.tree) := by
  refine ⟨_, _, parseObjs_renderH_ls xs post hx, parseObjs_renderH_ls ys post' hy, ?_, ?_⟩
  · rw [hObjs_erase_ls, hObjs_erase_ls, hc]
  · rw [hObjs_erase_ls]

/-- the header attributes are a function of the contents of the assignments (name, words without
    lines, `!`) — not of filler lines, blanks, terminators -/
theorem sattrsOf_contents (ts ts' : List AttrIt) (h : ts.map AttrIt.content = ts'.map AttrIt.content) :
    sattrsOf ts = sattrsOf ts' := by
  rw [sattrsOf_eq_ls, sattrsOf_eq_ls, h]

/-- **`!` on a header attribute** removes exactly that assignment from the attribute list … -/
theorem sattrsOf_bang_item (ts1 ts2 : List AttrIt) (t : AttrIt) :
    sattrsOf (ts1 ++ { t with b := true } :: ts2) = sattrsOf ts1 ++ sattrsOf ts2 ∧
    sattrsOf (ts1 ++ { t with b := false } :: ts2)
      = sattrsOf ts1 ++ (t.n, (sattrValOf t.n t.ws).getD .none) :: sattrsOf ts2 := by
  constructor <;> rw [sattrsOf_append_ls] <;> simp [sattrsOf]

/-- … **and nothing else changes**: two well-formed documents that differ only in which header
    assignments carry `!` parse to object lists that agree in everything except the attribute lists
    of the top-level scopes (ids, lines, flags, bodies with all their lines). -/
theorem scope_bang_attribute_nothing_else (xs xs' : List HScope) (post : Pre)
    (hsame : xs.map HScope.unbangAttrs = xs'.map HScope.unbangAttrs)
    (h : wfDocH xs post = true) (h' : wfDocH xs' post = true) :
    ∃ o1 o2, parseObjs (renderH xs post) = .ok o1 ∧ parseObjs (renderH xs' post) = .ok o2 ∧
      o1.map Obj.noAttrs = o2.map Obj.noAttrs := by
  refine ⟨_, _, parseObjs_renderH_ls xs post h, parseObjs_renderH_ls xs' post h', ?_⟩
  rw [hObjs_noAttrs_ls xs, hObjs_noAttrs_ls xs', hsame]

/-- **`!` on a scope header keeps attributes and body attached**: the tree of the text with `!` on
    some scopes is exactly the tree of the text without them with `is_disabled` set on those scopes
    (header attributes, children, ids, lines unchanged; the children are not flagged). -/
theorem bang_scope_keeps_attributes (xs : List HScope) (post : Pre) (h : wfDocH xs post = true) :
    ∃ objs, parseObjs (renderH (xs.map HScope.unbang) post) = .ok objs ∧
      parseObjs (renderH xs post) = .ok (setFlags_l2 (xs.map (·.b)) objs) ∧ objs.length = xs.length := by
  have hu : wfDocH (xs.map HScope.unbang) post = true := by rw [wfDocH_unbang_ls]; exact h
  refine ⟨_, parseObjs_renderH_ls _ post hu, ?_, ?_⟩
  · rw [parseObjs_renderH_ls xs post h, hObjs_flags_ls]
  · rw [hObjs_length_ls]; simp

/-- non-vacuity:
    ```
    !s
      .help = "a b" c # t

    !.caption = no; .optional = Yes
    # c
    { b = 1 }
    t .expert_level = 3
    {
    }
    ``` -/
def exScopes : List HScope :=
  [ { nm := ['s'], b := true,
      ts := [ { n := "help", ws := [{ value := "a b".toList, quote := some .d1 }, { value := ['c'] }],
                L := { pre := { lines := [⟨[], none⟩], ind := "  ".toList }, gaps := [[' '], [' ']],
                       term := .comment [' '] " t".toList } },
              { n := "caption", ws := [{ value := "no".toList }], b := true,
                L := { pre := { lines := [⟨[], none⟩] }, gaps := [[' ']], term := .semi [] } },
              { n := "optional", ws := [{ value := "Yes".toList }], L := { pre := { ind := [' '] }, gaps := [[' ']] } } ],
      gap := { lines := [⟨[], some " c".toList⟩] },
      kids := [.defn [] (['b'], [{ value := ['1'] }]) { pre := { ind := [' '] }, gaps := [[' ']], term := .eof } false],
      close := { ind := [' '] } },
    { nm := ['t'], pre := { lines := [⟨[], none⟩] },
      ts := [ { n := "expert_level", ws := [{ value := ['3'] }], L := { pre := { ind := [' '] }, gaps := [[' ']] } } ],
      gap := {}, kids := [], close := { lines := [⟨[], none⟩] } } ]

example : renderH exScopes {} =
    "!s\n  .help = \"a b\" c # t\n\n!.caption = no; .optional = Yes\n# c\n{ b = 1 }\nt .expert_level = 3\n{\n}".toList := by
  unfold exScopes
  repeat rw [String.toList_ofList]
  decide +kernel

theorem exScopes_wf : wfDocH exScopes {} = true := by
  unfold exScopes
  repeat rw [String.toList_ofList]
  decide +kernel

example : parseObjs (renderH exScopes {}) = .ok
    [.scope { name := ['s'], id := some 1, disabled := true, line := some 1,
              attrs := [("help", .str "a b c".toList), ("optional", .bool true)] }
       [.defn { name := ['b'], id := some 2, line := some 6 } [{ value := ['1'], line := some 6 }]],
     .scope { name := ['t'], id := some 3, line := some 7, attrs := [("expert_level", .int 3)] } []] := by
  rw [scope_attrs_closed_form exScopes {} exScopes_wf]
  unfold exScopes
  repeat rw [String.toList_ofList]
  decide +kernel

/-- sharp edges of the header (model = Python): unknown / definition-only attribute names
    (`Unexpected scope attribute: .foo (input line 2)`, `.type` is not a scope attribute); a refused
    value (`bool_expected`, line 1) — but not under `!`; nothing between name and `.help`: a dotted
    definition name, then `{` is unexpected (`hdrGapOK_ls`) -/
theorem scope_header_sharp_edges :
    parseObjs "s\n.foo = x\n{\n}".toList = .error (.runtime "unexpected_scope_attribute" (some 2)) ∧
    parseObjs "s .type = int\n{\n}".toList = .error (.runtime "unexpected_scope_attribute" (some 1)) ∧
    parseObjs "s .multiple = maybe\n{\n}".toList = .error (.runtime "bool_expected" (some 1)) ∧
    parseObjs "s\n!.multiple = maybe\n{\n}".toList
      = .ok [.scope { name := ['s'], id := some 1, line := some 1 } []] ∧
    parseObjs "s.help = x\n{\n}".toList = .error (.runtime "unexpected_open_brace" (some 2)) := by
  repeat rw [String.toList_ofList]
  decide +kernel

#print axioms attrs_items_closed_form
#print axioms attrs_closed_form
#print axioms attrs_layout_independent
#print axioms attrs_pointwise
#print axioms attr_last_wins
#print axioms attr_unset
#print axioms attrsOf_bang_item
#print axioms bang_attribute_is_removal
#print axioms bang_attribute_nothing_else
#print axioms bang_definition_keeps_attributes
#print axioms exAttrs_wf
#print axioms unknown_attribute_name
#print axioms attribute_before_any_definition
#print axioms multiple_maybe
#print axioms bang_multiple_maybe
#print axioms attribute_twice_last_wins
#print axioms scope_attrs_closed_form
#print axioms scope_attrs_layout_independent
#print axioms sattrsOf_contents
#print axioms sattrsOf_bang_item
#print axioms scope_bang_attribute_nothing_else
#print axioms bang_scope_keeps_attributes
#print axioms exScopes_wf
#print axioms scope_header_sharp_edges

end Phil.C02
