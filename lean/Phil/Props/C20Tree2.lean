/-
  C20 (GUI index on nested masters, continued) — uniform paths and edits of `.multiple` parameters.

    "… every parameter path that is not inside a multiple scope looks up to the live object(s) of the
     current working tree …  Applying the same edit twice in a row leaves the working parameters as
     after the first application."

  Phil/Props/C20Paths.lean proves `lookup_exact` under the hypothesis `UniformAt` (the live objects at
  the path are all `.multiple`, or there is exactly one and it is not).  Part 1 below DISCHARGES that
  hypothesis: on every *well-grouped* working tree (`wellGroupedB`, executable: sibling names non-empty
  and dot-free; two siblings of one name are both `.multiple`; recursively below every scope that is
  not `.multiple`) every path that does not lie below a live `.multiple` scope is uniform, and every
  fetch result of an `MSMaster` (`.multiple` scopes and definitions nested in any way,
  Phil/Proofs/FetchTreeMSBase.lean) or of a `TreeMultiMaster` is well grouped.  Lemmas:
  Phil/Proofs/IndexTreeLemmas2.lean (part 1), Phil/Proofs/IndexTreeLemmas.lean (part 2: deletion and merge).

    1. `uniform_outside_multiple_scopes`, `fetch_result_well_grouped_ms/_tree`,
       `lookup_exact_well_grouped`, `lookup_exact_ms`, `lookup_exact_tree`,
       `tree_result_has_no_multiple_scope`; sharpness `bool_multiple_needed`, `well_grouped_needed`;
       inside `.multiple` scopes: `inside_multiple_scope_last_plain`, `inside_multiple_scope_all_multiple`
    2. edits that give values to `.multiple` DEFINITIONS of a nested master (`merge_phil` first deletes the
       current instances of every `.multiple` path the edit mentions — `delete_phil_objects` on a nested
       tree — then fetches [old, edit]):  `delete_closed_form_tree`, `merge_closed_form_multi`,
       `mentioned_take_edit_instances`, `unmentioned_as_plain_merge`, `merge_reached_multi`,
       `reached_invariant_tree_multi`, `same_edit_twice_tree_multi` (+ `_state`, `_reachable`),
       `lookup_exact_tree_multi`; witness `unlisted_keeps_old_instances` (replayed on the library).
       Class: `TreeCtx c` and `MultiCtx c` (nesting depth < 1000 = the model's fuel for the deletion; every
       recorded `.multiple` path that is the path of a master object is the path of a `.multiple`
       definition), working sets `ReachedT`, edits `TreeEdit`; for the same-edit-twice law also
       `ListedEdit` (every `.multiple` definition the edit gives a value to is among the deleted paths —
       true when the index recorded all `.multiple` definitions).  `MultiCtx.paths` and `ListedEdit` are
       executable (`multiCtxB`, `listedEditB`); they are what `build_index(collect_multiple=True)`
       guarantees and are NOT claimed to be sharp for idempotence (`dedupKeepLast` would absorb a repeated
       instance anyway); `ListedEdit` IS what the closed form "exactly the edit's instances" needs.
-/
import Phil.Props.C20Paths
import Phil.Props.C20Tree
import Phil.Proofs.IndexTreeLemmas2
namespace Phil.C20
open Phil Phil.Index

variable {E : Type}

/-! ### 1. uniform paths -/

/-- the path `p` lies strictly below a live `.multiple` scope of the working tree `w` -/
def InsideMultipleScope (w : List Obj) (p : Str) : Prop :=
  ∃ v ∈ liveVisits w, v.obj.isDefn = false ∧ multipleIsTrue v.obj = true ∧
    startsWith (v.path ++ ['.']) p = true

/-- executable form -/
def insideMultipleScopeB (w : List Obj) (p : Str) : Bool :=
  (liveVisits w).any (fun v => !v.obj.isDefn && multipleIsTrue v.obj && startsWith (v.path ++ ['.']) p)

theorem insideMultipleScope_iff (w : List Obj) (p : Str) :
    InsideMultipleScope w p ↔ insideMultipleScopeB w p = true := by
  unfold InsideMultipleScope insideMultipleScopeB
  rw [List.any_eq_true]
  constructor
  · rintro ⟨v, hv, h1, h2, h3⟩
    exact ⟨v, hv, by simp [h1, h2, h3]⟩
  · rintro ⟨v, hv, h⟩
    simp only [Bool.and_eq_true, Bool.not_eq_true'] at h
    exact ⟨v, hv, h.1.1, h.1.2, h.2⟩

/-- **C20, uniformity.**  On a well-grouped working tree, at every path that is not inside a live
    `.multiple` scope the live objects are all `.multiple`, or there is exactly one object and it is
    not `.multiple`. -/
theorem uniform_outside_multiple_scopes (w : List Obj) (hw : wellGroupedB w = true) (p : Str)
    (hout : ¬ InsideMultipleScope w p) : UniformAt w p := by
  apply uniform_of_wu_it2 w hw p
  intro v hv hd hm
  cases h : startsWith (v.path ++ ['.']) p with
  | false => rfl
  | true => exact absurd ⟨v, List.mem_cons_of_mem _ hv, hd, hm, h⟩ hout

/-- every fetch result of a master with `.multiple` scopes and definitions nested in any way
    (`MSMaster`, `.multiple` attributes booleans) is well grouped, for every source list -/
theorem fetch_result_well_grouped_ms (e : Envs) (master srcs : List Obj) (hf : MSMaster master)
    (hb : multBoolL master = true) : wellGroupedB (msResult e master srcs) = true := by
  unfold wellGroupedB
  have := wuRes_ms_it2 e master srcs hf.kids hf.distinct hb
  rw [this.1, this.2]; rfl

/-- … and so is every fetch result of a `TreeMultiMaster` -/
theorem fetch_result_well_grouped_tree (e : Envs) (master srcs : List Obj) (hf : TreeMultiMaster master)
    (hb : multBoolL master = true) : wellGroupedB (treeMultiResult e master srcs) = true := by
  rw [← msResult_eq_tm_it2 e master srcs hf.kids]
  exact fetch_result_well_grouped_ms e master srcs hf.toMS hb

/-- the result of a `TreeMultiMaster` has no `.multiple` scope: no path is inside one -/
theorem tree_result_has_no_multiple_scope (e : Envs) (master srcs : List Obj) (hf : TreeMultiMaster master)
    (p : Str) : ¬ InsideMultipleScope (treeMultiResult e master srcs) p := by
  rintro ⟨v, hv, hd, hm, _⟩
  have hv' : v ∈ visitsOf skipNegI (treeMultiResult e master srcs) := hv
  unfold visitsOf at hv'
  rw [List.mem_cons] at hv'
  rcases hv' with rfl | hv'
  · cases hm
  · have := noMS_visitList_it2 skipNegI _ [] 1 (noMS_treeMultiResult_it2 e master srcs hf.kids) v hv' hd
    rw [this] at hm; cases hm

/-- **C20, lookup returns exactly the live objects (no uniformity hypothesis).**  For every kernel and
    every history: when the current working tree is well grouped, every path with a live object that
    is not inside a live `.multiple` scope looks up to an entry whose (position, object) pairs are
    EXACTLY the live objects at that path, in document order. -/
theorem lookup_exact_well_grouped (k : Kernel (List Obj) PVal E) (w : List Obj) (hw : tmplRangeList w = true)
    (ops : List (Op PVal E)) (p : Str)
    (hwg : wellGroupedB (run k (init k w) ops).working = true)
    (hne : liveAt (run k (init k w) ops).working p ≠ [])
    (hout : ¬ InsideMultipleScope (run k (init k w) ops).working p) :
    ∃ e, (irun k (iinit k w) ops).lookup p = some e ∧
      e.pairs = pairsOf (liveAt (run k (init k w) ops).working p) :=
  lookup_exact k w hw ops p hne (uniform_outside_multiple_scopes _ hwg p hout)

/-- the same whenever the current working tree is a fetch result of an `MSMaster` (any kernel: the
    concrete one produces such trees by `merge_phil`, `push`/`pop`, `set_state`) -/
theorem lookup_exact_ms (k : Kernel (List Obj) PVal E) (w : List Obj) (hw : tmplRangeList w = true)
    (ops : List (Op PVal E)) (p : Str) (e : Envs) (master srcs : List Obj) (hf : MSMaster master)
    (hb : multBoolL master = true)
    (hcur : (run k (init k w) ops).working = msResult e master srcs)
    (hne : liveAt (run k (init k w) ops).working p ≠ [])
    (hout : ¬ InsideMultipleScope (run k (init k w) ops).working p) :
    ∃ en, (irun k (iinit k w) ops).lookup p = some en ∧
      en.pairs = pairsOf (liveAt (run k (init k w) ops).working p) :=
  lookup_exact_well_grouped k w hw ops p (by rw [hcur]; exact fetch_result_well_grouped_ms e master srcs hf hb)
    hne hout

/-- **C20, `lookup_exact_tree`.**  Concrete kernel, nested `TreeMultiMaster` context, reached initial
    working set, every history of the invariant's class: EVERY path with a live object looks up to
    exactly the live object(s) at that path — no uniformity hypothesis, and no path is inside a
    `.multiple` scope. -/
theorem lookup_exact_tree (c : IndexCtx) (hc : TreeCtx c) (hb : multBoolL c.master = true) (w : List Obj)
    (hw : ReachedT c w) (hr : tmplRangeList w = true) (ops : List (Op PVal Str)) (hg : GoodOpsT c ops)
    (p : Str)
    (hne : liveAt (run (concreteKernel c) (init (concreteKernel c) w) ops).working p ≠ []) :
    ∃ e, (irun (concreteKernel c) (iinit (concreteKernel c) w) ops).lookup p = some e ∧
      e.pairs = pairsOf (liveAt (run (concreteKernel c) (init (concreteKernel c) w) ops).working p) := by
  obtain ⟨D, _, _, _, hD⟩ := reached_invariant_tree_init c hc w hw ops hg
  apply lookup_exact_well_grouped (concreteKernel c) w hr ops p _ hne
  · rw [hD]; exact tree_result_has_no_multiple_scope c.envs c.master D hc.ok.tree p
  · rw [hD]; exact fetch_result_well_grouped_tree c.envs c.master D hc.ok.tree hb

/-! #### inside `.multiple` scopes: what the index holds

  With `k` instances of a `.multiple` scope `m` there are `k` live objects at every path `m.x`.  The
  dict update overwrites for a non-multiple object and appends for a `.multiple` one, so (instances of
  `lookup_last_plain` / `lookup_all_multiple` of C20Paths, which need no uniformity):  -/

/-- the last live object at the path is not `.multiple` (a plain definition or scope inside `.multiple`
    scopes): the index holds that LAST object alone, whatever the number of instances -/
theorem inside_multiple_scope_last_plain (k : Kernel (List Obj) PVal E) (w : List Obj)
    (hw : tmplRangeList w = true) (ops : List (Op PVal E)) (p : Str) (vs : List Visit) (v : Visit)
    (hocc : liveAt (run k (init k w) ops).working p = vs ++ [v]) (hm : multipleIsTrue v.obj = false) :
    (irun k (iinit k w) ops).lookup p = some (.one v.pos v.obj) :=
  lookup_last_plain k w hw ops p vs v hocc hm

/-- all live objects at the path are `.multiple` (a `.multiple` definition inside `.multiple` scopes):
    the index holds the list of ALL of them, across all instances of the enclosing scopes -/
theorem inside_multiple_scope_all_multiple (k : Kernel (List Obj) PVal E) (w : List Obj)
    (hw : tmplRangeList w = true) (ops : List (Op PVal E)) (p : Str) (v : Visit) (vs : List Visit)
    (hocc : liveAt (run k (init k w) ops).working p = v :: vs)
    (hm : ∀ x ∈ v :: vs, multipleIsTrue x.obj = true) :
    (irun k (iinit k w) ops).lookup p = some (.many (pairsOf (v :: vs))) :=
  lookup_all_multiple k w hw ops p v vs hocc hm

/-! #### instances and sharpness -/

local notation "K₁" => concreteKernel pC

/-- the master of C20Paths (a `.multiple` definition inside a plain scope, a `.multiple` scope) is in the
    class, and the working tree after the history `pHist` is well grouped -/
example : msMasterB pMaster = true ∧ multBoolL pMaster = true := by
  rw [pMaster_eq]
  decide +kernel

theorem pHist_well_grouped : wellGroupedB (run K₁ (init K₁ pW0) pHist).working = true := by
  rw [pC_eq, pMaster_eq, pW0_eq]
  decide +kernel

/-- `lookup_exact_well_grouped` applies to `g.s`, `m`, `n`, `g`, `g.b` — here `m` (two instances) -/
example : ∃ e, (irun K₁ (iinit K₁ pW0) pHist).lookup "m".toList = some e ∧
    e.pairs = pairsOf (liveAt (run K₁ (init K₁ pW0) pHist).working "m".toList) := by
  apply lookup_exact_well_grouped K₁ pW0 pW0_range pHist _ pHist_well_grouped
  · intro h
    have : (liveAt (run K₁ (init K₁ pW0) pHist).working "m".toList).length = 2 := by
      rw [pC_eq, pMaster_eq, pW0_eq]
      decide +kernel
    rw [h] at this; cases this
  · rw [insideMultipleScope_iff]
    have : insideMultipleScopeB (run K₁ (init K₁ pW0) pHist).working "m".toList = false := by
      rw [pC_eq, pMaster_eq, pW0_eq]
      decide +kernel
    rw [this]; exact Bool.false_ne_true

/-- `m.x` IS inside a `.multiple` scope (so the theorem does not apply; `inside_multiple_scope_only_last`
    of C20Paths shows the index holds only the last instance's object) -/
example : insideMultipleScopeB (run K₁ (init K₁ pW0) pHist).working "m.x".toList = true := by
  rw [pC_eq, pMaster_eq, pW0_eq]
  decide +kernel

local notation "K₂" => concreteKernel tC

theorem tMaster_multBool : multBoolL tC.master = true := by
  rw [tC, tMaster_eq]
  decide +kernel
theorem tW0_range : tmplRangeList tW0 = true := by
  rw [tW0_eq]
  decide +kernel

/-- `lookup_exact_tree` on the literal nested context of C20Tree, path `g.h.t` at depth 3 -/
example : ∃ e, (irun K₂ (iinit K₂ tW0) tHist).lookup "g.h.t".toList = some e ∧
    e.pairs = pairsOf (liveAt (run K₂ (init K₂ tW0) tHist).working "g.h.t".toList) := by
  apply lookup_exact_tree tC tC_tree tMaster_multBool tW0 tW0_reached tW0_range tHist tHist_good
  intro h
  have : (liveAt (run K₂ (init K₂ tW0) tHist).working "g.h.t".toList).length = 1 := by
    rw [tC, tMaster_eq, tW0_eq]
    decide +kernel
  rw [h] at this; cases this

/-- a master definition whose `.multiple` attribute is truthy but not `True` (set by hand:
    `d.multiple = 1`; the parser always stores a bool) -/
def bmMaster : List Obj := [.defn { name := ['a'], attrs := [("multiple", .int 1)] } [⟨['x'], none, none⟩]]
def bmSrc : List Obj := [.defn { name := ['a'] } [⟨['y'], none, none⟩], .defn { name := ['a'] } [⟨['z'], none, none⟩]]

/-- **the hypothesis `multBoolL` is sharp** (kernel-checked; replayed on the library with
    `m.objects[0].multiple = 1` set by hand on the master `a = x`, sources `a = y`, `a = z`): the master is
    a `TreeMultiMaster`, fetch treats the truthy attribute as `.multiple` (template + two instances), the
    index tests `multiple is True`: two live objects at `a`, none `.multiple`, the result is not well
    grouped, `a` is not uniform and the index holds only the last instance.
    Library: `[('a', -1, ['x']), ('a', 0, ['y']), ('a', 0, ['z'])]`, `path_index['a']` is the `z` object. -/
theorem bool_multiple_needed :
    treeMultiMasterB bmMaster = true ∧ multBoolL bmMaster = false ∧
    wellGroupedB (treeMultiResult env12 bmMaster bmSrc) = false ∧
    (liveAt (treeMultiResult env12 bmMaster bmSrc) ['a']).map (fun v => (v.pos, multipleIsTrue v.obj)) =
      [(2, false), (3, false)] ∧
    ((reindex (treeMultiResult env12 bmMaster bmSrc)).get ['a']).map (fun e => (e.kind, e.positions)) =
      some ("one", [3]) := by
  refine ⟨by decide +kernel, by decide +kernel, by decide +kernel, by decide +kernel, by decide +kernel⟩

/-- **`wellGroupedB` is what uniformity needs**: a working tree that is not a fetch result — the plain
    parameter `n` of the context `tC` given twice (`tW0 ++ tW0`, cf. `refetch_needs_reached`) — is not well
    grouped, has two live non-multiple objects at `n`, and the index holds only the second -/
theorem well_grouped_needed :
    wellGroupedB (tW0 ++ tW0) = false ∧
    (liveAt (tW0 ++ tW0) ['n']).map (fun v => (v.pos, multipleIsTrue v.obj)) = [(1, false), (7, false)] ∧
    ((reindex (tW0 ++ tW0)).get ['n']).map (fun e => (e.kind, e.positions)) = some ("one", [7]) := by
  rw [tW0_eq]
  refine ⟨by decide +kernel, by decide +kernel, by decide +kernel⟩

/-! ### 2. edits of `.multiple` definitions of a nested master -/

def multiCtxB (c : IndexCtx) : Bool := decide (depthL c.master < 1000) && pathsOKL c.multiple [] c.master

def listedEditB (c : IndexCtx) (text : Str) : Bool :=
  match parseObjs text with
  | .ok edit => unlistedL (redundantOf c edit) [] c.master edit
  | .error _ => true

theorem multiCtx_of_B {c : IndexCtx} (h : multiCtxB c = true) : MultiCtx c := by
  unfold multiCtxB at h
  rw [Bool.and_eq_true, decide_eq_true_eq] at h
  exact ⟨h.1, h.2⟩

theorem listedEdit_of_B {c : IndexCtx} {text : Str} (h : listedEditB c text = true) : ListedEdit c text := by
  intro edit hp
  unfold listedEditB at h
  rw [hp] at h
  exact h

/-- **`delete_phil_objects` on a reached working set, closed form.**  The old working set
    `treeMultiResult master D` after the deletion `merge_phil` performs for the edit is `delResult`: in
    the block of every definition whose full path is among the mentioned `.multiple` paths the members
    that are not template-marked are gone (the template stays unless it is the live default of a
    mandatory definition); every other block, every scope, the order — unchanged. -/
theorem delete_closed_form_tree (c : IndexCtx) (hc : TreeCtx c) (hm : MultiCtx c) (edit D : List Obj) :
    oldOf c edit (treeMultiResult c.envs c.master D) =
      delResult c.envs (redundantOf c edit) [] c.master D :=
  oldOf_eq_del_it2 hc edit (.inr hm) D

/-- **closed form of one edit (any parameters, `.multiple` definitions included).**  A successful
    `merge_phil` of a tree edit into the reached working set `treeMultiResult master D`: the edit alone
    fetches, there is no clash of kinds, and the new working set is the closed-form fetch of
    (pruned old working set) ++ edit. -/
theorem merge_closed_form_multi (c : IndexCtx) (hc : TreeCtx c) (hm : MultiCtx c) (D : List Obj)
    (hD : GoodTreeSrc D) (hk : KeysDefinedTree c.envs c.master D)
    (e : Str) (edit : List Obj) (hp : parseObjs e = .ok edit) (he : GoodTreeSrc edit)
    (hke : KeysDefinedTree c.envs c.master edit) (w' : List Obj)
    (h : (concreteKernel c).merge (treeMultiResult c.envs c.master D) e = some w') :
    (∃ r, fetchRoot c.envs false c.master [edit] = .ok r) ∧
    noClash c.master (delResult c.envs (redundantOf c edit) [] c.master D ++ edit) = true ∧
      w' = treeMultiResult c.envs c.master (delResult c.envs (redundantOf c edit) [] c.master D ++ edit) :=
  merge_del_some_itl hc hD hk hp he hke (oldOf_eq_del_it2 hc edit (.inr hm) D) h

/-- … in which a MENTIONED `.multiple` definition takes exactly the edit's instances after the template:
    its block is the list rule over the edit's definitions of that name alone (stated for one level of
    the master: `l`, `D`, `A` are the master children, old sources and edit objects reached by the same
    scope path `pfx`) … -/
theorem mentioned_take_edit_instances (e : Envs) (paths : List Str) (pfx : Str) (l D A : List Obj)
    (hf : TreeMultiMaster l) (hr : RefetchTree l) (mm : Meta) (mws : List Word) (hmo : Obj.defn mm mws ∈ l)
    (hmult : isMultiple (.defn mm mws) = true) (hc : paths.contains (joinPath pfx mm.name) = true) :
    tmBlock e (.defn mm mws) (delResult e paths pfx l D ++ A) =
      multiBlock (.defn mm mws) (keyOf e 0 (.defn mm mws) (.defn mm mws))
        (candsOf e 0 (.defn mm mws) (defsNamed mm.name A)) := by
  have hto := hf.obj _ hmo
  rw [TMObj] at hto
  have hr' := hr (.defn mm mws) (.here hmo hto.2.2.2) rfl
  calc tmBlock e (.defn mm mws) (delResult e paths pfx l D ++ A)
      = tmBlock e (.defn mm mws) A := by
        rw [tmBlock_eq_blk_itl, tmBlock_eq_blk_itl, defsNamed_append_ms3,
          defsNamed_del_it2 e paths pfx l D hf mm mws hmo, delBlock, tmBlock_eq_blk_itl, hc]
        exact blk_deleted_ick e 0 mm mws hr'.1 hr'.2.1 hmult _ _ _ (fun o _ => by simp)
    _ = _ := by
        rw [tmBlock]
        simp only [hmult, if_true]

/-- … and everything else is as after a plain merge of the edit into the old working set -/
theorem unmentioned_as_plain_merge (e : Envs) (paths : List Str) (pfx : Str) (l D A : List Obj)
    (hf : TreeMultiMaster l) (mm : Meta) (mws : List Word) (hmo : Obj.defn mm mws ∈ l)
    (hc : paths.contains (joinPath pfx mm.name) = false) :
    tmBlock e (.defn mm mws) (delResult e paths pfx l D ++ A) =
      tmBlock e (.defn mm mws) (treeMultiResult e l D ++ A) := by
  rw [tmBlock_eq_blk_itl, tmBlock_eq_blk_itl, defsNamed_append_ms3, defsNamed_append_ms3,
    defsNamed_del_it2 e paths pfx l D hf mm mws hmo, defsNamed_treeMultiResult_tm e l D hf mm mws hmo,
    delBlock, hc, List.filter_eq_self.mpr]
  intro o _; simp

/-- every successful merge of a tree edit from a reached working set yields a reached one -/
theorem merge_reached_multi (c : IndexCtx) (hc : TreeCtx c) (hm : MultiCtx c) (w : List Obj)
    (hw : ReachedT c w) (e : Str) (he : TreeEdit c e) (w' : List Obj)
    (h : (concreteKernel c).merge w e = some w') : ReachedT c w' :=
  merge_reachedT_itl hc hw he (.inr hm) h

/-- **the invariant, edits of `.multiple` definitions included.**  From a state whose working set and
    saved states are reached, every history of `update` (ANY tree edits), `push`, `pop`, `set_state`,
    `get_python_object` leads to such a state. -/
theorem reached_invariant_tree_multi (c : IndexCtx) (hc : TreeCtx c) (hm : MultiCtx c)
    (s : State (List Obj) PVal) (ops : List (Op PVal Str)) (hg : GoodOpsM c ops) (hs : StateReachedT c s) :
    StateReachedT c (run (concreteKernel c) s ops) :=
  run_inv (fun w h => by rw [refetch_exact_tree c hc w h]; exact h)
    (fun _ _ _ he hw h => merge_reachedT_itl hc hw he (.inr hm) h) (fun _ _ => goodOpsM_cons_it2) ops s hg hs

theorem reached_invariant_tree_multi_init (c : IndexCtx) (hc : TreeCtx c) (hm : MultiCtx c) (w : List Obj)
    (hw : ReachedT c w) (ops : List (Op PVal Str)) (hg : GoodOpsM c ops) :
    ReachedT c (run (concreteKernel c) (init (concreteKernel c) w) ops).working :=
  (reached_invariant_tree_multi c hc hm _ ops hg (init_inv hw)).1

/-- the absorption law behind the next theorem: prune the result of `D`, merge `A`; prune that, merge
    `A` again — the second round reproduces the first -/
theorem absorption_with_deletion (e : Envs) (paths : List Str) (l D A : List Obj) (hf : TreeMultiMaster l)
    (hr : RefetchTree l) (hp : pathsOKL paths [] l = true) (hu : unlistedL paths [] l A = true) :
    treeMultiResult e l (delResult e paths [] l (delResult e paths [] l D ++ A) ++ A) =
      treeMultiResult e l (delResult e paths [] l D ++ A) :=
  del_idem_it2 e paths l hf hr [] D A hp hu

/-- **C20, edit idempotence for edits of `.multiple` definitions (nested masters).**  Merging the edit
    into the result of merging it into a reached working set changes nothing: the second application
    deletes the instances the first one created and re-adds the same ones. -/
theorem same_edit_twice_tree_multi (c : IndexCtx) (hc : TreeCtx c) (hm : MultiCtx c) (e : Str)
    (he : TreeEdit c e) (hl : ListedEdit c e) : IdemKernelOn (concreteKernel c) (ReachedT c) e := by
  intro w w' hw h
  obtain ⟨edit, hp⟩ := merge_parses_ick h
  obtain ⟨D, hD, hk, _, rfl⟩ := hw
  exact merge_del_idem_itl hc hD hk hp (he edit hp).1 (he edit hp).2 (oldOf_eq_del_it2 hc edit (.inr hm))
    (del_idem_it2 c.envs _ c.master hc.ok.tree hc.ok.refetch [] D edit
      (pathsOK_redundant_it2 hm edit) (hl edit hp)) h

theorem same_edit_twice_tree_multi_state (c : IndexCtx) (hc : TreeCtx c) (hm : MultiCtx c) (e : Str)
    (he : TreeEdit c e) (hl : ListedEdit c e) (s : State (List Obj) PVal) (hs : ReachedT c s.working) :
    run (concreteKernel c) s [.update e, .update e] = run (concreteKernel c) s [.update e] :=
  update_twice_state (fun _ h => same_edit_twice_tree_multi c hc hm e he hl _ _ hs h)

/-- anywhere in a history from the initial state -/
theorem same_edit_twice_tree_multi_reachable (c : IndexCtx) (hc : TreeCtx c) (hm : MultiCtx c) (w : List Obj)
    (hw : ReachedT c w) (pre : List (Op PVal Str)) (hg : GoodOpsM c pre) (e : Str) (he : TreeEdit c e)
    (hl : ListedEdit c e) :
    (run (concreteKernel c) (init (concreteKernel c) w) (pre ++ [.update e, .update e])).working =
    (run (concreteKernel c) (init (concreteKernel c) w) (pre ++ [.update e])).working := by
  rw [run_append, run_append,
    same_edit_twice_tree_multi_state c hc hm e he hl _ (reached_invariant_tree_multi_init c hc hm w hw pre hg)]

/-- `lookup_exact_tree` for histories with edits of `.multiple` definitions -/
theorem lookup_exact_tree_multi (c : IndexCtx) (hc : TreeCtx c) (hm : MultiCtx c)
    (hb : multBoolL c.master = true) (w : List Obj) (hw : ReachedT c w) (hr : tmplRangeList w = true)
    (ops : List (Op PVal Str)) (hg : GoodOpsM c ops) (p : Str)
    (hne : liveAt (run (concreteKernel c) (init (concreteKernel c) w) ops).working p ≠ []) :
    ∃ e, (irun (concreteKernel c) (iinit (concreteKernel c) w) ops).lookup p = some e ∧
      e.pairs = pairsOf (liveAt (run (concreteKernel c) (init (concreteKernel c) w) ops).working p) := by
  obtain ⟨D, _, _, _, hD⟩ := reached_invariant_tree_multi_init c hc hm w hw ops hg
  apply lookup_exact_well_grouped (concreteKernel c) w hr ops p _ hne
  · rw [hD]; exact tree_result_has_no_multiple_scope c.envs c.master D hc.ok.tree p
  · rw [hD]; exact fetch_result_well_grouped_tree c.envs c.master D hc.ok.tree hb

/-! #### the literal nested context of C20Tree, edits of the `.multiple` definition `g.s` -/

/-- `g.s` three times (a repeated value), a value at depth 3, a plain parameter -/
def te4 : Str := "g {\n  s = y\n  s = z\n  s = y\n  h.t = 1\n}\nn = 2".toList

theorem tC_multi : MultiCtx tC := multiCtx_of_B (by rw [tC, tMaster_eq]; decide +kernel)
theorem te3_tree : TreeEdit tC te3 := treeEdit_of_B (by rw [tC, tMaster_eq]; decide +kernel)
theorem te4_tree : TreeEdit tC te4 := treeEdit_of_B (by rw [tC, tMaster_eq]; decide +kernel)
theorem te3_listed : ListedEdit tC te3 := listedEdit_of_B (by rw [tC, tMaster_eq]; decide +kernel)
theorem te4_listed : ListedEdit tC te4 := listedEdit_of_B (by rw [tC, tMaster_eq]; decide +kernel)

/-- neither edit is a `PlainEdit` (C20Tree's theorems do not apply to them) -/
example : plainEditB tC te3 = false ∧ plainEditB tC te4 = false := by
  rw [tC, tMaster_eq]
  decide +kernel

def tPreM : List (Op PVal Str) := [.update te3, .push, .update te1, .pop]

theorem tPreM_good : GoodOpsM tC tPreM := ⟨te3_tree, te1_tree, trivial⟩

/-- the second edit REPLACES the instance `x` of `g.s` by the edit's own (`z`, `y`: the repeated `y`
    keeps its last place), by evaluation (library: the same, see `unlisted_keeps_old_instances`) … -/
example : obs2 (run K₂ (init K₂ tW0) [.update te3, .update te4]).working =
    [("n", 0, ["2"]), ("g", 0, []), ("g.s", -1, ["a"]), ("g.s", 0, ["z"]), ("g.s", 0, ["y"]),
     ("g.b", 0, ["True"]), ("g.h", 0, []), ("g.h.t", 0, ["1"])] := by
  rw [tC, tMaster_eq, tW0_eq]
  decide +kernel

/-- … and applying it twice is applying it once: by the theorem (equality of the working sets) -/
example : (run K₂ (init K₂ tW0) (tPreM ++ [.update te4, .update te4])).working =
    (run K₂ (init K₂ tW0) (tPreM ++ [.update te4])).working :=
  same_edit_twice_tree_multi_reachable tC tC_tree tC_multi tW0 tW0_reached tPreM tPreM_good te4 te4_tree te4_listed

/-- the index after such a history: `g.s` looks up to exactly its two live instances -/
example : ∃ e, (irun K₂ (iinit K₂ tW0) (tPreM ++ [.update te4])).lookup "g.s".toList = some e ∧
    e.pairs = pairsOf (liveAt (run K₂ (init K₂ tW0) (tPreM ++ [.update te4])).working "g.s".toList) := by
  apply lookup_exact_tree_multi tC tC_tree tC_multi tMaster_multBool tW0 tW0_reached tW0_range
  · exact ⟨te3_tree, te1_tree, te4_tree, trivial⟩
  · intro h
    have : (liveAt (run K₂ (init K₂ tW0) (tPreM ++ [.update te4])).working "g.s".toList).length = 2 := by
      rw [tC, tMaster_eq, tW0_eq]
      decide +kernel
    rw [h] at this; cases this

/-- the context whose index did NOT record the `.multiple` definition (`_multiple_defs` emptied by hand) -/
def tC0 : IndexCtx := { tC with multiple := [] }

/-- **`ListedEdit` is what "exactly the edit's instances" needs** (kernel-checked; replayed on the
    library with `idx._multiple_defs = []`): when the `.multiple` path is not recorded nothing is deleted,
    the old instance `x` stays in front of the edit's.  Library: recorded —
    `[('g.s', -1, ['a']), ('g.s', 0, ['z']), ('g.s', 0, ['y'])]`; emptied —
    `[('g.s', -1, ['a']), ('g.s', 0, ['x']), ('g.s', 0, ['z']), ('g.s', 0, ['y'])]`.  (The same-edit-twice
    law itself survives there — `dedupKeepLast` absorbs the repeated instances — so `ListedEdit` is not
    claimed sharp for it.) -/
theorem unlisted_keeps_old_instances :
    listedEditB tC0 te4 = false ∧
    obs2 (run (concreteKernel tC0) (init (concreteKernel tC0) tW0) [.update te3, .update te4]).working =
      [("n", 0, ["2"]), ("g", 0, []), ("g.s", -1, ["a"]), ("g.s", 0, ["x"]), ("g.s", 0, ["z"]), ("g.s", 0, ["y"]),
       ("g.b", 0, ["True"]), ("g.h", 0, []), ("g.h.t", 0, ["1"])] ∧
    obs2 (run (concreteKernel tC0) (init (concreteKernel tC0) tW0) [.update te3, .update te4, .update te4]).working =
      obs2 (run (concreteKernel tC0) (init (concreteKernel tC0) tW0) [.update te3, .update te4]).working := by
  rw [tC0, tC, tMaster_eq, tW0_eq]
  refine ⟨by decide +kernel, by decide +kernel, by decide +kernel⟩

end Phil.C20

#print axioms Phil.C20.insideMultipleScope_iff
#print axioms Phil.C20.uniform_outside_multiple_scopes
#print axioms Phil.C20.fetch_result_well_grouped_ms
#print axioms Phil.C20.fetch_result_well_grouped_tree
#print axioms Phil.C20.tree_result_has_no_multiple_scope
#print axioms Phil.C20.lookup_exact_well_grouped
#print axioms Phil.C20.lookup_exact_ms
#print axioms Phil.C20.lookup_exact_tree
#print axioms Phil.C20.inside_multiple_scope_last_plain
#print axioms Phil.C20.inside_multiple_scope_all_multiple
#print axioms Phil.C20.pHist_well_grouped
#print axioms Phil.C20.tMaster_multBool
#print axioms Phil.C20.tW0_range
#print axioms Phil.C20.bool_multiple_needed
#print axioms Phil.C20.well_grouped_needed
#print axioms Phil.C20.multiCtx_of_B
#print axioms Phil.C20.listedEdit_of_B
#print axioms Phil.C20.delete_closed_form_tree
#print axioms Phil.C20.merge_closed_form_multi
#print axioms Phil.C20.mentioned_take_edit_instances
#print axioms Phil.C20.unmentioned_as_plain_merge
#print axioms Phil.C20.merge_reached_multi
#print axioms Phil.C20.reached_invariant_tree_multi
#print axioms Phil.C20.reached_invariant_tree_multi_init
#print axioms Phil.C20.absorption_with_deletion
#print axioms Phil.C20.same_edit_twice_tree_multi
#print axioms Phil.C20.same_edit_twice_tree_multi_state
#print axioms Phil.C20.same_edit_twice_tree_multi_reachable
#print axioms Phil.C20.lookup_exact_tree_multi
#print axioms Phil.C20.tC_multi
#print axioms Phil.C20.te3_tree
#print axioms Phil.C20.te4_tree
#print axioms Phil.C20.te3_listed
#print axioms Phil.C20.te4_listed
#print axioms Phil.C20.tPreM_good
#print axioms Phil.C20.unlisted_keeps_old_instances
