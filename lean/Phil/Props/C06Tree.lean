/-
  C06 (exact form, NESTED masters) — "every source definition is either consumed or reported as
  unused: the reported list is EXACTLY the set of active source definitions whose full path names no
  active master parameter."

  Model: Phil/Fetch.lean (`fetchScope`/`fetchRoot`; the `.tmp` marks are the returned list `used`),
  Phil/CmdLine.lean (`allDefinitions`); the driver reports `unusedOf sources used`
  (Phil/Props/C06.lean).  Lemmas: Phil/Proofs/FetchTree.lean.

  Class covered (unbounded: every such master, every such source list, every adequate fuel):
    * master: a TREE without `.multiple` (`TreeMaster`) — enabled definitions (typed or not; not
      `.multiple`, not `.deprecated`, no choice type) and enabled, non-multiple scopes of such
      objects to ANY depth, names non-empty and dot-free (the parser nests dotted spellings),
      sibling names pairwise distinct; non-diff mode; fetched at the root (`sm.name = []`) or as a
      sub-scope (any `sm.name`);
    * sources: arbitrary lists of definitions and scopes to any depth, enabled or disabled, repeated
      or not, in any spelling (`SrcTree`: below enabled scopes, enabled definitions resolve —
      `SrcOK`, e.g. variable-free — and enabled scopes are named; for the exact account of the ids
      also `SrcPlain`: no ids consulted for variables, dot-free names);
    * fuel: `depthL mkids + 1 ≤ fuel` (`depthL` = nesting depth of the master, 0 for a flat one);
      the fuel `fetchRoot` computes is adequate for masters nested at most 1000 deep
      (`fetchRoot_fuel_tree`).
  Specification functions (Phil/Proofs/FetchTree.lean, structural recursion on the master tree):
    `srcStep objs n`   the children of all enabled scopes called `n` among `objs`, document order;
    `srcAt objs ps`    `srcStep` iterated along the path `ps`;
    `lastDef objs n`   the last enabled definition called `n` among `objs`;
    `treeResult mkids srcs`, `treeUsed mkids srcs`, `noClash mkids srcs`, `defPaths mkids p`.
  Facts:
    * `fetch_tree_total`: the fetch equals `treeResult`/`treeUsed` when `noClash`, and fails with
      RuntimeError ("incompatible") otherwise — a TOTAL description (`fetch_tree`, `tree_clash_fails`);
    * `tree_used_exact`: the consumed ids are exactly the ids of the entries of
      `all_definitions(sources)` whose dotted path is the path of a master definition;
    * `tree_unused_exact` / `reported_iff_tree` / `fetchRoot_tree_unused_exact`: with pairwise
      distinct ids the reported list is exactly the sub-list of `all_definitions(sources)` whose
      path is not among `all_definitions(master)`.
-/
import Phil.Proofs.FetchTree
import Phil.Proofs.ObjEq
import Phil.Props.C06
import Phil.Parse
namespace Phil.C06
open Phil

/-- **Closed form of the fetch of a nested master (total).**  With fuel beyond the nesting depth the
    fetch succeeds exactly when no enabled source scope sits where the master has a definition and
    no enabled source definition where the master has a scope, at any depth (`noClash`); its result
    is `treeResult`, the consumed ids are `treeUsed` (in this order); otherwise it raises
    RuntimeError ("incompatible"). -/
theorem fetch_tree_total (e : Envs) (fuel : Nat) (sm : Meta) (mkids srcs : List Obj)
    (hf : TreeMaster mkids) (hfuel : depthL mkids + 1 ≤ fuel) (hsd : sm.disabled = false)
    (hsrc : SrcTree srcs) :
    fetchScope e fuel false sm mkids srcs =
      if noClash mkids srcs then
        .ok (.scope { sm with tmpl := 0 } (treeResult mkids srcs), treeUsed mkids srcs)
      else .error (.runtime "incompatible" none) :=
  Phil.fetch_tree_total e fuel sm mkids srcs hf hfuel hsd hsrc

/-- **`fetch_tree`** — the success case. -/
theorem fetch_tree (e : Envs) (fuel : Nat) (sm : Meta) (mkids srcs : List Obj)
    (hf : TreeMaster mkids) (hfuel : depthL mkids + 1 ≤ fuel) (hsd : sm.disabled = false)
    (hsrc : SrcTree srcs) (hnc : noClash mkids srcs = true) :
    fetchScope e fuel false sm mkids srcs =
      .ok (.scope { sm with tmpl := 0 } (treeResult mkids srcs), treeUsed mkids srcs) :=
  Phil.fetch_tree e fuel sm mkids srcs hf hfuel hsd hsrc hnc

/-- **A clash of kinds at any depth is an error.** -/
theorem tree_clash_fails (e : Envs) (fuel : Nat) (sm : Meta) (mkids srcs : List Obj)
    (hf : TreeMaster mkids) (hfuel : depthL mkids + 1 ≤ fuel) (hsd : sm.disabled = false)
    (hsrc : SrcTree srcs) (hnc : noClash mkids srcs = false) :
    fetchScope e fuel false sm mkids srcs = .error (.runtime "incompatible" none) := by
  rw [fetch_tree_total e fuel sm mkids srcs hf hfuel hsd hsrc, hnc]
  rfl

/-- **`master.fetch(sources)`** on parsed roots: the fuel `fetchRoot` computes is adequate. -/
theorem fetchRoot_tree (e : Envs) (master : List Obj) (ss : List (List Obj))
    (hf : TreeMaster master) (hd : depthL master ≤ 1000) (hsrc : SrcTree ss.flatten) :
    fetchRoot e false master ss =
      if noClash master ss.flatten then
        .ok (.scope { name := [], id := some 0 } (treeResult master ss.flatten), treeUsed master ss.flatten)
      else .error (.runtime "incompatible" none) :=
  Phil.fetchRoot_tree e master ss hf hd hsrc

/-- **Consumed ids, exactly.**  Whenever the fetch of a tree master succeeds, `i` is consumed iff it
    is the id of an entry of `all_definitions(sources)` — an enabled definition below enabled scopes
    only, at any depth, in any spelling — whose dotted path is the path of a master definition. -/
theorem tree_used_exact (e : Envs) (fuel : Nat) (sm : Meta) (mkids srcs : List Obj)
    (hf : TreeMaster mkids) (hfuel : depthL mkids + 1 ≤ fuel) (hsd : sm.disabled = false)
    (hinc : NoIncludeTree mkids) (hsrc : SrcTree srcs) (hs : SrcPlain srcs)
    (ro : Obj) (used : List Nat)
    (h : fetchScope e fuel false sm mkids srcs = .ok (ro, used)) (i : Nat) :
    i ∈ used ↔ ∃ x ∈ allDefinitions srcs, x.2.1.id = some i ∧ x.1 ∈ defPaths mkids [] := by
  obtain ⟨_, _, hu⟩ := ok_of_total (fetch_tree_total e fuel sm mkids srcs hf hfuel hsd hsrc) h
  subst hu
  exact Phil.tree_used_exact mkids srcs hf hinc hs i

/-- the paths `defPaths` lists are the paths of `all_definitions(master)`: the active master
    parameters -/
theorem defPaths_eq_allDefinitions (mkids : List Obj) (hf : TreeMaster mkids) (hinc : NoIncludeTree mkids) :
    defPaths mkids [] = (allDefinitions mkids).map (·.1) :=
  Phil.defPaths_eq_allDefinitions mkids hf hinc

/-- **The reported list, exactly.**  Whenever the fetch of a tree master succeeds and the entries of
    `all_definitions(sources)` carry pairwise distinct ids, the reported list is the list of the
    entries of `all_definitions(sources)` (in order) whose full path is not the path of an active
    master parameter. -/
theorem tree_unused_exact (e : Envs) (fuel : Nat) (sm : Meta) (mkids srcs : List Obj)
    (hf : TreeMaster mkids) (hfuel : depthL mkids + 1 ≤ fuel) (hsd : sm.disabled = false)
    (hinc : NoIncludeTree mkids) (hsrc : SrcTree srcs) (hs : SrcPlain srcs)
    (hsome : ∀ x ∈ allDefinitions srcs, x.2.1.id ≠ none)
    (hids : ((allDefinitions srcs).map (fun x => x.2.1.id)).Nodup)
    (ro : Obj) (used : List Nat)
    (h : fetchScope e fuel false sm mkids srcs = .ok (ro, used)) :
    unusedOf srcs used =
      (allDefinitions srcs).filter (fun x => !((allDefinitions mkids).map (·.1)).contains x.1) := by
  rw [← Phil.defPaths_eq_allDefinitions mkids hf hinc]
  exact Phil.tree_unused_exact e fuel sm mkids srcs hf hfuel hsd hinc hsrc hs hsome hids ro used h

/-- membership form: an entry of `all_definitions(sources)` is reported iff its path names no active
    master parameter -/
theorem reported_iff_tree (e : Envs) (fuel : Nat) (sm : Meta) (mkids srcs : List Obj)
    (hf : TreeMaster mkids) (hfuel : depthL mkids + 1 ≤ fuel) (hsd : sm.disabled = false)
    (hinc : NoIncludeTree mkids) (hsrc : SrcTree srcs) (hs : SrcPlain srcs)
    (hsome : ∀ x ∈ allDefinitions srcs, x.2.1.id ≠ none)
    (hids : ((allDefinitions srcs).map (fun x => x.2.1.id)).Nodup)
    (ro : Obj) (used : List Nat)
    (h : fetchScope e fuel false sm mkids srcs = .ok (ro, used))
    (x : Str × Meta × List Word) :
    x ∈ unusedOf srcs used ↔
      x ∈ allDefinitions srcs ∧ x.1 ∉ (allDefinitions mkids).map (·.1) := by
  rw [tree_unused_exact e fuel sm mkids srcs hf hfuel hsd hinc hsrc hs hsome hids ro used h,
    List.mem_filter]
  simp

/-- **`master.fetch(sources, track_unused_definitions=True)`** on parsed roots, with the side
    conditions in their executable form (`masterCheck`, `srcCheck`). -/
theorem fetchRoot_tree_unused_exact (e : Envs) (master : List Obj) (ss : List (List Obj))
    (hm : masterCheck master = true) (hs : srcCheck ss.flatten = true)
    (hsome : ∀ x ∈ allDefinitions ss.flatten, x.2.1.id ≠ none)
    (hids : ((allDefinitions ss.flatten).map (fun x => x.2.1.id)).Nodup)
    (ro : Obj) (used : List Nat)
    (h : fetchRoot e false master ss = .ok (ro, used)) :
    unusedOf ss.flatten used =
      (allDefinitions ss.flatten).filter
        (fun x => !((allDefinitions master).map (·.1)).contains x.1) := by
  have hM := masterCheck_sound master hm
  have hS := srcCheck_sound ss.flatten hs
  exact tree_unused_exact e _ _ master ss.flatten hM.tree (fetchRoot_fuel_tree master hM.depth) rfl
    hM.noInclude hS.tree hS.plain hsome hids ro used h

/-! ### non-vacuity: a nested instance through the parser -/

def objsOf (t : String) : List Obj :=
  match parseObjs t.toList with
  | .ok m => m
  | .error _ => []

/-- For `rw` and the kernel a literal is `String.ofList […]`: rewriting with this avoids UTF-8 decoding. -/
theorem objsOf_ofList (l : List Char) :
    objsOf (String.ofList l) =
      match parseObjs l with
      | .ok m => m
      | .error _ => [] := by
  rw [objsOf, String.toList_ofList]

/-- master: `a = 1 (.type=int) ; s { b = x ; t { c = None ; d = 2 } }` -/
def treeM : List Obj := objsOf "a = 1\n.type=int\ns {\n  b = x\n  t {\n    c = None\n    d = 2\n  }\n}\n"

/-- sources: dotted and braced spellings, repeated scopes, disabled objects, unknown names -/
def treeS : List Obj :=
  objsOf "s.t.c = 4\ns {\n  b = 5\n  !b = 6\n  q = 0\n}\nz = 1\ns.t {\n  c = 6\n  e = 1\n}\n!s.t.c = 9\n!s { b = 8 }\na = 7\n"

section
attribute [local instance] objDecEq

theorem treeM_eq : treeM =
    [
      .defn { name := "a".toList, id := some 1, line := some 1, attrs := [("type", .conv (.int {}))] }
        [{ value := "1".toList, line := some 1 }],
      .scope { name := "s".toList, id := some 2, line := some 3 } [
        .defn { name := "b".toList, id := some 3, line := some 4 }
          [{ value := "x".toList, line := some 4 }],
        .scope { name := "t".toList, id := some 4, line := some 5 } [
          .defn { name := "c".toList, id := some 5, line := some 6 }
            [{ value := "None".toList, line := some 6 }],
          .defn { name := "d".toList, id := some 6, line := some 7 }
            [{ value := "2".toList, line := some 7 }]]]] := by
  rw [treeM, objsOf_ofList]
  decide +kernel

theorem treeS_eq : treeS =
    [
      .scope { name := "s".toList, id := some 1 } [
        .scope { name := "t".toList, id := some 1, mergeNames := true } [
          .defn { name := "c".toList, id := some 1, line := some 1, mergeNames := true }
            [{ value := "4".toList, line := some 1 }]]],
      .scope { name := "s".toList, id := some 2, line := some 2 } [
        .defn { name := "b".toList, id := some 3, line := some 3 }
          [{ value := "5".toList, line := some 3 }],
        .defn { name := "b".toList, id := some 4, disabled := true, line := some 4 }
          [{ value := "6".toList, line := some 4 }],
        .defn { name := "q".toList, id := some 5, line := some 5 }
          [{ value := "0".toList, line := some 5 }]],
      .defn { name := "z".toList, id := some 6, line := some 7 } [{ value := "1".toList, line := some 7 }],
      .scope { name := "s".toList, id := some 7 } [
        .scope { name := "t".toList, id := some 7, line := some 8, mergeNames := true } [
          .defn { name := "c".toList, id := some 8, line := some 9 }
            [{ value := "6".toList, line := some 9 }],
          .defn { name := "e".toList, id := some 9, line := some 10 }
            [{ value := "1".toList, line := some 10 }]]],
      .scope { name := "s".toList, id := some 10 } [
        .scope { name := "t".toList, id := some 10, mergeNames := true } [
          .defn { name := "c".toList, id := some 10, disabled := true, line := some 12, mergeNames := true }
            [{ value := "9".toList, line := some 12 }]]],
      .scope { name := "s".toList, id := some 11, disabled := true, line := some 13 } [
        .defn { name := "b".toList, id := some 12, line := some 13 }
          [{ value := "8".toList, line := some 13 }]],
      .defn { name := "a".toList, id := some 13, line := some 14 }
        [{ value := "7".toList, line := some 14 }]] := by
  rw [treeS, objsOf_ofList]
  decide +kernel

end

theorem treeM_check : masterCheck treeM = true := by
  rw [treeM_eq]
  decide +kernel

theorem treeS_check : srcCheck treeS = true := by
  rw [treeS_eq]
  decide +kernel

/-- the (path, words) pairs of the definitions of a tree -/
def valsOf (kids : List Obj) : List (String × List String) :=
  (allDefinitions kids).map (fun x => (String.ofList x.1, x.2.2.map (fun w => String.ofList w.value)))

/-- the parsed instance satisfies every hypothesis (the parser's output: dot-free names, named
    scopes, pairwise distinct ids) -/
example : (treeM.length == 2 && treeS.length == 7 && masterCheck treeM && srcCheck treeS &&
    noClash treeM treeS && depthL treeM == 2 &&
    decide (((allDefinitions treeS).map (fun x => x.2.1.id)).Nodup) &&
    (allDefinitions treeS).all (fun x => x.2.1.id.isSome)) = true := by
  rw [treeM_eq, treeS_eq]
  decide +kernel

/-- the specification functions on the instance -/
example : valsOf (treeResult treeM treeS) = [("a", ["7"]), ("s.b", ["5"]), ("s.t.c", ["6"]), ("s.t.d", ["2"])] := by
  rw [treeM_eq, treeS_eq]
  decide +kernel

example : (defPaths treeM []).map String.ofList = ["a", "s.b", "s.t.c", "s.t.d"] := by
  rw [treeM_eq]
  decide +kernel

/-- the model agrees with the specification on the instance (result, consumed ids, reported list) -/
example :
    (match fetchRoot env12 false treeM [treeS] with
     | .ok (ro, used) => some (valsOf ro.children, used == treeUsed treeM treeS,
         (unusedOf treeS used).map (fun x => String.ofList x.1))
     | .error _ => none) =
      some ([("a", ["7"]), ("s.b", ["5"]), ("s.t.c", ["6"]), ("s.t.d", ["2"])], true, ["s.q", "z", "s.t.e"]) := by
  rw [treeM_eq, treeS_eq]
  decide +kernel

/-- the theorem applied to the instance: the reported list follows from `fetchRoot_tree_unused_exact`
    (all its hypotheses are discharged by kernel evaluation) -/
example (ro : Obj) (used : List Nat) (h : fetchRoot env12 false treeM [treeS] = .ok (ro, used)) :
    (unusedOf treeS used).map (fun x => String.ofList x.1) = ["s.q", "z", "s.t.e"] := by
  have hfl : ([treeS] : List (List Obj)).flatten = treeS := by simp
  have := fetchRoot_tree_unused_exact env12 treeM [treeS] treeM_check (by rw [hfl]; exact treeS_check)
    (by
      rw [hfl]
      intro x hx
      have hall : ((allDefinitions treeS).all (fun x => x.2.1.id.isSome)) = true := by
        rw [treeS_eq]
        decide +kernel
      have := List.all_eq_true.mp hall x hx
      intro hn; rw [hn] at this; cases this)
    (by rw [hfl, treeS_eq]; decide +kernel)
    ro used h
  rw [hfl] at this
  rw [this, treeM_eq, treeS_eq]
  decide +kernel

/-- a source scope where the master has a definition (`s.b` is a definition of the master) at depth
    2: `noClash` is false and the fetch fails -/
example : (noClash treeM (objsOf "s.b.x = 1\n"),
    errOf (fetchRoot env12 false treeM [objsOf "s.b.x = 1\n"])) =
      (false, some (.runtime "incompatible" none)) := by
  rw [treeM_eq, objsOf_ofList]
  decide +kernel

/-- a source definition where the master has a scope -/
example : (noClash treeM (objsOf "s.t = 1\n"),
    errOf (fetchRoot env12 false treeM [objsOf "s.t = 1\n"])) =
      (false, some (.runtime "incompatible" none)) := by
  rw [treeM_eq, objsOf_ofList]
  decide +kernel

end Phil.C06
