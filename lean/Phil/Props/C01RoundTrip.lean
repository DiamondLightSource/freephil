/-
  C01 (part) — printing a PHIL tree and re-parsing the text reproduces the tree, whatever print width
  is used: the unbounded sub-theorems for *flat documents of definitions* (any number of definitions,
  any number of words per definition, plain unquoted words and quoted words of any content, every
  print width).  Property theorems only; lemmas are in Phil/Proofs/PrintParse.lean and
  FlatLayout.lean (a printed flat document is a document of the layout grammar).

  What is covered: the root scope holding definitions `name = w1 … wk` that are enabled, carry no
  attributes, are printed at attributes level 0 with the empty prefix.
  What is not covered: nested scopes, attributes (level > 0), disabled definitions, a non-empty prefix.
-/
import Phil.Proofs.FlatLayout
import Phil.Proofs.ObjEq
namespace Phil.C01
open Phil

local instance objDecEqInst : DecidableEq Obj := objDecEq

/-- used by the concrete examples only (`decide +kernel`) -/
local instance exceptDecEqRT {ε α : Type} [DecidableEq ε] [DecidableEq α] : DecidableEq (Except ε α) := fun a b =>
  match a, b with
  | .ok x, .ok y => if h : x = y then isTrue (by rw [h]) else isFalse (fun e => h (by cases e; rfl))
  | .error x, .error y => if h : x = y then isTrue (by rw [h]) else isFalse (fun e => h (by cases e; rfl))
  | .ok _, .error _ => isFalse (fun e => by cases e)
  | .error _, .ok _ => isFalse (fun e => by cases e)

/-! ### the domain

  * `goodName nm`: `nm` is accepted by the parser as the name of an ordinary definition
    (`plainDefName`: a standard identifier, not `include`, not reserved) and has no dot.
  * `goodWord w`: `w` is quoted (any of the four styles, ANY content), or an unquoted word that the
    value tokenizer reads as one ordinary word (`plainWord`: non-empty, no white space, none of
    `{ } ;`, not starting with a quote character, not the lone `\` and not the lone `#`).
  * `PlainDefn x`: `x` is a definition with `disabled = False`, no attributes, `is_template = 0`;
    its `primary_id` and source line are arbitrary.
  * `Obj.spec x` = (name, words). -/

/-- the hypotheses on one definition of the document -/
structure RTDefn (x : Obj) : Prop where
  plain : PlainDefn x
  name : goodName x.spec.1 = true
  nonempty : x.spec.2 ≠ []
  words : ∀ w ∈ x.spec.2, goodWord w = true

/-! ### Stage 1 — one definition, no wrapping -/

/-- **One definition.**  `d` is an enabled definition without attributes whose name is a plain
    undotted definition name and whose words (at least one) are plain unquoted words or quoted words
    of any content without a newline character.  If the complete line `name = w1 … wk` fits into
    `width - 2` columns (so nothing is wrapped), printing at attributes level 0 gives exactly that
    one line, and parsing it gives back one definition with the same name and the same words —
    values and quote styles — with id 1, on line 1. -/
theorem print_parse_defn (w : Int) (e : Option Int) (nm : Str) (i l : Option Nat) (ws : List Word)
    (hname : goodName nm = true) (hne : ws ≠ [])
    (hwords : ∀ x ∈ ws, goodWord x = true) (hnl : ∀ x ∈ ws, '\n' ∉ x.value)
    (hfit : ((nm ++ " =".toList ++ wordsText ws).length : Int) ≤ w - 2) :
    ∃ lines, showDefn { level := 0, width := w, expert := e } { name := nm, id := i, line := l } ws [] []
        = .ok lines ∧
      lines = [nm ++ " =".toList ++ wordsText ws] ∧
      parseObjs (unlines lines)
        = .ok [.defn { name := nm, id := some 1, line := some 1 }
                 (ws.map (fun x => { x with line := some 1 }))] := by
  have htxt : nm ++ " =".toList ++ wordsText ws = defnText (nm, ws) := by
    have : " =".toList = [' ', '='] := rfl
    simp [defnText, this]
  have hnl' : ∀ x ∈ ws, nlCount x.value = 0 := fun x hx => nlCount_of_not_mem (hnl x hx)
  refine ⟨[defnText (nm, ws)], ?_, by rw [htxt], ?_⟩
  · rw [showDefn_any _ (Int.le_refl 0) nm i l ws (goodName_not_include hname)]
    exact congrArg Except.ok (showWords_fits w (nm, ws) (by rw [lineFits, ← htxt]; exact hfit))
  have hgd : ∀ d ∈ [((nm, ws) : DefSpec)], GoodDefn d := by
    intro d hd
    simp only [List.mem_singleton] at hd
    subst hd
    exact ⟨hname, hne, hwords, chainOK_noNl ws hnl'⟩
  have h := parseObjs_docText [(nm, ws)] hgd
  have hdoc : unlines [defnText (nm, ws)] = docText [(nm, ws)] := unlines_defnText [(nm, ws)]
  rw [hdoc, h, parsedDefs_noNl _ (by
    intro d hd; simp only [List.mem_singleton] at hd; subst hd; exact hnl')]
  rfl

/-- what is printed for a word list: a blank and `str(word)` per word -/
example : wordsText [{ value := "x".toList }, { value := "y z".toList, quote := some .d1 },
      { value := "q\\".toList, quote := some .s1 }] = " x \"y z\" 'q\\\\'".toList := by decide +kernel

/-- non-vacuity: `a = x "y z" 'q\\'` through the theorem -/
example : parseObjs "a = x \"y z\" 'q\\\\'\n".toList
    = .ok [.defn { name := ['a'], id := some 1, line := some 1 }
        [{ value := "x".toList, quote := none, line := some 1 },
         { value := "y z".toList, quote := some .d1, line := some 1 },
         { value := "q\\".toList, quote := some .s1, line := some 1 }]] := by
  obtain ⟨lines, _, hl, hp⟩ := print_parse_defn 79 none ['a'] none none
    [{ value := "x".toList }, { value := "y z".toList, quote := some .d1 },
     { value := "q\\".toList, quote := some .s1 }]
    (by decide +kernel) (by simp) (by decide +kernel) (by decide +kernel) (by decide +kernel)
  rw [hl] at hp
  -- that the printed lines are the literal is said once: the unifier would find it out by decoding and printing
  exact (congrArg parseObjs (by decide +kernel)).trans hp

/-! ### Stage 2 — a flat document, no wrapping, words without newlines -/

/-- **A flat document with multi-line quoted words** (stage 3 below; stage 2 is its case without
    newlines).  The words are arbitrary (`goodWord`) with `chainOK`.  The parser's result is
    `parsedDefs 1 1`: ids 1..n in order, every definition on the line after the line on which the
    previous one *ends* (`endLine`: its line plus the newlines inside its words), every word on the
    line on which it *starts* (`reline`: shifted by the newlines inside the words before it). -/
theorem print_parse_flat_multiline (o : ShowOpts) (hl : o.level = 0) (objs : List Obj)
    (h : ∀ x ∈ objs, RTDefn x) (hchain : ∀ x ∈ objs, chainOK true x.spec.2 = true)
    (hfit : ∀ x ∈ objs, lineFits o.width x.spec) :
    asStr o (rootOf objs) = .ok (unlines (objs.map (fun x => defnText x.spec))) ∧
    parseObjs (unlines (objs.map (fun x => defnText x.spec)))
      = .ok (parsedDefs 1 1 (objs.map Obj.spec)) := by
  have hl' : o.level ≤ 0 := by omega
  have htext : unlines (objs.map (fun x => defnText x.spec)) = docText (objs.map Obj.spec) := by
    rw [← unlines_defnText, List.map_map]; rfl
  constructor
  · rw [asStr_root, showObjs_flat_any o hl' objs (fun x hx => ⟨(h x hx).plain, (h x hx).name⟩),
      List.flatMap_map, List.flatMap_def,
      List.map_congr_left (g := fun x => [defnText x.spec]) fun x hx => showWords_fits _ _ (hfit x hx),
      ← List.flatMap_def, ← List.map_eq_flatMap]
    rfl
  · rw [htext, parseObjs_docText _ (by
      intro d hd
      obtain ⟨x, hx, rfl⟩ := List.mem_map.mp hd
      exact ⟨(h x hx).name, (h x hx).nonempty, (h x hx).words, hchain x hx⟩)]

/-- **A flat document.**  For any list of definitions as in stage 1 (names arbitrary, duplicates
    allowed), when every line fits into `width - 2` columns: printing the root scope gives one line
    per definition, and parsing that text gives the same definitions in the same order — names, word
    values, quote styles — definition `k` with id `k` on line `k`, all its words on line `k`. -/
theorem print_parse_flat (o : ShowOpts) (hl : o.level = 0) (objs : List Obj)
    (h : ∀ x ∈ objs, RTDefn x) (hnl : ∀ x ∈ objs, ∀ w ∈ x.spec.2, '\n' ∉ w.value)
    (hfit : ∀ x ∈ objs, lineFits o.width x.spec) :
    asStr o (rootOf objs) = .ok (unlines (objs.map (fun x => defnText x.spec))) ∧
    parseObjs (unlines (objs.map (fun x => defnText x.spec)))
      = .ok (numbered 1 (objs.map Obj.spec)) := by
  have hnl' : ∀ d ∈ objs.map Obj.spec, ∀ w ∈ d.2, nlCount w.value = 0 := by
    intro d hd w hw
    obtain ⟨x, hx, rfl⟩ := List.mem_map.mp hd
    exact nlCount_of_not_mem (hnl x hx w hw)
  obtain ⟨h1, h2⟩ := print_parse_flat_multiline o hl objs h
    (fun x hx => chainOK_noNl _ (hnl' _ (List.mem_map_of_mem hx))) hfit
  exact ⟨h1, by rw [h2, parsedDefs_noNl _ hnl']⟩

/-- the document of the examples: `a = x "y z" 'q\\'` / `b = 1` / `a = "#{;}"` (a name may repeat) -/
def exDoc : List Obj :=
  [ .defn { name := ['a'] } [{ value := "x".toList }, { value := "y z".toList, quote := some .d1 },
                             { value := "q\\".toList, quote := some .s1 }],
    .defn { name := ['b'], id := some 7, line := some 40 } [{ value := ['1'], line := some 40 }],
    .defn { name := ['a'] } [{ value := "#{;}".toList, quote := some .d3 }] ]

theorem exDoc_ok : ∀ x ∈ exDoc, RTDefn x := by
  intro x hx
  simp only [exDoc, List.mem_cons, List.not_mem_nil, or_false] at hx
  rcases hx with rfl | rfl | rfl <;>
    exact ⟨⟨_, _, _, _, rfl⟩, by decide +kernel, by simp [Obj.spec], by decide +kernel⟩

/-- non-vacuity: the example document through the theorem (ids and lines 1, 2, 3) -/
example : parseObjs "a = x \"y z\" 'q\\\\'\nb = 1\na = \"\"\"#{;}\"\"\"\n".toList
    = .ok [ .defn { name := ['a'], id := some 1, line := some 1 }
              [{ value := "x".toList, quote := none, line := some 1 },
               { value := "y z".toList, quote := some .d1, line := some 1 },
               { value := "q\\".toList, quote := some .s1, line := some 1 }],
            .defn { name := ['b'], id := some 2, line := some 2 }
              [{ value := ['1'], quote := none, line := some 2 }],
            .defn { name := ['a'], id := some 3, line := some 3 }
              [{ value := "#{;}".toList, quote := some .d3, line := some 3 }] ] := by
  have h := (print_parse_flat {} rfl exDoc exDoc_ok (by decide +kernel) (by
    intro x hx
    simp only [exDoc, List.mem_cons, List.not_mem_nil, or_false] at hx
    rcases hx with rfl | rfl | rfl <;> (unfold lineFits; decide +kernel))).2
  have e : unlines (exDoc.map (fun x => defnText x.spec))
      = "a = x \"y z\" 'q\\\\'\nb = 1\na = \"\"\"#{;}\"\"\"\n".toList := by decide +kernel
  rw [e] at h
  exact h

/-! ### Stage 3 — quoted words that contain newlines (no wrapping)

  `#eval` of the model and the Python library agree on what is true without wrapping:
  a quoted word containing newlines may stand anywhere, and it may be followed on the same physical
  line by further *quoted* words; an *unquoted* word directly after it is NOT read back (see
  `unquoted_after_multiline_fails`).  `chainOK true ws` says exactly that no unquoted word directly
  follows a word containing a newline. -/

/-- the line arithmetic of `parsedDefs`, spelled out -/
theorem parsedDefs_cons (l i : Nat) (d : DefSpec) (ds : List DefSpec) :
    parsedDefs l i (d :: ds)
      = .defn { name := d.1, id := some i, line := some l } (reline l d.2)
        :: parsedDefs (l + nlCount (d.2.flatMap (·.value)) + 1) (i + 1) ds := by
  rw [parsedDefs, endLine_eq]

/-- what comes back is the original tree up to ids and source positions -/
theorem parsedDefs_same_tree (objs : List Obj) (h : ∀ x ∈ objs, RTDefn x) :
    eraseList (parsedDefs 1 1 (objs.map Obj.spec)) = eraseList objs :=
  parsedDefs_erase objs (fun x hx => (h x hx).plain) 1 1

/-- non-vacuity: `a = x "y⏎z" 'q'` / `b = 1` — the quoted word after the multi-line word is on line 2,
    `b` on line 3 -/
example : parseObjs "a = x \"y\nz\" 'q'\nb = 1\n".toList
    = .ok [ .defn { name := ['a'], id := some 1, line := some 1 }
              [{ value := "x".toList, quote := none, line := some 1 },
               { value := "y\nz".toList, quote := some .d1, line := some 1 },
               { value := "q".toList, quote := some .s1, line := some 2 }],
            .defn { name := ['b'], id := some 2, line := some 3 }
              [{ value := ['1'], quote := none, line := some 3 }] ] := by
  have hok : ∀ x ∈ [Obj.defn { name := ['a'] } [{ value := "x".toList },
        { value := "y\nz".toList, quote := some .d1 }, { value := "q".toList, quote := some .s1 }],
      Obj.defn { name := ['b'] } [{ value := ['1'] }]], RTDefn x := by
    intro x hx
    simp only [List.mem_cons, List.not_mem_nil, or_false] at hx
    rcases hx with rfl | rfl <;>
      exact ⟨⟨_, _, _, _, rfl⟩, by decide +kernel, by simp [Obj.spec], by decide +kernel⟩
  have h := (print_parse_flat_multiline {} rfl _ hok (by decide +kernel) (by
    intro x hx
    simp only [List.mem_cons, List.not_mem_nil, or_false] at hx
    rcases hx with rfl | rfl <;> (unfold lineFits; decide +kernel))).2
  have e : unlines ([Obj.defn { name := ['a'] } [{ value := "x".toList },
        { value := "y\nz".toList, quote := some .d1 }, { value := "q".toList, quote := some .s1 }],
      Obj.defn { name := ['b'] } [{ value := ['1'] }]].map (fun x => defnText x.spec))
      = "a = x \"y\nz\" 'q'\nb = 1\n".toList := by decide +kernel
  rw [e] at h
  exact h.trans (by decide +kernel)

/-- **Counterexample (a defect of the library, confirmed with the Python code).**  A tree whose
    definition holds the words `x`, `"y⏎z"` (quoted, with a newline) and `q` (unquoted) prints, at the
    default width and without any wrapping, as `a = x "y⏎z" q`; the parser ends the value in front of
    `q` (it compares the line of `q` with the line on which the previous word *started*) and then
    fails on `q` / `b`: `Syntax error: expected "=", found "b" (input line 3)`. -/
theorem unquoted_after_multiline_fails :
    asStr {} (rootOf [.defn { name := ['a'] } [{ value := "x".toList },
        { value := "y\nz".toList, quote := some .d1 }, { value := "q".toList }],
      .defn { name := ['b'] } [{ value := ['1'] }]]) = .ok "a = x \"y\nz\" q\nb = 1\n".toList ∧
    parseObjs "a = x \"y\nz\" q\nb = 1\n".toList = .error (.runtime "expected" (some 3)) := by
  repeat rw [String.toList_ofList]
  decide +kernel

/-! ### Every print width

  With wrapping `definition.show` ends a line with ` \` and continues on the next line, indented by
  the width of `name =`.  `wrapOK width indent ws line same` follows the printer's wrapping decisions
  and says: no continuation ` \` directly after a word containing a newline (finding D6: the parser
  then does not accept the backslash as a continuation), and no unquoted word directly after such a
  word on the same printed line.  `wrapTail` is the printed text after `name =`; the parsed words with
  their source lines are those of the layout `canonW` (Phil/Proofs/FlatLayout.lean). -/

/-- **A flat document at any width, exact condition.**  For every print width (also widths at which
    every word is wrapped, zero and negative widths): if every definition satisfies `wrapOK` for that
    width, the printed text parses, and the result is the list of the definitions in order with ids
    1..n, every word with its value and quote style (source lines as laid out by the wrapping). -/
theorem print_parse_any_width_exact (o : ShowOpts) (hl : o.level = 0) (objs : List Obj)
    (h : ∀ x ∈ objs, RTDefn x)
    (hok : ∀ x ∈ objs, wrapOK o.width (defIndent x.spec.1) x.spec.2 (defHead x.spec.1) true = true) :
    ∃ text objs', asStr o (rootOf objs) = .ok text ∧ parseObjs text = .ok objs' ∧
      objs' = parsedLay3 1 1 ((objs.map Obj.spec).map (canonW o.width)) ∧
      eraseList objs' = eraseList objs ∧
      objs'.map (fun x => x.meta.id) = (List.range' 1 objs.length).map some := by
  obtain ⟨h1, hwf⟩ := print_parse_lines o (by omega) objs
    (fun x hx => ⟨(h x hx).plain, (h x hx).name, (h x hx).nonempty, (h x hx).words, hok x hx⟩)
  refine ⟨_, _, h1, parseObjs_render3 _ _ _ hwf, rfl, ?_, ?_⟩
  · rw [parsedLay3_erase _ _ _ _ _ hwf, List.map_map,
      show Prod.fst ∘ canonW o.width = id from rfl, List.map_id]
    exact treeOf_spec objs fun x hx => (h x hx).plain
  · rw [parsedLay3_ids]
    simp

/-- **C01 for flat documents, whatever print width is used.**  If in every definition only the LAST
    word may contain a newline character (all other words: plain unquoted words or quoted words of
    any content without a newline), then for EVERY print width printing the root scope and parsing
    the text succeeds and reproduces the tree: the same definitions in the same order, the same
    names, the same words with the same values and quote styles (everything except ids and source
    positions, which the parser assigns afresh: ids 1..n). -/
theorem print_parse_any_width (o : ShowOpts) (hl : o.level = 0) (objs : List Obj)
    (h : ∀ x ∈ objs, RTDefn x)
    (hnl : ∀ x ∈ objs, ∀ w ∈ x.spec.2.dropLast, '\n' ∉ w.value) :
    ∃ text objs', asStr o (rootOf objs) = .ok text ∧ parseObjs text = .ok objs' ∧
      eraseList objs' = eraseList objs ∧
      objs'.map (fun x => x.meta.id) = (List.range' 1 objs.length).map some := by
  obtain ⟨text, objs', h1, h2, _, h4, h5⟩ := print_parse_any_width_exact o hl objs h (by
    intro x hx
    exact wrapOK_of_noNl o.width _ _ _ true (fun _ => rfl)
      (fun w hw => nlCount_of_not_mem (hnl x hx w hw)))
  exact ⟨text, objs', h1, h2, h4, h5⟩

/-- non-vacuity: the example document at width 12 (every word wrapped) through the theorem -/
example : ∃ objs', parseObjs
      "a = x \\\n    \"y z\" \\\n    'q\\\\'\nb = 1\na = \"\"\"#{;}\"\"\"\n".toList = .ok objs' ∧
    eraseList objs' = eraseList exDoc := by
  obtain ⟨text, objs', h1, h2, h3, _⟩ := print_parse_any_width { width := 12 } rfl exDoc exDoc_ok
    (by decide +kernel)
  have e : asStr { width := 12 } (rootOf exDoc)
      = .ok "a = x \\\n    \"y z\" \\\n    'q\\\\'\nb = 1\na = \"\"\"#{;}\"\"\"\n".toList := by
    rw [String.toList_ofList]
    decide +kernel
  rw [e] at h1
  cases h1
  exact ⟨objs', h2, h3⟩

/-- **Counterexample (finding D6, in the model).**  `a = xxxxx "y⏎z" "zzzzzzz"` printed at width 12
    puts ` \` after the multi-line word; the text does not parse. -/
theorem continuation_after_multiline_fails :
    asStr { width := 12 } (rootOf [.defn { name := ['a'] } [{ value := "xxxxx".toList },
        { value := "y\nz".toList, quote := some .d1 }, { value := "zzzzzzz".toList, quote := some .d1 }]])
      = .ok "a = xxxxx \\\n    \"y\nz\" \\\n    \"zzzzzzz\"\n".toList ∧
    parseObjs "a = xxxxx \\\n    \"y\nz\" \\\n    \"zzzzzzz\"\n".toList
      = .error (.runtime "improper_definition_name" (some 3)) := by
  repeat rw [String.toList_ofList]
  decide +kernel

/-- … while at the default width (no wrapping) the same tree round-trips: the condition depends on
    the width, `wrapOK` is the exact statement -/
example : wrapOK 79 (defIndent ['a']) [{ value := "xxxxx".toList },
      { value := "y\nz".toList, quote := some .d1 }, { value := "zzzzzzz".toList, quote := some .d1 }]
      (defHead ['a']) true = true ∧
    wrapOK 12 (defIndent ['a']) [{ value := "xxxxx".toList },
      { value := "y\nz".toList, quote := some .d1 }, { value := "zzzzzzz".toList, quote := some .d1 }]
      (defHead ['a']) true = false := by decide +kernel

/-- a dotted name is outside the domain: `a.b = x` is read back as a scope `a` holding `b` -/
theorem dotted_name_reparses_as_scope :
    asStr {} (rootOf [.defn { name := "a.b".toList } [{ value := ['x'] }]]) = .ok "a.b = x\n".toList ∧
    parseObjs "a.b = x\n".toList
      = .ok [.scope { name := ['a'], id := some 1 }
          [.defn { name := ['b'], id := some 1, line := some 1, mergeNames := true }
            [{ value := ['x'], line := some 1 }]]] := by
  decide +kernel

/-! ### Stage 4 — the second print is byte-identical -/

/-- **The printer ignores ids and source positions.**  For every tree (scopes, attributes, any
    level, width, prefix): erasing `primary_id` and the source line of every object and the source
    line of every word does not change what is printed. -/
theorem show_ignores_positions (o : ShowOpts) (t : Obj) (merged : List Str) (pre : Str) :
    showObj o t.erase merged pre = showObj o t merged pre :=
  showObj_erase o t merged pre

/-- hence two trees that agree up to ids and source positions print identically -/
theorem show_congr_positions (o : ShowOpts) (t t' : Obj) (h : t.erase = t'.erase) (pre : Str) :
    asStr o t pre = asStr o t' pre := by
  unfold asStr
  rw [showObj_congr_erase o t t' h]

/-- what the second print rests on: the root re-parsed from a text whose objects agree with `objs` up
    to ids and source positions prints like `rootOf objs`, under every option and prefix -/
theorem reparsed_root {text : Str} {objs' objs : List Obj} (h2 : parseObjs text = .ok objs')
    (h3 : eraseList objs' = eraseList objs) :
    parse text = .ok (rootOf objs') ∧
      ∀ (o' : ShowOpts) (pre : Str), asStr o' (rootOf objs') pre = asStr o' (rootOf objs) pre :=
  ⟨by rw [parse_eq, h2]; rfl,
    fun o' pre => show_congr_positions o' _ _ (by simp only [rootOf, Obj.erase_scope, h3]) pre⟩

/-- **Print, parse, print again.**  In the setting of `print_parse_any_width` (any width; the words
    of the original tree may carry any `line` fields, the objects any ids): the re-parsed root prints
    byte-identically to the original root — at the same width and at every other width, level and
    prefix. -/
theorem second_print_identical (o : ShowOpts) (hl : o.level = 0) (objs : List Obj)
    (h : ∀ x ∈ objs, RTDefn x)
    (hnl : ∀ x ∈ objs, ∀ w ∈ x.spec.2.dropLast, '\n' ∉ w.value) :
    ∃ text root', asStr o (rootOf objs) = .ok text ∧ parse text = .ok root' ∧
      asStr o root' = .ok text ∧
      ∀ (o' : ShowOpts) (pre : Str), asStr o' root' pre = asStr o' (rootOf objs) pre := by
  obtain ⟨text, objs', h1, h2, h3, _⟩ := print_parse_any_width o hl objs h hnl
  obtain ⟨g1, g2⟩ := reparsed_root h2 h3
  exact ⟨text, _, h1, g1, by rw [g2 o [], h1], g2⟩

/-- non-vacuity: the example document at width 12 -/
example : ∃ text root', asStr { width := 12 } (rootOf exDoc) = .ok text ∧ parse text = .ok root' ∧
    asStr { width := 12 } root' = .ok text :=
  let ⟨text, root', h1, h2, h3, _⟩ := second_print_identical { width := 12 } rfl exDoc exDoc_ok
    (by decide +kernel)
  ⟨text, root', h1, h2, h3⟩

end Phil.C01
