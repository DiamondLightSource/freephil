/-
  C20 (concrete kernel, NESTED masters) — the kernel laws of Phil/Props/C20.lean discharged for the
  fetch model on nested masters whose definitions may be `.multiple`.

    "… popping a state restores exactly the working parameters that were current at the matching
     push.  Applying the same edit twice in a row leaves the working parameters as after the first
     application."

  Phil/Props/C20Concrete.lean proves both laws of the generic machine for `concreteKernel c` on FLAT
  masters.  Here the same is done on NESTED masters with the closed forms of
  Phil/Proofs/FetchTreeMulti.lean; no law hypothesis is left.  Lemmas: Phil/Proofs/IndexTreeLemmas.lean.

  Class covered (unbounded: every such context, every history, every edit of the class):
    * contexts `TreeCtx c`: the master is a `TreeMultiMaster` — enabled NON-multiple scopes to any
      depth ≤ 1000, definitions of any type that are `.multiple` or not (not `.deprecated`, not
      choices), sibling names distinct, non-empty, dot-free — fit for re-fetching (`masterCheck_tm`
      is the executable test); the theorems hold for every `Envs`.  `.multiple` SCOPES stay outside
      (as in the closed form of the fetch itself);
    * working sets `ReachedT c w`: `w` is the closed-form result `treeMultiResult` of fetching the
      master against some good source tree (equivalently, by `reached_tree_is_fetch_result`, the
      result of an actual `master.fetch(source = D)`); the initial working set is reached;
    * `pop_restores_tree`: EVERY balanced inner history (any edits, `update_from_python` included);
    * `reached_invariant_tree`, `same_edit_twice_tree`: edits `TreeEdit` (if the text parses, it
      parses to a good source tree whose candidate keys are defined) that are `PlainEdit` /
      `NoMultiEdit`: they name no `.multiple` parameter, so `merge_phil` deletes nothing.  Edits of
      `.multiple` parameters of a nested master go through `delete_phil_objects` on a nested tree;
      that path is NOT covered here (on flat masters it is: `same_edit_twice_concrete`).  These two
      hypotheses restrict the class; they are not claimed to be sharp.

    1. `reached_tree_is_fetch_result`, `reached_tree_is_good_source`
    2. `refetch_exact_tree`
    3. `merge_closed_form_tree`, `merge_reached_tree`, `init_reached_tree`, `reached_invariant_tree`
    4. `pop_restores_tree` (+ `_stack`, `_reachable`), `set_state_exact_tree`
    5. `same_edit_twice_tree` (+ `_state`, `_reachable`), `absorption_tree`
    6. kernel-checked instances on a literal nested context
-/
import Phil.Props.C20Concrete
import Phil.Proofs.IndexTreeLemmas
namespace Phil.C20
open Phil Phil.Index

/-! ### 1. reached working sets -/

/-- a reached working set is exactly the result of an actual fetch of a good source tree -/
theorem reached_tree_is_fetch_result (c : IndexCtx) (hc : TreeCtx c) (w : List Obj) :
    ReachedT c w ↔ ∃ D u, GoodTreeSrc D ∧ KeysDefinedTree c.envs c.master D ∧
      fetchRoot c.envs false c.master [D] = .ok (rootOf w, u) := by
  constructor
  · rintro ⟨D, hD, hk, hn, rfl⟩
    refine ⟨D, treeMultiUsed c.master D, hD, hk, ?_⟩
    rw [fetchRoot_good_itl hc hD hk, hn]
    rfl
  · rintro ⟨D, u, hD, hk, hf⟩
    rw [fetchRoot_good_itl hc hD hk] at hf
    cases hn : noClash c.master D with
    | false => rw [hn] at hf; cases hf
    | true =>
      rw [hn] at hf
      simp only [if_true] at hf
      injection hf with hf
      injection hf with h1 h2
      unfold rootOf at h1
      injection h1 with h3 h4
      exact ⟨D, hD, hk, hn, h4.symm⟩

/-- taken as a source, a reached working set is good, has defined keys, does not clash with the
    master, and is a fixed point of the closed form -/
theorem reached_tree_is_good_source (c : IndexCtx) (hc : TreeCtx c) (w : List Obj) (h : ReachedT c w) :
    GoodTreeSrc w ∧ KeysDefinedTree c.envs c.master w ∧ noClash c.master w = true ∧
      treeMultiResult c.envs c.master w = w :=
  reachedT_good_itl hc h

/-! ### 2. `push_state`'s re-fetch is the identity on reached working sets -/

/-- **refetch law (nested masters).**  `master.fetch(source = w) = w` for every reached working set. -/
theorem refetch_exact_tree (c : IndexCtx) (hc : TreeCtx c) (w : List Obj) (h : ReachedT c w) :
    (concreteKernel c).refetch w = w := by
  obtain ⟨hg, hk, hn, hid⟩ := reachedT_good_itl hc h
  rw [refetch_eq_ick, fetchRoot_good_itl hc hg hk, hn]
  simp only [if_true]
  exact hid

/-! ### 3. `ReachedT` is an invariant -/

/-- what a successful merge of a plain edit computes: the edit alone fetches (refusal check), there is
    no clash of kinds, and the new working set is the closed form on `w ++ edit` -/
theorem merge_closed_form_tree (c : IndexCtx) (hc : TreeCtx c) (w : List Obj) (hw : ReachedT c w)
    (e : Str) (edit : List Obj) (hp : parseObjs e = .ok edit) (he : GoodTreeSrc edit)
    (hke : KeysDefinedTree c.envs c.master edit) (hpl : redundantOf c edit = []) (w' : List Obj)
    (h : (concreteKernel c).merge w e = some w') :
    (∃ r, fetchRoot c.envs false c.master [edit] = .ok r) ∧ noClash c.master (w ++ edit) = true ∧
      w' = treeMultiResult c.envs c.master (w ++ edit) := by
  obtain ⟨D, hD, hk, _, rfl⟩ := hw
  have := merge_del_some_itl hc hD hk hp he hke (oldOf_eq_del_it2 hc edit (.inl hpl) D) h
  rwa [hpl, delResult_nil_it2] at this

theorem merge_reached_tree (c : IndexCtx) (hc : TreeCtx c) (w : List Obj) (hw : ReachedT c w)
    (e : Str) (he : TreeEdit c e) (hpl : PlainEdit c e) (w' : List Obj)
    (h : (concreteKernel c).merge w e = some w') : ReachedT c w' :=
  merge_reachedT_itl hc hw he (.inl hpl) h

/-- the initial working set `master.fetch()` is reached -/
theorem init_reached_tree (c : IndexCtx) (hc : TreeCtx c) (hk : KeysDefinedTree c.envs c.master [])
    (r : Obj) (u : List Nat) (h : fetchRoot c.envs false c.master [] = .ok (r, u)) :
    ReachedT c r.children := by
  have h' : fetchRoot c.envs false c.master [[]] = .ok (r, u) := by
    rw [fetchRoot_eq] at h ⊢; simpa using h
  rw [fetchRoot_good_itl hc GoodTreeSrc.nil_itl hk] at h'
  cases hn : noClash c.master [] with
  | false => rw [hn] at h'; cases h'
  | true =>
    rw [hn] at h'
    simp only [if_true] at h'
    injection h' with h'
    injection h' with h1 _
    rw [← h1]
    exact ⟨[], GoodTreeSrc.nil_itl, hk, hn, rfl⟩

/-- **the invariant (nested masters).**  From a state whose working set and saved states are reached,
    every history of `update` (plain tree edits), `push`, `pop`, `set_state`, `get_python_object`
    leads to such a state. -/
theorem reached_invariant_tree (c : IndexCtx) (hc : TreeCtx c) (s : State (List Obj) PVal)
    (ops : List (Op PVal Str)) (hg : GoodOpsT c ops) (hs : StateReachedT c s) :
    StateReachedT c (run (concreteKernel c) s ops) :=
  run_inv (fun w h => by rw [refetch_exact_tree c hc w h]; exact h)
    (fun _ _ _ he hw h => merge_reachedT_itl hc hw he.1 (.inl he.2) h) (fun _ _ => goodOpsT_cons_itl) ops s hg hs

theorem reached_invariant_tree_init (c : IndexCtx) (hc : TreeCtx c) (w : List Obj) (hw : ReachedT c w)
    (ops : List (Op PVal Str)) (hg : GoodOpsT c ops) :
    ReachedT c (run (concreteKernel c) (init (concreteKernel c) w) ops).working :=
  (reached_invariant_tree c hc _ ops hg (init_inv hw)).1

/-! ### 4. pop restores exactly — no law hypothesis left -/

/-- **C20, pop restores (concrete kernel, nested masters).**  From any state whose working set is
    reached, for EVERY balanced inner history (any edits, `update_from_python` included), the working
    set after the matching `pop` EQUALS the working set at the `push`. -/
theorem pop_restores_tree (c : IndexCtx) (hc : TreeCtx c) (s : State (List Obj) PVal)
    (hs : ReachedT c s.working) (inner : List (Op PVal Str)) (hb : Balanced inner) :
    (run (concreteKernel c) s (.push :: (inner ++ [.pop]))).working = s.working :=
  pop_restores_exact (concreteKernel c) s inner hb (refetch_exact_tree c hc _ hs)

theorem pop_restores_tree_stack (c : IndexCtx) (s : State (List Obj) PVal)
    (inner : List (Op PVal Str)) (hb : Balanced inner) :
    (run (concreteKernel c) s (.push :: (inner ++ [.pop]))).states = s.states :=
  pop_restores_concrete_stack c s inner hb

/-- anywhere in a history from the initial state -/
theorem pop_restores_tree_reachable (c : IndexCtx) (hc : TreeCtx c) (w : List Obj) (hw : ReachedT c w)
    (pre inner : List (Op PVal Str)) (hg : GoodOpsT c pre) (hb : Balanced inner) :
    (run (concreteKernel c) (init (concreteKernel c) w) (pre ++ .push :: (inner ++ [.pop]))).working
      = (run (concreteKernel c) (init (concreteKernel c) w) pre).working := by
  rw [run_append]
  exact pop_restores_tree c hc _ (reached_invariant_tree_init c hc w hw pre hg) inner hb

/-- `set_state i` makes the `i`-th saved state itself current -/
theorem set_state_exact_tree (c : IndexCtx) (hc : TreeCtx c) (s : State (List Obj) PVal)
    (hs : StateReachedT c s) (i : Nat) (w : List Obj) (hi : s.states[i]? = some w) :
    (step (concreteKernel c) s (.setState i)).1.working = w := by
  rw [step_setState_some _ s i w hi]
  exact refetch_exact_tree c hc w (hs.2 w (List.mem_of_getElem? hi))

/-! ### 5. the same edit twice — the kernel law proved -/

/-- the absorption law of the closed form behind it: the result of `S ++ A`, merged with `A` once
    more, is reproduced (last value wins at every depth; the blocks of `.multiple` definitions `A`
    does not mention are fixed points of the list rule) -/
theorem absorption_tree (e : Envs) (l S A : List Obj) (hf : TreeMultiMaster l) (hr : RefetchTree l)
    (hnm : noMulti l A = true) :
    treeMultiResult e l (treeMultiResult e l (S ++ A) ++ A) = treeMultiResult e l (S ++ A) := by
  revert S A
  apply TreeMultiMaster.bodies_rec ?_ l hf hr
  intro l hf hr ih S A hnm
  apply treeMultiResult_congr_blocks_itl
  intro mo hmo
  have hto := hf.obj mo hmo
  have hnm' := mem_of_allRec_itl (g := (noMulti · A)) (fun _ _ => by rw [noMulti]) hnm _ hmo
  cases mo with
  | defn mm mws =>
    rw [TMObj] at hto
    have hr' := hr (.defn mm mws) (.here hmo hto.2.2.2) rfl
    rw [tmBlock_eq_blk_itl, tmBlock_eq_blk_itl, defsNamed_append_ms3,
      defsNamed_treeMultiResult_tm e l (S ++ A) hf mm mws hmo, tmBlock_eq_blk_itl, defsNamed_append_ms3]
    refine blk_absorb_ick e 0 mm mws hr'.1 hr'.2.1 _ _ (fun hm => ?_)
    rw [noMultiObj, hm] at hnm'
    simpa using hnm'
  | scope mm kids =>
    rw [noMultiObj] at hnm'
    rw [tmBlock, tmBlock, srcStep_append_itl, srcStep_treeMultiResult_tm e l (S ++ A) hf mm kids hmo,
      srcStep_append_itl, ih mm kids hmo (srcStep S mm.name) (srcStep A mm.name) hnm']

/-- **C20, edit idempotence (the kernel law of the concrete kernel, nested masters).**  For every
    plain tree edit: merging the edit into the result of merging it into a reached working set
    changes nothing. -/
theorem same_edit_twice_tree (c : IndexCtx) (hc : TreeCtx c) (e : Str) (he : TreeEdit c e)
    (hpl : PlainEdit c e) (hnm : NoMultiEdit c e) :
    IdemKernelOn (concreteKernel c) (ReachedT c) e := by
  intro w w' hw h
  obtain ⟨edit, hp⟩ := merge_parses_ick h
  obtain ⟨D, hD, hk, _, rfl⟩ := hw
  refine merge_del_idem_itl hc hD hk hp (he edit hp).1 (he edit hp).2
    (oldOf_eq_del_it2 hc edit (.inl (hpl edit hp))) ?_ h
  rw [hpl edit hp, delResult_nil_it2, delResult_nil_it2]
  exact absorption_tree c.envs c.master _ edit hc.ok.tree hc.ok.refetch (hnm edit hp)

theorem same_edit_twice_tree_state (c : IndexCtx) (hc : TreeCtx c) (e : Str) (he : TreeEdit c e)
    (hpl : PlainEdit c e) (hnm : NoMultiEdit c e) (s : State (List Obj) PVal) (hs : ReachedT c s.working) :
    run (concreteKernel c) s [.update e, .update e] = run (concreteKernel c) s [.update e] :=
  update_twice_state (fun _ h => same_edit_twice_tree c hc e he hpl hnm _ _ hs h)

/-- anywhere in a history from the initial state -/
theorem same_edit_twice_tree_reachable (c : IndexCtx) (hc : TreeCtx c) (w : List Obj)
    (hw : ReachedT c w) (pre : List (Op PVal Str)) (hg : GoodOpsT c pre) (e : Str) (he : TreeEdit c e)
    (hpl : PlainEdit c e) (hnm : NoMultiEdit c e) :
    (run (concreteKernel c) (init (concreteKernel c) w) (pre ++ [.update e, .update e])).working =
    (run (concreteKernel c) (init (concreteKernel c) w) (pre ++ [.update e])).working := by
  rw [run_append, run_append,
    same_edit_twice_tree_state c hc e he hpl hnm _ (reached_invariant_tree_init c hc w hw pre hg)]

/-! ### 6. a literal nested context -/

def treeEditB (c : IndexCtx) (text : Str) : Bool :=
  match parseObjs text with
  | .ok edit => srcCheck edit && keysDefinedTreeB c.envs c.master edit
  | .error _ => true

def plainEditB (c : IndexCtx) (text : Str) : Bool :=
  match parseObjs text with
  | .ok edit => (redundantOf c edit).isEmpty && noMulti c.master edit
  | .error _ => true

theorem treeEdit_of_B {c : IndexCtx} {text : Str} (h : treeEditB c text = true) : TreeEdit c text := by
  intro edit hp
  unfold treeEditB at h
  rw [hp] at h
  simp only [Bool.and_eq_true] at h
  have hS := srcCheck_sound edit h.1
  exact ⟨⟨hS.tree, hS.noDollar⟩, keysDefinedTreeB_sound _ _ _ h.2⟩

theorem plainEdit_of_B {c : IndexCtx} {text : Str} (h : plainEditB c text = true) :
    PlainEdit c text ∧ NoMultiEdit c text := by
  constructor
  · intro edit hp
    unfold plainEditB at h
    rw [hp] at h
    simp only [Bool.and_eq_true] at h
    simpa using h.1
  · intro edit hp
    unfold plainEditB at h
    rw [hp] at h
    simp only [Bool.and_eq_true] at h
    exact h.2

theorem treeCtx_of_B {c : IndexCtx} (h : masterCheck_tm c.master = true) : TreeCtx c :=
  ⟨masterCheck_tm_sound c.master h⟩

/-- the initial working tree `master.fetch()` of a context -/
def initW (c : IndexCtx) : List Obj :=
  match fetchRoot c.envs false c.master [] with | .ok (r, _) => r.children | .error _ => []

/-- executable test: the master is in the class, its own keys are defined, `master.fetch()` succeeds -/
def initChecksB (c : IndexCtx) : Bool :=
  masterCheck_tm c.master && keysDefinedTreeB c.envs c.master [] &&
    (errOf (fetchRoot c.envs false c.master [])).isNone

/-- from the executable test: the context is in the class and its initial working set is reached -/
theorem init_reached_of_B (c : IndexCtx) (h : initChecksB c = true) : TreeCtx c ∧ ReachedT c (initW c) := by
  unfold initChecksB at h
  simp only [Bool.and_eq_true] at h
  have hc : TreeCtx c := ⟨masterCheck_tm_sound c.master h.1.1⟩
  have hk : KeysDefinedTree c.envs c.master [] := keysDefinedTreeB_sound c.envs c.master [] h.1.2
  obtain ⟨⟨r, u⟩, hr⟩ := ok_of_errOf_none h.2
  refine ⟨hc, ?_⟩
  unfold initW
  rw [hr]
  exact init_reached_tree c hc hk r u hr

/-- ```
    n = 1
      .type = int
    g {
      s = a
        .type = str
        .multiple = True
      b = True
        .type = bool
      h {
        t = 2
          .type = int
      }
    }
    ``` -/
def tMasterText : Str :=
  ("n = 1\n  .type = int\ng {\n  s = a\n    .type = str\n    .multiple = True\n  b = True\n    .type = bool\n" ++
   "  h {\n    t = 2\n      .type = int\n  }\n}\n").toList

def tMaster : List Obj := match parseObjs tMasterText with | .ok m => m | .error _ => []

/-- the context: `multiple` is what `build_index(collect_multiple=True)` records (checked below) -/
def tC : IndexCtx := { envs := env12, master := tMaster, multiple := ["g.s".toList] }

/-- the initial working tree `master.fetch()` -/
def tW0 : List Obj := initW tC

section
attribute [local instance] objDecEq

theorem tMaster_eq : tMaster =
    [
      .defn { name := "n".toList, id := some 1, line := some 1, attrs := [("type", .conv (.int {}))] }
        [{ value := "1".toList, line := some 1 }],
      .scope { name := "g".toList, id := some 2, line := some 3 } [
        .defn
          { name := "s".toList, id := some 3, line := some 4,
            attrs := [("type", .conv .str), ("multiple", .bool true)] }
          [{ value := "a".toList, line := some 4 }],
        .defn { name := "b".toList, id := some 4, line := some 7, attrs := [("type", .conv .bool)] }
          [{ value := "True".toList, line := some 7 }],
        .scope { name := "h".toList, id := some 5, line := some 9 } [
          .defn { name := "t".toList, id := some 6, line := some 10, attrs := [("type", .conv (.int {}))] }
            [{ value := "2".toList, line := some 10 }]]]] := by
  decide +kernel

theorem tW0_eq : tW0 =
    [
      .defn { name := "n".toList, id := some 1, line := some 1, attrs := [("type", .conv (.int {}))] }
        [{ value := "1".toList, line := some 1 }],
      .scope { name := "g".toList, id := some 2, line := some 3 } [
        .defn
          { name := "s".toList, id := some 3, line := some 4, tmpl := 1,
            attrs := [("type", .conv .str), ("multiple", .bool true)] }
          [{ value := "a".toList, line := some 4 }],
        .defn { name := "b".toList, id := some 4, line := some 7, attrs := [("type", .conv .bool)] }
          [{ value := "True".toList, line := some 7 }],
        .scope { name := "h".toList, id := some 5, line := some 9 } [
          .defn { name := "t".toList, id := some 6, line := some 10, attrs := [("type", .conv (.int {}))] }
            [{ value := "2".toList, line := some 10 }]]]] := by
  unfold tW0 tC
  rw [tMaster_eq]
  decide +kernel

end

local notation "K₂" => concreteKernel tC

/-- what is compared: name, template flag, words of every object, each followed by its children and
    grandchildren (dotted names) -/
def obs2 (w : List Obj) : List (String × Int × List String) :=
  w.flatMap (fun k => (String.ofList k.name, k.meta.tmpl, k.words.map (fun x => String.ofList x.value)) ::
    k.children.flatMap (fun k2 =>
      (String.ofList (k.name ++ '.' :: k2.name), k2.meta.tmpl, k2.words.map (fun x => String.ofList x.value)) ::
      k2.children.map (fun k3 => (String.ofList (k.name ++ '.' :: k2.name ++ '.' :: k3.name), k3.meta.tmpl,
        k3.words.map (fun x => String.ofList x.value)))))

def te1 : Str := "n = 2\ng.b = False".toList
def te2 : Str := "g {\n  h {\n    t = 1\n  }\n  b = False\n}\n".toList
/-- an edit of the `.multiple` definition `g.s` (outside `PlainEdit`) -/
def te3 : Str := "g.s = x".toList

example : (multiplePaths 1000 [] tW0).map String.ofList = ["g.s"] := by
  rw [tW0_eq]
  decide +kernel
example : depthL tMaster = 2 := by
  rw [tMaster_eq]
  decide +kernel

theorem tC_checks : initChecksB tC = true := by
  rw [tC, tMaster_eq]
  decide +kernel

theorem tC_tree : TreeCtx tC := (init_reached_of_B tC tC_checks).1

theorem te1_tree : TreeEdit tC te1 := treeEdit_of_B (by rw [tC, tMaster_eq]; decide +kernel)
theorem te2_tree : TreeEdit tC te2 := treeEdit_of_B (by rw [tC, tMaster_eq]; decide +kernel)
theorem te1_plain : PlainEdit tC te1 ∧ NoMultiEdit tC te1 := plainEdit_of_B (by rw [tC, tMaster_eq]; decide +kernel)
theorem te2_plain : PlainEdit tC te2 ∧ NoMultiEdit tC te2 := plainEdit_of_B (by rw [tC, tMaster_eq]; decide +kernel)

/-- the edit of the `.multiple` definition is a tree edit but not a plain one -/
example : treeEditB tC te3 = true ∧ plainEditB tC te3 = false := by
  rw [tC, tMaster_eq]
  decide +kernel

theorem tW0_reached : ReachedT tC tW0 := (init_reached_of_B tC tC_checks).2

/-- the history before the bracket, and a balanced inner history with a nested bracket, an edit of the
    `.multiple` definition, `update_from_python(None)`-free `get_python_object` -/
def tPre : List (Op PVal Str) := [.update te1]
def tInner : List (Op PVal Str) := [.update te2, .push, .update te3, .pop, .getPython, .update te3]

theorem tPre_good : GoodOpsT tC tPre := ⟨⟨te1_tree, te1_plain.1⟩, trivial⟩

theorem tInner_balanced : Balanced tInner :=
  .update te2 (.push (inner := [.update te3]) (.update te3 .nil) (.getPython (.update te3 .nil)))

/-- the working set really moved inside the bracket (values at depth 2 and 3, an instance of `g.s`) … -/
example : obs2 (run K₂ (init K₂ tW0) (tPre ++ .push :: tInner)).working =
    [("n", 0, ["2"]), ("g", 0, []), ("g.s", -1, ["a"]), ("g.s", 0, ["x"]), ("g.b", 0, ["False"]),
     ("g.h", 0, []), ("g.h.t", 0, ["1"])] := by
  rw [tC, tMaster_eq, tW0_eq]
  decide +kernel

/-- … and the matching pop restores it: by evaluation (what `obs2` shows) … -/
example : obs2 (run K₂ (init K₂ tW0) (tPre ++ .push :: (tInner ++ [.pop]))).working =
    [("n", 0, ["2"]), ("g", 0, []), ("g.s", 1, ["a"]), ("g.b", 0, ["False"]), ("g.h", 0, []),
     ("g.h.t", 0, ["2"])] := by
  rw [tC, tMaster_eq, tW0_eq]
  decide +kernel

/-- … and by the theorem (equality of the working sets themselves) -/
example : (run K₂ (init K₂ tW0) (tPre ++ .push :: (tInner ++ [.pop]))).working =
    (run K₂ (init K₂ tW0) tPre).working :=
  pop_restores_tree_reachable tC tC_tree tW0 tW0_reached tPre tInner tPre_good tInner_balanced

/-- the same edit twice, at depth 3: by evaluation … -/
example : obs2 (run K₂ (init K₂ tW0) [.update te1, .update te2, .update te2]).working =
    obs2 (run K₂ (init K₂ tW0) [.update te1, .update te2]).working := by
  rw [tC, tMaster_eq, tW0_eq]
  decide +kernel

/-- … and by the theorem -/
example : (run K₂ (init K₂ tW0) (tPre ++ [.update te2, .update te2])).working =
    (run K₂ (init K₂ tW0) (tPre ++ [.update te2])).working :=
  same_edit_twice_tree_reachable tC tC_tree tW0 tW0_reached tPre tPre_good te2 te2_tree te2_plain.1 te2_plain.2

/-- the invariant on the instance: the working set after the history is a fixed point of the re-fetch -/
def tHist : List (Op PVal Str) := [.update te1, .push, .update te2, .pop, .setState 0]

theorem tHist_good : GoodOpsT tC tHist := ⟨⟨te1_tree, te1_plain.1⟩, ⟨te2_tree, te2_plain.1⟩, trivial⟩

example : Kernel.refetch K₂ (run K₂ (init K₂ tW0) tHist).working = (run K₂ (init K₂ tW0) tHist).working :=
  refetch_exact_tree tC tC_tree _ (reached_invariant_tree_init tC tC_tree tW0 tW0_reached tHist tHist_good)

/-- **`ReachedT` is needed for the refetch law** (kernel-checked): a working set that is not a fetch
    result — the non-multiple `n` given twice — is NOT a fixed point of `push_state`'s re-fetch (the
    last value wins and one object is left). -/
theorem refetch_needs_reached :
    obs2 (Kernel.refetch K₂ (tW0 ++ tW0)) ≠ obs2 (tW0 ++ tW0) ∧
    Kernel.refetch K₂ (tW0 ++ tW0) ≠ tW0 ++ tW0 := by
  have h1 : obs2 (Kernel.refetch K₂ (tW0 ++ tW0)) ≠ obs2 (tW0 ++ tW0) := by
    rw [tC, tMaster_eq, tW0_eq]
    decide +kernel
  exact ⟨h1, fun h => h1 (by rw [h])⟩

end Phil.C20

#print axioms Phil.C20.reached_tree_is_fetch_result
#print axioms Phil.C20.reached_tree_is_good_source
#print axioms Phil.C20.refetch_exact_tree
#print axioms Phil.C20.merge_closed_form_tree
#print axioms Phil.C20.merge_reached_tree
#print axioms Phil.C20.init_reached_tree
#print axioms Phil.C20.reached_invariant_tree
#print axioms Phil.C20.reached_invariant_tree_init
#print axioms Phil.C20.pop_restores_tree
#print axioms Phil.C20.pop_restores_tree_stack
#print axioms Phil.C20.pop_restores_tree_reachable
#print axioms Phil.C20.set_state_exact_tree
#print axioms Phil.C20.absorption_tree
#print axioms Phil.C20.same_edit_twice_tree
#print axioms Phil.C20.same_edit_twice_tree_state
#print axioms Phil.C20.same_edit_twice_tree_reachable
#print axioms Phil.C20.treeEdit_of_B
#print axioms Phil.C20.plainEdit_of_B
#print axioms Phil.C20.treeCtx_of_B
#print axioms Phil.C20.init_reached_of_B
#print axioms Phil.C20.tC_checks
#print axioms Phil.C20.tC_tree
#print axioms Phil.C20.te1_tree
#print axioms Phil.C20.te2_tree
#print axioms Phil.C20.te1_plain
#print axioms Phil.C20.te2_plain
#print axioms Phil.C20.tW0_reached
#print axioms Phil.C20.tPre_good
#print axioms Phil.C20.tInner_balanced
#print axioms Phil.C20.tHist_good
#print axioms Phil.C20.refetch_needs_reached
