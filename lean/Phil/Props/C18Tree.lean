/-
  C18 on whole trees — "An extracted parameter object accepts assignment to every parameter the master
  declares and rejects assignment to any other name with an AttributeError that spells out the full
  dotted path; injecting a new name works exactly once and refuses to overwrite.  Every extracted
  scope — including each element of a multiple scope — reports the master's full dotted path for
  itself and for any of its parameters."

  Phil/Props/C18.lean proves this for ONE `scope_extract` node, addressed by its chain of names.
  Here it is lifted to the whole object `scope.extract` returns:
    1. `node_paths_of_extract` — the `__phil_path__()` of all nodes of an extraction, pre-order, are
       the dotted paths of the enabled scopes of the tree (`scopePaths`);
    2. `declared_names_accepted`, `every_scope_has_node` — the node at the attribute path `p` holds
       exactly the names of the children of the scope at `p`; assignment to each is accepted, any
       other non-builtin name is refused with AttributeError `p.name`;
    3. `inject_once_tree` — at every node a fresh name can be injected once; the second injection is
       refused with `p.name`;
    4. `node_paths_value`, `node_paths_multi` — extracted values with `scope_extract_list`s: every
       element of the list under the attribute `n` of the node `p` reports `p.n`;
    5. `fetchRoot_extract_node_paths`, `fetchRoot_extract_guard` — `master.fetch(sources).extract()`
       for a nested master without `.multiple` and ARBITRARY sources: node paths and declared names
       are the master's, whatever the sources;
    6. kernel-checked instances through the parser, each replayed on the Python library.
  Detachment (no aliasing with the PHIL tree) is object identity and is validated by the harness.
  Property theorems only; lemmas are in Phil/Proofs/ScopeExtractTree.lean.
-/
import Phil.Proofs.ScopeExtractTree
import Phil.Proofs.ObjEq
import Phil.Props.C10Tree
namespace Phil.C18
open Phil

/-! ### 0. vocabulary

  * `chainOf rev` (Phil/Props/C18.lean): the `__phil_name__` chain of a node, self first, the root
    (whose name is `""`) last.  The node reached from the root through the attribute names `p`
    (root first) has the chain `chainOf p.reverse`.
  * `dotted p`: the names of `p` joined by `.` (`dotted [] = ""`).
  * `scopePaths kids p = dotted p :: …`: the dotted paths of the scope with path `p` and children
    `kids` and of all enabled, non-template scopes below it, pre-order:
    ```
    scopePathsObj_st (.defn _ _) p     = []
    scopePathsObj_st (.scope m kids) p = if !m.disabled && m.tmpl == 0
                                         then dotted (p ++ [m.name]) :: scopePathsKids_st kids (p ++ [m.name])
                                         else []
    scopePathsKids_st [] p             = []
    scopePathsKids_st (o :: os) p      = scopePathsObj_st o p ++ scopePathsKids_st os p
    ```
    (a disabled scope or a template extracts as `None`, a template placeholder not at all: neither
    is a `scope_extract`).
  * `nodeAt v p`: the fields of the `scope_extract` reached from `v` through the attributes `p`;
    `scopeAt_st kids p`: the children of the scope reached through the names `p`, all scopes on the
    way enabled and not templates.
  * `ScopeNamedKids_st kids`: every scope of the tree has a non-empty name (`scopeNamedKidsB_st` is
    its executable form).  The parser never produces an empty name. -/

/-- the chain of the node at the attribute path `p` is `p` reversed, followed by the root's `""` -/
theorem chain_of_path (p : List Str) : chainOf p.reverse = p.reverse.map some ++ [some []] := rfl

/-- the chain of the root is the one the driver's `node_paths` op passes to `nodePaths` -/
theorem chain_of_root : chainOf ([] : List Str).reverse = [some []] := rfl

/-! ### 1. the node paths of an extraction -/

/-- **`node_paths_of_extract` (general form).**  For a scope whose children contain no `.multiple`,
    have pairwise distinct sibling names at every depth (`DKids_xt`) and named scopes: if the
    extraction succeeds with `v`, then the `__phil_path__()` of all `scope_extract` nodes of `v`
    (pre-order, the root first) are exactly the dotted paths of the enabled scopes of the tree.
    The root's own meta data play no role; `fuel'` is any fuel beyond the depth. -/
theorem node_paths_of_extract_root (e : Envs) (fuel fuel' : Nat) (root : Meta) (kids : List Obj) (v : PVal)
    (hk : DKids_xt kids) (hpw : (kids.map Obj.name).Pairwise (· ≠ ·)) (hn : ScopeNamedKids_st kids)
    (hd : depthL kids + 1 < fuel) (hd' : depthL kids < fuel')
    (h : extractObj e fuel (.scope root kids) = .ok v) :
    nodePaths fuel' [some []] v = scopePaths kids [] := by
  rw [extractObj_root_eq_spec_xt e fuel root kids hk hpw hd] at h
  obtain ⟨fs, rfl, hfs⟩ := extractSpec_scope_record_xt e root kids v h
  cases fuel' with
  | zero => omega
  | succ f =>
    have hq : ∀ s ∈ ([] : List Str), s ≠ [] := by intro s hs; cases hs
    have hc : ([some []] : List (Option Str)) = chainOf ([] : List Str).reverse := rfl
    rw [hc, nodePaths_record_st, philPath_node_st _ hq,
      kidsPaths_extractSpec_st e kids fs [] f hn hq hfs (by omega)]
    rfl

/-- **`node_paths_of_extract`**: the same for a tree of class `DObj_xt`. -/
theorem node_paths_of_extract (e : Envs) (fuel fuel' : Nat) (root : Meta) (kids : List Obj) (v : PVal)
    (hx : DObj_xt (.scope root kids)) (hn : ScopeNamedKids_st kids)
    (hd : depthT (.scope root kids) < fuel) (hd' : depthL kids < fuel')
    (h : extractObj e fuel (.scope root kids) = .ok v) :
    nodePaths fuel' [some []] v = scopePaths kids [] := by
  rw [DObj_xt] at hx
  rw [depthT] at hd
  exact node_paths_of_extract_root e fuel fuel' root kids v hx.2.1 hx.2.2 hn hd hd' h

/-- the first path is the root's: the empty string -/
theorem node_paths_root_first (kids : List Obj) : ∃ rest, scopePaths kids [] = [] :: rest :=
  ⟨_, rfl⟩

/-! ### 2. the assignment guard at every node -/

/-- **`declared_names_accepted`.**  Let `v` be the extraction of a tree (no `.multiple`, distinct
    sibling names, named scopes).  For EVERY node of `v` — reached through the attribute names `p`,
    holding `fields` — there is the scope of the tree at the same path, with children `mk`, and
    * the node's field names are exactly the names of the children of that scope that are not
      template placeholders (`liveKids`), in order;
    * `setattr(node, name, x)` is accepted for each of these names (the value replaces the old one);
    * for any other name that is not one of the attributes every `scope_extract` has
      (`builtinAttrs`), it raises AttributeError spelling `p.name` (just `name` at the root);
    * the node reports `dotted p` for itself and `p.name` for any of its parameters. -/
theorem declared_names_accepted (e : Envs) (fuel : Nat) (root : Meta) (kids : List Obj) (v : PVal)
    (hk : DKids_xt kids) (hpw : (kids.map Obj.name).Pairwise (· ≠ ·)) (hn : ScopeNamedKids_st kids)
    (hd : depthL kids + 1 < fuel) (h : extractObj e fuel (.scope root kids) = .ok v)
    (p : List Str) (fields : List (Str × PVal)) (hnode : nodeAt v p = some fields) :
    ∃ mk, scopeAt_st kids p = some mk ∧
      fields.map (fun q => q.1) = (liveKids mk).map Obj.name ∧
      (∀ name x, name ∈ (liveKids mk).map Obj.name →
        setAttr (chainOf p.reverse) fields name x = .ok (fieldSet fields name x)) ∧
      (∀ name x, name ∉ (liveKids mk).map Obj.name → builtinAttrs.contains (String.ofList name) = false →
        setAttr (chainOf p.reverse) fields name x = .attributeError (dotted (p ++ [name]))) ∧
      philPath (chainOf p.reverse) none = dotted p ∧
      (∀ name, philPath (chainOf p.reverse) (some name) = dotted (p ++ [name])) := by
  rw [extractObj_root_eq_spec_xt e fuel root kids hk hpw hd] at h
  obtain ⟨fs, rfl, hfs⟩ := extractSpec_scope_record_xt e root kids v h
  obtain ⟨mk, h1, h2⟩ := nodeAt_extractSpec_st e p kids fs fields hk hpw hfs hnode
  have hp := scopeAt_names_st p kids mk hn h1
  have hnames := extractSpecKids_names_st e mk fields h2
  refine ⟨mk, h1, hnames, ?_, ?_, philPath_node_st p hp, philPath_param_st p hp⟩
  · intro name x hmem
    exact (setAttr_node_st p hp fields name x).1 (by rw [hnames]; exact hmem)
  · intro name x hmem hb
    exact (setAttr_node_st p hp fields name x).2 (by rw [hnames]; exact hmem) hb

/-- the names of `declared_names_accepted` are those of `Phil.C10.extract_field_names`: each comes
    with the value of its child (`kidValue`: `None` for a disabled child or a template, the child's
    own extraction otherwise) -/
theorem declared_names_values (e : Envs) (fuel : Nat) (root : Meta) (kids : List Obj) (v : PVal)
    (hk : DKids_xt kids) (hpw : (kids.map Obj.name).Pairwise (· ≠ ·))
    (hd : depthL kids + 1 < fuel) (h : extractObj e fuel (.scope root kids) = .ok v)
    (p : List Str) (fields : List (Str × PVal)) (hnode : nodeAt v p = some fields) :
    ∃ mk, scopeAt_st kids p = some mk ∧
      ∀ o ∈ liveKids mk, ∃ x, kidValue e o = .ok x ∧ (o.name, x) ∈ fields := by
  rw [extractObj_root_eq_spec_xt e fuel root kids hk hpw hd] at h
  obtain ⟨fs, rfl, hfs⟩ := extractSpec_scope_record_xt e root kids v h
  obtain ⟨mk, h1, h2⟩ := nodeAt_extractSpec_st e p kids fs fields hk hpw hfs hnode
  exact ⟨mk, h1, (Phil.C10.extract_field_names e mk fields h2).2⟩

/-- **conversely, every enabled scope of the tree has its node**: if the names `p` lead to a scope
    (through enabled non-template scopes), the extraction has a `scope_extract` under the attributes
    `p`, with the names of that scope's children. -/
theorem every_scope_has_node (e : Envs) (fuel : Nat) (root : Meta) (kids : List Obj) (v : PVal)
    (hk : DKids_xt kids) (hpw : (kids.map Obj.name).Pairwise (· ≠ ·))
    (hd : depthL kids + 1 < fuel) (h : extractObj e fuel (.scope root kids) = .ok v)
    (p : List Str) (mk : List Obj) (hs : scopeAt_st kids p = some mk) :
    ∃ fields, nodeAt v p = some fields ∧ fields.map (fun q => q.1) = (liveKids mk).map Obj.name := by
  rw [extractObj_root_eq_spec_xt e fuel root kids hk hpw hd] at h
  obtain ⟨fs, rfl, hfs⟩ := extractSpec_scope_record_xt e root kids v h
  obtain ⟨fields, h1, h2⟩ := scopeAt_has_node_st e p kids mk fs hk hpw hfs hs
  exact ⟨fields, h1, extractSpecKids_names_st e mk fields h2⟩

/-! ### 3. inject-once at every node -/

/-- **`inject_once_tree`.**  At every node of the extraction (attribute path `p`, fields `fields`):
    `__inject__(name, x)` of a name that is neither a field nor a builtin attribute succeeds and
    appends the field; a second `__inject__` of the same name — and likewise an `__inject__` of any
    declared name — is refused with AttributeError spelling the full dotted path `p.name`. -/
theorem inject_once_tree (e : Envs) (fuel : Nat) (root : Meta) (kids : List Obj) (v : PVal)
    (hk : DKids_xt kids) (hpw : (kids.map Obj.name).Pairwise (· ≠ ·)) (hn : ScopeNamedKids_st kids)
    (hd : depthL kids + 1 < fuel) (h : extractObj e fuel (.scope root kids) = .ok v)
    (p : List Str) (fields : List (Str × PVal)) (hnode : nodeAt v p = some fields) :
    (∀ name x x', name ∉ fields.map (fun q => q.1) → builtinAttrs.contains (String.ofList name) = false →
      ∃ fields', inject (chainOf p.reverse) fields name x = .ok fields' ∧
        fields' = fields ++ [(name, x)] ∧
        inject (chainOf p.reverse) fields' name x' = .attributeError (dotted (p ++ [name]))) ∧
    (∀ name x, name ∈ fields.map (fun q => q.1) →
      inject (chainOf p.reverse) fields name x = .attributeError (dotted (p ++ [name]))) := by
  rw [extractObj_root_eq_spec_xt e fuel root kids hk hpw hd] at h
  obtain ⟨fs, rfl, hfs⟩ := extractSpec_scope_record_xt e root kids v h
  obtain ⟨mk, h1, h2⟩ := nodeAt_extractSpec_st e p kids fs fields hk hpw hfs hnode
  have hp := scopeAt_names_st p kids mk hn h1
  constructor
  · intro name x x' hmem hb
    exact inject_node_st p hp fields name x x' hmem hb
  · intro name x hmem
    have hany := (any_fst_iff_st fields name).2 hmem
    simp only [inject, hasAttr, hany, Bool.true_or, if_true]
    rw [errPath_node_st p hp]

/-! ### 4. multiple scopes: every element of a `scope_extract_list` reports the same path

  Extracted values are records whose fields hold leaves, records (`scope_extract`) or `.multi` lists
  (`scope_extract_list`) of records.  `fieldsPaths_st fs p` lists the paths below a node `p`:
  ```
  fieldsPaths_st [] p                = []
  fieldsPaths_st ((n, x) :: rest) p  = (match x with
      | .record fs => dotted (p ++ [n]) :: fieldsPaths_st fs (p ++ [n])
      | .multi _ l => elemsPaths_st l (p ++ [n])
      | _          => []) ++ fieldsPaths_st rest p
  elemsPaths_st [] q                 = []
  elemsPaths_st (x :: xs) q          = (match x with
      | .record fs => dotted q :: fieldsPaths_st fs q      -- the SAME q for every element
      | _          => []) ++ elemsPaths_st xs q
  ```
  `NamedFields_st`: all attribute names non-empty; `fieldsDepth_st`: nesting depth of records. -/

/-- **`node_paths_value`**: the `__phil_path__()` of all nodes of any extracted value — records and
    `.multi` lists of records nested to any depth — below (and including) the node with path `q`. -/
theorem node_paths_value (fs : List (Str × PVal)) (q : List Str) (fuel : Nat)
    (hn : NamedFields_st fs) (hq : ∀ s ∈ q, s ≠ []) (hd : fieldsDepth_st fs < fuel) :
    nodePaths fuel (chainOf q.reverse) (.record fs) = dotted q :: fieldsPaths_st fs q := by
  cases fuel with
  | zero => omega
  | succ f =>
    rw [nodePaths_record_st, philPath_node_st _ hq, fieldsPaths_nodePaths_st fs q f hn hq (by omega)]

/-- **`node_paths_multi`.**  A node with path `p` whose attribute `n` holds a `scope_extract_list` of
    ANY length: the paths reported below `n` are those of the elements one after the other, each
    computed with the same path `p.n` (`n` at the root, `p = []`); in particular every element that
    is a `scope_extract` reports `p.n` for itself and `p.n.name` for its parameter `name`. -/
theorem node_paths_multi (p : List Str) (hp : ∀ s ∈ p, s ≠ []) (n : Str) (hn : n ≠ []) (opt : AttrVal)
    (l : List PVal) (hl : NamedElems_st l) (fuel : Nat) (hd : elemsDepth_st l + 1 < fuel) :
    nodePaths fuel (chainOf p.reverse) (.record [(n, .multi opt l)])
        = dotted p :: l.flatMap (fun x => valPaths_st x (p ++ [n])) ∧
    (∀ x ∈ l, ∀ xs, x = .record xs → ∃ rest, valPaths_st x (p ++ [n]) = dotted (p ++ [n]) :: rest) ∧
    philPath (some n :: chainOf p.reverse) none = dotted (p ++ [n]) ∧
    (∀ name, philPath (some n :: chainOf p.reverse) (some name) = dotted (p ++ [n] ++ [name])) := by
  have hq := snoc_named_st p n hp hn
  refine ⟨?_, ?_, ?_, ?_⟩
  · have hnf : NamedFields_st [(n, PVal.multi opt l)] := by
      rw [NamedFields_st, NamedVal_st, NamedFields_st]; exact ⟨hn, hl, trivial⟩
    have hdf : fieldsDepth_st [(n, PVal.multi opt l)] < fuel := by
      rw [fieldsDepth_st, valDepth_st, fieldsDepth_st]
      have : Nat.max (elemsDepth_st l) 0 = elemsDepth_st l := Nat.max_eq_left (Nat.zero_le _)
      rw [this]; omega
    rw [node_paths_value _ p fuel hnf hp hdf, fieldsPaths_cons_st, fieldsPaths_st,
      List.append_nil]
    show dotted p :: elemsPaths_st l (p ++ [n]) = _
    rw [elemsPaths_eq_flatMap_st]
  · intro x _ xs hx
    subst hx
    exact ⟨_, rfl⟩
  · rw [chainOf_snoc_st]; exact philPath_node_st _ hq
  · intro name
    rw [chainOf_snoc_st]; exact philPath_param_st _ hq name

/-- … when no element has sub-scopes: the root of the list's owner, then `p.n` once per element -/
theorem node_paths_multi_flat (p : List Str) (hp : ∀ s ∈ p, s ≠ []) (n : Str) (hn : n ≠ []) (opt : AttrVal)
    (l : List PVal) (hl : NamedElems_st l) (hleaf : ∀ x ∈ l, LeafRecord_st x)
    (fuel : Nat) (hd : elemsDepth_st l + 1 < fuel) :
    nodePaths fuel (chainOf p.reverse) (.record [(n, .multi opt l)])
        = dotted p :: List.replicate l.length (dotted (p ++ [n])) := by
  rw [(node_paths_multi p hp n hn opt l hl fuel hd).1, ← elemsPaths_eq_flatMap_st,
    elemsPaths_leaves_st l _ hleaf]

/-! ### 5. fetch, then extract: the paths and the declared names are the master's

  `masterScopePaths_st master []`: the dotted paths of ALL scopes of the master, pre-order, the root
  first (every scope of a `TreeMaster` is enabled; the fetch clears template marks);
  `masterAt_st master p`: the children of the master scope reached through the names `p`. -/

/-- **`fetchRoot_extract_node_paths`.**  For a nested master without `.multiple` (`TreeMaster`, depth
    ≤ 1000) and ARBITRARY sources (`SrcTree`): if `master.fetch(sources)` and the extraction of its
    result succeed, the `__phil_path__()` of the nodes of the extracted object are the dotted paths
    of the master's scopes — the sources do not occur on the right-hand side. -/
theorem fetchRoot_extract_node_paths (e : Envs) (master : List Obj) (ss : List (List Obj))
    (hf : TreeMaster master) (hd : depthL master ≤ 1000) (hsrc : SrcTree ss.flatten)
    (xfuel fuel' : Nat) (hx : depthL master + 1 < xfuel) (hd' : depthL master < fuel')
    (ro : Obj) (used : List Nat) (v : PVal)
    (h : fetchRoot e false master ss = .ok (ro, used)) (hv : extractObj e xfuel ro = .ok v) :
    nodePaths fuel' [some []] v = masterScopePaths_st master [] := by
  obtain ⟨root, rfl, hdk, hpw, hnm, hdep⟩ := fetchRoot_result_st e master ss hf hd hsrc ro used h
  rw [node_paths_of_extract_root e xfuel fuel' _ _ v hdk hpw hnm (by rw [hdep]; exact hx)
    (by rw [hdep]; exact hd') hv]
  unfold scopePaths masterScopePaths_st
  rw [scopePathsKids_treeResult_st master ss.flatten [] hf.kids]

/-- … and when no scope of the master is a template (what the parser delivers) these are its
    `scopePaths` -/
theorem fetchRoot_extract_node_paths' (e : Envs) (master : List Obj) (ss : List (List Obj))
    (hf : TreeMaster master) (hd : depthL master ≤ 1000) (hsrc : SrcTree ss.flatten)
    (hlive : scopesLiveKidsB_st master = true)
    (xfuel fuel' : Nat) (hx : depthL master + 1 < xfuel) (hd' : depthL master < fuel')
    (ro : Obj) (used : List Nat) (v : PVal)
    (h : fetchRoot e false master ss = .ok (ro, used)) (hv : extractObj e xfuel ro = .ok v) :
    nodePaths fuel' [some []] v = scopePaths master [] := by
  rw [fetchRoot_extract_node_paths e master ss hf hd hsrc xfuel fuel' hx hd' ro used v h hv,
    masterScopePaths_live_st master [] hlive]

/-- two parameter files, one master: the same node paths -/
theorem fetchRoot_extract_node_paths_indep (e : Envs) (master : List Obj) (ss ss' : List (List Obj))
    (hf : TreeMaster master) (hd : depthL master ≤ 1000) (hsrc : SrcTree ss.flatten)
    (hsrc' : SrcTree ss'.flatten) (xfuel fuel' : Nat) (hx : depthL master + 1 < xfuel)
    (hd' : depthL master < fuel') (ro ro' : Obj) (used used' : List Nat) (v v' : PVal)
    (h : fetchRoot e false master ss = .ok (ro, used)) (hv : extractObj e xfuel ro = .ok v)
    (h' : fetchRoot e false master ss' = .ok (ro', used')) (hv' : extractObj e xfuel ro' = .ok v') :
    nodePaths fuel' [some []] v = nodePaths fuel' [some []] v' := by
  rw [fetchRoot_extract_node_paths e master ss hf hd hsrc xfuel fuel' hx hd' ro used v h hv,
    fetchRoot_extract_node_paths e master ss' hf hd hsrc' xfuel fuel' hx hd' ro' used' v' h' hv']

/-- **`fetchRoot_extract_guard`.**  Same setting.  For every master scope — reached through the names
    `p`, with children `mk`, none of them a template placeholder — the extracted object has a node
    under the attributes `p` whose field names are exactly the names of `mk`, whatever the sources;
    assignment to each of them is accepted, any other non-builtin name is refused with `p.name`, and
    a fresh name can be injected once. -/
theorem fetchRoot_extract_guard (e : Envs) (master : List Obj) (ss : List (List Obj))
    (hf : TreeMaster master) (hd : depthL master ≤ 1000) (hsrc : SrcTree ss.flatten)
    (xfuel : Nat) (hx : depthL master + 1 < xfuel) (ro : Obj) (used : List Nat) (v : PVal)
    (h : fetchRoot e false master ss = .ok (ro, used)) (hv : extractObj e xfuel ro = .ok v)
    (p : List Str) (mk : List Obj) (hm : masterAt_st master p = some mk)
    (ht : ∀ o ∈ mk, ¬ o.meta.tmpl < 0) :
    ∃ fields, nodeAt v p = some fields ∧ fields.map (fun q => q.1) = mk.map Obj.name ∧
      (∀ name x, name ∈ mk.map Obj.name →
        setAttr (chainOf p.reverse) fields name x = .ok (fieldSet fields name x)) ∧
      (∀ name x, name ∉ mk.map Obj.name → builtinAttrs.contains (String.ofList name) = false →
        setAttr (chainOf p.reverse) fields name x = .attributeError (dotted (p ++ [name]))) ∧
      (∀ name x x', name ∉ mk.map Obj.name → builtinAttrs.contains (String.ofList name) = false →
        ∃ fields', inject (chainOf p.reverse) fields name x = .ok fields' ∧
          inject (chainOf p.reverse) fields' name x' = .attributeError (dotted (p ++ [name]))) := by
  obtain ⟨root, rfl, hdk, hpw, hnm, hdep⟩ := fetchRoot_result_st e master ss hf hd hsrc ro used h
  rw [extractObj_root_eq_spec_xt e xfuel _ _ hdk hpw (by rw [hdep]; exact hx)] at hv
  obtain ⟨fs, rfl, hfs⟩ := extractSpec_scope_record_xt e _ _ v hv
  have hsa : scopeAt_st (treeResult master ss.flatten) p = some (treeResult mk (srcAt ss.flatten p)) := by
    rw [scopeAt_treeResult_st p master ss.flatten hf.kids, hm]; rfl
  obtain ⟨fields, h1, h2⟩ := scopeAt_has_node_st e p _ _ fs hdk hpw hfs hsa
  have hp := scopeAt_names_st p _ _ hnm hsa
  have hnames : fields.map (fun q => q.1) = mk.map Obj.name := by
    rw [extractSpecKids_names_st e _ fields h2, liveKids_treeResult_names_st mk _ ht]
  refine ⟨fields, h1, hnames, ?_, ?_, ?_⟩
  · intro name x hmem
    exact (setAttr_node_st p hp fields name x).1 (by rw [hnames]; exact hmem)
  · intro name x hmem hb
    exact (setAttr_node_st p hp fields name x).2 (by rw [hnames]; exact hmem) hb
  · intro name x x' hmem hb
    obtain ⟨fields', h3, _, h4⟩ := inject_node_st p hp fields name x x' (by rw [hnames]; exact hmem) hb
    exact ⟨fields', h3, h4⟩

/-! ### 6. instances through the parser (each replayed on the Python library)

  `Phil.C10.objsT` parses, `Phil.C10.fetchExtractT m s` is `master.fetch(source).extract()` with
  `eval` restricted to integer literals.  The Python replay walks the `scope_extract` objects in
  `__dict__` order calling `__phil_path__()`, tries `setattr` with declared and undeclared names and
  calls `__inject__` twice (results recorded next to each example). -/

private def S (s : String) : Str := s.toList

/-- a three-level master: `a`; `s.b`, `s.t.ns`, `s.t.u.c`, `s.w.d`; `z.e` -/
def master3_st : String :=
  "a = 1\n.type = int\ns {\n  b = yes\n  .type = bool\n  t {\n    ns = 1 2 3\n    .type = ints\n    u {\n      c = x\n    }\n  }\n  w {\n    d = 2\n  }\n}\nz {\n  e = None\n}\n"

/-- a parameter file touching several leaves, with dotted names, a re-ordered scope and a stray name -/
def source3_st : String := "s.t.u.c = y\nz.e = 5\ns {\n w.d = 7\n b = no\n}\nunknown = 3\n"

/-- a master with a `.multiple` scope holding a sub-scope, and three instances of it -/
def masterM_st : String := "a = 1\ns\n  .multiple = True\n{\n  b = 1\n  t {\n    c = 2\n  }\n}\n"
def sourceM_st : String := "s {\n b = 2\n}\ns {\n b = 3\n t.c = 9\n}\ns {\n b = 4\n}\n"

/-- a tree with disabled scopes (extracted directly: a fetch drops disabled master objects) -/
def masterD_st : String := "a = 1\n!s {\n  b = 1\n}\nt {\n  c = 1\n  !u {\n   d = 1\n  }\n}\n"

section
attribute [local instance] objDecEq

theorem objsT_master3_eq : Phil.C10.objsT master3_st =
    [
      .defn { name := S "a", id := some 1, line := some 1, attrs := [("type", .conv (.int {}))] }
        [{ value := S "1", line := some 1 }],
      .scope { name := S "s", id := some 2, line := some 3 } [
        .defn { name := S "b", id := some 3, line := some 4, attrs := [("type", .conv .bool)] }
          [{ value := S "yes", line := some 4 }],
        .scope { name := S "t", id := some 4, line := some 6 } [
          .defn { name := S "ns", id := some 5, line := some 7, attrs := [("type", .conv (.ints { }))] }
            [{ value := S "1", line := some 7 }, { value := S "2", line := some 7 },
             { value := S "3", line := some 7 }],
          .scope { name := S "u", id := some 6, line := some 9 } [
            .defn { name := S "c", id := some 7, line := some 10 }
              [{ value := S "x", line := some 10 }]]],
        .scope { name := S "w", id := some 8, line := some 13 } [
          .defn { name := S "d", id := some 9, line := some 14 }
            [{ value := S "2", line := some 14 }]]],
      .scope { name := S "z", id := some 10, line := some 17 } [
        .defn { name := S "e", id := some 11, line := some 18 }
          [{ value := S "None", line := some 18 }]]] := by
  unfold master3_st
  rw [C10.objsT_ofList]
  decide +kernel

theorem objsT_source3_eq : Phil.C10.objsT source3_st =
    [
      .scope { name := S "s", id := some 1 } [
        .scope { name := S "t", id := some 1, mergeNames := true } [
          .scope { name := S "u", id := some 1, mergeNames := true } [
            .defn { name := S "c", id := some 1, line := some 1, mergeNames := true }
              [{ value := S "y", line := some 1 }]]]],
      .scope { name := S "z", id := some 2 } [
        .defn { name := S "e", id := some 2, line := some 2, mergeNames := true }
          [{ value := S "5", line := some 2 }]],
      .scope { name := S "s", id := some 3, line := some 3 } [
        .scope { name := S "w", id := some 4 } [
          .defn { name := S "d", id := some 4, line := some 4, mergeNames := true }
            [{ value := S "7", line := some 4 }]],
        .defn { name := S "b", id := some 5, line := some 5 }
          [{ value := S "no", line := some 5 }]],
      .defn { name := S "unknown", id := some 6, line := some 7 }
        [{ value := S "3", line := some 7 }]] := by
  unfold source3_st
  rw [C10.objsT_ofList]
  decide +kernel

end

/-- `master.fetch(source).extract()` of the two -/
theorem fetchExtract3_eq : Phil.C10.fetchExtractT master3_st source3_st = .ok (.record
    [(S "a", .num (.int 1)),
     (S "s", .record
       [(S "b", .bool false),
        (S "t", .record
          [(S "ns", .list [.num (.int 1), .num (.int 2), .num (.int 3)]),
           (S "u", .record [(S "c", .list [.str (S "y")])])]),
        (S "w", .record [(S "d", .list [.str (S "7")])])]),
     (S "z", .record [(S "e", .list [.str (S "5")])])]) :=
  Phil.C10.yields_sound (by
    rw [Phil.C10.fetchExtractT, objsT_master3_eq, objsT_source3_eq]
    decide +kernel)

/-- `master.fetch(source).extract()` of the multiple scope with three instances -/
theorem fetchExtractM_eq : Phil.C10.fetchExtractT masterM_st sourceM_st = .ok (.record
    [(S "a", .list [.str (S "1")]),
     (S "s", .multi .none
       [.record [(S "b", .list [.str (S "2")]), (S "t", .record [(S "c", .list [.str (S "2")])])],
        .record [(S "b", .list [.str (S "3")]), (S "t", .record [(S "c", .list [.str (S "9")])])],
        .record [(S "b", .list [.str (S "4")]), (S "t", .record [(S "c", .list [.str (S "2")])])]])]) :=
  Phil.C10.yields_sound (by
    rw [Phil.C10.fetchExtractT]
    -- the texts are decoded in hypotheses: the check of a rewrite below the `match` evaluates the parse
    generalize hm : Phil.C10.objsT masterM_st = M
    generalize hs : Phil.C10.objsT sourceM_st = S'
    rw [masterM_st, Phil.C10.objsT_ofList] at hm
    rw [sourceM_st, Phil.C10.objsT_ofList] at hs
    subst hm hs
    decide +kernel)

theorem master3_tree : TreeMaster (Phil.C10.objsT master3_st) :=
  treeMasterB_sound _ (by rw [objsT_master3_eq]; decide +kernel)

theorem master3_depth : depthL (Phil.C10.objsT master3_st) = 3 := by
  rw [objsT_master3_eq]
  decide +kernel

theorem source3_tree : SrcTree (Phil.C10.objsT source3_st) :=
  (srcCheck_sound _ (by rw [objsT_source3_eq]; decide +kernel)).tree

/-- the node paths of `master.fetch(source).extract()` are `ps` -/
def nodePathsAre_st (m s : String) (ps : List String) : Bool :=
  match Phil.C10.fetchExtractT m s with
  | .ok v => nodePaths 50 [some []] v == ps.map String.toList
  | .error _ => false

/-- The unfolding, for rewriting: the kernel compares `nodePathsAre_st m s ps` with its unfolded form by
    evaluating the `match`, text and all, so the examples never leave that comparison to it. -/
theorem nodePathsAre_st_eq (m s : String) (ps : List String) : nodePathsAre_st m s ps =
    match Phil.C10.fetchExtractT m s with
    | .ok v => nodePaths 50 [some []] v == ps.map String.toList
    | .error _ => false := by
  delta nodePathsAre_st
  rfl

/-- outcome of `setattr(node_at_p, name, None)`: `none` = no such node, `some none` = accepted,
    `some (some q)` = AttributeError spelling `q` -/
def setAttrAt_st (r : R PVal) (p : List String) (name : String) : Option (Option Str) :=
  match r with
  | .error _ => none
  | .ok v =>
    match nodeAt v (p.map String.toList) with
    | none => none
    | some fields =>
      match setAttr (chainOf (p.map String.toList).reverse) fields name.toList .none with
      | .ok _ => some none
      | .attributeError q => some (some q)

/-- outcome of `__inject__(name, None)` twice at the node at `p`: whether the first was accepted and
    the path spelled by the second's AttributeError -/
def injectTwiceAt_st (r : R PVal) (p : List String) (name : String) : Option (Bool × Option Str) :=
  match r with
  | .error _ => none
  | .ok v =>
    match nodeAt v (p.map String.toList) with
    | none => none
    | some fields =>
      match inject (chainOf (p.map String.toList).reverse) fields name.toList .none with
      | .attributeError q => some (false, some q)
      | .ok fields' =>
        match inject (chainOf (p.map String.toList).reverse) fields' name.toList .none with
        | .ok _ => some (true, none)
        | .attributeError q => some (true, some q)

/-- the field names of the node at `p` -/
def fieldNamesAt_st (r : R PVal) (p : List String) : Option (List Str) :=
  match r with
  | .error _ => none
  | .ok v => (nodeAt v (p.map String.toList)).map (fun fields => fields.map (fun q => q.1))

/-- no source — Python: `['', 's', 's.t', 's.t.u', 's.w', 'z']` -/
example : nodePathsAre_st master3_st "" ["", "s", "s.t", "s.t.u", "s.w", "z"] = true := by
  rw [nodePathsAre_st_eq, Phil.C10.fetchExtractT, objsT_master3_eq]
  decide +kernel

/-- with the parameter file: the same paths -/
example : nodePathsAre_st master3_st source3_st ["", "s", "s.t", "s.t.u", "s.w", "z"] = true := by
  rw [nodePathsAre_st_eq, fetchExtract3_eq]
  decide +kernel

/-- they are the `scopePaths` of the parsed master, which satisfies the hypotheses of
    `fetchRoot_extract_node_paths'` -/
example : (scopePaths (Phil.C10.objsT master3_st) [] == ["", "s", "s.t", "s.t.u", "s.w", "z"].map String.toList
    && treeMasterB (Phil.C10.objsT master3_st) && depthL (Phil.C10.objsT master3_st) == 3
    && scopesLiveKidsB_st (Phil.C10.objsT master3_st) && scopeNamedKidsB_st (Phil.C10.objsT master3_st)
    && srcCheck (Phil.C10.objsT source3_st)) = true := by
  rw [objsT_master3_eq, objsT_source3_eq]
  decide +kernel

/-- **the theorem applied to the parsed master and parameter file**: whatever `fetchRoot` and
    `extractObj` return, if both succeed the node paths are the six above -/
example (ro : Obj) (used : List Nat) (v : PVal)
    (h : fetchRoot Phil.C10.envT false (Phil.C10.objsT master3_st) [Phil.C10.objsT source3_st] = .ok (ro, used))
    (hv : extractObj Phil.C10.envT 50 ro = .ok v) :
    nodePaths 50 [some []] v = ["", "s", "s.t", "s.t.u", "s.w", "z"].map String.toList := by
  have hfl : ([Phil.C10.objsT source3_st] : List (List Obj)).flatten = Phil.C10.objsT source3_st := by simp
  rw [fetchRoot_extract_node_paths' Phil.C10.envT (Phil.C10.objsT master3_st) [Phil.C10.objsT source3_st]
    master3_tree (by rw [master3_depth]; decide) (by rw [hfl]; exact source3_tree)
    (by rw [objsT_master3_eq]; decide +kernel)
    50 50 (by rw [master3_depth]; decide) (by rw [master3_depth]; decide) ro used v h hv,
    objsT_master3_eq]
  decide +kernel

/-- the field names of the nodes — Python `__dict__` keys: `['a','s','z']`, `['b','t','w']`,
    `['ns','u']`, `['c']` -/
example : fieldNamesAt_st (Phil.C10.fetchExtractT master3_st source3_st) [] = some [S "a", S "s", S "z"] ∧
    fieldNamesAt_st (Phil.C10.fetchExtractT master3_st source3_st) ["s"] = some [S "b", S "t", S "w"] ∧
    fieldNamesAt_st (Phil.C10.fetchExtractT master3_st source3_st) ["s", "t"] = some [S "ns", S "u"] ∧
    fieldNamesAt_st (Phil.C10.fetchExtractT master3_st source3_st) ["s", "t", "u"] = some [S "c"] := by
  rw [fetchExtract3_eq]
  decide +kernel

/-- declared names are accepted at every depth (Python: `setattr` returns) -/
example : setAttrAt_st (Phil.C10.fetchExtractT master3_st source3_st) [] "a" = some none ∧
    setAttrAt_st (Phil.C10.fetchExtractT master3_st source3_st) [] "s" = some none ∧
    setAttrAt_st (Phil.C10.fetchExtractT master3_st source3_st) ["s"] "b" = some none ∧
    setAttrAt_st (Phil.C10.fetchExtractT master3_st source3_st) ["s", "t"] "ns" = some none ∧
    setAttrAt_st (Phil.C10.fetchExtractT master3_st source3_st) ["s", "t", "u"] "c" = some none ∧
    setAttrAt_st (Phil.C10.fetchExtractT master3_st source3_st) ["s", "w"] "d" = some none := by
  rw [fetchExtract3_eq]
  decide +kernel

/-- undeclared names are refused with the full dotted path — Python: `Assignment to non-existing
    attribute "qq"`, `"s.qq"`, `"s.t.qq"`, `"s.t.u.zz_top"`, `"z.qq"`; the stray `unknown` of the
    parameter file is not a parameter either -/
example : setAttrAt_st (Phil.C10.fetchExtractT master3_st source3_st) [] "qq" = some (some (S "qq")) ∧
    setAttrAt_st (Phil.C10.fetchExtractT master3_st source3_st) [] "unknown" = some (some (S "unknown")) ∧
    setAttrAt_st (Phil.C10.fetchExtractT master3_st source3_st) ["s"] "qq" = some (some (S "s.qq")) ∧
    setAttrAt_st (Phil.C10.fetchExtractT master3_st source3_st) ["s", "t"] "qq" = some (some (S "s.t.qq")) ∧
    setAttrAt_st (Phil.C10.fetchExtractT master3_st source3_st) ["s", "t", "u"] "zz_top"
      = some (some (S "s.t.u.zz_top")) ∧
    setAttrAt_st (Phil.C10.fetchExtractT master3_st source3_st) ["z"] "qq" = some (some (S "z.qq")) := by
  rw [fetchExtract3_eq]
  decide +kernel

/-- a name declared one level up is not declared here: `s.a` -/
example : setAttrAt_st (Phil.C10.fetchExtractT master3_st "") ["s"] "a" = some (some (S "s.a")) := by
  rw [Phil.C10.fetchExtractT, objsT_master3_eq]
  decide +kernel

/-- inject twice — Python: first accepted, second `Attribute "fresh" exists already.`,
    `"s.fresh"`, `"s.t.u.fresh"`; a declared name is refused at once: `"s.t.ns"` -/
example : injectTwiceAt_st (Phil.C10.fetchExtractT master3_st source3_st) [] "fresh" = some (true, some (S "fresh")) ∧
    injectTwiceAt_st (Phil.C10.fetchExtractT master3_st source3_st) ["s"] "fresh" = some (true, some (S "s.fresh")) ∧
    injectTwiceAt_st (Phil.C10.fetchExtractT master3_st source3_st) ["s", "t", "u"] "fresh"
      = some (true, some (S "s.t.u.fresh")) ∧
    injectTwiceAt_st (Phil.C10.fetchExtractT master3_st source3_st) ["s", "t"] "ns"
      = some (false, some (S "s.t.ns")) := by
  rw [fetchExtract3_eq]
  decide +kernel

/-- **a multiple scope with three instances**, each holding a sub-scope — Python:
    `['', 's', 's.t', 's', 's.t', 's', 's.t']`: every element reports `s`, every sub-scope `s.t` -/
example : nodePathsAre_st masterM_st sourceM_st ["", "s", "s.t", "s", "s.t", "s", "s.t"] = true := by
  rw [nodePathsAre_st_eq, fetchExtractM_eq]
  decide +kernel

/-- one instance; no instance in the file: the list is empty and only the root reports
    (Python: `['', 's', 's.t']` and `['']`, `len(ex.s) == 0`) -/
example : nodePathsAre_st masterM_st "s {\n b = 2\n}\n" ["", "s", "s.t"] = true ∧
    nodePathsAre_st masterM_st "" [""] = true := by
  rw [nodePathsAre_st_eq, nodePathsAre_st_eq, Phil.C10.fetchExtractT, Phil.C10.fetchExtractT]
  -- the texts are decoded in hypotheses: the check of a rewrite below the `match` evaluates the parse
  generalize hm : Phil.C10.objsT masterM_st = M
  generalize hs : Phil.C10.objsT "s {\n b = 2\n}\n" = S'
  rw [masterM_st, Phil.C10.objsT_ofList] at hm
  rw [Phil.C10.objsT_ofList] at hs
  subst hm hs
  decide +kernel

/-- the extracted value of the three-instance example lies in the class of `node_paths_value`, which
    computes the same list -/
example : (match Phil.C10.fetchExtractT masterM_st sourceM_st with
    | .ok (.record fs) => namedFieldsB_st fs && decide (fieldsDepth_st fs < 50) &&
        ([] :: fieldsPaths_st fs []) == ["", "s", "s.t", "s", "s.t", "s", "s.t"].map String.toList
    | _ => false) = true := by
  rw [fetchExtractM_eq]
  decide +kernel

/-- **disabled scopes** (`master.extract()` directly): `!s { … }` and `t.!u { … }` extract as `None`,
    so the nodes are `''` and `t` — Python: `['', 't']`; `s` and `u` remain declared names
    (Python: fields `['a','s','t']` and `['c','u']`; `setattr(root, 's', 5)` accepted) -/
example : (match extractObj Phil.C10.envT 50 (.scope { name := [] } (Phil.C10.objsT masterD_st)) with
    | .ok v => nodePaths 50 [some []] v == ["", "t"].map String.toList &&
        scopePaths (Phil.C10.objsT masterD_st) [] == ["", "t"].map String.toList &&
        fieldNamesAt_st (.ok v) [] == some [S "a", S "s", S "t"] &&
        fieldNamesAt_st (.ok v) ["t"] == some [S "c", S "u"] &&
        setAttrAt_st (.ok v) [] "s" == some none &&
        setAttrAt_st (.ok v) ["t"] "qq" == some (some (S "t.qq")) &&
        (nodeAt v [S "s"]).isNone
    | .error _ => false) = true := by
  generalize hm : Phil.C10.objsT masterD_st = M
  rw [masterD_st, Phil.C10.objsT_ofList] at hm
  subst hm
  decide +kernel

/-- … and this tree satisfies the hypotheses of `node_paths_of_extract_root` -/
example : (dkidsB_xt (Phil.C10.objsT masterD_st) && scopeNamedKidsB_st (Phil.C10.objsT masterD_st) &&
    decide (((Phil.C10.objsT masterD_st).map Obj.name).Pairwise (· ≠ ·)) &&
    depthL (Phil.C10.objsT masterD_st) == 2) = true := by
  rw [masterD_st, Phil.C10.objsT_ofList]
  decide +kernel

/-- non-vacuity of `node_paths_multi_flat`: a list of two elements under the node `p` -/
example : nodePaths 5 (chainOf [S "p"]) (.record [(S "n", .multi .none [.record [(S "x", .none)], .record []])])
    = [S "p", S "p.n", S "p.n"] := by
  decide +kernel

/-- **whatever their number**: `k` elements under the attribute `n` of the node `p` — `k` times `p.n` -/
example (k : Nat) :
    nodePaths (k + 3) (chainOf [S "p"]) (.record [(S "n", .multi .none (List.replicate k (.record [(S "x", .none)])))])
      = S "p" :: List.replicate k (S "p.n") := by
  have hdepth : ∀ k, elemsDepth_st (List.replicate k (.record [(S "x", .none)])) ≤ 1 := by
    intro k
    induction k with
    | zero => rw [List.replicate_zero, elemsDepth_st]; omega
    | succ k ih =>
      rw [List.replicate_succ, elemsDepth_st]
      exact Nat.max_le.mpr ⟨by decide, ih⟩
  have hnamed : ∀ k, NamedElems_st (List.replicate k (.record [(S "x", .none)])) := by
    intro k
    induction k with
    | zero => rw [List.replicate_zero, NamedElems_st]; trivial
    | succ k ih =>
      rw [List.replicate_succ, NamedElems_st]
      exact ⟨namedValB_sound_st _ (by decide +kernel), ih⟩
  have hleaf : ∀ x ∈ List.replicate k (PVal.record [(S "x", .none)]), LeafRecord_st x := by
    intro x hx
    rw [List.eq_of_mem_replicate hx]
    exact ⟨_, rfl, by funext q; simp [fieldsPaths_st]⟩
  have h := node_paths_multi_flat [S "p"] (by decide +kernel) (S "n") (by decide +kernel) .none _ (hnamed k) hleaf (k + 3)
    (by have := hdepth k; omega)
  rw [List.length_replicate] at h
  exact h

/-- **`fetchRoot_extract_guard` applied to the parsed master and parameter file**, at the master scope
    `s.t` (children `ns`, `u`): whatever `fetchRoot` and `extractObj` return, if both succeed the
    object has a node `s.t` with exactly these two names, `s.t.ns = …` is accepted and `s.t.qq = …`
    raises AttributeError `s.t.qq` -/
example (ro : Obj) (used : List Nat) (v : PVal)
    (h : fetchRoot Phil.C10.envT false (Phil.C10.objsT master3_st) [Phil.C10.objsT source3_st] = .ok (ro, used))
    (hv : extractObj Phil.C10.envT 50 ro = .ok v) :
    ∃ fields, nodeAt v [S "s", S "t"] = some fields ∧ fields.map (fun q => q.1) = [S "ns", S "u"] ∧
      setAttr (chainOf [S "t", S "s"]) fields (S "ns") .none = .ok (fieldSet fields (S "ns") .none) ∧
      setAttr (chainOf [S "t", S "s"]) fields (S "qq") .none = .attributeError (S "s.t.qq") := by
  have hfl : ([Phil.C10.objsT source3_st] : List (List Obj)).flatten = Phil.C10.objsT source3_st := by simp
  have hmk : (match masterAt_st (Phil.C10.objsT master3_st) [S "s", S "t"] with
      | some mk => mk.map Obj.name == [S "ns", S "u"] && mk.all (fun o => decide (¬ o.meta.tmpl < 0))
      | none => false) = true := by
    rw [objsT_master3_eq]
    decide +kernel
  cases hm : masterAt_st (Phil.C10.objsT master3_st) [S "s", S "t"] with
  | none => rw [hm] at hmk; cases hmk
  | some mk =>
    rw [hm] at hmk
    simp only [Bool.and_eq_true, beq_iff_eq, List.all_eq_true, decide_eq_true_eq] at hmk
    obtain ⟨fields, h1, h2, h3, h4, _⟩ := fetchRoot_extract_guard Phil.C10.envT (Phil.C10.objsT master3_st)
      [Phil.C10.objsT source3_st] master3_tree (by rw [master3_depth]; decide)
      (by rw [hfl]; exact source3_tree) 50 (by rw [master3_depth]; decide) ro used v h hv
      [S "s", S "t"] mk hm hmk.2
    rw [hmk.1] at h2 h3 h4
    refine ⟨fields, h1, h2, h3 (S "ns") .none (by decide +kernel), ?_⟩
    have := h4 (S "qq") .none (by decide +kernel) (by decide +kernel)
    exact this

end Phil.C18
