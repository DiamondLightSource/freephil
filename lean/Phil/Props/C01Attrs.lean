/-
  C01 (part) — printing a PHIL tree WITH ATTRIBUTES at attributes level 1, 2 or 3 and re-parsing the
  text reproduces the tree: names, nesting, order, words, quote styles AND the value of every printed
  attribute; the second print is byte-identical.  Property theorems only; the lemmas are in
  Phil/Proofs/AttrTrees.lean and AttrRoundTrip.lean.  The attribute-free case (level 0) is Phil/Props/C01Nested.lean.

  What is covered: trees of the nested round-trip class (`RTNode` of the tree without its attributes:
  enabled definitions and scopes to any depth, empty scopes, dotted chains) whose definitions and
  proper scopes carry attributes — bool / int / None / Auto values, `.type` expressions, string
  values (see `attrOK` / `strOK` for the condition on strings) — at every attributes level and every
  print width, under the expert setting "show everything".
  What is not covered here: disabled objects (Phil/Props/C01Attrs3Dis.lean, C01Attrs4.lean), templates
  (C01Attrs2.lean), a deprecated definition that directly FOLLOWS a definition in the parse theorems
  (`depPlacedList`; the printer theorem covers every placement; C01Attrs3.lean has the parse theorems without
  the hypothesis), `.call` / `.sequential_format` other than None (outside the model).
-/
import Phil.Proofs.AttrRoundTrip
import Phil.Props.C01Nested
set_option linter.unusedVariables false
namespace Phil.C01
open Phil

attribute [local instance] objDecEqInst exceptDecEqRT

/-! ### the class

  `RTTreeAttr L w x`: the tree `x` without its attributes is an `RTTree` (Phil/Props/C01Nested.lean),
  and `x.attrsOKAt L w []` (by recursion on the tree, the indentation growing by two blanks per
  proper scope): every attribute that is PRINTED at level `L` (`attrShown`) satisfies `attrOK`:
    * its value is of the kind `assign_attribute` produces for the name — bool names: None / Auto /
      True / False; `input_size`, `expert_level`: None / Auto / an int; `type`: None / Auto / a
      converter that is `Printable` with a `safeText` rendering (`typeTextOK`); `call`: None / Auto;
      `sequential_format`: None; all others (help, caption, short_caption, style, alias): None / Auto /
      a string satisfying `strOK` at this indentation and width;
    * a definition with a truthy `deprecated` is allowed at level ≥ 3 only (below, it is not printed).
  Attributes that are not printed at level `L` are unrestricted. -/

/-- the class of trees with attributes the round trip at level `L`, width `w` is proved for -/
def RTTreeAttr (L w : Int) (x : Obj) : Prop := RTNode [] x.stripAttrs ∧ x.attrsOKAt L w [] = true

instance (L w : Int) (x : Obj) : Decidable (RTTreeAttr L w x) := by unfold RTTreeAttr; exact inferInstance

theorem rtAllAttr_of_forall {L w : Int} {objs : List Obj} (h : ∀ x ∈ objs, RTTreeAttr L w x) :
    RTAll (stripAttrsList objs) ∧ attrsOKsAt L w objs [] = true := by
  constructor
  · rw [RTAll_iff, stripAttrsList_eq_map]
    intro y hy
    obtain ⟨x, hx, rfl⟩ := List.mem_map.mp hy
    exact (h x hx).1
  · exact (attrsOKsAt_iff_art L w objs []).mpr (fun x hx => (h x hx).2)

/-- an attribute-free tree of the nested class is in the class at every level and width -/
theorem RTTree.toAttr {x : Obj} (h : RTTree x) (hx : x.stripAttrs = x) (L w : Int)
    (hok : x.attrsOKAt L w [] = true) : RTTreeAttr L w x := ⟨by rw [hx]; exact h, hok⟩

/-! ### what is printed

  `treeTextA L w x ms ind` = `treeText` plus the attribute lines: after the value lines of a definition
  the lines `ind ++ "  .name = value"` of every attribute shown at level `L` (`attrBlock`), in the
  order of `definition.attribute_names`; a scope prints `name {` when no attribute is shown and
  otherwise `name`, its attribute lines, and `{` on a line of its own; a deprecated definition is
  preceded by `# WARNING: deprecated parameter`. -/

/-- **The printer on the class**, every attributes level (0 … 3 and beyond), every width, deprecated
    definitions at level ≥ 3 included. -/
theorem print_tree_attrs (o : ShowOpts) (he : o.expert = none) (objs : List Obj)
    (h : ∀ x ∈ objs, RTTreeAttr o.level o.width x) :
    asStr o (rootOf objs) = .ok (kidsTextA o.level o.width objs [] []) := by
  obtain ⟨h1, h2⟩ := rtAllAttr_of_forall h
  exact asStr_treesA_art o he objs [] (by intro d hd; cases hd) h1 h2

/-! ### the round trip -/

/-- **C01 with attributes.**  (`depPlacedList`: no deprecated definition directly follows a definition
    — true of every document without deprecated definitions, `placed_of_noDeprecated`; at level 3 a
    deprecated definition may stand first in the document or in a scope, or after a scope.)
    For every attributes level `L = o.level` and every print width: the
    printed text parses, and the parser returns the same trees up to ids and source positions
    (`eraseList`: nesting, names, `merge_names`, words with values and quote styles, AND attributes)
    in which every object carries exactly the attributes shown at level `L`, each with its value
    (`normAList`: attribute list `shownAttrs`, in printing order; a scope that is only a dotted prefix
    carries none).  Ids as in `print_parse_tree_exact`. -/
theorem print_parse_tree_attrs (o : ShowOpts) (he : o.expert = none) (objs : List Obj)
    (h : ∀ x ∈ objs, RTTreeAttr o.level o.width x) (hnl : ∀ x ∈ objs, x.allDefns NlOnlyLast)
    (hnd : depPlacedList objs = true) :
    ∃ text objs', asStr o (rootOf objs) = .ok text ∧ text = kidsTextA o.level o.width objs [] [] ∧
      parseObjs text = .ok objs' ∧ eraseList objs' = eraseList (normAList o.level objs) ∧
      idsList objs' = (expIdsSeq 1 objs).map some := by
  obtain ⟨h1, h2⟩ := rtAllAttr_of_forall h
  obtain ⟨objs', e1, e2, e3⟩ := parseObjs_treesW_ar3 o.level o.width objs [] (by intro d hd; simp at hd)
    h1 ((allDefnsList_iff NlOnlyLast objs).mpr hnl) h2
  exact ⟨_, objs', print_tree_attrs o he objs h, rfl, e1, e2, e3⟩

/-- documents without deprecated definitions satisfy the placement condition -/
theorem placed_of_noDeprecated (objs : List Obj) (hnd : ∀ x ∈ objs, x.noDeprecated = true) :
    depPlacedList objs = true :=
  depPlacedList_of_noDeprecated_art objs ((noDeprecatedList_iff_ert objs).mpr hnd)

/-- **Every attribute comes back with its value** (looked up by name on a re-parsed object): at
    level ≥ 2 the value of every attribute of the object's attribute list equals the original value —
    the one exception being a `deprecated` that is set but not truthy (`False`), which is never
    printed (see `deprecated_false_is_lost`). -/
theorem attribute_value_kept (isDef : Bool) (L : Int) (hL : 2 ≤ L) (attrs : Attrs) (n : String)
    (hn : n ∈ attrNamesOf isDef)
    (hdep : n = "deprecated" → (attrs.get n).truthy = true ∨ attrs.get n = .none) :
    (shownAttrs isDef L attrs).get n = attrs.get n := by
  rw [get_shownAttrs_art isDef L attrs n hn]
  by_cases hs : attrShown L n (attrs.get n) = true
  · have : 0 < L := by omega
    simp [hs, this]
  · have hs' : attrShown L n (attrs.get n) = false := by simpa using hs
    -- hidden at level ≥ 2: the value is unset, or it is a `deprecated` that is not truthy
    have hnone : attrs.get n = .none := by
      have h1 : decide (L > 1) = true := by simp; omega
      rw [attrShown_eq_B_art, h1] at hs'
      have key : ∀ d h a t i l2 : Bool, attrShownB d h a t i true l2 = false →
          i = true ∨ (d = true ∧ t = false) := by decide
      rcases key _ _ _ _ _ _ hs' with hi | ⟨hd, ht⟩
      · cases hv : attrs.get n <;> first | rfl | (rw [hv] at hi; cases hi)
      · rcases hdep (by simpa using hd) with h | h
        · rw [h] at ht; cases ht
        · exact h
    simp [hnone]

/-- the general form: an attribute of a re-parsed object is the original value if it was printed at
    the level, unset otherwise (level 1: help and alias only) -/
theorem attribute_value_read_back (isDef : Bool) (L : Int) (attrs : Attrs) (n : String)
    (hn : n ∈ attrNamesOf isDef) :
    (shownAttrs isDef L attrs).get n
      = if 0 < L ∧ attrShown L n (attrs.get n) = true then attrs.get n else .none :=
  get_shownAttrs_art isDef L attrs n hn

/-- **Print, parse, print again.**  The re-parsed root prints byte-identically at the same level and
    width. -/
theorem second_print_identical_attrs (o : ShowOpts) (he : o.expert = none) (objs : List Obj)
    (h : ∀ x ∈ objs, RTTreeAttr o.level o.width x) (hnl : ∀ x ∈ objs, x.allDefns NlOnlyLast)
    (hnd : depPlacedList objs = true) :
    ∃ text root', asStr o (rootOf objs) = .ok text ∧ parse text = .ok root' ∧
      asStr o root' = .ok text := by
  obtain ⟨text, objs', h1, ht, h2, h3, _⟩ := print_parse_tree_attrs o he objs h hnl hnd
  obtain ⟨r1, r2⟩ := rtAllAttr_of_forall h
  obtain ⟨g1, g2⟩ := reparsed_root h2 h3
  exact ⟨text, _, h1, g1, by rw [g2 o [], asStr_normA_treesA_art o he objs [] (by intro d hd; cases hd) r1 r2, ht]⟩

/-! ### non-vacuity: a concrete document through the theorems

  ```
  a = 1
    .help = "some help"
    .optional = True
    .type = int(value_min=0, value_max=5, allow_none=False)
  s
    .style = box
    .expert_level = 2
  {
    x.y = "p q" r
      .caption = cap
    e {
    }
  }
  ```
  Replayed on the Python library at levels 1, 2, 3 (widths 79 and 40): same texts, same re-parsed
  attribute values. -/

def exAttrSrc : Str :=
  ("a = 1\n  .help = \"some help\"\n  .optional = True\n" ++
   "  .type = int(value_min=0, value_max=5, allow_none=False)\ns\n  .style = box\n  .expert_level = 2\n{\n  x.y = \"p q\" r\n" ++
   "    .caption = cap\n  e {\n  }\n}\n").toList

/-- the forest the parser builds from `exAttrSrc` (ids and positions erased) -/
def exAttrForest : List Obj :=
  [ .defn { name := ['a'], attrs := [("help", .str "some help".toList), ("optional", .bool true),
        ("type", .conv (.int { valueMin := some (.int 0), valueMax := some (.int 5), allowNone := false }))] }
      [{ value := ['1'] }],
    .scope { name := ['s'], attrs := [("style", .str "box".toList), ("expert_level", .int 2)] }
      [ .scope { name := ['x'] }
          [.defn { name := ['y'], mergeNames := true, attrs := [("caption", .str "cap".toList)] }
            [{ value := "p q".toList, quote := some .d1 }, { value := ['r'] }]],
        .scope { name := ['e'] } [] ] ]

example : (parseObjs exAttrSrc).map eraseList = .ok exAttrForest := by
  unfold exAttrSrc
  simp only [String.toList_append]
  -- a literal is `String.ofList […]` for `rw` and the kernel: no UTF-8 decoding
  repeat rw [String.toList_ofList]
  decide +kernel

theorem exAttr_ok2 : ∀ x ∈ exAttrForest, RTTreeAttr 2 79 x := by decide +kernel
theorem exAttr_ok3 : ∀ x ∈ exAttrForest, RTTreeAttr 3 40 x := by decide +kernel
theorem exAttr_ok1 : ∀ x ∈ exAttrForest, RTTreeAttr 1 79 x := by decide +kernel
theorem exAttr_nl : ∀ x ∈ exAttrForest, x.allDefns NlOnlyLast := by decide +kernel
theorem exAttr_nd : depPlacedList exAttrForest = true := by decide +kernel

/-- level 2 prints the source text again -/
example : asStr { level := 2 } (rootOf exAttrForest) = .ok exAttrSrc := by
  rw [print_tree_attrs { level := 2 } rfl exAttrForest exAttr_ok2]
  unfold exAttrSrc
  simp only [String.toList_append]
  repeat rw [String.toList_ofList]
  decide +kernel

/-- level 1 prints help only -/
example : asStr { level := 1 } (rootOf exAttrForest)
    = .ok "a = 1\n  .help = \"some help\"\ns {\n  x.y = \"p q\" r\n  e {\n  }\n}\n".toList := by
  rw [print_tree_attrs { level := 1 } rfl exAttrForest exAttr_ok1, String.toList_ofList]
  decide +kernel

/-- the round trip at level 2: the re-parsed forest is the forest -/
example : ∃ text objs', asStr { level := 2 } (rootOf exAttrForest) = .ok text ∧
    parseObjs text = .ok objs' ∧ eraseList objs' = exAttrForest := by
  obtain ⟨text, objs', h1, _, h2, h3, _⟩ :=
    print_parse_tree_attrs { level := 2 } rfl exAttrForest exAttr_ok2 exAttr_nl exAttr_nd
  exact ⟨text, objs', h1, h2, by rw [h3]; decide +kernel⟩

/-- the round trip at level 3, width 40: every object comes back with its whole attribute list, the
    unset attributes as `None` -/
example : ∃ text root', asStr { level := 3, width := 40 } (rootOf exAttrForest) = .ok text ∧
    parse text = .ok root' ∧ asStr { level := 3, width := 40 } root' = .ok text :=
  second_print_identical_attrs { level := 3, width := 40 } rfl exAttrForest exAttr_ok3 exAttr_nl exAttr_nd

/-! ### sharp edges (kernel-checked in the model; each replayed on the Python library) -/

/-- **`.deprecated = False` does not survive the round trip** (finding, replayed on Python:
    `a = 1⏎.deprecated = False` → `as_str(attributes_level=3)` has no `.deprecated` line → the re-parsed
    definition has `deprecated = None`).  `show_attributes` prints `.deprecated` only when it is truthy.
    This is why `attribute_value_kept` excludes a set-but-falsy `deprecated`. -/
theorem deprecated_false_is_lost :
    (parseObjs "a = 1\n.deprecated = False\n".toList).map eraseList
      = .ok [.defn { name := ['a'], attrs := [("deprecated", .bool false)] } [{ value := ['1'] }]] ∧
    (∀ x ∈ [Obj.defn { name := ['a'], attrs := [("deprecated", .bool false)] } [{ value := ['1'] }]],
      RTTreeAttr 3 79 x) ∧
    (shownAttrs true 3 [("deprecated", .bool false)]).get "deprecated" = .none ∧
    (parseObjs (kidsTextA 3 79
        [.defn { name := ['a'], attrs := [("deprecated", .bool false)] } [{ value := ['1'] }]] [] [])).map
      (fun os => os.map (fun x => x.attr "deprecated")) = .ok [.none] := by
  repeat rw [String.toList_ofList]
  decide +kernel

/-- **Why the value must be of the attribute's kind.**  A string under a bool name (not producible by
    the parser, but by assignment in Python: `d.optional = "maybe"`) prints `.optional = maybe`, which
    is refused on re-parse. -/
theorem ill_typed_attribute_fails :
    let t : List Obj := [.defn { name := ['a'], attrs := [("optional", .str "maybe".toList)] } [{ value := ['1'] }]]
    ¬ (∀ x ∈ t, RTTreeAttr 2 79 x) ∧
    asStr { level := 2 } (rootOf t) = .ok "a = 1\n  .optional = maybe\n".toList ∧
    parseObjs "a = 1\n  .optional = maybe\n".toList = .error (.runtime "bool_expected" (some 2)) := by
  decide +kernel

/-- **Why a truthy `deprecated` is excluded below level 3**: the definition is not printed at all. -/
theorem deprecated_hidden_at_level2 :
    let t : List Obj := [.defn { name := ['a'], attrs := [("deprecated", .bool true)] } [{ value := ['1'] }]]
    ¬ (∀ x ∈ t, RTTreeAttr 2 79 x) ∧ (∀ x ∈ t, RTTreeAttr 3 79 x) ∧
    asStr { level := 2 } (rootOf t) = .ok [] ∧
    asStr { level := 3 } (rootOf t)
      = .ok ("# WARNING: deprecated parameter\na = 1\n  .help = None\n  .caption = None\n" ++
             "  .short_caption = None\n  .optional = None\n  .type = None\n  .multiple = None\n" ++
             "  .input_size = None\n  .style = None\n  .expert_level = None\n  .deprecated = True\n").toList := by
  simp only [String.toList_append]
  repeat rw [String.toList_ofList]
  decide +kernel

/-! ### wrapped free text (the `textwrap` branch of `show_attributes`)

  `strOK pre w name s` = `strOneLine … ∨ strWrapOK …`: a string value either stays on the line of its
  name (then its content is arbitrary: blanks, quotes, backslashes, newlines), or it is wrapped, and
  then the hypothesis is `strWrapOK`: the wrap width `w - 2 - indentation` is positive, and the text is
  SINGLE-SPACED (`singleSpaced`: non-empty words without white space, separated by single blanks).
  For such text `textwrap.wrap` only regroups the words (`twWrap_singleSpaced_art`), every block is
  printed as a quoted word, the parser joins the words of consecutive lines with single blanks — the
  value comes back EXACTLY, so all theorems above hold verbatim for wrapped attributes, the second
  print included.  Text with runs of white space is outside the class: `reflow_not_fixpoint` (finding
  D28) is the kernel-checked reason. -/

/-- the core fact about `textwrap.wrap` used above: on single-spaced text the blocks are a
    regrouping of the words, each group joined by single blanks -/
theorem wrap_regroups_words (ws : List Str) (hw : ∀ w ∈ ws, twWord w = true) (W : Nat) :
    ∃ groups : List (List Str), groups.flatten = ws ∧ (∀ g ∈ groups, g ≠ []) ∧
      twWrap (joinWith [' '] ws) W = groups.map (joinWith [' ']) :=
  twWrap_singleSpaced_art ws hw W

/-- one wrapped attribute: printed as quoted blocks on consecutive lines, read back as the value -/
theorem wrapped_attribute_round_trip (isDef : Bool) (pre : Str) (hb : ∀ c ∈ pre, c = ' ') (width : Int)
    (n : String) (s : Str) (hk : kindOf isDef n = .str) (h : strWrapOK pre width n s = true) :
    (∃ ls, attrLines pre width n (.str s) = .ok ls ∧ unlines ls = attrLineText pre width n (.str s)) ∧
    ReadsAs (attrTail pre width n (.str s)) (attrValueOf isDef n) (.str s) :=
  ⟨(attr_line_wrap_reads_art isDef pre hb width n s hk h).1, (attr_line_wrap_reads_art isDef pre hb width n s hk h).2.readsAs⟩

def exWrapForest : List Obj :=
  [ .scope { name := ['s'], attrs := [("help", .str "scope help text that is long enough to wrap".toList)] }
      [ .defn { name := ['a'], attrs := [("help", .str "aaaaaaa bb ccccccc dddddd \"q\" back\\slash".toList),
          ("caption", .str "short".toList)] } [{ value := ['1'] }] ] ]

theorem exWrap_ok : ∀ x ∈ exWrapForest, RTTreeAttr 2 30 x := by
  rw [exWrapForest]
  repeat rw [String.toList_ofList]
  decide +kernel
theorem exWrap_nl : ∀ x ∈ exWrapForest, x.allDefns NlOnlyLast := by decide +kernel
theorem exWrap_nd : depPlacedList exWrapForest = true := by decide +kernel

/-- the printed text at width 30 (replayed on Python: identical) -/
example : asStr { level := 2, width := 30 } (rootOf exWrapForest)
    = .ok ("s\n  .help = \"scope help text\"\n          \"that is long\"\n          \"enough to wrap\"\n{\n" ++
           "  a = 1\n    .help = \"aaaaaaa bb\"\n            \"ccccccc dddddd\"\n            \"\\\"q\\\"\"\n" ++
           "            \"back\\\\slash\"\n    .caption = short\n}\n").toList := by
  rw [print_tree_attrs { level := 2, width := 30 } rfl exWrapForest exWrap_ok, exWrapForest]
  simp only [String.toList_append]
  repeat rw [String.toList_ofList]
  decide +kernel

/-- the round trip with wrapped attributes: the forest comes back exactly, second print identical -/
example : ∃ text objs', asStr { level := 2, width := 30 } (rootOf exWrapForest) = .ok text ∧
    parseObjs text = .ok objs' ∧ eraseList objs' = exWrapForest := by
  obtain ⟨text, objs', h1, _, h2, h3, _⟩ :=
    print_parse_tree_attrs { level := 2, width := 30 } rfl exWrapForest exWrap_ok exWrap_nl exWrap_nd
  exact ⟨text, objs', h1, h2, by rw [h3, exWrapForest]; repeat rw [String.toList_ofList]; decide +kernel⟩

example : ∃ text root', asStr { level := 2, width := 30 } (rootOf exWrapForest) = .ok text ∧
    parse text = .ok root' ∧ asStr { level := 2, width := 30 } root' = .ok text :=
  second_print_identical_attrs { level := 2, width := 30 } rfl exWrapForest exWrap_ok exWrap_nl exWrap_nd

/-- **Finding D28, kernel-checked: a run of blanks in a wrapped attribute makes the second print
    differ.**  `.help = "aaaaaaa     bb ccccccc dddddd"` at level 1, width 24: the first print breaks
    after `aaaaaaa` (the run of five blanks does not fit), the re-parsed value is
    `aaaaaaa bb ccccccc dddddd` (equal up to runs of white space), and printing THAT puts `bb` on the
    first line.  The same text single-spaced is in the class and is a fixed point.  Replayed on
    Python: identical texts. -/
theorem reflow_not_fixpoint :
    let t : List Obj := [.defn { name := ['a'], attrs := [("help", .str "aaaaaaa     bb ccccccc dddddd".toList)] } [{ value := ['1'] }]]
    let t' : List Obj := [.defn { name := ['a'], attrs := [("help", .str "aaaaaaa bb ccccccc dddddd".toList)] } [{ value := ['1'] }]]
    ¬ (∀ x ∈ t, RTTreeAttr 1 24 x) ∧ (∀ x ∈ t', RTTreeAttr 1 24 x) ∧
    asStr { level := 1, width := 24 } (rootOf t)
      = .ok "a = 1\n  .help = \"aaaaaaa\"\n          \"bb ccccccc\"\n          \"dddddd\"\n".toList ∧
    (parseObjs "a = 1\n  .help = \"aaaaaaa\"\n          \"bb ccccccc\"\n          \"dddddd\"\n".toList).map eraseList
      = .ok t' ∧
    asStr { level := 1, width := 24 } (rootOf t')
      = .ok "a = 1\n  .help = \"aaaaaaa bb\"\n          \"ccccccc\"\n          \"dddddd\"\n".toList := by
  repeat rw [String.toList_ofList]
  decide +kernel

/-- **Why the wrap width must be positive** ("provided the width leaves room beyond the indentation"):
    with no room `textwrap.wrap` raises `ValueError: invalid width` (Python) — `stray ValueError` in the
    model. -/
theorem no_room_fails :
    let t : List Obj := [.defn { name := ['a'], attrs := [("short_caption", .str "aaaa bbbb cccc dddd eeee".toList)] } [{ value := ['1'] }]]
    ¬ (∀ x ∈ t, RTTreeAttr 2 20 x) ∧
    asStr { level := 2, width := 20 } (rootOf t) = .error (.stray "ValueError" "textwrap_width") := by
  decide +kernel

/-! ### deprecated definitions at attributes level 3 (`# WARNING: deprecated parameter`) -/

/-- `d` (deprecated) first in the document, `a` (deprecated) first in the scope `s`, `b` (deprecated)
    after the scope `t` -/
def exDepForest : List Obj :=
  [ .defn { name := ['d'], attrs := [("deprecated", .bool true)] } [{ value := ['0'] }],
    .scope { name := ['s'] }
      [ .defn { name := ['a'], attrs := [("help", .str "old".toList), ("deprecated", .bool true)] } [{ value := ['1'] }],
        .scope { name := ['t'] } [],
        .defn { name := ['b'], attrs := [("deprecated", .bool true)] } [{ value := ['2'] }] ] ]

theorem exDep_ok : ∀ x ∈ exDepForest, RTTreeAttr 3 79 x := by decide +kernel
theorem exDep_nl : ∀ x ∈ exDepForest, x.allDefns NlOnlyLast := by decide +kernel
theorem exDep_placed : depPlacedList exDepForest = true := by decide +kernel

/-- the round trip at level 3 with deprecated definitions: every warning line is skipped, the
    definitions come back with `deprecated = True`; second print identical -/
example : ∃ text objs', asStr { level := 3 } (rootOf exDepForest) = .ok text ∧
    parseObjs text = .ok objs' ∧ eraseList objs' = eraseList (normAList 3 exDepForest) ∧
    objs'.map (fun x => x.attr "deprecated") = [.bool true, .none] := by
  obtain ⟨text, objs', h1, ht, h2, h3, _⟩ :=
    print_parse_tree_attrs { level := 3 } rfl exDepForest exDep_ok exDep_nl exDep_placed
  refine ⟨text, objs', h1, h2, h3, ?_⟩
  have : objs'.map (fun x => x.attr "deprecated") = (eraseList objs').map (fun x => x.attr "deprecated") := by
    rw [eraseList_eq_map, List.map_map]
    apply List.map_congr_left
    intro x _
    cases x <;> rfl
  rw [this, h3]
  decide +kernel

example : ∃ text root', asStr { level := 3 } (rootOf exDepForest) = .ok text ∧
    parse text = .ok root' ∧ asStr { level := 3 } root' = .ok text :=
  second_print_identical_attrs { level := 3 } rfl exDepForest exDep_ok exDep_nl exDep_placed

/-- **The placement condition is a limit of the statements of this file, not of the code**: a deprecated
    definition that directly follows a definition is outside `depPlacedList` (its warning line is consumed as a
    comment by the value collector of the line before), yet the model — and Python, replayed — reads the text
    back (in general: `print_parse_tree_attrs_any_placement`, Phil/Props/C01Attrs3.lean).  Validation: 75 random documents with deprecated definitions in every placement at level 3
    agreed with the closed form. -/
theorem deprecated_after_definition_still_round_trips :
    let t : List Obj := [.defn { name := ['a'] } [{ value := ['1'] }],
                         .defn { name := ['b'], attrs := [("deprecated", .bool true)] } [{ value := ['2'] }]]
    depPlacedList t = false ∧ (∀ x ∈ t, RTTreeAttr 3 79 x) ∧
    (parseObjs (kidsTextA 3 79 t [] [])).map eraseList = .ok (eraseList (normAList 3 t)) := by
  decide +kernel

#print axioms rtAllAttr_of_forall
#print axioms RTTree.toAttr
#print axioms print_tree_attrs
#print axioms print_parse_tree_attrs
#print axioms placed_of_noDeprecated
#print axioms exDep_ok
#print axioms exDep_nl
#print axioms exDep_placed
#print axioms deprecated_after_definition_still_round_trips
#print axioms attribute_value_kept
#print axioms attribute_value_read_back
#print axioms second_print_identical_attrs
#print axioms exAttr_ok1
#print axioms exAttr_ok2
#print axioms exAttr_ok3
#print axioms exAttr_nl
#print axioms exAttr_nd
#print axioms deprecated_false_is_lost
#print axioms ill_typed_attribute_fails
#print axioms deprecated_hidden_at_level2
#print axioms wrap_regroups_words
#print axioms wrapped_attribute_round_trip
#print axioms exWrap_ok
#print axioms exWrap_nl
#print axioms exWrap_nd
#print axioms reflow_not_fixpoint
#print axioms no_room_fails

end Phil.C01
