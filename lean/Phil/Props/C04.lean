/-
  C04 — A fetch result has exactly the master's parameter structure.
    "The result of `master.fetch(sources)` contains no parameter, scope or attribute that the master
     does not declare; the objects appear in the master's order with the master's attributes
     (including `.type`); disabled objects of the sources have no influence."

  Model: Phil/Fetch.lean (`fetchScope` = scope.fetch, `masterActiveObjects` =
  scope.master_active_objects, `getWithoutSubst` = get_without_substitution).  Property theorems
  only; the named step functions of `fetchScope`, `SameDecl`, `FromMaster`, `ConfObj`/`ConfList` and
  their lemmas are in Phil/Proofs/FetchLoop.lean, `Forall2`, `dedupAdj`, `stripObj`/`stripList`/
  `stripDisabled` and theirs in Phil/Proofs/FetchLemmas.lean.  All statements hold for every master,
  every list of sources, both modes (`diff`) and every fuel.

  Finding D9 (repaired in the library by bcaa855; the model is of the repaired tree): for a master with
  a `.multiple` object that has a further master occurrence (or a disabled example instance) inside a
  `.multiple` scope, `fetch` raised a `TypeError`, because the key of the master block was rendered
  from the raw extraction of the block.  The key is rendered from the block's own fetch (`masterKeyOf`);
  `nested_multiple_further_occurrence_fetches`, `nested_further_with_source_fetches`,
  `nested_disabled_instance_fetches` (kernel evaluation) show the fetches on the inputs of the finding.
  Second part of the repair: the default instance a mandatory (`.optional=False`) `.multiple` scope
  contributes is the scope's own fetch (`defaultInstOf`), not its raw copy — otherwise the failure
  persisted one level up (`nested_mandatory_multiple_fetches`, `…_disabled`, `…_with_source_fetches`,
  `mandatory_multiple_default_instance_is_fetched`).
-/
import Phil.Proofs.FetchLemmas
namespace Phil.C04
open Phil

/-! ### 1. the active master objects -/

/-- **`master_active_objects` is sound.**  Every selected pair `(i, o)` is the `i`-th object of the
    scope, is enabled, and the pairs come in strictly increasing index order. -/
theorem masterActive_sound (objs : List Obj) (l : List (Nat × Obj))
    (h : masterActiveObjects objs = .ok l) :
    (∀ i o, (i, o) ∈ l → objs[i]? = some o ∧ o.meta.disabled = false) ∧
    l.Pairwise (fun a b => a.1 < b.1) :=
  Phil.masterActive_sound objs l h

/-! ### 2. shape of the result -/

/-- **Shape (one level).**  A successful fetch returns a scope that carries the master scope's meta
    data (template mark reset), and every child of it is a copy of an *enabled* master child: same
    name, same kind (definition / scope), same attributes (so the same `.type`, `.multiple`,
    `.optional`, …), and is itself enabled. -/
theorem fetch_shape (e : Envs) (fuel : Nat) (diff : Bool) (sm : Meta) (mkids combined : List Obj)
    (rm : Meta) (out : List Obj) (used : List Nat)
    (h : fetchScope e fuel diff sm mkids combined = .ok (.scope rm out, used)) :
    rm = { sm with tmpl := 0 } ∧
    ∀ o ∈ out, ∃ (i : Nat) (mo : Obj), mkids[i]? = some mo ∧ mo.meta.disabled = false ∧
      o.name = mo.name ∧ o.isDefn = mo.isDefn ∧ o.meta.attrs = mo.meta.attrs ∧
      o.meta.disabled = false := by
  obtain ⟨out', hro, hall⟩ := Phil.fetch_shape e fuel diff sm mkids combined _ used h
  cases hro
  refine ⟨rfl, ?_⟩
  intro o ho
  obtain ⟨i, mo, hget, hdis, hsd⟩ := hall o ho
  exact ⟨i, mo, hget, hdis, hsd.name, hsd.1, hsd.attrs, by rw [hsd.disabled, hdis]⟩

/-- The result of a fetch is always a scope (never a definition). -/
theorem fetch_result_is_scope (e : Envs) (fuel : Nat) (diff : Bool) (sm : Meta) (mkids combined : List Obj)
    (ro : Obj) (used : List Nat) (h : fetchScope e fuel diff sm mkids combined = .ok (ro, used)) :
    ∃ out, ro = .scope { sm with tmpl := 0 } out :=
  fetchScope_rootShape e fuel diff sm mkids combined ro used h

/-- **Shape, strong form.**  Every child of the result has the *whole* meta record of its master
    child (name, id, line, `merge_names`, attributes, enabledness) up to the template mark. -/
theorem fetch_shape_decl (e : Envs) (fuel : Nat) (diff : Bool) (sm : Meta) (mkids combined : List Obj)
    (rm : Meta) (out : List Obj) (used : List Nat)
    (h : fetchScope e fuel diff sm mkids combined = .ok (.scope rm out, used)) :
    ∀ o ∈ out, ∃ (i : Nat) (mo : Obj), mkids[i]? = some mo ∧ mo.meta.disabled = false ∧
      o.isDefn = mo.isDefn ∧ { o.meta with tmpl := 0 } = { mo.meta with tmpl := 0 } := by
  obtain ⟨out', hro, hall⟩ := Phil.fetch_shape e fuel diff sm mkids combined _ used h
  cases hro
  exact hall

/-- **Shape at every depth.**  The result conforms to the master recursively (`ConfObj`): each
    object is a copy of its master object up to the template mark, or the master's definition with
    other words, or the master's scope (template mark reset) whose children again conform to enabled
    children of that master scope. -/
theorem fetch_conforms (e : Envs) (fuel : Nat) (diff : Bool) (sm : Meta) (mkids combined : List Obj)
    (ro : Obj) (used : List Nat) (h : fetchScope e fuel diff sm mkids combined = .ok (ro, used)) :
    ConfObj (.scope sm mkids) ro :=
  Phil.fetch_conforms e fuel diff sm mkids combined ro used h

/-- … for `master.fetch(sources)` on parsed roots -/
theorem fetchRoot_conforms (e : Envs) (diff : Bool) (master : List Obj) (ss : List (List Obj))
    (ro : Obj) (used : List Nat) (h : fetchRoot e diff master ss = .ok (ro, used)) :
    ConfObj (.scope { name := [], id := some 0 } master) ro :=
  Phil.fetch_conforms e _ diff _ master ss.flatten ro used h

/-! ### 3. order -/

/-- **Blocks in master order.**  The children of the result are the concatenation of one (possibly
    empty) block per active master child, in the order of `master_active_objects`; all objects of a
    block are copies of that master child. -/
theorem fetch_blocks (e : Envs) (fuel : Nat) (diff : Bool) (sm : Meta) (mkids combined : List Obj)
    (rm : Meta) (out : List Obj) (used : List Nat)
    (h : fetchScope e fuel diff sm mkids combined = .ok (.scope rm out, used)) :
    ∃ actives blocks, masterActiveObjects mkids = .ok actives ∧ out = blocks.flatten ∧
      Forall2 (fun (io : Nat × Obj) (block : List Obj) => ∀ o ∈ block, SameDecl io.2 o)
        actives blocks :=
  Phil.fetch_blocks e fuel diff sm mkids combined rm out used h

/-- **Order.**  The names of the result's children, consecutive duplicates removed, form a sublist
    of the names of the active master children in master order. -/
theorem fetch_order (e : Envs) (fuel : Nat) (diff : Bool) (sm : Meta) (mkids combined : List Obj)
    (rm : Meta) (out : List Obj) (used : List Nat)
    (h : fetchScope e fuel diff sm mkids combined = .ok (.scope rm out, used)) :
    ∃ actives, masterActiveObjects mkids = .ok actives ∧
      (dedupAdj (out.map Obj.name)).Sublist (actives.map (fun io => io.2.name)) :=
  Phil.fetch_order e fuel diff sm mkids combined rm out used h

/-! ### 4. disabled source objects are ignored -/

/-- **Path lookup commutes with stripping.**  Looking a path up in an object from which all
    disabled objects have been removed (at every depth) gives the stripped results of looking it up
    in the object itself. -/
theorem getWithoutSubst_strip (fuel : Nat) (o : Obj) (path : Str) :
    getWithoutSubst fuel (stripObj o) path = stripDisabled (getWithoutSubst fuel o path) :=
  Phil.getWithoutSubst_strip fuel o path

/-- **Disabled source objects have no influence.**  Removing every disabled object, at every depth,
    from the sources changes neither the result nor the list of consumed definitions (nor an error). -/
theorem fetch_ignores_disabled (e : Envs) (fuel : Nat) (diff : Bool) (sm : Meta) (mkids combined : List Obj) :
    fetchScope e fuel diff sm mkids (stripDisabled combined) = fetchScope e fuel diff sm mkids combined :=
  Phil.fetch_ignores_disabled e fuel diff sm mkids combined

/-- Disabled *master* objects never appear in a result: every child of a result is enabled. -/
theorem result_children_enabled (e : Envs) (fuel : Nat) (diff : Bool) (sm : Meta) (mkids combined : List Obj)
    (rm : Meta) (out : List Obj) (used : List Nat)
    (h : fetchScope e fuel diff sm mkids combined = .ok (.scope rm out, used)) :
    ∀ o ∈ out, o.meta.disabled = false := by
  intro o ho
  obtain ⟨_, _, _, _, _, _, _, hd⟩ := (fetch_shape e fuel diff sm mkids combined rm out used h).2 o ho
  exact hd

/-! ### non-vacuity: a concrete fetch -/

/-- `a = 1 .type=int ; s { b = x }` -/
def exMaster : List Obj :=
  [.defn { name := ['a'], id := some 1, attrs := [("type", .conv (.int {}))] } [{ value := ['1'] }],
   .scope { name := ['s'], id := some 2 }
     [.defn { name := ['b'], id := some 3 } [{ value := ['x'] }]]]

/-- `a = 2 ; a = 1 ; z = 1 ; s { !b = y ; b = z }` -/
def exSource : List Obj :=
  [.defn { name := ['a'], id := some 11 } [{ value := ['2'] }],
   .defn { name := ['a'], id := some 12 } [{ value := ['1'] }],
   .defn { name := ['z'], id := some 13 } [{ value := ['1'] }],
   .scope { name := ['s'], id := some 14 }
     [.defn { name := ['b'], id := some 15, disabled := true } [{ value := ['y'] }],
      .defn { name := ['b'], id := some 16 } [{ value := ['z'] }]]]

/-- names of the children and of the grandchildren of a result, with the consumed ids -/
def summary (r : R (Obj × List Nat)) : Option (List Str × List Str × List Nat) :=
  match r with
  | .ok (o, used) => some (o.children.map Obj.name, (o.children.flatMap Obj.children).map Obj.name, used)
  | .error _ => none

/-- the fetch succeeds: result `a ; s { b }`, the unknown `z` and the disabled `b` are not consumed -/
example : summary (fetchRoot env12 false exMaster [exSource]) = some ([['a'], ['s']], [['b']], [11, 12, 16]) := by
  decide +kernel

/-- stripping really removes something here, and the result is the same -/
example : (stripDisabled exSource).flatMap Obj.children ≠ exSource.flatMap Obj.children := by
  intro h
  have := congrArg List.length h
  revert this
  decide +kernel

/-! ### finding D9: `.multiple` objects with further occurrences inside a `.multiple` scope -/

/-- **Witness (D9 repaired).**  Master `s .multiple=True { d = 1 .multiple=True .type=int ; d = 2 }`,
    no sources: before the repair `fetch` raised `TypeError` (the raw master `extract` inside
    `extract_format` met the further occurrence of `d`, which lacks `.multiple`, and replaced the list
    by a scalar).  The fetch returns the template copy of `s` (template mark 1: no instance survives) with both
    occurrences of `d`.  The observable form (`obsFetch`) lists dotted path, template mark, word
    values. -/
theorem nested_multiple_further_occurrence_fetches :
    obsFetch env12 false w2Master [] =
      some [(['s'], 1, []), (['s', '.', 'd'], 0, [['1']]), (['s', '.', 'd'], 0, [['2']])] := by
  decide +kernel

/-- the same on the parser's output for the text of that master -/
theorem nested_multiple_further_occurrence_fetches_text :
    obsFetchText env12 false w2MasterText [] =
      some [(['s'], 1, []), (['s', '.', 'd'], 0, [['1']]), (['s', '.', 'd'], 0, [['2']])] := by
  rw [w2MasterText, obsFetchText_ofList]
  decide +kernel

/-- an environment that knows the integers 1, 2, 3 -/
def env123 : Envs :=
  { eval := fun s => match s with
      | ['1'] => some (.num (.int 1)) | ['2'] => some (.num (.int 2)) | ['3'] => some (.num (.int 3))
      | _ => none,
    fmt := fun n => match n with
      | .int 1 => some ['1'] | .int 2 => some ['2'] | .int 3 => some ['3'] | _ => none }

/-- `t .multiple=True { f = 1 .multiple=True .type=int ; f = 2 ; g = 1 }` -/
def w3MasterText : String :=
  "t\n.multiple=True\n{\n  f = 1\n  .multiple=True\n  .type=int\n  f = 2\n  g = 1\n}\n"

/-- **Witness (D9 repaired), with a source.**  Master `w3MasterText`, source `t { f = 3 }`: the
    fetch raised `TypeError` before the repair; the result is the template copy of `t` (mark -1: an instance
    follows) and one instance of `t` in which the list `f` is its template (the first occurrence,
    mark -1), the master's further occurrence `2` and the source's `3`, followed by `g`. -/
theorem nested_further_with_source_fetches :
    obsFetchText env123 false w3MasterText ["t { f = 3 }\n"] =
      some [(['t'], -1, []),
            (['t', '.', 'f'], 0, [['1']]), (['t', '.', 'f'], 0, [['2']]), (['t', '.', 'g'], 0, [['1']]),
            (['t'], 0, []),
            (['t', '.', 'f'], -1, [['1']]), (['t', '.', 'f'], 0, [['2']]), (['t', '.', 'f'], 0, [['3']]),
            (['t', '.', 'g'], 0, [['1']])] := by
  rw [w3MasterText, obsFetchText_ofList]
  decide +kernel

/-- without sources only the template copy of `t` remains (mark 1) -/
theorem nested_further_bare_fetches :
    obsFetchText env123 false w3MasterText [] =
      some [(['t'], 1, []),
            (['t', '.', 'f'], 0, [['1']]), (['t', '.', 'f'], 0, [['2']]), (['t', '.', 'g'], 0, [['1']])] := by
  rw [w3MasterText, obsFetchText_ofList]
  decide +kernel

/-- `opts .multiple=True { g = 1 .multiple=True ; !g = None }`: a disabled example instance -/
def w4MasterText : String :=
  "opts\n.multiple=True\n{\n  g = 1\n  .multiple=True\n  !g = None\n}\n"

/-- **Witness (D9 repaired), disabled example instance.**  Before the repair the bare fetch of
    `w4MasterText` raised `TypeError` (the disabled `!g = None`, not marked `.multiple`, reset the list
    `g` to `None` in the raw extraction).  It returns the template copy of `opts` (the disabled
    occurrence is carried along inside the copy). -/
theorem nested_disabled_instance_fetches :
    obsFetchText envNone false w4MasterText [] =
      some [(['o', 'p', 't', 's'], 1, []),
            (['o', 'p', 't', 's', '.', 'g'], 0, [['1']]),
            (['o', 'p', 't', 's', '.', '!', 'g'], 0, [['N', 'o', 'n', 'e']])] := by
  rw [w4MasterText, obsFetchText_ofList]
  decide +kernel

/-- with the source `opts { g = 5 }`: template copy (mark -1) and one instance holding the list
    template of `g` (mark -1) and the source's `5` -/
theorem nested_disabled_instance_with_source_fetches :
    obsFetchText envNone false w4MasterText ["opts { g = 5 }\n"] =
      some [(['o', 'p', 't', 's'], -1, []),
            (['o', 'p', 't', 's', '.', 'g'], 0, [['1']]),
            (['o', 'p', 't', 's', '.', '!', 'g'], 0, [['N', 'o', 'n', 'e']]),
            (['o', 'p', 't', 's'], 0, []),
            (['o', 'p', 't', 's', '.', 'g'], -1, [['1']]),
            (['o', 'p', 't', 's', '.', 'g'], 0, [['5']])] := by
  rw [w4MasterText, obsFetchText_ofList]
  decide +kernel

/-- the raw extraction itself fails on these blocks — `extract_format()` of the unfetched master scope,
    which the library computed before the repair; the merge does not pass through it -/
example :
    (match parseObjs w2MasterText.toList with
     | .ok [s] => errOf (extractFormatStr env12 64 s s)
     | _ => none) = some (.stray "TypeError" "value_as_str") := by
  rw [w2MasterText]
  generalize hl : String.toList _ = l
  rw [String.toList_ofList] at hl
  subst hl
  decide +kernel

/-! ### D9, second part: a mandatory `.multiple` scope inside a `.multiple` scope -/

/-- `u .multiple=True { grp .multiple=True .optional=False { f = 1 .multiple=True .type=int ; f = 2 } }` -/
def w5MasterText : String :=
  "u\n.multiple=True\n{\n grp\n .multiple=True\n .optional=False\n {\n  f = 1\n  .multiple=True\n  .type=int\n  f = 2\n }\n}\n"

/-- the same with a disabled example instance `!f = None` (and no `.type`) in place of `f = 2` -/
def w6MasterText : String :=
  "u\n.multiple=True\n{\n grp\n .multiple=True\n .optional=False\n {\n  f = 1\n  .multiple=True\n  !f = None\n }\n}\n"

/-- `grp .multiple=True .optional=False { f = 1 .multiple=True .type=int ; f = 2 }` at the top -/
def w7MasterText : String :=
  "grp\n.multiple=True\n.optional=False\n{\n  f = 1\n  .multiple=True\n  .type=int\n  f = 2\n}\n"

/-- **Witness (D9 repaired, second part).**  With only the first part of the repair the bare fetch of
    `w5MasterText` still raised `TypeError`: the own fetch of `u` kept the raw master copy of the
    mandatory `grp` as live content (template mark 0), so rendering the key of `u` extracted `grp`'s
    raw block.  The default instance of a mandatory `.multiple` scope is the scope's own fetch
    (`defaultInstOf`); the bare fetch succeeds with the template copy of `u`. -/
theorem nested_mandatory_multiple_fetches :
    obsFetchText env12 false w5MasterText [] =
      some [(['u'], 1, []), (['u', '.', 'g', 'r', 'p'], 0, []),
            (['u', '.', 'g', 'r', 'p', '.', 'f'], 0, [['1']]), (['u', '.', 'g', 'r', 'p', '.', 'f'], 0, [['2']])] := by
  rw [w5MasterText, obsFetchText_ofList]
  decide +kernel

/-- the variant with the disabled example instance -/
theorem nested_mandatory_multiple_fetches_disabled :
    obsFetchText envNone false w6MasterText [] =
      some [(['u'], 1, []), (['u', '.', 'g', 'r', 'p'], 0, []),
            (['u', '.', 'g', 'r', 'p', '.', 'f'], 0, [['1']]),
            (['u', '.', 'g', 'r', 'p', '.', '!', 'f'], 0, [['N', 'o', 'n', 'e']])] := by
  rw [w6MasterText, obsFetchText_ofList]
  decide +kernel

/-- with the source `u { grp { f = 3 } }`: the template copy of `u` (mark -1), then one instance of
    `u` holding the default instance of `grp` (its own fetch: list template of `f`, mark -1, and the
    further occurrence `2`) and the instance of `grp` from the source (`2` and `3`) -/
theorem nested_mandatory_multiple_with_source_fetches :
    obsFetchText env123 false w5MasterText ["u { grp { f = 3 } }\n"] =
      some [(['u'], -1, []), (['u', '.', 'g', 'r', 'p'], 0, []),
            (['u', '.', 'g', 'r', 'p', '.', 'f'], 0, [['1']]), (['u', '.', 'g', 'r', 'p', '.', 'f'], 0, [['2']]),
            (['u'], 0, []),
            (['u', '.', 'g', 'r', 'p'], 0, []),
            (['u', '.', 'g', 'r', 'p', '.', 'f'], -1, [['1']]), (['u', '.', 'g', 'r', 'p', '.', 'f'], 0, [['2']]),
            (['u', '.', 'g', 'r', 'p'], 0, []),
            (['u', '.', 'g', 'r', 'p', '.', 'f'], -1, [['1']]), (['u', '.', 'g', 'r', 'p', '.', 'f'], 0, [['2']]),
            (['u', '.', 'g', 'r', 'p', '.', 'f'], 0, [['3']])] := by
  rw [w5MasterText, obsFetchText_ofList]
  decide +kernel

/-- the default instance of a mandatory `.multiple` scope at the top level is its own fetch, not the
    raw copy: `f` appears as list template (mark -1) plus the further occurrence -/
theorem mandatory_multiple_default_instance_is_fetched :
    obsFetchText env123 false w7MasterText [] =
      some [(['g', 'r', 'p'], 0, []),
            (['g', 'r', 'p', '.', 'f'], -1, [['1']]), (['g', 'r', 'p', '.', 'f'], 0, [['2']])] := by
  rw [w7MasterText, obsFetchText_ofList]
  decide +kernel

/-- without `.optional=False` on `grp` the same master fetches as well -/
example :
    obsFetchText env12 false
      "u\n.multiple=True\n{\n grp\n .multiple=True\n {\n  f = 1\n  .multiple=True\n  .type=int\n  f = 2\n }\n}\n" [] =
      some [(['u'], 1, []), (['u', '.', 'g', 'r', 'p'], 0, []),
            (['u', '.', 'g', 'r', 'p', '.', 'f'], 0, [['1']]), (['u', '.', 'g', 'r', 'p', '.', 'f'], 0, [['2']])] := by
  rw [obsFetchText_ofList]
  decide +kernel

end Phil.C04
