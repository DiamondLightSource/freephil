/-
  C02 — all surface spellings parse to the same tree: building blocks of parser soundness.
  What `collect_assigned_words` returns for the simplest spellings of a one-word value: terminated
  by a newline, by the end of the text, or by `;`.
  Property theorems only; lemmas are in Phil/Proofs/ParseLemmas.lean.
-/
import Phil.Proofs.ParseLemmas
namespace Phil.C02
open Phil

/-- B1 (general form).  After `name =`: blanks `sp`, one plain word `w` (`plainWord`: non-empty, no
    white space, none of `{ } ;`, not starting with a quote, not the lone words `\` and `#`), then
    text `rest` in front of which the unquoted scanner stops and which ends the value (`EndsValue`:
    end of input, or an unquoted word other than `;`/`#` on another line).  The collector returns
    exactly the word `w` with the line of the lead word and backs up: `rest` is not consumed. -/
theorem collectAssigned_single_word (lead : Word) (w sp rest : Str) (l : Nat)
    (hlead : lead.line = some l) (hsp : Blanks sp) (hw : plainWord w = true)
    (hr : stopsAt valueSettings rest = true) (hend : EndsValue ⟨rest, l⟩ l) :
    collectAssigned ⟨sp ++ w ++ rest, l⟩ lead
      = .ok ([{ value := w, quote := none, line := some l }], ⟨rest, l⟩) := by
  have h := collectAssigned_word (E := (· = ⟨rest, l⟩)) sp ⟨w, none, none⟩ rest l lead hsp.isSpace hw (.inl hr)
  simp only [hsp.nlCount, plainWord_nlCount hw, Nat.add_zero] at h
  obtain ⟨_, rfl, h⟩ := h (fun _ => hlead) fun fuel acc _ hbs => ⟨_, rfl, cAA_stop fuel _ _ acc l hend rfl hbs⟩
  exact h

/-- B1.  `name = w⏎…`: a one-word value terminated by a newline.  Whatever follows the newline —
    nothing, blank lines, or (after any white space) a character that is not a quote, `;` or `#` —
    the value is exactly `[w]` on line `l`, and the parser state is restored to the position in
    front of the newline (`backup()`), line counter unchanged.
    (A quoted word at the start of the next line would be a continuation of the value, `;` would be
    consumed and `#` would start a comment: these are separate spellings.) -/
theorem collectAssigned_single_word_newline (lead : Word) (w sp rest : Str) (l : Nat)
    (hlead : lead.line = some l) (hsp : Blanks sp) (hw : plainWord w = true)
    (hnext : ∀ c, firstNonSpace rest = some c → isQuoteChar c = false ∧ c ≠ ';' ∧ c ≠ '#') :
    collectAssigned ⟨sp ++ w ++ '\n' :: rest, l⟩ lead
      = .ok ([{ value := w, quote := none, line := some l }], ⟨'\n' :: rest, l⟩) :=
  collectAssigned_single_word lead w sp ('\n' :: rest) l hlead hsp hw (by rfl)
    (EndsValue_next ['\n'] rest l l space_nl (Nat.lt_succ_self l) hnext)

/-- B1, end of text: `name = w` with nothing after the word. -/
theorem collectAssigned_single_word_eof (lead : Word) (w sp : Str) (l : Nat)
    (hlead : lead.line = some l) (hsp : Blanks sp) (hw : plainWord w = true) :
    collectAssigned ⟨sp ++ w, l⟩ lead
      = .ok ([{ value := w, quote := none, line := some l }], ⟨[], l⟩) := by
  have h := collectAssigned_single_word lead w sp [] l hlead hsp hw (by rfl)
    (EndsValue_eof [] l l (by intro d hd; simp at hd))
  simpa using h

/-- B2.  `name = w ;…`: a one-word value terminated by `;` (after any white space `sp2`, even line
    breaks): the value is exactly `[w]` and the `;` is consumed — the state afterwards is the text
    right after the `;`, the line counter advanced by the newlines of `sp2`. -/
theorem collectAssigned_semicolon (lead : Word) (w sp sp2 rest : Str) (l : Nat)
    (hlead : lead.line = some l) (hsp : Blanks sp) (hsp2 : ∀ d ∈ sp2, isSpace d = true)
    (hw : plainWord w = true) :
    collectAssigned ⟨sp ++ w ++ sp2 ++ ';' :: rest, l⟩ lead
      = .ok ([{ value := w, quote := none, line := some l }], ⟨rest, l + nlCount sp2⟩) := by
  have h := collectAssigned_word (E := (· = ⟨rest, l + nlCount sp2⟩)) sp ⟨w, none, none⟩ (sp2 ++ ';' :: rest) l
    lead hsp.isSpace hw (.inl (stopsAt_space_append _ _ _ hsp2 (by rfl)))
  simp only [hsp.nlCount, plainWord_nlCount hw, Nat.add_zero] at h
  obtain ⟨_, rfl, h⟩ := h (fun _ => hlead) fun fuel acc _ _ =>
    ⟨_, rfl, cAA_semicolon fuel _ _ _ _ acc (nextWord_value_semicolon sp2 rest l hsp2) rfl rfl⟩
  simpa [Word.str] using h

/-- B3.  `name = w # comment⏎…`: a stand-alone `#` (blanks before it, and the comment text `cmt` empty
    or starting with white space or one of `{ } ;`) followed by comment text accepted by `commentOk`
    (no newline, no word starting with a quote character, last word not a lone `\`) changes nothing:
    the value is exactly `[w]`, as in `collectAssigned_single_word_newline`, and the state is restored
    to the newline, up to trailing blanks `tb` of the comment that are left unread (and are invisible
    to every later read, `nextWord_inline_space`).  The next line may start with any character that
    is not a quote — in comment mode even `;` and `#` end the value.
    (The exclusions are real: a word-initial quote inside the comment is scanned as a quoted word and
    can swallow following lines — finding D20 — and a final lone `\` continues the comment.) -/
theorem trailing_comment_ignored (lead : Word) (w sp sp2 cmt rest : Str) (l : Nat)
    (hlead : lead.line = some l) (hsp : Blanks sp) (hsp2 : Blanks sp2) (hne : sp2 ≠ [])
    (hw : plainWord w = true) (hstop : stopsAt valueSettings cmt = true)
    (hcmt : commentOk false true cmt = true)
    (hnext : ∀ c, firstNonSpace rest = some c → isQuoteChar c = false) :
    ∃ tb, InlineSpace tb ∧
      collectAssigned ⟨sp ++ w ++ sp2 ++ '#' :: cmt ++ '\n' :: rest, l⟩ lead
        = .ok ([{ value := w, quote := none, line := some l }], ⟨tb ++ '\n' :: rest, l⟩) := by
  have hr : stopsAt valueSettings (sp2 ++ '#' :: (cmt ++ '\n' :: rest)) = true := by
    cases sp2 with
    | nil => exact absurd rfl hne
    | cons d ds => exact ends_of_isSpace _ (hsp2.isSpace d (by simp))
  have h := collectAssigned_word (E := fun ci => ∃ tb, InlineSpace tb ∧ ci = ⟨tb ++ '\n' :: rest, l⟩) sp
    ⟨w, none, none⟩ _ l lead hsp.isSpace hw (.inl hr)
  simp only [hsp.nlCount, plainWord_nlCount hw, Nat.add_zero] at h
  obtain ⟨_, ⟨tb, htb, rfl⟩, h⟩ := h (fun _ => hlead) fun fuel acc hf _ => by
    obtain ⟨tb, htb, h⟩ := cAA_comment_line sp2 cmt rest l hsp2.isSpace hstop hcmt hnext (fuel + 1)
      { value := w, quote := none, line := some l } acc
      (by simp only [List.length_append, List.length_cons] at hf; omega)
    exact ⟨_, ⟨tb, htb, rfl⟩, by rw [h, hsp2.nlCount]; rfl⟩
  exact ⟨tb, htb, by simpa [Word.str] using h⟩

/-- B3, corollary: with or without the trailing comment the collected words are the same and the
    next word any tokenizer setting reads afterwards is the same. -/
theorem trailing_comment_same_as_none (lead : Word) (w sp sp2 cmt rest : Str) (l : Nat)
    (hlead : lead.line = some l) (hsp : Blanks sp) (hsp2 : Blanks sp2) (hne : sp2 ≠ [])
    (hw : plainWord w = true) (hstop : stopsAt valueSettings cmt = true)
    (hcmt : commentOk false true cmt = true)
    (hnext : ∀ c, firstNonSpace rest = some c → isQuoteChar c = false ∧ c ≠ ';' ∧ c ≠ '#') :
    ∃ ws ci1 ci2,
      collectAssigned ⟨sp ++ w ++ sp2 ++ '#' :: cmt ++ '\n' :: rest, l⟩ lead = .ok (ws, ci1) ∧
      collectAssigned ⟨sp ++ w ++ '\n' :: rest, l⟩ lead = .ok (ws, ci2) ∧
      ∀ st, nextWord st ci1 = nextWord st ci2 := by
  obtain ⟨tb, htb, h⟩ := trailing_comment_ignored lead w sp sp2 cmt rest l hlead hsp hsp2 hne hw
    hstop hcmt (fun c hc => (hnext c hc).1)
  exact ⟨_, _, _, h, collectAssigned_single_word_newline lead w sp rest l hlead hsp hw hnext,
    fun st => nextWord_inline_space st tb _ l htb⟩

/-! ### concrete instances -/

theorem blanks_example : Blanks " \t ".toList := by
  intro d hd
  have : " \t ".toList = [' ', '\t', ' '] := by rfl
  rw [this] at hd
  simp at hd
  rcases hd with e | e | e <;> simp [e]

example : collectAssigned ⟨" \t ".toList ++ "1.5e-3/x'y\"#".toList ++ '\n' :: "\n  next_def = 2".toList, 7⟩
      { value := "a.b".toList, line := some 7 }
    = .ok ([{ value := "1.5e-3/x'y\"#".toList, quote := none, line := some 7 }],
           ⟨'\n' :: "\n  next_def = 2".toList, 7⟩) :=
  collectAssigned_single_word_newline _ _ _ _ 7 rfl blanks_example (by decide +kernel)
    (by intro c hc
        have : firstNonSpace "\n  next_def = 2".toList = some 'n' := by rfl
        rw [this] at hc
        cases hc
        decide)

example : collectAssigned ⟨" \t ".toList ++ "*foo".toList, 3⟩ { value := "a".toList, line := some 3 }
    = .ok ([{ value := "*foo".toList, quote := none, line := some 3 }], ⟨[], 3⟩) :=
  collectAssigned_single_word_eof _ _ _ 3 rfl blanks_example (by decide)

example : collectAssigned ⟨" \t ".toList ++ "None".toList ++ " \n ".toList ++ ';' :: " b = 2".toList, 3⟩
      { value := "a".toList, line := some 3 }
    = .ok ([{ value := "None".toList, quote := none, line := some 3 }],
           ⟨" b = 2".toList, 3 + nlCount " \n ".toList⟩) :=
  collectAssigned_semicolon _ _ _ _ _ 3 rfl blanks_example
    (by intro d hd
        have : " \n ".toList = [' ', '\n', ' '] := by rfl
        rw [this] at hd
        simp at hd
        rcases hd with e | e | e <;> subst e <;> rfl)
    (by decide)

example : ∃ tb, InlineSpace tb ∧
    collectAssigned ⟨" \t ".toList ++ "1.5".toList ++ " \t ".toList
        ++ '#' :: " it's {fine}; x=\"1\" \\ ok  ".toList ++ '\n' :: "; b = 2".toList, 7⟩
      { value := "a".toList, line := some 7 }
    = .ok ([{ value := "1.5".toList, quote := none, line := some 7 }],
           ⟨tb ++ '\n' :: "; b = 2".toList, 7⟩) :=
  trailing_comment_ignored _ _ _ _ _ _ 7 rfl blanks_example blanks_example (by decide +kernel) (by decide +kernel)
    (by decide +kernel) (by decide +kernel)
    (by intro c hc
        have : firstNonSpace "; b = 2".toList = some ';' := by rfl
        rw [this] at hc
        cases hc
        decide)

/-- the reader rejects the comment texts of finding D20 and a final continuation backslash -/
example : commentOk false true " the \" char".toList = false := by decide +kernel
example : commentOk false true " 'multi".toList = false := by decide
example : commentOk false true " foo \\".toList = false := by decide +kernel
example : commentOk false true " foo \\ ".toList = false := by decide +kernel
example : commentOk false true " foo\\ x\\y \\z".toList = true := by decide +kernel

end Phil.C02
