/-
  C19 — Printing filters show exactly what the requested levels allow.
    1. prefix law: printing under an extra leading prefix `p` = printing with the width reduced by
       `|p|` and `p` prepended to every produced line;
    2. expert-level gate: printing with `expert_level = k ≥ 0` = printing the tree pruned at `k`
       with the gate off; a negative `k` switches the gate off;
    3. attribute levels only add lines.
  Property theorems only; lemmas (and the definitions of `prune`, `ExpertWF`, `DottedWF`, `showOpt`,
  `AllVisible`) are in Phil/Proofs/ShowLaws.lean.  Statements hold for all trees (no size bound).
-/
import Phil.Proofs.ShowLaws
import Phil.Props.C03
namespace Phil.C19
open Phil

/-- equality of results is decidable (used by the concrete instances below, checked by the kernel) -/
local instance : DecidableEq (R (List Str)) := fun a b =>
  match a, b with
  | .ok x, .ok y => if h : x = y then isTrue (by rw [h]) else isFalse (by intro h'; cases h'; exact h rfl)
  | .error e, .error f => if h : e = f then isTrue (by rw [h]) else isFalse (by intro h'; cases h'; exact h rfl)
  | .ok _, .error _ => isFalse (by intro h; cases h)
  | .error _, .ok _ => isFalse (by intro h; cases h)

/-! ### a tree used by the concrete instances

```
a.b = 1            (expert_level 2; `a` is a dotted-name scope)
s                  (.help = "scope help")
{
  x = 1            (expert_level 1)
  !y = "a⏎b"       (one quoted word containing a newline)
  v { w = 3 }      (v: expert_level 4)
}
```
-/
def exTree : Obj :=
  .scope { name := [] } [
    .scope { name := "a".toList } [
      .defn { name := "b".toList, mergeNames := true, attrs := [("expert_level", .int 2)] }
        [⟨"1".toList, none, none⟩] ],
    .scope { name := "s".toList, attrs := [("help", .str "scope help".toList)] } [
      .defn { name := "x".toList, attrs := [("expert_level", .int 1)] } [⟨"1".toList, none, none⟩],
      .defn { name := "y".toList, disabled := true } [⟨"a\nb".toList, some .d1, none⟩],
      .scope { name := "v".toList, attrs := [("expert_level", .int 4)] } [
        .defn { name := "w".toList } [⟨"3".toList, none, none⟩] ] ] ]

/-! ### 1. prefix law -/

/-- **Prefix law.**  For every option record, tree, list of merged (dotted) names, extra prefix `p`
    and base prefix `pre`: printing under the prefix `p ++ pre` gives exactly the lines printed under
    `pre` with the width reduced by `|p|`, each with `p` prepended — including the error outcomes
    (`ValueError` of textwrap for a non-positive wrap width, unsupported tab).  A "line" is one
    element of the produced list (a quoted word containing a newline character stays inside one
    element).  No hypothesis is needed: the statement of the task holds as given. -/
theorem show_prefix (o : ShowOpts) (t : Obj) (ms : List Str) (p pre : Str) :
    showObj o t ms (p ++ pre)
      = (showObj { o with width := o.width - p.length } t ms pre).map (List.map (p ++ ·)) :=
  (Phil.show_prefix o p).1 t ms pre

/-- Prefix law for a list of sibling objects (`showObjs`). -/
theorem show_prefix_list (o : ShowOpts) (ts : List Obj) (ms : List Str) (p pre : Str) :
    showObjs o ts ms (p ++ pre)
      = (showObjs { o with width := o.width - p.length } ts ms pre).map (List.map (p ++ ·)) :=
  (Phil.show_prefix o p).2 ts ms pre

/-- Prefix law for `show_attributes`. -/
theorem show_attributes_prefix (names : List String) (attrs : Attrs) (p pre : Str)
    (level width : Int) :
    showAttributes names attrs (p ++ pre) level width
      = (showAttributes names attrs pre level (width - p.length)).map (List.map (p ++ ·)) :=
  showAttributes_prefix names attrs p pre level width

/-- Prefix law for the value lines of a definition, with the lines printed so far. -/
theorem show_words_prefix (p : Str) (width : Int) (ws : List Word) (indent line : Str)
    (out : List Str) :
    showWords width (p ++ indent) ws (p ++ line) (out.map (p ++ ·))
      = (showWords (width - p.length) indent ws line out).map (p ++ ·) :=
  showWords_prefix p width ws indent line out

/-- Prefix law for `definition.show`. -/
theorem show_defn_prefix (o : ShowOpts) (m : Meta) (ws : List Word) (ms : List Str) (p pre : Str) :
    showDefn o m ws ms (p ++ pre)
      = (showDefn { o with width := o.width - p.length } m ws ms pre).map (List.map (p ++ ·)) :=
  showDefn_prefix o m ws ms p pre

/-- Prefix law for `scope.as_str`: the text is the lines of the narrower print, each with `p`
    prepended, joined by newlines. -/
theorem as_str_prefix (o : ShowOpts) (t : Obj) (p pre : Str) :
    asStr o t (p ++ pre)
      = (showObj { o with width := o.width - p.length } t [] pre).map
          (fun ls => unlines (ls.map (p ++ ·))) := by
  unfold asStr
  rw [show_prefix]
  cases showObj { o with width := o.width - p.length } t [] pre <;> rfl

/-- Concrete instance (level 2, width 24, so that the help text of `s` is wrapped): the left side
    of the law … -/
example : showObj { level := 2, width := 24 } exTree [] ("    ".toList ++ "  ".toList) =
    .ok ["      a.b = 1".toList, "        .expert_level = 2".toList, "      s".toList,
         "        .help = \"scope\"".toList, "                \"help\"".toList, "      {".toList,
         "        x = 1".toList, "          .expert_level = 1".toList, "        !y = \"a\nb\"".toList,
         "        v".toList, "          .expert_level = 4".toList, "        {".toList,
         "          w = 3".toList, "        }".toList, "      }".toList] := by
  -- a literal is `String.ofList […]` for `rw` and the kernel: no UTF-8 decoding
  repeat rw [String.toList_ofList]
  decide +kernel

/-- … and the right side: width `24 - 4`, prefix `"  "`, then four blanks prepended. -/
example : (showObj { level := 2, width := 24 - ("    ".toList).length } exTree [] "  ".toList).map
      (List.map ("    ".toList ++ ·)) =
    .ok ["      a.b = 1".toList, "        .expert_level = 2".toList, "      s".toList,
         "        .help = \"scope\"".toList, "                \"help\"".toList, "      {".toList,
         "        x = 1".toList, "          .expert_level = 1".toList, "        !y = \"a\nb\"".toList,
         "        v".toList, "          .expert_level = 4".toList, "        {".toList,
         "          w = 3".toList, "        }".toList, "      }".toList] := by
  repeat rw [String.toList_ofList]
  decide +kernel

/-- The law covers the error outcome: a width too small for wrapping fails on both sides. -/
example : showObj { level := 2, width := 14 } exTree [] ("    ".toList ++ []) =
    .error (.stray "ValueError" "textwrap_width") := by decide +kernel

/-! ### 2. expert-level gate -/

/-- **Expert-level gate = pruning** (`k ≥ 0`).  If no object of the tree has an `expert_level`
    that is neither unset nor an integer (`ExpertWF`), and in every named scope the children agree
    on `mergeNames` (`DottedWF`; parser-built trees: a scope whose child continues a dotted name has
    exactly that one child), then printing with `expert_level = k` equals printing, with the gate off,
    the tree `prune k t` from which every object with an own integer level above `k` has been
    removed (and every dotted-name scope that lost all its children); `showOpt` prints nothing for
    `none`. -/
theorem show_expert_prune (o : ShowOpts) (k : Int) (hk : 0 ≤ k) (t : Obj) (ms : List Str)
    (pre : Str) (hw : ExpertWF t = true) (hd : DottedWF t = true) :
    showObj { o with expert := some k } t ms pre
      = showOpt { o with expert := none } (prune k t) ms pre :=
  (show_prune o k hk).1 t ms pre hw hd

/-- the two readings of `show_expert_prune` -/
theorem show_expert_prune_none (o : ShowOpts) (k : Int) (hk : 0 ≤ k) (t : Obj) (ms : List Str)
    (pre : Str) (hw : ExpertWF t = true) (hd : DottedWF t = true) (hp : prune k t = none) :
    showObj { o with expert := some k } t ms pre = .ok [] := by
  rw [show_expert_prune o k hk t ms pre hw hd, hp]; rfl

theorem show_expert_prune_some (o : ShowOpts) (k : Int) (hk : 0 ≤ k) (t t' : Obj) (ms : List Str)
    (pre : Str) (hw : ExpertWF t = true) (hd : DottedWF t = true) (hp : prune k t = some t') :
    showObj { o with expert := some k } t ms pre = showObj { o with expert := none } t' ms pre := by
  rw [show_expert_prune o k hk t ms pre hw hd, hp]; rfl

/-- Expert-level gate = pruning, list of siblings. -/
theorem show_expert_prune_list (o : ShowOpts) (k : Int) (hk : 0 ≤ k) (ts : List Obj)
    (ms : List Str) (pre : Str) (hw : ExpertWFs ts = true) (hd : DottedWFs ts = true) :
    showObjs { o with expert := some k } ts ms pre
      = showObjs { o with expert := none } (pruneList k ts) ms pre :=
  showObjs_prune_aux o k hk ts ms pre hw hd

/-- What pruning leaves: no object of `prune k t` has an own integer level above `k` (so the gate-off
    print on the right of `show_expert_prune` shows only allowed objects, and all of them). -/
theorem prune_all_visible (k : Int) (t t' : Obj) (h : prune k t = some t') :
    AllVisible k t' = true :=
  (prune_allVisible k).1 t t' h

/-- **Negative level = gate off.**  Holds for every tree; `ExpertWF` is not needed because with a
    negative `k` the comparison with a non-integer level is never made. -/
theorem show_expert_negative (o : ShowOpts) (k : Int) (hk : k < 0) (t : Obj) (ms : List Str)
    (pre : Str) :
    showObj { o with expert := some k } t ms pre = showObj { o with expert := none } t ms pre :=
  (show_expert_neg o k hk).1 t ms pre

theorem show_expert_negative_list (o : ShowOpts) (k : Int) (hk : k < 0) (ts : List Obj)
    (ms : List Str) (pre : Str) :
    showObjs { o with expert := some k } ts ms pre = showObjs { o with expert := none } ts ms pre :=
  showObjs_expert_neg_aux o k hk ts ms pre

/-- `DottedWF`'s local condition holds for a scope with exactly one child (the shape `scope.adopt`
    builds for a dotted name) … -/
theorem uniformMerge_single (c : Obj) : uniformMerge [c] = true := by
  simp [uniformMerge, firstMerges]

/-- … and for a scope none of whose children continues a dotted name. -/
theorem uniformMerge_plain (objs : List Obj) (h : ∀ c, c ∈ objs → c.meta.mergeNames = false) :
    uniformMerge objs = true := by
  cases objs with
  | nil => rfl
  | cons x xs =>
    simp only [uniformMerge, firstMerges, List.all_eq_true]
    intro c hc
    rw [h c hc, h x List.mem_cons_self]; rfl

/-- The hypotheses hold on the example tree … -/
example : ExpertWF exTree = true ∧ DottedWF exTree = true := ⟨rfl, rfl⟩

/-- … at level 1 everything above level 1 is gone: `a.b` (level 2, and with it the dotted scope
    `a`) and the scope `v` (level 4) with its content. -/
example : showObj { expert := some 1, level := 1 } exTree [] [] =
    .ok ["s".toList, "  .help = \"scope help\"".toList, "{".toList, "  x = 1".toList,
         "  !y = \"a\nb\"".toList, "}".toList] := by
  repeat rw [String.toList_ofList]
  decide +kernel

example : showOpt { expert := none, level := 1 } (prune 1 exTree) [] [] =
    .ok ["s".toList, "  .help = \"scope help\"".toList, "{".toList, "  x = 1".toList,
         "  !y = \"a\nb\"".toList, "}".toList] := by
  repeat rw [String.toList_ofList]
  decide +kernel

/-! #### why the side conditions and the removal rule are there -/

/-- Without the removal rule for emptied dotted-name scopes the statement is false: `a.b = 1` with
    `b` hidden prints nothing, but the scope `a` with its child removed prints `a {` `}`. -/
example :
    let t : Obj := .scope { name := "a".toList }
      [.defn { name := "b".toList, mergeNames := true, attrs := [("expert_level", .int 5)] }
        [⟨"1".toList, none, none⟩]]
    showObj { expert := some 0 } t [] [] = .ok [] ∧
    showObj {} (.scope { name := "a".toList } []) [] [] = .ok ["a {".toList, "}".toList] := by
  decide +kernel

/-- `DottedWF` is needed: the dotted-scope test looks at the first child only.  Here the first
    child (hidden at level 0) does not merge names but the second does; the original prints an
    ordinary scope, the pruned tree prints a dotted name. -/
example :
    let t : Obj := .scope { name := "s".toList }
      [.defn { name := "a".toList, attrs := [("expert_level", .int 5)] } [⟨"1".toList, none, none⟩],
       .defn { name := "b".toList, mergeNames := true } [⟨"2".toList, none, none⟩]]
    ExpertWF t = true ∧ DottedWF t = false ∧
    showObj { expert := some 0 } t [] [] = .ok ["s {".toList, "  b = 2".toList, "}".toList] ∧
    showOpt {} (prune 0 t) [] [] = .ok ["s.b = 2".toList] := by
  decide +kernel

/-- `ExpertWF` is needed: a non-integer level makes the gated print fail (`TypeError` of the
    comparison), the gate-off print succeeds. -/
example :
    let t : Obj := .defn { name := "a".toList, attrs := [("expert_level", .str "x".toList)] }
      [⟨"1".toList, none, none⟩]
    ExpertWF t = false ∧
    showObj { expert := some 0 } t [] [] = .error (.stray "TypeError" "expert_level_compare") ∧
    showOpt {} (prune 0 t) [] [] = .ok ["a = 1".toList] := by
  decide +kernel

/-- `k ≥ 0` is needed in `show_expert_prune`: at `k = -1` the gate is off, pruning is not. -/
example :
    let t : Obj := .defn { name := "a".toList, attrs := [("expert_level", .int 0)] }
      [⟨"1".toList, none, none⟩]
    showObj { expert := some (-1) } t [] [] = .ok ["a = 1".toList] ∧
    showOpt {} (prune (-1) t) [] [] = .ok [] := by
  decide +kernel

/-! ### 3. attribute levels only add lines -/

/-- Success at `level + 1` implies success at `level` (a lower level cannot fail where the higher one
    succeeds), and the lines of the lower level are a sublist of those of the higher level. -/
theorem attrs_level_mono_ok (names : List String) (attrs : Attrs) (pre : Str) (level width : Int)
    (l2 : List Str) (h2 : showAttributes names attrs pre (level + 1) width = .ok l2) :
    ∃ l1, showAttributes names attrs pre level width = .ok l1 ∧ l1.Sublist l2 := by
  rw [showAttributes_all] at h2 ⊢
  by_cases h0 : level ≤ 0
  · rw [if_pos h0]; exact ⟨[], rfl, List.nil_sublist _⟩
  · rw [if_neg h0]
    rw [if_neg (by omega)] at h2
    exact attrAll_mono attrs pre level width names l2 h2

/-- **Attribute levels only add lines.**  When `show_attributes` succeeds at `level` and at
    `level + 1`, the lines of the lower level are a sublist (same order, some lines missing) of those
    of the higher level.  The hypothesis `level ≥ 0` of the task is not needed. -/
theorem attrs_level_mono (names : List String) (attrs : Attrs) (pre : Str) (level width : Int)
    (l1 l2 : List Str) (h1 : showAttributes names attrs pre level width = .ok l1)
    (h2 : showAttributes names attrs pre (level + 1) width = .ok l2) : l1.Sublist l2 := by
  obtain ⟨l1', h1', hs⟩ := attrs_level_mono_ok names attrs pre level width l2 h2
  rw [h1] at h1'
  cases h1'
  exact hs

/-- At a level `≤ 0` no attribute line is printed. -/
theorem attrs_level_nonpos (names : List String) (attrs : Attrs) (pre : Str) (level width : Int)
    (h : level ≤ 0) : showAttributes names attrs pre level width = .ok [] :=
  showAttributes_level_nonpos names attrs pre level width h

/-- Concrete instance: a definition with a help text and a type; level 1 prints the help, level 2
    adds the set attributes, level 3 adds the unset ones. -/
def exAttrs : Attrs := [("help", .str "h".toList), ("optional", .bool true)]

example : showAttributes defAttrNames exAttrs [] 1 79 = .ok ["  .help = h".toList] := by decide +kernel
example : showAttributes defAttrNames exAttrs [] 2 79 =
    .ok ["  .help = h".toList, "  .optional = True".toList] := by
  repeat rw [String.toList_ofList]
  decide +kernel
example : showAttributes defAttrNames exAttrs [] 3 79 =
    .ok ["  .help = h".toList, "  .caption = None".toList, "  .short_caption = None".toList,
         "  .optional = True".toList, "  .type = None".toList, "  .multiple = None".toList,
         "  .input_size = None".toList, "  .style = None".toList,
         "  .expert_level = None".toList] := by
  repeat rw [String.toList_ofList]
  decide +kernel

end Phil.C19
