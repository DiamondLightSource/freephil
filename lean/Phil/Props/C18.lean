/-
  C18 — Extracted parameter objects are guarded, self-describing and detached.
  Theorems about the scope_extract model (Phil/ScopeExtract.lean): path of every node, assignment
  guard, inject-once.  Detachment (no aliasing with the PHIL tree) is object identity and is validated
  by the harness, not proved.
-/
import Phil.ScopeExtract
namespace Phil.C18
open Phil

theorem dotted_snoc (l : List Str) (x : Str) (h : l ≠ []) : dotted (l ++ [x]) = dotted l ++ '.' :: x := by
  induction l with
  | nil => exact absurd rfl h
  | cons a t ih =>
    cases t with
    | nil => simp [dotted]
    | cons b t' =>
      have := ih (by simp)
      simp [dotted] at this ⊢
      simp [this]

/-- the name chain (self first, root last) of the node reached from the root through `names` -/
def chainOf (rev : List Str) : List (Option Str) := rev.map some ++ [some []]

theorem philPath_step (own p : Str) (rest : List (Option Str)) (hp : p.isEmpty = false) (o : Option Str) :
    philPath (some own :: some p :: rest) o
      = (philPath (some p :: rest) none ++ '.' :: own) ++ (match o with | none => [] | some x => '.' :: x) := by
  cases o <;> simp [philPath, hp]

/-- the path of the node with the chain `chainOf rev`, with or without a parameter name: one induction
    along the chain, `philPath_step` at every link -/
theorem philPath_chainOf (rev : List Str) (hne : ∀ n ∈ rev, n ≠ []) (hk : rev ≠ []) (o : Option Str) :
    philPath (chainOf rev) o = dotted rev.reverse ++ (match o with | none => [] | some x => '.' :: x) := by
  induction rev generalizing o with
  | nil => exact absurd rfl hk
  | cons own parents ih =>
    cases parents with
    | nil =>
      have hoe := List.isEmpty_eq_false_iff.mpr (hne own (by simp))
      cases o <;> simp [chainOf, philPath, dotted, hoe]
    | cons p ps =>
      have hstep := philPath_step own p (ps.map some ++ [some []]) (List.isEmpty_eq_false_iff.mpr (hne p (by simp))) o
      have ih' := ih (fun n hn => hne n (by simp [hn])) (by simp) none
      simp only [chainOf, List.map_cons, List.cons_append] at hstep ih' ⊢
      rw [hstep, ih', List.reverse_cons (a := own), dotted_snoc _ _ (by simp)]
      cases o <;> simp

/-- Every extracted scope reached from the root through the non-empty names `n₁ … n_k` (given here
    self-first as `rev`) reports the dotted path `n₁.….n_k` — for any depth. -/
theorem phil_path_correct (rev : List Str) (hne : ∀ n ∈ rev, n ≠ []) (hk : rev ≠ []) :
    philPath (chainOf rev) none = dotted rev.reverse := by
  rw [philPath_chainOf rev hne hk none, List.append_nil]

/-- … and the path it reports for one of its parameters is that path extended by the parameter name. -/
theorem phil_path_of_parameter (rev : List Str) (hne : ∀ n ∈ rev, n ≠ []) (hk : rev ≠ []) (o : Str) :
    philPath (chainOf rev) (some o) = dotted (rev.reverse ++ [o]) := by
  rw [philPath_chainOf rev hne hk (some o), dotted_snoc _ _ (by simpa using hk)]

/-- the root object reports the bare parameter name -/
theorem root_path (o : Str) : philPath (chainOf []) (some o) = o ∧ philPath (chainOf []) none = [] := by
  simp [chainOf, philPath]

/-- Assignment guard: a declared parameter is accepted … -/
theorem setattr_declared (chain : List (Option Str)) (fields : List (Str × PVal)) (name : Str) (v : PVal)
    (h : fields.any (·.1 == name) = true) :
    setAttr chain fields name v = .ok (fieldSet fields name v) := by
  simp [setAttr, hasAttr, h]

/-- … and any other (non-reserved) name is rejected with an AttributeError whose text spells
    `path.name`. -/
theorem setattr_guard (chain : List (Option Str)) (fields : List (Str × PVal)) (name : Str) (v : PVal)
    (h1 : fields.any (·.1 == name) = false) (h2 : builtinAttrs.contains (String.ofList name) = false) :
    setAttr chain fields name v = .attributeError (errPath chain name) := by
  have h2' : String.ofList name ∉ builtinAttrs := by simpa using h2
  simp [setAttr, hasAttr, h1, h2']

/-- the path spelled in the error is the node's dotted path followed by the rejected name -/
theorem setattr_error_path (rev : List Str) (hne : ∀ n ∈ rev, n ≠ []) (hk : rev ≠ []) (name : Str) :
    errPath (chainOf rev) name = dotted (rev.reverse ++ [name]) := by
  have hb := phil_path_correct rev hne hk
  have hne' : (philPath (chainOf rev) none).isEmpty = false := by
    rw [hb]
    cases hr : rev.reverse with
    | nil => simp at hr; exact absurd hr hk
    | cons a t =>
      have ha : a ≠ [] := hne a (by
        have : a ∈ rev.reverse := by rw [hr]; simp
        simpa using this)
      cases a with
      | nil => exact absurd rfl ha
      | cons c cs => cases t <;> simp [dotted]
  simp only [errPath, hne', Bool.false_eq_true, ↓reduceIte]
  rw [hb, dotted_snoc _ _ (by simpa using hk)]

/-- Injecting a new name works exactly once. -/
theorem inject_once (chain : List (Option Str)) (fields : List (Str × PVal)) (name : Str) (v v' : PVal)
    (h1 : fields.any (·.1 == name) = false) (h2 : builtinAttrs.contains (String.ofList name) = false) :
    ∃ fields', inject chain fields name v = .ok fields' ∧
      inject chain fields' name v' = .attributeError (errPath chain name) := by
  have h2' : String.ofList name ∉ builtinAttrs := by simpa using h2
  refine ⟨fieldSet fields name v, ?_, ?_⟩
  · simp [inject, hasAttr, h1, h2']
  · have : (fieldSet fields name v).any (·.1 == name) = true := by
      simp [fieldSet, h1]
    simp [inject, hasAttr, this]

/-- non-vacuity: a node two levels deep -/
example : philPath (chainOf ["b".toList, "a".toList]) (some "x".toList) = "a.b.x".toList := by
  rw [phil_path_of_parameter _ (by simp) (by simp)]; rfl

end Phil.C18
