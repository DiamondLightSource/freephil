/-
  C11 IN TREES — choices inside the closed form of fetch (namespace `Phil.C11`), with the companion
  facts for C05 ("the last value wins": for a choice the last enabled source DECIDES, but every
  matching source is CHECKED).

  Model: Phil/Fetch.lean (`fetchScope`/`fetchRoot`).  Lemmas: Phil/Proofs/FetchChoice.lean.
  Class: `TreeMasterC` — the nested masters of Phil/Props/C06Tree.lean (`TreeMaster`: enabled
  non-multiple scopes and definitions to any depth, names non-empty, dot-free, pairwise distinct
  among siblings) with the restriction "plain definition" DROPPED: definitions of any type, choices
  (single / multi, `.optional` anything) included, `.deprecated` or not.  Only `.multiple` stays
  outside.  Sources: arbitrary trees of definitions and named scopes, enabled or disabled, dotted or
  braced (`SrcTree`).

  Specification (fuel-free, structural recursion on the master):
    `srcVal mm mws ms`  what ONE matching source yields for the master definition `mm = mws`:
                        "incompatible" for a scope; for a definition `fetch_value`, i.e. for a choice
                        `choiceFetch mws optional ms.srcWords` — the MASTER's words, never the previous
                        result; `None` for a deprecated definition given its default;
    `firstErrC`         the error of the first failing matching source, in document order;
    `treeObjC`          a master definition: `firstErrC` of ALL matching sources, else the value of the
                        LAST (`lastDef`), else the master definition (nothing if deprecated); a master
                        scope: "incompatible" if an enabled definition bears its name, else rebuilt
                        from `srcStep`;
    `treeResultC`       the children of the result, or the first error in master order.
  Validation before proving: 1600 random (master, 0–3 sources) inputs, 432 of them errors: the
  specification agreed with the real `master.fetch(sources)` on all (words, quotes, dropped
  deprecated definitions, error class).
-/
import Phil.Proofs.FetchChoice
import Phil.Proofs.ObjEq
import Phil.Props.C11
import Phil.Props.C06Tree

namespace Phil.C11
open Phil

/-! ### 1. the closed form -/

/-- **Closed form of fetch on nested masters with choices and deprecated definitions.**  With fuel
    beyond the nesting depth, `fetchScope` IS `treeResultC`, error for error, and consumes
    `treeUsed`. -/
theorem fetch_tree_choice_total (e : Envs) (fuel : Nat) (sm : Meta) (mkids srcs : List Obj)
    (hf : TreeMasterC mkids) (hfuel : depthL mkids + 1 ≤ fuel) (hsd : sm.disabled = false)
    (hsrc : SrcTree srcs) :
    fetchScope e fuel false sm mkids srcs =
      match treeResultC mkids srcs with
      | .error err => .error err
      | .ok r => .ok (.scope { sm with tmpl := 0 } r, treeUsed mkids srcs) :=
  Phil.fetch_tree_choice_total e fuel sm mkids srcs hf hfuel hsd hsrc

/-- `master.fetch(sources)` on parsed roots -/
theorem fetchRoot_tree_choice (e : Envs) (master : List Obj) (ss : List (List Obj))
    (hf : TreeMasterC master) (hd : depthL master ≤ 1000) (hsrc : SrcTree ss.flatten) :
    fetchRoot e false master ss =
      match treeResultC master ss.flatten with
      | .error err => .error err
      | .ok r => .ok (.scope { name := [], id := some 0 } r, treeUsed master ss.flatten) :=
  Phil.fetch_tree_choice_total e _ _ master ss.flatten hf (fetchRoot_fuel_tree master hd) rfl hsrc

/-- the class extends `TreeMaster`: every theorem here applies to the masters of C06Tree/C05Tree -/
theorem treeMaster_is_treeMasterC {mkids : List Obj} (h : TreeMaster mkids) : TreeMasterC mkids :=
  ⟨TreeKids.toC mkids h.kids, h.distinct⟩

theorem fetch_ok_is_spec (e : Envs) (fuel : Nat) (sm : Meta) (mkids srcs : List Obj)
    (hf : TreeMasterC mkids) (hfuel : depthL mkids + 1 ≤ fuel) (hsd : sm.disabled = false)
    (hsrc : SrcTree srcs) (ro : Obj) (used : List Nat)
    (h : fetchScope e fuel false sm mkids srcs = .ok (ro, used)) :
    treeResultC mkids srcs = .ok ro.children ∧ used = treeUsed mkids srcs := by
  rw [fetch_tree_choice_total e fuel sm mkids srcs hf hfuel hsd hsrc] at h
  cases hr : treeResultC mkids srcs with
  | error err => rw [hr] at h; cases h
  | ok r => rw [hr] at h; cases h; exact ⟨rfl, rfl⟩

/-! ### 2. the value of a choice at any depth: the LAST source decides, through `choiceFetch` -/

/-- **C11 at depth.**  Whenever the fetch succeeds: where the master has the (not deprecated) choice
    definition `mm = mws` at the path `ps.n`, the result has at the same path
    * the master definition itself when no enabled source definition is reached by the path;
    * otherwise the definition whose words are `choiceFetch mws optional d.srcWords` for the LAST
      such source `d` (over all sources and all spellings) — the master's own words re-drawn, so all
      theorems of Phil/Props/C11.lean apply to them (next theorems). -/
theorem choice_value_at_depth (e : Envs) (fuel : Nat) (sm : Meta) (mkids srcs : List Obj)
    (hf : TreeMasterC mkids) (hfuel : depthL mkids + 1 ≤ fuel) (hsd : sm.disabled = false)
    (hsrc : SrcTree srcs) (ro : Obj) (used : List Nat)
    (h : fetchScope e fuel false sm mkids srcs = .ok (ro, used))
    (ps : List Str) (n : Str) (mm : Meta) (mws : List Word) (b : Bool)
    (hm : defAt mkids ps n = some (.defn mm mws))
    (ht : mm.attrs.get "type" = .conv (.choice b)) (hdep : (mm.attrs.get "deprecated").truthy = false) :
    match lastDef (srcAt srcs ps) n with
    | none => defAt ro.children ps n = some (.defn mm mws)
    | some d => ∃ ws, choiceFetch mws (mm.attrs.get "optional") d.srcWords false = .ok ws ∧
        defAt ro.children ps n = some (.defn { mm with tmpl := 0 } ws) := by
  obtain ⟨hR, _⟩ := fetch_ok_is_spec e fuel sm mkids srcs hf hfuel hsd hsrc ro used h
  obtain ⟨hall, ho2⟩ := defAt_treeResultC ps mkids srcs ro.children n mm mws hf hR hm
  cases hl : lastDef (srcAt srcs ps) n with
  | none =>
    rw [hl] at ho2
    simp only [finishC, hdep, Bool.false_eq_true, if_false, List.head?_cons] at ho2
    exact ho2
  | some d =>
    rw [hl] at ho2
    simp only at ho2 ⊢
    have hne := hall d (List.mem_of_getLast? hl)
    cases d with
    | scope m k => cases hne
    | defn dm dws =>
      rw [srcVal_choice mm mws b dm dws ht hdep] at hne ho2
      cases hc : choiceFetch mws (mm.attrs.get "optional") (Obj.defn dm dws).srcWords false with
      | error err => rw [hc] at hne; cases hne
      | ok ws =>
        rw [hc] at ho2
        exact ⟨ws, rfl, ho2⟩

/-- **Alternatives preserved at depth** (C11, clause 1): names, order and quoting of the result
    definition at `ps.n` are the master's — for every number of sources at every depth.
    (`NoDoubleStar`: no master alternative spelt with two leading stars, finding D30; the last source
    not the plain word `Auto`, which replaces the whole value.) -/
theorem choice_alts_preserved_at_depth (e : Envs) (fuel : Nat) (sm : Meta) (mkids srcs : List Obj)
    (hf : TreeMasterC mkids) (hfuel : depthL mkids + 1 ≤ fuel) (hsd : sm.disabled = false)
    (hsrc : SrcTree srcs) (ro : Obj) (used : List Nat)
    (h : fetchScope e fuel false sm mkids srcs = .ok (ro, used))
    (ps : List Str) (n : Str) (mm : Meta) (mws : List Word) (b : Bool)
    (hm : defAt mkids ps n = some (.defn mm mws))
    (ht : mm.attrs.get "type" = .conv (.choice b)) (hdep : (mm.attrs.get "deprecated").truthy = false)
    (hds : NoDoubleStar mws)
    (hauto : ∀ d, lastDef (srcAt srcs ps) n = some d → isPlainAuto d.srcWords = false) :
    ∃ m ws, defAt ro.children ps n = some (.defn m ws) ∧ m.name = n ∧ m.attrs = mm.attrs ∧
      ws.map (fun w => ((stripStar w.value).1, w.quote)) =
        mws.map (fun w => ((stripStar w.value).1, w.quote)) := by
  have hn : mm.name = n := (defAt_name ps mkids n _ hm).1
  have key := choice_value_at_depth e fuel sm mkids srcs hf hfuel hsd hsrc ro used h ps n mm mws b hm ht hdep
  cases hl : lastDef (srcAt srcs ps) n with
  | none => rw [hl] at key; exact ⟨mm, mws, key, hn, rfl, rfl⟩
  | some d =>
    rw [hl] at key
    obtain ⟨ws, hc, hdef⟩ := key
    exact ⟨_, ws, hdef, hn, rfl, choice_alts_preserved mws _ _ false ws hds hc (hauto d hl)⟩

/-- **Only what was asked is selected, at depth** (C11, clause 2, star-only sources): when the last
    source reached by the path consists of starred words, an alternative of the result is starred
    iff its lower-cased name is one of the lower-cased source names. -/
theorem choice_selected_star_at_depth (e : Envs) (fuel : Nat) (sm : Meta) (mkids srcs : List Obj)
    (hf : TreeMasterC mkids) (hfuel : depthL mkids + 1 ≤ fuel) (hsd : sm.disabled = false)
    (hsrc : SrcTree srcs) (ro : Obj) (used : List Nat)
    (h : fetchScope e fuel false sm mkids srcs = .ok (ro, used))
    (ps : List Str) (n : Str) (mm : Meta) (mws : List Word) (b : Bool)
    (hm : defAt mkids ps n = some (.defn mm mws))
    (ht : mm.attrs.get "type" = .conv (.choice b)) (hdep : (mm.attrs.get "deprecated").truthy = false)
    (d : Obj) (hl : lastDef (srcAt srcs ps) n = some d)
    (hstar : ∀ w ∈ d.srcWords, (stripStar w.value).2 = true) :
    defAt ro.children ps n = some (.defn { mm with tmpl := 0 } (mws.map (fun w =>
      let v := (stripStar w.value).1
      { value := if lower v ∈ d.srcWords.map (fun x => lower (stripStar x.value).1) then '*' :: v else v,
        quote := w.quote, line := w.line }))) := by
  have key := choice_value_at_depth e fuel sm mkids srcs hf hfuel hsd hsrc ro used h ps n mm mws b hm ht hdep
  rw [hl] at key
  obtain ⟨ws, hc, hdef⟩ := key
  rw [hdef, choice_selected_star mws _ _ false ws hstar hc]

/-- **C05 on the larger class** ("the last value wins", unchanged for definitions that are not
    choices and not deprecated): the result definition at `ps.n` carries the (resolved) words of the
    LAST enabled source definition reached by the path, or is the master definition. -/
theorem plain_value_at_depth (e : Envs) (fuel : Nat) (sm : Meta) (mkids srcs : List Obj)
    (hf : TreeMasterC mkids) (hfuel : depthL mkids + 1 ≤ fuel) (hsd : sm.disabled = false)
    (hsrc : SrcTree srcs) (ro : Obj) (used : List Nat)
    (h : fetchScope e fuel false sm mkids srcs = .ok (ro, used))
    (ps : List Str) (n : Str) (mm : Meta) (mws : List Word)
    (hm : defAt mkids ps n = some (.defn mm mws))
    (ht : ∀ b, mm.attrs.get "type" ≠ .conv (.choice b))
    (hdep : (mm.attrs.get "deprecated").truthy = false) :
    defAt ro.children ps n =
      some (match lastDef (srcAt srcs ps) n with
            | some d => .defn { mm with tmpl := 0 } d.srcWords
            | none => .defn mm mws) := by
  obtain ⟨hR, _⟩ := fetch_ok_is_spec e fuel sm mkids srcs hf hfuel hsd hsrc ro used h
  obtain ⟨hall, ho2⟩ := defAt_treeResultC ps mkids srcs ro.children n mm mws hf hR hm
  cases hl : lastDef (srcAt srcs ps) n with
  | none =>
    rw [hl] at ho2
    simp only [finishC, hdep, Bool.false_eq_true, if_false, List.head?_cons] at ho2
    exact ho2
  | some d =>
    rw [hl] at ho2
    cases d with
    | scope m k => cases hall _ (List.mem_of_getLast? hl)
    | defn dm dws =>
      simp only [srcVal, fetchValueW_ok mm mws _ ⟨hdep, ht⟩] at ho2
      exact ho2

/-- **`master.fetch(sources)` on parsed roots, hypotheses in executable form** (`treeMasterCB`,
    `srcCheck`): the value of a choice at any depth. -/
theorem fetchRoot_choice_value_at_depth (e : Envs) (master : List Obj) (ss : List (List Obj))
    (hmc : treeMasterCB master = true) (hs : srcCheck ss.flatten = true)
    (ro : Obj) (used : List Nat) (h : fetchRoot e false master ss = .ok (ro, used))
    (ps : List Str) (n : Str) (mm : Meta) (mws : List Word) (b : Bool)
    (hm : defAt master ps n = some (.defn mm mws))
    (ht : mm.attrs.get "type" = .conv (.choice b)) (hdep : (mm.attrs.get "deprecated").truthy = false) :
    match lastDef (srcAt ss.flatten ps) n with
    | none => defAt ro.children ps n = some (.defn mm mws)
    | some d => ∃ ws, choiceFetch mws (mm.attrs.get "optional") d.srcWords false = .ok ws ∧
        defAt ro.children ps n = some (.defn { mm with tmpl := 0 } ws) :=
  have hM := treeMasterCB_sound master hmc
  choice_value_at_depth e _ _ master ss.flatten hM.1 (fetchRoot_fuel_tree master hM.2) rfl
    (srcCheck_sound _ hs).tree ro used h ps n mm mws b hm ht hdep

/-! ### 3. every matching source is checked -/

/-- **An unknown selected name in ANY matching source is an error** — whether or not a later source
    overrides it: if some enabled source definition `d` reached by the path of a master choice is
    refused by `choiceFetch`, the whole fetch fails. -/
theorem choice_bad_source_anywhere_fails (e : Envs) (fuel : Nat) (sm : Meta) (mkids srcs : List Obj)
    (hf : TreeMasterC mkids) (hfuel : depthL mkids + 1 ≤ fuel) (hsd : sm.disabled = false)
    (hsrc : SrcTree srcs)
    (ps : List Str) (n : Str) (mm : Meta) (mws : List Word) (b : Bool)
    (hm : defAt mkids ps n = some (.defn mm mws))
    (ht : mm.attrs.get "type" = .conv (.choice b)) (hdep : (mm.attrs.get "deprecated").truthy = false)
    (d : Obj) (hd : d ∈ defsNamed n (srcAt srcs ps)) (err : Err)
    (hbad : choiceFetch mws (mm.attrs.get "optional") d.srcWords false = .error err) :
    ∃ err', fetchScope e fuel false sm mkids srcs = .error err' ∧ ChoiceErr err' := by
  have hsv : srcVal mm mws d = .error err := by
    cases d with
    | scope m k => cases (mem_defsNamed.mp hd).2.1
    | defn dm dws => rw [srcVal_choice mm mws b dm dws ht hdep, hbad]; rfl
  rw [fetch_tree_choice_total e fuel sm mkids srcs hf hfuel hsd hsrc]
  cases hR : treeResultC mkids srcs with
  | error err' => exact ⟨err', rfl, treeResultC_error mkids srcs err' hR⟩
  | ok R =>
    -- every source definition reached by the path passed, `d` among them
    have := (defAt_treeResultC ps mkids srcs R n mm mws hf hR hm).1 d hd
    rw [hsv] at this
    cases this

/-- … in the wording of `choice_unknown_sorry`: a source word that is selected (starred, or the only
    word) and names no master alternative, in any matching source, outside the `a+b` form. -/
theorem choice_unknown_anywhere_fails (e : Envs) (fuel : Nat) (sm : Meta) (mkids srcs : List Obj)
    (hf : TreeMasterC mkids) (hfuel : depthL mkids + 1 ≤ fuel) (hsd : sm.disabled = false)
    (hsrc : SrcTree srcs)
    (ps : List Str) (n : Str) (mm : Meta) (mws : List Word) (b : Bool)
    (hm : defAt mkids ps n = some (.defn mm mws))
    (ht : mm.attrs.get "type" = .conv (.choice b)) (hdep : (mm.attrs.get "deprecated").truthy = false)
    (d : Obj) (hd : d ∈ defsNamed n (srcAt srcs ps))
    (hmw : (isPlainNone mws || isPlainAuto mws) = false)
    (ha : isPlainAuto d.srcWords = false)
    (hn : ((mm.attrs.get "optional").mandatory || !isPlainNone d.srcWords) = true)
    (hp : plusMode d.srcWords = false)
    (hbad : ∃ w ∈ d.srcWords, BadWord mws (d.srcWords.length == 1) w) :
    ∃ err', fetchScope e fuel false sm mkids srcs = .error err' ∧ ChoiceErr err' :=
  choice_bad_source_anywhere_fails e fuel sm mkids srcs hf hfuel hsd hsrc ps n mm mws b hm ht hdep d hd _
    (choice_unknown_sorry mws _ _ hmw ha hn hp hbad)

/-- **The only failures** of a fetch on this class: RuntimeError "incompatible" (a scope where the
    master has a definition or vice versa), or — from a choice definition of the master with words
    `mws` — Sorry listing ALL alternatives `mws`, or the assertion on a choice whose words are the
    plain `None`/`Auto`. -/
theorem choice_tree_errors (e : Envs) (fuel : Nat) (sm : Meta) (mkids srcs : List Obj)
    (hf : TreeMasterC mkids) (hfuel : depthL mkids + 1 ≤ fuel) (hsd : sm.disabled = false)
    (hsrc : SrcTree srcs) (err : Err)
    (h : fetchScope e fuel false sm mkids srcs = .error err) :
    err = incompatibleErr ∨
    ∃ (mm : Meta) (mws : List Word) (b : Bool), mm.attrs.get "type" = .conv (.choice b) ∧
      (((isPlainNone mws || isPlainAuto mws) = true ∧ err = .stray "AssertionError" "choice_fetch") ∨
       ((isPlainNone mws || isPlainAuto mws) = false ∧
         err = .sorry_ "not_a_possible_choice" (mws.map (·.value)))) := by
  rw [fetch_tree_choice_total e fuel sm mkids srcs hf hfuel hsd hsrc] at h
  cases hr : treeResultC mkids srcs with
  | ok r => rw [hr] at h; cases h
  | error err' =>
    rw [hr] at h
    cases h
    rcases treeResultC_error mkids srcs err hr with h1 | ⟨mm, mws, sws, b, hb, hc⟩
    · exact .inl h1
    · refine .inr ⟨mm, mws, b, hb, ?_⟩
      rcases choice_error_is_sorry mws _ sws false err hc with ⟨h1, h2⟩ | ⟨h1, _, h2⟩
      · exact .inl ⟨h1, h2⟩
      · exact .inr ⟨h1, h2⟩

/-! ### 4. deprecated definitions (the `dep` early exit of `fetch_value`), at depth -/

/-- A deprecated master definition without a source is NOT in the result. -/
theorem deprecated_unset_dropped (e : Envs) (fuel : Nat) (sm : Meta) (mkids srcs : List Obj)
    (hf : TreeMasterC mkids) (hfuel : depthL mkids + 1 ≤ fuel) (hsd : sm.disabled = false)
    (hsrc : SrcTree srcs) (ro : Obj) (used : List Nat)
    (h : fetchScope e fuel false sm mkids srcs = .ok (ro, used))
    (ps : List Str) (n : Str) (mm : Meta) (mws : List Word)
    (hm : defAt mkids ps n = some (.defn mm mws))
    (hdep : (mm.attrs.get "deprecated").truthy = true)
    (hl : lastDef (srcAt srcs ps) n = none) :
    defAt ro.children ps n = none := by
  obtain ⟨hR, _⟩ := fetch_ok_is_spec e fuel sm mkids srcs hf hfuel hsd hsrc ro used h
  have ho2 := (defAt_treeResultC ps mkids srcs ro.children n mm mws hf hR hm).2
  rw [hl] at ho2
  simp only [finishC, hdep, if_true, List.head?_nil] at ho2
  exact ho2

/-- A deprecated master definition is in the result exactly with the value of its LAST source,
    unless that value is the default (same word values, or both `None`, or both `Auto`): then it is
    dropped — whatever earlier sources said. -/
theorem deprecated_last_source_decides (e : Envs) (fuel : Nat) (sm : Meta) (mkids srcs : List Obj)
    (hf : TreeMasterC mkids) (hfuel : depthL mkids + 1 ≤ fuel) (hsd : sm.disabled = false)
    (hsrc : SrcTree srcs) (ro : Obj) (used : List Nat)
    (h : fetchScope e fuel false sm mkids srcs = .ok (ro, used))
    (ps : List Str) (n : Str) (mm : Meta) (mws : List Word)
    (hm : defAt mkids ps n = some (.defn mm mws))
    (hdep : (mm.attrs.get "deprecated").truthy = true)
    (d : Obj) (hl : lastDef (srcAt srcs ps) n = some d) :
    ∃ v, fetchValueW mm mws d.srcWords = .ok v ∧ defAt ro.children ps n = v := by
  obtain ⟨hR, _⟩ := fetch_ok_is_spec e fuel sm mkids srcs hf hfuel hsd hsrc ro used h
  obtain ⟨hall, ho2⟩ := defAt_treeResultC ps mkids srcs ro.children n mm mws hf hR hm
  rw [hl] at ho2
  simp only at ho2
  have hne := hall d (List.mem_of_getLast? hl)
  cases d with
  | scope m k => cases hne
  | defn dm dws =>
    rw [srcVal] at hne ho2
    cases hv : fetchValueW mm mws (Obj.defn dm dws).srcWords with
    | error err => rw [hv] at hne; cases hne
    | ok v =>
      rw [hv] at ho2
      refine ⟨v, rfl, ?_⟩
      cases v with
      | none => simp only [valOfC, finishC, hdep, if_true, List.head?_nil] at ho2; exact ho2
      | some x => simp only [valOfC, finishC, List.head?_cons] at ho2; exact ho2

/-! ### 5. instances through the parser; kernel-checked sharp edges (all replayed on Python) -/

/-- master: `t = 1 ; s { c = x X y (.type=choice) ; k = a *b (.type=choice(multi=True))
    ; o = 1 (.deprecated=True) ; u { e = a (.type=choice) } }` -/
def chM : List Obj :=
  C06.objsOf "t = 1\ns {\n  c = x X y\n  .type=choice\n  k = a *b\n  .type=choice(multi=True)\n  o = 1\n  .deprecated=True\n  u {\n    e = a\n    .type=choice\n  }\n}\n"

/-- sources: dotted and braced, two values for `s.k`, a disabled one -/
def chS : List Obj := C06.objsOf "s.c = *x\ns {\n  k = *a\n  !k = *zz\n}\ns.k = b+a\n"

section
attribute [local instance] objDecEq

theorem chM_eq : chM =
    [
      .defn { name := "t".toList, id := some 1, line := some 1 } [{ value := "1".toList, line := some 1 }],
      .scope { name := "s".toList, id := some 2, line := some 2 } [
        .defn { name := "c".toList, id := some 3, line := some 3, attrs := [("type", .conv (.choice false))] }
          [{ value := "x".toList, line := some 3 }, { value := "X".toList, line := some 3 },
          { value := "y".toList, line := some 3 }],
        .defn { name := "k".toList, id := some 4, line := some 5, attrs := [("type", .conv (.choice true))] }
          [{ value := "a".toList, line := some 5 }, { value := "*b".toList, line := some 5 }],
        .defn { name := "o".toList, id := some 5, line := some 7, attrs := [("deprecated", .bool true)] }
          [{ value := "1".toList, line := some 7 }],
        .scope { name := "u".toList, id := some 6, line := some 9 } [
          .defn
            { name := "e".toList, id := some 7, line := some 10, attrs := [("type", .conv (.choice false))] }
            [{ value := "a".toList, line := some 10 }]]]] := by
  unfold chM
  rw [C06.objsOf_ofList]
  decide +kernel

theorem chS_eq : chS =
    [
      .scope { name := "s".toList, id := some 1 } [
        .defn { name := "c".toList, id := some 1, line := some 1, mergeNames := true }
          [{ value := "*x".toList, line := some 1 }]],
      .scope { name := "s".toList, id := some 2, line := some 2 } [
        .defn { name := "k".toList, id := some 3, line := some 3 }
          [{ value := "*a".toList, line := some 3 }],
        .defn { name := "k".toList, id := some 4, disabled := true, line := some 4 }
          [{ value := "*zz".toList, line := some 4 }]],
      .scope { name := "s".toList, id := some 5 } [
        .defn { name := "k".toList, id := some 5, line := some 6, mergeNames := true }
          [{ value := "b+a".toList, line := some 6 }]]] := by
  unfold chS
  rw [C06.objsOf_ofList]
  decide +kernel

end

/-- the instance satisfies the hypotheses of every theorem above -/
example : treeMasterCB chM = true ∧ srcCheck chS = true := by
  rw [chM_eq, chS_eq]
  decide +kernel

def wordsAt (r : R (List Obj)) (ps : List String) (n : String) : Option (List String) :=
  match r with
  | .ok l => (defAt l (ps.map String.toList) n.toList).map (fun o => o.words.map (fun w => String.ofList w.value))
  | .error _ => none

/-- D19 inside a tree: `x` and `X` are both starred by `s.c = *x`; `s.k` takes the LAST source
    (`b+a`: both), the deprecated `s.o` is gone, the single-alternative `s.u.e = a` stays unstarred
    (Python: `s { c = *x *X y ; k = *a *b ; u { e = a } }`, `o` absent) -/
theorem choices_in_tree_evaluated :
    (wordsAt (treeResultC chM chS) ["s"] "c", wordsAt (treeResultC chM chS) ["s"] "k",
     wordsAt (treeResultC chM chS) ["s"] "o", wordsAt (treeResultC chM chS) ["s", "u"] "e",
     wordsAt (treeResultC chM chS) [] "t") =
    (some ["*x", "*X", "y"], some ["*a", "*b"], none, some ["a"], some ["1"]) := by
  rw [chM_eq, chS_eq]
  decide +kernel

/-- the closed form applied to the instance: the real entry point returns that tree -/
example : ∃ ro used, fetchRoot env12 false chM [chS] = .ok (ro, used) ∧
    (defAt ro.children ["s".toList] "c".toList).map (fun o => o.words.map (fun w => String.ofList w.value))
      = some ["*x", "*X", "y"] := by
  have hc : treeMasterCB chM = true := by rw [chM_eq]; decide +kernel
  have hs : srcCheck ([chS] : List (List Obj)).flatten = true := by rw [chS_eq]; decide +kernel
  have hM := treeMasterCB_sound chM hc
  have hS := srcCheck_sound _ hs
  have h := fetchRoot_tree_choice env12 chM [chS] hM.1 hM.2 hS.tree
  have hfl : ([chS] : List (List Obj)).flatten = chS := by simp
  rw [hfl] at h
  have hw := (Prod.mk.inj choices_in_tree_evaluated).1
  cases hr : treeResultC chM chS with
  | error err => rw [hr] at hw; cases hw
  | ok r =>
    rw [hr] at h hw
    exact ⟨_, _, h, hw⟩

/-- **Sharp edge: an EARLIER bad source fails the fetch although a later one overrides it.**
    Master `s { c = a b (.type=choice) }`, sources `s.c = *zz` then `s { c = *a }`: Sorry listing
    `a b` (Python: `Sorry: Not a possible choice for s.c: zz`). -/
theorem earlier_unknown_choice_fails :
    errOf (treeResultC (C06.objsOf "s {\n c = a b\n .type=choice\n}\n")
        ((C06.objsOf "s.c = *zz\n") ++ (C06.objsOf "s { c = *a }\n"))) =
      some (.sorry_ "not_a_possible_choice" ["a".toList, "b".toList]) := by
  rw [C06.objsOf_ofList, C06.objsOf_ofList, C06.objsOf_ofList]
  decide +kernel

/-- … while with a good earlier source the LAST one decides, and its stars replace the earlier ones
    (Python: `s.c = *b` then `s { c = a }` gives `c = *a b`) -/
theorem last_choice_source_decides :
    wordsAt (treeResultC (C06.objsOf "s {\n c = a b\n .type=choice\n}\n")
        ((C06.objsOf "s.c = *b\n") ++ (C06.objsOf "s { c = a }\n"))) ["s"] "c" = some ["*a", "b"] := by
  rw [C06.objsOf_ofList, C06.objsOf_ofList, C06.objsOf_ofList]
  decide +kernel

/-- **Sharp edge for `choice_alts_preserved_at_depth` (hypothesis `hauto`)**: a last source that is
    the plain word `Auto` replaces the whole value — the alternatives are gone from the result
    (Python: master `s { c = a b (.type=choice) }`, source `s.c = Auto` gives `s { c = Auto }`). -/
theorem auto_source_replaces_alternatives :
    wordsAt (treeResultC (C06.objsOf "s {\n c = a b\n .type=choice\n}\n") (C06.objsOf "s.c = Auto\n"))
      ["s"] "c" = some ["Auto"] := by
  rw [C06.objsOf_ofList, C06.objsOf_ofList]
  decide +kernel

def oneAltM : List Obj := C06.objsOf "s {\n c = a\n .type=choice\n}\n"

/-- **Sharp edge for C07 on this class: a single-alternative unstarred choice is starred by a
    re-fetch.**  Master `s { c = a (.type=choice) }`: the fetch without sources keeps `c = a`;
    fetching that result again gives `c = *a` (a one-word source selects its word).  So
    `tree_refetch_idempotent` does not extend to choice definitions without a hypothesis.
    (Python: `M.fetch().as_str()` = `s { c = a }`, `M.fetch(M.fetch()).as_str()` = `s { c = *a }`.) -/
theorem single_alternative_starred_by_refetch :
    (wordsAt (treeResultC oneAltM []) ["s"] "c",
     wordsAt (match treeResultC oneAltM [] with
              | .ok r => treeResultC oneAltM r
              | .error err => .error err) ["s"] "c") = (some ["a"], some ["*a"]) := by
  -- the text is decoded in a hypothesis: the check of a rewrite below the `match` evaluates the parse
  generalize h : oneAltM = M
  rw [oneAltM, C06.objsOf_ofList] at h
  subst h
  decide +kernel

def depM : List Obj := C06.objsOf "s {\n c = a b\n .type=choice\n .deprecated=True\n d = 1\n}\n"
def kidNames (r : R (List Obj)) : List String :=
  match r with
  | .ok [.scope _ kids] => kids.map (fun (o : Obj) => String.ofList o.name)
  | _ => []

/-- the deprecated definition: dropped without a source and when the last source re-states the
    default, kept when the last source differs (Python: children of `s` are `[d]`, `[c, d]`, `[d]`) -/
theorem deprecated_in_tree_evaluated :
    (kidNames (treeResultC depM []), kidNames (treeResultC depM (C06.objsOf "s.c = *b\n")),
     kidNames (treeResultC depM (C06.objsOf "s.c = *b\ns.c=a b\n"))) = (["d"], ["c", "d"], ["d"]) := by
  rw [depM, C06.objsOf_ofList, C06.objsOf_ofList, C06.objsOf_ofList]
  decide +kernel

end Phil.C11

#print axioms Phil.C11.fetch_tree_choice_total
#print axioms Phil.C11.fetchRoot_tree_choice
#print axioms Phil.C11.treeMaster_is_treeMasterC
#print axioms Phil.C11.fetch_ok_is_spec
#print axioms Phil.C11.choice_value_at_depth
#print axioms Phil.C11.choice_alts_preserved_at_depth
#print axioms Phil.C11.choice_selected_star_at_depth
#print axioms Phil.C11.fetchRoot_choice_value_at_depth
#print axioms Phil.C11.plain_value_at_depth
#print axioms Phil.C11.auto_source_replaces_alternatives
#print axioms Phil.C11.choice_bad_source_anywhere_fails
#print axioms Phil.C11.choice_unknown_anywhere_fails
#print axioms Phil.C11.choice_tree_errors
#print axioms Phil.C11.deprecated_unset_dropped
#print axioms Phil.C11.deprecated_last_source_decides
#print axioms Phil.C11.choices_in_tree_evaluated
#print axioms Phil.C11.earlier_unknown_choice_fails
#print axioms Phil.C11.last_choice_source_decides
#print axioms Phil.C11.single_alternative_starred_by_refetch
#print axioms Phil.C11.deprecated_in_tree_evaluated
