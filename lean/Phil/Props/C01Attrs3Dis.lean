/-
  C01 / C19 (part) — the attribute round trip with DISABLED DEFINITIONS.  Property theorems only; the
  lemmas are in Phil/Proofs/AttrTrees.lean and AttrRoundTrip.lean.  Continues Phil/Props/C01Attrs3.lean.

  The class: `RTTreeAttrD L w x` — the tree `x` with the disabled flag of every DEFINITION cleared
  (`x.enableD`) is in the attribute round-trip class `RTTreeAttr`.  So `!name = …` may stand anywhere:
  at top level, inside scopes, as the leaf of a dotted name (`!a.b = 1`: the scope `a` enabled — it is
  only the dotted prefix — and the definition `b` disabled), with attribute lines, deprecated or not,
  next to deprecated definitions.  Scopes are enabled (`!scope { … }`: Phil/Props/C01Attrs4.lean).
  `kidsTextB`: `kidsTextA` with `!` glued in front of the printed (dotted) name of every disabled
  definition (the continuation lines of a wrapped value are indented one column more).
-/
import Phil.Props.C01Attrs3
namespace Phil.C01
open Phil

attribute [local instance] objDecEqInst exceptDecEqRT

/-- the attribute round-trip class with disabled definitions -/
def RTTreeAttrD (L w : Int) (x : Obj) : Prop := RTNode [] x.enableD.stripAttrs ∧ x.attrsOKAt L w [] = true

instance (L w : Int) (x : Obj) : Decidable (RTTreeAttrD L w x) := by unfold RTTreeAttrD; exact inferInstance

theorem rtAllAttrD_of_forall {L w : Int} {objs : List Obj} (h : ∀ x ∈ objs, RTTreeAttrD L w x) :
    RTAll (stripAttrsList (enableDList objs)) ∧ attrsOKsAt L w objs [] = true := by
  constructor
  · induction objs with
    | nil => rw [enableDList, stripAttrsList_nil]; unfold RTAll; trivial
    | cons x xs ih =>
      rw [enableDList, stripAttrsList_cons]
      unfold RTAll
      exact ⟨(h x (by simp)).1, ih (fun y hy => h y (by simp [hy]))⟩
  · exact (attrsOKsAt_iff_art L w objs []).mpr (fun x hx => (h x hx).2)

/-- a tree without disabled definitions: the class is `RTTreeAttr` -/
theorem RTTreeAttr.toD {L w : Int} {x : Obj} (h : RTTreeAttr L w x) (he : x.enableD = x) : RTTreeAttrD L w x :=
  ⟨by rw [he]; exact h.1, h.2⟩

/-- **what is printed**: `!` in front of the name of every disabled definition, everything else as for
    enabled objects -/
theorem print_tree_attrs_disabled (o : ShowOpts) (he : o.expert = none) (objs : List Obj)
    (h : ∀ x ∈ objs, RTTreeAttrD o.level o.width x) :
    asStr o (rootOf objs) = .ok (kidsTextB o.level o.width objs [] []) := by
  obtain ⟨h1, h2⟩ := rtAllAttrD_of_forall h
  obtain ⟨h1', hpe, t⟩ := rtAllB_toC h1
  rw [← t]
  exact asStr_treesC_ar4 o he objs [] (by intro d hd; cases hd) h1' hpe h2

/-- **Print → parse with disabled definitions** (any attributes level, any width, deprecated definitions
    anywhere): the text parses and the parser returns the forest — names, nesting, order, words, quote
    styles, the DISABLED FLAGS (`erase` keeps them), every object with exactly the attributes shown at
    the level — ids as expected. -/
theorem print_parse_tree_attrs_disabled (o : ShowOpts) (he : o.expert = none) (objs : List Obj)
    (h : ∀ x ∈ objs, RTTreeAttrD o.level o.width x) (hnl : ∀ x ∈ objs, x.allDefns NlOnlyLast) :
    ∃ text objs', asStr o (rootOf objs) = .ok text ∧ text = kidsTextB o.level o.width objs [] [] ∧
      parseObjs text = .ok objs' ∧ eraseList objs' = eraseList (normAList o.level objs) ∧
      idsList objs' = (expIdsSeq 1 objs).map some := by
  obtain ⟨h1, h2⟩ := rtAllAttrD_of_forall h
  obtain ⟨h1', hpe, t⟩ := rtAllB_toC h1
  obtain ⟨objs', e1, e2, e3⟩ := parseObjs_treesC_ar4 o.level o.width objs [] (by intro d hd; simp at hd)
    h1' hpe ((allDefnsList_iff NlOnlyLast objs).mpr hnl) h2
  exact ⟨_, objs', print_tree_attrs_disabled o he objs h, rfl, t _ _ _ _ ▸ e1, e2, e3⟩

/-- **Print, parse, print again with disabled definitions: byte-identical text.** -/
theorem second_print_identical_attrs_disabled (o : ShowOpts) (he : o.expert = none) (objs : List Obj)
    (h : ∀ x ∈ objs, RTTreeAttrD o.level o.width x) (hnl : ∀ x ∈ objs, x.allDefns NlOnlyLast) :
    ∃ text root', asStr o (rootOf objs) = .ok text ∧ parse text = .ok root' ∧
      asStr o root' = .ok text := by
  obtain ⟨text, objs', h1, ht, h2, h3, _⟩ := print_parse_tree_attrs_disabled o he objs h hnl
  obtain ⟨r1, r2⟩ := rtAllAttrD_of_forall h
  obtain ⟨r1', hpe, t⟩ := rtAllB_toC r1
  obtain ⟨g1, g2⟩ := reparsed_root h2 h3
  exact ⟨text, _, h1, g1, by
    rw [g2 o [], asStr_normA_treesC_ar4 o he objs [] (by intro d hd; cases hd) r1' hpe r2, t, ht]⟩

/-- **C19 with disabled definitions: the tree re-parsed from any attributes level is the same once
    attributes are ignored** (names, nesting, order, disabled flags, words, quote styles) -/
theorem any_level_reparses_to_same_tree_disabled (o : ShowOpts) (he : o.expert = none) (objs : List Obj)
    (h : ∀ x ∈ objs, RTTreeAttrD o.level o.width x) (hnl : ∀ x ∈ objs, x.allDefns NlOnlyLast) :
    ∃ text objs', asStr o (rootOf objs) = .ok text ∧ parseObjs text = .ok objs' ∧
      eraseAttrsList objs' = eraseAttrsList objs := by
  obtain ⟨text, objs', h1, _, h2, h3, _⟩ := print_parse_tree_attrs_disabled o he objs h hnl
  exact ⟨text, objs', h1, h2, by
    rw [eraseAttrsList_of_eraseList_ert h3, eraseAttrsList_normAList_art]⟩

/-- one turn of `collect_objects` for `!name = value…` (the core lemma) -/
theorem bang_definition_one_turn (fuel : Nat) (st : PState) (stop : Option Word) (prevLine : Nat)
    (acc : List Obj) (pending : Option Obj) (lead eq : Word) (nm : Str) (ci1 ci2 ci4 : CI) (ws : List Word)
    (h1 : nextWord structSettings st.ci = .ok (some (lead, ci1)))
    (hlq : lead.quote = none) (hv : lead.value = '!' :: nm) (hname : plainDefName nm = true)
    (h2 : nextWord structSettings ci1 = .ok (some (eq, ci2)))
    (heq : eq.quote = none) (heqv : eq.value = ['='])
    (h3 : collectAssigned ci2 { lead with value := nm } = .ok (ws, ci4)) :
    collectObjects (fuel + 1) st stop prevLine acc pending
      = collectObjects fuel { ci := ci4, nextId := st.nextId + 1 } stop (lead.line.getD 0)
          (flush acc pending)
          (some (.defn { name := nm, id := some st.nextId, disabled := true, line := lead.line } ws)) :=
  collectObjects_defn_step_any fuel st stop prevLine acc pending lead eq nm true ci1 ci2 ci4 ws h1 hlq hv hname
    h2 heq heqv h3

/-- **One turn of `collect_objects` on the printed header of a DISABLED scope** `!name`, its attribute
    lines, `{` (the core lemma for `!scope { … }`; the class above has enabled scopes, the lift through the
    tree induction is Phil/Props/C01Attrs4.lean): the scope is opened with `is_disabled = True`, the attributes
    shown at the level, and the body is collected by the recursive call. -/
theorem bang_scope_header_one_turn (fuel : Nat) (stop : Option Word) (prevLine : Nat)
    (acc : List Obj) (pending : Option Obj) (pre nm V ind : Str) (l i : Nat) (L w : Int) (attrs : Attrs)
    (hpre : ∀ d ∈ pre, isSpace d = true) (hn : ItemName nm) (hb : ∀ c ∈ ind, c = ' ')
    (hok : attrsOK false ind L w attrs = true) :
    ∃ l' bl, collectObjects (fuel + 1) { ci := ⟨pre ++ ('!' :: nm) ++ headTail ind L w attrs V, l⟩, nextId := i } stop
        prevLine acc pending
      = scopeCont fuel stop (l + nlCount pre) acc pending
          { name := nm, id := some i, disabled := true, line := some (l + nlCount pre), attrs := shownAttrs false L attrs }
          (collectObjects fuel { ci := ⟨V, l'⟩, nextId := i + 1 }
            (some { value := ['{'], quote := none, line := some bl }) 0 [] none) :=
  (collectObjects_open_scope_any_ar4 stop prevLine acc pending pre nm V ind l i L w attrs true hpre hn hb hok).imp
    fun _ h => h.imp fun _ h => h fuel

/-- non-vacuity of the header lemma, and the whole construct on an instance (Python, replayed:
    `!s⏎  .help = h⏎{⏎  x = 1⏎}` re-parses with `s` disabled, second print identical) -/
theorem bang_scope_instance :
    (parseObjs "!s\n  .help = h\n{\n  x = 1\n}\n".toList).map eraseList
      = .ok [.scope { name := ['s'], disabled := true, attrs := [("help", .str ['h'])] }
              [.defn { name := ['x'] } [{ value := ['1'] }]]] ∧
    asStr { level := 2 } (rootOf [.scope { name := ['s'], disabled := true, attrs := [("help", .str ['h'])] }
              [.defn { name := ['x'] } [{ value := ['1'] }]]])
      = .ok "!s\n  .help = h\n{\n  x = 1\n}\n".toList := by
  repeat rw [String.toList_ofList]
  decide +kernel

/-! ### non-vacuity (replayed on the Python library: second print identical at levels 0, 2, 3, width 60; the flags of
    the re-parsed tree are `a`, `c`, `q` disabled, `b`, `s`, `p`, `d` enabled; second print identical)

  ```
  !a = 1
    .help = "x y"
  b = 2
    .deprecated = True
  s {
    !c = 3
    !p.q = 5
      .deprecated = True
    d = 6
  }
  ``` -/

def exDisSrc : Str :=
  ("!a = 1\n  .help = \"x y\"\nb = 2\n  .deprecated = True\ns {\n  !c = 3\n  !p.q = 5\n    .deprecated = True\n" ++
   "  d = 6\n}\n").toList

def exDisForest : List Obj :=
  [ .defn { name := ['a'], disabled := true, attrs := [("help", .str "x y".toList)] } [{ value := ['1'] }],
    .defn { name := ['b'], attrs := [("deprecated", .bool true)] } [{ value := ['2'] }],
    .scope { name := ['s'] }
      [ .defn { name := ['c'], disabled := true } [{ value := ['3'] }],
        .scope { name := ['p'] }
          [.defn { name := ['q'], disabled := true, mergeNames := true, attrs := [("deprecated", .bool true)] }
            [{ value := ['5'] }]],
        .defn { name := ['d'] } [{ value := ['6'] }] ] ]

theorem exDis_facts :
    (parseObjs exDisSrc).map eraseList = .ok exDisForest ∧
    (∀ x ∈ exDisForest, RTTreeAttrD 3 60 x) ∧
    (∀ x ∈ exDisForest, x.allDefns NlOnlyLast) ∧
    ¬ (∀ x ∈ exDisForest, RTTreeAttr 3 60 x) ∧
    asStr { level := 0, width := 60 } (rootOf exDisForest)
      = .ok "!a = 1\ns {\n  !c = 3\n  d = 6\n}\n".toList := by
  unfold exDisSrc exDisForest
  simp only [String.toList_append]
  -- a literal is `String.ofList […]` for `rw` and the kernel: no UTF-8 decoding
  repeat rw [String.toList_ofList]
  decide +kernel

/-- the round trip of the example at level 3, through the theorems; the flags come back -/
example : ∃ text objs' root', asStr { level := 3, width := 60 } (rootOf exDisForest) = .ok text ∧
    parseObjs text = .ok objs' ∧ eraseList objs' = eraseList (normAList 3 exDisForest) ∧
    parse text = .ok root' ∧ asStr { level := 3, width := 60 } root' = .ok text := by
  obtain ⟨_, h2, h4, _⟩ := exDis_facts
  obtain ⟨text, objs', h1, _, e2, e3, _⟩ :=
    print_parse_tree_attrs_disabled { level := 3, width := 60 } rfl exDisForest h2 h4
  obtain ⟨text', root', g1, g2, g3⟩ :=
    second_print_identical_attrs_disabled { level := 3, width := 60 } rfl exDisForest h2 h4
  have : text' = text := by rw [h1] at g1; cases g1; rfl
  subst this
  exact ⟨text', objs', root', h1, e2, e3, g2, g3⟩

/-- `erase` keeps the disabled flags: the flags of the forest the parser returns -/
example : (eraseList (normAList 3 exDisForest)).map (fun x => (x.name, x.meta.disabled))
    = [(['a'], true), (['b'], false), (['s'], false)] := by
  decide +kernel

/-! ### sharp edges -/

/-- **a disabled scope that is only a dotted prefix loses its flag** (why the class clears the flags of
    definitions only and leaves prefix scopes enabled): `definition.show` prints `!` by the flag of the
    DEFINITION; the flag of the prefix scope `a` of `a.b = 1` is not printed.  (Not producible by the
    parser: `!a.b = 1` disables `b`.) -/
theorem disabled_prefix_scope_is_lost :
    let t : List Obj := [.scope { name := ['a'], disabled := true }
      [.defn { name := ['b'], mergeNames := true } [{ value := ['1'] }]]]
    asStr {} (rootOf t) = .ok "a.b = 1\n".toList ∧ ¬ (∀ x ∈ t, RTTreeAttrD 0 79 x) := by
  decide +kernel

#print axioms rtAllAttrD_of_forall
#print axioms RTTreeAttr.toD
#print axioms print_tree_attrs_disabled
#print axioms print_parse_tree_attrs_disabled
#print axioms second_print_identical_attrs_disabled
#print axioms bang_definition_one_turn
#print axioms bang_scope_header_one_turn
#print axioms bang_scope_instance
#print axioms any_level_reparses_to_same_tree_disabled
#print axioms exDis_facts
#print axioms disabled_prefix_scope_is_lost

end Phil.C01
