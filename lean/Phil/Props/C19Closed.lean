/-
  C19 in closed form — "printing a parsed tree with an expert level k shows precisely the objects whose
  own expert level is unset or at most k and all of whose enclosing scopes are shown (a negative or
  absent k shows everything; a scope that exists only as the dotted prefix of a hidden object is
  hidden with it), and the filtered text parses to exactly that sub-tree; … a prefix is prepended to
  every line and changes nothing else."

  Property theorems only; the lemmas are in Phil/Proofs/ExpertRoundTrip.lean (the class, pruning,
  on top of Phil/Proofs/ShowLaws.lean — gate = pruning, prefix law) and Phil/Proofs/AttrRoundTrip.lean
  (the round trip: `filtered_round_trip_ert`, the attributes-level-0 instance of the round trip with
  attribute lines).  All statements are unbounded: any depth, any number of children, every print width.

  What is covered: trees of ENABLED definitions and scopes with good undotted names, empty scopes and
  dotted chains included (the class `RTTree` of Phil/Props/C01Nested.lean), carrying ARBITRARY
  attributes (`RTTreeA`), printed at attributes level 0 — where `show_attributes` prints nothing.
  The one attribute (besides `expert_level`) that the printer looks at below level 1 is `deprecated`:
  a definition with a truthy `deprecated` is hidden below attributes level 3.  `RTTreeA` EXCLUDES a
  truthy `deprecated` on definitions (it is not treated as a second gate; see `deprecated_is_hidden`).
  What is not covered: attributes levels > 0 (the attribute lines themselves are not parsed back
  here; their monotonicity is `attrs_level_mono` in Phil/Props/C19.lean), disabled objects, templates.
-/
import Phil.Proofs.AttrRoundTrip
import Phil.Props.C19
import Phil.Props.C01Nested
namespace Phil.C19
open Phil

attribute [local instance] C01.objDecEqInst C01.exceptDecEqRT

/-! ### the class of trees, and equality up to ids, positions and attributes

  * `Obj.stripAttrs` / `stripAttrsList`: the tree with every `attrs := []` (everything else kept).
  * `Obj.eraseAttrs` / `eraseAttrsList`: the tree with every `id := none`, `line := none`,
    `attrs := []` and the `line` of every word erased — what is left is the nesting, the names, the
    flags (`disabled`, `merge_names`, `is_template`) and the words with values and quote styles.
    `eraseAttrs x = (stripAttrs x).erase = (x.erase).stripAttrs`.
  * `Obj.noDeprecated`: no definition of the tree has a truthy `deprecated` attribute.
  * `RTTreeA x`: `x` without its attributes is an `RTTree` (Phil/Props/C01Nested.lean), and
    `x.noDeprecated`.  Spelled out in `RTTreeA_defn` / `RTTreeA_scope`. -/

/-- the class of trees of the closed form of C19 -/
def RTTreeA (x : Obj) : Prop := RTNodeA [] x

instance (x : Obj) : Decidable (RTTreeA x) := by unfold RTTreeA; exact inferInstance

theorem RTTreeA_iff (x : Obj) : RTTreeA x ↔ (C01.RTTree x.stripAttrs ∧ x.noDeprecated = true) := Iff.rfl

/-- object data of an enabled object with `is_template = 0`: `merge_names` is `mg`; `primary_id`,
    source line and ATTRIBUTES are arbitrary -/
def AttrMeta (mg : Bool) (m : Meta) : Prop :=
  m = { name := m.name, id := m.id, line := m.line, mergeNames := mg, attrs := m.attrs }

theorem plainMeta_stripAttrs (mg : Bool) (m : Meta) : PlainMetaPP mg m.stripAttrs ↔ AttrMeta mg m := by
  cases m
  simp [PlainMetaPP, AttrMeta, Meta.stripAttrs]

/-- `RTTreeA` for a definition: enabled, not a template, good name, at least one word, good words,
    any attributes except a truthy `deprecated` -/
theorem RTTreeA_defn (m : Meta) (ws : List Word) :
    RTTreeA (.defn m ws) ↔
      (AttrMeta false m ∧ depSet m = false ∧ goodName m.name = true ∧ ws ≠ [] ∧
        ∀ w ∈ ws, goodWord w = true) := by
  rw [RTTreeA_iff, Obj.stripAttrs_defn, C01.RTTree_defn, plainMeta_stripAttrs, noDeprecated_defn_ert]
  simp only [Bool.not_eq_true', stripAttrs_name_ert]
  constructor
  · rintro ⟨⟨h1, h2, h3, h4⟩, h5⟩; exact ⟨h1, h5, h2, h3, h4⟩
  · rintro ⟨h1, h5, h2, h3, h4⟩; exact ⟨⟨h1, h2, h3, h4⟩, h5⟩

theorem RTTreeA_forall (os : List Obj) : (∀ c ∈ os, RTTreeA c) ↔ RTAllA os :=
  (RTAllA_iff_ert os).symm

/-- `RTTreeA` for a scope: enabled, not a template, good name, any attributes; the children are any
    number (also none) of trees of the class — a proper scope — or exactly one tree that continues the
    dotted name (`RTNodeA [m.name] c`: the child has `merge_names`, and so on down the chain) -/
theorem RTTreeA_scope (m : Meta) (os : List Obj) :
    RTTreeA (.scope m os) ↔
      (AttrMeta false m ∧ goodName m.name = true ∧
        ((∀ c ∈ os, RTTreeA c) ∨ ∃ c, os = [c] ∧ RTNodeA [m.name] c)) := by
  rw [RTTreeA_iff, Obj.stripAttrs_scope, C01.RTTree_scope, plainMeta_stripAttrs,
    noDeprecated_scope_ert, RTTreeA_forall]
  simp only [stripAttrs_name_ert]
  have hall : (∀ c ∈ stripAttrsList os, C01.RTTree c) ↔ RTAll (stripAttrsList os) :=
    (RTAll_iff _).symm
  rw [hall]
  constructor
  · rintro ⟨⟨h1, h2, h3⟩, h4⟩
    refine ⟨h1, h2, ?_⟩
    rcases h3 with h3 | ⟨c, hc, h3⟩
    · exact Or.inl ⟨h3, h4⟩
    · obtain ⟨y, rfl, rfl⟩ := stripAttrsList_eq_singleton hc
      rw [noDeprecatedList_cons_ert, Bool.and_eq_true] at h4
      exact Or.inr ⟨y, rfl, h3, h4.1⟩
  · rintro ⟨h1, h2, h3⟩
    rcases h3 with h3 | ⟨c, rfl, h3⟩
    · exact ⟨⟨h1, h2, Or.inl h3.1⟩, h3.2⟩
    · refine ⟨⟨h1, h2, Or.inr ⟨c.stripAttrs, ?_, h3.1⟩⟩, ?_⟩
      · rw [stripAttrsList_cons, stripAttrsList_nil]
      · rw [noDeprecatedList_cons_ert, h3.2]; rfl

/-- an attribute-free tree of the nested round trip is in the class -/
theorem RTTree.toTreeA {x : Obj} (h : C01.RTTree x) (hs : x.stripAttrs = x) : RTTreeA x :=
  ⟨by rw [hs]; exact h, ((bare_of_rt 0).1 x [] h).2.1⟩

/-- every tree of the class satisfies `DottedWF` (the second side condition of `show_expert_prune`),
    which is therefore not a hypothesis below -/
theorem RTTreeA.dottedWF {x : Obj} (h : RTTreeA x) : DottedWF x = true :=
  dottedWF_of_RTNode_ert x [] h.1

private theorem allDefnsList_of_forall {P : List Word → Prop} {objs : List Obj}
    (h : ∀ x ∈ objs, x.allDefns P) : allDefnsList P objs := (allDefnsList_iff P objs).mpr h

/-! ### 1. the round trip for trees with attributes (gate off) -/

/-- **Attributes are invisible at level 0.**  With the expert gate off, a forest of the class prints —
    at every width and under every prefix — exactly as the same forest without attributes. -/
theorem print_ignores_attrs (o : ShowOpts) (hl : o.level = 0) (he : o.expert = none) (objs : List Obj)
    (h : ∀ x ∈ objs, RTTreeA x) (pre : Str) :
    asStr o (rootOf objs) pre = asStr o (rootOf (stripAttrsList objs)) pre := by
  rw [asStr_root_pre_ert, asStr_root_pre_ert,
    showObjs_stripAttrs_ert o (by omega) he objs [] pre ((RTTreeA_forall objs).mp h).2]

/-- the printed text: `kidsText` of Phil/Proofs/PrintParseNested.lean (it reads names, words and the
    `merge_names` flags only) -/
theorem print_treeA (o : ShowOpts) (hl : o.level = 0) (he : o.expert = none) (objs : List Obj)
    (h : ∀ x ∈ objs, RTTreeA x) :
    asStr o (rootOf objs) = .ok (kidsText o.width objs [] []) := by
  have hA := (RTTreeA_forall objs).mp h
  obtain ⟨_, ok, t⟩ := level0_kids o.level o.width (by omega) objs hA.2
  rw [← t]
  exact asStr_treesA_art o he objs [] nofun hA.1 (ok [])

/-- **C01 for trees with attributes.**  At attributes level 0, gate off, EVERY print width: if in
    every definition only the last word may contain a newline character, printing the root scope and
    parsing the text succeeds, and the parser returns the trees WITHOUT their attributes, up to ids and
    source positions: `eraseList objs' = eraseAttrsList objs` — in particular (the form asked for)
    `eraseAttrsList objs' = eraseAttrsList objs`.  Ids as in `C01.print_parse_tree`. -/
theorem print_parse_treeA (o : ShowOpts) (hl : o.level = 0) (he : o.expert = none) (objs : List Obj)
    (h : ∀ x ∈ objs, RTTreeA x) (hnl : ∀ x ∈ objs, x.allDefns NlOnlyLast) :
    ∃ text objs', asStr o (rootOf objs) = .ok text ∧ parseObjs text = .ok objs' ∧
      eraseAttrsList objs' = eraseAttrsList objs ∧ eraseList objs' = eraseAttrsList objs ∧
      idsList objs' = (expIdsSeq 1 objs).map some := by
  obtain ⟨objs', h1, h2, h3, h4⟩ := filtered_round_trip_ert o hl objs ((RTTreeA_forall objs).mp h)
    (allDefnsList_of_forall hnl) (fun k hk => by rw [he] at hk; cases hk) [] nofun
  rw [he, shownAt_none_ert] at h1 h2 h3 h4
  exact ⟨_, objs', h1, h2, eraseAttrsList_of_eq_ert h3, h3, h4⟩

/-! ### 2. the filtered text parses to exactly the pruned sub-tree -/

/-- pruning stays inside the class -/
theorem prune_preserves_class (k : Int) (objs : List Obj) (h : ∀ x ∈ objs, RTTreeA x) :
    ∀ x ∈ pruneList k objs, RTTreeA x :=
  (RTTreeA_forall _).mpr (pruneList_RTAllA_ert k objs ((RTTreeA_forall objs).mp h))

/-- **C19, expert level `k ≥ 0`.**  For a forest of the class in which every `expert_level` is unset
    or an integer (`ExpertWFs`; `DottedWF` follows from the class), at attributes level 0 and EVERY
    print width `w`: printing with `expert_level = k` succeeds, the text is the text of the pruned
    forest `pruneList k objs` (`prune_spec` below says which objects that is), it parses, and the
    parser returns exactly the pruned forest up to ids, source positions and attributes
    (`eraseList objs' = eraseAttrsList …` says moreover that the re-parsed objects carry no attributes
    at all).  Ids: one per printed item of the pruned forest, from 1. -/
theorem filtered_text_parses_to_subtree (k : Int) (hk : 0 ≤ k) (w : Int) (objs : List Obj)
    (h : ∀ x ∈ objs, RTTreeA x) (hnl : ∀ x ∈ objs, x.allDefns NlOnlyLast)
    (hw : ExpertWFs objs = true) :
    ∃ text objs', asStr { level := 0, width := w, expert := some k } (rootOf objs) = .ok text ∧
      parseObjs text = .ok objs' ∧
      eraseAttrsList objs' = eraseAttrsList (pruneList k objs) ∧
      text = kidsText w (pruneList k objs) [] [] ∧
      eraseList objs' = eraseAttrsList (pruneList k objs) ∧
      idsList objs' = (expIdsSeq 1 (pruneList k objs)).map some := by
  obtain ⟨objs', h1, h2, h3, h4⟩ := filtered_round_trip_ert
    { level := 0, width := w, expert := some k } rfl objs ((RTTreeA_forall objs).mp h)
    (allDefnsList_of_forall hnl) (fun _ _ _ => hw) [] (by intro c hc; cases hc)
  simp only [shownAt_nonneg_ert k hk] at h1 h2 h3 h4
  exact ⟨_, objs', h1, h2, eraseAttrsList_of_eq_ert h3, rfl, h3, h4⟩

/-- the same for any option record with `level = 0` and `expert = some k` -/
theorem filtered_text_parses_to_subtree' (o : ShowOpts) (hl : o.level = 0) (k : Int) (hk : 0 ≤ k)
    (he : o.expert = some k) (objs : List Obj)
    (h : ∀ x ∈ objs, RTTreeA x) (hnl : ∀ x ∈ objs, x.allDefns NlOnlyLast)
    (hw : ExpertWFs objs = true) :
    ∃ text objs', asStr o (rootOf objs) = .ok text ∧ parseObjs text = .ok objs' ∧
      eraseAttrsList objs' = eraseAttrsList (pruneList k objs) := by
  obtain ⟨text, objs', h1, h2, h3, _⟩ := filtered_text_parses_to_subtree k hk o.width objs h hnl hw
  have ho : o = { level := 0, width := o.width, expert := some k } := by
    cases o; simp only at hl he; subst hl; subst he; rfl
  exact ⟨text, objs', by rw [ho]; exact h1, h2, h3⟩

/-! ### 3. which objects survive `prune k`

  `ownShown k m`: the own `expert_level` of the object is not an integer above `k`; under `ExpertWF`
  (`ownShown_iff`): it is unset or an integer `≤ k`.
  `Visible k x` (inductive, Phil/Proofs/ExpertRoundTrip.lean): `x` is shown provided its enclosing
  scopes are —
      a definition or a proper scope (also an empty one): `ownShown k`;
      a scope that is only the dotted prefix of its children: `ownShown k` and some child `Visible k`.
  `x.pruneKids k`: `x` with its children replaced by `pruneList k children`. -/

theorem ownShown_iff (k : Int) (m : Meta) (h : expertOk m = true) :
    ownShown k m ↔ (m.attrs.get "expert_level" = .none ∨
      ∃ e, m.attrs.get "expert_level" = .int e ∧ e ≤ k) := by
  unfold expertOk at h
  unfold ownShown
  cases hv : m.attrs.get "expert_level" <;> rw [hv] at h <;> simp at h ⊢

theorem visible_defn (k : Int) (m : Meta) (ws : List Word) :
    Visible k (.defn m ws) ↔ ownShown k m :=
  ⟨fun h => by cases h; assumption, Visible.defn m ws⟩

/-- a scope is visible iff its own level allows it and — when it exists only as the dotted prefix of
    its children — at least one child is visible -/
theorem visible_scope (k : Int) (m : Meta) (os : List Obj) :
    Visible k (.scope m os) ↔
      (ownShown k m ∧ (firstMerges os = true → ∃ c ∈ os, Visible k c)) := by
  constructor
  · intro h
    cases h with
    | scope _ _ ho hf => exact ⟨ho, fun hf' => by rw [hf] at hf'; cases hf'⟩
    | dotted _ _ c ho hf hc hv => exact ⟨ho, fun _ => ⟨c, hc, hv⟩⟩
  · rintro ⟨ho, hc⟩
    cases hf : firstMerges os with
    | false => exact Visible.scope m os ho hf
    | true =>
      obtain ⟨c, hc, hv⟩ := hc hf
      exact Visible.dotted m os c ho hf hc hv

/-- **`prune` keeps exactly the visible objects**, each with its children pruned … -/
theorem prune_spec (k : Int) (x x' : Obj) :
    prune k x = some x' ↔ (Visible k x ∧ x' = x.pruneKids k) :=
  prune_eq_some_iff_ert k x x'

theorem prune_spec_hidden (k : Int) (x : Obj) : prune k x = none ↔ ¬ Visible k x := by
  rw [← prune_isSome_iff_ert]
  cases prune k x <;> simp

/-- … a forest is pruned child by child, hidden children dropped, order kept … -/
theorem prune_spec_list (k : Int) (os : List Obj) : pruneList k os = os.filterMap (prune k) :=
  pruneList_eq_filterMap_ert k os

theorem prune_spec_mem (k : Int) (os : List Obj) (x' : Obj) :
    x' ∈ pruneList k os ↔ ∃ x ∈ os, Visible k x ∧ x' = x.pruneKids k :=
  mem_pruneList_iff_ert k os x'

/-- … so **the objects of the pruned forest, each with its chain of enclosing scopes** (`IsPath os
    [x₁, …, xₙ]`: `x₁ ∈ os`, `xᵢ₊₁` a child of `xᵢ`), **are exactly the objects of the original forest
    that are visible and all of whose enclosing scopes are visible.** -/
theorem prune_spec_paths (k : Int) (os p' : List Obj) :
    IsPath (pruneList k os) p' ↔
      ∃ p, IsPath os p ∧ (∀ x ∈ p, Visible k x) ∧ p' = p.map (Obj.pruneKids k) := by
  induction p' generalizing os with
  | nil =>
    refine ⟨fun _ => ⟨[], ?_, ?_, rfl⟩, fun _ => ?_⟩
    · unfold IsPath; trivial
    · intro x hx; simp at hx
    · unfold IsPath; trivial
  | cons x' rest' ih =>
    constructor
    · rintro ⟨hx', hrest⟩
      obtain ⟨x, hx, hv, rfl⟩ := (mem_pruneList_iff_ert k os x').mp hx'
      rw [pruneKids_children_ert] at hrest
      obtain ⟨p, hp, hpv, rfl⟩ := (ih x.children).mp hrest
      refine ⟨x :: p, ⟨hx, hp⟩, fun y hy => ?_, rfl⟩
      rcases List.mem_cons.mp hy with rfl | hy
      · exact hv
      · exact hpv y hy
    · rintro ⟨p, hp, hpv, he⟩
      cases p with
      | nil => cases he
      | cons x p =>
        rw [List.map_cons] at he
        cases he
        obtain ⟨hx, hp⟩ := hp
        refine ⟨(mem_pruneList_iff_ert k os _).mpr ⟨x, hx, hpv x List.mem_cons_self, rfl⟩, ?_⟩
        rw [pruneKids_children_ert]
        exact (ih x.children).mpr ⟨p, hp, fun y hy => hpv y (List.mem_cons_of_mem _ hy), rfl⟩

/-- when no object has a level above `k` nothing is removed -/
theorem prune_all_shown (k : Int) (x : Obj) (h : AllVisible k x = true) : prune k x = some x := by
  revert h
  induction x using Obj.rec
    (motive_2 := fun os => AllVisibles k os = true → pruneList k os = os) with
  | defn m ws =>
    intro h
    simp only [AllVisible, Bool.not_eq_true'] at h
    rw [prune_defn, h]; rfl
  | scope m os ih =>
    intro h
    simp only [AllVisible, Bool.and_eq_true, Bool.not_eq_true'] at h
    rw [prune_scope, h.1, ih h.2]
    cases os with
    | nil => rfl
    | cons c cs => simp
  | nil => rename_i h; exact pruneList_nil k
  | cons x xs ihx ihxs =>
    rename_i h
    simp only [AllVisibles, Bool.and_eq_true] at h
    rw [pruneList_cons, ihx h.1, ihxs h.2]

/-! ### 4. a negative or absent level shows everything -/

/-- **C19, `k < 0` or no expert level.**  The whole forest is printed and read back (up to ids,
    source positions and attributes).  `ExpertWF` is not needed: no comparison is made. -/
theorem negative_or_absent_shows_everything (o : ShowOpts) (hl : o.level = 0)
    (he : o.expert = none ∨ ∃ k, o.expert = some k ∧ k < 0) (objs : List Obj)
    (h : ∀ x ∈ objs, RTTreeA x) (hnl : ∀ x ∈ objs, x.allDefns NlOnlyLast) :
    ∃ text objs', asStr o (rootOf objs) = .ok text ∧ parseObjs text = .ok objs' ∧
      eraseAttrsList objs' = eraseAttrsList objs ∧ text = kidsText o.width objs [] [] ∧
      eraseList objs' = eraseAttrsList objs ∧ idsList objs' = (expIdsSeq 1 objs).map some := by
  obtain ⟨objs', h1, h2, h3, h4⟩ := filtered_round_trip_ert o hl objs ((RTTreeA_forall objs).mp h)
    (allDefnsList_of_forall hnl)
    (fun k hk h0 => by
      rcases he with he | ⟨k', he, hk'⟩
      · rw [he] at hk; cases hk
      · rw [he] at hk; cases hk; omega)
    [] (by intro c hc; cases hc)
  have hs : shownAt o.expert objs = objs := by
    rcases he with he | ⟨k, he, hk⟩
    · rw [he]; rfl
    · rw [he]; exact shownAt_neg_ert k hk objs
  rw [hs] at h1 h2 h3 h4
  exact ⟨_, objs', h1, h2, eraseAttrsList_of_eq_ert h3, rfl, h3, h4⟩

/-! ### all expert settings at once -/

/-- `shownAt e objs` (Phil/Proofs/ExpertRoundTrip.lean): `objs` for `e = none` or `some k`, `k < 0`;
    `pruneList k objs` for `some k`, `k ≥ 0`. -/
theorem shownAt_cases (e : Option Int) (objs : List Obj) :
    (e = none ∧ shownAt e objs = objs) ∨ (∃ k, e = some k ∧ k < 0 ∧ shownAt e objs = objs) ∨
    (∃ k, e = some k ∧ 0 ≤ k ∧ shownAt e objs = pruneList k objs) := by
  cases e with
  | none => exact Or.inl ⟨rfl, rfl⟩
  | some k =>
    by_cases hk : 0 ≤ k
    · exact Or.inr (Or.inr ⟨k, rfl, hk, shownAt_nonneg_ert k hk objs⟩)
    · exact Or.inr (Or.inl ⟨k, rfl, by omega, shownAt_neg_ert k (by omega) objs⟩)

/-! ### 5. a prefix is prepended to every line and changes nothing else -/

/-- **C19, prefix (ANY string `p`).**  Let `lines` be what the root scope prints WITHOUT the prefix at
    the width reduced by `|p|`.  Printing under the prefix `p` gives exactly these lines, each with
    `p` prepended (and joined by newlines); stripping `p` from every printed line gives the lines back;
    and the text so obtained parses to the shown objects (`shownAt`: everything, or the pruned forest)
    up to ids, source positions and attributes.  A "line" is one printed line of `show` — a quoted
    word containing a newline character stays inside its line, `p` is not inserted into it. -/
theorem prefix_changes_nothing_else (o : ShowOpts) (hl : o.level = 0) (objs : List Obj)
    (h : ∀ x ∈ objs, RTTreeA x) (hnl : ∀ x ∈ objs, x.allDefns NlOnlyLast)
    (hw : ExpertWFs objs = true) (p : Str) :
    ∃ lines objs',
      showObj { o with width := o.width - p.length } (rootOf objs) [] [] = .ok lines ∧
      asStr o (rootOf objs) p = .ok (unlines (lines.map (p ++ ·))) ∧
      (lines.map (p ++ ·)).map (List.drop p.length) = lines ∧
      parseObjs (unlines lines) = .ok objs' ∧
      eraseAttrsList objs' = eraseAttrsList (shownAt o.expert objs) := by
  obtain ⟨objs', h1, h2, h3, _⟩ := filtered_round_trip_ert { o with width := o.width - p.length } hl
    objs ((RTTreeA_forall objs).mp h) (allDefnsList_of_forall hnl) (fun _ _ _ => hw) []
    (by intro c hc; cases hc)
  have h1' : (showObj { o with width := o.width - p.length } (rootOf objs) [] []).map unlines
      = .ok (kidsText (o.width - p.length) (shownAt o.expert objs) [] []) := h1
  cases hs : showObj { o with width := o.width - p.length } (rootOf objs) [] [] with
  | error e => rw [hs] at h1'; cases h1'
  | ok lines =>
    rw [hs] at h1'
    have ht : unlines lines = kidsText (o.width - p.length) (shownAt o.expert objs) [] [] := by
      exact Except.ok.inj h1'
    refine ⟨lines, objs', rfl, ?_, map_drop_prefix_ert p lines, by rw [ht]; exact h2,
      eraseAttrsList_of_eq_ert h3⟩
    have := as_str_prefix o (rootOf objs) p []
    rw [List.append_nil, hs] at this
    exact this

/-- **C19, prefix of blanks: the prefixed text itself parses.**  When `p` consists of blanks the text
    printed under `p` — at every width, every expert setting — parses WITHOUT stripping anything, to
    the shown objects up to ids, source positions and attributes. -/
theorem blank_prefix_text_parses (o : ShowOpts) (hl : o.level = 0) (objs : List Obj)
    (h : ∀ x ∈ objs, RTTreeA x) (hnl : ∀ x ∈ objs, x.allDefns NlOnlyLast)
    (hw : ExpertWFs objs = true) (p : Str) (hp : ∀ c ∈ p, c = ' ') :
    ∃ text objs', asStr o (rootOf objs) p = .ok text ∧ parseObjs text = .ok objs' ∧
      eraseAttrsList objs' = eraseAttrsList (shownAt o.expert objs) ∧
      text = kidsText o.width (shownAt o.expert objs) [] p ∧
      idsList objs' = (expIdsSeq 1 (shownAt o.expert objs)).map some := by
  obtain ⟨objs', h1, h2, h3, h4⟩ := filtered_round_trip_ert o hl objs ((RTTreeA_forall objs).mp h)
    (allDefnsList_of_forall hnl) (fun _ _ _ => hw) p hp
  exact ⟨_, objs', h1, h2, eraseAttrsList_of_eq_ert h3, rfl, h4⟩

/-! ### 6. non-vacuity: a document with expert levels 0..3 at several depths

  ```
  a = 1              .expert_level = 0
  s                  .expert_level = 1
  {
    x = 2
    y = 3 4          .expert_level = 2
    t                .expert_level = 3
    {
      z = 5          .expert_level = 1   (inside a scope of level 3)
      u = 6          .expert_level = 3
    }
    e { }            (an empty scope)
    e2 { }           .expert_level = 2   (an empty scope with a level)
  }
  c.d.f = 7          .expert_level = 2 on the leaf `f`; `c`, `d` exist only as its dotted prefix
  w = 9              .help = "some help"
  ```
  Replayed on the Python library (`freephil.parse(exSrc).as_str(expert_level=k, print_width=…,
  prefix=…)`, then `freephil.parse` of the result): the texts below at k = 0, 1 (width 79) and at
  k = 2 (width 6, prefix of three blanks) are byte-identical, and the re-parsed trees have the same
  shape (names, nesting, `merge_names`, words) as `pruneList k exForest`; also k = None, -1, 3 give
  the full text.  No disagreement between model and library was found. -/

/-- the source text (what `freephil.parse` is given) -/
def exSrc : Str :=
  ("a = 1\n  .expert_level = 0\ns\n  .expert_level = 1\n{\n  x = 2\n  y = 3 4\n    .expert_level = 2\n" ++
   "  t\n    .expert_level = 3\n  {\n    z = 5\n      .expert_level = 1\n    u = 6\n" ++
   "      .expert_level = 3\n  }\n  e {\n  }\n  e2\n    .expert_level = 2\n  {\n  }\n}\n" ++
   "c.d.f = 7\n  .expert_level = 2\nw = 9\n  .help = \"some help\"\n").toList

private def lvl (i : Int) : Attrs := [("expert_level", .int i)]
private def d1 (n : String) (v : String) (a : Attrs := []) (mg : Bool := false) : Obj :=
  .defn { name := n.toList, attrs := a, mergeNames := mg } [{ value := v.toList }]

/-- the parsed forest (ids and source positions erased) -/
def exForest : List Obj :=
  [ d1 "a" "1" (lvl 0),
    .scope { name := ['s'], attrs := lvl 1 }
      [ d1 "x" "2",
        .defn { name := ['y'], attrs := lvl 2 } [{ value := ['3'] }, { value := ['4'] }],
        .scope { name := ['t'], attrs := lvl 3 } [d1 "z" "5" (lvl 1), d1 "u" "6" (lvl 3)],
        .scope { name := ['e'] } [],
        .scope { name := "e2".toList, attrs := lvl 2 } [] ],
    .scope { name := ['c'] }
      [.scope { name := ['d'], mergeNames := true } [d1 "f" "7" (lvl 2) true]],
    d1 "w" "9" [("help", .str "some help".toList)] ]

/-- `exForest` is what the parser builds from `exSrc` -/
example : (parseObjs exSrc).map eraseList = .ok exForest := by
  -- a literal is `String.ofList […]` for `rw` and the kernel: no UTF-8 decoding
  unfold exSrc
  rw [String.toList_append, String.toList_append, String.toList_append, String.toList_ofList,
    String.toList_ofList, String.toList_ofList, String.toList_ofList]
  decide +kernel

theorem exForest_ok : ∀ x ∈ exForest, RTTreeA x := by decide +kernel
theorem exForest_nl : ∀ x ∈ exForest, x.allDefns NlOnlyLast := by decide +kernel
theorem exForest_wf : ExpertWFs exForest = true := by decide +kernel

/-- what survives at `k = 1`: `y` (2), `t` (3) with `z` (1 — its enclosing scope is hidden) and `u`,
    `e2` (2) and the whole dotted chain `c.d.f` (leaf level 2) are gone; the empty scope `e` stays -/
example : pruneList 1 exForest =
    [ d1 "a" "1" (lvl 0),
      .scope { name := ['s'], attrs := lvl 1 } [d1 "x" "2", .scope { name := ['e'] } []],
      d1 "w" "9" [("help", .str "some help".toList)] ] := by decide +kernel

/-- at `k = 0` the scope `s` (level 1) is hidden with everything inside -/
example : pruneList 0 exForest = [d1 "a" "1" (lvl 0), d1 "w" "9" [("help", .str "some help".toList)]] := by
  decide +kernel

/-- at `k = 2` only `t` (level 3) is hidden; at `k = 3` nothing is -/
example : pruneList 3 exForest = exForest ∧ (pruneList 2 exForest).length = 4 := by decide +kernel

theorem exForest_text_at_1 : asStr { level := 0, width := 79, expert := some 1 } (rootOf exForest)
    = .ok "a = 1\ns {\n  x = 2\n  e {\n  }\n}\nw = 9\n".toList := by
  rw [String.toList_ofList]
  decide +kernel

theorem exForest_text_at_2 : asStr { expert := some 2, width := 6 } (rootOf exForest) "   ".toList
    = .ok ("   a = 1\n   s {\n     x = 2\n     y = 3 \\\n         4\n     e {\n     }\n     e2 {\n" ++
           "     }\n   }\n   c.d.f = 7\n   w = 9\n").toList := by
  rw [String.toList_append, String.toList_ofList, String.toList_ofList]
  decide +kernel

/-- the printed texts (the Python library prints the same) -/
example : asStr { expert := some 1 } (rootOf exForest)
    = .ok "a = 1\ns {\n  x = 2\n  e {\n  }\n}\nw = 9\n".toList := exForest_text_at_1
example : asStr { expert := some 0 } (rootOf exForest) = .ok "a = 1\nw = 9\n".toList := by
  decide +kernel
example : asStr { expert := some 2, width := 6 } (rootOf exForest) "   ".toList
    = .ok ("   a = 1\n   s {\n     x = 2\n     y = 3 \\\n         4\n     e {\n     }\n     e2 {\n" ++
           "     }\n   }\n   c.d.f = 7\n   w = 9\n").toList := exForest_text_at_2
example : asStr { expert := some (-1) } (rootOf exForest)
    = .ok ("a = 1\ns {\n  x = 2\n  y = 3 4\n  t {\n    z = 5\n    u = 6\n  }\n  e {\n  }\n  e2 {\n  }\n}\n" ++
           "c.d.f = 7\nw = 9\n").toList := by
  rw [String.toList_append, String.toList_ofList, String.toList_ofList]
  decide +kernel

/-- through `filtered_text_parses_to_subtree` at `k = 1`: the filtered text parses to the pruned
    forest -/
example : ∃ objs', parseObjs "a = 1\ns {\n  x = 2\n  e {\n  }\n}\nw = 9\n".toList = .ok objs' ∧
    eraseAttrsList objs' = eraseAttrsList (pruneList 1 exForest) ∧
    idsList objs' = [some 1, some 2, some 3, some 4, some 5] := by
  obtain ⟨text, objs', h1, h2, h3, _, _, h6⟩ :=
    filtered_text_parses_to_subtree 1 (by decide) 79 exForest exForest_ok exForest_nl exForest_wf
  rw [exForest_text_at_1] at h1
  obtain rfl := Except.ok.inj h1
  exact ⟨objs', h2, h3, by rw [h6]; decide +kernel⟩

/-- through `blank_prefix_text_parses` at `k = 2`, width 6, prefix of three blanks: the prefixed text
    itself parses to the pruned forest (the dotted chain `c.d.f` is kept at `k = 2`) -/
example : ∃ objs', parseObjs ("   a = 1\n   s {\n     x = 2\n     y = 3 \\\n         4\n     e {\n" ++
      "     }\n     e2 {\n     }\n   }\n   c.d.f = 7\n   w = 9\n").toList = .ok objs' ∧
    eraseAttrsList objs' = eraseAttrsList (pruneList 2 exForest) := by
  obtain ⟨text, objs', h1, h2, h3, _⟩ :=
    blank_prefix_text_parses { expert := some 2, width := 6 } rfl exForest exForest_ok exForest_nl
      exForest_wf "   ".toList (by decide)
  rw [exForest_text_at_2] at h1
  obtain rfl := Except.ok.inj h1
  -- the statement cuts the literal at another place than `exForest_text_at_2`: compared as strings
  -- the two are dear to evaluate, as appended lists of characters they are not
  rw [String.toList_append, String.toList_ofList, String.toList_ofList] at h2 ⊢
  exact ⟨objs', h2, h3⟩

/-- the model parser on the filtered text, evaluated directly (no theorem involved) -/
example : (parseObjs "a = 1\ns {\n  x = 2\n  e {\n  }\n}\nw = 9\n".toList).map eraseAttrsList
    = .ok (eraseAttrsList (pruneList 1 exForest)) := by
  rw [String.toList_ofList]
  decide +kernel

/-- `Visible` on the example: the dotted-prefix scope `c` is visible at 2 but not at 1 (its only
    leaf is hidden); the empty scope `e` is visible at every level, the empty scope `e2` from 2 on -/
example : Visible 2 (.scope { name := ['c'] }
      [.scope { name := ['d'], mergeNames := true } [d1 "f" "7" (lvl 2) true]]) ∧
    ¬ Visible 1 (.scope { name := ['c'] }
      [.scope { name := ['d'], mergeNames := true } [d1 "f" "7" (lvl 2) true]]) ∧
    Visible 0 (.scope { name := ['e'] } []) ∧
    ¬ Visible 1 (.scope { name := "e2".toList, attrs := lvl 2 } []) := by
  simp only [← prune_isSome_iff_ert]
  decide +kernel

/-! ### sharp edges (kernel-checked in the model) -/

/-- **Why a truthy `deprecated` is excluded from the class.**  A definition with `.deprecated = True`
    is hidden below attributes level 3 — with no expert level involved — so the level-0 text of
    `a = 1 (.deprecated = True)`, `b = 2` is just `b = 2` and does not parse back to both. -/
theorem deprecated_is_hidden :
    let t : List Obj := [d1 "a" "1" [("deprecated", .bool true)], d1 "b" "2"]
    asStr {} (rootOf t) = .ok "b = 2\n".toList ∧ ¬ (∀ x ∈ t, RTTreeA x) ∧
    (∀ x ∈ [d1 "a" "1" [("deprecated", .bool false)], d1 "b" "2"], RTTreeA x) := by
  decide +kernel

/-- **`.deprecated = False` in a source text does not hide the definition** (repaired defect D43: the
    attribute was stored as the string `False`, which is truthy, so `definition.show` hid `a`; it is
    read with the bool spelling table like `.optional` and `.multiple`). -/
theorem deprecated_false_in_source_shows :
    (parseObjs "a = 1\n .deprecated = False\nb = 2\n".toList).map eraseList
      = .ok [d1 "a" "1" [("deprecated", .bool false)], d1 "b" "2"] ∧
    asStr {} (rootOf [d1 "a" "1" [("deprecated", .bool false)], d1 "b" "2"])
      = .ok "a = 1\nb = 2\n".toList := by
  repeat rw [String.toList_ofList]
  decide +kernel

/-- … while `.deprecated = True` still does, and any other spelling is refused -/
theorem deprecated_true_in_source_hides :
    (parseObjs "a = 1\n .deprecated = True\nb = 2\n".toList).map eraseList
      = .ok [d1 "a" "1" [("deprecated", .bool true)], d1 "b" "2"] ∧
    asStr {} (rootOf [d1 "a" "1" [("deprecated", .bool true)], d1 "b" "2"])
      = .ok "b = 2\n".toList ∧
    parseObjs "a = 1\n .deprecated = maybe\n".toList = .error (.runtime "bool_expected" (some 2)) := by
  repeat rw [String.toList_ofList]
  decide +kernel

/-- **Why `ExpertWFs` is a hypothesis.**  A non-integer `expert_level` makes the gated print fail
    (`TypeError` of the comparison in Python) although the tree is in the class. -/
theorem non_integer_level_fails :
    let t : List Obj := [d1 "a" "1" [("expert_level", .str "x".toList)]]
    (∀ x ∈ t, RTTreeA x) ∧ ExpertWFs t = false ∧
    asStr { expert := some 0 } (rootOf t) = .error (.stray "TypeError" "expert_level_compare") ∧
    asStr { expert := some (-1) } (rootOf t) = .ok "a = 1\n".toList := by
  decide +kernel

/-- **An object inside a hidden scope is hidden whatever its own level** (`z`, level 1, inside `t`,
    level 3, at `k = 1`), and **a proper scope all of whose children are hidden is still shown**, as an
    empty scope — only dotted-prefix scopes disappear with their content. -/
theorem emptied_proper_scope_stays :
    let t : List Obj := [.scope { name := ['p'] } [d1 "q" "1" (lvl 5)],
                         .scope { name := ['r'] } [d1 "q" "1" (lvl 5) true]]
    (∀ x ∈ t, RTTreeA x) ∧
    asStr { expert := some 0 } (rootOf t) = .ok "p {\n}\n".toList ∧
    pruneList 0 t = [.scope { name := ['p'] } []] := by
  decide +kernel

#print axioms RTTreeA_iff
#print axioms plainMeta_stripAttrs
#print axioms RTTreeA_defn
#print axioms RTTreeA_forall
#print axioms RTTreeA_scope
#print axioms RTTree.toTreeA
#print axioms RTTreeA.dottedWF
#print axioms print_ignores_attrs
#print axioms print_treeA
#print axioms print_parse_treeA
#print axioms prune_preserves_class
#print axioms filtered_text_parses_to_subtree
#print axioms filtered_text_parses_to_subtree'
#print axioms ownShown_iff
#print axioms visible_defn
#print axioms visible_scope
#print axioms prune_spec
#print axioms prune_spec_hidden
#print axioms prune_spec_list
#print axioms prune_spec_mem
#print axioms prune_spec_paths
#print axioms prune_all_shown
#print axioms negative_or_absent_shows_everything
#print axioms shownAt_cases
#print axioms prefix_changes_nothing_else
#print axioms blank_prefix_text_parses
#print axioms exForest_ok
#print axioms exForest_nl
#print axioms exForest_wf
#print axioms deprecated_is_hidden
#print axioms deprecated_false_in_source_shows
#print axioms deprecated_true_in_source_hides
#print axioms non_integer_level_fails
#print axioms emptied_proper_scope_stays

end Phil.C19
