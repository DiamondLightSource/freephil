/-
  C09 on whole trees — "For every master and every extracted parameter object whose values lie in the
  declared types' domains, formatting it against the master and extracting the result returns equal
  values."

  Phil/Props/C09.lean proves the round trip `from_words (as_words v) = v` per converter.  Here it is
  lifted to `master.format(v).extract()` for a whole tree:
    1. `format_closed` — the fuelled model `formatObj` equals the structural specification
       `formatSpec` (no fuel) on every master without `.multiple` (objects enabled, sibling names
       pairwise distinct; definitions of any type), for EVERY Python value; `format_record_child` —
       what a child contributes when the value is a `scope_extract`;
    2. `RoundTripLeaf` — the hypotheses of the per-converter theorems, one constructor each;
       `leaf_round_trip` — one leaf; `choice_str_round_trip` — a selected alternative of a single
       choice (a per-converter theorem Phil/Props/C09.lean lacks);
    3. `format_extract_tree` — the whole tree; `format_tree_total` — … or `format` refuses, and the
       refusal is `definition.format`'s refusal of the value at one path;
       `extract_format_extract_tree` — starting from an extracted object;
    4. witnesses that the leaf hypotheses are needed, kernel-checked instances through the parser,
       each replayed on the Python library.
  Lemmas are in Phil/Proofs/ExtractTree.lean.
-/
import Phil.Proofs.ExtractTree
import Phil.Props.C09
import Phil.Props.C10Tree
namespace Phil.C09
open Phil

/-! ### 1. the closed form of `scope.format`

  Specification functions (Phil/Proofs/ExtractTree.lean):
  ```
  formatSpec e (.defn m ws) v     = formatDefn e m ws v          -- words := type.as_words(v, master)
  formatSpec e (.scope m kids) v  = (formatSpecKids e kids v).map (.scope { m with tmpl := 0 })
  formatSpecKids e [] v           = .ok []
  formatSpecKids e (o :: os) v    = kidFormat_xt (formatSpec e o) o.name v ++ formatSpecKids e os v
                                                                  -- first error wins
  kidFormat_xt F nm None          = [F None]                      -- likewise Auto
  kidFormat_xt F nm v             = for each pi of (pobjsOf_xt v):   -- [v] for a scope_extract, the
                                      itemFormat_xt F nm pi         -- elements of a list;
                                                                  -- TypeError otherwise
  itemFormat_xt F nm (.record fs) = [] if fs has no field nm, [F (fs.nm)] otherwise
  itemFormat_xt F nm _            = AttributeError (`__phil_get__`)
  ```
  `FObj_xt o`: nothing is `.multiple`, every object is enabled, sibling names are pairwise distinct at
  every depth.  `TreeMaster` implies it; it also admits choices and `.deprecated` definitions. -/

/-- **closed form of `scope.format` / `definition.format`**, every Python value -/
theorem format_closed (e : Envs) (fuel : Nat) (master : Obj) (hf : FObj_xt master) (hd : depthT master < fuel)
    (v : PVal) : formatObj e fuel master v = formatSpec e master v := by
  induction fuel generalizing master v with
  | zero => exact absurd hd (Nat.not_lt_zero _)
  | succ fuel ih =>
    cases master with
    | defn m ws => rw [formatObj, formatSpec]
    | scope m kids =>
      rw [FObj_xt] at hf
      rw [depthT] at hd
      rw [formatObj_scope_xt, formatSpec, masterActive_of_distinct kids (fun o ho => ((fkids_iff_xt kids).1 hf.2.2.1 o ho).enabled) hf.2.2.2]
      simp only
      rw [formatFold_spec_xt e (formatObj e fuel) v (indexed kids) [], indexed_map_snd]
      · cases formatSpecKids e kids v <;> simp [Except.map]
      · intro p hp
        have hmem : p.2 ∈ kids := by rw [← indexed_map_snd kids]; exact List.mem_map.mpr ⟨p, hp, rfl⟩
        have hk' := (fkids_iff_xt kids).1 hf.2.2.1 _ hmem
        refine ⟨hk'.notMultiple, ?_⟩
        funext x
        refine ih p.2 hk' ?_ x
        have := depthT_le_depthL kids _ hmem
        omega

/-- the root scope of a `TreeMaster` is such a master -/
theorem fobj_root_of_treeMaster (kids : List Obj) (hf : TreeMaster kids) :
    FObj_xt (.scope { name := [], id := some 0 } kids) := by
  rw [FObj_xt]
  exact ⟨rfl, rfl, fkids_of_treeKids_xt kids hf.kids, hf.distinct⟩

/-- on a `scope_extract` a master child contributes nothing when the object has no attribute of its
    name, and itself formatted with the attribute's value otherwise -/
theorem format_record_child (F : PVal → R Obj) (nm : Str) (fs : List (Str × PVal)) :
    kidFormat_xt F nm (.record fs) =
      match fieldGet fs nm with
      | none => .ok []
      | some sub => (F sub).map (fun r => [r]) :=
  kidFormat_record_xt F nm fs

/-! ### 2. one leaf -/

/-- **a selected alternative of a single `choice` round-trips**: if `as_words` accepts the name `s`
    (exactly one alternative of the master is called `s`) and no alternative of the master carries
    two stars, the words written are the master's alternatives with the star on `s` only, and they
    read back as `s`. -/
theorem choice_str_round_trip (fmt : FmtEnv) (env : EvalEnv) (opt : AttrVal) (mws ws : List Word)
    (s : Str) (hds : NoDoubleStar mws) (h : asWords (.choice false) fmt opt mws (.str s) = .ok ws) :
    ws = mws.map (starAt_xt s) ∧ fromWords (.choice false) env opt ws = .ok (.str s) :=
  choice_str_round_trip_xt fmt env opt mws ws s hds h

example : asWords (.choice false) (fun _ => none) .none [wordOf "*a", wordOf "b"] (.str "b".toList)
    = .ok [wordOf "a", wordOf "*b"] := rfl
example : fromWords (.choice false) (fun _ => none) .none [wordOf "a", wordOf "*b"] = .ok (.str "b".toList) :=
  (choice_str_round_trip (fun _ => none) _ .none [wordOf "*a", wordOf "b"] _ _
    (noDoubleStarB_sound_xt _ (by decide)) rfl).2

/-- `RoundTripLeaf c mws x` (Phil/Proofs/ExtractTree.lean) collects the hypotheses of the
    per-converter theorems — one constructor per theorem:
    `auto` (any type), `none` (any type but a choice), `choiceNone` / `multiEmpty` (`NoDoubleStar`,
    and the unstarred master is not the bare word `auto`), `choiceStr` (`NoDoubleStar`), `bool`,
    `str` (`str`, `key`), `path` (not starting with `~`), `strings`, `int`, `ints` (length ≥ 2, or
    one int).
    **One leaf**: whatever `as_words` writes for such a value, `from_words` reads back as it. -/
theorem leaf_round_trip (c : Conv) (fmt : FmtEnv) (env : EvalEnv) (opt : AttrVal) (mws ws : List Word)
    (x : PVal) (henv : EnvDecimal env) (hx : RoundTripLeaf c mws x)
    (h : asWords c fmt opt mws x = .ok ws) : fromWords c env opt ws = .ok x :=
  leaf_round_trip_xt c fmt env opt mws ws x henv hx h

/-! ### 3. the whole tree

  `RTObj master v`: `v` has exactly the master's shape — for a scope a `scope_extract` with one
  attribute per master child, in the master's order; for a definition of declared type `c`
  (`strings` if none) and master words `mws`, a value with `RoundTripLeaf c mws`. -/

/-- **C09, whole tree (`format_extract_tree`).**  Master without `.multiple`, fuel beyond its depth,
    an evaluator that reads decimal integer literals; `v` of the master's shape with leaves covered
    by the per-converter theorems: whatever `master.format(v)` returns extracts back to `v`. -/
theorem format_extract_tree (e : Envs) (henv : EnvDecimal e.eval) (fuel : Nat) (master : Obj) (v : PVal)
    (w : Obj) (hf : FObj_xt master) (hd : depthT master < fuel) (hv : RTObj master v)
    (h : formatObj e fuel master v = .ok w) : extractObj e fuel w = .ok v := by
  rw [format_closed e fuel master hf hd v] at h
  obtain ⟨h1, h2, _, h4, _⟩ := format_extract_obj_xt e henv master v w hf hv h
  rw [extractObj_eq_spec_xt e fuel w h2 (by rw [h4]; exact hd)]
  exact h1

/-- **`format_tree_total`**: … and `master.format(v)` either succeeds (and then extracts back to
    `v`), or fails with the error `definition.format` (i.e. `as_words`: a bound, a size, an unknown
    alternative, a forbidden `None`) raises for one master definition and the value `v` holds at
    its path. -/
theorem format_tree_total (e : Envs) (henv : EnvDecimal e.eval) (fuel : Nat) (m : Meta) (kids : List Obj)
    (v : PVal) (hf : FObj_xt (.scope m kids)) (hd : depthL kids + 1 < fuel)
    (hv : RTObj (.scope m kids) v) :
    (∃ w, formatObj e fuel (.scope m kids) v = .ok w ∧ extractObj e fuel w = .ok v) ∨
    (∃ err ps n dm dws x, formatObj e fuel (.scope m kids) v = .error err ∧
      defAt kids ps n = some (.defn dm dws) ∧ valueAt v ps n = some x ∧
      formatDefn e dm dws x = .error err) := by
  have hd' : depthT (.scope m kids) < fuel := by rw [depthT]; exact hd
  cases h : formatObj e fuel (.scope m kids) v with
  | ok w => exact .inl ⟨w, rfl, format_extract_tree e henv fuel _ v w hf hd' hv h⟩
  | error err =>
    right
    rw [format_closed e fuel _ hf hd' v] at h
    have hf' := hf
    rw [FObj_xt] at hf'
    rw [RTObj] at hv
    obtain ⟨fs, rfl, hk⟩ := hv
    rw [formatSpec] at h
    obtain ⟨ps, n, dm, dws, x, h1, h2, h3⟩ := formatSpecKids_error_leaf_xt e kids fs fs err hf'.2.2.1
      hf'.2.2.2 hk (rtkids_get_xt kids fs hk hf'.2.2.2) (Except.map_eq_error.mp h)
    exact ⟨err, ps, n, dm, dws, x, rfl, h1, h2, h3⟩

/-- the same for a `TreeMaster` at the root, as `master.format(v)` sees it -/
theorem format_extract_treeMaster (e : Envs) (henv : EnvDecimal e.eval) (fuel : Nat) (kids : List Obj)
    (v : PVal) (w : Obj) (hf : TreeMaster kids) (hd : depthL kids + 1 < fuel)
    (hv : RTObj (.scope { name := [], id := some 0 } kids) v)
    (h : formatObj e fuel (.scope { name := [], id := some 0 } kids) v = .ok w) :
    extractObj e fuel w = .ok v :=
  format_extract_tree e henv fuel _ v w (fobj_root_of_treeMaster kids hf) (by rw [depthT]; exact hd) hv h

/-- **starting from an extracted object** (the property as worded): if `v` is what `tree.extract()`
    returned for any tree of the master's shape, and `v` satisfies `RTObj`, then
    `master.format(v).extract()` is `v` again. -/
theorem extract_format_extract_tree (e : Envs) (henv : EnvDecimal e.eval) (fuel : Nat) (master src : Obj)
    (v : PVal) (w : Obj) (hf : FObj_xt master) (hd : depthT master < fuel)
    (hsrc : extractObj e fuel src = .ok v) (hv : RTObj master v)
    (h : formatObj e fuel master v = .ok w) : extractObj e fuel w = extractObj e fuel src := by
  rw [hsrc]
  exact format_extract_tree e henv fuel master v w hf hd hv h

/-! ### what is missing for the other types

  `RoundTripLeaf` has no constructor — because Phil/Props/C09.lean has no theorem — for:
  `float`/`floats` (the written text is the oracle `"%.10g" % x`; a statement needs an axiom-free
  link between `fmt` and `eval`), `qstr` (re-tokenisation, property C03), `words`, a non-empty
  selection of a multi `choice`, and for the values below, which do NOT round-trip. -/

/-- a `True` held by an `int` is written `1` and read back as the int `1` (in Python `True == 1`) -/
theorem int_bool_collapses (fmt : FmtEnv) (env : EvalEnv) (henv : EnvDecimal env) :
    asWords (.int {}) fmt .none [] (.bool true) = .ok [{ value := intStr 1 }] ∧
    fromWords (.int {}) env .none [{ value := intStr 1 }] = .ok (.num (.int 1)) := by
  refine ⟨rfl, ?_⟩
  have h : asWords (.int {}) fmt .none [] (.num (.int 1)) = .ok [{ value := intStr 1 }] := rfl
  exact (int_round_trip {} fmt env .none .none [] _ 1 henv h).2

/-! ### 4. instances through the parser (each replayed on the Python library) -/

open Phil.C10 (objsT envT masterT yields yields_sound)

theorem envT_decimal : EnvDecimal envT.eval := fun i => by
  show (parseIntLit (intStr i)).map (fun i => EvalRes.num (.int i)) = _
  rw [parseIntLit_intStr]; rfl

/-- the root scope `master.format` is called on -/
def rootT (t : String) : Obj := .scope { name := [], id := some 0 } (objsT t)

/-- `master.format(v).extract()` -/
def formatExtractT (m : String) (v : PVal) : R PVal :=
  match formatObj envT 50 (rootT m) v with
  | .error err => .error err
  | .ok w => extractObj envT 50 w

/-- `master.format(v).as_str()` -/
def formatStrT (m : String) (v : PVal) : Option String :=
  match formatObj envT 50 (rootT m) v with
  | .error _ => none
  | .ok w =>
    match showObj {} w [] [] with
    | .ok l => some (String.ofList (unlines l))
    | .error _ => none

private def S (s : String) : Str := s.toList
private def I (i : Int) : PVal := .num (.int i)

/-- a parameter object for `masterT` (three levels; int, bool, str, ints, choice) -/
def v1 : PVal :=
  .record [(S "a", I 7), (S "s", .record [(S "b", .bool false), (S "name", .str (S "None")),
    (S "t", .record [(S "ns", .list [I 4, I (-5)]), (S "c", .str (S "blue"))])])]

/-- one with `None`, `Auto`, the empty string, a one-element list, no alternative selected -/
def v2 : PVal :=
  .record [(S "a", .none), (S "s", .record [(S "b", .auto), (S "name", .str (S "")),
    (S "t", .record [(S "ns", .list [I 9]), (S "c", .none)])])]

example : yields (formatExtractT masterT v1) v1 = true := by
  rw [formatExtractT, rootT, C10.masterT_eq]
  decide +kernel
example : yields (formatExtractT masterT v2) v2 = true := by
  rw [formatExtractT, rootT, C10.masterT_eq]
  decide +kernel
example : formatStrT masterT v1
    = some "a = 7\ns {\n  b = False\n  name = \"None\"\n  t {\n    ns = 4 -5\n    c = red green *blue\n  }\n}\n" := by
  rw [formatStrT, rootT, C10.masterT_eq]
  decide +kernel
example : formatStrT masterT v2
    = some "a = None\ns {\n  b = Auto\n  name = \"\"\n  t {\n    ns = 9\n    c = red green blue\n  }\n}\n" := by
  rw [formatStrT, rootT, C10.masterT_eq]
  decide +kernel

/-- master and objects satisfy the executable hypotheses of `format_extract_tree` -/
example : (fobjB_xt (rootT masterT) && decide (depthT (rootT masterT) = 3) &&
    rtObjB_xt (rootT masterT) v1 && rtObjB_xt (rootT masterT) v2) = true := by
  rw [rootT, C10.masterT_eq]
  decide +kernel

/-- **the theorem applied to the parsed master**: whatever `format` returns for `v1` extracts to `v1` -/
example (w : Obj) (h : formatObj envT 50 (rootT masterT) v1 = .ok w) : extractObj envT 50 w = .ok v1 :=
  format_extract_tree envT envT_decimal 50 (rootT masterT) v1 w
    (fobjB_sound_xt _ (by rw [rootT, C10.masterT_eq]; decide +kernel))
    (by have : depthT (rootT masterT) = 3 := by rw [rootT, C10.masterT_eq]; decide +kernel
        omega)
    (rtObjB_sound_xt _ _ (by rw [rootT, C10.masterT_eq]; decide +kernel)) h

/-- `master.fetch(source).extract()`, formatted and extracted again, is unchanged -/
example : (match Phil.C10.fetchExtractT masterT "s.t.c = blue\na = 7\ns {\n b = no\n t.ns = 4 5\n}\n" with
    | .ok v => yields (formatExtractT masterT v) v && rtObjB_xt (rootT masterT) v
    | .error _ => false) = true := by
  -- the fetch is evaluated once: the kernel would evaluate the scrutinee again for every `v` below the `match`
  rw [C10.fetchExtractT_every_leaf]
  show (yields (formatExtractT masterT _) _ && rtObjB_xt (rootT masterT) _) = true
  rw [formatExtractT, rootT, C10.masterT_eq]
  decide +kernel

/-- refusals of `format` are refusals of a leaf: a bound, an unknown alternative, a size -/
example : Phil.errOf (formatExtractT masterT
    (.record [(S "a", I (-1)), (S "s", .record [(S "b", .bool false), (S "name", .str (S "q")),
      (S "t", .record [(S "ns", .list [I 4, I 5]), (S "c", .str (S "blue"))])])]))
    = some (.runtime "value_min" none) := by
  rw [formatExtractT, rootT, C10.masterT_eq]
  decide +kernel
example : Phil.errOf (formatExtractT masterT
    (.record [(S "a", I 1), (S "s", .record [(S "b", .bool false), (S "name", .str (S "q")),
      (S "t", .record [(S "ns", .list [I 4, I 5]), (S "c", .str (S "purple"))])])]))
    = some (.runtime "invalid_choice" none) := by
  rw [formatExtractT, rootT, C10.masterT_eq]
  decide +kernel
example : Phil.errOf (formatExtractT masterT
    (.record [(S "a", I 1), (S "s", .record [(S "b", .bool false), (S "name", .str (S "q")),
      (S "t", .record [(S "ns", .list [I 1, I 2, I 3, I 4, I 5]), (S "c", .str (S "red"))])])]))
    = some (.runtime "too_many" none) := by
  rw [formatExtractT, rootT, C10.masterT_eq]
  decide +kernel

/-- outside `RTObj`: a `True` in the int leaf comes back as `1` … -/
example : yields (formatExtractT masterT
    (.record [(S "a", .bool true), (S "s", .record [(S "b", .bool false), (S "name", .str (S "q")),
      (S "t", .record [(S "ns", .list [I 4, I 5]), (S "c", .str (S "red"))])])]))
    (.record [(S "a", I 1), (S "s", .record [(S "b", .bool false), (S "name", .str (S "q")),
      (S "t", .record [(S "ns", .list [I 4, I 5]), (S "c", .str (S "red"))])])]) = true := by
  rw [formatExtractT, rootT, C10.masterT_eq]
  decide +kernel
/-- … a partial object yields a partial tree, `None` for the whole tree a tree of `None`s -/
example : yields (formatExtractT masterT (.record [(S "a", I 3)])) (.record [(S "a", I 3)]) = true := by
  rw [formatExtractT, rootT, C10.masterT_eq]
  decide +kernel
example : yields (formatExtractT masterT .none)
    (.record [(S "a", .none), (S "s", .record [(S "b", .none), (S "name", .none),
      (S "t", .record [(S "ns", .none), (S "c", .none)])])]) = true := by
  rw [formatExtractT, rootT, C10.masterT_eq]
  decide +kernel
/-- … and the empty list of `ints`, which `RTObj` excludes because it has no spelling
    (`Phil.C09.empty_list_has_no_spelling`), does survive `format`/`extract` at the object level: the
    formatted definition has no words and an empty word list is read as `[]` -/
example : yields (formatExtractT masterT
    (.record [(S "a", I 1), (S "s", .record [(S "b", .bool false), (S "name", .str (S "q")),
      (S "t", .record [(S "ns", .list []), (S "c", .str (S "red"))])])]))
    (.record [(S "a", I 1), (S "s", .record [(S "b", .bool false), (S "name", .str (S "q")),
      (S "t", .record [(S "ns", .list []), (S "c", .str (S "red"))])])]) = true := by
  rw [formatExtractT, rootT, C10.masterT_eq]
  decide +kernel

end Phil.C09
