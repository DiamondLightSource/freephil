/-
  C10 — Extraction never yields a value outside the declared type: whatever `type.from_words` returns
  for a word list lies in the set of Python objects the type declares (`InDomain`), for every
  constructor-argument combination, every answer of the Python evaluator (`env`) and every word list.
  Property theorems only; lemmas are in Phil/Proofs/ConvDomain.lean.
-/
import Phil.Proofs.ConvDomain
import Phil.Props.EvalCheck
namespace Phil.C10
open Phil

/-- The main statement, all twelve built-in types at once.  `InDomain c v` is the executable
    predicate of Phil/Proofs/ConvDomain.lean; the theorems below spell it out per type. -/
theorem fromWords_in_domain (c : Conv) (env : EvalEnv) (opt : AttrVal) (ws : List Word) (v : PVal)
    (h : fromWords c env opt ws = .ok v) : InDomain c v = true :=
  Phil.fromWords_in_domain c env opt ws v h

/-- `int(value_min, value_max, allow_none)`: `None` (only when allowed), `Auto`, a Python `int`, or
    `True`/`False` (instances of `int`; compared as 1/0) — never a float, `inf` or `nan`.  Bounds
    are stated as the code guarantees them: `value_min <= v` and `v <= value_max` are both true
    (Python comparisons, `pyLe`). -/
theorem int_in_domain (a : NumArgs) (env : EvalEnv) (opt : AttrVal) (ws : List Word) (v : PVal)
    (h : fromWords (.int a) env opt ws = .ok v) :
    (v = .none ∧ a.allowNone = true) ∨ v = .auto ∨
    (∃ i, v = .num (.int i) ∧
       (∀ lo, a.valueMin = some lo → pyLe lo (.int i) = true) ∧
       (∀ hi, a.valueMax = some hi → pyLe (.int i) hi = true)) ∨
    (∃ b, v = .bool b ∧
       (∀ lo, a.valueMin = some lo → pyLe lo (.int (if b then 1 else 0)) = true) ∧
       (∀ hi, a.valueMax = some hi → pyLe (.int (if b then 1 else 0)) hi = true)) := by
  have := (inDomain_int a v).mp (Phil.fromWords_in_domain _ env opt ws v h)
  simpa only [boundsOk_iff] using this

/-- `float(...)`: `None` (only when allowed), `Auto`, or a Python `float` — a finite `n/d`, `inf`,
    `-inf` or `nan`; never an `int` (ints are converted, `3` becomes `3.0` = `flt 3 1`) and never a
    `bool`.  The declared bounds hold as Python `<=`; in particular the value is `nan` only when no
    bound is declared. -/
theorem float_in_domain (a : NumArgs) (env : EvalEnv) (opt : AttrVal) (ws : List Word) (v : PVal)
    (h : fromWords (.float a) env opt ws = .ok v) :
    (v = .none ∧ a.allowNone = true) ∨ v = .auto ∨
    (∃ n, v = .num n ∧ (∀ i, n ≠ .int i) ∧
       (∀ lo, a.valueMin = some lo → pyLe lo n = true) ∧
       (∀ hi, a.valueMax = some hi → pyLe n hi = true) ∧
       (n = .nan → a.valueMin = none ∧ a.valueMax = none)) := by
  rcases (inDomain_float a v).mp (Phil.fromWords_in_domain _ env opt ws v h) with h | h | ⟨n, h1, h2, h3⟩
  · exact .inl h
  · exact .inr (.inl h)
  · refine .inr (.inr ⟨n, h1, h2, ((boundsOk_iff _ _ _).mp h3).1, ((boundsOk_iff _ _ _).mp h3).2, ?_⟩)
    intro hn
    subst hn
    exact (boundsOk_nan_iff _ _).mp h3

/-- what the Python `<=` of the bounds means: neither side is `nan` and the reverse `<` is false -/
theorem pyLe_iff (x y : PNum) : pyLe x y = true ↔ x ≠ .nan ∧ y ≠ .nan ∧ pyLt y x = false := by
  cases x <;> cases y <;> simp [pyLe]

/-- `bool`: `None`, `Auto`, `True` or `False`. -/
theorem bool_in_domain (env : EvalEnv) (opt : AttrVal) (ws : List Word) (v : PVal)
    (h : fromWords .bool env opt ws = .ok v) : v = .none ∨ v = .auto ∨ ∃ b, v = .bool b :=
  (inDomain_bool v).mp (Phil.fromWords_in_domain _ env opt ws v h)

/-- what an element of an `ints` (`isInt = true`) / `floats` list may be -/
def ElemInDomain (isInt : Bool) (a : ListArgs) (x : PVal) : Prop :=
  (x = .none ∧ a.allowNoneEl = true) ∨ (x = .auto ∧ a.allowAutoEl = true) ∨
  (isInt = true ∧
    ((∃ i, x = .num (.int i) ∧ boundsOk a.valueMin a.valueMax (.int i) = true) ∨
     (∃ b, x = .bool b ∧ boundsOk a.valueMin a.valueMax (.int (if b then 1 else 0)) = true))) ∨
  (isInt = false ∧ ∃ n, x = .num n ∧ (∀ i, n ≠ .int i) ∧ boundsOk a.valueMin a.valueMax n = true)

theorem elemOk_elemInDomain (isInt : Bool) (a : ListArgs) (x : PVal) (h : elemOk isInt a x = true) :
    ElemInDomain isInt a x := by
  unfold ElemInDomain
  rcases (elemOk_iff isInt a x).mp h with h | h | ⟨h1, h2⟩ | ⟨h1, h2⟩
  · exact .inl h
  · exact .inr (.inl h)
  · refine .inr (.inr (.inl ⟨h1, ?_⟩))
    cases x with
    | num n => cases n <;> simp_all [isIntIn]
    | _ => simp_all [isIntIn]
  · refine .inr (.inr (.inr ⟨h1, ?_⟩))
    cases x with
    | num n => cases n <;> simp_all [isFloatIn]
    | _ => simp_all [isFloatIn]

/-- `ints(size_min, size_max, value_min, value_max, allow_none_elements, allow_auto_elements)`:
    `None`, `Auto`, or a list whose length respects the size limits and whose every element is
    `None`/`Auto` only when the respective flag allows it, otherwise an int within the bounds. -/
theorem ints_in_domain (a : ListArgs) (env : EvalEnv) (opt : AttrVal) (ws : List Word) (v : PVal)
    (h : fromWords (.ints a) env opt ws = .ok v) :
    v = .none ∨ v = .auto ∨
    ∃ l, v = .list l ∧
      (∀ m, a.sizeMin = some m → m ≤ (l.length : Int)) ∧
      (∀ M, a.sizeMax = some M → (l.length : Int) ≤ M) ∧
      ∀ x ∈ l, ElemInDomain true a x := by
  rcases (inDomain_ints a v).mp (Phil.fromWords_in_domain _ env opt ws v h) with h | h | ⟨l, h1, h2, h3⟩
  · exact .inl h
  · exact .inr (.inl h)
  · rw [sizeOk_iff] at h2
    exact .inr (.inr ⟨l, h1, h2.1, h2.2, fun x hx => elemOk_elemInDomain _ _ _ (h3 x hx)⟩)

/-- `floats(...)`: as `ints_in_domain`, the elements being floats. -/
theorem floats_in_domain (a : ListArgs) (env : EvalEnv) (opt : AttrVal) (ws : List Word) (v : PVal)
    (h : fromWords (.floats a) env opt ws = .ok v) :
    v = .none ∨ v = .auto ∨
    ∃ l, v = .list l ∧
      (∀ m, a.sizeMin = some m → m ≤ (l.length : Int)) ∧
      (∀ M, a.sizeMax = some M → (l.length : Int) ≤ M) ∧
      ∀ x ∈ l, ElemInDomain false a x := by
  rcases (inDomain_floats a v).mp (Phil.fromWords_in_domain _ env opt ws v h) with h | h | ⟨l, h1, h2, h3⟩
  · exact .inl h
  · exact .inr (.inl h)
  · rw [sizeOk_iff] at h2
    exact .inr (.inr ⟨l, h1, h2.1, h2.2, fun x hx => elemOk_elemInDomain _ _ _ (h3 x hx)⟩)

/-- `nan` does not pass a declared bound (`_check_value` tests `value_min <= v` and
    `v <= value_max`, both false on `nan`).  Here: `float(value_min=0)` refuses `nan`. -/
theorem nan_refused_by_bounds (env : EvalEnv) (he : env "nan".toList = some (.num .nan)) :
    fromWords (.float { valueMin := some (.int 0) }) env .none [⟨"nan".toList, none, some 1⟩]
      = .error (.runtime "value_min" (some 1)) :=
  Phil.nan_refused_by_bounds env he

/-- … and so for any declared bound, any text that evaluates to `nan`: the error is "value_min" when
    `value_min` is declared, otherwise "value_max". -/
theorem nan_refused_by_bounds_gen (env : EvalEnv) (a : NumArgs) (opt : AttrVal) (ws : List Word) (s : Str)
    (hw : strFromWords ws = .str s) (hs : isSpecialNumText s = false)
    (he : env s = some (.num .nan))
    (hb : a.valueMin.isSome = true ∨ a.valueMax.isSome = true) :
    fromWords (.float a) env opt ws =
      .error (.runtime (if a.valueMin.isSome then "value_min" else "value_max") (firstLine ws)) :=
  Phil.nan_refused_by_bounds_gen env a opt ws s hw hs he hb

/-- without any bound `nan` is a legitimate float value -/
theorem nan_accepted_without_bounds (env : EvalEnv) (a : NumArgs) (opt : AttrVal) (ws : List Word) (s : Str)
    (hw : strFromWords ws = .str s) (hs : isSpecialNumText s = false)
    (he : env s = some (.num .nan))
    (h1 : a.valueMin = none) (h2 : a.valueMax = none) :
    fromWords (.float a) env opt ws = .ok (.num .nan) :=
  Phil.nan_accepted_without_bounds env a opt ws s hw hs he h1 h2

/-- the domain of a float type (and of the elements of a `floats` list) contains `nan` exactly when
    no bound is declared -/
theorem inDomain_float_nan (a : NumArgs) :
    InDomain (.float a) (.num .nan) = true ↔ a.valueMin = none ∧ a.valueMax = none :=
  Phil.inDomain_float_nan a

theorem elemOk_float_nan (a : ListArgs) :
    elemOk false a (.num .nan) = true ↔ a.valueMin = none ∧ a.valueMax = none := by
  simp [elemOk, isFloatIn, boundsOk_nan_iff]

/-- `bool_from_words` accepts exactly the eight spellings (case-insensitively): the result is
    `True` iff the joined text is one of true/yes/on/1, `False` iff one of false/no/off/0. -/
theorem bool_spellings (ws : List Word) (b : Bool) :
    boolFromWords ws = .ok (.bool b) ↔
      ∃ s, strFromWords ws = .str s ∧
        lower s ∈ (if b then boolTrueSpellings else boolFalseSpellings) :=
  Phil.bool_spellings ws b

/-- … and nothing else: any other text is an error ("bool_expected" with the first word's line;
    an AssertionError for an empty word list). -/
theorem bool_rejects_other (ws : List Word) (s : Str) (hs : strFromWords ws = .str s)
    (hf : lower s ∉ boolFalseSpellings) (ht : lower s ∉ boolTrueSpellings) :
    boolFromWords ws = .error (if ws.isEmpty then .stray "AssertionError" "bool_from_words"
                               else .runtime "bool_expected" (firstLine ws)) :=
  Phil.bool_rejects_other ws s hs hf ht

/-- the whole of `bool_from_words` in one statement -/
theorem boolFromWords_spec (ws : List Word) :
    (strFromWords ws = .none ∧ boolFromWords ws = .ok .none) ∨
    (strFromWords ws = .auto ∧ boolFromWords ws = .ok .auto) ∨
    (∃ s, strFromWords ws = .str s ∧
      ((lower s ∈ boolFalseSpellings ∧ boolFromWords ws = .ok (.bool false)) ∨
       (lower s ∈ boolTrueSpellings ∧ boolFromWords ws = .ok (.bool true)) ∨
       (lower s ∉ boolFalseSpellings ∧ lower s ∉ boolTrueSpellings ∧
          boolFromWords ws = .error (if ws.isEmpty then .stray "AssertionError" "bool_from_words"
                                     else .runtime "bool_expected" (firstLine ws))))) :=
  Phil.boolFromWords_spec ws

/-- `int` accepts a value string that evaluates to a float with an integral value (`2.0`, `1e3`)
    and returns the int; stated without bounds. -/
theorem int_accepts_integral (env : EvalEnv) (allowNone : Bool) (opt : AttrVal) (ws : List Word)
    (s : Str) (n : Int) (d : Nat)
    (hw : strFromWords ws = .str s) (hs : isSpecialNumText s = false)
    (he : env s = some (.num (.flt n d))) (hd : d ≠ 0) (hm : n % (d : Int) = 0) :
    fromWords (.int { allowNone := allowNone }) env opt ws = .ok (.num (.int (n / (d : Int)))) :=
  Phil.int_accepts_integral env allowNone opt ws s n d hw hs he hd hm

/-- the same with bounds: accepted when the integer satisfies them -/
theorem int_accepts_integral_gen (env : EvalEnv) (a : NumArgs) (opt : AttrVal) (ws : List Word)
    (s : Str) (n : Int) (d : Nat)
    (hw : strFromWords ws = .str s) (hs : isSpecialNumText s = false)
    (he : env s = some (.num (.flt n d))) (hd : d ≠ 0) (hm : n % (d : Int) = 0)
    (hb : boundsOk a.valueMin a.valueMax (.int (n / (d : Int))) = true) :
    fromWords (.int a) env opt ws = .ok (.num (.int (n / (d : Int)))) :=
  Phil.int_accepts_integral_gen env a opt ws s n d hw hs he hd hm hb

/-- a float that is not integral is refused ("integer_expected") -/
theorem int_rejects_fraction (env : EvalEnv) (a : NumArgs) (opt : AttrVal) (ws : List Word)
    (s : Str) (n : Int) (d : Nat)
    (hw : strFromWords ws = .str s) (hs : isSpecialNumText s = false)
    (he : env s = some (.num (.flt n d))) (hm : d = 0 ∨ n % (d : Int) ≠ 0) :
    fromWords (.int a) env opt ws = .error (wordsErr "integer_expected" ws) :=
  Phil.int_rejects_fraction env a opt ws s n d hw hs he hm

/-! ### concrete instances (non-vacuity) -/

/-- a small evaluator: the answers CPython gives for these five strings -/
def envEx : EvalEnv := fun s =>
  if s == "3".toList then some (.num (.int 3))
  else if s == "2.0".toList then some (.num (.flt 2 1))
  else if s == "2.5".toList then some (.num (.flt 5 2))
  else if s == "7".toList then some (.num (.int 7))
  else if s == "nan".toList then some (.num .nan)
  else some .raises

private def W (s : String) : Word := { value := s.toList, line := some 1 }

example : fromWords (.int { valueMin := some (.int 0), valueMax := some (.int 5) }) envEx .none [W "3"]
    = .ok (.num (.int 3)) := by rfl
example : fromWords (.int { valueMin := some (.int 0), valueMax := some (.int 5) }) envEx .none [W "7"]
    = .error (.runtime "value_max" (some 1)) := error_of_check (by decide +kernel)
example : fromWords (.int {}) envEx .none [W "2.0"] = .ok (.num (.int 2)) := by rfl
example : fromWords (.int {}) envEx .none [W "2.5"] = .error (.runtime "integer_expected" (some 1)) := error_of_check (by decide +kernel)
example : fromWords (.float {}) envEx .none [W "3"] = .ok (.num (.flt 3 1)) := by rfl
example : fromWords (.int { allowNone := false }) envEx .none [W "None"]
    = .error (.runtime "cannot_be_none" none) := error_of_check (by decide +kernel)
example : fromWords (.ints { sizeMax := some 3, allowNoneEl := true }) envEx .none [W "[3,", W "None", W "2.0]"]
    = .ok (.list [.num (.int 3), .none, .num (.int 2)]) := by rfl
example : fromWords (.ints { sizeMax := some 2, allowNoneEl := true }) envEx .none [W "3", W "None", W "2.0"]
    = .error (.runtime "too_many" (some 1)) := error_of_check (by decide +kernel)
example : fromWords (.floats { valueMin := some (.int 3) }) envEx .none [W "3", W "2.5"]
    = .error (.runtime "value_min" (some 1)) := error_of_check (by decide +kernel)
example : fromWords .bool envEx .none [W "YES"] = .ok (.bool true) := by rfl
example : fromWords .bool envEx .none [W "maybe"] = .error (.runtime "bool_expected" (some 1)) := error_of_check (by decide +kernel)
example : fromWords (.float { valueMin := some (.int 0) }) envEx .none [W "nan"]
    = .error (.runtime "value_min" (some 1)) :=
  nan_refused_by_bounds_gen envEx _ _ _ "nan".toList (by rfl) (by rfl) (by rfl) (.inl rfl)
example : fromWords (.float { valueMax := some (.int 0) }) envEx .none [W "nan"]
    = .error (.runtime "value_max" (some 1)) :=
  nan_refused_by_bounds_gen envEx _ _ _ "nan".toList (by rfl) (by rfl) (by rfl) (.inr rfl)
example : fromWords (.float {}) envEx .none [W "nan"] = .ok (.num .nan) :=
  nan_accepted_without_bounds envEx _ _ _ "nan".toList (by rfl) (by rfl) (by rfl) rfl rfl
example : InDomain (.float { valueMin := some (.int 0) }) (.num .nan) = false := by rfl
example : InDomain (.int { valueMin := some (.int 0) }) (.num (.int (-1))) = false := by rfl
example : InDomain (.int {}) (.num (.flt 1 2)) = false := by rfl
example : InDomain (.ints { sizeMin := some 2 }) (.list [.num (.int 1)]) = false := by rfl

end Phil.C10
