/-
  C01 / C19 (part) — the attribute round trip with DISABLED DEFINITIONS AND DISABLED PROPER SCOPES.
  Property theorems only; the lemmas are in Phil/Proofs/AttrTrees.lean and AttrRoundTrip.lean.  Continues Phil/Props/C01Attrs3Dis.lean.

  The class: `RTTreeAttrS L w x` — the tree `x` with EVERY disabled flag cleared (`x.enableS`: definitions
  and scopes) is in the attribute round-trip class `RTTreeAttr`, and every scope that is only a dotted
  prefix (it merges its name into its only child: `a` of `a.b = 1` / `a.b { … }`) is enabled
  (`x.prefixEnabled`).  So `!name = …`, `!scope { … }`, `!a.b { … }` (the flag on the LAST component) may
  stand anywhere, with attribute lines after the header.  `kidsTextC`: `kidsTextB` with `!` glued in front of
  the printed (dotted) name of every disabled proper scope.
-/
import Phil.Props.C01Attrs3Dis
namespace Phil.C01
open Phil

attribute [local instance] objDecEqInst exceptDecEqRT

/-- the attribute round-trip class with disabled definitions and disabled proper scopes -/
def RTTreeAttrS (L w : Int) (x : Obj) : Prop :=
  RTNode [] x.enableS.stripAttrs ∧ x.attrsOKAt L w [] = true ∧ x.prefixEnabled = true

instance (L w : Int) (x : Obj) : Decidable (RTTreeAttrS L w x) := by unfold RTTreeAttrS; exact inferInstance

theorem rtAllAttrS_of_forall {L w : Int} {objs : List Obj} (h : ∀ x ∈ objs, RTTreeAttrS L w x) :
    RTAll (stripAttrsList (enableSList objs)) ∧ attrsOKsAt L w objs [] = true ∧
      prefixEnabledList objs = true := by
  refine ⟨?_, ?_, ?_⟩
  · exact (rtAllC_iff objs).mpr fun x hx => (h x hx).1
  · exact (attrsOKsAt_iff_art L w objs []).mpr (fun x hx => (h x hx).2.1)
  · exact (prefixEnabledList_iff_ar4 objs).mpr (fun x hx => (h x hx).2.2)

/-- the class of C01Attrs3Dis (disabled definitions, enabled scopes) is a sub-class -/
theorem RTTreeAttrD.toS {L w : Int} {x : Obj} (h : RTTreeAttrD L w x) : RTTreeAttrS L w x := by
  obtain ⟨e1, e2⟩ := enableS_of_enableD_ar4 x [] h.1
  exact ⟨by rw [e1]; exact h.1, h.2, e2⟩

/-- **what is printed**: `!` in front of the name of every disabled definition and of every disabled
    proper scope, everything else as for enabled objects -/
theorem print_tree_attrs_disabled_scopes (o : ShowOpts) (he : o.expert = none) (objs : List Obj)
    (h : ∀ x ∈ objs, RTTreeAttrS o.level o.width x) :
    asStr o (rootOf objs) = .ok (kidsTextC o.level o.width objs [] []) := by
  obtain ⟨h1, h2, h3⟩ := rtAllAttrS_of_forall h
  exact asStr_treesC_ar4 o he objs [] (by intro d hd; cases hd) h1 h3 h2

/-- **Print → parse with disabled definitions and disabled scopes** (any attributes level, any width,
    deprecated definitions anywhere): the text parses and the parser returns the forest — names, nesting,
    order, words, quote styles, the DISABLED FLAGS of definitions and scopes (`erase` keeps them), every
    object with exactly the attributes shown at the level — ids as expected. -/
theorem print_parse_tree_attrs_disabled_scopes (o : ShowOpts) (he : o.expert = none) (objs : List Obj)
    (h : ∀ x ∈ objs, RTTreeAttrS o.level o.width x) (hnl : ∀ x ∈ objs, x.allDefns NlOnlyLast) :
    ∃ text objs', asStr o (rootOf objs) = .ok text ∧ text = kidsTextC o.level o.width objs [] [] ∧
      parseObjs text = .ok objs' ∧ eraseList objs' = eraseList (normAList o.level objs) ∧
      idsList objs' = (expIdsSeq 1 objs).map some := by
  obtain ⟨h1, h2, h3⟩ := rtAllAttrS_of_forall h
  obtain ⟨objs', e1, e2, e3⟩ := parseObjs_treesC_ar4 o.level o.width objs [] (by intro d hd; simp at hd)
    h1 h3 ((allDefnsList_iff NlOnlyLast objs).mpr hnl) h2
  exact ⟨_, objs', print_tree_attrs_disabled_scopes o he objs h, rfl, e1, e2, e3⟩

/-- **Print, parse, print again with disabled definitions and scopes: byte-identical text.** -/
theorem second_print_identical_attrs_disabled_scopes (o : ShowOpts) (he : o.expert = none) (objs : List Obj)
    (h : ∀ x ∈ objs, RTTreeAttrS o.level o.width x) (hnl : ∀ x ∈ objs, x.allDefns NlOnlyLast) :
    ∃ text root', asStr o (rootOf objs) = .ok text ∧ parse text = .ok root' ∧
      asStr o root' = .ok text := by
  obtain ⟨text, objs', h1, ht, h2, h3, _⟩ := print_parse_tree_attrs_disabled_scopes o he objs h hnl
  obtain ⟨r1, r2, r3⟩ := rtAllAttrS_of_forall h
  obtain ⟨g1, g2⟩ := reparsed_root h2 h3
  exact ⟨text, _, h1, g1, by rw [g2 o [], asStr_normA_treesC_ar4 o he objs [] (by intro d hd; cases hd) r1 r3 r2, ht]⟩

/-- **C19 with disabled definitions and scopes: the tree re-parsed from any attributes level is the same
    once attributes are ignored** (names, nesting, order, disabled flags, words, quote styles) -/
theorem any_level_reparses_to_same_tree_disabled_scopes (o : ShowOpts) (he : o.expert = none) (objs : List Obj)
    (h : ∀ x ∈ objs, RTTreeAttrS o.level o.width x) (hnl : ∀ x ∈ objs, x.allDefns NlOnlyLast) :
    ∃ text objs', asStr o (rootOf objs) = .ok text ∧ parseObjs text = .ok objs' ∧
      eraseAttrsList objs' = eraseAttrsList objs := by
  obtain ⟨text, objs', h1, _, h2, h3, _⟩ := print_parse_tree_attrs_disabled_scopes o he objs h hnl
  exact ⟨text, objs', h1, h2, by
    rw [eraseAttrsList_of_eraseList_ert h3, eraseAttrsList_normAList_art]⟩

/-- **one turn of `collect_objects` on a printed scope header, enabled or disabled** (`name` / `!name`,
    attribute lines, `{`): the scope is opened with `is_disabled` = the bang -/
theorem scope_header_one_turn_any (fuel : Nat) (stop : Option Word) (prevLine : Nat)
    (acc : List Obj) (pending : Option Obj) (pre nm V ind : Str) (l i : Nat) (L w : Int) (attrs : Attrs) (b : Bool)
    (hpre : ∀ d ∈ pre, isSpace d = true) (hn : ItemName nm) (hb : ∀ c ∈ ind, c = ' ')
    (hok : attrsOK false ind L w attrs = true) :
    ∃ l' bl, collectObjects (fuel + 1)
        { ci := ⟨pre ++ ((if b then ['!'] else []) ++ nm) ++ headTail ind L w attrs V, l⟩, nextId := i } stop
        prevLine acc pending
      = scopeCont fuel stop (l + nlCount pre) acc pending
          { name := nm, id := some i, disabled := b, line := some (l + nlCount pre), attrs := shownAttrs false L attrs }
          (collectObjects fuel { ci := ⟨V, l'⟩, nextId := i + 1 }
            (some { value := ['{'], quote := none, line := some bl }) 0 [] none) :=
  (collectObjects_open_scope_any_ar4 stop prevLine acc pending pre nm V ind l i L w attrs b hpre hn hb hok).imp
    fun _ h => h.imp fun _ h => h fuel

/-! ### non-vacuity (replayed on the Python library, levels 0–3, width 60: second print identical; flags of
    the re-parsed tree: `s`, `q` (of `p.q`), `c`, `r` disabled, `p`, `t`, `d` enabled)

  ```
  !s
    .help = "x y"
  {
    !c = 3
    !p.q {
      d = 6
    }
    t {
      !r
        .help = z
      {
      }
    }
  }
  ``` -/

def exScSrc : Str :=
  ("!s\n  .help = \"x y\"\n{\n  !c = 3\n  !p.q {\n    d = 6\n  }\n  t {\n    !r\n      .help = z\n    {\n    }\n  }\n}\n").toList

def exScForest : List Obj :=
  [ .scope { name := ['s'], disabled := true, attrs := [("help", .str "x y".toList)] }
      [ .defn { name := ['c'], disabled := true } [{ value := ['3'] }],
        .scope { name := ['p'] }
          [.scope { name := ['q'], disabled := true, mergeNames := true }
            [.defn { name := ['d'] } [{ value := ['6'] }]]],
        .scope { name := ['t'] }
          [.scope { name := ['r'], disabled := true, attrs := [("help", .str "z".toList)] } []] ] ]

theorem exSc_facts :
    (parseObjs exScSrc).map eraseList = .ok exScForest ∧
    (∀ x ∈ exScForest, RTTreeAttrS 2 60 x) ∧
    (∀ x ∈ exScForest, x.allDefns NlOnlyLast) ∧
    ¬ (∀ x ∈ exScForest, RTTreeAttrD 2 60 x) ∧
    asStr { level := 2, width := 60 } (rootOf exScForest) = .ok exScSrc ∧
    asStr { level := 0, width := 60 } (rootOf exScForest)
      = .ok "!s {\n  !c = 3\n  !p.q {\n    d = 6\n  }\n  t {\n    !r {\n    }\n  }\n}\n".toList := by
  unfold exScSrc exScForest
  -- a literal is `String.ofList […]` for `rw` and the kernel: no UTF-8 decoding
  repeat rw [String.toList_ofList]
  decide +kernel

/-- the round trip of the example at level 2, through the theorems; the flags come back -/
example : ∃ text objs' root', asStr { level := 2, width := 60 } (rootOf exScForest) = .ok text ∧
    parseObjs text = .ok objs' ∧ eraseList objs' = eraseList (normAList 2 exScForest) ∧
    eraseAttrsList objs' = eraseAttrsList exScForest ∧
    parse text = .ok root' ∧ asStr { level := 2, width := 60 } root' = .ok text := by
  obtain ⟨_, h2, h4, _⟩ := exSc_facts
  obtain ⟨text, objs', h1, _, e2, e3, _⟩ :=
    print_parse_tree_attrs_disabled_scopes { level := 2, width := 60 } rfl exScForest h2 h4
  obtain ⟨text', root', g1, g2, g3⟩ :=
    second_print_identical_attrs_disabled_scopes { level := 2, width := 60 } rfl exScForest h2 h4
  have : text' = text := by rw [h1] at g1; cases g1; rfl
  subst this
  exact ⟨text', objs', root', h1, e2, e3,
    by rw [eraseAttrsList_of_eraseList_ert e3, eraseAttrsList_normAList_art], g2, g3⟩

/-! ### sharp edges -/

/-- **the hypothesis `prefixEnabled` is sharp**: a disabled scope that is only a dotted prefix of a
    (disabled or enabled) proper scope prints without its own `!`; the text re-parses with the prefix scope
    ENABLED (Python, replayed: `scope(a, is_disabled=True)[scope(b, merge_names=True)[x = 1]]` prints
    `a.b {⏎  x = 1⏎}`; re-parsed `a.is_disabled == False`).  Everything else of the class holds for the tree. -/
theorem disabled_prefix_of_scope_is_lost :
    let t : List Obj := [.scope { name := ['a'], disabled := true }
      [.scope { name := ['b'], mergeNames := true } [.defn { name := ['x'] } [{ value := ['1'] }]]]]
    asStr {} (rootOf t) = .ok "a.b {\n  x = 1\n}\n".toList ∧
    (parseObjs "a.b {\n  x = 1\n}\n".toList).map eraseList ≠ .ok (eraseList t) ∧
    (∀ x ∈ t, RTNode [] x.enableS.stripAttrs ∧ x.attrsOKAt 0 79 [] = true) ∧
    ¬ (∀ x ∈ t, RTTreeAttrS 0 79 x) := by
  repeat rw [String.toList_ofList]
  decide +kernel

#print axioms rtAllAttrS_of_forall
#print axioms RTTreeAttrD.toS
#print axioms print_tree_attrs_disabled_scopes
#print axioms print_parse_tree_attrs_disabled_scopes
#print axioms second_print_identical_attrs_disabled_scopes
#print axioms any_level_reparses_to_same_tree_disabled_scopes
#print axioms scope_header_one_turn_any
#print axioms exSc_facts
#print axioms disabled_prefix_of_scope_is_lost

end Phil.C01
