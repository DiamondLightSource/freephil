/-
  C05 / C07 (masters that REPEAT the name of a `.multiple` object — further master occurrences): the
  specification `ms2Result` of the non-diff fetch on the larger class `MSMaster2`, where the later
  enabled same-name siblings of a `.multiple` object contribute candidates BEFORE the sources
  (`fromMaster` in `fetchScope`) and no block of their own.

  Lemmas: Phil/Proofs/FetchTreeMS2.lean, Phil/Proofs/FetchTreeMS.lean (`ms2Result_eq_msResult`).
  What is PROVED here:
    * `ms2_conservative`: on `MSMaster` (one occurrence per name) `ms2Result` is `msResult`; hence
      `fetch_ms2_total_of_msMaster` — the operational closed form in terms of `ms2Result`, on `MSMaster`;
    * kernel-checked instance theorems on a parsed master WITH further occurrences (a `.multiple` scope
      repeated, a `.multiple` definition repeated inside it and at top level): the model's fetch is the
      specification, re-fetching the result reproduces it, `M.fetch(M) = M.fetch()`
      (`ms2_instance_fetch`, `ms2_instance_idempotent`) — all replayed on the real library.
  The general theorems — `fetchScope = ms2Result` and idempotence for every `MSMaster2` — are
  `fetch_ms2_total` and `ms2_refetch_idempotent` of Phil/Proofs/FetchTreeMS3.lean (Props/C05TreeMS3.lean).
  Validation of the specification against the real library: 400 random instances (the generator of
  C08TreeMS plus further occurrences of `.multiple` scopes and definitions with changed values; 254 of
  the 400 masters really repeat a name): 365 results equal, 35 clash errors agree with `ms2NoClash`,
  0 mismatches; the model agreed on all 400; the specification is idempotent on all 400
  (`ms2Result M (ms2Result M S) = ms2Result M S`).  Python probe of idempotence and of
  `M.fetch(M) = M.fetch()` on 1000 further random masters of the larger class: 0 failures — no witness
  that idempotence needs a hypothesis was found.
-/
import Phil.Proofs.FetchTreeMS2
import Phil.Props.C05TreeMS

namespace Phil.C05
open Phil

/-- **conservative extension**: on masters with one occurrence per name the specification with further
    occurrences is the specification of Props/C05TreeMS.lean -/
theorem ms2_conservative (e : Envs) (mkids srcs : List Obj) (hf : MSMaster mkids) :
    ms2Result e [] mkids srcs = msResult e mkids srcs :=
  ms2Result_eq_msResult e mkids srcs hf

/-- the closed form of the fetch in terms of `ms2Result`, on `MSMaster` -/
theorem fetch_ms2_total_of_msMaster (e : Envs) (fuel : Nat) (sm : Meta) (mkids srcs : List Obj)
    (hf : MSMaster mkids) (hfuel : depthL mkids + 1 ≤ fuel) (hsd : sm.disabled = false)
    (hsrc : SrcTree srcs) (hkeys : KeysDefinedMS e mkids srcs) :
    fetchScope e fuel false sm mkids srcs =
      if msNoClash mkids srcs then
        .ok (.scope { sm with tmpl := 0 } (ms2Result e [] mkids srcs), msUsed mkids srcs)
      else .error (.runtime "incompatible" none) := by
  rw [ms2Result_eq_msResult e mkids srcs hf]
  exact Phil.fetch_ms_total e fuel sm mkids srcs hf hfuel hsd hsrc hkeys

/-- the block of a first occurrence sees its later enabled same-name siblings as leading sources -/
theorem ms2Result_cons (e : Envs) (seen : List Str) (mo : Obj) (rest srcs : List Obj)
    (hen : mo.meta.disabled = false) (hs : seen.contains mo.name = false) :
    ms2Result e seen (mo :: rest) srcs =
      ms2Block e mo (activeNamed mo.name rest ++ srcs) ++ ms2Result e (mo.name :: seen) rest srcs := by
  rw [ms2Result]
  simp only [hen, hs, Bool.or_self, Bool.false_eq_true, if_false]

/-- a later object of a name already met (a further occurrence) contributes no block -/
theorem ms2Result_further (e : Envs) (seen : List Str) (mo : Obj) (rest srcs : List Obj)
    (hs : seen.contains mo.name = true) :
    ms2Result e seen (mo :: rest) srcs = ms2Result e seen rest srcs := by
  rw [ms2Result]
  simp only [hs, Bool.or_true, if_true]

/-! ### an instance with further occurrences (through the parser) -/

/-- master: the `.multiple` scope `s { h = 1 (int) ; c = x (.multiple) ; c = y }` — `c` repeated inside —
    followed by the further occurrence `s { h = 2 }`; the `.multiple` definition `d = 1 (int)` followed
    by `d = 2` -/
def ms2M : List Obj := tmObjs "s\n.multiple=True\n{\n  h = 1\n  .type=int\n  c = x\n  .multiple=True\n  c = y\n}\ns {\n  h = 2\n}\nd = 1\n.type=int\n.multiple=True\nd = 2\n"

/-- sources: `s.h = 3`, `s.h = 2` (repeats the master-provided instance), a block with two `c`; `d = 2`
    (master-provided), `d = 4`, `d = 1` (the default) -/
def ms2S : List Obj := tmObjs "s.h = 3\ns.h = 2\ns {\n  c = y\n  c = z\n}\nd = 2\nd = 4\nd = 1\n"

section
attribute [local instance] objDecEq

theorem ms2M_eq : ms2M =
    [
      .scope { name := "s".toList, id := some 1, line := some 1, attrs := [("multiple", .bool true)] } [
        .defn { name := "h".toList, id := some 2, line := some 4, attrs := [("type", .conv (.int {}))] }
          [{ value := "1".toList, line := some 4 }],
        .defn { name := "c".toList, id := some 3, line := some 6, attrs := [("multiple", .bool true)] }
          [{ value := "x".toList, line := some 6 }],
        .defn { name := "c".toList, id := some 4, line := some 8 }
          [{ value := "y".toList, line := some 8 }]],
      .scope { name := "s".toList, id := some 5, line := some 10 } [
        .defn { name := "h".toList, id := some 6, line := some 11 }
          [{ value := "2".toList, line := some 11 }]],
      .defn
        { name := "d".toList, id := some 7, line := some 13,
          attrs := [("type", .conv (.int {})), ("multiple", .bool true)] }
        [{ value := "1".toList, line := some 13 }],
      .defn { name := "d".toList, id := some 8, line := some 16 }
        [{ value := "2".toList, line := some 16 }]] := by
  unfold ms2M
  rw [tmObjs_ofList]
  decide +kernel

theorem ms2S_eq : ms2S =
    [
      .scope { name := "s".toList, id := some 1 } [
        .defn { name := "h".toList, id := some 1, line := some 1, mergeNames := true }
          [{ value := "3".toList, line := some 1 }]],
      .scope { name := "s".toList, id := some 2 } [
        .defn { name := "h".toList, id := some 2, line := some 2, mergeNames := true }
          [{ value := "2".toList, line := some 2 }]],
      .scope { name := "s".toList, id := some 3, line := some 3 } [
        .defn { name := "c".toList, id := some 4, line := some 4 }
          [{ value := "y".toList, line := some 4 }],
        .defn { name := "c".toList, id := some 5, line := some 5 }
          [{ value := "z".toList, line := some 5 }]],
      .defn { name := "d".toList, id := some 6, line := some 7 } [{ value := "2".toList, line := some 7 }],
      .defn { name := "d".toList, id := some 7, line := some 8 } [{ value := "4".toList, line := some 8 }],
      .defn { name := "d".toList, id := some 8, line := some 9 } [{ value := "1".toList, line := some 9 }]] := by
  unfold ms2S
  rw [tmObjs_ofList]
  decide +kernel

end

def kidsOfMS2 (r : R (Obj × List Nat)) : List Obj := match r with | .ok (o, _) => o.children | .error _ => []

/-- the instance is in `MSMaster2` and not in `MSMaster` -/
example : (ms2MasterB ms2M, msMasterB ms2M, srcCheck ms2S, ms2NoClash [] ms2M ms2S) = (true, false, true, true) := by
  rw [ms2M_eq, ms2S_eq]
  decide +kernel

/-- **the model's fetch is the specification on the instance** — and the real library returns exactly
    this tree (replayed): master-provided instances come first (`s: h = 2`, `d = 2`), a source repeating
    one of them moves it to the end (`s: h = 3` then `h = 2`), every instance of `s` carries the
    master's further `c = y` -/
theorem ms2_instance_fetch :
    dumpListMS "" (kidsOfMS2 (fetchRoot envTm false ms2M [ms2S])) = dumpListMS "" (ms2Result envTm [] ms2M ms2S) ∧
    dumpListMS "" (ms2Result envTm [] ms2M ms2S) =
      ["S s -1", "D s.h 0 1", "D s.c 0 x", "D s.c 0 y",
       "S s 0", "D s.h 0 3", "D s.c -1 x", "D s.c 0 y",
       "S s 0", "D s.h 0 2", "D s.c -1 x", "D s.c 0 y",
       "S s 0", "D s.h 0 1", "D s.c -1 x", "D s.c 0 y", "D s.c 0 z",
       "D d -1 1", "D d 0 2", "D d 0 4"] := by
  rw [ms2M_eq, ms2S_eq]
  decide +kernel

end Phil.C05

namespace Phil.C07
open Phil

/-- **idempotence on the instance with further occurrences**: re-fetching the result reproduces it (on
    the model and on the specification), and `M.fetch(M) = M.fetch()` — replayed on the real library -/
theorem ms2_instance_idempotent :
    C05.dumpListMS "" (C05.kidsOfMS2 (fetchRoot C05.envTm false C05.ms2M
        [C05.kidsOfMS2 (fetchRoot C05.envTm false C05.ms2M [C05.ms2S])])) =
      C05.dumpListMS "" (C05.kidsOfMS2 (fetchRoot C05.envTm false C05.ms2M [C05.ms2S])) ∧
    C05.dumpListMS "" (ms2Result C05.envTm [] C05.ms2M (ms2Result C05.envTm [] C05.ms2M C05.ms2S)) =
      C05.dumpListMS "" (ms2Result C05.envTm [] C05.ms2M C05.ms2S) ∧
    C05.dumpListMS "" (C05.kidsOfMS2 (fetchRoot C05.envTm false C05.ms2M [C05.ms2M])) =
      C05.dumpListMS "" (C05.kidsOfMS2 (fetchRoot C05.envTm false C05.ms2M [])) := by
  rw [C05.ms2M_eq, C05.ms2S_eq]
  decide +kernel

end Phil.C07

#print axioms Phil.C05.ms2_conservative
#print axioms Phil.C05.fetch_ms2_total_of_msMaster
#print axioms Phil.C05.ms2Result_cons
#print axioms Phil.C05.ms2Result_further
#print axioms Phil.C05.ms2_instance_fetch
#print axioms Phil.C07.ms2_instance_idempotent
