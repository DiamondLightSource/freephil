/-
  C05 (the list rule) — "multiples accumulate": what `fetch` builds for a `.multiple` master
  definition, exactly; and C07 for those masters: re-fetching the result reproduces it.

  Model: Phil/Fetch.lean (`fetchScope`, multiple branch = `multiBranch`/`cstepG`/`cAccept` of
  Phil/Proofs/FetchLoop.lean).  Lemmas: Phil/Proofs/FetchSpec.lean, parts B and C.

  The rule (non-diff mode).  Let `mo` be a `.multiple` master definition without further master
  occurrences of its name, `k₀ = mo.extract_format(mo).as_str()` its key, `d₁ … dₙ` the matching
  enabled source definitions in source order, `cᵢ = fetch_value(mo, dᵢ)` the candidates and
  `kᵢ = mo.extract_format(cᵢ).as_str()` their keys.  The block of `mo` in the result is

        template :: survivors

  where `survivors = (dedupKeepLast [(cᵢ,kᵢ) | kᵢ ≠ k₀]).map fst`: candidates whose key is the
  master's are dropped; among candidates with equal keys only the LAST occurrence stays; the
  survivors keep their relative source order, i.e. they are ordered by the position of their last
  occurrence (the code blanks the earlier copy and appends the later one).  The template is `mo`
  with `is_template` = `0` if `mo` is mandatory (`optional` set and false), else `1` if there is no
  survivor, else `-1`.  Every matching source definition is marked as consumed.

  Class covered by the whole-result theorems (unbounded: every such master, every source list,
  every fuel): masters whose children are enabled definitions with pairwise distinct non-empty
  names, not `.deprecated`, not choices, `.multiple` or not, typed or not (`FlatMultiMaster`);
  root level; definition-only `SrcOK` sources (or mixed with scopes, `fetch_flat_multi_mixed`);
  the compared keys must be defined (`KeysDefined`: `extract_format` succeeds on the master
  definition and on every candidate — it is kept abstract, the theorems hold for every `Envs`).
  The one-step theorem `multiple_list_rule_step` holds inside ANY master.
-/
import Phil.Proofs.FetchSpec
set_option linter.unusedVariables false
namespace Phil.C05
open Phil

/-! ### the specification function -/

/-- `dedupKeepLast` keeps a sub-list: the survivors stay in source order … -/
theorem survivors_in_order {α : Type} (l : List (α × Str)) : (dedupKeepLast l).Sublist l :=
  dedupKeepLast_sublist l

/-- … an entry survives iff no LATER entry carries its key … -/
theorem survives_iff {α : Type} (x : α × Str) (l : List (α × Str)) :
    x ∈ dedupKeepLast l ↔ ∃ pre post, l = pre ++ x :: post ∧ ∀ y ∈ post, y.2 ≠ x.2 := by
  induction l with
  | nil => simp [dedupKeepLast]
  | cons a xs ih =>
    have hany : xs.any (fun y => y.2 == a.2) = false ↔ ∀ y ∈ xs, y.2 ≠ a.2 := by simp
    constructor
    · intro h
      by_cases hx : x ∈ dedupKeepLast xs
      · obtain ⟨pre, post, rfl, hp⟩ := ih.mp hx
        exact ⟨a :: pre, post, rfl, hp⟩
      · rw [dedupKeepLast] at h
        split at h
        · exact absurd h hx
        · rename_i hn
          obtain rfl : x = a := (List.mem_cons.mp h).resolve_right hx
          exact ⟨[], xs, rfl, hany.mp (Bool.eq_false_iff.mpr hn)⟩
    · rintro ⟨pre, post, hl, hp⟩
      rw [dedupKeepLast]
      cases pre with
      | nil =>
        obtain ⟨rfl, rfl⟩ := List.cons.inj hl
        simp [hany.mpr hp]
      | cons b pre =>
        obtain ⟨rfl, rfl⟩ := List.cons.inj hl
        have : x ∈ dedupKeepLast (pre ++ x :: post) := ih.mpr ⟨pre, post, rfl, hp⟩
        split
        · exact this
        · exact List.mem_cons_of_mem _ this

/-- … so the surviving keys are pairwise distinct … -/
theorem survivors_distinct {α : Type} (l : List (α × Str)) :
    ((dedupKeepLast l).map (·.2)).Pairwise (· ≠ ·) :=
  dedupKeepLast_keys_distinct l

/-- … and the left-to-right reading of the code computes the same list: a candidate with the master's
    key is skipped, any other one removes the earlier survivor with its key and goes to the end. -/
theorem left_to_right (k0 : Str) (cks : List (Obj × Str)) :
    cks.foldl (accStep k0) [] = dedupKeepLast (cks.filter (fun y => y.2 != k0)) :=
  foldl_accStep_nil k0 cks

example : (dedupKeepLast [(1, ['p']), (2, ['q']), (3, ['p']), (4, ['r']), (5, ['q'])]).map (·.1) = [3, 4, 5] := by
  decide

/-! ### one master child, any master -/

/-- **The list rule (one iteration of the master loop, any master).**  For a `.multiple` master
    definition `mo = .defn mm mws` at index `idx` with no further enabled master object of its name
    (`fromMasterOf … = []`), whose key is `k0`, and whose matching sources `M` yield the candidates
    and keys `cks` (`CandLink`: `fetch_value` returns the candidate, `extract_format` its key), the
    iteration appends `multiBlock mo k0 cks` and marks all of `M`. -/
theorem multiple_list_rule_step (F : FetchFn) (e : Envs) (fuel : Nat) (sm : Meta) (mkids combined : List Obj)
    (st : List Obj × List Nat) (idx : Nat) (mm : Meta) (mws : List Word) (k0 : Str)
    (cks : List (Obj × Str))
    (hmult : isMultiple (.defn mm mws) = true)
    (hfm : fromMasterOf mkids idx (.defn mm mws) = [])
    (hk0 : extractFormatStr e (fuel + 64) (.defn mm mws) (.defn mm mws) = .ok k0)
    (hl : Forall2 (CandLink e fuel (.defn mm mws)) (fetchMatching fuel sm combined (.defn mm mws)) cks) :
    stepG F e fuel false sm mkids combined st (idx, .defn mm mws) =
      .ok (st.1 ++ multiBlock (.defn mm mws) k0 cks,
           st.2 ++ (fetchMatching fuel sm combined (.defn mm mws)).flatMap marksOf) :=
  multi_step F e fuel sm mkids combined st idx mm mws k0 cks hmult hfm hk0 hl

/-- `multiBlock` spelled out -/
theorem multiBlock_eq (mo : Obj) (k0 : Str) (cks : List (Obj × Str)) :
    multiBlock mo k0 cks =
      withTmpl mo (if (mo.attr "optional").mandatory then 0
                   else if (dedupKeepLast (cks.filter (fun y => y.2 != k0))).isEmpty then 1 else -1) ::
        (dedupKeepLast (cks.filter (fun y => y.2 != k0))).map (·.1) := rfl

/-- no matching source: the block is the template alone, flagged `0` (mandatory) or `1` -/
theorem multiBlock_no_source (mo : Obj) (k0 : Str) :
    multiBlock mo k0 [] = [withTmpl mo (if (mo.attr "optional").mandatory then 0 else 1)] := rfl

/-- one source with a new value: template (`0`/`-1`) and the candidate -/
theorem multiBlock_one (mo : Obj) (k0 : Str) (c : Obj) (k : Str) (h : k ≠ k0) :
    multiBlock mo k0 [(c, k)] = [withTmpl mo (if (mo.attr "optional").mandatory then 0 else -1), c] := by
  have : (k != k0) = true := by simpa using h
  simp [multiBlock, multiTmpl, dedupKeepLast, this]

/-- one source repeating the master's value: as if there were none -/
theorem multiBlock_one_default (mo : Obj) (k0 : Str) (c : Obj) :
    multiBlock mo k0 [(c, k0)] = [withTmpl mo (if (mo.attr "optional").mandatory then 0 else 1)] := by
  simp [multiBlock, multiTmpl, dedupKeepLast]

/-- two sources with the same new value: only the second is kept -/
theorem multiBlock_two_equal (mo : Obj) (k0 : Str) (c1 c2 : Obj) (k : Str) (h : k ≠ k0) :
    multiBlock mo k0 [(c1, k), (c2, k)] =
      [withTmpl mo (if (mo.attr "optional").mandatory then 0 else -1), c2] := by
  have : (k != k0) = true := by simpa using h
  simp [multiBlock, multiTmpl, dedupKeepLast, this]

/-- two sources with different new values: both are kept, in source order -/
theorem multiBlock_two_distinct (mo : Obj) (k0 : Str) (c1 c2 : Obj) (k1 k2 : Str)
    (h1 : k1 ≠ k0) (h2 : k2 ≠ k0) (h12 : k1 ≠ k2) :
    multiBlock mo k0 [(c1, k1), (c2, k2)] =
      [withTmpl mo (if (mo.attr "optional").mandatory then 0 else -1), c1, c2] := by
  have e1 : (k1 != k0) = true := by simpa using h1
  have e2 : (k2 != k0) = true := by simpa using h2
  have e3 : (k2 == k1) = false := by simpa using fun h => h12 h.symm
  simp [multiBlock, multiTmpl, dedupKeepLast, e1, e2, e3]

/-! ### the whole result -/

/-- **The list rule (whole result).**  For a `FlatMultiMaster` at the root and definition-only
    `SrcOK` sources with defined keys, the fetch succeeds and its result is the concatenation, in
    master order, of one block per master definition: `[lastWins …]` for a non-multiple one,
    `multiBlock …` (template, then survivors) for a `.multiple` one; the consumed ids are the marks
    of all enabled source definitions named like a master child. -/
theorem multiple_list_rule (e : Envs) (fuel : Nat) (sm : Meta) (mkids combined : List Obj)
    (hf : FlatMultiMaster mkids) (hsm : sm.name = []) (hsd : sm.disabled = false)
    (hdef : ∀ o ∈ combined, o.isDefn = true) (hsrc : ∀ o ∈ combined, SrcOK o)
    (hkeys : ∀ mo ∈ mkids, isMultiple mo = true → KeysDefined e fuel mo (activeNamed mo.name combined)) :
    fetchScope e (fuel + 1) false sm mkids combined =
      .ok (.scope { sm with tmpl := 0 } (mkids.flatMap (blockOf e fuel combined)), flatUsed mkids combined) :=
  fetch_flat_multi e fuel sm mkids combined hf hsd hdef hsrc hkeys

/-- the block of a `.multiple` child: the candidates are the master definition carrying the
    (resolved) words of each enabled source definition of its name, in source order -/
theorem blockOf_multiple (e : Envs) (fuel : Nat) (D : List Obj) (mo : Obj) (h : isMultiple mo = true) :
    blockOf e fuel D mo =
      multiBlock mo (keyOf e fuel mo mo)
        ((activeNamed mo.name D).map (fun d =>
          (Obj.defn { mo.meta with tmpl := 0 } d.srcWords,
           keyOf e fuel mo (Obj.defn { mo.meta with tmpl := 0 } d.srcWords)))) :=
  blockL_multi e fuel mo _ h

/-- the block of a non-multiple child: last value wins -/
theorem blockOf_plain (e : Envs) (fuel : Nat) (D : List Obj) (mo : Obj) (h : isMultiple mo = false) :
    blockOf e fuel D mo = [lastWins mo (activeNamed mo.name D)] :=
  blockL_plain e fuel mo _ h

/-- **`master.fetch(sources)`** — the same for the entry point on parsed roots. -/
theorem fetchRoot_multiple_list_rule (e : Envs) (master : List Obj) (ss : List (List Obj))
    (hf : FlatMultiMaster master)
    (hdef : ∀ o ∈ ss.flatten, o.isDefn = true) (hsrc : ∀ o ∈ ss.flatten, SrcOK o)
    (hkeys : ∀ mo ∈ master, isMultiple mo = true →
      KeysDefined e (rootFuel master) mo (activeNamed mo.name ss.flatten)) :
    fetchRoot e false master ss =
      .ok (.scope { name := [], id := some 0 } (master.flatMap (blockOf e (rootFuel master) ss.flatten)),
           flatUsed master ss.flatten) := by
  rw [fetchRoot_eq]
  exact fetch_flat_multi e _ _ master ss.flatten hf rfl hdef hsrc hkeys

/-- sources mixing root-level definitions and named scopes (master names dot-free, no enabled source
    scope bearing a master name): the scopes are ignored -/
theorem multiple_list_rule_mixed (e : Envs) (fuel : Nat) (sm : Meta) (mkids combined : List Obj)
    (hf : FlatMultiMaster mkids) (hdot : ∀ mo ∈ mkids, '.' ∉ mo.name)
    (hsm : sm.name = []) (hsd : sm.disabled = false)
    (hmix : MixedSrc (mkids.map Obj.name) combined)
    (hsrc : ∀ o ∈ combined, o.isDefn = true → SrcOK o)
    (hkeys : ∀ mo ∈ mkids, isMultiple mo = true →
      KeysDefined e fuel mo (activeNamed mo.name (defnsOf combined))) :
    fetchScope e (fuel + 1) false sm mkids combined =
      .ok (.scope { sm with tmpl := 0 } (mkids.flatMap (blockOf e fuel (defnsOf combined))),
           flatUsed mkids (defnsOf combined)) :=
  fetch_flat_multi_mixed e fuel sm mkids combined hf hdot hsd hmix hsrc hkeys

/-! ### C07: re-fetching the result -/

/-- **Idempotence for flat masters with `.multiple` definitions.**  If the master definitions are
    fit for re-fetching (`RefetchOK`: not template-marked, variable-free) and the sources are
    `$`-free, then fetching again with the children of the result as the only source yields the
    same result.  No stability hypothesis on the keys is needed: the candidate built from a
    surviving candidate is that candidate itself, and the one built from the template is the
    master definition (whose key is the master's, so it is dropped again). -/
theorem refetch_idempotent (e : Envs) (fuel : Nat) (sm : Meta) (mkids combined : List Obj)
    (hf : FlatMultiMaster mkids) (hr : RefetchOK mkids) (hsm : sm.name = []) (hsd : sm.disabled = false)
    (hdef : ∀ o ∈ combined, o.isDefn = true) (hsrc : ∀ o ∈ combined, SrcOK o)
    (hdol : ∀ o ∈ combined, hasDollar o.srcWords = false)
    (hkeys : ∀ mo ∈ mkids, isMultiple mo = true → KeysDefined e fuel mo (activeNamed mo.name combined))
    (rm : Meta) (out : List Obj) (used : List Nat)
    (h : fetchScope e (fuel + 1) false sm mkids combined = .ok (.scope rm out, used)) :
    ∃ used', fetchScope e (fuel + 1) false sm mkids out = .ok (.scope rm out, used') :=
  fetch_flat_multi_idempotent e fuel sm mkids combined hf hr hsd hdef hsrc hdol hkeys rm out used h

/-- the block of a `.multiple` definition is a fixed point of the rule -/
theorem multiBlock_fixed_point (e : Envs) (fuel : Nat) (mm : Meta) (mws : List Word) (l : List Obj)
    (ht : mm.tmpl = 0) (hv : mm.varRes = none) :
    multiBlock (.defn mm mws) (keyOf e fuel (.defn mm mws) (.defn mm mws))
      (candsOf e fuel (.defn mm mws)
        (multiBlock (.defn mm mws) (keyOf e fuel (.defn mm mws) (.defn mm mws)) (candsOf e fuel (.defn mm mws) l))) =
    multiBlock (.defn mm mws) (keyOf e fuel (.defn mm mws) (.defn mm mws)) (candsOf e fuel (.defn mm mws) l) :=
  multiBlock_refetch e fuel mm mws l ht hv

/-! ### non-vacuity -/

/-- `d = x .multiple=True ; n = 1 .type=int .multiple=True .optional=False ; c = y` -/
def multM : List Obj :=
  [.defn { name := ['d'], id := some 1, attrs := [("multiple", .bool true)] } [{ value := ['x'] }],
   .defn { name := ['n'], id := some 2,
           attrs := [("type", .conv (.int {})), ("multiple", .bool true), ("optional", .bool false)] }
     [{ value := ['1'] }],
   .defn { name := ['c'], id := some 3 } [{ value := ['y'] }]]

def sd (n : Char) (i : Nat) (v : Char) : Obj := .defn { name := [n], id := some i } [{ value := [v] }]

/-- `d = p ; d = q ; n = 2 ; d = p ; d = x ; c = z ; d = r ; n = 1 ; d = q ; n = 2` -/
def multS : List Obj :=
  [sd 'd' 11 'p', sd 'd' 12 'q', sd 'n' 13 '2', sd 'd' 14 'p', sd 'd' 15 'x', sd 'c' 16 'z',
   sd 'd' 17 'r', sd 'n' 18 '1', sd 'd' 19 'q', sd 'n' 20 '2']

theorem multM_flat : FlatMultiMaster multM := by
  constructor
  · intro mo hmo
    simp only [multM, List.mem_cons, List.not_mem_nil, or_false] at hmo
    rcases hmo with rfl | rfl | rfl
    · exact ⟨_, _, rfl, ⟨by decide, by intro b; cases b <;> decide⟩, by decide, rfl⟩
    · exact ⟨_, _, rfl, ⟨by decide, by intro b; cases b <;> decide⟩, by decide, rfl⟩
    · exact ⟨_, _, rfl, ⟨by decide, by intro b; cases b <;> decide⟩, by decide, rfl⟩
  · decide

theorem multS_defn : ∀ o ∈ multS, o.isDefn = true := by
  intro o ho
  simp only [multS, List.mem_cons, List.not_mem_nil, or_false] at ho
  rcases ho with rfl | rfl | rfl | rfl | rfl | rfl | rfl | rfl | rfl | rfl <;> rfl

theorem multS_srcOK : ∀ o ∈ multS, SrcOK o := by
  intro o ho
  simp only [multS, List.mem_cons, List.not_mem_nil, or_false] at ho
  rcases ho with rfl | rfl | rfl | rfl | rfl | rfl | rfl | rfl | rfl | rfl <;> exact .inr ⟨rfl, by decide⟩

theorem multS_noDollar : ∀ o ∈ multS, hasDollar o.srcWords = false := by
  intro o ho
  simp only [multS, List.mem_cons, List.not_mem_nil, or_false] at ho
  rcases ho with rfl | rfl | rfl | rfl | rfl | rfl | rfl | rfl | rfl | rfl <;> decide

theorem multM_refetchOK : RefetchOK multM := by
  intro mo hmo
  simp only [multM, List.mem_cons, List.not_mem_nil, or_false] at hmo
  rcases hmo with rfl | rfl | rfl <;> exact ⟨rfl, rfl, by decide⟩

theorem multM_keys :
    ∀ mo ∈ multM, isMultiple mo = true → KeysDefined env12 (rootFuel multM) mo (activeNamed mo.name multS) := by
  intro mo hmo hmult
  have hB : (multM.all (fun mo => !isMultiple mo ||
      keysDefinedB env12 (rootFuel multM) mo (activeNamed mo.name multS))) = true := by decide +kernel
  have := List.all_eq_true.mp hB mo hmo
  rw [hmult] at this
  exact keysDefined_of_B (by simpa using this)

/-- what the rule predicts for the instance (names, template flags, words): `d`: template `-1`, then
    `p` (its last occurrence), `r`, `q`; `n` (mandatory): template `0`, then `2`; `c`: last value -/
example : (multM.flatMap (blockOf env12 (rootFuel multM) multS)).map
      (fun k => (k.name, k.meta.tmpl, k.words.map Word.value)) =
    [(['d'], -1, [['x']]), (['d'], 0, [['p']]), (['d'], 0, [['r']]), (['d'], 0, [['q']]),
     (['n'], 0, [['1']]), (['n'], 0, [['2']]), (['c'], 0, [['z']])] := by
  decide +kernel

/-- the theorem applies to the instance: the model's `fetchRoot` returns exactly that … -/
theorem multM_fetch :
    fetchRoot env12 false multM [multS] =
      .ok (.scope { name := [], id := some 0 } (multM.flatMap (blockOf env12 (rootFuel multM) multS)),
           flatUsed multM multS) := by
  have hfl : ([multS] : List (List Obj)).flatten = multS := by simp
  have := fetchRoot_multiple_list_rule env12 multM [multS] multM_flat
    (by rw [hfl]; exact multS_defn) (by rw [hfl]; exact multS_srcOK)
    (by rw [hfl]; exact multM_keys)
  rw [hfl] at this
  exact this

/-- … every matching source definition is consumed … -/
example : flatUsed multM multS = [11, 12, 14, 15, 17, 19, 13, 18, 20, 16] := by decide +kernel

/-- … and re-fetching the result reproduces it. -/
example : ∃ used', fetchRoot env12 false multM
      [multM.flatMap (blockOf env12 (rootFuel multM) multS)] =
      .ok (.scope { name := [], id := some 0 } (multM.flatMap (blockOf env12 (rootFuel multM) multS)), used') := by
  have h := multM_fetch
  rw [fetchRoot_eq] at h
  have hfl : ([multS] : List (List Obj)).flatten = multS := by simp
  rw [hfl] at h
  obtain ⟨u, hu⟩ := refetch_idempotent env12 (rootFuel multM) _ multM multS multM_flat multM_refetchOK rfl rfl
    multS_defn multS_srcOK multS_noDollar multM_keys _ _ _ h
  refine ⟨u, ?_⟩
  rw [fetchRoot_eq]
  simpa using hu

/-- independent check by evaluation of the model's `fetchRoot` (not through the theorem) -/
example :
    (match fetchRoot env12 false multM [multS] with
     | .ok (ro, used) => some (ro.children.map (fun k => (k.name, k.meta.tmpl, k.words.map Word.value)), used)
     | .error _ => none) =
    some ([(['d'], -1, [['x']]), (['d'], 0, [['p']]), (['d'], 0, [['r']]), (['d'], 0, [['q']]),
           (['n'], 0, [['1']]), (['n'], 0, [['2']]), (['c'], 0, [['z']])],
          [11, 12, 14, 15, 17, 19, 13, 18, 20, 16]) := by
  decide +kernel

end Phil.C05
