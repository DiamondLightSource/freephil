/-
  C02 (closed form, nested documents) — "nested braces versus dotted names": the two spellings

      n1.n2.….nk = w1 … wj                 n1 {
                                              n2 {
                                                …  nk = w1 … wj
                                              }
                                            }

  (and likewise a dotted scope header `n1.….nk {` … `}` versus nested headers) parse to the same
  scopes, definitions and words.  They do NOT parse to identical trees: `scope.adopt` marks the
  objects it builds for a dotted name with `merge_names = True` (that flag only steers the printer),
  gives all of them the primary id of the one item and no source line.  The statements are therefore
  "equal up to ids, source lines and the `merge_names` flag": `Obj.eraseMerge` is `Obj.erase` (ids and
  lines removed) plus `mergeNames := false` on every object.

  Vocabulary (definitions in Phil/Proofs/Layout2.lean, Phil/Proofs/PrintParseNested.lean):
    * `dottedName ns nm`            — the text `n1.….nk.nm`;
    * `wordsText ws`            — ` w1 w2 …` (one blank in front of every word, quoted words escaped);
    * `bracesText_l2 ns ind body` — `ind n1 {⏎` … `body (ind + 2k blanks)` … `ind }⏎`, two more blanks
                                   of indentation per level;
    * `bracesIn_l2 ns x`        — the tree `x` inside proper scopes `n1`, …, `nk`;
    * `dottedIn_l2 ns x`        — the tree `scope.adopt` builds for the dotted name;
    * `flatKids objs [] []`     — the canonical unwrapped text of a list of trees (C01Nested: `name {`
                                   … `}` for a proper scope, a dotted name for a `merge_names` chain);
    * `RTTree` (Phil/Props/C01Nested.lean) — enabled attribute-free trees with good undotted names.

  Property theorems only; lemmas are in Phil/Proofs/NestIn.lean, Phil/Proofs/Layout2.lean and
  Phil/Proofs/LayoutAll.lean.
-/
import Phil.Proofs.LayoutAll
import Phil.Props.C01Nested
namespace Phil.C02
open Phil Phil.C01

attribute [local instance] Phil.C01.objDecEqInst Phil.C01.exceptDecEqRT

/-- `eraseMerge` is `erase` followed by clearing the `merge_names` flags -/
theorem eraseMerge_spec (x : Obj) : x.eraseMerge = x.erase.eraseMerge ∧
    (∀ m ws, (Obj.defn m ws).eraseMerge = .defn { m.erase with mergeNames := false } (ws.map Word.erase)) ∧
    (∀ m os, (Obj.scope m os).eraseMerge = .scope { m.erase with mergeNames := false } (os.map Obj.eraseMerge)) :=
  ⟨(eraseMerge_erase_l2.1 x).symm, fun m ws => by rw [Obj.eraseMerge],
    fun m os => by rw [Obj.eraseMerge, eraseMergeList_eq_map_l2]⟩

/-- **General form: the spelling of chains does not matter.**  Two documents of `RTTree`s (each scope
    either proper — braces — or a `merge_names` chain — dotted name) that are the same tree up to the
    `merge_names` flags: their canonical texts both parse, to trees equal up to ids, lines and
    `merge_names`.  (`ChainOK`: no unquoted word directly after a word containing a newline.) -/
theorem spelling_independent (objs1 objs2 : List Obj)
    (h1 : ∀ x ∈ objs1, RTTree x) (h2 : ∀ x ∈ objs2, RTTree x)
    (c1 : ∀ x ∈ objs1, x.allDefns ChainOK) (c2 : ∀ x ∈ objs2, x.allDefns ChainOK)
    (hsame : eraseMergeList objs1 = eraseMergeList objs2) :
    ∃ o1 o2, parseObjs (flatKids objs1 [] []) = .ok o1 ∧ parseObjs (flatKids objs2 [] []) = .ok o2 ∧
      eraseMergeList o1 = eraseMergeList o2 ∧ eraseMergeList o1 = eraseMergeList objs1 := by
  obtain ⟨o1, p1, e1, _⟩ := parseObjs_flatKids_l2 objs1 (rtAll_of_forall h1)
    ((allDefnsList_iff _ _).mpr c1)
  obtain ⟨o2, p2, e2, _⟩ := parseObjs_flatKids_l2 objs2 (rtAll_of_forall h2)
    ((allDefnsList_iff _ _).mpr c2)
  exact ⟨o1, o2, p1, p2,
    by rw [eraseMergeList_congr_l2 e1, eraseMergeList_congr_l2 e2, hsame], eraseMergeList_congr_l2 e1⟩

/-- what is put below the path of scopes: a definition, or a proper scope with its children -/
def ProperItem (x : Obj) : Prop :=
  match x with
  | .defn m ws => PlainMetaPP false m ∧ goodName m.name = true ∧ ws ≠ [] ∧ (∀ w ∈ ws, goodWord w = true)
  | .scope m os => PlainMetaPP false m ∧ goodName m.name = true ∧ ∀ c ∈ os, RTTree c

instance (x : Obj) : Decidable (ProperItem x) := by
  cases x <;> (unfold ProperItem; exact inferInstance)

theorem ProperItem.rtTree {x : Obj} (h : ProperItem x) : RTTree x := by
  cases x with
  | defn m ws => exact (RTTree_defn m ws).mpr h
  | scope m os => exact (RTTree_scope m os).mpr ⟨h.1, h.2.1, Or.inl h.2.2⟩

theorem ProperItem.merge {x : Obj} (h : ProperItem x) : x.meta.mergeNames = false := by
  cases x with
  | defn m ws => exact h.1.merge
  | scope m os => exact h.1.merge

/-- the brace spelling of a proper item below good names is an `RTTree` -/
theorem bracesIn_rtTree (ns : List Str) (x : Obj) (hns : ∀ n ∈ ns, goodName n = true)
    (hx : ProperItem x) : RTTree (bracesIn_l2 ns x) :=
  rtnode_bracesIn_l2 ns x hns hx.rtTree

/-- the dotted spelling of a proper item below good names is an `RTTree`, provided the dotted name
    is not a reserved identifier (`__a.b__`) -/
theorem dottedIn_rtTree (ns : List Str) (x : Obj) (hns : ∀ n ∈ ns, goodName n = true)
    (hx : ProperItem x) (hres : isReserved (dottedName ns x.name) = false) : RTTree (dottedIn_l2 ns x) := by
  have key : RTNode ([] ++ ns) (x.withMeta (fun m => { m with mergeNames := !ns.isEmpty })) := by
    cases x with
    | defn m ws =>
      obtain ⟨hm, hn, hne, hg⟩ := hx
      simp only [Obj.withMeta, List.nil_append]
      unfold RTNode
      refine ⟨?_, hn, hres, hne, hg⟩
      rw [hm]; rfl
    | scope m os =>
      obtain ⟨hm, hn, hk⟩ := hx
      simp only [Obj.withMeta, List.nil_append]
      unfold RTNode
      refine ⟨?_, hn, Or.inl ⟨hres, rtAll_of_forall hk⟩⟩
      rw [hm]; rfl
  exact rtnode_nestIn_l2 ns _ [] hns key

/-- **C02: nested braces versus dotted names, one item.**  `x` is a definition or a proper scope
    (`ProperItem`), `ns` a list of good dot-free names, the dotted name `n1.….nk.name` is not a
    reserved identifier, no unquoted word of `x` follows a word containing a newline.  The dotted
    spelling `n1.….nk.name …` and the canonical brace spelling `n1 {` … `name …` … `}` both parse to
    one object, and the two objects are equal up to ids, source lines and `merge_names` — namely the
    tree `bracesIn_l2 ns x` (up to those).  The texts are spelled out in `dotted_defn_text`,
    `braces_text`. -/
theorem dotted_equals_nested_item (ns : List Str) (x : Obj) (hns : ∀ n ∈ ns, goodName n = true)
    (hx : ProperItem x) (hres : isReserved (dottedName ns x.name) = false) (hc : x.allDefns ChainOK) :
    ∃ o1 o2, parseObjs (flatText (dottedIn_l2 ns x) [] []) = .ok [o1] ∧
      parseObjs (flatText (bracesIn_l2 ns x) [] []) = .ok [o2] ∧
      o1.eraseMerge = o2.eraseMerge ∧ o2.eraseMerge = (bracesIn_l2 ns x).eraseMerge := by
  have hc1 : (dottedIn_l2 ns x).allDefns ChainOK := by
    rw [dottedIn_l2, allDefns_nestIn_l2]
    cases x <;> exact hc
  have hc2 : (bracesIn_l2 ns x).allDefns ChainOK := (allDefns_bracesIn_l2 _ ns x).mpr hc
  obtain ⟨o1, o2, p1, p2, e12, e1⟩ := spelling_independent [dottedIn_l2 ns x] [bracesIn_l2 ns x]
    (by intro y hy; simp at hy; subst hy; exact dottedIn_rtTree ns x hns hx hres)
    (by intro y hy; simp at hy; subst hy; exact bracesIn_rtTree ns x hns hx)
    (by intro y hy; simp at hy; subst hy; exact hc1)
    (by intro y hy; simp at hy; subst hy; exact hc2)
    (by simp only [eraseMergeList]; rw [eraseMerge_dotted_braces_l2])
  simp only [flatKids, List.append_nil] at p1 p2
  rw [eraseMergeList_eq_map_l2, eraseMergeList_eq_map_l2] at e12 e1
  obtain ⟨a, rfl, ha⟩ := List.map_eq_singleton_iff.mp e1
  obtain ⟨b, rfl, hb⟩ := List.map_eq_singleton_iff.mp (e12.symm.trans e1)
  exact ⟨a, b, p1, p2, ha.trans hb.symm, hb.trans (eraseMerge_dotted_braces_l2 ns x)⟩

/-- the dotted spelling of a definition, as text: `n1.….nk.nm = w1 … wj⏎` -/
theorem dotted_defn_text (ns : List Str) (nm : Str) (ws : List Word) :
    flatText (dottedIn_l2 ns (.defn { name := nm } ws)) [] []
      = dottedName ns nm ++ [' ', '='] ++ wordsText ws ++ ['\n'] := by
  rw [flatText_dottedIn_l2]
  simp [Obj.withMeta, flatText]

/-- the dotted spelling of a scope, as text: `n1.….nk.nm {⏎`, the children indented by two blanks, `}⏎` -/
theorem dotted_scope_text (ns : List Str) (nm : Str) (kids : List Obj)
    (hk : firstMerges kids = false) :
    flatText (dottedIn_l2 ns (.scope { name := nm } kids)) [] []
      = dottedName ns nm ++ [' ', '{', '\n'] ++ flatKids kids [] [' ', ' '] ++ ['}', '\n'] := by
  rw [flatText_dottedIn_l2]
  simp [Obj.withMeta, flatText, hk, deeper]

/-- the brace spelling, as text: `bracesText_l2 ns [] body` with `body` the canonical text of `x` at
    the indentation it is given -/
theorem braces_text (ns : List Str) (x : Obj) (hx : x.meta.mergeNames = false) :
    flatText (bracesIn_l2 ns x) [] [] = bracesText_l2 ns [] (fun ind => flatText x [] ind) :=
  flatText_bracesIn_l2 ns x hx []

/-- **C02: `n1.….nk = words` versus `n1 { … nk = words … }`.**  For good dot-free names `ns`, `nm`
    (the dotted name not a reserved identifier) and a good word list: both texts parse to a single
    object; the two objects are equal up to ids, source lines and `merge_names`, and are — up to
    those — the definition `nm = words` inside the scopes `ns`. -/
theorem dotted_equals_nested (ns : List Str) (nm : Str) (ws : List Word)
    (hns : ∀ n ∈ ns, goodName n = true) (hnm : goodName nm = true)
    (hres : isReserved (dottedName ns nm) = false)
    (hne : ws ≠ []) (hgood : ∀ w ∈ ws, goodWord w = true) (hchain : chainOK true ws = true) :
    ∃ o1 o2,
      parseObjs (dottedName ns nm ++ [' ', '='] ++ wordsText ws ++ ['\n']) = .ok [o1] ∧
      parseObjs (bracesText_l2 ns [] (fun ind => ind ++ nm ++ [' ', '='] ++ wordsText ws ++ ['\n']))
        = .ok [o2] ∧
      o1.eraseMerge = o2.eraseMerge ∧
      o2.eraseMerge = bracesIn_l2 ns (.defn { name := nm } (ws.map Word.erase)) := by
  have hx : ProperItem (.defn { name := nm } ws) := ⟨rfl, hnm, hne, hgood⟩
  obtain ⟨o1, o2, p1, p2, e1, e2⟩ := dotted_equals_nested_item ns (.defn { name := nm } ws) hns hx hres hchain
  rw [dotted_defn_text] at p1
  rw [braces_text ns _ rfl] at p2
  refine ⟨o1, o2, p1, ?_, e1, ?_⟩
  · have : (fun ind => flatText (.defn { name := nm } ws) [] ind)
        = (fun ind => ind ++ nm ++ [' ', '='] ++ wordsText ws ++ ['\n']) := by
      funext ind; simp [flatText, dotted_nil]
    rw [this] at p2
    exact p2
  · rw [e2, eraseMerge_bracesIn_l2]
    rfl

/-- **C02: the dotted scope header `n1.….nk.nm {` versus nested headers.**  `kids` are `RTTree`s. -/
theorem dotted_header_equals_nested (ns : List Str) (nm : Str) (kids : List Obj)
    (hns : ∀ n ∈ ns, goodName n = true) (hnm : goodName nm = true)
    (hres : isReserved (dottedName ns nm) = false)
    (hkids : ∀ c ∈ kids, RTTree c) (hchain : ∀ c ∈ kids, c.allDefns ChainOK) :
    ∃ o1 o2,
      parseObjs (dottedName ns nm ++ [' ', '{', '\n'] ++ flatKids kids [] [' ', ' '] ++ ['}', '\n']) = .ok [o1] ∧
      parseObjs (bracesText_l2 ns [] (fun ind =>
          ind ++ nm ++ [' ', '{', '\n'] ++ flatKids kids [] (ind ++ [' ', ' ']) ++ ind ++ ['}', '\n']))
        = .ok [o2] ∧
      o1.eraseMerge = o2.eraseMerge ∧
      o2.eraseMerge = bracesIn_l2 ns (.scope { name := nm } (eraseMergeList kids)) := by
  have hfm : firstMerges kids = false := (rtAll_of_forall hkids).firstMerges
  have hx : ProperItem (.scope { name := nm } kids) := ⟨rfl, hnm, hkids⟩
  obtain ⟨o1, o2, p1, p2, e1, e2⟩ := dotted_equals_nested_item ns (.scope { name := nm } kids) hns hx hres
    (by unfold Obj.allDefns; exact (allDefnsList_iff _ _).mpr hchain)
  rw [dotted_scope_text ns nm kids hfm] at p1
  rw [braces_text ns _ rfl] at p2
  refine ⟨o1, o2, p1, ?_, e1, ?_⟩
  · have : (fun ind => flatText (.scope { name := nm } kids) [] ind)
        = (fun ind => ind ++ nm ++ [' ', '{', '\n'] ++ flatKids kids [] (ind ++ [' ', ' ']) ++ ind ++ ['}', '\n']) := by
      funext ind; simp [flatText, dotted_nil, hfm, deeper]
    rw [this] at p2
    exact p2
  · rw [e2, eraseMerge_bracesIn_l2]
    rfl

/-! ### documents: every item spelt either way -/

/-- one item of a document: a proper item `x` below the path `ns`, spelt with a dotted name
    (`useDots = true`) or with braces -/
structure SpeltItem where
  ns : List Str
  x : Obj
  useDots : Bool

/-- the tree the parser is expected to build for the item (up to ids and lines) -/
def SpeltItem.obj (it : SpeltItem) : Obj :=
  if it.useDots then dottedIn_l2 it.ns it.x else bracesIn_l2 it.ns it.x

/-- the item's abstract tree: independent of the spelling -/
def SpeltItem.tree (it : SpeltItem) : Obj := (bracesIn_l2 it.ns it.x).eraseMerge

def SpeltItem.ok (it : SpeltItem) : Prop :=
  (∀ n ∈ it.ns, goodName n = true) ∧ ProperItem it.x ∧ it.x.allDefns ChainOK ∧
    (it.useDots = true → isReserved (dottedName it.ns it.x.name) = false)

instance (it : SpeltItem) : Decidable it.ok := by unfold SpeltItem.ok; exact inferInstance

/-- the text of a document of items: the canonical text of every item in its spelling -/
def speltText (items : List SpeltItem) : Str := flatKids (items.map SpeltItem.obj) [] []

/-- **C02: nested braces versus dotted names, whole documents.**  A document is a list of items, each
    a definition or proper scope below a path of scope names, each spelt EITHER with a dotted name OR
    with nested braces.  Its text parses, and the tree is — up to ids, source lines and `merge_names` —
    the list of the items' abstract trees `bracesIn_l2 ns x`, in which the choice of spelling does not
    occur. -/
theorem dotted_or_nested_document (items : List SpeltItem) (hok : ∀ it ∈ items, it.ok) :
    ∃ objs, parseObjs (speltText items) = .ok objs ∧
      eraseMergeList objs = items.map SpeltItem.tree := by
  have hrt : ∀ y ∈ items.map SpeltItem.obj, RTTree y := by
    intro y hy
    obtain ⟨it, hit, rfl⟩ := List.mem_map.mp hy
    obtain ⟨h1, h2, _, h4⟩ := hok it hit
    unfold SpeltItem.obj
    split
    · rename_i hd; exact dottedIn_rtTree it.ns it.x h1 h2 (h4 hd)
    · exact bracesIn_rtTree it.ns it.x h1 h2
  have hch : ∀ y ∈ items.map SpeltItem.obj, y.allDefns ChainOK := by
    intro y hy
    obtain ⟨it, hit, rfl⟩ := List.mem_map.mp hy
    obtain ⟨_, _, h3, _⟩ := hok it hit
    unfold SpeltItem.obj
    split
    · rw [dottedIn_l2, allDefns_nestIn_l2]
      cases hx : it.x <;> (rw [hx] at h3; exact h3)
    · exact (allDefns_bracesIn_l2 _ _ _).mpr h3
  obtain ⟨objs, p, e, _⟩ := parseObjs_flatKids_l2 _ (rtAll_of_forall hrt) ((allDefnsList_iff _ _).mpr hch)
  refine ⟨objs, p, ?_⟩
  rw [eraseMergeList_congr_l2 e, eraseMergeList_eq_map_l2, List.map_map]
  apply List.map_congr_left
  intro it _
  simp only [Function.comp, SpeltItem.obj, SpeltItem.tree]
  split
  · exact eraseMerge_dotted_braces_l2 _ _
  · rfl

/-- two documents with the same items in different spellings parse to the same tree up to ids, lines
    and `merge_names` -/
theorem two_spellings_same_tree (items1 items2 : List SpeltItem)
    (h1 : ∀ it ∈ items1, it.ok) (h2 : ∀ it ∈ items2, it.ok)
    (hsame : items1.map (fun it => (it.ns, it.x)) = items2.map (fun it => (it.ns, it.x))) :
    ∃ o1 o2, parseObjs (speltText items1) = .ok o1 ∧ parseObjs (speltText items2) = .ok o2 ∧
      eraseMergeList o1 = eraseMergeList o2 := by
  obtain ⟨o1, p1, e1⟩ := dotted_or_nested_document items1 h1
  obtain ⟨o2, p2, e2⟩ := dotted_or_nested_document items2 h2
  refine ⟨o1, o2, p1, p2, ?_⟩
  rw [e1, e2]
  have : ∀ (l : List SpeltItem), l.map SpeltItem.tree
      = (l.map (fun it => (it.ns, it.x))).map (fun p => (bracesIn_l2 p.1 p.2).eraseMerge) := by
    intro l; simp [SpeltItem.tree]
  rw [this items1, this items2, hsame]

/-! ### non-vacuity -/

/-- `a.b.c = 1 'x y'` against the brace spelling, through the theorem -/
example : ∃ o1 o2,
    parseObjs "a.b.c = 1 'x y'\n".toList = .ok [o1] ∧
    parseObjs "a {\n  b {\n    c = 1 'x y'\n  }\n}\n".toList = .ok [o2] ∧
    o1.eraseMerge = o2.eraseMerge ∧
    o2.eraseMerge = .scope { name := ['a'] } [.scope { name := ['b'] }
      [.defn { name := ['c'] } [{ value := ['1'] }, { value := "x y".toList, quote := some .s1 }]]] := by
  obtain ⟨o1, o2, p1, p2, e1, e2⟩ := dotted_equals_nested [['a'], ['b']] ['c']
    [{ value := ['1'] }, { value := "x y".toList, quote := some .s1 }]
    (by decide +kernel) (by decide +kernel) (by decide +kernel) (by decide +kernel) (by decide +kernel)
    (by decide +kernel)
  have t1 : dottedName [['a'], ['b']] ['c'] ++ [' ', '='] ++
      wordsText [{ value := ['1'] }, { value := "x y".toList, quote := some .s1 }] ++ ['\n']
      = "a.b.c = 1 'x y'\n".toList := by decide +kernel
  have t2 : bracesText_l2 [['a'], ['b']] [] (fun ind => ind ++ ['c'] ++ [' ', '='] ++
      wordsText [{ value := ['1'] }, { value := "x y".toList, quote := some .s1 }] ++ ['\n'])
      = "a {\n  b {\n    c = 1 'x y'\n  }\n}\n".toList := by decide +kernel
  rw [t1] at p1
  rw [t2] at p2
  exact ⟨o1, o2, p1, p2, e1, by rw [e2]; decide +kernel⟩

/-- the same pair, evaluated: what differs is exactly ids, lines and `merge_names` (Python agrees) -/
theorem dotted_and_nested_evaluated :
    parseObjs "a.b.c = 1\n".toList = .ok
      [.scope { name := ['a'], id := some 1 }
        [.scope { name := ['b'], id := some 1, mergeNames := true }
          [.defn { name := ['c'], id := some 1, line := some 1, mergeNames := true }
            [{ value := ['1'], line := some 1 }]]]] ∧
    parseObjs "a {\n  b {\n    c = 1\n  }\n}\n".toList = .ok
      [.scope { name := ['a'], id := some 1, line := some 1 }
        [.scope { name := ['b'], id := some 2, line := some 2 }
          [.defn { name := ['c'], id := some 3, line := some 3 } [{ value := ['1'], line := some 3 }]]]] := by
  -- a literal is `String.ofList […]` for `rw` and the kernel: no UTF-8 decoding
  repeat rw [String.toList_ofList]
  decide +kernel

/-- a document with three items: `a.b = 1` dotted, `a { c = 2 }` in braces, the empty scope `d.e`
    dotted — and the same document with the opposite spellings -/
def exItems (f : Bool) : List SpeltItem :=
  [ ⟨[['a']], .defn { name := ['b'] } [{ value := ['1'] }], f⟩,
    ⟨[['a']], .defn { name := ['c'] } [{ value := ['2'] }], !f⟩,
    ⟨[['d']], .scope { name := ['e'] } [], f⟩ ]

example : speltText (exItems true) = "a.b = 1\na {\n  c = 2\n}\nd.e {\n}\n".toList := by decide +kernel
example : speltText (exItems false) = "a {\n  b = 1\n}\na.c = 2\nd {\n  e {\n  }\n}\n".toList := by
  repeat rw [String.toList_ofList]
  decide +kernel

theorem exItems_ok (f : Bool) : ∀ it ∈ exItems f, it.ok := by
  cases f <;> decide +kernel

example : ∃ o1 o2, parseObjs "a.b = 1\na {\n  c = 2\n}\nd.e {\n}\n".toList = .ok o1 ∧
    parseObjs "a {\n  b = 1\n}\na.c = 2\nd {\n  e {\n  }\n}\n".toList = .ok o2 ∧
    eraseMergeList o1 = eraseMergeList o2 := by
  obtain ⟨o1, o2, p1, p2, e⟩ := two_spellings_same_tree (exItems true) (exItems false)
    (exItems_ok true) (exItems_ok false) (by decide +kernel)
  have t1 : speltText (exItems true) = "a.b = 1\na {\n  c = 2\n}\nd.e {\n}\n".toList := by decide +kernel
  have t2 : speltText (exItems false) = "a {\n  b = 1\n}\na.c = 2\nd {\n  e {\n  }\n}\n".toList := by
    decide +kernel
  rw [t1] at p1
  rw [t2] at p2
  exact ⟨o1, o2, p1, p2, e⟩

/-! ### sharp edges (model = Python) -/

/-- **The dotted spelling can be refused where the brace spelling is accepted**: the parser tests the
    full dotted name against the reserved-identifier pattern, so `__a.b__ = 1` is an error although
    `__a {` / `b__ = 1` / `}` parses.  Hence the hypothesis `isReserved (dottedName ns nm) = false`. -/
theorem dotted_reserved_but_nested_fine :
    parseObjs "__a.b__ = 1\n".toList = .error (.runtime "reserved" (some 1)) ∧
    parseObjs "__a {\n  b__ = 1\n}\n".toList = .ok
      [.scope { name := "__a".toList, id := some 1, line := some 1 }
        [.defn { name := "b__".toList, id := some 2, line := some 2 } [{ value := ['1'], line := some 2 }]]] := by
  repeat rw [String.toList_ofList]
  decide +kernel

/-- **Dotted names do not merge scopes**: `a.b = 1` followed by `a.c = 2` builds TWO scopes `a`; the
    brace spelling `a { b = 1  c = 2 }` builds one.  The item-wise theorem compares item by item. -/
theorem dotted_names_do_not_merge :
    parseObjs "a.b = 1\na.c = 2\n".toList = .ok
      [.scope { name := ['a'], id := some 1 }
         [.defn { name := ['b'], id := some 1, line := some 1, mergeNames := true } [{ value := ['1'], line := some 1 }]],
       .scope { name := ['a'], id := some 2 }
         [.defn { name := ['c'], id := some 2, line := some 2, mergeNames := true } [{ value := ['2'], line := some 2 }]]] ∧
    parseObjs "a {\n  b = 1\n  c = 2\n}\n".toList = .ok
      [.scope { name := ['a'], id := some 1, line := some 1 }
         [.defn { name := ['b'], id := some 2, line := some 2 } [{ value := ['1'], line := some 2 }],
          .defn { name := ['c'], id := some 3, line := some 3 } [{ value := ['2'], line := some 3 }]]] := by
  repeat rw [String.toList_ofList]
  decide +kernel

/-! ## nested layout independence

  The layout of a nested document is data (`LayItem`, Phil/Proofs/Layout2.lean), by recursion:
    * `LayItem.defn path d L bang`  — the definition `d = (name, words)` under the flat layout `L`
      (`DefLayout` of C02Layout: filler lines and indentation in front, blanks around `=` and in front
      of every word, terminator newline / `;` / trailing `# comment` / nothing), written with the
      dotted name `p1.….pk.name` for `path = [p1, …, pk]` (`[]`: the plain name), `!` glued to the
      name iff `bang`;
    * `LayItem.scope path nm bang pre gap kids close` — the scope `nm` (header `p1.….pk.nm`):
      `pre : Pre` the filler in front of the name (blank lines, whole-line comments, then
      indentation), `!` iff `bang`; `gap : Pre` what stands between the name and `{` — only blanks
      (`name {`, `name{`) or filler lines and blanks (`name⏎{`, `name  # c⏎  {`, blank lines in
      between); `kids` the items of the body; `close : Pre` the filler in front of `}` (`}` on its
      own line at any indentation, after blank/comment lines, or on the line of the last item after
      `;` — or directly: `a { b = 1 }`).  The rest of the line after `{` and after `}` belongs to the
      filler of whatever comes next.
    * `renderN xs post` — the text; `post` the filler after the last item.
    * `wfDocN xs post` (decidable) — every definition `goodDef`/`wfDef` as in the flat case; names:
      every component `goodName`, the dotted name not a reserved identifier (`goodPathName_l2`);
      every `Pre` well formed, `gapOK_l2 gap` (a filler line directly behind the name must not start
      with `#`: `name#c` is one word); a definition may end with nothing (`Terminator.eof`) only as
      last item of its block with `}` / the end of the text on the same line.
    * `layTrees xs` — the abstract tree: names, chain structure of dotted names (`nestIn`, as
      `scope.adopt` builds it), `!` flags, words; no ids, no lines, nothing of the layout.
    * `layObjs xs 1 1` — what the parser returns, in closed form (`parseObjs_renderN_l2`). -/

/-- **C02, nested documents: the tree does not depend on the layout.**  For every well-formed layout
    `parse` of the rendered text succeeds; the tree is — up to ids and source lines — the abstract
    tree `layTrees xs`; the ids are those of C01Nested (`expIdsSeq 1`): one per definition / scope
    header counted from 1 in document order, the scopes of a dotted name sharing the id of their
    item — `1, 2, …, n` when no name is dotted (`nested_ids_undotted`). -/
theorem layout_independent_nested (xs : List LayItem) (post : Pre) (h : wfDocN xs post = true) :
    ∃ objs, parseObjs (renderN xs post) = .ok objs ∧
      eraseList objs = eraseList (layTrees xs) ∧
      idsList objs = (expIdsSeq 1 (layTrees xs)).map some :=
  ⟨layObjs xs 1 1, parseObjs_renderN_l2 xs post h, layObjs_erase_l2 xs 1 1, (layObjs_idsItems_l2 xs 1 1).1⟩

/-- without dotted names (`noChains`) the ids are `1, 2, …, n` in document order, `n` the number of
    objects -/
theorem nested_ids_undotted (xs : List LayItem) (h : ∀ x ∈ layTrees xs, x.noChains) :
    expIdsSeq 1 (layTrees xs) = List.range' 1 (nodesList (layTrees xs)) :=
  tree_ids_noChains _ h

/-- **Two nested layouts, one tree.**  Two well-formed layouts with the same abstract tree parse to
    trees equal up to source lines: same nesting, names, flags, words — and the same ids. -/
theorem two_nested_layouts_same_tree (xs1 xs2 : List LayItem) (post1 post2 : Pre)
    (hsame : layTrees xs1 = layTrees xs2)
    (h1 : wfDocN xs1 post1 = true) (h2 : wfDocN xs2 post2 = true) :
    ∃ o1 o2, parseObjs (renderN xs1 post1) = .ok o1 ∧ parseObjs (renderN xs2 post2) = .ok o2 ∧
      eraseList o1 = eraseList o2 ∧ idsList o1 = idsList o2 := by
  obtain ⟨o1, p1, e1, i1⟩ := layout_independent_nested xs1 post1 h1
  obtain ⟨o2, p2, e2, i2⟩ := layout_independent_nested xs2 post2 h2
  exact ⟨o1, o2, p1, p2, by rw [e1, e2, hsame], by rw [i1, i2, hsame]⟩

/-- **Nested braces versus dotted names under ANY layout.**  Two well-formed layouts whose abstract
    trees agree up to the `merge_names` flags — the same scopes, definitions, flags and words, every
    item spelt with a dotted name or with nested braces, laid out in any well-formed way — parse to
    trees equal up to ids, source lines and `merge_names`.  (`dotted_item_is_braces` shows what a
    dotted item is up to `merge_names`: the item inside proper scopes.) -/
theorem dotted_equals_nested_any_layout (xs1 xs2 : List LayItem) (post1 post2 : Pre)
    (hsame : eraseMergeList (layTrees xs1) = eraseMergeList (layTrees xs2))
    (h1 : wfDocN xs1 post1 = true) (h2 : wfDocN xs2 post2 = true) :
    ∃ o1 o2, parseObjs (renderN xs1 post1) = .ok o1 ∧ parseObjs (renderN xs2 post2) = .ok o2 ∧
      eraseMergeList o1 = eraseMergeList o2 := by
  obtain ⟨o1, p1, e1, _⟩ := layout_independent_nested xs1 post1 h1
  obtain ⟨o2, p2, e2, _⟩ := layout_independent_nested xs2 post2 h2
  exact ⟨o1, o2, p1, p2, by rw [eraseMergeList_congr_l2 e1, eraseMergeList_congr_l2 e2, hsame]⟩

/-- a dotted definition `p1.….pk.name = words` and a dotted header `p1.….pk.nm {` are, up to
    `merge_names`, the definition / the scope inside the proper scopes `p1`, …, `pk` -/
theorem dotted_item_is_braces (p : List Str) :
    (∀ (d : DefSpec) (L : DefLayout) (b : Bool), (LayItem.defn p d L b).tree.eraseMerge
      = bracesIn_l2 p (.defn { name := d.1, disabled := b } (d.2.map Word.erase))) ∧
    (∀ (nm : Str) (b : Bool) (pre gap : Pre) (kids : List LayItem) (close : Pre),
      (LayItem.scope p nm b pre gap kids close).tree.eraseMerge
        = bracesIn_l2 p (.scope { name := nm, disabled := b } (eraseMergeList (layTrees kids)))) :=
  ⟨fun d L b => by rw [LayItem.tree, eraseMerge_nestIn_l2]; rfl,
    fun nm b pre gap kids close => by rw [LayItem.tree, eraseMerge_nestIn_l2]; rfl⟩

/-- without `!` the abstract trees of well-formed layouts are `RTTree`s — the class of C01Nested —
    in which no unquoted word follows a word containing a newline -/
theorem layTrees_in_class (xs : List LayItem) (post : Pre) (h : wfDocN xs post = true)
    (hno : ∀ b ∈ layFlags xs, b = false) :
    (∀ x ∈ layTrees xs, RTTree x) ∧ (∀ x ∈ layTrees xs, x.allDefns ChainOK) := by
  simp only [wfDocN, Bool.and_eq_true] at h
  obtain ⟨h1, h2⟩ := layTrees_rt_l2 xs _ h.1 hno
  exact ⟨(RTAll_iff _).mp h1, (allDefnsList_iff _ _).mp h2⟩

/-- **Every nested layout agrees with the canonical print.**  Without `!`: the tree of any well-formed
    layout is the tree `parse` returns for the canonical text of its abstract tree (`flatKids`, what
    `scope.show` prints when nothing is wrapped, C01Nested) — up to source lines, ids included. -/
theorem nested_same_as_canonical_text (xs : List LayItem) (post : Pre) (h : wfDocN xs post = true)
    (hno : ∀ b ∈ layFlags xs, b = false) :
    ∃ o1 o2, parseObjs (renderN xs post) = .ok o1 ∧
      parseObjs (flatKids (layTrees xs) [] []) = .ok o2 ∧
      eraseList o1 = eraseList o2 ∧ idsList o1 = idsList o2 := by
  obtain ⟨o1, p1, e1, i1⟩ := layout_independent_nested xs post h
  obtain ⟨hrt, hch⟩ := layTrees_in_class xs post h hno
  obtain ⟨o2, p2, e2, i2⟩ := parseObjs_flatKids_l2 (layTrees xs) (rtAll_of_forall hrt)
    ((allDefnsList_iff _ _).mpr hch)
  exact ⟨o1, o2, p1, p2, by rw [e1, e2], by rw [i1, i2]⟩

/-- **C02, `!` in nested documents: exactly the constructs with `!` are disabled, nothing else
    changes.**  `layUnbang xs` is the same layout with every `!` removed.  Both texts parse; enabling
    every object of the first tree (`enableAllList`: `is_disabled := False`, nothing else touched)
    gives exactly the second tree — names, ids, source lines of objects and words, nesting — and the
    `is_disabled` flags of the first tree, in document order, are exactly the `!` flags of the layout
    (`layFlags`): a `!` on a scope disables that scope object (its body stays as it is, the children
    are not flagged), a `!` on a definition disables that definition; in front of a dotted name it
    disables the innermost object only (the scopes built for the leading components stay enabled). -/
theorem bang_disables_exactly_one_nested (xs : List LayItem) (post : Pre)
    (h : wfDocN xs post = true) :
    ∃ objs objs0, parseObjs (renderN xs post) = .ok objs ∧
      parseObjs (renderN (layUnbang xs) post) = .ok objs0 ∧
      enableAllList objs = objs0 ∧ disabledFlagsList objs = layFlags xs := by
  have h0 : wfDocN (layUnbang xs) post = true := by
    simp only [wfDocN, (layUnbang_facts_l2 xs).2.2] at h ⊢
    exact h
  exact ⟨layObjs xs 1 1, layObjs (layUnbang xs) 1 1, parseObjs_renderN_l2 xs post h,
    parseObjs_renderN_l2 _ post h0, (layObjs_unbang_l2 xs 1 1).symm, layObjs_flags_l2 xs 1 1⟩

/-! ### non-vacuity: one nested document in two very different layouts -/

private def w1 (s : String) : Word := { value := s.toList }

/-- canonical layout: one item per line, two blanks of indentation per level, `}` on its own line -/
def exCanonN : List LayItem :=
  [ .defn [] ("x".toList, [w1 "1"]) { gaps := [[' ']] } false,
    .scope [] "a".toList false {} { ind := [' '] }
      [ .defn [] ("y".toList, [w1 "2", { value := "p\nq".toList, quote := some .d1 }])
          { pre := { lines := [⟨[], none⟩], ind := [' ', ' '] }, gaps := [[' '], [' ']] } false,
        .scope [] "e".toList false { ind := [' ', ' '] } { ind := [' '] } []
          { lines := [⟨[], none⟩], ind := [' ', ' '] },
        .defn [] ("z".toList, [w1 "3"])
          { pre := { lines := [⟨[], none⟩], ind := [' ', ' '] }, gaps := [[' ']] } false ]
      {},
    .scope [] "f".toList false { lines := [⟨[], none⟩] } { ind := [' '] }
      [ .defn [] ("g".toList, [w1 "4"])
          { pre := { lines := [⟨[], none⟩], ind := [' ', ' '] }, gaps := [[' ']] } false ]
      {},
    .defn [] ("w".toList, [w1 "4"]) { pre := { lines := [⟨[], none⟩] }, gaps := [[' ']] } false ]

/-- a wild layout of the same document: comment header, `a` and `{` on different lines with a comment
    in between, items separated by `;` on one line, `e{ }`, `z = 3 }` (no terminator in front of `}`),
    `f` directly behind `}`, two blank lines between `f` and `{`, trailing comment, a comment line in
    front of `}`; flags `fa fy` put `!` on the scope `a` and on the definition `y`; with `dots` the
    scope `f { g = 4 }` is spelt `f.g = 4` instead -/
def exWildN (fa fy dots : Bool) : List LayItem :=
  [ .defn [] ("x".toList, [w1 "1"]) { pre := { lines := [⟨[], some " head".toList⟩] }, gaps := [[' ']] } false,
    .scope [] "a".toList fa { lines := [⟨[], none⟩], ind := [' '] }
        { lines := [⟨[' '], some " c".toList⟩], ind := ['\t'] }
      [ .defn [] ("y".toList, [w1 "2", { value := "p\nq".toList, quote := some .d1 }])
          { pre := { lines := [⟨[' '], some "in".toList⟩], ind := [' ', ' '] }, sp1 := [], gaps := [[], [' ']],
            term := .semi [] } fy,
        .scope [] "e".toList false { ind := [' '] } {} [] { ind := [' '] },
        .defn [] ("z".toList, [w1 "3"]) { pre := { ind := [' '] }, gaps := [[' ']], term := .eof } false ]
      { ind := [' '] },
    (if dots then
      .defn ["f".toList] ("g".toList, [w1 "4"])
        { pre := { lines := [⟨[], some "now dottedName".toList⟩], ind := ['\t'] }, sp1 := [' ', ' '],
          gaps := [['\t']], term := .comment [' '] " tr".toList } false
     else
      .scope [] "f".toList false {} { lines := [⟨[], none⟩, ⟨[], none⟩] }
        [ .defn [] ("g".toList, [w1 "4"]) { gaps := [[' ']], term := .comment [' '] " tr".toList } false ]
        { lines := [⟨[], some "x".toList⟩] }),
    .defn [] ("w".toList, [w1 "4"]) { pre := { ind := [' '] }, gaps := [[' ']], term := .eof } false ]

example : renderN exCanonN {} =
    "x = 1\na {\n  y = 2 \"p\nq\"\n  e {\n  }\n  z = 3\n}\nf {\n  g = 4\n}\nw = 4\n".toList := by
  unfold exCanonN w1
  repeat rw [String.toList_ofList]
  decide +kernel

example : renderN (exWildN false false false) { ind := [' '] } =
    "# head\nx = 1\n\n a # c\n\t{ #in\n  y=2 \"p\nq\"; e{ } z = 3 }f\n\n{g = 4 # tr\n#x\n} w = 4 ".toList := by
  unfold exWildN w1
  repeat rw [String.toList_ofList]
  decide +kernel

example : renderN (exWildN true true false) { ind := [' '] } =
    "# head\nx = 1\n\n !a # c\n\t{ #in\n  !y=2 \"p\nq\"; e{ } z = 3 }f\n\n{g = 4 # tr\n#x\n} w = 4 ".toList := by
  unfold exWildN w1
  repeat rw [String.toList_ofList]
  decide +kernel

example : renderN (exWildN false false true) { ind := [' '] } =
    "# head\nx = 1\n\n a # c\n\t{ #in\n  y=2 \"p\nq\"; e{ } z = 3 }#now dottedName\n\tf.g  =\t4 # tr\n w = 4 ".toList := by
  unfold exWildN w1
  repeat rw [String.toList_ofList]
  decide +kernel

theorem exCanonN_wf : wfDocN exCanonN {} = true := by
  unfold exCanonN w1
  repeat rw [String.toList_ofList]
  decide +kernel
theorem exWildN_wf (fa fy dots : Bool) : wfDocN (exWildN fa fy dots) { ind := [' '] } = true := by
  cases fa <;> cases fy <;> cases dots <;> decide +kernel

/-- both layouts, through the theorem: same tree up to lines, same ids -/
example : ∃ o1 o2, parseObjs (renderN exCanonN {}) = .ok o1 ∧
    parseObjs (renderN (exWildN false false false) { ind := [' '] }) = .ok o2 ∧
    eraseList o1 = eraseList o2 ∧ idsList o1 = idsList o2 :=
  two_nested_layouts_same_tree exCanonN (exWildN false false false) {} { ind := [' '] } (by decide +kernel)
    exCanonN_wf (exWildN_wf false false false)

/-- the canonical layout against the wild layout with `f.g = 4` spelt dotted, through the theorem: the
    same tree up to ids, lines and `merge_names` -/
example : ∃ o1 o2, parseObjs (renderN exCanonN {}) = .ok o1 ∧
    parseObjs (renderN (exWildN false false true) { ind := [' '] }) = .ok o2 ∧
    eraseMergeList o1 = eraseMergeList o2 :=
  dotted_equals_nested_any_layout exCanonN (exWildN false false true) {} { ind := [' '] }
    (by decide +kernel) exCanonN_wf (exWildN_wf false false true)

/-- the wild layout with `!a` and `!y`, through the theorem: the scope `a` (second object in document
    order) and the definition `y` (third) are disabled and nothing else differs -/
example : ∃ objs objs0, parseObjs (renderN (exWildN true true false) { ind := [' '] }) = .ok objs ∧
    parseObjs (renderN (exWildN false false false) { ind := [' '] }) = .ok objs0 ∧
    enableAllList objs = objs0 ∧
    disabledFlagsList objs = [false, true, true, false, false, false, false, false] := by
  obtain ⟨objs, objs0, p, p0, e, f⟩ := bang_disables_exactly_one_nested (exWildN true true false)
    { ind := [' '] } (exWildN_wf true true false)
  exact ⟨objs, objs0, p, p0, e, by rw [f]; decide +kernel⟩

/-- the wild text, evaluated (the Python library returns the same objects, ids and lines) -/
theorem exWildN_evaluated :
    parseObjs "# head\nx = 1\n\n !a # c\n\t{ #in\n  !y=2 \"p\nq\"; e{ } z = 3 }f\n\n{g = 4 # tr\n#x\n} w = 4 ".toList
      = .ok
      [.defn { name := ['x'], id := some 1, line := some 2 } [{ value := ['1'], line := some 2 }],
       .scope { name := ['a'], id := some 2, disabled := true, line := some 4 }
         [.defn { name := ['y'], id := some 3, disabled := true, line := some 6 }
            [{ value := ['2'], line := some 6 }, { value := "p\nq".toList, quote := some .d1, line := some 6 }],
          .scope { name := ['e'], id := some 4, line := some 7 } [],
          .defn { name := ['z'], id := some 5, line := some 7 } [{ value := ['3'], line := some 7 }]],
       .scope { name := ['f'], id := some 6, line := some 7 }
         [.defn { name := ['g'], id := some 7, line := some 9 } [{ value := ['4'], line := some 9 }]],
       .defn { name := ['w'], id := some 8, line := some 11 } [{ value := ['4'], line := some 11 }]] := by
  repeat rw [String.toList_ofList]
  decide +kernel

/-! ### sharp edges of the nested layout language (model = Python on every line) -/

/-- a comment glued to the scope name: `a#c` is one word (`gapOK_l2`) -/
example : parseObjs "a#c\n{\n}\n".toList = .error (.runtime "improper_scope_name" (some 1)) := by
  decide +kernel

/-- `;` after `}`: in structure context `;` is not a separator but a (bad) name -/
example : parseObjs "a {\n b = 1\n};\nc = 2".toList = .error (.runtime "unexpected" (some 3)) := by
  decide +kernel

/-- a trailing comment swallows a `}` on its line (`Terminator.comment` ends with the newline) -/
example : parseObjs "a { b = 1 # c }\nd = 2".toList = .error (.runtime "no_matching_brace" (some 1)) := by
  repeat rw [String.toList_ofList]
  decide +kernel

/-- no blanks at all is fine: `a{b=1}c=2` -/
example : parseObjs "a{b=1}c=2".toList = .ok
    [.scope { name := ['a'], id := some 1, line := some 1 }
       [.defn { name := ['b'], id := some 2, line := some 1 } [{ value := ['1'], line := some 1 }]],
     .defn { name := ['c'], id := some 3, line := some 1 } [{ value := ['2'], line := some 1 }]] := by
  decide +kernel

/-- a comment line between the name and `{` may itself contain `{` -/
example : parseObjs "a\n# x {\n{\n}".toList = .ok [.scope { name := ['a'], id := some 1, line := some 1 } []] := by
  decide +kernel

/-- one `}` too many -/
example : parseObjs "a {\n b = 1\n} }".toList = .error (.runtime "unexpected_end" none) := by
  decide +kernel

#print axioms eraseMerge_spec
#print axioms spelling_independent
#print axioms bracesIn_rtTree
#print axioms dottedIn_rtTree
#print axioms dotted_equals_nested_item
#print axioms dotted_defn_text
#print axioms dotted_scope_text
#print axioms braces_text
#print axioms dotted_equals_nested
#print axioms dotted_header_equals_nested
#print axioms dotted_or_nested_document
#print axioms two_spellings_same_tree
#print axioms dotted_and_nested_evaluated
#print axioms exItems_ok
#print axioms dotted_reserved_but_nested_fine
#print axioms dotted_names_do_not_merge
#print axioms layout_independent_nested
#print axioms nested_ids_undotted
#print axioms two_nested_layouts_same_tree
#print axioms dotted_equals_nested_any_layout
#print axioms dotted_item_is_braces
#print axioms layTrees_in_class
#print axioms nested_same_as_canonical_text
#print axioms bang_disables_exactly_one_nested
#print axioms exCanonN_wf
#print axioms exWildN_wf
#print axioms exWildN_evaluated

end Phil.C02
