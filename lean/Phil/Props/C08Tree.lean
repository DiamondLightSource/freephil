/-
  C08 (closed form on NESTED masters) — "fetch_diff is a faithful and minimal difference":
    for a master M and working parameters W = M.fetch(sources), D = M.fetch_diff(W) contains only
    parameters whose value differs from the master default; merging D back reproduces W; the
    difference of the master's own defaults is empty; the difference of a difference-restored W is
    D again.

  Model: Phil/Fetch.lean, `fetchScope … diff := true` (= `scope.fetch(diff=True)`, which is what
  `scope.fetch_diff` calls; `definition.fetch_diff` = the diff branch of `fetchDefn`; a scope whose
  difference has no children is dropped).
  Lemmas: Phil/Proofs/DiffTree.lean (on top of Phil/Proofs/DiffSpec.lean — flat masters — and
  Phil/Proofs/FetchTreeMulti.lean — non-diff fetch of nested masters).

  Class covered (unbounded: every such master, every such source tree, every adequate fuel, every
  `Envs`): `DiffTreeSetting e fuel sm mkids srcs` —
    * master: `TreeMultiMaster` (enabled NON-multiple scopes nested to any depth, enabled definitions
      `.multiple` or not, typed or not, not `.deprecated`, not choices; names non-empty, dot-free,
      pairwise distinct among siblings), fit for re-fetching (`RefetchTree`: definitions not
      template-marked, `$`-free defaults); `sm` is the meta data of the master scope fetched (empty
      name at the root, any name below);
    * sources: ARBITRARY trees of definitions and named scopes, enabled or disabled, any number of
      repetitions and spellings (`s.d = 1` or `s { d = 1 }`), unknown objects included — `SrcTree`
      (enabled definitions resolve, enabled scopes are named) and `SrcNoDollar`;
    * `KeysAll_dt`: `extract_format` succeeds on every master definition and on the candidate of
      every enabled source definition reached by its path (kept abstract: `eval` and `"%.10g"` are
      parameters; checkable by evaluation, `keysAllB_dt`);
    * fuel: `depthL mkids + 1 < fuel`, ONE MORE than the non-diff fetch needs (`depthL mkids < fuel`):
      the diff branch of `definition.fetch` renders with the fuel of its loop iteration, which must
      be positive at the deepest level (flat masters, depth 0: fuel `f + 2` — Props/C08Restore.lean).
      `fetchRoot` starts with the depth plus three.

  Results.
    1. `treeDiff` (`tdBlock_plain`, `tdBlock_multiple`, `tdBlock_scope`, `treeDiff_cons`) — the
       specification, by structural recursion on the master: a non-multiple definition contributes
       the candidate of the LAST enabled source definition reached by its path iff its key differs
       from the key of the master definition; a `.multiple` definition the survivors of the list rule
       WITHOUT the template; a scope itself with the difference of its children, rebuilt from the
       children of all enabled source scopes of its name — unless that difference is empty.
       `diff_tree_total`: `fetch_diff` equals this specification, or fails with RuntimeError
       ("incompatible") exactly when kinds clash somewhere (`noClash`); consumed ids as in non-diff mode.
    2. `diff_tree_minimal`, `diff_of_working_tree_minimal`, `diff_tree_at_path`: every definition of a
       difference, at any depth, has a key different from its master definition's.
       `diff_tree_no_empty_scope`: every scope of a difference has children.
    3. `self_diff_tree_empty_nosrc`, `self_diff_tree_empty`: no sources, or W₀ = M.fetch(): no children.
    4. `diff_of_working_tree`: M.fetch_diff(M.fetch(S)) has the children of M.fetch_diff(S).
    5. `restore_tree`: M.fetch(D) succeeds; its children `W'` are `treeRestored`, and correspond to
       `W` block by block, object by object, at every depth (`RestoredKids_dt`): identical, EXCEPT that
       a non-multiple working value whose key is the key of the master definition comes back as the
       master definition.  `restore_tree_exact` (`W' = W` under `NoRedundantTree_dt`),
       `restore_tree_values` (same extracted values under `FaithfulTree_dt`: "equal keys ⇒ equal
       values"), `restore_tree_twice`.  Both hypotheses are needed at depth as they are for flat
       masters: `restore_tree_not_tree_equal`, `restore_tree_values_fails_float`.
    6. `diff_restore_tree_fixed_point`: M.fetch_diff(W') = D.
  Validation of the specification against the real library: see the comment before the instance.
-/
import Phil.Proofs.DiffTree
import Phil.Proofs.ObjEq
namespace Phil.C08
open Phil

variable {e : Envs} {fuel : Nat} {sm : Meta} {mkids srcs : List Obj}

/-! ### 1. the difference in closed form -/

theorem treeDiff_nil (e : Envs) (srcs : List Obj) : treeDiff e [] srcs = [] := by rw [treeDiff]

/-- the children of a difference: the blocks of the master children, in master order -/
theorem treeDiff_cons (e : Envs) (mo : Obj) (rest srcs : List Obj) :
    treeDiff e (mo :: rest) srcs = tdBlock e mo srcs ++ treeDiff e rest srcs := by rw [treeDiff]

/-- the block of a non-multiple master definition in a difference: the candidate of the last enabled
    source definition of its name at this level, unless its key is the key of the master definition -/
theorem tdBlock_plain (e : Envs) (mm : Meta) (mws : List Word) (srcs : List Obj)
    (h : isMultiple (.defn mm mws) = false) :
    tdBlock e (.defn mm mws) srcs =
      match lastDef srcs mm.name with
      | none => []
      | some d =>
        if keyOf e 0 (.defn mm mws) (candOfSrc (.defn mm mws) d) == keyOf e 0 (.defn mm mws) (.defn mm mws)
        then [] else [candOfSrc (.defn mm mws) d] := by
  rw [tdBlock]
  exact diffBlockL_plain e 0 _ _ h

/-- the block of a `.multiple` master definition in a difference: the survivors of the list rule
    over the enabled source definitions of its name at this level, no template -/
theorem tdBlock_multiple (e : Envs) (mm : Meta) (mws : List Word) (srcs : List Obj)
    (h : isMultiple (.defn mm mws) = true) :
    tdBlock e (.defn mm mws) srcs =
      (dedupKeepLast ((candsOf e 0 (.defn mm mws) (defsNamed mm.name srcs)).filter
        (fun y => y.2 != keyOf e 0 (.defn mm mws) (.defn mm mws)))).map (·.1) := by
  rw [tdBlock, diffBlockL_multi e 0 _ _ h]
  rfl

/-- … which is the non-diff block (C05's `tmBlock`) without its head, the template -/
theorem tdBlock_multiple_tail (e : Envs) (mm : Meta) (mws : List Word) (srcs : List Obj)
    (h : isMultiple (.defn mm mws) = true) :
    tdBlock e (.defn mm mws) srcs = (tmBlock e (.defn mm mws) srcs).tail := by
  rw [tdBlock, tmBlock, diffBlockL_multi e 0 _ _ h, if_pos h, multiBlock_eq_cons]
  rfl

/-- the block of a master scope in a difference: the scope with the difference of its children,
    computed from the children of all enabled source scopes of its name — dropped if empty -/
theorem tdBlock_scope (e : Envs) (mm : Meta) (kids srcs : List Obj) :
    tdBlock e (.scope mm kids) srcs =
      if (treeDiff e kids (srcStep srcs mm.name)).isEmpty then []
      else [.scope { mm with tmpl := 0 } (treeDiff e kids (srcStep srcs mm.name))] := by
  rw [tdBlock]

/-- **The difference in closed form, nested masters.**  With fuel beyond the nesting depth plus one
    and defined keys, `master.fetch_diff(sources)` succeeds exactly when no kinds clash; its children
    are `treeDiff`; every enabled source definition whose path names a master definition is consumed;
    a clash makes it fail with RuntimeError ("incompatible"). -/
theorem diff_tree_total (e : Envs) (fuel : Nat) (sm : Meta) (mkids srcs : List Obj)
    (hf : TreeMultiMaster mkids) (hfuel : depthL mkids + 1 < fuel) (hsd : sm.disabled = false)
    (hsrc : SrcTree srcs) (hkeys : KeysAll_dt e mkids srcs) :
    fetchScope e fuel true sm mkids srcs =
      if noClash mkids srcs then
        .ok (.scope { sm with tmpl := 0 } (treeDiff e mkids srcs), treeMultiUsed mkids srcs)
      else .error incompatibleErr :=
  Phil.diff_tree_total e fuel sm mkids srcs hf hfuel hsd hsrc hkeys

/-- the success case -/
theorem diff_tree (e : Envs) (fuel : Nat) (sm : Meta) (mkids srcs : List Obj)
    (hf : TreeMultiMaster mkids) (hfuel : depthL mkids + 1 < fuel) (hsd : sm.disabled = false)
    (hsrc : SrcTree srcs) (hkeys : KeysAll_dt e mkids srcs) (hnc : noClash mkids srcs = true) :
    fetchScope e fuel true sm mkids srcs =
      .ok (.scope { sm with tmpl := 0 } (treeDiff e mkids srcs), treeMultiUsed mkids srcs) := by
  rw [Phil.diff_tree_total e fuel sm mkids srcs hf hfuel hsd hsrc hkeys, hnc]
  rfl

/-- the clash case: RuntimeError ("incompatible"), as in non-diff mode -/
theorem diff_tree_clash_fails (e : Envs) (fuel : Nat) (sm : Meta) (mkids srcs : List Obj)
    (hf : TreeMultiMaster mkids) (hfuel : depthL mkids + 1 < fuel) (hsd : sm.disabled = false)
    (hsrc : SrcTree srcs) (hkeys : KeysAll_dt e mkids srcs) (hnc : noClash mkids srcs = false) :
    fetchScope e fuel true sm mkids srcs = .error incompatibleErr := by
  rw [Phil.diff_tree_total e fuel sm mkids srcs hf hfuel hsd hsrc hkeys, hnc]
  rfl

/-- a successful difference is the specification -/
theorem diff_tree_ok (e : Envs) (fuel : Nat) (sm : Meta) (mkids srcs : List Obj)
    (hf : TreeMultiMaster mkids) (hfuel : depthL mkids + 1 < fuel) (hsd : sm.disabled = false)
    (hsrc : SrcTree srcs) (hkeys : KeysAll_dt e mkids srcs) (rm : Meta) (D : List Obj) (used : List Nat)
    (h : fetchScope e fuel true sm mkids srcs = .ok (.scope rm D, used)) :
    noClash mkids srcs = true ∧ rm = { sm with tmpl := 0 } ∧ D = treeDiff e mkids srcs ∧
      used = treeMultiUsed mkids srcs := by
  rw [Phil.diff_tree_total e fuel sm mkids srcs hf hfuel hsd hsrc hkeys] at h
  split at h
  · rename_i hnc
    cases h
    exact ⟨hnc, rfl, rfl, rfl⟩
  · cases h

/-- **`master.fetch_diff(sources=…)`** — the same for the entry point on parsed roots: the fuel
    `fetchRoot` computes is adequate -/
theorem fetchRoot_diff_tree (e : Envs) (master : List Obj) (ss : List (List Obj))
    (hf : TreeMultiMaster master) (hd : depthL master ≤ 1000) (hsrc : SrcTree ss.flatten)
    (hkeys : KeysAll_dt e master ss.flatten) :
    fetchRoot e true master ss =
      if noClash master ss.flatten then
        .ok (.scope { name := [], id := some 0 } (treeDiff e master ss.flatten),
             treeMultiUsed master ss.flatten)
      else .error incompatibleErr :=
  Phil.fetchRoot_diff_tree e master ss hf hd hsrc hkeys

/-- masters without `.multiple` (`TreeMaster`, the class of C05Tree) are a special case -/
theorem diff_tree_total_of_treeMaster (e : Envs) (fuel : Nat) (sm : Meta) (mkids srcs : List Obj)
    (hf : TreeMaster mkids) (hfuel : depthL mkids + 1 < fuel) (hsd : sm.disabled = false)
    (hsrc : SrcTree srcs) (hkeys : KeysAll_dt e mkids srcs) :
    fetchScope e fuel true sm mkids srcs =
      if noClash mkids srcs then
        .ok (.scope { sm with tmpl := 0 } (treeDiff e mkids srcs), treeUsed mkids srcs)
      else .error incompatibleErr :=
  Phil.diff_tree_total e fuel sm mkids srcs hf.toMulti hfuel hsd hsrc hkeys

/-- the key hypothesis of the difference covers the one of the non-diff fetch (C05) -/
theorem keysAll_covers_multi (e : Envs) (mkids srcs : List Obj) (h : KeysAll_dt e mkids srcs) :
    KeysDefinedTree e mkids srcs := h.toMulti

/-- `master.fetch(sources)` in the same setting (C05's closed form) -/
theorem fetch_tree_in_setting (S : DiffTreeSetting e fuel sm mkids srcs) :
    fetchScope e fuel false sm mkids srcs =
      if noClash mkids srcs then
        .ok (.scope { sm with tmpl := 0 } (treeMultiResult e mkids srcs), treeMultiUsed mkids srcs)
      else .error incompatibleErr :=
  S.fetch_sources_total

/-! ### 2. minimality; no empty scopes -/

/-- **Minimality.**  Every definition `x` of `master.fetch_diff(sources)`, at any depth, is the
    candidate built from a source definition for a master definition `mo`, and its key
    `mo.extract_format(source=x).as_str()` differs from `mo.extract_format().as_str()`. -/
theorem diff_tree_minimal (e : Envs) (fuel : Nat) (sm : Meta) (mkids srcs : List Obj)
    (hf : TreeMultiMaster mkids) (hfuel : depthL mkids + 1 < fuel) (hsd : sm.disabled = false)
    (hsrc : SrcTree srcs) (hkeys : KeysAll_dt e mkids srcs) (rm : Meta) (D : List Obj) (used : List Nat)
    (h : fetchScope e fuel true sm mkids srcs = .ok (.scope rm D, used)) :
    ∀ x, ActiveIn x D → x.isDefn = true →
      ∃ mo, ActiveIn mo mkids ∧ mo.isDefn = true ∧ (∃ d, ActiveIn d srcs ∧ x = candOfSrc mo d) ∧
        keyOf e 0 mo x ≠ keyOf e 0 mo mo := by
  obtain ⟨_, _, rfl, _⟩ := diff_tree_ok e fuel sm mkids srcs hf hfuel hsd hsrc hkeys rm D used h
  exact treeDiff_minimal_dt e mkids srcs hf

/-- **The difference at a path.**  Where the master has the definition `.defn mm mws` at the path
    `ps.n`, the enabled objects called `n` the difference has at that path are `diffBlockL` of the
    enabled source definitions reached by that path (over all sources and all spellings, in document
    order) — each with a key different from the key of the master definition. -/
theorem diff_tree_at_path (e : Envs) (fuel : Nat) (sm : Meta) (mkids srcs : List Obj)
    (hf : TreeMultiMaster mkids) (hfuel : depthL mkids + 1 < fuel) (hsd : sm.disabled = false)
    (hsrc : SrcTree srcs) (hkeys : KeysAll_dt e mkids srcs) (rm : Meta) (D : List Obj) (used : List Nat)
    (h : fetchScope e fuel true sm mkids srcs = .ok (.scope rm D, used))
    (ps : List Str) (n : Str) (mm : Meta) (mws : List Word) (hdef : defAt mkids ps n = some (.defn mm mws)) :
    activeNamed n (srcAt D ps) = diffBlockL e 0 (.defn mm mws) (defsNamed n (srcAt srcs ps)) ∧
      ∀ o ∈ activeNamed n (srcAt D ps), keyOf e 0 (.defn mm mws) o ≠ keyOf e 0 (.defn mm mws) (.defn mm mws) := by
  obtain ⟨_, _, rfl, _⟩ := diff_tree_ok e fuel sm mkids srcs hf hfuel hsd hsrc hkeys rm D used h
  have h1 := treeDiff_at_path_dt e mkids srcs hf ps n mm mws hdef
  refine ⟨h1, ?_⟩
  intro o ho
  rw [h1] at ho
  exact (mem_diffBlockL ho).2

/-- **No empty scopes.**  Every scope of a difference, at any depth, has children. -/
theorem diff_tree_no_empty_scope (e : Envs) (fuel : Nat) (sm : Meta) (mkids srcs : List Obj)
    (hf : TreeMultiMaster mkids) (hfuel : depthL mkids + 1 < fuel) (hsd : sm.disabled = false)
    (hsrc : SrcTree srcs) (hkeys : KeysAll_dt e mkids srcs) (rm : Meta) (D : List Obj) (used : List Nat)
    (h : fetchScope e fuel true sm mkids srcs = .ok (.scope rm D, used)) :
    ∀ m kids, ActiveIn (.scope m kids) D → kids ≠ [] := by
  obtain ⟨_, _, rfl, _⟩ := diff_tree_ok e fuel sm mkids srcs hf hfuel hsd hsrc hkeys rm D used h
  exact treeDiff_no_empty_scope_dt e mkids srcs hf

/-! ### 3. empty self-difference -/

/-- **No sources: empty difference** (nothing consumed). -/
theorem self_diff_tree_empty_nosrc (e : Envs) (fuel : Nat) (sm : Meta) (mkids : List Obj)
    (hf : TreeMultiMaster mkids) (hfuel : depthL mkids + 1 < fuel) (hsd : sm.disabled = false)
    (hk : KeysAll_dt e mkids []) :
    fetchScope e fuel true sm mkids [] = .ok (.scope { sm with tmpl := 0 } [], []) := by
  rw [Phil.diff_tree_total e fuel sm mkids [] hf hfuel hsd srcTree_nil hk, noClash_nil_dt,
    treeDiff_nil_dt]
  unfold treeMultiUsed
  rw [treeUsed_nil_dt]
  rfl

/-- **The difference of the master's own defaults is empty**: `W₀ = master.fetch()`,
    `master.fetch_diff(W₀)` succeeds and has no children. -/
theorem self_diff_tree_empty (e : Envs) (fuel : Nat) (sm : Meta) (mkids : List Obj)
    (hf : TreeMultiMaster mkids) (hr : RefetchTree mkids) (hfuel : depthL mkids + 1 < fuel)
    (hsd : sm.disabled = false) (hk : KeysAll_dt e mkids [])
    (rm : Meta) (W0 : List Obj) (u : List Nat)
    (hW : fetchScope e fuel false sm mkids [] = .ok (.scope rm W0, u)) :
    ∃ u', fetchScope e fuel true sm mkids W0 = .ok (.scope rm [], u') := by
  have S : DiffTreeSetting e fuel sm mkids [] := ⟨hf, hr, hfuel, hsd, srcTree_nil, SrcNoDollar.nil, hk⟩
  obtain ⟨_, rfl, rfl⟩ := S.working_inv hW
  refine ⟨treeMultiUsed mkids (treeMultiResult e mkids []), ?_⟩
  rw [S.diff_working, treeDiff_nil_dt]

/-! ### 4. the difference of the working set is the difference of the sources -/

/-- **`master.fetch_diff(master.fetch(sources))` has the children of `master.fetch_diff(sources)`**
    (and never fails). -/
theorem diff_of_working_tree (S : DiffTreeSetting e fuel sm mkids srcs)
    (rm : Meta) (W : List Obj) (u : List Nat)
    (hW : fetchScope e fuel false sm mkids srcs = .ok (.scope rm W, u)) :
    ∃ ud ud', fetchScope e fuel true sm mkids W = .ok (.scope rm (treeDiff e mkids srcs), ud) ∧
      fetchScope e fuel true sm mkids srcs = .ok (.scope rm (treeDiff e mkids srcs), ud') := by
  obtain ⟨hnc, rfl, rfl⟩ := S.working_inv hW
  refine ⟨treeMultiUsed mkids (treeMultiResult e mkids srcs), treeMultiUsed mkids srcs, S.diff_working, ?_⟩
  rw [S.diff_sources_total, hnc]
  rfl

/-- minimality for the difference of a working set (the statement of C08): every definition of
    `D = master.fetch_diff(W)`, `W = master.fetch(sources)`, at any depth, has a key different from
    its master default's -/
theorem diff_of_working_tree_minimal (S : DiffTreeSetting e fuel sm mkids srcs)
    (rm : Meta) (W : List Obj) (u : List Nat)
    (hW : fetchScope e fuel false sm mkids srcs = .ok (.scope rm W, u))
    (rd : Meta) (D : List Obj) (ud : List Nat)
    (hD : fetchScope e fuel true sm mkids W = .ok (.scope rd D, ud)) :
    (∀ x, ActiveIn x D → x.isDefn = true →
      ∃ mo, ActiveIn mo mkids ∧ mo.isDefn = true ∧ x.name = mo.name ∧ keyOf e 0 mo x ≠ keyOf e 0 mo mo) ∧
    (∀ m kids, ActiveIn (.scope m kids) D → kids ≠ []) := by
  obtain ⟨ud', _, h, _⟩ := diff_of_working_tree S rm W u hW
  rw [h] at hD
  cases hD
  refine ⟨?_, treeDiff_no_empty_scope_dt e mkids srcs S.tree⟩
  intro x hx hdef
  obtain ⟨mo, ha, hmd, ⟨d, _, rfl⟩, hk⟩ := treeDiff_minimal_dt e mkids srcs S.tree x hx hdef
  exact ⟨mo, ha, hmd, by cases mo <;> rfl, hk⟩

/-! ### 5. restoring the working set from its difference -/

theorem restoredObj_defn_iff (e : Envs) (mm : Meta) (mws : List Word) (o o' : Obj) :
    RestoredObj_dt e (.defn mm mws) o o' ↔
      (o' = o ∨ (isMultiple (.defn mm mws) = false ∧ o.meta = mm ∧
        keyOf e 0 (.defn mm mws) o = keyOf e 0 (.defn mm mws) (.defn mm mws) ∧ o' = .defn mm mws)) := by
  rw [RestoredObj_dt]
  rfl

theorem restoredObj_scope_iff (e : Envs) (mm : Meta) (kids : List Obj) (o o' : Obj) :
    RestoredObj_dt e (.scope mm kids) o o' ↔
      ∃ K K', o = .scope { mm with tmpl := 0 } K ∧ o' = .scope { mm with tmpl := 0 } K' ∧
        RestoredKids_dt e kids K K' := by
  rw [RestoredObj_dt]

theorem restoredKids_nil_iff (e : Envs) (W W' : List Obj) :
    RestoredKids_dt e [] W W' ↔ W = [] ∧ W' = [] := by
  rw [RestoredKids_dt]

theorem restoredKids_cons_iff (e : Envs) (mo : Obj) (rest W W' : List Obj) :
    RestoredKids_dt e (mo :: rest) W W' ↔
      ∃ A A' C C', W = A ++ C ∧ W' = A' ++ C' ∧ Forall2 (RestoredObj_dt e mo) A A' ∧
        RestoredKids_dt e rest C C' := by
  rw [RestoredKids_dt]

/-  Full-strength statement (FALSE at every depth, see `restore_tree_not_tree_equal` below):
      … → ∃ u', fetchScope e fuel false sm mkids D = .ok (.scope rm W, u')
    What is missing is exactly the second alternative of `RestoredAs` inside `RestoredObj_dt`: a
    non-multiple working value that merely re-spells its default is not reported by the difference
    (its whole scope may disappear from `D`) and comes back in the master's spelling.
    `restore_tree_exact` is the full-strength statement under the hypothesis that excludes this. -/

/-- **Restore.**  Let `W = master.fetch(sources)` and `D = master.fetch_diff(W)`.  Then
    `master.fetch(D)` succeeds; its children `W'` are `treeRestored`; `W` and `W'` split into the
    same blocks, one per master child in master order and so on recursively inside every scope
    (scopes dropped from `D` included), and correspond object by object: `W'ᵢ = Wᵢ`, except that
    where `Wᵢ` is the working value of a non-multiple master definition `mo` with the key of `mo`,
    `W'ᵢ = mo`.  (`.multiple` blocks — template flag, instances, their order — are reproduced
    exactly.) -/
theorem restore_tree (S : DiffTreeSetting e fuel sm mkids srcs)
    (rm : Meta) (W : List Obj) (u : List Nat)
    (hW : fetchScope e fuel false sm mkids srcs = .ok (.scope rm W, u))
    (rd : Meta) (D : List Obj) (ud : List Nat)
    (hD : fetchScope e fuel true sm mkids W = .ok (.scope rd D, ud)) :
    ∃ W' u', fetchScope e fuel false sm mkids D = .ok (.scope rm W', u') ∧
      W' = treeRestored e mkids srcs ∧ RestoredKids_dt e mkids W W' := by
  obtain ⟨_, rfl, rfl⟩ := S.working_inv hW
  rw [S.diff_working] at hD
  cases hD
  exact ⟨_, _, S.fetch_diff, rfl, restoredKids_dt e mkids srcs S.tree.kids S.refetch⟩

/-- **Restore, at a path.**  Where the master has the definition `.defn mm mws` at the path `ps.n`,
    the objects `W'` has there are `restoredBlockL` of the enabled source definitions reached by that
    path, and they correspond one by one to the objects `W` has there (`RestoredAs`). -/
theorem restore_tree_at_path (S : DiffTreeSetting e fuel sm mkids srcs)
    (rm : Meta) (W : List Obj) (u : List Nat)
    (hW : fetchScope e fuel false sm mkids srcs = .ok (.scope rm W, u))
    (rd : Meta) (D : List Obj) (ud : List Nat)
    (hD : fetchScope e fuel true sm mkids W = .ok (.scope rd D, ud))
    (rw' : Meta) (W' : List Obj) (u' : List Nat)
    (hW' : fetchScope e fuel false sm mkids D = .ok (.scope rw' W', u'))
    (ps : List Str) (n : Str) (mm : Meta) (mws : List Word) (hdef : defAt mkids ps n = some (.defn mm mws)) :
    Forall2 (RestoredAs e 0 (.defn mm mws)) (activeNamed n (srcAt W ps)) (activeNamed n (srcAt W' ps)) := by
  obtain ⟨_, rfl, rfl⟩ := S.working_inv hW
  rw [S.diff_working] at hD
  cases hD
  rw [S.fetch_diff] at hW'
  cases hW'
  have hn : mm.name = n := (defAt_name ps mkids n _ hdef).1
  rw [treeRestored_at_path_dt e mkids srcs S.tree ps n mm mws hdef,
    block_at_path_tm e ps mkids srcs n mm mws S.tree hdef, tmBlock_eq_gBlock_dt, gBlock_dt, hn]
  have ht : mm.tmpl = 0 := by
    have := defAt_active_dt ps mkids n _ S.tree.kids hdef
    exact (S.refetch _ this rfl).1
  exact restoredBlockL_restoredAs e 0 mm mws ht _

/-- **Restore, exactly.**  If no working value merely re-spells its default, at any depth
    (`NoRedundantTree_dt`), merging the difference back gives `W` itself — the same tree, template
    flags included. -/
theorem restore_tree_exact (S : DiffTreeSetting e fuel sm mkids srcs)
    (hnr : NoRedundantTree_dt e mkids srcs)
    (rm : Meta) (W : List Obj) (u : List Nat)
    (hW : fetchScope e fuel false sm mkids srcs = .ok (.scope rm W, u))
    (rd : Meta) (D : List Obj) (ud : List Nat)
    (hD : fetchScope e fuel true sm mkids W = .ok (.scope rd D, ud)) :
    ∃ u', fetchScope e fuel false sm mkids D = .ok (.scope rm W, u') := by
  obtain ⟨W', u', h1, h2, _⟩ := restore_tree S rm W u hW rd D ud hD
  obtain ⟨_, _, rfl⟩ := S.working_inv hW
  rw [h2, treeRestored_eq_treeMultiResult_dt e mkids srcs hnr] at h1
  exact ⟨u', h1⟩

/-- **Restore, values.**  If, at every depth, a non-multiple working value that has the key of its
    master definition also has its VALUE (`FaithfulTree_dt`; true for bool/int/str/… values, false
    for floats that agree with the default to 10 significant digits only —
    `restore_tree_values_fails_float`), then `W'` and `W` extract to the same Python values,
    whatever the enclosing scope and the fuel. -/
theorem restore_tree_values (S : DiffTreeSetting e fuel sm mkids srcs)
    (hfa : FaithfulTree_dt e mkids srcs)
    (rm : Meta) (W : List Obj) (u : List Nat)
    (hW : fetchScope e fuel false sm mkids srcs = .ok (.scope rm W, u))
    (rd : Meta) (D : List Obj) (ud : List Nat)
    (hD : fetchScope e fuel true sm mkids W = .ok (.scope rd D, ud))
    (rw' : Meta) (W' : List Obj) (u' : List Nat)
    (hW' : fetchScope e fuel false sm mkids D = .ok (.scope rw' W', u'))
    (m : Meta) (n : Nat) :
    extractObj e n (.scope m W') = extractObj e n (.scope m W) := by
  obtain ⟨_, rfl, rfl⟩ := S.working_inv hW
  rw [S.diff_working] at hD
  cases hD
  rw [S.fetch_diff] at hW'
  cases hW'
  exact treeRestored_values_dt e mkids srcs S.tree S.refetch hfa m n

/-- **Restoring twice**: `W'` is a fixed point of `master.fetch`. -/
theorem restore_tree_twice (S : DiffTreeSetting e fuel sm mkids srcs) :
    ∃ u, fetchScope e fuel false sm mkids (treeRestored e mkids srcs) =
      .ok (.scope { sm with tmpl := 0 } (treeRestored e mkids srcs), u) :=
  ⟨_, S.fetch_restored⟩

/-! ### 6. the difference of the restored working set -/

/-- **The difference of a difference-restored `W` is `D` again**: with `W = master.fetch(sources)`,
    `D = master.fetch_diff(W)`, `W' = master.fetch(D)`: `master.fetch_diff(W')` succeeds and is `D`
    (same scope, same children). -/
theorem diff_restore_tree_fixed_point (S : DiffTreeSetting e fuel sm mkids srcs)
    (rm : Meta) (W : List Obj) (u : List Nat)
    (hW : fetchScope e fuel false sm mkids srcs = .ok (.scope rm W, u))
    (rd : Meta) (D : List Obj) (ud : List Nat)
    (hD : fetchScope e fuel true sm mkids W = .ok (.scope rd D, ud))
    (rw' : Meta) (W' : List Obj) (u' : List Nat)
    (hW' : fetchScope e fuel false sm mkids D = .ok (.scope rw' W', u')) :
    ∃ ud', fetchScope e fuel true sm mkids W' = .ok (.scope rd D, ud') := by
  obtain ⟨_, rfl, rfl⟩ := S.working_inv hW
  rw [S.diff_working] at hD
  cases hD
  rw [S.fetch_diff] at hW'
  cases hW'
  exact ⟨_, S.diff_restored⟩

/-- the same chain for the entry point `fetchRoot` (`master.fetch(sources=…)`, `master.fetch_diff`) -/
theorem fetchRoot_restore_tree_chain (e : Envs) (master : List Obj) (ss : List (List Obj))
    (S : DiffTreeSetting e (rootFuel_dt master) { name := [], id := some 0 } master ss.flatten)
    (hnc : noClash master ss.flatten = true) :
    ∃ u ud u' ud',
      fetchRoot e false master ss =
        .ok (.scope { name := [], id := some 0 } (treeMultiResult e master ss.flatten), u) ∧
      fetchRoot e true master [treeMultiResult e master ss.flatten] =
        .ok (.scope { name := [], id := some 0 } (treeDiff e master ss.flatten), ud) ∧
      fetchRoot e false master [treeDiff e master ss.flatten] =
        .ok (.scope { name := [], id := some 0 } (treeRestored e master ss.flatten), u') ∧
      fetchRoot e true master [treeRestored e master ss.flatten] =
        .ok (.scope { name := [], id := some 0 } (treeDiff e master ss.flatten), ud') := by
  simp only [fetchRoot_eq_dt, List.flatten_singleton]
  exact ⟨_, _, _, _, S.fetch_sources_total.trans (if_pos hnc), S.diff_working, S.fetch_diff, S.diff_restored⟩

/-- the setting from executable checks on parsed roots -/
theorem diffTreeSetting_of_checks (e : Envs) (master srcs : List Obj)
    (hm : masterCheck_tm master = true) (hs : srcCheck srcs = true)
    (hk : keysAllB_dt e master srcs = true) :
    DiffTreeSetting e (rootFuel_dt master) { name := [], id := some 0 } master srcs := by
  have hM := masterCheck_tm_sound master hm
  have hS := srcCheck_sound srcs hs
  exact ⟨hM.tree, hM.refetch, fetchRoot_fuel_dt master hM.depth, rfl, hS.tree, hS.noDollar,
    keysAllB_dt_sound e master srcs hk⟩

/-! ### validation of the specification against the real library, non-vacuity

  `treeDiff`/`treeRestored`/`treeMultiResult` were compared with the unchanged Python library BEFORE
  the proofs, on 1100 random nested inputs (masters nested up to 3 scopes deep, 1–4 children per
  scope, definitions untyped / `bool` / `int` / `str`, `.multiple` 40 %, `.optional=False` some;
  0–3 source documents of 0–5 objects per level, repeated scopes and definitions, re-spellings
  (`yes`/`True`, `1+1`/`2`, `"x"`/`x`), disabled objects, unknown objects; one batch of 300 with
  kinds swapped at 8 % of the source objects):
    `master.fetch_diff(sources=S).as_str()`            = `treeDiff M S`          rendered
    `master.fetch_diff(source=W).as_str()`             = `treeDiff M W`          rendered, `= D₀`
    `master.fetch(source=D).as_str()`                  = `treeRestored M S`      rendered
                                                        (= `treeMultiResult M D`, compared as terms)
    `master.fetch_diff(source=W').as_str()`            = `treeDiff M W'`         rendered, `= D`
    both `fetch` and `fetch_diff` raise RuntimeError("Incompatible …") ⇔ `noClash M S = false`
  1100/1100 agree (1000 in the success case — 610 non-empty differences, 322 of them nested, 117
  with `W' ≠ W` as text — and 100 clash cases); the model's `fetchRoot` agreed as well. -/

def objs_dt (t : String) : List Obj :=
  match parseObjs t.toList with
  | .ok m => m
  | .error _ => []

/-- For `rw` and the kernel a literal is `String.ofList […]`: rewriting with this avoids UTF-8 decoding. -/
theorem objs_dt_ofList (l : List Char) :
    objs_dt (String.ofList l) =
      match parseObjs l with
      | .ok m => m
      | .error _ => [] := by
  rw [objs_dt, String.toList_ofList]

/-- `eval` and `"%.10g"` know the digits -/
def envDigits_dt : Envs :=
  { eval := fun s => match s with
      | [c] => if c.isDigit then some (.num (.int (c.toNat - 48))) else none
      | _ => none,
    fmt := fun n => match n with
      | .int i => if 0 ≤ i && i ≤ 9 then some [Char.ofNat (48 + i.toNat)] else none
      | _ => none }

/-- master: `a = 1 (int) ; s { d = 2 (int, multiple) ; b = True (bool) ;
    t { w = p q (multiple) ; c = x } ; u { k = 0 (int) } }` -/
def exM_dt : List Obj := objs_dt "a = 1\n.type=int\ns {\n  d = 2\n  .type=int\n  .multiple=True\n  b = True\n  .type=bool\n  t {\n    w = p q\n    .multiple=True\n    c = x\n  }\n  u {\n    k = 0\n    .type=int\n  }\n}\n"

/-- sources: dotted and braced spellings; `a`: the default; `s.d`: 3, 2 (the default), 5, 3 again,
    and once disabled; `s.b = yes` re-spells the default `True`; `s.t.w`: r, then the default;
    `s.t.c`, `s.u.k`: the defaults; `z` unknown -/
def exS_dt : List Obj := objs_dt "a = 1\ns.d = 3\ns {\n  d = 2\n  d = 5\n}\ns.b = yes\ns.t.w = r\ns.t {\n  w = p q\n  c = x\n}\ns.u.k = 0\ns.d = 3\nz = 1\n!s.d = 9\n"

section
attribute [local instance] objDecEq

theorem exM_dt_eq : exM_dt =
    [
      .defn { name := "a".toList, id := some 1, line := some 1, attrs := [("type", .conv (.int {}))] }
        [{ value := "1".toList, line := some 1 }],
      .scope { name := "s".toList, id := some 2, line := some 3 } [
        .defn
          { name := "d".toList, id := some 3, line := some 4,
            attrs := [("type", .conv (.int {})), ("multiple", .bool true)] }
          [{ value := "2".toList, line := some 4 }],
        .defn { name := "b".toList, id := some 4, line := some 7, attrs := [("type", .conv .bool)] }
          [{ value := "True".toList, line := some 7 }],
        .scope { name := "t".toList, id := some 5, line := some 9 } [
          .defn { name := "w".toList, id := some 6, line := some 10, attrs := [("multiple", .bool true)] }
            [{ value := "p".toList, line := some 10 }, { value := "q".toList, line := some 10 }],
          .defn { name := "c".toList, id := some 7, line := some 12 }
            [{ value := "x".toList, line := some 12 }]],
        .scope { name := "u".toList, id := some 8, line := some 14 } [
          .defn { name := "k".toList, id := some 9, line := some 15, attrs := [("type", .conv (.int {}))] }
            [{ value := "0".toList, line := some 15 }]]]] := by
  rw [exM_dt, objs_dt_ofList]
  decide +kernel

theorem exS_dt_eq : exS_dt =
    [
      .defn { name := "a".toList, id := some 1, line := some 1 } [{ value := "1".toList, line := some 1 }],
      .scope { name := "s".toList, id := some 2 } [
        .defn { name := "d".toList, id := some 2, line := some 2, mergeNames := true }
          [{ value := "3".toList, line := some 2 }]],
      .scope { name := "s".toList, id := some 3, line := some 3 } [
        .defn { name := "d".toList, id := some 4, line := some 4 }
          [{ value := "2".toList, line := some 4 }],
        .defn { name := "d".toList, id := some 5, line := some 5 }
          [{ value := "5".toList, line := some 5 }]],
      .scope { name := "s".toList, id := some 6 } [
        .defn { name := "b".toList, id := some 6, line := some 7, mergeNames := true }
          [{ value := "yes".toList, line := some 7 }]],
      .scope { name := "s".toList, id := some 7 } [
        .scope { name := "t".toList, id := some 7, mergeNames := true } [
          .defn { name := "w".toList, id := some 7, line := some 8, mergeNames := true }
            [{ value := "r".toList, line := some 8 }]]],
      .scope { name := "s".toList, id := some 8 } [
        .scope { name := "t".toList, id := some 8, line := some 9, mergeNames := true } [
          .defn { name := "w".toList, id := some 9, line := some 10 }
            [{ value := "p".toList, line := some 10 }, { value := "q".toList, line := some 10 }],
          .defn { name := "c".toList, id := some 10, line := some 11 }
            [{ value := "x".toList, line := some 11 }]]],
      .scope { name := "s".toList, id := some 11 } [
        .scope { name := "u".toList, id := some 11, mergeNames := true } [
          .defn { name := "k".toList, id := some 11, line := some 13, mergeNames := true }
            [{ value := "0".toList, line := some 13 }]]],
      .scope { name := "s".toList, id := some 12 } [
        .defn { name := "d".toList, id := some 12, line := some 14, mergeNames := true }
          [{ value := "3".toList, line := some 14 }]],
      .defn { name := "z".toList, id := some 13, line := some 15 }
        [{ value := "1".toList, line := some 15 }],
      .scope { name := "s".toList, id := some 14 } [
        .defn { name := "d".toList, id := some 14, disabled := true, line := some 16, mergeNames := true }
          [{ value := "9".toList, line := some 16 }]]] := by
  rw [exS_dt, objs_dt_ofList]
  decide +kernel

end

/-- the (path, template flag, words) triples of the definitions of a tree -/
def instOf_dt (kids : List Obj) : List (String × Int × List String) :=
  (allDefinitions kids).map (fun x => (String.ofList x.1, x.2.1.tmpl, x.2.2.map (fun w => String.ofList w.value)))

/-- the text `as_str()` prints for a list of children -/
def textOf_dt (kids : List Obj) : Option String :=
  match asStr {} (rootOf kids) with
  | .ok s => some (String.ofList s)
  | .error _ => none

/-- the parsed instance satisfies every hypothesis -/
example : (exM_dt.length == 2 && exS_dt.length == 10 && masterCheck_tm exM_dt && srcCheck exS_dt &&
    keysAllB_dt envDigits_dt exM_dt exS_dt && noClash exM_dt exS_dt && depthL exM_dt == 2) = true := by
  rw [exM_dt_eq, exS_dt_eq]
  decide +kernel

/-- the instance is in the class -/
theorem exSetting_dt :
    DiffTreeSetting envDigits_dt (rootFuel_dt exM_dt) { name := [], id := some 0 } exM_dt exS_dt :=
  diffTreeSetting_of_checks envDigits_dt exM_dt exS_dt (by rw [exM_dt_eq]; decide +kernel)
    (by rw [exS_dt_eq]; decide +kernel) (by rw [exM_dt_eq, exS_dt_eq]; decide +kernel)

/-- the working set the closed form predicts (`s.b = yes`, the source's spelling) … -/
example : instOf_dt (treeMultiResult envDigits_dt exM_dt exS_dt) =
    [("a", 0, ["1"]), ("s.d", -1, ["2"]), ("s.d", 0, ["5"]), ("s.d", 0, ["3"]), ("s.b", 0, ["yes"]),
     ("s.t.w", -1, ["p", "q"]), ("s.t.w", 0, ["r"]), ("s.t.c", 0, ["x"]), ("s.u.k", 0, ["0"])] := by
  rw [exM_dt_eq, exS_dt_eq]
  decide +kernel

/-- … the difference: no `a`, no templates, no `s.d = 2`, no `s.b` (`yes` has the key of `True`), no
    `s.t.c`, and the whole scope `s.u` dropped (Python prints exactly this text) … -/
example : (instOf_dt (treeDiff envDigits_dt exM_dt exS_dt), textOf_dt (treeDiff envDigits_dt exM_dt exS_dt)) =
    ([("s.d", 0, ["5"]), ("s.d", 0, ["3"]), ("s.t.w", 0, ["r"])],
     some "s {\n  d = 5\n  d = 3\n  t {\n    w = r\n  }\n}\n") := by
  rw [exM_dt_eq, exS_dt_eq]
  decide +kernel

/-- … and the restored working set: `W` except for `s.b = True`; `s.u` is back -/
example : (instOf_dt (treeRestored envDigits_dt exM_dt exS_dt),
    textOf_dt (treeRestored envDigits_dt exM_dt exS_dt)) =
    ([("a", 0, ["1"]), ("s.d", -1, ["2"]), ("s.d", 0, ["5"]), ("s.d", 0, ["3"]), ("s.b", 0, ["True"]),
      ("s.t.w", -1, ["p", "q"]), ("s.t.w", 0, ["r"]), ("s.t.c", 0, ["x"]), ("s.u.k", 0, ["0"])],
     some "a = 1\ns {\n  d = 5\n  d = 3\n  b = True\n  t {\n    w = r\n    c = x\n  }\n  u {\n    k = 0\n  }\n}\n") := by
  rw [exM_dt_eq, exS_dt_eq]
  decide +kernel

/-- the theorems apply: the four fetches of the chain succeed with these children -/
example : ∃ u ud u' ud',
    fetchRoot envDigits_dt false exM_dt [exS_dt] =
      .ok (.scope { name := [], id := some 0 } (treeMultiResult envDigits_dt exM_dt exS_dt), u) ∧
    fetchRoot envDigits_dt true exM_dt [treeMultiResult envDigits_dt exM_dt exS_dt] =
      .ok (.scope { name := [], id := some 0 } (treeDiff envDigits_dt exM_dt exS_dt), ud) ∧
    fetchRoot envDigits_dt false exM_dt [treeDiff envDigits_dt exM_dt exS_dt] =
      .ok (.scope { name := [], id := some 0 } (treeRestored envDigits_dt exM_dt exS_dt), u') ∧
    fetchRoot envDigits_dt true exM_dt [treeRestored envDigits_dt exM_dt exS_dt] =
      .ok (.scope { name := [], id := some 0 } (treeDiff envDigits_dt exM_dt exS_dt), ud') := by
  have hfl : ([exS_dt] : List (List Obj)).flatten = exS_dt := by simp
  have h := fetchRoot_restore_tree_chain envDigits_dt exM_dt [exS_dt] (by rw [hfl]; exact exSetting_dt)
    (by rw [hfl, exM_dt_eq, exS_dt_eq]; decide +kernel)
  rw [hfl] at h
  exact h

/-- children of a result -/
def kidsOf_dt (r : R (Obj × List Nat)) : Option (List Obj) :=
  match r with | .ok (o, _) => some o.children | .error _ => none

/-- the chain evaluated on the model's `fetchRoot` directly (not through the theorems) -/
def chain_dt (e : Envs) (master source : List Obj) : Option (List Obj × List Obj × List Obj × List Obj) :=
  match kidsOf_dt (fetchRoot e false master [source]) with
  | none => none
  | some W =>
    match kidsOf_dt (fetchRoot e true master [W]) with
    | none => none
    | some D =>
      match kidsOf_dt (fetchRoot e false master [D]) with
      | none => none
      | some W' =>
        match kidsOf_dt (fetchRoot e true master [W']) with
        | none => none
        | some D' => some (W, D, W', D')

/-- the listings `[W, D, W', D']` of a chain -/
def chainViews_dt (e : Envs) (master source : List Obj) : Option (List (List (String × Int × List String))) :=
  (chain_dt e master source).map (fun c => [instOf_dt c.1, instOf_dt c.2.1, instOf_dt c.2.2.1, instOf_dt c.2.2.2])

/-- independent check by evaluation of the model (Python gives the same four listings) -/
example : chainViews_dt envDigits_dt exM_dt exS_dt =
    some [[("a", 0, ["1"]), ("s.d", -1, ["2"]), ("s.d", 0, ["5"]), ("s.d", 0, ["3"]), ("s.b", 0, ["yes"]),
           ("s.t.w", -1, ["p", "q"]), ("s.t.w", 0, ["r"]), ("s.t.c", 0, ["x"]), ("s.u.k", 0, ["0"])],
          [("s.d", 0, ["5"]), ("s.d", 0, ["3"]), ("s.t.w", 0, ["r"])],
          [("a", 0, ["1"]), ("s.d", -1, ["2"]), ("s.d", 0, ["5"]), ("s.d", 0, ["3"]), ("s.b", 0, ["True"]),
           ("s.t.w", -1, ["p", "q"]), ("s.t.w", 0, ["r"]), ("s.t.c", 0, ["x"]), ("s.u.k", 0, ["0"])],
          [("s.d", 0, ["5"]), ("s.d", 0, ["3"]), ("s.t.w", 0, ["r"])]] := by
  rw [exM_dt_eq, exS_dt_eq]
  decide +kernel

/-- the self-difference of the instance's master is empty -/
example : (kidsOf_dt (fetchRoot envDigits_dt true exM_dt [])).map instOf_dt = some [] := by
  rw [exM_dt_eq]
  decide +kernel
example : ((kidsOf_dt (fetchRoot envDigits_dt false exM_dt [])).bind
    (fun W0 => kidsOf_dt (fetchRoot envDigits_dt true exM_dt [W0]))).map List.length = some 0 := by
  rw [exM_dt_eq]
  decide +kernel

/-- a source scope where the master has a definition, two levels down: `noClash` is false and the
    difference fails like the fetch -/
example : (noClash exM_dt (objs_dt "s.t.c.x = 1\n"),
    errOf (fetchRoot envDigits_dt true exM_dt [objs_dt "s.t.c.x = 1\n"]),
    errOf (fetchRoot envDigits_dt false exM_dt [objs_dt "s.t.c.x = 1\n"])) =
      (false, some (.runtime "incompatible" none), some (.runtime "incompatible" none)) := by
  rw [exM_dt_eq, objs_dt_ofList]
  decide +kernel

/-- **the fuel bound is tight**: a master of depth 1 (`s { a = x }`), source `s.a = y`.  With fuel 2
    (= depth + 1) the non-diff fetch succeeds but the difference runs out of fuel — the diff branch of
    `definition.fetch` renders with the fuel of its loop iteration, 0 at the deepest level; with
    fuel 3 (= depth + 2) it succeeds. -/
example : (depthL (objs_dt "s {\n  a = x\n}\n"),
    errOf (fetchScope envNone 2 true { name := [] } (objs_dt "s {\n  a = x\n}\n") (objs_dt "s.a = y\n"))) =
      (1, some .outOfFuel) ∧
    [(kidsOf_dt (fetchScope envNone 2 false { name := [] } (objs_dt "s {\n  a = x\n}\n") (objs_dt "s.a = y\n"))).map instOf_dt,
     (kidsOf_dt (fetchScope envNone 3 true { name := [] } (objs_dt "s {\n  a = x\n}\n") (objs_dt "s.a = y\n"))).map instOf_dt] =
      [some [("s.a", 0, ["y"])], some [("s.a", 0, ["y"])]] := by
  rw [objs_dt_ofList, objs_dt_ofList]
  decide +kernel

/-! ### counterexamples to the stronger statements, at depth (kernel-evaluated) -/

/-- **Tree equality `W' = W` fails**: master `s { b = True .type=bool }`, source `s.b = yes`.  `W` is
    `s { b = yes }`, the difference is EMPTY (the scope `s` is dropped: both spellings render as
    `b = True`), `W'` is `s { b = True }`.
    (Python: `M.fetch(S).as_str() = 's {\n  b = yes\n}\n'`, `M.fetch_diff(W).as_str() = ''`,
    `M.fetch(D).as_str() = 's {\n  b = True\n}\n'`.)  The extracted values agree (`True`). -/
theorem restore_tree_not_tree_equal :
    chainViews_dt envNone (objs_dt "s {\n  b = True\n  .type=bool\n}\n") (objs_dt "s.b = yes\n") =
      some [[("s.b", 0, ["yes"])], [], [("s.b", 0, ["True"])], []] := by
  rw [objs_dt_ofList, objs_dt_ofList]
  decide +kernel

/-- an environment that knows the floats `0.5` and `0.50000000000001` (exact binary ratios as
    `float.as_integer_ratio()` gives them) and their common rendering `"%.10g" % x = '0.5'` -/
def envHalf_dt : Envs :=
  { eval := fun s =>
      if s == "0.5".toList then some (.num (.flt 1 2))
      else if s == "0.50000000000001".toList then some (.num (.flt 2251799813685293 4503599627370496))
      else none,
    fmt := fun n => match n with
      | .flt 1 2 => some "0.5".toList
      | .flt 2251799813685293 4503599627370496 => some "0.5".toList
      | _ => none }

/-- the number stored at `s.a` of an extracted root -/
def numAt_dt (r : R PVal) : Option PNum :=
  match r with
  | .ok (.record [(_, .record [(_, .num n)])]) => some n
  | _ => none

/-- **Value equality fails for floats, at depth** (the genuine violation of C08 reported for flat
    masters, one scope down): master `s { a = 0.5 .type=float }`, source `s.a = 0.50000000000001`.
    Both values render as `0.5` under `"%.10g"`, so `fetch_diff` reports nothing (not even `s`);
    merging the empty difference back gives the default 0.5, whereas `W` extracts 0.50000000000001.
    Python (unchanged tree): `W.as_str() == 's {\n  a = 0.50000000000001\n}\n'`, `D.as_str() == ''`,
    `W2.as_str() == 's {\n  a = 0.5\n}\n'`, `W.extract().s.a == 0.50000000000001`,
    `W2.extract().s.a == 0.5`. -/
theorem restore_tree_values_fails_float :
    chainViews_dt envHalf_dt (objs_dt "s {\n  a = 0.5\n  .type=float\n}\n") (objs_dt "s.a = 0.50000000000001\n") =
      some [[("s.a", 0, ["0.50000000000001"])], [], [("s.a", 0, ["0.5"])], []] ∧
    (chain_dt envHalf_dt (objs_dt "s {\n  a = 0.5\n  .type=float\n}\n") (objs_dt "s.a = 0.50000000000001\n")).bind
        (fun c => numAt_dt (extractObj envHalf_dt 4 (.scope { name := [] } c.1))) =
      some (.flt 2251799813685293 4503599627370496) ∧
    (chain_dt envHalf_dt (objs_dt "s {\n  a = 0.5\n  .type=float\n}\n") (objs_dt "s.a = 0.50000000000001\n")).bind
        (fun c => numAt_dt (extractObj envHalf_dt 4 (.scope { name := [] } c.2.2.1))) =
      some (.flt 1 2) := by
  rw [objs_dt_ofList, objs_dt_ofList]
  decide +kernel

/-! ### axioms -/

#print axioms treeDiff_nil
#print axioms treeDiff_cons
#print axioms tdBlock_plain
#print axioms tdBlock_multiple
#print axioms tdBlock_multiple_tail
#print axioms tdBlock_scope
#print axioms diff_tree_total
#print axioms diff_tree
#print axioms diff_tree_clash_fails
#print axioms diff_tree_ok
#print axioms fetchRoot_diff_tree
#print axioms diff_tree_total_of_treeMaster
#print axioms keysAll_covers_multi
#print axioms fetch_tree_in_setting
#print axioms diff_tree_minimal
#print axioms diff_tree_at_path
#print axioms diff_tree_no_empty_scope
#print axioms self_diff_tree_empty_nosrc
#print axioms self_diff_tree_empty
#print axioms diff_of_working_tree
#print axioms diff_of_working_tree_minimal
#print axioms restoredObj_defn_iff
#print axioms restoredObj_scope_iff
#print axioms restoredKids_nil_iff
#print axioms restoredKids_cons_iff
#print axioms restore_tree
#print axioms restore_tree_at_path
#print axioms restore_tree_exact
#print axioms restore_tree_values
#print axioms restore_tree_twice
#print axioms diff_restore_tree_fixed_point
#print axioms fetchRoot_restore_tree_chain
#print axioms diffTreeSetting_of_checks
#print axioms exSetting_dt
#print axioms restore_tree_not_tree_equal
#print axioms restore_tree_values_fails_float

end Phil.C08
