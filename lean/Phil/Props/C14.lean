/-
  C14 — A command-line argument `name=value` sets the intended parameter or is refused: a name equal
  to a parameter's full path always addresses that parameter; otherwise the chosen path contains the
  name as a substring and no other path matches it better (home.name beats any trailing match,
  trailing beats interior, inside-home beats outside, whole dotted components beat partial); no match
  → refused as unknown; shared best match → refused as ambiguous listing all best candidates (a
  strictly lower expert level alone may break the tie).
  The lemmas are in Phil/Proofs/CmdLineLemmas.lean.

  Only the paths of the best class compete in the expert-level tie-break, so `choose_sound` needs no
  hypothesis on the expert levels at all, and `process_arg` works on de-duplicated target paths
  (`targetEntries`), so the exact path always wins there (`exact_wins_master`).

  Hypotheses that are necessary (negation witnesses at the end of the file):
  * `exact_wins` about `choosePath` itself needs `targets.Nodup` (duplicate target paths given to
    `choosePath` directly refuse the exact path; `targetEntries_nodup` discharges it for the caller);
  * the "every other best path has a strictly higher expert level" form of `tie_break_sound` needs
    `experts.length = targets.length` (a best path without an expert level does not compete).
-/
import Phil.Proofs.CmdLineLemmas
namespace Phil.C14
open Phil

/-! ## 1. substring facts -/

/-- `findSub p s` says exactly that `p` occurs in `s` as a contiguous substring. -/
theorem findSub_iff (p s : Str) : findSub p s = true ↔ ∃ a b, s = a ++ p ++ b :=
  Phil.findSub_iff p s

theorem startsWith_iff (p s : Str) : startsWith p s = true ↔ ∃ b, s = p ++ b :=
  Phil.startsWith_iff p s

theorem endsWith_iff (p s : Str) : endsWith p s = true ↔ ∃ a, s = a ++ p :=
  Phil.endsWith_iff p s

example : findSub "b.c".toList "a.b.c.d".toList = true := by decide
example : ∃ a b, "a.b.c.d".toList = a ++ "b.c".toList ++ b := ⟨"a.".toList, ".d".toList, by decide⟩
example : findSub "bc".toList "a.b.c.d".toList = false := by decide

/-! ## 2. the nine match classes -/

/-- Every value of `get_path_score` characterised (name `src`, parameter path `tgt`, optional home
    scope).  "Inside the home scope" means `home = some h`, `tgt` starts with `h ++ "."` and is not
    `h ++ "." ++ src` itself; "outside" means there is no home scope or `tgt` does not start with
    `h ++ "."`.
    * 0: `src` does not occur in `tgt`;
    * 8: `src = tgt`;
    * 7: `tgt` is `home.src`;
    * 6 / 5 / 2: inside home and `tgt` ends with `"." ++ src` / ends with `src` but not with
      `"." ++ src` / contains `src` but does not end with it;
    * 4 / 3 / 1: the same three sub-cases outside home;
    and the score never exceeds 8. -/
theorem score_classes (home : Option Str) (src tgt : Str) :
    (getPathScore home src tgt = 0 ↔ ¬ ∃ a b, tgt = a ++ src ++ b) ∧
    (getPathScore home src tgt = 8 ↔ src = tgt) ∧
    (getPathScore home src tgt = 7 ↔ src ≠ tgt ∧ ∃ h, home = some h ∧ tgt = h ++ '.' :: src) ∧
    (getPathScore home src tgt = 6 ↔
      src ≠ tgt ∧ (∃ h, home = some h ∧ tgt ≠ h ++ '.' :: src ∧ ∃ r, tgt = h ++ '.' :: r) ∧
        ∃ a, tgt = a ++ '.' :: src) ∧
    (getPathScore home src tgt = 5 ↔
      src ≠ tgt ∧ (∃ h, home = some h ∧ tgt ≠ h ++ '.' :: src ∧ ∃ r, tgt = h ++ '.' :: r) ∧
        (∃ a, tgt = a ++ src) ∧ ¬ ∃ a, tgt = a ++ '.' :: src) ∧
    (getPathScore home src tgt = 2 ↔
      (∃ a b, tgt = a ++ src ++ b) ∧
        (∃ h, home = some h ∧ tgt ≠ h ++ '.' :: src ∧ ∃ r, tgt = h ++ '.' :: r) ∧
        ¬ ∃ a, tgt = a ++ src) ∧
    (getPathScore home src tgt = 4 ↔
      src ≠ tgt ∧ (∀ h, home = some h → ¬ ∃ r, tgt = h ++ '.' :: r) ∧
        ∃ a, tgt = a ++ '.' :: src) ∧
    (getPathScore home src tgt = 3 ↔
      src ≠ tgt ∧ (∀ h, home = some h → ¬ ∃ r, tgt = h ++ '.' :: r) ∧
        (∃ a, tgt = a ++ src) ∧ ¬ ∃ a, tgt = a ++ '.' :: src) ∧
    (getPathScore home src tgt = 1 ↔
      (∃ a b, tgt = a ++ src ++ b) ∧ (∀ h, home = some h → ¬ ∃ r, tgt = h ++ '.' :: r) ∧
        ¬ ∃ a, tgt = a ++ src) ∧
    getPathScore home src tgt ≤ 8 :=
  ⟨score_eq_iff home src tgt 0, score_eq_iff home src tgt 8, score_eq_iff home src tgt 7,
   score_eq_iff home src tgt 6, score_eq_iff home src tgt 5, score_eq_iff home src tgt 2,
   score_eq_iff home src tgt 4, score_eq_iff home src tgt 3, score_eq_iff home src tgt 1,
   getPathScore_le home src tgt⟩

/-- Trailing beats interior: the classes 3..8 are exactly the paths that end with the name (the
    classes 1 and 2 are the interior matches, 0 is no match). -/
theorem trailing_iff_class_ge_3 (home : Option Str) (src tgt : Str) :
    3 ≤ getPathScore home src tgt ↔ ∃ a, tgt = a ++ src := by
  have hc := (score_eq_iff home src tgt _).1 rfl
  generalize getPathScore home src tgt = k at hc ⊢
  have dot : (∃ a, tgt = a ++ '.' :: src) → ∃ a, tgt = a ++ src :=
    fun ⟨a, ha⟩ => ⟨a ++ ['.'], by rw [ha, List.append_assoc]; rfl⟩
  constructor
  · intro hk
    match k, hk, hc with
    | 3, _, ⟨_, _, h, _⟩ => exact h
    | 4, _, ⟨_, _, h⟩ => exact dot h
    | 5, _, ⟨_, _, h, _⟩ => exact h
    | 6, _, ⟨_, _, h⟩ => exact dot h
    | 7, _, ⟨_, h', _, ht⟩ => exact dot ⟨h', ht⟩
    | 8, _, h => exact ⟨[], h ▸ rfl⟩
    | n + 9, _, h => exact h.elim
  · rintro ⟨a, ha⟩
    match k, hc with
    | 0, h => exact (h ⟨a, [], by rw [ha, List.append_nil]⟩).elim
    | 1, ⟨_, _, h⟩ => exact (h ⟨a, ha⟩).elim
    | 2, ⟨_, _, h⟩ => exact (h ⟨a, ha⟩).elim
    | n + 3, _ => exact Nat.le_add_left 3 n

/-- `home.name` beats every path other than the one equal to the name. -/
theorem home_name_beats_rest (home : Option Str) (h src tgt tgt' : Str) (hh : home = some h)
    (ht : tgt = h ++ '.' :: src) (hne : tgt' ≠ tgt) (hne' : tgt' ≠ src) :
    getPathScore home src tgt' < getPathScore home src tgt := by
  have h7 : getPathScore home src tgt = 7 :=
    (score_eq_iff home src tgt 7).2 ⟨by rw [ht]; exact ne_home_dot h src, h, hh, ht⟩
  have hle := getPathScore_le home src tgt'
  have hn8 : getPathScore home src tgt' ≠ 8 := fun e => hne' ((score_eq_iff home src tgt' 8).1 e).symm
  have hn7 : getPathScore home src tgt' ≠ 7 := by
    intro e
    obtain ⟨_, h', hh', ht'⟩ := (score_eq_iff home src tgt' 7).1 e
    rw [hh] at hh'; cases hh'
    exact hne (ht'.trans ht.symm)
  omega

-- one path of every class, home scope `h`, name `x.y`
example : getPathScore (some "h".toList) "x.y".toList "h.z".toList = 0 := by decide
example : getPathScore (some "h".toList) "x.y".toList "a.x.yz".toList = 1 := by decide
example : getPathScore (some "h".toList) "x.y".toList "h.x.yz".toList = 2 := by decide +kernel
example : getPathScore (some "h".toList) "x.y".toList "a.bx.y".toList = 3 := by decide
example : getPathScore (some "h".toList) "x.y".toList "a.x.y".toList = 4 := by decide
example : getPathScore (some "h".toList) "x.y".toList "h.bx.y".toList = 5 := by decide +kernel
example : getPathScore (some "h".toList) "x.y".toList "h.a.x.y".toList = 6 := by decide +kernel
example : getPathScore (some "h".toList) "x.y".toList "h.x.y".toList = 7 := by decide
example : getPathScore (some "h".toList) "x.y".toList "x.y".toList = 8 := by decide

/-! ## 3. the exact path wins -/

/-- A name equal to a parameter's full path addresses that parameter (no warning), whatever other
    paths contain it, provided the target paths are pairwise distinct. -/
theorem exact_wins (home : Option Str) (targets : List Str) (experts : List Int) (src : Str)
    (hnd : targets.Nodup) (hmem : src ∈ targets) :
    ∃ i, choosePath home targets experts src = .chosen i false ∧ targets[i]? = some src :=
  Phil.exact_wins hnd hmem

example : choosePath (some "s".toList) ["s.a.b".toList, "a.b".toList, "t.a.b".toList] [0, 3, 0]
    "a.b".toList = .chosen 1 false := by decide +kernel

/-! ## 4. the chosen path contains the name and is not beaten -/

/-- Chosen without a warning (unique best class): no hypothesis on the expert levels. -/
theorem choose_sound_unwarned (home : Option Str) (targets : List Str) (experts : List Int)
    (src : Str) (i : Nat) (h : choosePath home targets experts src = .chosen i false) :
    ∃ t, targets[i]? = some t ∧ findSub src t = true ∧
      ∀ t' ∈ targets, getPathScore home src t' ≤ getPathScore home src t :=
  Phil.choose_sound h

/-- Chosen with or without the warning: the chosen index addresses a target path that contains the
    name, and no target path has a higher class.  No hypothesis on the expert levels (whatever their
    number and values): only paths of the best class compete in the tie-break. -/
theorem choose_sound (home : Option Str) (targets : List Str) (experts : List Int) (src : Str)
    (i : Nat) (w : Bool)
    (h : choosePath home targets experts src = .chosen i w) :
    ∃ t, targets[i]? = some t ∧ findSub src t = true ∧
      ∀ t' ∈ targets, getPathScore home src t' ≤ getPathScore home src t :=
  Phil.choose_sound h

-- inside-home trailing (class 6) beats outside trailing (class 4) and interior (class 2)
example : choosePath (some "s".toList) ["t.b".toList, "s.a.b".toList, "s.bc".toList] [0, 0, 0]
    "b".toList = .chosen 1 false := by decide +kernel

/-! ## 5. unknown -/

/-- The argument is refused as unknown exactly when no target path contains the name. -/
theorem unknown_iff (home : Option Str) (targets : List Str) (experts : List Int) (src : Str) :
    choosePath home targets experts src = .unknown ↔ ∀ t ∈ targets, findSub src t = false :=
  Phil.unknown_iff home targets experts src

example : choosePath none ["a.b".toList, "c".toList] [0, 0] "z".toList = .unknown := by decide
example (home : Option Str) (experts : List Int) (src : Str) :
    choosePath home [] experts src = .unknown :=
  (unknown_iff home [] experts src).2 (by simp)

/-! ## 6. ambiguous -/

/-- When the argument is refused as ambiguous, the listed indices are exactly the indices, in
    increasing order, of the target paths whose class equals the maximal class; that class is
    positive (they all contain the name) and there are at least two of them. -/
theorem ambiguous_lists_all_best (home : Option Str) (targets : List Str) (experts : List Int)
    (src : Str) (best : List Nat)
    (h : choosePath home targets experts src = .ambiguous best) :
    best = (List.range targets.length).filter (fun i =>
        (targets.map (getPathScore home src))[i]? ==
          some (maxNat (targets.map (getPathScore home src)))) ∧
    (∀ i, i ∈ best ↔ ∃ t, targets[i]? = some t ∧
        getPathScore home src t = maxNat (targets.map (getPathScore home src))) ∧
    best.Pairwise (· < ·) ∧
    0 < maxNat (targets.map (getPathScore home src)) ∧ 2 ≤ best.length :=
  Phil.ambiguous_lists_all_best h

example : choosePath none ["a.b".toList, "zb".toList, "c.b".toList] [1, 0, 1] "b".toList =
    .ambiguous [0, 2] := by decide +kernel

/-! ## 7. the expert-level tie-break -/

/-- Chosen with the warning: the chosen index is one of the best-class indices and its expert level
    is strictly lower than that of every other best-class index (one expert level per target; no
    hypothesis on their values). -/
theorem tie_break_sound (home : Option Str) (targets : List Str) (experts : List Int) (src : Str)
    (i : Nat) (hlen : experts.length = targets.length)
    (h : choosePath home targets experts src = .chosen i true) :
    (∃ t, targets[i]? = some t ∧
        getPathScore home src t = maxNat (targets.map (getPathScore home src))) ∧
    ∃ e, experts[i]? = some e ∧
      ∀ j t', targets[j]? = some t' →
        getPathScore home src t' = maxNat (targets.map (getPathScore home src)) → j ≠ i →
        ∃ e', experts[j]? = some e' ∧ e < e' := by
  obtain ⟨hi, e, he, hall⟩ := Phil.tie_break_sound hlen h
  exact ⟨mem_bestOf.1 hi, e, he, fun j t' ht' hs hji => hall j (mem_bestOf.2 ⟨t', ht', hs⟩) hji⟩

/-- What holds in the warned case without any hypothesis: the best class is positive, at least two
    paths share it, the chosen path is one of them, and its expert level is strictly lower than the
    expert level of every other path of the best class that has one. -/
theorem warned_key_max (home : Option Str) (targets : List Str) (experts : List Int) (src : Str)
    (i : Nat) (h : choosePath home targets experts src = .chosen i true) :
    maxNat (targets.map (getPathScore home src)) ≠ 0 ∧
    2 ≤ (indicesOf (· == maxNat (targets.map (getPathScore home src)))
          (targets.map (getPathScore home src))).length ∧
    ∃ t e, targets[i]? = some t ∧ experts[i]? = some e ∧
      getPathScore home src t = maxNat (targets.map (getPathScore home src)) ∧
      ∀ j t' e', targets[j]? = some t' → experts[j]? = some e' → j ≠ i →
        getPathScore home src t' = maxNat (targets.map (getPathScore home src)) → e < e' := by
  obtain ⟨h0, h2, hi, e, he, hlow⟩ := chosen_warned_iff.1 h
  obtain ⟨t, ht, hs⟩ := mem_bestOf.1 hi
  exact ⟨h0, h2, t, e, ht, he, hs, fun j t' e' ht' he' hji hs' =>
    hlow j (mem_bestOf.2 ⟨t', ht', hs'⟩) hji e' he'⟩

/-- The tie-break characterised: the argument is accepted with the warning for index `i` exactly
    when the best class is positive, at least two paths have it, `i` is one of them and its expert
    level is strictly lower than the expert level of every other one. -/
theorem chosen_warned_iff (home : Option Str) (targets : List Str) (experts : List Int) (src : Str)
    (i : Nat) :
    choosePath home targets experts src = .chosen i true ↔
      maxNat (targets.map (getPathScore home src)) ≠ 0 ∧
      2 ≤ (indicesOf (· == maxNat (targets.map (getPathScore home src)))
            (targets.map (getPathScore home src))).length ∧
      (∃ t, targets[i]? = some t ∧
        getPathScore home src t = maxNat (targets.map (getPathScore home src))) ∧
      ∃ e, experts[i]? = some e ∧
        ∀ j t', targets[j]? = some t' →
          getPathScore home src t' = maxNat (targets.map (getPathScore home src)) → j ≠ i →
          ∀ e', experts[j]? = some e' → e < e' := by
  rw [Phil.chosen_warned_iff]
  constructor
  · rintro ⟨h0, h2, hi, e, he, hall⟩
    exact ⟨h0, h2, mem_bestOf.1 hi, e, he,
      fun j t' ht' hs hji => hall j (mem_bestOf.2 ⟨t', ht', hs⟩) hji⟩
  · rintro ⟨h0, h2, hi, e, he, hall⟩
    refine ⟨h0, h2, mem_bestOf.2 hi, e, he, ?_⟩
    intro j hj hji
    obtain ⟨t', ht', hs⟩ := mem_bestOf.1 hj
    exact hall j t' ht' hs hji

example : choosePath none ["a.b".toList, "zb".toList, "c.b".toList] [2, 0, 1] "b".toList =
    .chosen 2 true := by decide +kernel

/-! ## 8. the target list of `process_arg` -/

/-- `process_arg` works on `targetEntries`: the definition paths with further occurrences of the same
    path (a `.multiple` definition given several times) dropped.  Its paths are pairwise distinct. -/
theorem targetEntries_nodup (objs : List Obj) (experts : List Int) :
    ((targetEntries objs experts).map (·.1)).Nodup :=
  Phil.targetEntries_nodup objs experts

/-- every entry is a definition path together with the expert level at the same position -/
theorem targetEntries_subset (objs : List Obj) (experts : List Int) (x : Str × Int)
    (h : x ∈ targetEntries objs experts) : x ∈ ((allDefinitions objs).map (·.1)).zip experts := by
  rw [targetEntries_eq] at h
  rcases mem_foldl_dedupStep _ [] x h with h | h
  · cases h
  · exact h

/-- no path is lost (one expert level per definition, as `expertLevels` provides) -/
theorem mem_targetEntries_paths (objs : List Obj) (experts : List Int)
    (hlen : experts.length = (allDefinitions objs).length) (p : Str) :
    p ∈ (targetEntries objs experts).map (·.1) ↔ p ∈ (allDefinitions objs).map (·.1) :=
  Phil.mem_targetEntries_paths objs experts hlen p

theorem expertLevels_length (objs : List Obj) :
    (expertLevels objs).length = (allDefinitions objs).length :=
  Phil.expertLevels_length objs

/-- so an exact path among the de-duplicated targets is chosen, without a warning … -/
theorem exact_wins_targetEntries (home : Option Str) (objs : List Obj) (experts : List Int) (src : Str)
    (hmem : src ∈ (targetEntries objs experts).map (·.1)) :
    ∃ i, choosePath home ((targetEntries objs experts).map (·.1))
        ((targetEntries objs experts).map (·.2)) src = .chosen i false ∧
      ((targetEntries objs experts).map (·.1))[i]? = some src :=
  Phil.exact_wins (Phil.targetEntries_nodup objs experts) hmem

/-- … in particular the full path of any definition of the master, duplicates or not. -/
theorem exact_wins_master (home : Option Str) (objs : List Obj) (src : Str)
    (hmem : src ∈ (allDefinitions objs).map (·.1)) :
    ∃ i, choosePath home ((targetEntries objs (expertLevels objs)).map (·.1))
        ((targetEntries objs (expertLevels objs)).map (·.2)) src = .chosen i false ∧
      ((targetEntries objs (expertLevels objs)).map (·.1))[i]? = some src :=
  Phil.exact_wins_master home objs src hmem

-- a master with the definition `d` twice: one target entry, and `d` addresses it
example : targetEntries [.defn { name := "d".toList } [], .defn { name := "d".toList } []] [0, 0]
    = [("d".toList, 0)] := by decide
example : choosePath none ["d".toList] [0] "d".toList = .chosen 0 false := by decide

/-! ## 9. witnesses -/

/-- with duplicate target paths handed to `choosePath` directly the exact path is refused as
    ambiguous, so `Nodup` in `exact_wins` is necessary (`targetEntries_nodup` provides it). -/
theorem duplicate_paths_refuse_exact :
    choosePath none ["d".toList, "d".toList] [0, 0] "d".toList = .ambiguous [0, 1] := by decide

/-- expert levels 101 apart (before the repair of the library the partial match `zb` of class 3 was
    chosen): the partial match does not compete, the two whole-component matches tie and the
    argument is refused. -/
theorem wide_expert_spread_stays_in_best_class :
    choosePath none ["a.b".toList, "c.b".toList, "zb".toList] [101, 101, 0] "b".toList =
      .ambiguous [0, 1] := by decide +kernel

/-- the same spread with distinct levels among the best class: the lower one wins, not `zb` -/
theorem wide_expert_spread_picks_lowest_of_best :
    choosePath none ["a.b".toList, "c.b".toList, "zb".toList] [101, 100, 0] "b".toList =
      .chosen 1 true := by decide +kernel

/-- expert levels far apart (before the repair of the library `q`, which does not contain the name,
    was chosen): refused as ambiguous between the two matches. -/
theorem wide_expert_spread_ignores_non_match :
    choosePath none ["a.b".toList, "c.b".toList, "q".toList] [500, 500, 0] "b".toList =
      .ambiguous [0, 1] := by decide +kernel

/-- too few expert levels (before the repair of the library `zb` of a worse class was chosen): nothing
    of the best class has a level, the argument is refused as ambiguous between the best-class paths. -/
theorem short_experts_stay_in_best_class :
    choosePath none ["zb".toList, "a.b".toList, "c.b".toList] [0] "b".toList = .ambiguous [1, 2] := by
  decide +kernel

/-- too few expert levels, second form: the best-class path without a level does not compete, so the
    other one is chosen although nothing says its level is lower — `experts.length = targets.length`
    in `tie_break_sound` is necessary (the chosen path still is of the best class: `choose_sound`). -/
theorem short_experts_skip_unlevelled :
    choosePath none ["a.b".toList, "c.b".toList] [0] "b".toList = .chosen 0 true := by decide

end Phil.C14
