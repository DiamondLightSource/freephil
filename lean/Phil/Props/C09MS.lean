/-
  C09 WITH `.multiple` — whole-tree `format` / `extract` for masters with `.multiple` definitions and
  `.multiple` scopes (namespace `Phil.C09`).

  Model: Phil/Fetch.lean (`formatObj`, `extractObj`, `philSet` = `scope_extract.__phil_set__`).
  Lemmas: Phil/Proofs/FormatMS.lean.
  Class `FObjM` (decidable: `fobjMB`): every object of the master enabled, sibling names pairwise
  distinct at every depth — so each `.multiple` object is declared once —, anything else free
  (`.multiple` definitions and scopes, nested; any type; any `.optional`).
  Specification `formatSpecM` (fuel-free, structural): a non-multiple child contributes what
  Phil/Props/C09Tree.lean says; a `.multiple` child whose attribute is a list `l` contributes
    * `l = []`  : the master object as a template (`is_template = 1`);
    * otherwise : for a SCOPE the placeholder template (`is_template = -1`) followed by one formatted
                  block per element; for a DEFINITION just the formatted elements.
  Value domain `RTObjM` (decidable sufficient condition `rtObjMB`): a `scope_extract` with one attribute
  per master child in the master's order; the attribute of a `.multiple` child is a
  `scope_extract_list` tagged with the child's `.optional` whose elements are in shape and are not
  `None` when `.optional = True`; leaves restricted to `RoundTripLeaf` (the per-converter theorems).
  Validation before proving: 1000 random (master with nested `.multiple` definitions / scopes, source)
  inputs: Python `M.format(M.fetch(S).extract())` (names, `is_template`, words, quotes) = `formatSpecM` on
  the extracted value, all 1000; Python `format(v).extract() == v` on all 1000.
-/
import Phil.Proofs.FormatMS
import Phil.Proofs.ObjEq
import Phil.Props.C09Tree

namespace Phil.C09
open Phil

/-! ### 1. closed form of `scope.format` with `.multiple` -/

/-- **`format` in closed form**: with fuel beyond the depth, for every value in `FDomM` (scope values
    are `scope_extract`s; attributes may be missing or extra; the attribute of a `.multiple` child is
    any list of in-domain values) the fuelled model is `formatSpecM`, values and errors alike. -/
theorem format_closed_ms (e : Envs) (fuel : Nat) (o : Obj) (hf : FObjM o) (hd : depthT o < fuel)
    (v : PVal) (hv : FDomM o v) : formatObj e fuel o v = formatSpecM e o v := by
  induction fuel generalizing o v with
  | zero => exact absurd hd (Nat.not_lt_zero _)
  | succ fuel ih =>
    cases o with
    | defn m ws => rw [formatObj, formatSpecM]
    | scope m kids =>
      rw [FObjM] at hf
      rw [depthT] at hd
      rw [FDomM] at hv
      obtain ⟨fs, rfl, hdom⟩ := hv
      rw [formatObj_scope_xt, formatSpecM, masterActive_of_distinct kids (fun o ho => ((fkidsM_iff kids).1 hf.2.1 o ho).enabled) hf.2.2]
      simp only
      obtain ⟨d2, hd2⟩ := formatFold_specM e (formatObj e fuel) fs (indexed kids) [] []
        (by rw [map_snd_comp Obj.name, indexed_map_snd]; exact hf.2.2)
        (fun p _ q hq => by cases hq)
        (by
          intro p hp x hxd
          have hmem : p.2 ∈ kids := by rw [← indexed_map_snd kids]; exact List.mem_map.mpr ⟨p, hp, rfl⟩
          have hk' := (fkidsM_iff kids).1 hf.2.1 _ hmem
          refine ih p.2 hk' ?_ x hxd
          have := depthT_le_depthL kids _ hmem
          omega)
        (by rw [indexed_map_snd]; exact hdom)
      rw [hd2, indexed_map_snd]
      cases formatSpecKidsM e kids fs <;> simp [Except.map]

/-- the clauses for a `.multiple` child: no attribute — nothing; -/
theorem format_multiple_absent (F : PVal → R Obj) (o : Obj) (fs : List (Str × PVal))
    (h : fieldGet fs o.name = none) : multiKidFormat F o fs = .ok [] := by
  unfold multiKidFormat; rw [h]
/-- … the empty list — the master object as a template; -/
theorem format_multiple_empty (F : PVal → R Obj) (o : Obj) (fs : List (Str × PVal)) (sub : PVal)
    (h : fieldGet fs o.name = some sub) (hl : elemsOfM sub = .ok []) :
    multiKidFormat F o fs = .ok [withTmpl o 1] := by
  unfold multiKidFormat; rw [h]; simp only; rw [hl]
/-- … a non-empty list — one formatted instance per element, in order, after the placeholder
    template when the child is a scope. -/
theorem format_multiple_instances (F : PVal → R Obj) (o : Obj) (fs : List (Str × PVal)) (sub : PVal)
    (x : PVal) (xs : List PVal) (rs : List Obj)
    (h : fieldGet fs o.name = some sub) (hl : elemsOfM sub = .ok (x :: xs))
    (hr : mapR F (x :: xs) = .ok rs) :
    multiKidFormat F o fs = .ok ((if o.isScope then [withTmpl o (-1)] else []) ++ rs) := by
  unfold multiKidFormat; rw [h]; simp only; rw [hl]; simp only; rw [hr]; rfl

/-- in-shape values are in the domain of the closed form -/
theorem rt_values_in_format_domain (o : Obj) (v : PVal) (hf : FObjM o) (hv : RTObjM o v) : FDomM o v :=
  rtObjM_fdomM o v hf hv

/-! ### 2. format, then extract -/

/-- **`format_extract_ms`** — C09 on whole trees with `.multiple`: whatever `master.format(v)`
    returns for an in-shape value extracts back to `v` — `__phil_set__` rebuilds every
    `scope_extract_list` element by element, the templates contribute the (possibly empty) list and
    nothing else. -/
theorem format_extract_ms (e : Envs) (henv : EnvDecimal e.eval) (fuel : Nat) (master : Obj) (v : PVal)
    (w : Obj) (hf : FObjM master) (hd : depthT master < fuel) (hv : RTObjM master v)
    (h : formatObj e fuel master v = .ok w) : extractObj e fuel w = .ok v := by
  rw [format_closed_ms e fuel master hf hd v (rtObjM_fdomM master v hf hv)] at h
  exact (format_extract_objM e henv master v w hf hv h fuel hd).value

/-- the same, the formatted tree described: it is `formatSpecM`, and each of its instances is a live
    copy (same name and attributes, `is_template = 0`) of the master object it instantiates -/
theorem format_extract_ms_spec (e : Envs) (henv : EnvDecimal e.eval) (o : Obj) (x : PVal) (w : Obj)
    (hf : FObjM o) (hv : RTObjM o x) (h : formatSpecM e o x = .ok w) (fuel : Nat) (hd : depthT o < fuel) :
    extractObj e fuel w = .ok x ∧ w.name = o.name ∧ w.meta.tmpl = 0 ∧ w.meta.disabled = false ∧
      w.meta.attrs = o.meta.attrs :=
  have hi := format_extract_objM e henv o x w hf hv h fuel hd
  ⟨hi.value, hi.name, hi.tmpl, hi.enabled, hi.attrs⟩

/-- executable hypotheses -/
theorem format_extract_ms_checked (e : Envs) (henv : EnvDecimal e.eval) (fuel : Nat) (master : Obj)
    (v : PVal) (w : Obj) (hf : fobjMB master = true) (hd : depthT master < fuel)
    (hv : rtObjMB master v = true) (h : formatObj e fuel master v = .ok w) :
    extractObj e fuel w = .ok v :=
  format_extract_ms e henv fuel master v w (fobjMB_sound master hf) hd (rtObjMB_sound master v hv) h

/-! ### 2b. closed form of `scope.extract` with `.multiple` children (the `__phil_set__` accumulation) -/

/-- **One `.multiple` block** (the instances and templates of one `.multiple` object, adjacent, met
    with the attribute not yet set): the attribute becomes the `scope_extract_list`, tagged with the
    block's `.optional`, of the KEPT values of its LIVE instances in order (`blockVals`:
    placeholders, templates and disabled instances contribute nothing; `None` is dropped under
    `.optional = True`); no attribute at all if the block consists of placeholders only; the first
    failing live instance decides the error. -/
theorem extract_multiple_block (X : Obj → R PVal) (nm : Str) (opt : AttrVal) (ws : List Obj)
    (acc : List (Str × PVal)) (hacc : fieldGet acc nm = none) (hok : MultiBlockOK nm opt ws) :
    ws.foldlM (xstep_xt X) acc =
      (blockVals X opt ws).map (fun ys => if blockCreates ws then acc ++ [(nm, .multi opt ys)] else acc) :=
  xfold_block_fresh X nm opt ws acc hacc hok

/-- the blocks are a partition of the children into well-formed blocks, always -/
theorem blocks_partition (kids : List Obj) :
    (blocksOf kids).flatMap KidBlock.objs = kids ∧ ∀ b ∈ blocksOf kids, b.OK :=
  match kids with
  | [] => ⟨rfl, fun b hb => by cases hb⟩
  | w :: ws => by
    obtain ⟨ih1, ih2⟩ := blocks_partition ws
    rw [blocksOf]
    cases hm : isMultiple w with
    | false =>
      simp only [Bool.false_eq_true, if_false]
      exact ⟨by rw [List.flatMap_cons, ih1]; rfl, List.forall_mem_cons.mpr ⟨hm, ih2⟩⟩
    | true =>
      simp only [if_true]
      have hw := multiBlockOK_single w hm
      cases hb : blocksOf ws with
      | nil =>
        rw [hb] at ih1
        refine ⟨by simp only [List.flatMap_cons, List.flatMap_nil, KidBlock.objs] at ih1 ⊢; rw [← ih1]; rfl, ?_⟩
        exact List.forall_mem_cons.mpr ⟨hw, fun b hb' => by cases hb'⟩
      | cons b0 rest =>
        rw [hb] at ih1 ih2
        cases b0 with
        | single w0 =>
          exact ⟨by rw [List.flatMap_cons, ih1]; rfl, List.forall_mem_cons.mpr ⟨hw, ih2⟩⟩
        | multi nm opt ws' =>
          simp only
          by_cases hc : (nm == w.name && opt == w.attr "optional") = true
          · simp only [hc, if_true]
            simp only [Bool.and_eq_true, beq_iff_eq] at hc
            obtain ⟨ih2a, ih2b⟩ := List.forall_mem_cons.mp ih2
            refine ⟨by
              rw [List.flatMap_cons] at ih1 ⊢
              simp only [KidBlock.objs] at ih1 ⊢
              rw [List.cons_append, ih1], List.forall_mem_cons.mpr ⟨?_, ih2b⟩⟩
            exact List.forall_mem_cons.mpr ⟨⟨hc.1.symm, hc.2.symm, hm⟩, ih2a⟩
          · simp only [hc, Bool.false_eq_true, if_false]
            exact ⟨by rw [List.flatMap_cons, ih1]; rfl, List.forall_mem_cons.mpr ⟨hw, ih2⟩⟩

/-- **`scope.extract` of one scope in closed form, `.multiple` children included** — no hypothesis on
    the objects themselves: cut the children into blocks (`blocksOf`: adjacent `.multiple` children of
    one name and `.optional`; every other child alone); whenever the block names are pairwise
    distinct, the `scope_extract` holds exactly the blocks' attributes in order (`scopeFieldsB`).
    This is the shape of every formatted tree and of every fetch result; iterating it over the levels
    gives the whole tree (the recursive call is the parameter `extractObj e fuel`).
    Validation: 1000 random fetch results with nested `.multiple` definitions / scopes: the
    specification iterated over all levels = Python `fetch(...).extract()` on all. -/
theorem extract_scope_closed_ms (e : Envs) (fuel : Nat) (m : Meta) (kids : List Obj)
    (hpw : ((blocksOf kids).map KidBlock.name).Pairwise (· ≠ ·)) :
    extractObj e (fuel + 1) (.scope m kids) =
      (scopeFieldsB (extractObj e fuel) (blocksOf kids)).map PVal.record := by
  have h := extractObj_blocks e fuel m (blocksOf kids) (blocks_partition kids).2 hpw
  rw [(blocks_partition kids).1] at h
  exact h

/-! ### 3. an instance through the parser, and the sharp edge (replayed on the Python library) -/

open Phil.C10 (objsT envT yields yields_sound)
private def S (s : String) : Str := s.toList
private def I (i : Int) : PVal := .num (.int i)

/-- master: a `.multiple` int `a`, a str `n`, a `.multiple` scope `s` holding a bool and a `.multiple`
    optional int `k`, a `.multiple` optional scope `e` -/
def msT : String :=
  "a = 1\n.type=int\n.multiple=True\nn = x\n.type=str\ns\n.multiple=True\n{\n  b = True\n  .type=bool\n  k = 2\n  .type=int\n  .multiple=True\n  .optional=True\n}\ne\n.multiple=True\n.optional=True\n{\n  z = 1\n  .type=int\n}\n"

/-- `formatExtractT` reads the master text through `objsT` only. -/
theorem formatExtractT_of_objsT {m : String} {M : List Obj} (h : objsT m = M) :
    formatExtractT m = fun v =>
      match formatObj envT 50 (.scope { name := [], id := some 0 } M) v with
      | .error err => .error err
      | .ok w => extractObj envT 50 w := by
  subst h
  rfl

section
attribute [local instance] objDecEq

theorem objsT_msT : objsT msT =
    [
      .defn
        { name := "a".toList, id := some 1, line := some 1,
          attrs := [("type", .conv (.int {})), ("multiple", .bool true)] }
        [{ value := "1".toList, line := some 1 }],
      .defn { name := "n".toList, id := some 2, line := some 4, attrs := [("type", .conv .str)] }
        [{ value := "x".toList, line := some 4 }],
      .scope { name := "s".toList, id := some 3, line := some 6, attrs := [("multiple", .bool true)] } [
        .defn { name := "b".toList, id := some 4, line := some 9, attrs := [("type", .conv .bool)] }
          [{ value := "True".toList, line := some 9 }],
        .defn
          { name := "k".toList, id := some 5, line := some 11,
            attrs := [("type", .conv (.int {})), ("multiple", .bool true), ("optional", .bool true)] }
          [{ value := "2".toList, line := some 11 }]],
      .scope
        { name := "e".toList, id := some 6, line := some 16,
          attrs := [("multiple", .bool true), ("optional", .bool true)] } [
        .defn { name := "z".toList, id := some 7, line := some 20, attrs := [("type", .conv (.int {}))] }
          [{ value := "1".toList, line := some 20 }]]] := by
  unfold msT
  rw [C10.objsT_ofList]
  decide +kernel

end

/-- `a = [3, 4]`, `n = "hello"`, two instances of `s` (`k = [5, 6]` and `k = []`), no instance of `e` -/
def vMS : PVal :=
  .record [(S "a", .multi .none [I 3, I 4]), (S "n", .str (S "hello")),
    (S "s", .multi .none [.record [(S "b", .bool false), (S "k", .multi (.bool true) [I 5, I 6])],
                          .record [(S "b", .none), (S "k", .multi (.bool true) [])]]),
    (S "e", .multi (.bool true) [])]

/-- master and value satisfy the executable hypotheses -/
theorem msT_in_class : (fobjMB (rootT msT) && decide (depthT (rootT msT) = 2) && rtObjMB (rootT msT) vMS) = true := by
  rw [rootT, objsT_msT]
  decide +kernel

/-- the printed form (Python: the same text; the second `s` and `e` show their templates) -/
theorem msT_format_text : formatStrT msT vMS =
    some "a = 3\na = 4\nn = \"hello\"\ns {\n  b = False\n  k = 5\n  k = 6\n}\ns {\n  b = None\n  k = 2\n}\ne {\n  z = 1\n}\n" := by
  rw [formatStrT, rootT, objsT_msT]
  decide +kernel

/-- evaluated: format then extract returns the value (Python: `[3, 4] hello [(False, [5, 6]), (None, [])] []`) -/
theorem msT_round_trip_evaluated : yields (formatExtractT msT vMS) vMS = true := by
  rw [formatExtractT, rootT, objsT_msT]
  decide +kernel

/-- **the theorem applied to the parsed master** -/
example (w : Obj) (h : formatObj envT 50 (rootT msT) vMS = .ok w) : extractObj envT 50 w = .ok vMS :=
  have hc := msT_in_class
  format_extract_ms_checked envT envT_decimal 50 (rootT msT) vMS w
    (by simp only [Bool.and_eq_true] at hc; exact hc.1.1)
    (by simp only [Bool.and_eq_true, decide_eq_true_eq] at hc; omega)
    (by simp only [Bool.and_eq_true] at hc; exact hc.2) h

/-! #### the second leg on instances: print → parse → fetch → extract, with fetch's collapse

  (The general theorem for this leg is NOT proved here; these are kernel-checked instances, each
  replayed on the Python library: `M.fetch(parse(M.format(v).as_str())).extract()`.) -/

open Phil.C10 (fetchExtractT)

/-- `master.fetch(parse(master.format(v).as_str())).extract()` -/
def legT (m : String) (v : PVal) : R PVal :=
  match formatStrT m v with
  | some text => fetchExtractT m text
  | none => .error (.unsupported "format")

/-- The leg with the master parsed and the printed lines handed to the parser as they are: the text
    between `as_str` and `parse` is never built, so an evaluation does not encode and decode it. -/
theorem legT_eq {m : String} {M : List Obj} (h : objsT m = M) (v : PVal) :
    legT m v =
      match formatObj envT 50 (.scope { name := [], id := some 0 } M) v with
      | .error _ => .error (.unsupported "format")
      | .ok w =>
        match showObj {} w [] [] with
        | .error _ => .error (.unsupported "format")
        | .ok l =>
          match fetchRoot envT false M
              [match parseObjs (unlines l) with | .ok s => s | .error _ => []] with
          | .error err => .error err
          | .ok (ro, _) => extractObj envT 50 ro := by
  subst h
  unfold legT formatStrT fetchExtractT rootT
  cases formatObj envT 50 (.scope { name := [], id := some 0 } (objsT m)) v with
  | error _ => rfl
  | ok w =>
    dsimp only
    cases showObj {} w [] [] with
    | error _ => rfl
    | ok l =>
      dsimp only
      rw [C10.objsT_ofList]
      -- with `fetchRoot …` in place `rfl` would try to evaluate it
      generalize fetchRoot envT false (objsT m) = F
      rfl

/-- a value whose lists repeat themselves and the defaults: `a = [1, 3, 4, 3]` (1 is the default),
    three instances of `s`: the master's own block, `k = [5, 2, 5]`, `k = [5]` -/
def vDup : PVal :=
  .record [(S "a", .multi .none [I 1, I 3, I 4, I 3]), (S "n", .str (S "hello")),
    (S "s", .multi .none [.record [(S "b", .bool true), (S "k", .multi (.bool true) [])],
                          .record [(S "b", .bool false), (S "k", .multi (.bool true) [I 5, I 2, I 5])],
                          .record [(S "b", .bool false), (S "k", .multi (.bool true) [I 5])]]),
    (S "e", .multi (.bool true) [])]

/-- what fetch's collapse leaves of it: instances equal to the template are dropped, of equal
    instances the LAST stays — `a = [4, 3]`, ONE instance of `s` with `k = [5]` -/
def vDupCollapsed : PVal :=
  .record [(S "a", .multi .none [I 4, I 3]), (S "n", .str (S "hello")),
    (S "s", .multi .none [.record [(S "b", .bool false), (S "k", .multi (.bool true) [I 5])]]),
    (S "e", .multi (.bool true) [])]

/-- on `vMS` (no instance equals a template or repeats another) the whole leg is the identity
    (Python: `[3, 4] hello [(False, [5, 6]), (None, [])] []`) -/
theorem second_leg_identity_instance : yields (legT msT vMS) vMS = true := by
  rw [legT_eq objsT_msT]
  decide +kernel

/-- on `vDup` the leg returns the collapsed value, while `format` / `extract` alone returns `vDup`
    itself (Python: `[4, 3] hello [(False, [5])] []`) -/
theorem second_leg_collapse_instance :
    (yields (legT msT vDup) vDupCollapsed && yields (formatExtractT msT vDup) vDup &&
     rtObjMB (rootT msT) vDup) = true := by
  rw [legT_eq objsT_msT, formatExtractT_of_objsT objsT_msT, rootT, objsT_msT]
  decide +kernel

/-- what `fetch` + `extract` produce from a source is in `RTObjM`, and `format` / `extract` leaves it
    unchanged -/
theorem fetched_value_round_trips :
    (match fetchExtractT msT "a = 3\na = 4\ns {\n b = False\n k = 5\n}\n" with
     | .ok v => yields (formatExtractT msT v) v && rtObjMB (rootT msT) v
     | .error _ => false) = true := by
  rw [fetchExtractT, rootT, formatExtractT_of_objsT objsT_msT, objsT_msT]
  decide +kernel

/-- **Sharp edge for `extract_scope_closed_ms` (the hypothesis "block names pairwise distinct")**:
    instances of a `.multiple` object that are NOT adjacent are still merged into one list, at the
    position of the first — `a = 1 ; b = 2 ; a = 3` (both `a` `.multiple`) extracts to
    `a = [[1], [3]], b = [2]`, while the block-wise reading would give `a`, `b`, `a`.
    (Python: `[['1'], ['3']] ['2']`, attribute order `['a', 'b']`.) -/
theorem nonadjacent_instances_merge :
    (yields (extractObj envT 50 (rootT "a = 1\n.multiple=True\nb = 2\na = 3\n.multiple=True\n"))
        (.record [(S "a", .multi .none [.list [.str (S "1")], .list [.str (S "3")]]),
                  (S "b", .list [.str (S "2")])]) &&
     yields ((scopeFieldsB (extractObj envT 49)
          (blocksOf (objsT "a = 1\n.multiple=True\nb = 2\na = 3\n.multiple=True\n"))).map PVal.record)
        (.record [(S "a", .multi .none [.list [.str (S "1")]]), (S "b", .list [.str (S "2")]),
                  (S "a", .multi .none [.list [.str (S "3")]])]) &&
     !decide (((blocksOf (objsT "a = 1\n.multiple=True\nb = 2\na = 3\n.multiple=True\n")).map
        KidBlock.name).Pairwise (· ≠ ·))) = true := by
  rw [rootT, C10.objsT_ofList]
  decide +kernel

/-- the hypothesis holds on the formatted tree of the instance above -/
theorem msT_blocks_distinct :
    (match formatObj envT 50 (rootT msT) vMS with
     | .ok (.scope _ kids) => decide (((blocksOf kids).map KidBlock.name).Pairwise (· ≠ ·))
     | _ => false) = true := by
  rw [rootT, objsT_msT]
  decide +kernel

def optT : String := "a = 1\n.type=int\n.multiple=True\n.optional=True\n"

/-- **Sharp edge (why `RTObjM` excludes `None` elements under `.optional = True`)**: `__phil_set__`
    drops a `None` instance of a `.multiple` object whose `.optional` is `True`: `[None]` formats to
    `a = None` and extracts to `[]`; `[None, 2]` to `[2]`.  (Python: `v.a = [None]` → `'a = None\n'` →
    `[]`; `[None, 2]` → `[2]`; without `.optional` `[None, 2]` survives.) -/
theorem optional_none_instance_dropped :
    (yields (formatExtractT optT (.record [(S "a", .multi (.bool true) [.none])]))
        (.record [(S "a", .multi (.bool true) [])]) &&
     yields (formatExtractT optT (.record [(S "a", .multi (.bool true) [.none, I 2])]))
        (.record [(S "a", .multi (.bool true) [I 2])]) &&
     !rtObjMB (rootT optT) (.record [(S "a", .multi (.bool true) [.none])])) = true := by
  rw [formatExtractT, formatExtractT, rootT]
  -- the text is decoded in a hypothesis: the check of a rewrite below the `match` evaluates the parse
  generalize h : objsT optT = M
  rw [optT, C10.objsT_ofList] at h
  subst h
  decide +kernel

/-- … while without `.optional = True` the `None` element survives and is in `RTObjM` -/
theorem none_instance_kept_without_optional :
    (yields (formatExtractT "a = 1\n.type=int\n.multiple=True\n" (.record [(S "a", .multi .none [.none, I 2])]))
        (.record [(S "a", .multi .none [.none, I 2])]) &&
     rtObjMB (rootT "a = 1\n.type=int\n.multiple=True\n") (.record [(S "a", .multi .none [.none, I 2])])) = true := by
  rw [formatExtractT, rootT]
  generalize h : objsT _ = M
  rw [C10.objsT_ofList] at h
  subst h
  decide +kernel

end Phil.C09

#print axioms Phil.C09.format_closed_ms
#print axioms Phil.C09.format_multiple_absent
#print axioms Phil.C09.format_multiple_empty
#print axioms Phil.C09.format_multiple_instances
#print axioms Phil.C09.rt_values_in_format_domain
#print axioms Phil.C09.format_extract_ms
#print axioms Phil.C09.extract_multiple_block
#print axioms Phil.C09.extract_scope_closed_ms
#print axioms Phil.C09.blocks_partition
#print axioms Phil.C09.nonadjacent_instances_merge
#print axioms Phil.C09.msT_blocks_distinct
#print axioms Phil.C09.format_extract_ms_spec
#print axioms Phil.C09.format_extract_ms_checked
#print axioms Phil.C09.msT_in_class
#print axioms Phil.C09.msT_format_text
#print axioms Phil.C09.msT_round_trip_evaluated
#print axioms Phil.C09.second_leg_identity_instance
#print axioms Phil.C09.second_leg_collapse_instance
#print axioms Phil.C09.fetched_value_round_trips
#print axioms Phil.C09.optional_none_instance_dropped
#print axioms Phil.C09.none_instance_kept_without_optional
