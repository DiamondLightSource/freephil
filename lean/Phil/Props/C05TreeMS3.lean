/-
  C05 / C04 / C07 (masters that REPEAT the name of a `.multiple` object — further master occurrences):
  the OPERATIONAL closed form of the non-diff fetch on the class `MSMaster2`.

  Model: Phil/Fetch.lean (`fetchScope`/`fetchRoot`).  Lemmas: Phil/Proofs/FetchTreeMS3.lean
  (`masterActiveObjects` on masters with repeated names, the step for a `.multiple` scope, the master loop; the
  candidate loop with a non-empty `fromMasterOf` is in Phil/Proofs/FetchSpec.lean, the step for a `.multiple`
  definition in Phil/Proofs/FetchTree.lean), on top of Phil/Proofs/FetchTreeMS2.lean (specification `ms2Result`)
  and Phil/Proofs/FetchTreeMS.lean.

  Class covered (unbounded: every such master, every such source list, every adequate fuel):
    * master: `MSMaster2` (executable `ms2MasterB`) — as `MSMaster` (a tree of scopes to any depth,
      `.multiple` or not, optional or mandatory, `.multiple` in `.multiple`; definitions not
      `.deprecated`, not choices; names non-empty and dot-free), EXCEPT that objects may be disabled
      and the name of a `.multiple` object (definition or scope) may be repeated by later enabled
      siblings, at every level; a non-multiple name still occurs once among the enabled siblings
      (`non_multiple_repeat_outside`: sharp).  `MSMaster ⊆ MSMaster2` (`msMaster_is_msMaster2`).
    * master definitions are variable-free and carry no recorded resolution (`SrcTree mkids`; follows
      from `RefetchTree`, true of every parsed variable-free master): the further occurrences are read
      exactly like sources.  Sharp IN THE MODEL (`master_variable_outside`): the model does not resolve
      `$var` inside a master's further occurrence (the real library does — outside the model).
    * sources: arbitrary `SrcTree` lists;  keys: `KeysDefinedMS2` (sharp: `keysDefined_ms2_needed`);
    * fuel: `depthL mkids + 1 ≤ fuel`; `fetchRoot` provides it for masters nested ≤ 1000 deep.
  Facts:
    * C05 `fetch_ms2_total` (TOTAL: result `ms2Result` + consumed ids `ms2Used`, or "incompatible"
      exactly when `ms2NoClash` fails — a clash may sit among the master's own further occurrences:
      `master_own_clash`), `fetchRoot_ms2`, `fetchRoot_ms2_checked`;
      the list rule in the property's wording: `multiple_scope_list_rule_ms2`,
      `multiple_defn_list_rule_ms2`, `list_rule_spelled_ms2`, `further_occurrence_no_block`,
      `further_occurrences_mark_nothing`;
    * C04 `ms2_result_blocks`, `ms2_block_members`, `ms2_result_depth`;
    * C07 `ms2_refetch_idempotent` (FULL strength: no hypothesis beyond those of the first fetch — no
      witness that idempotence needs one exists), `ms2Result_idempotent`, `master_as_source_ms2`,
      `ms2_fetch_master_itself` (needs the master not to clash with itself — else both sides fail,
      `master_own_clash`), `refetch_hypotheses_ms2`, `fetchRoot_ms2_idempotent`.
  Validation: the specification `ms2Result`/`ms2NoClash` was validated against the real library before
  proving (Props/C05TreeMS2.lean: 400 random instances, 254 with repeated names, 0 mismatches).  With
  `ms2Used` (not part of that validation) and the class checks, after proving (harness/validation/ms2_val_gen.py, seed
  20260930; `.multiple` scopes and definitions repeated at every level, disabled objects, clashes inside
  the master and in the sources, dotted / braced / disabled / unknown sources): 600 random instances, 500
  in the class (371 outside `MSMaster`), keys defined on all: 408 results equal WITH the
  reported unused list equal to the one computed from `ms2Used`, 92 clash errors agree with
  `ms2NoClash`, 0 mismatches; Python re-fetch of the result: fixed point on 408 of 408;
  `M.fetch(M) = M.fetch()`: equal on 462 masters, both fail on 38 (self-clashing masters), 0 differ.
  The sharpness witnesses below are replayed on the real library (outputs quoted).
-/
import Phil.Proofs.FetchTreeMS3
import Phil.Props.C05TreeMS2

namespace Phil.C05
open Phil

/-! ### the closed form -/

/-- **Closed form of the fetch of a master with further master occurrences of `.multiple` objects
    (total).**  On `MSMaster2`, with fuel beyond the nesting depth, variable-free master definitions
    and defined keys, the fetch succeeds exactly when there is no clash of kinds — among the sources
    or among the master's own further occurrences, at every depth and inside every instance
    (`ms2NoClash`); its result is `ms2Result`, the consumed ids are `ms2Used` (in this order);
    otherwise it raises RuntimeError ("incompatible"). -/
theorem fetch_ms2_total (e : Envs) (fuel : Nat) (sm : Meta) (mkids srcs : List Obj)
    (hf : MSMaster2 mkids) (hfuel : depthL mkids + 1 ≤ fuel) (hsd : sm.disabled = false)
    (hsrc : SrcTree srcs) (hmsrc : SrcTree mkids) (hkeys : KeysDefinedMS2 e [] mkids srcs) :
    fetchScope e fuel false sm mkids srcs =
      if ms2NoClash [] mkids srcs then
        .ok (.scope { sm with tmpl := 0 } (ms2Result e [] mkids srcs), ms2Used [] mkids srcs)
      else .error (.runtime "incompatible" none) :=
  Phil.fetch_ms2_total e fuel sm mkids srcs hf hfuel hsd hsrc hmsrc hkeys

/-- **`master.fetch(sources)`** on parsed roots: the fuel `fetchRoot` computes is adequate. -/
theorem fetchRoot_ms2 (e : Envs) (master : List Obj) (ss : List (List Obj))
    (hf : MSMaster2 master) (hd : depthL master ≤ 1000) (hsrc : SrcTree ss.flatten)
    (hmsrc : SrcTree master) (hkeys : KeysDefinedMS2 e [] master ss.flatten) :
    fetchRoot e false master ss =
      if ms2NoClash [] master ss.flatten then
        .ok (.scope { name := [], id := some 0 } (ms2Result e [] master ss.flatten),
             ms2Used [] master ss.flatten)
      else .error (.runtime "incompatible" none) :=
  Phil.fetch_ms2_total e _ _ master ss.flatten hf (fetchRoot_fuel_tree master hd) rfl hsrc hmsrc hkeys

/-- … with the side conditions in executable form (`masterCheck_ms2`, `srcCheck`, `keysDefinedMS2B`) -/
theorem fetchRoot_ms2_checked (e : Envs) (master : List Obj) (ss : List (List Obj))
    (hm : masterCheck_ms2 master = true) (hs : srcCheck ss.flatten = true)
    (hk : keysDefinedMS2B e [] master ss.flatten = true) :
    fetchRoot e false master ss =
      if ms2NoClash [] master ss.flatten then
        .ok (.scope { name := [], id := some 0 } (ms2Result e [] master ss.flatten),
             ms2Used [] master ss.flatten)
      else .error (.runtime "incompatible" none) :=
  have hM := masterCheck_ms2_sound master hm
  fetchRoot_ms2 e master ss hM.tree hM.depth (srcCheck_sound ss.flatten hs).tree hM.srcTree
    (keysDefinedMS2B_sound e master [] _ hk)

/-- the class extends that of Props/C05TreeMS.lean (where `ms2Result` is `msResult`: `ms2_conservative`) -/
theorem msMaster_is_msMaster2 (mkids : List Obj) (h : MSMaster mkids) : MSMaster2 mkids := h.toMS2

/-- the executable form of the class is sound -/
theorem ms2MasterB_is_msMaster2 (mkids : List Obj) (h : ms2MasterB mkids = true) : MSMaster2 mkids :=
  ms2MasterB_sound mkids h

/-- **`master_active_objects` on the class**: the first enabled occurrence of every name (with its
    index among the scope's objects) — further occurrences of `.multiple` objects are not visited -/
theorem master_active_objects_ms2 (mkids : List Obj) (hf : MSMaster2 mkids) :
    masterActiveObjects mkids = .ok (firstsIdx_ms3 0 [] mkids) :=
  masterActive_ms3 mkids hf.firsts

/-- the master-provided candidates of a first occurrence are its later enabled same-name siblings -/
theorem master_candidates_ms2 (pre : List Obj) (o : Obj) (os : List Obj)
    (hpre : ∀ x ∈ pre, x.meta.disabled = false → x.name ≠ o.name) :
    fromMasterOf (pre ++ o :: os) pre.length o = (activeNamed o.name os).map (fun x => (true, x)) :=
  fromMasterOf_ms3 pre o os hpre

/-! ### C05: the list rule, in the property's wording -/

/-- **The list rule for a `.multiple` scope with further master occurrences.**  The block of the first
    occurrence `.scope mm kids` is `msMultiBlock` — the master's first occurrence (its own fetched body,
    live) only if `.optional = False`, then always first; else the template — over the candidates
    built from the FURTHER MASTER OCCURRENCES (`scopesNamed mm.name rest`) followed by ALL SOURCE
    OCCURRENCES (`scopesNamed mm.name srcs`), in order, each candidate being the fetch of the body
    against that ONE block; the rest of the master goes on with the name marked as seen. -/
theorem multiple_scope_list_rule_ms2 (e : Envs) (seen : List Str) (mm : Meta) (kids rest srcs : List Obj)
    (hen : mm.disabled = false) (hs : seen.contains mm.name = false)
    (hmult : (mm.attrs.get "multiple").truthy = true) :
    ms2Result e seen (.scope mm kids :: rest) srcs =
      msMultiBlock (.scope mm kids) (ms2Cand e mm kids [])
        (keyMS e (.scope mm kids) (ms2Cand e mm kids []))
        ((scopesNamed mm.name rest ++ scopesNamed mm.name srcs).map (fun s =>
          (ms2Cand e mm kids s.children, keyMS e (.scope mm kids) (ms2Cand e mm kids s.children)))) ++
      ms2Result e (mm.name :: seen) rest srcs := by
  rw [ms2Result_cons e seen (.scope mm kids) rest srcs hen hs, ms2Block]
  simp only [hmult, if_true]
  rw [show (Obj.scope mm kids).name = mm.name from rfl, scopesNamed_cands_ms3]

/-- **The list rule for a `.multiple` definition with further master occurrences**: `multiBlock` — the
    template (flag `0` if `.optional = False`: the master's first occurrence, live and first) followed
    by the survivors among the candidates built from the further master occurrences
    (`defsNamed mm.name rest`) and then all source occurrences (`defsNamed mm.name srcs`), in order. -/
theorem multiple_defn_list_rule_ms2 (e : Envs) (seen : List Str) (mm : Meta) (mws : List Word)
    (rest srcs : List Obj) (hen : mm.disabled = false) (hs : seen.contains mm.name = false)
    (hmult : isMultiple (.defn mm mws) = true) :
    ms2Result e seen (.defn mm mws :: rest) srcs =
      multiBlock (.defn mm mws) (keyOf e 0 (.defn mm mws) (.defn mm mws))
        (candsOf e 0 (.defn mm mws) (defsNamed mm.name rest ++ defsNamed mm.name srcs)) ++
      ms2Result e (mm.name :: seen) rest srcs := by
  rw [ms2Result_cons e seen (.defn mm mws) rest srcs hen hs, ms2Block, tmBlock]
  simp only [hmult, if_true]
  rw [show (Obj.defn mm mws).name = mm.name from rfl, defsNamed_cands_ms3]

/-- **"instances equal to the template dropped and exact duplicates collapsed onto the later copy"**:
    the survivors of `msMultiBlock` / `multiBlock` are `dedupKeepLast` (of equal renderings only the
    LAST stays) of the candidates whose rendering differs from the master's (`k0`); the head is the
    master's own instance, live (flag 0), exactly when `.optional = False`, else the template flagged
    `1` (nothing survives) or `-1` -/
theorem list_rule_spelled_ms2 (mo self : Obj) (k0 : Str) (cks : List (Obj × Str)) :
    msMultiBlock mo self k0 cks =
      (if (mo.attr "optional").mandatory then withTmpl self 0
       else withTmpl mo (if (dedupKeepLast (cks.filter (fun y => y.2 != k0))).isEmpty then 1 else -1)) ::
      (dedupKeepLast (cks.filter (fun y => y.2 != k0))).map (·.1) ∧
    multiBlock mo k0 cks =
      withTmpl mo (if (mo.attr "optional").mandatory then 0
        else if (dedupKeepLast (cks.filter (fun y => y.2 != k0))).isEmpty then 1 else -1) ::
      (dedupKeepLast (cks.filter (fun y => y.2 != k0))).map (·.1) := ⟨rfl, rfl⟩

/-- a further occurrence contributes no block of its own -/
theorem further_occurrence_no_block (e : Envs) (seen : List Str) (mo : Obj) (rest srcs : List Obj)
    (hs : seen.contains mo.name = true) :
    ms2Result e seen (mo :: rest) srcs = ms2Result e seen rest srcs :=
  ms2Result_further e seen mo rest srcs hs

/-- a non-multiple first occurrence has no further occurrences in the class: its block is built from
    the sources alone -/
theorem non_multiple_single_ms2 (mkids : List Obj) (hf : MSMaster2 mkids) (p : Obj × List Obj)
    (hp : p ∈ firstsT_ms3 [] mkids) (hnm : isMultiple p.1 = false) : p.2 = [] :=
  firstsT_nonmulti_ms3 mkids hf.firsts p hp hnm

/-- **the consumed ids come from the sources only**: `ms2Used` does not look at the further master
    occurrences (a master-provided candidate marks nothing), and on masters with one occurrence per
    name it unfolds like `msUsed` -/
theorem further_occurrences_mark_nothing (seen : List Str) (mo : Obj) (rest srcs : List Obj)
    (hen : mo.meta.disabled = false) (hs : seen.contains mo.name = false) :
    ms2Used seen (mo :: rest) srcs = ms2UsedObj mo srcs ++ ms2Used (mo.name :: seen) rest srcs := by
  rw [ms2Used]
  simp only [hen, hs, Bool.or_self, Bool.false_eq_true, if_false]

/-! ### non-vacuity and sharpness (instances through the parser) -/

/-- the parsed instance of Props/C05TreeMS2.lean (a `.multiple` scope repeated, a `.multiple`
    definition repeated inside it and at top level) satisfies every hypothesis -/
example : (masterCheck_ms2 ms2M && srcCheck ms2S && keysDefinedMS2B envTm [] ms2M ms2S &&
    ms2NoClash [] ms2M ms2S && !msMasterB ms2M && depthL ms2M == 1) = true := by
  rw [ms2M_eq, ms2S_eq]
  decide +kernel

theorem ms2Inst_master : masterCheck_ms2 ms2M = true := by
  rw [ms2M_eq]
  decide +kernel

theorem ms2Inst_src : srcCheck ms2S = true := by
  rw [ms2S_eq]
  decide +kernel

theorem ms2Inst_keys : keysDefinedMS2B envTm [] ms2M ms2S = true := by
  rw [ms2M_eq, ms2S_eq]
  decide +kernel

theorem ms2Inst_noClash : ms2NoClash [] ms2M ms2S = true := by
  rw [ms2M_eq, ms2S_eq]
  decide +kernel

/-- the theorem applied to the instance (hypotheses discharged by kernel evaluation): the model's
    fetch IS the specification; the ids of the sources are consumed, none for the master-provided
    candidates -/
example : fetchRoot envTm false ms2M [ms2S] =
    .ok (.scope { name := [], id := some 0 } (ms2Result envTm [] ms2M ms2S), ms2Used [] ms2M ms2S) := by
  have hfl : ([ms2S] : List (List Obj)).flatten = ms2S := by simp
  have h := fetchRoot_ms2_checked envTm ms2M [ms2S] ms2Inst_master (by rw [hfl]; exact ms2Inst_src)
    (by rw [hfl]; exact ms2Inst_keys)
  rw [hfl] at h
  rw [h, ms2Inst_noClash]
  rfl

example : (ms2Used [] ms2M ms2S, (C06.unusedOf ms2S (ms2Used [] ms2M ms2S)).length) =
    ([1, 2, 4, 5, 6, 7, 8], 0) := by
  rw [ms2M_eq, ms2S_eq]
  decide +kernel

/-- **the class is sharp: a NON-multiple name must not be repeated.**  Master `s { a = 1 } s { a = 2 }`
    (`s` not `.multiple`): it is outside `MSMaster2`; the fetch visits BOTH scopes and returns two
    blocks, the specification one (replayed on the real library: `s { a = 1 } s { a = 2 }`); a repeated
    non-multiple DEFINITION makes `master_active_objects` fail (real library: `RuntimeError: Duplicate
    definitions in master (first not marked with .multiple=True)`) -/
theorem non_multiple_repeat_outside :
    ms2MasterB (tmObjs "s {\n a = 1\n}\ns {\n a = 2\n}\n") = false ∧
    dumpListMS "" (kidsOfMS2 (fetchRoot envTm false (tmObjs "s {\n a = 1\n}\ns {\n a = 2\n}\n") [])) =
      ["S s 0", "D s.a 0 1", "S s 0", "D s.a 0 2"] ∧
    dumpListMS "" (ms2Result envTm [] (tmObjs "s {\n a = 1\n}\ns {\n a = 2\n}\n") []) =
      ["S s 0", "D s.a 0 2"] ∧
    ms2MasterB (tmObjs "a = 1\na = 2\n") = false ∧
    errOf (fetchRoot envTm false (tmObjs "a = 1\na = 2\n") []) = some (.runtime "duplicate_master" (some 2)) := by
  rw [tmObjs_ofList, tmObjs_ofList]
  decide +kernel

/-- **the hypothesis `KeysDefinedMS2` is sharp — already for a master-provided candidate**: the further
    occurrence `d = maybe` of the `.multiple` bool `d = yes` does not convert; the master is in the
    class, nothing clashes, the executable check says the keys are not defined, and the fetch (with
    no source at all) raises the converter's error (replayed on the real library: `RuntimeError: One
    True or False value expected, d="maybe" found (input line 4)`) -/
theorem keysDefined_ms2_needed :
    masterCheck_ms2 (tmObjs "d = yes\n.type=bool\n.multiple=True\nd = maybe\n") = true ∧
    keysDefinedMS2B envTm [] (tmObjs "d = yes\n.type=bool\n.multiple=True\nd = maybe\n") [] = false ∧
    ms2NoClash [] (tmObjs "d = yes\n.type=bool\n.multiple=True\nd = maybe\n") [] = true ∧
    errOf (fetchRoot envTm false (tmObjs "d = yes\n.type=bool\n.multiple=True\nd = maybe\n") []) =
      some (.runtime "bool_expected" (some 4)) := by
  rw [tmObjs_ofList]
  decide +kernel

/-- **a clash among the master's OWN further occurrences**: the `.multiple` scope `s` followed by the
    definition `s = 3` — in the class, `ms2NoClash` is false with no source at all, and the fetch
    fails (replayed on the real library: `RuntimeError: Incompatible parameter objects: scope "s"
    (input line 1) vs. definition "s" (input line 6)`) -/
theorem master_own_clash :
    masterCheck_ms2 (tmObjs "s\n.multiple=True\n{\n a = 1\n}\ns = 3\n") = true ∧
    ms2NoClash [] (tmObjs "s\n.multiple=True\n{\n a = 1\n}\ns = 3\n") [] = false ∧
    errOf (fetchRoot envTm false (tmObjs "s\n.multiple=True\n{\n a = 1\n}\ns = 3\n") []) =
      some (.runtime "incompatible" none) := by
  rw [tmObjs_ofList]
  decide +kernel

/-- **the hypothesis `SrcTree mkids` is sharp in the model**: a further occurrence `d = $v` carries a
    live variable; the master is in the class (`ms2MasterB`), keys and clash test are fine, but the
    model answers `unsupported` (it does not resolve variables of master-provided candidates; the
    real library substitutes `$v` and returns `d = 5` — outside the model, not a defect) -/
theorem master_variable_outside :
    ms2MasterB (tmObjs "v = 5\nd = 1\n.multiple=True\nd = $v\n") = true ∧
    masterCheck_ms2 (tmObjs "v = 5\nd = 1\n.multiple=True\nd = $v\n") = false ∧
    ms2NoClash [] (tmObjs "v = 5\nd = 1\n.multiple=True\nd = $v\n") [] = true ∧
    errOf (fetchRoot envTm false (tmObjs "v = 5\nd = 1\n.multiple=True\nd = $v\n") []) =
      some (.unsupported "variable in source") := by
  rw [tmObjs_ofList]
  decide +kernel

end Phil.C05

namespace Phil.C04
open Phil

/-- **C04 with further master occurrences: the result is the blocks of the master's FIRST enabled
    occurrences, in the master's order** (a further occurrence adds instances to the block of its
    first occurrence, never a block of its own), and every object of a block is a copy of its master
    object: same name, same kind, enabled, same attributes. -/
theorem ms2_result_blocks (e : Envs) (fuel : Nat) (sm : Meta) (mkids srcs : List Obj)
    (hf : MSMaster2 mkids) (hfuel : depthL mkids + 1 ≤ fuel) (hsd : sm.disabled = false)
    (hsrc : SrcTree srcs) (hmsrc : SrcTree mkids) (hkeys : KeysDefinedMS2 e [] mkids srcs)
    (ro : Obj) (used : List Nat) (h : fetchScope e fuel false sm mkids srcs = .ok (ro, used)) :
    ro.children = (firstsT_ms3 [] mkids).flatMap (fun p => ms2Block e p.1 (p.2 ++ srcs)) ∧
      ∀ p ∈ firstsT_ms3 [] mkids, p.1 ∈ mkids ∧ ∀ o ∈ ms2Block e p.1 (p.2 ++ srcs),
        o.name = p.1.name ∧ o.isDefn = p.1.isDefn ∧ o.meta.disabled = false ∧
          o.meta.attrs = p.1.meta.attrs := by
  obtain ⟨_, hro, _⟩ := ok_of_total (fetch_ms2_total e fuel sm mkids srcs hf hfuel hsd hsrc hmsrc hkeys) h
  subst hro
  refine ⟨(ms2_firsts e srcs mkids []).1, ?_⟩
  intro p hp
  obtain ⟨hmem, hen, _⟩ := mem_firstsT_ms3 mkids p hp
  refine ⟨hmem, ?_⟩
  intro o ho
  have hm := ms2Block_member_ms3 e p.1 _ o ho
  exact ⟨hm.1, hm.2.2.1, by rw [hm.2.1]; exact hen, hm.2.2.2⟩

/-- the same holds at every depth (the children of a result scope are `ms2Result` of the master
    scope's body) -/
theorem ms2_block_members (e : Envs) (mo : Obj) (cands : List Obj) (o : Obj) (ho : o ∈ ms2Block e mo cands) :
    o.name = mo.name ∧ o.isDefn = mo.isDefn ∧ o.meta.disabled = mo.meta.disabled ∧
      o.meta.attrs = mo.meta.attrs :=
  have hm := ms2Block_member_ms3 e mo cands o ho
  ⟨hm.1, hm.2.2.1, hm.2.1, hm.2.2.2⟩

/-- the result is nested no deeper than the master -/
theorem ms2_result_depth (e : Envs) (mkids srcs : List Obj) :
    depthL (ms2Result e [] mkids srcs) ≤ depthL mkids :=
  depthL_ms2Result e mkids [] srcs

/-- **what stands under the name of a first occurrence in the result**: exactly its block -/
theorem ms2_result_view (e : Envs) (fuel : Nat) (sm : Meta) (mkids srcs : List Obj)
    (hf : MSMaster2 mkids) (hfuel : depthL mkids + 1 ≤ fuel) (hsd : sm.disabled = false)
    (hsrc : SrcTree srcs) (hmsrc : SrcTree mkids) (hkeys : KeysDefinedMS2 e [] mkids srcs)
    (ro : Obj) (used : List Nat) (h : fetchScope e fuel false sm mkids srcs = .ok (ro, used))
    (p : Obj × List Obj) (hp : p ∈ firstsT_ms3 [] mkids) :
    activeNamed p.1.name ro.children = ms2Block e p.1 (p.2 ++ srcs) := by
  obtain ⟨_, hro, _⟩ := ok_of_total (fetch_ms2_total e fuel sm mkids srcs hf hfuel hsd hsrc hmsrc hkeys) h
  subst hro
  exact view_ms3 e mkids srcs p hp

/-- **every non-multiple name stands exactly once per enclosing instance** -/
theorem ms2_plain_exactly_once (e : Envs) (fuel : Nat) (sm : Meta) (mkids srcs : List Obj)
    (hf : MSMaster2 mkids) (hfuel : depthL mkids + 1 ≤ fuel) (hsd : sm.disabled = false)
    (hsrc : SrcTree srcs) (hmsrc : SrcTree mkids) (hkeys : KeysDefinedMS2 e [] mkids srcs)
    (ro : Obj) (used : List Nat) (h : fetchScope e fuel false sm mkids srcs = .ok (ro, used))
    (p : Obj × List Obj) (hp : p ∈ firstsT_ms3 [] mkids) (hnm : isMultiple p.1 = false) :
    (activeNamed p.1.name ro.children).length = 1 := by
  rw [ms2_result_view e fuel sm mkids srcs hf hfuel hsd hsrc hmsrc hkeys ro used h p hp]
  exact ms2Block_plain_length e p.1 _ hnm

end Phil.C04

namespace Phil.C07
open Phil

/-- **C07 at the level of the specification: fetching is idempotent** on masters with further master
    occurrences of `.multiple` objects.  NO hypothesis on the renderings is needed: re-running the list
    rule over the master-provided candidates, the template and the survivors gives the survivors
    (`listRule_refetch`). -/
theorem ms2Result_idempotent (e : Envs) (mkids srcs : List Obj) (hf : MSMaster2 mkids)
    (hr : RefetchTree mkids) :
    ms2Result e [] mkids (ms2Result e [] mkids srcs) = ms2Result e [] mkids srcs :=
  ms2Result_idem e mkids srcs hf hr

/-- **the master's own body as a source changes nothing** (`M.fetch(M) = M.fetch()`), further
    occurrences included: they are candidates a second time and collapse onto the later copies -/
theorem master_as_source_ms2 (e : Envs) (mkids : List Obj) (hf : MSMaster2 mkids) (hr : RefetchTree mkids) :
    ms2Result e [] mkids mkids = ms2Result e [] mkids [] :=
  ms2Result_self e mkids hf hr

/-- **C07 for masters with further master occurrences: fetching is idempotent.**  Whenever the fetch
    succeeds, fetching its result again — as the only source — succeeds and returns the same result.
    Full strength: no hypothesis beyond those of the first fetch (`RefetchTree` / `SrcNoDollar`: master
    definitions not template-marked, variable-free words — true of every parsed, variable-free input). -/
theorem ms2_refetch_idempotent (e : Envs) (fuel : Nat) (sm : Meta) (mkids srcs : List Obj)
    (hf : MSMaster2 mkids) (hfuel : depthL mkids + 1 ≤ fuel) (hsd : sm.disabled = false)
    (hr : RefetchTree mkids) (hsrc : SrcTree srcs) (hdol : SrcNoDollar srcs)
    (hkeys : KeysDefinedMS2 e [] mkids srcs) (ro : Obj) (used : List Nat)
    (h : fetchScope e fuel false sm mkids srcs = .ok (ro, used)) :
    ∃ used', fetchScope e fuel false sm mkids ro.children = .ok (ro, used') := by
  obtain ⟨hnc, hro, _⟩ := ok_of_total (fetch_ms2_total e fuel sm mkids srcs hf hfuel hsd hsrc
    (srcTree_of_refetch_ms2 mkids hf hr) hkeys) h
  subst hro
  exact ⟨_, Phil.ms2_refetch_idempotent e fuel sm mkids srcs hf hfuel hsd hr hdol hnc hkeys⟩

/-- the re-fetch needs no further hypotheses: the result never clashes with its master, is a
    well-formed source tree, and its keys are defined -/
theorem refetch_hypotheses_ms2 (e : Envs) (mkids srcs : List Obj) (hf : MSMaster2 mkids)
    (hr : RefetchTree mkids) (hdol : SrcNoDollar srcs) (hnc : ms2NoClash [] mkids srcs = true)
    (hkeys : KeysDefinedMS2 e [] mkids srcs) :
    ms2NoClash [] mkids (ms2Result e [] mkids srcs) = true ∧ SrcTree (ms2Result e [] mkids srcs) ∧
      KeysDefinedMS2 e [] mkids (ms2Result e [] mkids srcs) :=
  ⟨(ms2Side_result e mkids srcs hf hr hnc hkeys).1, srcTree_ms2Result e mkids srcs hf hr hdol,
    (ms2Side_result e mkids srcs hf hr hnc hkeys).2⟩

/-- **adding the master itself as the source gives the fetch with no source** (`M.fetch(M) = M.fetch()`),
    operationally: both succeed with the same tree — provided the master does not clash with itself
    (`ms2NoClash [] mkids []`; else both fail: `C05.master_own_clash`) -/
theorem ms2_fetch_master_itself (e : Envs) (fuel : Nat) (sm : Meta) (mkids : List Obj)
    (hf : MSMaster2 mkids) (hfuel : depthL mkids + 1 ≤ fuel) (hsd : sm.disabled = false)
    (hr : RefetchTree mkids) (hnc : ms2NoClash [] mkids [] = true) (hkeys : KeysDefinedMS2 e [] mkids []) :
    ∃ u1 u2, fetchScope e fuel false sm mkids mkids =
        .ok (.scope { sm with tmpl := 0 } (ms2Result e [] mkids []), u1) ∧
      fetchScope e fuel false sm mkids [] =
        .ok (.scope { sm with tmpl := 0 } (ms2Result e [] mkids []), u2) := by
  refine ⟨ms2Used [] mkids mkids, ms2Used [] mkids [],
    ms2_fetch_self e fuel sm mkids hf hfuel hsd hr hnc hkeys, ?_⟩
  rw [Phil.fetch_ms2_total e fuel sm mkids [] hf hfuel hsd srcTree_nil
    (srcTree_of_refetch_ms2 mkids hf hr) hkeys, hnc]
  rfl

/-- **`master.fetch(source=master.fetch(sources))`** on parsed roots, side conditions in executable form -/
theorem fetchRoot_ms2_idempotent (e : Envs) (master : List Obj) (ss : List (List Obj))
    (hm : masterCheck_ms2 master = true) (hs : srcCheck ss.flatten = true)
    (hk : keysDefinedMS2B e [] master ss.flatten = true)
    (ro : Obj) (used : List Nat)
    (h : fetchRoot e false master ss = .ok (ro, used)) :
    ∃ used', fetchRoot e false master [ro.children] = .ok (ro, used') := by
  have hM := masterCheck_ms2_sound master hm
  have hS := srcCheck_sound ss.flatten hs
  have hfl : ([ro.children] : List (List Obj)).flatten = ro.children := by simp
  unfold fetchRoot
  rw [hfl]
  exact ms2_refetch_idempotent e _ _ master ss.flatten hM.tree (fetchRoot_fuel_tree master hM.depth) rfl
    hM.refetch hS.tree hS.noDollar (keysDefinedMS2B_sound e master [] _ hk) ro used h

/-- the theorem applied to the instance of Props/C05TreeMS2.lean (hypotheses discharged by kernel
    evaluation) — the unbounded statement behind `ms2_instance_idempotent` -/
example (ro : Obj) (used : List Nat) (h : fetchRoot C05.envTm false C05.ms2M [C05.ms2S] = .ok (ro, used)) :
    ∃ used', fetchRoot C05.envTm false C05.ms2M [ro.children] = .ok (ro, used') := by
  have hfl : ([C05.ms2S] : List (List Obj)).flatten = C05.ms2S := by simp
  exact fetchRoot_ms2_idempotent C05.envTm C05.ms2M [C05.ms2S] C05.ms2Inst_master
    (by rw [hfl]; exact C05.ms2Inst_src) (by rw [hfl]; exact C05.ms2Inst_keys) ro used h

/-- **`master.fetch(source=master) = master.fetch()`** on parsed roots, side conditions in executable form -/
theorem fetchRoot_ms2_master_itself (e : Envs) (master : List Obj)
    (hm : masterCheck_ms2 master = true) (hnc : ms2NoClash [] master [] = true)
    (hk : keysDefinedMS2B e [] master [] = true) :
    ∃ u1 u2, fetchRoot e false master [master] =
        .ok (.scope { name := [], id := some 0 } (ms2Result e [] master []), u1) ∧
      fetchRoot e false master [] =
        .ok (.scope { name := [], id := some 0 } (ms2Result e [] master []), u2) := by
  have hM := masterCheck_ms2_sound master hm
  have hfl : ([master] : List (List Obj)).flatten = master := by simp
  have hfl0 : ([] : List (List Obj)).flatten = ([] : List Obj) := rfl
  unfold fetchRoot
  rw [hfl, hfl0]
  exact ms2_fetch_master_itself e _ _ master hM.tree (fetchRoot_fuel_tree master hM.depth) rfl hM.refetch
    hnc (keysDefinedMS2B_sound e master [] [] hk)

/-- `M.fetch(M) = M.fetch()` on the instance, from the theorem -/
example : ∃ u1 u2, fetchRoot C05.envTm false C05.ms2M [C05.ms2M] =
      .ok (.scope { name := [], id := some 0 } (ms2Result C05.envTm [] C05.ms2M []), u1) ∧
    fetchRoot C05.envTm false C05.ms2M [] =
      .ok (.scope { name := [], id := some 0 } (ms2Result C05.envTm [] C05.ms2M []), u2) :=
  fetchRoot_ms2_master_itself C05.envTm C05.ms2M C05.ms2Inst_master
    (by rw [C05.ms2M_eq]; decide +kernel) (by rw [C05.ms2M_eq]; decide +kernel)

/-- **the hypothesis `ms2NoClash [] mkids []` of `ms2_fetch_master_itself` is sharp**: the master
    `s (.multiple) { a = 1 } ; s = 3` is in the class but clashes with itself — `M.fetch(M)` and
    `M.fetch()` BOTH fail (replayed on the real library: both raise `RuntimeError: Incompatible
    parameter objects: scope "s" (input line 1) vs. definition "s" (input line 6)`), so the two sides
    still agree -/
theorem master_itself_needs_noclash :
    masterCheck_ms2 (C05.tmObjs "s\n.multiple=True\n{\n a = 1\n}\ns = 3\n") = true ∧
    ms2NoClash [] (C05.tmObjs "s\n.multiple=True\n{\n a = 1\n}\ns = 3\n") [] = false ∧
    errOf (fetchRoot C05.envTm false (C05.tmObjs "s\n.multiple=True\n{\n a = 1\n}\ns = 3\n")
      [C05.tmObjs "s\n.multiple=True\n{\n a = 1\n}\ns = 3\n"]) = some (.runtime "incompatible" none) ∧
    errOf (fetchRoot C05.envTm false (C05.tmObjs "s\n.multiple=True\n{\n a = 1\n}\ns = 3\n") []) =
      some (.runtime "incompatible" none) := by
  rw [C05.tmObjs_ofList]
  decide +kernel

end Phil.C07

#print axioms Phil.C05.fetch_ms2_total
#print axioms Phil.C05.fetchRoot_ms2
#print axioms Phil.C05.fetchRoot_ms2_checked
#print axioms Phil.C05.msMaster_is_msMaster2
#print axioms Phil.C05.ms2MasterB_is_msMaster2
#print axioms Phil.C05.master_active_objects_ms2
#print axioms Phil.C05.master_candidates_ms2
#print axioms Phil.C05.multiple_scope_list_rule_ms2
#print axioms Phil.C05.multiple_defn_list_rule_ms2
#print axioms Phil.C05.list_rule_spelled_ms2
#print axioms Phil.C05.further_occurrence_no_block
#print axioms Phil.C05.non_multiple_single_ms2
#print axioms Phil.C05.further_occurrences_mark_nothing
#print axioms Phil.C05.non_multiple_repeat_outside
#print axioms Phil.C05.keysDefined_ms2_needed
#print axioms Phil.C05.master_own_clash
#print axioms Phil.C05.master_variable_outside
#print axioms Phil.C04.ms2_result_blocks
#print axioms Phil.C04.ms2_block_members
#print axioms Phil.C04.ms2_result_depth
#print axioms Phil.C04.ms2_result_view
#print axioms Phil.C04.ms2_plain_exactly_once
#print axioms Phil.C07.ms2Result_idempotent
#print axioms Phil.C07.master_as_source_ms2
#print axioms Phil.C07.ms2_refetch_idempotent
#print axioms Phil.C07.refetch_hypotheses_ms2
#print axioms Phil.C07.ms2_fetch_master_itself
#print axioms Phil.C07.fetchRoot_ms2_idempotent
#print axioms Phil.C07.fetchRoot_ms2_master_itself
#print axioms Phil.C07.master_itself_needs_noclash
