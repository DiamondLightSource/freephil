/-
  C12 / C05 / C06 — `$variables` INSIDE the closed form of `scope.fetch`.

  Python: `definition.fetch_value` calls `source.resolve_variables()` on every matching source definition
  (marking it and every definition consulted `tmp = True`) before the master's type looks at the
  words; `scope.fetch` lets the last matching source win.  Model: Phil/Fetch.lean reads the outcome
  of that call from `Meta.varRes`, written by the annotation pass `preResolve` (Phil/Vars.lean) in
  each source's OWN document.  Lemmas: Phil/Proofs/FetchVars.lean.

  Class covered (unbounded):
    * master: `TreeMaster` — nested, enabled, plain definitions and non-multiple scopes, dot-free
      pairwise distinct sibling names, nested at most 1000 deep; non-diff mode;
    * sources: `docs.map (preResolve env false)` for ANY documents numbered like parser outputs
      (`DocIds`; `parse_docIds`: every output of `parseObjs`) whose enabled scopes are named
      (`ScopesNamed`) — any `$` spelling, any nesting, disabled objects, redefinitions, undefined
      variables, references to scopes; any environment.  For the statements that speak about a
      definition's own contribution also `Fresh` (no resolution recorded before the pass: parser
      outputs).
  Specification (fuel-free, structural / well-founded recursion):
    `denote env doc pos`   the value of the definition at `pos` of `doc` (Phil/Proofs/VarsSpec.lean);
    `refsAt doc pos`       the ids of the definitions consulted for it, transitively;
    `denoteDoc env diff doc`  `doc` with every `$`-definition carrying `denote` / `refsAt` at its position;
    `firstErr`, `treeFetch`   the first error in master order, else `treeResult` / `treeUsed`.
  Validation before proving: 3150 random (master, 1–3 source texts, env) triples against the real
  freephil (result words with quote tokens, unused list, error site and line): 0 mismatches.
-/
import Phil.Proofs.FetchVars
import Phil.Props.C06Tree
import Phil.Props.C12Parse
namespace Phil.C12Fetch
open Phil Phil.C12

/-! ## the annotation pass is the denotation -/

/-- **`preResolve` = `denoteDoc`.**  On a document numbered like a parser output the annotation pass
    stores in every definition with a live `$` the denotation of its words at its own position (or
    the error it raises) and the ids consulted — both modes, every environment. -/
theorem preResolve_is_denotation (env : Env) (diff : Bool) (doc : List Obj) (hd : DocIds doc) :
    preResolve env diff doc = denoteDoc env diff doc :=
  preResolve_eq_denoteDoc env diff doc hd

/-- … with no hypothesis on a parsed document -/
theorem preResolve_is_denotation_parsed (env : Env) (diff : Bool) (text : Str) (doc : List Obj)
    (h : parseObjs text = .ok doc) : preResolve env diff doc = denoteDoc env diff doc :=
  preResolve_eq_denoteDoc env diff doc (parse_docIds text doc h)

/-- **the ids `resolve_variables` consults are `refsAt`** (operational `resolveRefs` = fuel-free
    specification), for the definition at `pos` with its lexical chain `ch` -/
theorem consulted_ids_spec (doc : List Obj) (hd : DocIds doc) (pos : List Nat) (m : Meta)
    (ws : List Word) (ch : Chain) (n fuel : Nat) (hc : chainAt doc pos [] = some (.defn m ws, ch))
    (hid : m.id = some n) (hfuel : n < fuel) : resolveRefs fuel ch n ws = refsAt doc pos :=
  (resolve_eq_spec_vs (fun _ => none) doc hd.1 n pos m ws ch hc hid fuel hfuel).2

/-- the denotation raises RuntimeErrors only (undefined variable, not a definition, the three syntax
    errors of the substitution proxy) -/
theorem denote_errors_are_runtime (env : Env) (doc : List Obj) (pos : List Nat) (m : Meta)
    (ws : List Word) (ho : objAt doc pos = some (.defn m ws)) (diff : Bool) (e : Err)
    (h : denote env doc pos diff = .error e) : ∃ site line, e = .runtime site line :=
  denote_err_runtime env doc _ pos rfl m ws ho diff e h

/-! ## the closed form -/

/-- **Total closed form of the fetch on annotated sources of any kind** (no `SrcOK`/`SrcNoDollar`):
    the error of the first offending source object in master order — the recorded
    `resolve_variables` error of a matching definition, or "incompatible" — else `treeResult` with the
    consumed ids `treeUsed`. -/
theorem fetch_tree_vars_total (e : Envs) (fuel : Nat) (sm : Meta) (mkids srcs : List Obj)
    (hf : TreeMaster mkids) (hfuel : depthL mkids + 1 ≤ fuel) (hsd : sm.disabled = false)
    (hsrc : ScopesNamed srcs) :
    fetchScope e fuel false sm mkids srcs = treeFetch sm mkids srcs :=
  Phil.fetch_tree_vars_total e fuel sm mkids srcs hf hfuel hsd hsrc

/-- it extends the variable-free closed form (`C06.fetch_tree_total`): when every source definition
    resolves, the only error is the clash of kinds -/
theorem firstErr_without_resolution_errors (mkids srcs : List Obj) (hs : SrcTree srcs) :
    firstErr mkids srcs = if noClash mkids srcs then none else some (.runtime "incompatible" none) :=
  firstErr_of_srcTree mkids srcs hs

/-- **C12/C05/C06 — `master.fetch(sources)` with `$variables` in the sources.**  The fetch of
    pre-resolved documents equals the specification applied to the DENOTED documents: every master
    definition takes the denoted words of the last enabled source definition reached; the first
    denotation error in master order is raised otherwise. -/
theorem fetch_with_variables (e : Envs) (env : Env) (master : List Obj) (docs : List (List Obj))
    (hf : TreeMaster master) (hd : depthL master ≤ 1000) (hdocs : ∀ d ∈ docs, DocIds d)
    (hnamed : ScopesNamed docs.flatten) :
    fetchRoot e false master (docs.map (preResolve env false)) =
      treeFetch { name := [], id := some 0 } master (docs.map (denoteDoc env false)).flatten :=
  fetchRoot_preResolved e env master docs hf hd hdocs hnamed

/-- … for parsed source texts (`DocIds` discharged by `parse_docIds`) -/
theorem fetch_with_variables_parsed (e : Envs) (env : Env) (master : List Obj) (texts : List Str)
    (docs : List (List Obj)) (hp : texts.mapM parseObjs = .ok docs)
    (hf : TreeMaster master) (hd : depthL master ≤ 1000) (hnamed : ScopesNamed docs.flatten) :
    fetchRoot e false master (docs.map (preResolve env false)) =
      treeFetch { name := [], id := some 0 } master (docs.map (denoteDoc env false)).flatten :=
  fetchRoot_preResolved e env master docs hf hd
    (fun d hd' => by obtain ⟨t, _, ht⟩ := mapM_ok_mem_R hp d hd'; exact parse_docIds t d ht) hnamed

/-- **every active definition of an annotated source is a definition of its document, and contributes
    the denotation at its own position**: the error `fetch_value` raises for it is the error of the
    denotation, the words it hands over are the denoted words, the ids marked through it are
    `refsAt`. -/
theorem source_definition_is_denoted (env : Env) (diff : Bool) (doc : List Obj) (hdoc : DocIds doc)
    (hfresh : Fresh doc) (d : Obj) (h : ActiveIn d (denoteDoc env diff doc)) (hdef : d.isDefn = true) :
    ∃ pos m ws, objAt doc pos = some (.defn m ws) ∧ ActiveIn (.defn m ws) doc ∧
      d = annObj env diff doc pos (.defn m ws) ∧
      srcErrOf d = (match denote env doc pos diff with
                    | .ok _ => none
                    | .error e => some e) ∧
      ∀ r, denote env doc pos diff = .ok r → d.srcWords = r ∧ srcRefs d = refsAt doc pos :=
  activeDefn_denoted env diff doc hdoc hfresh h hdef

/-! ## C05 — last value wins, with variables -/

/-- **C05 with variables.**  After a successful fetch, where the master has the definition `mm` at the
    path `ps.n`: either no enabled source definition is reached by that path and the result keeps the
    master definition, or the LAST one reached — the definition at some position `pos` of one of the
    documents — resolved, and the result carries its DENOTED words: `denote env doc pos`. -/
theorem last_value_wins_with_variables (e : Envs) (env : Env) (master : List Obj)
    (docs : List (List Obj)) (hf : TreeMaster master) (hd : depthL master ≤ 1000)
    (hdocs : ∀ d ∈ docs, DocIds d) (hfresh : ∀ d ∈ docs, Fresh d) (hnamed : ScopesNamed docs.flatten)
    (ro : Obj) (used : List Nat)
    (h : fetchRoot e false master (docs.map (preResolve env false)) = .ok (ro, used))
    (ps : List Str) (n : Str) (mm : Meta) (mws : List Word)
    (hm : defAt master ps n = some (.defn mm mws)) :
    (lastDef (srcAt (docs.map (denoteDoc env false)).flatten ps) n = none ∧
        defAt ro.children ps n = some (.defn mm mws)) ∨
      ∃ doc ∈ docs, ∃ pos m ws r, objAt doc pos = some (.defn m ws) ∧ m.name = n ∧ m.disabled = false ∧
        lastDef (srcAt (docs.map (denoteDoc env false)).flatten ps) n =
          some (annObj env false doc pos (.defn m ws)) ∧
        denote env doc pos false = .ok r ∧
        defAt ro.children ps n = some (.defn { mm with tmpl := 0 } r) := by
  rw [fetchRoot_preResolved e env master docs hf hd hdocs hnamed] at h
  obtain ⟨hfe, hv⟩ := ok_of_optError h
  have hch : ro.children = treeResult master (docs.map (denoteDoc env false)).flatten := by
    cases hv; rfl
  have hlv := last_value_wins_at_depth_tree master (docs.map (denoteDoc env false)).flatten ps n mm mws hm
  rw [hch, hlv]
  cases hl : lastDef (srcAt (docs.map (denoteDoc env false)).flatten ps) n with
  | none => exact .inl ⟨rfl, rfl⟩
  | some d =>
    right
    have hmem : d ∈ defsNamed n (srcAt (docs.map (denoteDoc env false)).flatten ps) := by
      unfold lastDef at hl
      exact List.mem_of_getLast? hl
    obtain ⟨doc, hdoc, pos, m, ws, ho, hn, hdis, hdx, herr, hok⟩ :=
      matched_denoted_pv env docs hdocs hfresh ps n d hmem
    have hnone := firstErr_none_matched ps master _ n mm mws hfe hm d hmem
    rw [hnone] at herr
    cases hden : denote env doc pos false with
    | error e0 => rw [hden] at herr; cases herr
    | ok r =>
      refine ⟨doc, hdoc, pos, m, ws, r, ho, hn, hdis, by rw [hdx], hden, ?_⟩
      simp only [(hok r hden).1]

/-! ## C12 — what the fetched value depends on -/

/-- **C12, environment.**  If the definition at `pos` resolves with the EMPTY environment (every
    variable it needs has an earlier definition), the words it contributes to a fetch are the same
    in every environment: the environment never overrides an earlier definition. -/
theorem fetched_value_env_irrelevant (env : Env) (doc : List Obj) (hdoc : DocIds doc) (pos : List Nat)
    (m : Meta) (ws : List Word) (ho : objAt doc pos = some (.defn m ws)) (hid : m.id ≠ none)
    (hfresh : m.varRes = none) (r : List Word)
    (h : denote (fun _ => none) doc pos false = .ok r) :
    (annObj env false doc pos (.defn m ws)).srcWords = r ∧
      srcErrOf (annObj env false doc pos (.defn m ws)) = none := by
  have hden := env_closed_vs env doc hdoc pos false r h
  have hspec := annObj_defn_spec env false doc pos m ws ho hid hfresh
  rw [hden] at hspec
  exact ⟨(hspec.2 r rfl).1, hspec.1⟩

/-- **C12, later definitions.**  Two documents that agree on everything numbered before the
    definition (same definition, same position, same id `n`; equal after pruning every object with
    id ≥ `n`) give it the same contribution to a fetch — value or error: definitions that come later
    in the source, and later redefinitions of the variables, never influence it. -/
theorem fetched_value_ignores_later_definitions (env : Env) (doc1 doc2 : List Obj) (hd1 : DocIds doc1)
    (hd2 : DocIds doc2) (pos : List Nat) (m1 m2 : Meta) (ws : List Word) (n : Nat)
    (h1 : objAt doc1 pos = some (.defn m1 ws)) (h2 : objAt doc2 pos = some (.defn m2 ws))
    (hid1 : m1.id = some n) (hid2 : m2.id = some n) (hf1 : m1.varRes = none) (hf2 : m2.varRes = none)
    (hp : pruneBeforeList n doc1 = pruneBeforeList n doc2) :
    srcErrOf (annObj env false doc1 pos (.defn m1 ws)) = srcErrOf (annObj env false doc2 pos (.defn m2 ws)) ∧
      (srcErrOf (annObj env false doc1 pos (.defn m1 ws)) = none →
        (annObj env false doc1 pos (.defn m1 ws)).srcWords = (annObj env false doc2 pos (.defn m2 ws)).srcWords) := by
  have hden := later_objects_irrelevant_spec env doc1 doc2 hd1 hd2 pos false m1 m2 ws n h1 h2 hid1 hid2 hp
  have s1 := annObj_defn_spec env false doc1 pos m1 ws h1 (by rw [hid1]; simp) hf1
  have s2 := annObj_defn_spec env false doc2 pos m2 ws h2 (by rw [hid2]; simp) hf2
  rw [hden] at s1
  refine ⟨by rw [s1.1, s2.1], ?_⟩
  intro hnone
  cases hr : denote env doc2 pos false with
  | error e0 => rw [s1.1, hr] at hnone; cases hnone
  | ok r => rw [(s1.2 r hr).1, (s2.2 r hr).1]

/-! ## C06 — consumed ids and the reported list, with variables -/

/-- **C06 with variables (consumed ids, exactly).**  After a successful fetch an id is consumed iff it
    is the id of an entry of `all_definitions(sources)` whose path names a master definition, or such
    an entry consulted it while its variables were resolved (`srcRefs`, i.e. `refsAt` of its
    position by `source_definition_is_denoted`). -/
theorem used_with_variables_exact (e : Envs) (env : Env) (master : List Obj) (docs : List (List Obj))
    (hf : TreeMaster master) (hd : depthL master ≤ 1000) (hinc : NoIncludeTree master)
    (hdocs : ∀ d ∈ docs, DocIds d) (hnamed : ScopesNamed docs.flatten)
    (ro : Obj) (used : List Nat)
    (h : fetchRoot e false master (docs.map (preResolve env false)) = .ok (ro, used)) (i : Nat) :
    i ∈ used ↔
      ∃ x ∈ allDefinitions (docs.map (denoteDoc env false)).flatten,
        x.1 ∈ (allDefinitions master).map (·.1) ∧
          (x.2.1.id = some i ∨ i ∈ srcRefs (.defn x.2.1 x.2.2)) := by
  rw [fetchRoot_preResolved e env master docs hf hd hdocs hnamed] at h
  cases (ok_of_optError h).2
  rw [← defPaths_eq_allDefinitions master hf hinc]
  exact tree_used_vars_exact master _ hf hinc (srcDotfree_denoteDocs env false docs hdocs) i

/-- **C06 with variables (the reported list, exactly).**  After a successful fetch, with pairwise
    distinct ids, an entry of `all_definitions(sources)` is reported as unused iff its path names no
    master definition AND no entry whose path names a master definition consulted it for its
    variables. -/
theorem unused_with_variables_exact (e : Envs) (env : Env) (master : List Obj) (docs : List (List Obj))
    (hf : TreeMaster master) (hd : depthL master ≤ 1000) (hinc : NoIncludeTree master)
    (hdocs : ∀ d ∈ docs, DocIds d) (hnamed : ScopesNamed docs.flatten)
    (hsome : ∀ x ∈ allDefinitions (docs.map (denoteDoc env false)).flatten, x.2.1.id ≠ none)
    (hids : ((allDefinitions (docs.map (denoteDoc env false)).flatten).map (fun x => x.2.1.id)).Nodup)
    (ro : Obj) (used : List Nat)
    (h : fetchRoot e false master (docs.map (preResolve env false)) = .ok (ro, used))
    (x : Str × Meta × List Word) :
    x ∈ C06.unusedOf (docs.map (denoteDoc env false)).flatten used ↔
      x ∈ allDefinitions (docs.map (denoteDoc env false)).flatten ∧
        x.1 ∉ (allDefinitions master).map (·.1) ∧
        ∀ y ∈ allDefinitions (docs.map (denoteDoc env false)).flatten,
          y.1 ∈ (allDefinitions master).map (·.1) →
            ∀ i, x.2.1.id = some i → i ∉ srcRefs (.defn y.2.1 y.2.2) :=
  unused_vars_exact _ _ used hsome hids
    (used_with_variables_exact e env master docs hf hd hinc hdocs hnamed ro used h) x

/-! ## non-vacuity: instances through the parser (replayed on the real freephil) -/

def noEnv : Env := fun _ => none

open Phil.C06 in
/-- master `a = 1 ; s { b = 2 ; c = 3 }` -/
def mT : List Obj := objsOf "a = 1\ns {\n  b = 2\n  c = 3\n}\n"

open Phil.C06 in
/-- source: helper `q`, a mixture, a chain of references through a dotted name, an undefined variable
    in a definition that names no master parameter, a single-quoted `$` -/
def sT : List Obj :=
  objsOf "q = 5 6\na = $q x$q\nr = 0\ns.b = $a\nz = $nope\ns {\n  c = $(s.b) '$q'\n}\n"

open Phil.C06 in
/-- source with two offending definitions: the error is that of the first in MASTER order (`a`,
    line 3), not in source order (`s.b`, line 2) -/
def sE : List Obj := objsOf "a = 7\ns.b = $nope\na = $alsonope\n"

section
attribute [local instance] objDecEq

theorem mT_eq : mT =
    [ .defn { name := "a".toList, id := some 1, line := some 1 } [wl "1" 1],
      .scope { name := "s".toList, id := some 2, line := some 2 } [
        .defn { name := "b".toList, id := some 3, line := some 3 } [wl "2" 3],
        .defn { name := "c".toList, id := some 4, line := some 4 } [wl "3" 4] ] ] := by
  unfold mT
  rw [C06.objsOf_ofList]
  decide +kernel

theorem sT_eq : sT =
    [ .defn { name := "q".toList, id := some 1, line := some 1 } [wl "5" 1, wl "6" 1],
      .defn { name := "a".toList, id := some 2, line := some 2 } [wl "$q" 2, wl "x$q" 2],
      .defn { name := "r".toList, id := some 3, line := some 3 } [wl "0" 3],
      .scope { name := "s".toList, id := some 4 } [
        .defn { name := "b".toList, id := some 4, line := some 4, mergeNames := true } [wl "$a" 4] ],
      .defn { name := "z".toList, id := some 5, line := some 5 } [wl "$nope" 5],
      .scope { name := "s".toList, id := some 6, line := some 6 } [
        .defn { name := "c".toList, id := some 7, line := some 7 }
          [wl "$(s.b)" 7, { value := "$q".toList, quote := some .s1, line := some 7 }] ] ] := by
  unfold sT
  rw [C06.objsOf_ofList]
  decide +kernel

theorem sE_eq : sE =
    [ .defn { name := "a".toList, id := some 1, line := some 1 } [wl "7" 1],
      .scope { name := "s".toList, id := some 2 } [
        .defn { name := "b".toList, id := some 2, line := some 2, mergeNames := true } [wl "$nope" 2] ],
      .defn { name := "a".toList, id := some 3, line := some 3 } [wl "$alsonope" 3] ] := by
  unfold sE
  rw [C06.objsOf_ofList]
  decide +kernel

end

theorem mT_tree : TreeMaster mT := treeMasterB_sound mT (by rw [mT_eq]; decide +kernel)

theorem mT_depth : depthL mT ≤ 1000 := by
  rw [mT_eq]
  decide +kernel

/-- every hypothesis of the theorems holds on the parsed instances -/
example : (treeMasterB mT && decide (depthL mT ≤ 1000) && docIdsB sT && scopesNamedB sT && freshB sT &&
    docIdsB sE && scopesNamedB sE &&
    decide (((allDefinitions (denoteDoc noEnv false sT)).map (fun x => x.2.1.id)).Nodup) &&
    (allDefinitions (denoteDoc noEnv false sT)).all (fun x => x.2.1.id.isSome)) = true := by
  rw [mT_eq, sT_eq, sE_eq]
  decide +kernel

/-- the specification on the instance: denoted words, consulted ids -/
example : (denote noEnv sT [1]).toOption.map (fun ws => ws.map (fun w => String.ofList w.value)) =
    some ["5", "6", "x5 6"] := by
  rw [sT_eq]
  decide +kernel
example : (refsAt sT [1], refsAt sT [3, 0], refsAt sT [5, 0]) = ([1, 1], [2, 1, 1], [4, 2, 1, 1]) := by
  rw [sT_eq]
  decide +kernel

/-- on the instance the annotation pass is the denoted document -/
example : preResolve noEnv false sT = denoteDoc noEnv false sT :=
  preResolve_is_denotation noEnv false sT ((docIdsB_iff_vs sT).mp (by rw [sT_eq]; decide +kernel))

/-- the model on the instance: result, consumed ids = `treeUsed` of the denoted document, reported
    list (`q` is consumed by reference, `r` and `z` are reported; Python: same values, unused
    `r (input line 3)`, `z (input line 5)`) -/
example :
    (match fetchRoot env12 false mT [denoteDoc noEnv false sT] with
     | .ok (ro, used) => some (C06.valsOf ro.children, used == treeUsed mT (denoteDoc noEnv false sT),
         (C06.unusedOf (denoteDoc noEnv false sT) used).map (fun (x : Str × Meta × List Word) => String.ofList x.1))
     | .error _ => none) =
      some ([("a", ["5", "6", "x5 6"]), ("s.b", ["5", "6", "x5 6"]), ("s.c", ["5", "6", "x5 6", "$q"])],
        true, ["r", "z"]) := by
  rw [mT_eq, sT_eq]
  decide +kernel

/-- the closed form applied to the instance -/
example : fetchRoot env12 false mT [preResolve noEnv false sT] =
    treeFetch { name := [], id := some 0 } mT (denoteDoc noEnv false sT) := by
  have h := fetch_with_variables env12 noEnv mT [sT] mT_tree mT_depth
    (by
      intro d hd
      rw [List.mem_singleton.mp hd]
      exact (docIdsB_iff_vs sT).mp (by rw [sT_eq]; decide +kernel))
    (scopesNamedB_sound _ (by
      simp only [List.flatten_cons, List.flatten_nil, List.append_nil]
      rw [sT_eq]
      decide +kernel))
  simpa using h

/-- the first offending definition in master order (Python: "Undefined variable: $alsonope (input line 3)") -/
example : (errOf (fetchRoot env12 false mT [preResolve noEnv false sE]),
    firstErr mT (denoteDoc noEnv false sE)) =
      (some (Err.runtime "undefined_variable" (some 3)), some (Err.runtime "undefined_variable" (some 3))) := by
  rw [mT_eq, sE_eq]
  decide +kernel

/-! ## the hypotheses are sharp (model-level shapes no parser output has) -/

/-- `DocIds` is needed for `preResolve_is_denotation`: with ids out of document order the operational
    lookup (which stops at the first object whose id reaches the stop id) misses `a`, the
    specification finds it -/
def badIds : List Obj :=
  [.defn { name := "x".toList, id := some 5 } [], .defn { name := "a".toList, id := some 1 } [{ value := "1".toList }],
   .defn { name := "b".toList, id := some 2 } [{ value := "$a".toList }]]

theorem docIds_needed : docIdsB badIds = false ∧
    (preResolve noEnv false badIds).map (·.meta.varRes) ≠ (denoteDoc noEnv false badIds).map (·.meta.varRes) := by
  decide +kernel

/-- `Fresh` is needed for `source_definition_is_denoted`: a resolution recorded before the pass on a
    `$`-free definition is kept by the pass and wins over the denotation -/
def stale : List Obj :=
  [.defn { name := "a".toList, id := some 1, varRes := some (.ok [{ value := "9".toList }] []) } [{ value := "1".toList }]]

theorem fresh_needed : docIdsB stale = true ∧ freshB stale = false ∧
    (denoteDoc noEnv false stale).map (·.srcWords) = [[{ value := "9".toList }]] ∧
    (denote noEnv stale [0]).toOption = some [{ value := "1".toList }] := by
  decide +kernel

/-- `ScopesNamed` is needed for the closed form: `get_without_substitution` looks through an enabled
    scope with an empty name, the specification does not -/
def unnamed : List Obj :=
  [.scope { name := [], id := some 1 } [.defn { name := "a".toList, id := some 2 } [{ value := "5".toList }]]]

open Phil.C06 in
theorem scopesNamed_needed : scopesNamedB unnamed = false ∧
    (fetchRoot env12 false (objsOf "a = 1\n") [unnamed]).toOption.map (fun r => valsOf r.1.children) = some [("a", ["5"])] ∧
    (treeFetch { name := [], id := some 0 } (objsOf "a = 1\n") unnamed).toOption.map (fun r => valsOf r.1.children)
      = some [("a", ["1"])] := by
  rw [C06.objsOf_ofList]
  decide +kernel

end Phil.C12Fetch

#print axioms Phil.C12Fetch.preResolve_is_denotation
#print axioms Phil.C12Fetch.preResolve_is_denotation_parsed
#print axioms Phil.C12Fetch.consulted_ids_spec
#print axioms Phil.C12Fetch.denote_errors_are_runtime
#print axioms Phil.C12Fetch.fetch_tree_vars_total
#print axioms Phil.C12Fetch.firstErr_without_resolution_errors
#print axioms Phil.C12Fetch.fetch_with_variables
#print axioms Phil.C12Fetch.fetch_with_variables_parsed
#print axioms Phil.C12Fetch.source_definition_is_denoted
#print axioms Phil.C12Fetch.last_value_wins_with_variables
#print axioms Phil.C12Fetch.fetched_value_env_irrelevant
#print axioms Phil.C12Fetch.fetched_value_ignores_later_definitions
#print axioms Phil.C12Fetch.used_with_variables_exact
#print axioms Phil.C12Fetch.unused_with_variables_exact
#print axioms Phil.C12Fetch.docIds_needed
#print axioms Phil.C12Fetch.fresh_needed
#print axioms Phil.C12Fetch.scopesNamed_needed
