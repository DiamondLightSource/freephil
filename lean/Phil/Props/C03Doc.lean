/-
  C03, document-context clause — a quoted literal inside a document is read back as exactly the
  original string, and nothing of it leaks into (or is swallowed from) the neighbouring definition.
  Property theorems only; lemmas are in Phil/Proofs/ParseLemmas.lean and Quote.lean; the document is one
  of the layout grammar (Phil/Proofs/Layout3.lean, LayoutAll.lean).
-/
import Phil.Props.C03
import Phil.Proofs.LayoutAll
namespace Phil.C03
open Phil

/-- Strongest stand-alone statement about the value collector: after `name =`, white space `sp`, the
    literal `quoteStr q s` and any following text `rest` that ends a value (`EndsValue`: end of input,
    or an unquoted word other than `;`/`#` on a later line) and does not begin with the quote
    character, `collect_assigned_words` returns exactly one word with text `s`, style `q`, and leaves
    `rest` untouched with the line counter advanced by the newlines of `s`. -/
theorem doc_quote_value (q : Quote) (s sp rest : Str) (l : Nat) (lead : Word)
    (hsp : ∀ d ∈ sp, isSpace d = true) (hrest : ∀ r, rest ≠ q.char :: r)
    (hend : EndsValue ⟨rest, l + nlCount sp + nlCount s⟩ (l + nlCount sp)) :
    collectAssigned ⟨sp ++ quoteStr q s ++ rest, l⟩ lead
      = .ok ([{ value := s, quote := some q, line := some (l + nlCount sp) }],
             ⟨rest, l + nlCount sp + nlCount s⟩) := by
  obtain ⟨_, rfl, h⟩ := collectAssigned_word (E := (· = ⟨rest, l + nlCount sp + nlCount s⟩)) sp
    ⟨s, some q, none⟩ rest l lead hsp rfl (.inr ⟨q, rfl, hrest⟩) nofun
    fun fuel acc _ hbs => ⟨_, rfl, cAA_stop fuel _ _ acc _ hend rfl hbs⟩
  exact h

/-- the two-line document of `doc_quote` as a document of the layout grammar of Phil/Proofs/Layout3.lean -/
def quoteDoc (q : Quote) (s : Str) : List (DefSpec × DefLayout3) :=
  [((['a'], [⟨s, some q, none⟩]), { gaps := [{ ws := [' '] }] }),
   ((['b'], [⟨['1'], none, none⟩]), { gaps := [{ ws := [' '] }], term := .eof })]

/-- C03, document context: for every string `s` and each of the four quote styles `q`, parsing the
    two-line document `a = <quote_python_str(q, s)>` / `b = 1` yields exactly two definitions; `a`
    has exactly one word whose text is `s` and whose style is `q`; `b` is intact (one word `1`) and
    its line number is `2 +` the number of newlines in `s`.  Nothing of `s` is lost, duplicated or
    swallowed into `b`, whatever characters it contains. -/
theorem doc_quote (q : Quote) (s : Str) :
    parseObjs ("a = ".toList ++ quoteStr q s ++ "\nb = 1".toList)
      = .ok [ .defn { name := ['a'], id := some 1, line := some 1 }
                [{ value := s, quote := some q, line := some 1 }],
              .defn { name := ['b'], id := some 2, line := some (2 + nlCount s) }
                [{ value := ['1'], quote := none, line := some (2 + nlCount s) }] ] := by
  -- the document is one of the layout grammar: single blanks, the first line ended by its newline
  have htext : "a = ".toList ++ quoteStr q s ++ "\nb = 1".toList = render3 (quoteDoc q s) {} .eof := by
    simp [quoteDoc, render3, defText3, wordsLay3, Gap.text, Word.str, Terminator.text, Pre3.text, segsStr,
      linesStr, DocEnd.text]
  rw [htext, parseObjs_render3 _ _ _ (by rfl)]
  simp [quoteDoc, parsedLay3, relineG, endLineG, Gap.text, Pre3.nl, Terminator.text, segsNl, nlCount_blank,
    nlCount_nl]
  omega

/-- Non-vacuity / sanity: a string with every troublesome character class. -/
example : parseObjs ("a = ".toList ++ quoteStr .s1 "x\n'\"\\ #{};=\n".toList ++ "\nb = 1".toList)
    = .ok [ .defn { name := ['a'], id := some 1, line := some 1 }
              [{ value := "x\n'\"\\ #{};=\n".toList, quote := some .s1, line := some 1 }],
            .defn { name := ['b'], id := some 2, line := some (2 + nlCount "x\n'\"\\ #{};=\n".toList) }
              [{ value := ['1'], quote := none,
                 line := some (2 + nlCount "x\n'\"\\ #{};=\n".toList) }] ] :=
  doc_quote _ _

end Phil.C03
