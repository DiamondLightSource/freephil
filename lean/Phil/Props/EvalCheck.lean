/-
  Results of type `R α` have no decidable equality.  A concrete test vector `f x = .ok v` (or `= .error e`)
  is recognised by a Boolean that the kernel evaluates: with `rfl` on the equation itself the elaborator
  evaluates it first and the kernel a second time.
-/
import Phil.Basic
namespace Phil

theorem ok_of_check {α : Type} [DecidableEq α] {r : R α} {v : α}
    (h : (match r with | .ok x => decide (x = v) | .error _ => false) = true) : r = .ok v := by
  cases r with
  | error _ => cases h
  | ok x => rw [of_decide_eq_true h]

theorem error_of_check {α : Type} {r : R α} {e : Err}
    (h : (match r with | .error x => decide (x = e) | .ok _ => false) = true) : r = .error e := by
  cases r with
  | ok _ => cases h
  | error x => rw [of_decide_eq_true h]

end Phil
