/-
  C17, the `format`, `clone` and variable-resolution clauses, on the object-identity model: purity of
  `scope.format(python_object)` as theorems about the heap-level model `formatH` (Phil/HeapFormat.lean), which follows
  common.py line by line for what the call ALLOCATES, WRITES and SHARES and is tied to /repo by the identity-graph
  correspondence `heap_format_graph` of ./check C17.

  * `formatH_frame`        — no existing cell is written (not even a `tmp` mark): the heap only grows;
  * `formatH_sharing`      — the shape of the result (`ResShape`): new cells all the way down, except below TEMPLATE
                              COPIES (`object.copy()` with `is_template = ±1` written to the NEW cell — seeded fault
                              C19-7 wrote the master's own object) of `.multiple` scopes, which hold the child list of
                              an old cell (finding D21 applies to `format` too: `format_template_children_are_reached`);
  * `formatH_old_only_through_templates` — exactly which old objects are reachable from the result;
  * `formatH_assign_frame` — any history of field assignments to NEW objects leaves every old object unchanged;
  * `formatRootH_pure`     — the same for `master.format(python_object)` of a parsed master (no hypothesis left);
  * `cloneH_frame`         — `scope.clone` = `parse(self.format(po).as_str(attributes_level=3)).extract()`: `format`,
                              then a NEW document (whatever the printer / parser make of the result), then extraction
                              (writes nothing of the PHIL heap: C18DetachPure): no existing cell is written;
  * `resolveVarsH_frame`   — `definition.resolve_variables`: ONE new cell (`customized_copy(words=new_words)`), the
                              referenced definitions are only marked `tmp`; no existing cell is written.

  Input class: every heap without dangling child / parent reference (`closedB`; every parsed document), every master
  object `x` in it, EVERY python value `v` (any `PVal`: records, lists, None, Auto, ill-typed ones), every fuel, every
  outcome `ok`.
-/
import Phil.Proofs.HeapFormatAbs
import Phil.Props.C17FetchHeap
namespace Phil.C17FormatHeap
open Phil Phil.Heap Phil.C17FetchHeap

/-! ### (1) frame -/

/-- **`format` writes no existing cell.**  After `x.format(python_object)` every cell that existed before holds what
    it held (all slots, the child list, the parent); cells were only added. -/
theorem formatH_frame (e : Envs) (fuel x : Nat) (v : PVal) (h h' : Heap) (r : Nat)
    (hc : closedB h = true) (hx : x < h.length)
    (hf : formatH e fuel x v h = .ok (h', r)) :
    (∃ ext, h' = h ++ ext) ∧ (∀ i, i < h.length → h'[i]? = h[i]?) := by
  have g := (formatH_spec e h.length fuel x v h h' r ⟨Nat.le_refl _, (closedB_sound hc).below⟩ hx hf).1
  exact ⟨g, fun i hi => g.get_lt hi⟩

/-! ### (2) sharing -/

/-- **The shape of a format result.**  The result is a new object; below it every object is new — a definition
    (`customized_copy(words=…)`, or the template copy of a `.multiple` definition), or a scope whose children are
    again such objects — until a template copy of a `.multiple` scope is met: a NEW cell that equals an OLD scope
    cell up to `is_template = ±1` (the flag is on the new cell; the old cell is unchanged by `formatH_frame`) and
    holds that cell's own child list. -/
theorem formatH_sharing (e : Envs) (fuel x : Nat) (v : PVal) (h h' : Heap) (r : Nat)
    (hc : closedB h = true) (hx : x < h.length)
    (hf : formatH e fuel x v h = .ok (h', r)) :
    ResShape h.length h' r :=
  (formatH_spec e h.length fuel x v h h' r ⟨Nat.le_refl _, (closedB_sound hc).below⟩ hx hf).2

/-- **Exactly which old objects are reachable from a format result**: those below the children of an old scope of
    which the result holds a template copy — nothing else of the master. -/
theorem formatH_old_only_through_templates (e : Envs) (fuel x : Nat) (v : PVal) (h h' : Heap) (r z : Nat)
    (hc : closedB h = true) (hx : x < h.length)
    (hf : formatH e fuel x v h = .ok (h', r))
    (hreach : KReach h' r z) (hz : z < h.length) :
    ∃ c y k, KReach h' r c ∧ TemplateCopyOf h.length h' c y ∧
      (∃ n, h[y]? = some n ∧ k ∈ n.kids) ∧ KReach h' k z :=
  resShape_old_only_through_templates (formatH_frame e fuel x v h h' r hc hx hf).1 hreach
    (formatH_sharing e fuel x v h h' r hc hx hf) hz

/-- a format result without template copies shares NO object with the master -/
theorem formatH_disjoint_without_templates (e : Envs) (fuel x : Nat) (v : PVal) (h h' : Heap) (r z : Nat)
    (hc : closedB h = true) (hx : x < h.length)
    (hf : formatH e fuel x v h = .ok (h', r))
    (hnt : ∀ c y, ¬ TemplateCopyOf h.length h' c y)
    (hreach : KReach h' r z) : h.length ≤ z :=
  resShape_disjoint_without_templates (formatH_frame e fuel x v h h' r hc hx hf).1
    (formatH_sharing e fuel x v h h' r hc hx hf) hnt hreach

/-! ### (3) assignments to the result -/

/-- **Assigning fields of a format result never changes the master.**  After ANY history of slot assignments whose
    targets are NEW objects every old cell is what it was and every old object denotes the tree it denoted. -/
theorem formatH_assign_frame (e : Envs) (fuel x : Nat) (v : PVal) (h h' : Heap) (r : Nat)
    (hc : closedB h = true) (hx : x < h.length)
    (hf : formatH e fuel x v h = .ok (h', r))
    (ops : List (Nat × Assign)) (hops : ∀ op ∈ ops, h.length ≤ op.1) :
    (∀ i, i < h.length → (assignMany h' ops)[i]? = h[i]?) ∧
    (∀ y o, y < h.length → Abs h y o → Abs (assignMany h' ops) y o) :=
  have hh := assignMany_frame hc (formatH_frame e fuel x v h h' r hc hx hf).2 ops hops
  ⟨hh.1, fun y _ hy => Abs.congr fun f => hh.2 f y hy⟩

/-! ### parsed masters -/

theorem formatRootH_start (e : Envs) (master : List Obj) (v : PVal) :
    closedB (formatRootH e master v).1 = true ∧ 0 < (formatRootH e master v).1.length := by
  refine ⟨(ofObjs_treeHeap master).closedB, ?_⟩
  show 0 < (ofObjs master).length
  rw [ofObjs_eq, cells_length]
  exact size_pos _

/-- **`master.format(python_object)` of a parsed master**: frame, shape of the result, assignment frame — no
    hypothesis beyond "the call returned". -/
theorem formatRootH_pure (e : Envs) (master : List Obj) (v : PVal) (h' : Heap) (r : Nat)
    (hf : (formatRootH e master v).2 = .ok (h', r)) :
    let h0 := (formatRootH e master v).1
    (∃ ext, h' = h0 ++ ext) ∧
    ResShape h0.length h' r ∧
    (∀ ops : List (Nat × Assign), (∀ op ∈ ops, h0.length ≤ op.1) →
      ∀ y o, y < h0.length → Abs h0 y o → Abs (assignMany h' ops) y o) := by
  intro h0
  obtain ⟨hc, hpos⟩ := formatRootH_start e master v
  have hf' : formatH e _ 0 v h0 = .ok (h', r) := hf
  refine ⟨(formatH_frame e _ 0 v h0 h' r hc hpos hf').1, formatH_sharing e _ 0 v h0 h' r hc hpos hf', ?_⟩
  intro ops hops y o hy ha
  exact (formatH_assign_frame e _ 0 v h0 h' r hc hpos hf' ops hops).2 y o hy ha

/-! ### `scope.clone` -/

/-- `self.clone(python_object)` on the heap: `self.format(python_object)`; the result is printed and the STRING is
    parsed — `reparse` stands for printer ∘ parser on what the result denotes (ANY function: the statement does not
    depend on it) —, which allocates a new document (`build`); `.extract()` of it makes python objects only
    (Phil/HeapExtract.lean, C18DetachPure: nothing of the PHIL heap is written).  Answers the final heap and the root
    of the new document. -/
def cloneH (e : Envs) (reparse : Obj → R (List Obj)) (fuel x : Nat) (v : PVal) (h : Heap) : R (Heap × Nat) :=
  match formatH e fuel x v h with
  | .error err => .error err
  | .ok (h1, r) =>
    match abs h1 r with
    | none => .error .outOfFuel
    | some o =>
      match reparse o with
      | .error err => .error err
      | .ok os => .ok (build (.scope { name := [] } os) none h1)

/-- **`clone` writes no existing cell**, and the document it extracts from is disjoint from everything old: a
    contiguous block of new cells closed under `objects` and `primary_parent_scope`. -/
theorem cloneH_frame (e : Envs) (reparse : Obj → R (List Obj)) (fuel x : Nat) (v : PVal) (h h' : Heap) (d : Nat)
    (hc : closedB h = true) (hx : x < h.length)
    (hf : cloneH e reparse fuel x v h = .ok (h', d)) :
    (∃ ext, h' = h ++ ext) ∧ (∀ i, i < h.length → h'[i]? = h[i]?) ∧ h.length ≤ d := by
  unfold cloneH at hf
  split at hf
  · cases hf
  · rename_i h1 r hfm
    split at hf
    · cases hf
    · split at hf
      · cases hf
      · rename_i os _
        simp only [Except.ok.injEq] at hf
        obtain ⟨⟨ext, rfl⟩, _⟩ := formatH_frame e fuel x v h h1 r hc hx hfm
        have : h' = (h ++ ext) ++ cells (.scope { name := [] } os) none (h ++ ext).length ∧ d = (h ++ ext).length := by
          exact ⟨(congrArg Prod.fst hf).symm, (congrArg Prod.snd hf).symm⟩
        obtain ⟨rfl, rfl⟩ := this
        refine ⟨⟨ext ++ cells (.scope { name := [] } os) none (h ++ ext).length, by rw [List.append_assoc]⟩, ?_, ?_⟩
        · intro i hi
          rw [List.append_assoc, List.getElem?_append_left hi]
        · rw [List.length_append]; omega

/-! ### `definition.resolve_variables` -/

/-- **`resolve_variables` returns a NEW definition; the referenced definitions are only marked `tmp`.**  No existing
    cell is written; the result is one new definition cell: the cell of `x` with the new words and
    `is_template = 0`; the marks are exactly `refs`, all of them definition cells. -/
theorem resolveVarsH_frame (x : Nat) (newWords : List Word) (refs : List Nat) (s s' : HS) (r : Nat)
    (hf : resolveVarsH x newWords refs s = .ok (s', r)) :
    (∃ m ws p, s.heap[x]? = some (.defn m ws p) ∧
      s'.heap = s.heap ++ [.defn { m with tmpl := 0 } newWords p] ∧ r = s.heap.length) ∧
    (∀ i, i < s.heap.length → s'.heap[i]? = s.heap[i]?) ∧
    s'.tmp = s.tmp ++ refs ∧ (∀ i ∈ refs, ∃ m ws p, s'.heap[i]? = some (.defn m ws p)) := by
  unfold resolveVarsH at hf
  split at hf
  · rename_i m ws p hcell
    split at hf
    · rename_i hall
      split at hf
      · cases hf
      · rename_i h1 c hcc
        obtain ⟨n, hn, rfl, rfl⟩ := customizedCopy_eq hcc
        simp only [Except.ok.injEq, Prod.mk.injEq] at hf
        obtain ⟨rfl, rfl⟩ := hf
        rw [hcell] at hn
        cases hn
        refine ⟨⟨m, ws, p, hcell, rfl, rfl⟩, ?_, rfl, ?_⟩
        · intro i hi
          exact List.getElem?_append_left hi
        · intro i hi
          have := List.all_eq_true.mp hall i hi
          unfold isDefnAt at this
          split at this
          · rename_i nd hnd
            cases nd with
            | defn m' ws' p' => exact ⟨m', ws', p', getElem?_append_some _ hnd⟩
            | scope m' ks' p' => simp [Node.isScope] at this
          · cases this
    · cases hf
  · cases hf

/-! ### witnesses (kernel-checked): the hypotheses are satisfiable, the D21 edge is sharp -/

/-- master `s .multiple=True { a = 1 } ; b = 2 ; t { c = 3 }` -/
def fMaster : String := "s\n  .multiple = True\n{\n  a = 1\n}\nb = 2\nt {\n  c = 3\n}\n"
def fSource : String := "s {\n  a = 5\n}\nb = 7\n"

/-- `master.format(master.fetch(source).extract())` on the heap of a fresh parse of the master -/
def fRun : Option (Heap × Heap × Nat) :=
  match parseObjs fMaster.toList, parseObjs fSource.toList with
  | .ok m, .ok s =>
    (match fetchRoot envNone false m [s] with
     | .ok (ro, _) =>
       (match extractObj envNone 1000 ro with
        | .ok v =>
          (match formatRootH envNone m v with
           | (h0, .ok (h', r)) => some (h0, h', r)
           | _ => none)
        | _ => none)
     | _ => none)
  | _, _ => none

theorem fRun_eq : fRun =
    (let h0 : Heap := [
      .scope { name := [] } [1, 3, 4] none,
      .scope { name := "s".toList, id := some 1, line := some 1, attrs := [("multiple", .bool true)] } [2]
        (some 0),
      .defn { name := "a".toList, id := some 2, line := some 4 } [{ value := "1".toList, line := some 4 }]
        (some 1),
      .defn { name := "b".toList, id := some 3, line := some 6 } [{ value := "2".toList, line := some 6 }]
        (some 0),
      .scope { name := "t".toList, id := some 4, line := some 7 } [5] (some 0),
      .defn { name := "c".toList, id := some 5, line := some 8 } [{ value := "3".toList, line := some 8 }]
        (some 4)]
     some (h0, h0 ++ [
      .scope
        { name := "s".toList, id := some 1, line := some 1, tmpl := -1, attrs := [("multiple", .bool true)] }
        [2] (some 0),
      .defn { name := "a".toList, id := some 2, line := some 4 }
        [{ value := "5".toList, quote := some .d1 }] (some 1),
      .scope { name := "s".toList, id := some 1, line := some 1, attrs := [("multiple", .bool true)] } [7]
        (some 0),
      .defn { name := "b".toList, id := some 3, line := some 6 }
        [{ value := "7".toList, quote := some .d1 }] (some 0),
      .defn { name := "c".toList, id := some 5, line := some 8 }
        [{ value := "3".toList, quote := some .d1 }] (some 4),
      .scope { name := "t".toList, id := some 4, line := some 7 } [10] (some 0),
      .scope { name := [] } [6, 8, 9, 11] none], 12)) := by
  decide +kernel

/-- the run returns: `formatRootH_pure` applies -/
example : fRun.isSome = true := by
  rw [fRun_eq]
  decide +kernel

/-- the hypotheses of the theorems hold on this run -/
example : fRun.map (fun x => (closedB x.1, decide (0 < x.1.length))) = some (true, true) := by
  rw [fRun_eq]
  decide +kernel

/-- 6 old cells (root 0, s 1, a 2, b 3, t 4, c 5); the result (12) has four children: the template copy of `s`
    (6, `is_template = -1`) whose child list is `[2]` — the MASTER's own `a` —, the instance (8, child 7: new),
    `b` (9) and `t` (11, child 10: new).  The master's `s` keeps `is_template = 0`. -/
theorem format_template_children_are_reached :
    fRun.map (fun x => (x.2.1[x.2.2]?.map Node.kids, x.2.1[6]?.map Node.kids, x.1[1]?.map Node.kids)) =
    some (some [6, 8, 9, 11], some [2], some [2]) := by
  rw [fRun_eq]
  decide +kernel

theorem format_witness_run :
    fRun.map (fun x => (x.1.length, x.2.1.length, x.2.2)) = some (6, 13, 12) := by
  rw [fRun_eq]
  decide +kernel

theorem format_witness_template_flag :
    fRun.map (fun x => (x.2.1[6]?.map (fun n => n.meta.tmpl), x.2.1[1]?.map (fun n => n.meta.tmpl),
      x.2.1[8]?.map Node.kids)) = some (some (-1 : Int), some (0 : Int), some [7]) := by
  rw [fRun_eq]
  decide +kernel

/-- **D21 for `format`, the stated exception of `formatH_assign_frame` is sharp**: cell 2 is reachable from the
    result (through the template copy 6) and is OLD; assigning a field of it changes what the master's `s` (cell 1)
    denotes — whereas the same assignment to the new instance's child (7) does not. -/
theorem format_assignment_below_template_leaks :
    fRun.map (fun x =>
      (decide (C17Heap.childSlots (assign x.2.1 2 C17Heap.setCaption) 1 ≠ C17Heap.childSlots x.1 1),
       decide (C17Heap.childSlots (assign x.2.1 7 C17Heap.setCaption) 1 = C17Heap.childSlots x.1 1))) =
    some (true, true) := by
  rw [fRun_eq]
  decide +kernel

/-- `closedB` costs nothing: on a heap with a dangling child the heap-level format does not return -/
theorem formatH_dangling_fails :
    (match formatH envNone 3 0 .none [.scope { name := [] } [5] none] with
     | .ok _ => false
     | .error _ => true) = true := by
  decide +kernel

/-- `resolveVarsH_frame` is not vacuous: `b = $a` resolved against `a = 1` (cell 1): one new cell, cell 1 marked -/
example : (match resolveVarsH 2 [{ value := "1".toList }] [1]
      { heap := [.scope { name := [] } [1, 2] none, .defn { name := "a".toList } [{ value := "1".toList }] (some 0),
                 .defn { name := "b".toList } [{ value := "$a".toList }] (some 0)], tmp := [] } with
    | .ok (s', r) => (s'.heap.length, s'.tmp, r) == (4, [1], 3)
    | .error _ => false) = true := by
  decide +kernel

end Phil.C17FormatHeap

#print axioms Phil.C17FormatHeap.formatH_frame
#print axioms Phil.C17FormatHeap.formatH_sharing
#print axioms Phil.C17FormatHeap.formatH_old_only_through_templates
#print axioms Phil.C17FormatHeap.formatH_disjoint_without_templates
#print axioms Phil.C17FormatHeap.formatH_assign_frame
#print axioms Phil.C17FormatHeap.formatRootH_start
#print axioms Phil.C17FormatHeap.formatRootH_pure
#print axioms Phil.C17FormatHeap.cloneH_frame
#print axioms Phil.C17FormatHeap.resolveVarsH_frame
#print axioms Phil.C17FormatHeap.format_template_children_are_reached
#print axioms Phil.C17FormatHeap.format_witness_template_flag
#print axioms Phil.C17FormatHeap.format_witness_run
#print axioms Phil.C17FormatHeap.format_assignment_below_template_leaks
#print axioms Phil.C17FormatHeap.formatH_dangling_fails
