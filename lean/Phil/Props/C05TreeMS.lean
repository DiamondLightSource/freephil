/-
  C05 (NESTED masters WITH `.multiple` SCOPES) — "multiples accumulate": the list rule for `.multiple`
  scopes, at every depth and for `.multiple` scopes nested in `.multiple` scopes; with the companions
  for the same class of C04, C06 and C07 (namespaces `Phil.C05`, `Phil.C04`, `Phil.C06`, `Phil.C07`).

  Model: Phil/Fetch.lean (`fetchScope`/`fetchRoot`).  Lemmas: Phil/Proofs/FetchTreeMS.lean, which extends
  Phil/Proofs/FetchTreeMulti.lean (nested masters whose DEFINITIONS may be `.multiple`).

  Class covered (unbounded: every such master, every such source list, every adequate fuel):
    * master: `MSMaster` — a TREE of enabled scopes to any depth, each `.multiple` or not, a
      `.multiple` one optional or mandatory (`.optional = False`), `.multiple` scopes nested in
      `.multiple` scopes allowed; definitions enabled, not `.deprecated`, not choices, typed or not,
      `.multiple` or not; names non-empty and dot-free, sibling names pairwise distinct — hence ONE
      master occurrence per name (further master occurrences of a `.multiple` object stay outside).
      Non-diff mode; fetched at the root or as a sub-scope.
    * sources: arbitrary lists of definitions and scopes to any depth, enabled or disabled, repeated
      or not, dotted or braced, unknown names (`SrcTree`).
    * keys: `KeysDefinedMS e mkids srcs` — `extract_format` succeeds on every rendering the list rule
      compares (it fails e.g. on `x` for an `int`); `eval` and `"%.10g"` stay abstract (`Envs`).
      The rendering of a block does not depend on the fuel (`rendering_fuel_independent`), so the
      specification is fuel-free (`keyMS`).
    * fuel: `depthL mkids + 1 ≤ fuel`; `fetchRoot` provides it for masters nested ≤ 1000 deep.
  Specification (structural recursion on the master tree):
    `msBlock e mo srcs` — what the master child `mo` contributes, given the source objects at its level:
        a definition — as in Props/C05TreeMulti.lean (`tmBlock`);
        a non-multiple scope — itself, rebuilt from the children of ALL enabled source scopes of its
        name (`srcStep`);
        a `.multiple` scope — `msMultiBlock`: the template (the master scope itself with flag `1` if
        nothing survives, else `-1`; for a mandatory scope the master's own fetched block
        `msResult e kids []`, flag `0`, first) followed by the `dedupKeepLast` survivors among the
        candidates whose key differs from the key of the master's own fetched block, the candidates
        being `msResult e kids s.children` for the enabled source scopes `s` of its name in document
        order — each instance is the recursive fetch of the body against that ONE source block;
    `msResult e mkids srcs` — the concatenation of the blocks in master order;
    `msUsed`, `msNoClash` — consumed ids and the clash test, instance by instance.
  Facts:
    * C05 `fetch_ms_total` (a TOTAL description: result + consumed ids, or "incompatible"),
      `multiple_scope_list_rule`, `multiple_scope_candidate`, `result_view`; sharpness of
      `KeysDefinedMS`: `keysDefined_needed` (kernel-checked, replayed on Python);
    * C04 `ms_result_blocks`, `ms_block_members`, `ms_plain_exactly_once`, `ms_result_paths`;
    * C06 `ms_used_exact`, `ms_unused_exact`, `reported_iff_ms`, `fetchRoot_ms_unused_exact`;
    * C07 `ms_refetch_idempotent` (full strength, no hypothesis on renderings), `msResult_idempotent`,
      `master_as_source`, `ms_fetch_master_itself`, `refetch_hypotheses_ms`.
  Not covered: further master occurrences of a `.multiple` object (sibling names are pairwise
  distinct here), diff mode.
  Validation of the specification against the real library BEFORE proving: 500 random instances
  (scratch generator: depth ≤ 3, `.multiple` scopes nested in each other, mandatory ones, `.multiple`
  definitions, bool/int/str/untyped values with non-canonical spellings; sources dotted/braced,
  repeated, disabled, unknown names, clashes): 425 results equal (225 of them with the reported unused
  list compared as well), 75 clash errors agree, 0 mismatches; the model agreed with the specification
  on all of them.  Python idempotence probe on the same generator: 510 of 510 fetched results are
  fixed points (as object and as re-parsed text).  After proving: 300 fresh instances, 264 results
  equal (147 with the unused list), 36 clash errors agree, 0 mismatches; `M.fetch(M) = M.fetch()` on
  400 of 400 random masters of the class.
-/
import Phil.Proofs.FetchTreeMS
import Phil.Props.C05TreeMulti

namespace Phil.C05
open Phil

/-! ### the closed form -/

/-- **Closed form of the fetch of a nested master with `.multiple` scopes (total).**  With fuel beyond
    the nesting depth and defined keys, the fetch succeeds exactly when no enabled source scope sits
    where the master has a definition and no enabled source definition where the master has a scope —
    at every depth and inside every instance of a `.multiple` scope (`msNoClash`); its result is
    `msResult`, the consumed ids are `msUsed` (in this order); otherwise it raises RuntimeError
    ("incompatible"). -/
theorem fetch_ms_total (e : Envs) (fuel : Nat) (sm : Meta) (mkids srcs : List Obj)
    (hf : MSMaster mkids) (hfuel : depthL mkids + 1 ≤ fuel) (hsd : sm.disabled = false)
    (hsrc : SrcTree srcs) (hkeys : KeysDefinedMS e mkids srcs) :
    fetchScope e fuel false sm mkids srcs =
      if msNoClash mkids srcs then
        .ok (.scope { sm with tmpl := 0 } (msResult e mkids srcs), msUsed mkids srcs)
      else .error (.runtime "incompatible" none) :=
  Phil.fetch_ms_total e fuel sm mkids srcs hf hfuel hsd hsrc hkeys

/-- **`master.fetch(sources)`** on parsed roots: the fuel `fetchRoot` computes is adequate. -/
theorem fetchRoot_ms (e : Envs) (master : List Obj) (ss : List (List Obj))
    (hf : MSMaster master) (hd : depthL master ≤ 1000) (hsrc : SrcTree ss.flatten)
    (hkeys : KeysDefinedMS e master ss.flatten) :
    fetchRoot e false master ss =
      if msNoClash master ss.flatten then
        .ok (.scope { name := [], id := some 0 } (msResult e master ss.flatten), msUsed master ss.flatten)
      else .error (.runtime "incompatible" none) :=
  fetch_ms_total e _ _ master ss.flatten hf (fetchRoot_fuel_tree master hd) rfl hsrc hkeys

/-- … with the side conditions in executable form (`masterCheck_ms`, `srcCheck`, `keysDefinedMSB`) -/
theorem fetchRoot_ms_checked (e : Envs) (master : List Obj) (ss : List (List Obj))
    (hm : masterCheck_ms master = true) (hs : srcCheck ss.flatten = true)
    (hk : keysDefinedMSB e master ss.flatten = true) :
    fetchRoot e false master ss =
      if msNoClash master ss.flatten then
        .ok (.scope { name := [], id := some 0 } (msResult e master ss.flatten), msUsed master ss.flatten)
      else .error (.runtime "incompatible" none) :=
  have hM := masterCheck_ms_sound master hm
  fetchRoot_ms e master ss hM.tree hM.depth (srcCheck_sound ss.flatten hs).tree
    (keysDefinedMSB_sound e master _ hk)

/-- the class extends that of Props/C05TreeMulti.lean -/
theorem treeMultiMaster_is_msMaster (mkids : List Obj) (h : TreeMultiMaster mkids) : MSMaster mkids :=
  h.toMS

/-- **the rendering `master.extract_format(source=c).as_str()` does not depend on the fuel** beyond the
    nesting depths of master and candidate — why the specification can be fuel-free -/
theorem rendering_fuel_independent (e : Envs) (f1 f2 : Nat) (mo c : Obj)
    (hm1 : depthT mo < f1) (hm2 : depthT mo < f2) (hc1 : depthT c < f1) (hc2 : depthT c < f2) :
    extractFormatStr e f1 mo c = extractFormatStr e f2 mo c :=
  extractFormatStr_fuel_ms e f1 f2 mo c hm1 hm2 hc1 hc2

/-- the result is nested no deeper than the master -/
theorem result_depth (e : Envs) (mkids srcs : List Obj) : depthL (msResult e mkids srcs) ≤ depthL mkids :=
  depthL_msResult e mkids srcs

/-! ### C05: the list rule for `.multiple` scopes -/

/-- **The list rule for a `.multiple` scope** (the specification spelled out).  The block of the
    `.multiple` master scope `.scope mm kids` is: the template — for a mandatory scope
    (`.optional = False`) the master's own fetched block, live (flag 0), else the master scope itself
    flagged `1` (nothing survives) or `-1` — followed by the survivors of the candidates
    `msResult e kids s.children`, `s` ranging over the enabled source scopes of that name in document
    order: candidates whose rendering equals that of the master's own fetched block are dropped, of
    candidates with equal renderings only the LAST stays (`dedupKeepLast`). -/
theorem multiple_scope_list_rule (e : Envs) (mm : Meta) (kids srcs : List Obj)
    (hmult : (mm.attrs.get "multiple").truthy = true) :
    msBlock e (.scope mm kids) srcs =
      (if ((Obj.scope mm kids).attr "optional").mandatory
        then withTmpl (.scope { mm with tmpl := 0 } (msResult e kids [])) 0
        else withTmpl (.scope mm kids)
          (if (dedupKeepLast (((scopesNamed mm.name srcs).map (msCK e mm kids)).filter
                (fun y => y.2 != keyMS e (.scope mm kids) (.scope { mm with tmpl := 0 } (msResult e kids [])))
              )).isEmpty then 1 else -1)) ::
      (dedupKeepLast (((scopesNamed mm.name srcs).map (msCK e mm kids)).filter
        (fun y => y.2 != keyMS e (.scope mm kids) (.scope { mm with tmpl := 0 } (msResult e kids []))))).map
        (·.1) := by
  rw [msBlock_multi_eq e mm kids srcs hmult]
  rfl

/-- each candidate is the recursive fetch of the body against ONE source block, with its rendering -/
theorem multiple_scope_candidate (e : Envs) (mm : Meta) (kids : List Obj) (s : Obj) :
    msCK e mm kids s =
      (.scope { mm with tmpl := 0 } (msResult e kids s.children),
       keyMS e (.scope mm kids) (.scope { mm with tmpl := 0 } (msResult e kids s.children))) := rfl

/-- a non-multiple scope: rebuilt from the children of ALL enabled source scopes of its name -/
theorem plain_scope_block (e : Envs) (mm : Meta) (kids srcs : List Obj)
    (hmult : (mm.attrs.get "multiple").truthy = false) :
    msBlock e (.scope mm kids) srcs =
      [.scope { mm with tmpl := 0 } (msResult e kids (srcStep srcs mm.name))] := by
  rw [msBlock]; simp only [hmult, Bool.false_eq_true, if_false]

/-- a definition: as for masters without `.multiple` scopes -/
theorem defn_block (e : Envs) (mm : Meta) (mws : List Word) (srcs : List Obj) :
    msBlock e (.defn mm mws) srcs = tmBlock e (.defn mm mws) srcs := by
  rw [msBlock]

/-- the whole result: the blocks in master order -/
theorem msResult_eq (e : Envs) (mkids srcs : List Obj) :
    msResult e mkids srcs = mkids.flatMap (fun mo => msBlock e mo srcs) :=
  msResult_eq_flatMap e srcs mkids

/-- **what stands under the name of a master child in the result**: exactly its block (so every
    non-multiple name stands exactly once per enclosing instance, `.multiple` ones as the rule says) -/
theorem result_view (e : Envs) (fuel : Nat) (sm : Meta) (mkids srcs : List Obj)
    (hf : MSMaster mkids) (hfuel : depthL mkids + 1 ≤ fuel) (hsd : sm.disabled = false)
    (hsrc : SrcTree srcs) (hkeys : KeysDefinedMS e mkids srcs) (ro : Obj) (used : List Nat)
    (h : fetchScope e fuel false sm mkids srcs = .ok (ro, used)) (mo : Obj) (hmo : mo ∈ mkids) :
    activeNamed mo.name ro.children = msBlock e mo srcs := by
  obtain ⟨_, hro, _⟩ := ok_of_total (fetch_ms_total e fuel sm mkids srcs hf hfuel hsd hsrc hkeys) h
  subst hro
  exact view_ms e mkids srcs hf mo hmo

/-! ### non-vacuity: a nested instance through the parser -/

/-- master: `a = 1 (int)`; `s` — a `.multiple` scope holding `b = yes (bool)` and a `.multiple`
    scope `t` holding the `.multiple` definition `c = x`; `u` — a mandatory `.multiple` scope
    holding `d = 2 (int)` -/
def msM : List Obj := tmObjs "a = 1\n.type=int\ns\n.multiple=True\n{\n  b = yes\n  .type=bool\n  t\n  .multiple=True\n  {\n    c = x\n    .multiple=True\n  }\n}\nu\n.multiple=True\n.optional=False\n{\n  d = 2\n  .type=int\n}\n"

/-- sources: `s` three times enabled (the first and the third differ only by a repeated inner
    instance, so they collapse onto the third; the second, `b = True`, is the default `yes` and
    contributes only through the dotted `s.t.c = z` — a separate block) and once disabled; `u` twice,
    the second equal to the default; unknown names `zz`, `s.q` -/
def msS : List Obj :=
  tmObjs "s {\n  b = no\n  t { c = y }\n  t { c = y }\n}\ns { b = True }\ns.t.c = z\ns {\n  b = no\n  t { c = y }\n}\nu { d = 3 }\nu.d = 2\nzz = 1\ns.q = 1\n!s { b = no }\n"

section
attribute [local instance] objDecEq

theorem msM_eq : msM =
    [
      .defn { name := "a".toList, id := some 1, line := some 1, attrs := [("type", .conv (.int {}))] }
        [{ value := "1".toList, line := some 1 }],
      .scope { name := "s".toList, id := some 2, line := some 3, attrs := [("multiple", .bool true)] } [
        .defn { name := "b".toList, id := some 3, line := some 6, attrs := [("type", .conv .bool)] }
          [{ value := "yes".toList, line := some 6 }],
        .scope { name := "t".toList, id := some 4, line := some 8, attrs := [("multiple", .bool true)] } [
          .defn { name := "c".toList, id := some 5, line := some 11, attrs := [("multiple", .bool true)] }
            [{ value := "x".toList, line := some 11 }]]],
      .scope
        { name := "u".toList, id := some 6, line := some 15,
          attrs := [("multiple", .bool true), ("optional", .bool false)] } [
        .defn { name := "d".toList, id := some 7, line := some 19, attrs := [("type", .conv (.int {}))] }
          [{ value := "2".toList, line := some 19 }]]] := by
  unfold msM
  rw [tmObjs_ofList]
  decide +kernel

theorem msS_eq : msS =
    [
      .scope { name := "s".toList, id := some 1, line := some 1 } [
        .defn { name := "b".toList, id := some 2, line := some 2 }
          [{ value := "no".toList, line := some 2 }],
        .scope { name := "t".toList, id := some 3, line := some 3 } [
          .defn { name := "c".toList, id := some 4, line := some 3 }
            [{ value := "y".toList, line := some 3 }]],
        .scope { name := "t".toList, id := some 5, line := some 4 } [
          .defn { name := "c".toList, id := some 6, line := some 4 }
            [{ value := "y".toList, line := some 4 }]]],
      .scope { name := "s".toList, id := some 7, line := some 6 } [
        .defn { name := "b".toList, id := some 8, line := some 6 }
          [{ value := "True".toList, line := some 6 }]],
      .scope { name := "s".toList, id := some 9 } [
        .scope { name := "t".toList, id := some 9, mergeNames := true } [
          .defn { name := "c".toList, id := some 9, line := some 7, mergeNames := true }
            [{ value := "z".toList, line := some 7 }]]],
      .scope { name := "s".toList, id := some 10, line := some 8 } [
        .defn { name := "b".toList, id := some 11, line := some 9 }
          [{ value := "no".toList, line := some 9 }],
        .scope { name := "t".toList, id := some 12, line := some 10 } [
          .defn { name := "c".toList, id := some 13, line := some 10 }
            [{ value := "y".toList, line := some 10 }]]],
      .scope { name := "u".toList, id := some 14, line := some 12 } [
        .defn { name := "d".toList, id := some 15, line := some 12 }
          [{ value := "3".toList, line := some 12 }]],
      .scope { name := "u".toList, id := some 16 } [
        .defn { name := "d".toList, id := some 16, line := some 13, mergeNames := true }
          [{ value := "2".toList, line := some 13 }]],
      .defn { name := "zz".toList, id := some 17, line := some 14 }
        [{ value := "1".toList, line := some 14 }],
      .scope { name := "s".toList, id := some 18 } [
        .defn { name := "q".toList, id := some 18, line := some 15, mergeNames := true }
          [{ value := "1".toList, line := some 15 }]],
      .scope { name := "s".toList, id := some 19, disabled := true, line := some 16 } [
        .defn { name := "b".toList, id := some 20, line := some 16 }
          [{ value := "no".toList, line := some 16 }]]] := by
  unfold msS
  rw [tmObjs_ofList]
  decide +kernel

end

mutual
def dumpObjMS (pre : String) : Obj → List String
  | .defn m ws => ["D " ++ pre ++ String.ofList m.name ++ " " ++ toString m.tmpl ++ " " ++
      "|".intercalate (ws.map (fun w => String.ofList w.value))]
  | .scope m kids => ("S " ++ pre ++ String.ofList m.name ++ " " ++ toString m.tmpl) ::
      dumpListMS (pre ++ String.ofList m.name ++ ".") kids
/-- every object of a tree in document order: kind, dotted path, template flag, words -/
def dumpListMS (pre : String) : List Obj → List String
  | [] => []
  | o :: os => dumpObjMS pre o ++ dumpListMS pre os
end

/-- the parsed instance satisfies every hypothesis -/
example : (msM.length == 3 && msS.length == 9 && masterCheck_ms msM && srcCheck msS &&
    keysDefinedMSB envTm msM msS && msNoClash msM msS && depthL msM == 2) = true := by
  rw [msM_eq, msS_eq]
  decide +kernel

theorem msInst_master : masterCheck_ms msM = true := by
  rw [msM_eq]
  decide +kernel

theorem msInst_src : srcCheck msS = true := by
  rw [msS_eq]
  decide +kernel

theorem msInst_keys : keysDefinedMSB envTm msM msS = true := by
  rw [msM_eq, msS_eq]
  decide +kernel

theorem msInst_noClash : msNoClash msM msS = true := by
  rw [msM_eq, msS_eq]
  decide +kernel

/-- the specification on the instance — the real library returns exactly this tree (replayed) -/
example : dumpListMS "" (msResult envTm msM msS) =
    ["D a 0 1",
     "S s -1", "D s.b 0 yes", "S s.t 0", "D s.t.c 0 x",
     "S s 0", "D s.b 0 yes", "S s.t -1", "D s.t.c 0 x", "S s.t 0", "D s.t.c -1 x", "D s.t.c 0 z",
     "S s 0", "D s.b 0 no", "S s.t -1", "D s.t.c 0 x", "S s.t 0", "D s.t.c -1 x", "D s.t.c 0 y",
     "S u 0", "D u.d 0 2", "S u 0", "D u.d 0 3"] := by
  rw [msM_eq, msS_eq]
  decide +kernel

/-- the theorem applied to the instance (hypotheses discharged by kernel evaluation): the model's
    fetch is the specification, and the reported unused list is `zz`, `s.q` -/
example : fetchRoot envTm false msM [msS] =
    .ok (.scope { name := [], id := some 0 } (msResult envTm msM msS), msUsed msM msS) := by
  have hfl : ([msS] : List (List Obj)).flatten = msS := by simp
  have h := fetchRoot_ms_checked envTm msM [msS] msInst_master (by rw [hfl]; exact msInst_src)
    (by rw [hfl]; exact msInst_keys)
  rw [hfl] at h
  rw [h, msInst_noClash]
  rfl

example : (C06.unusedOf msS (msUsed msM msS)).map (fun x => String.ofList x.1) = ["zz", "s.q"] := by
  rw [msM_eq, msS_eq]
  decide +kernel

/-- a source definition where the master has a `.multiple` scope, and a source scope where the body
    of a `.multiple` scope has a definition: `msNoClash` is false and the fetch fails -/
example : (msNoClash msM (tmObjs "s = 1\n"), errOf (fetchRoot envTm false msM [tmObjs "s = 1\n"]),
    msNoClash msM (tmObjs "s { b { x = 1 } }\n"),
    errOf (fetchRoot envTm false msM [tmObjs "s { b { x = 1 } }\n"])) =
      (false, some (.runtime "incompatible" none), false, some (.runtime "incompatible" none)) := by
  rw [msM_eq, tmObjs_ofList, tmObjs_ofList]
  decide +kernel

/-- **the hypothesis `KeysDefinedMS` is sharp**: a source value that does not convert (`maybe` for
    the `bool` inside the `.multiple` scope `s`) makes a rendering undefined — the executable check
    says so, nothing clashes, and the fetch raises the converter's RuntimeError instead of returning
    the specification (replayed on the real library: `RuntimeError: One True or False value expected,
    s.b="maybe" found (input line 1)`) -/
theorem keysDefined_needed :
    keysDefinedMSB envTm msM (tmObjs "s.b = maybe\n") = false ∧
      msNoClash msM (tmObjs "s.b = maybe\n") = true ∧
      errOf (fetchRoot envTm false msM [tmObjs "s.b = maybe\n"]) = some (.runtime "bool_expected" (some 1)) := by
  rw [msM_eq, tmObjs_ofList]
  decide +kernel

end Phil.C05

namespace Phil.C04
open Phil

/-- **C04: the result is the master's blocks in the master's order**, and every object of a block
    is a copy of its master object: same name, same kind, enabled, same attributes (so the result
    contains no parameter, scope or attribute the master does not declare). -/
theorem ms_result_blocks (e : Envs) (fuel : Nat) (sm : Meta) (mkids srcs : List Obj)
    (hf : MSMaster mkids) (hfuel : depthL mkids + 1 ≤ fuel) (hsd : sm.disabled = false)
    (hsrc : SrcTree srcs) (hkeys : KeysDefinedMS e mkids srcs) (ro : Obj) (used : List Nat)
    (h : fetchScope e fuel false sm mkids srcs = .ok (ro, used)) :
    ro.children = mkids.flatMap (fun mo => msBlock e mo srcs) ∧
      ∀ mo ∈ mkids, ∀ o ∈ msBlock e mo srcs,
        o.name = mo.name ∧ o.isDefn = mo.isDefn ∧ o.meta.disabled = false ∧ o.meta.attrs = mo.meta.attrs := by
  obtain ⟨_, hro, _⟩ := ok_of_total (fetch_ms_total e fuel sm mkids srcs hf hfuel hsd hsrc hkeys) h
  subst hro
  refine ⟨msResult_eq_flatMap e srcs mkids, ?_⟩
  intro mo hmo o ho
  have hm := msBlock_member_ms e mo srcs o ho
  exact ⟨hm.1, hm.2.2.1, by rw [hm.2.1]; exact (hf.obj mo hmo).enabled, hm.2.2.2⟩

/-- the same holds at every depth: the children of a result scope are `msResult` of the master
    scope's body (unfold `msBlock`), to which `ms_result_blocks`' second half applies again -/
theorem ms_block_members (e : Envs) (mo : Obj) (srcs : List Obj) (o : Obj) (ho : o ∈ msBlock e mo srcs) :
    o.name = mo.name ∧ o.isDefn = mo.isDefn ∧ o.meta.disabled = mo.meta.disabled ∧
      o.meta.attrs = mo.meta.attrs :=
  have hm := msBlock_member_ms e mo srcs o ho
  ⟨hm.1, hm.2.2.1, hm.2.1, hm.2.2.2⟩

/-- **every non-multiple name stands exactly once per enclosing instance** -/
theorem ms_plain_exactly_once (e : Envs) (fuel : Nat) (sm : Meta) (mkids srcs : List Obj)
    (hf : MSMaster mkids) (hfuel : depthL mkids + 1 ≤ fuel) (hsd : sm.disabled = false)
    (hsrc : SrcTree srcs) (hkeys : KeysDefinedMS e mkids srcs) (ro : Obj) (used : List Nat)
    (h : fetchScope e fuel false sm mkids srcs = .ok (ro, used)) (mo : Obj) (hmo : mo ∈ mkids)
    (hnm : isMultiple mo = false) :
    (activeNamed mo.name ro.children).length = 1 := by
  rw [C05.result_view e fuel sm mkids srcs hf hfuel hsd hsrc hkeys ro used h mo hmo]
  exact msBlock_plain_length e mo srcs hnm

/-- the result declares exactly the master's parameter paths (inside `.multiple` objects possibly
    several times): no path is lost, none is invented -/
theorem ms_result_paths (e : Envs) (fuel : Nat) (sm : Meta) (mkids srcs : List Obj)
    (hf : MSMaster mkids) (hfuel : depthL mkids + 1 ≤ fuel) (hsd : sm.disabled = false)
    (hsrc : SrcTree srcs) (hkeys : KeysDefinedMS e mkids srcs) (ro : Obj) (used : List Nat)
    (h : fetchScope e fuel false sm mkids srcs = .ok (ro, used)) (q : Str) :
    q ∈ defPaths ro.children [] ↔ q ∈ defPaths mkids [] := by
  obtain ⟨_, hro, _⟩ := ok_of_total (fetch_ms_total e fuel sm mkids srcs hf hfuel hsd hsrc hkeys) h
  subst hro
  exact mem_defPaths_msResult e mkids srcs [] q

example : ((defPaths C05.msM []).map String.ofList,
    ((defPaths (msResult C05.envTm C05.msM C05.msS) []).eraseDups).map String.ofList) =
    (["a", "s.b", "s.t.c", "u.d"], ["a", "s.b", "s.t.c", "u.d"]) := by
  rw [C05.msM_eq, C05.msS_eq]
  decide +kernel

end Phil.C04

namespace Phil.C06
open Phil

/-- **Consumed ids, exactly.**  Whenever the fetch succeeds, `i` is consumed iff it is the id of an
    entry of `all_definitions(sources)` whose dotted path is the path of a master definition —
    inside `.multiple` scopes too, whichever instance it belongs to and whether or not that instance
    survives the list rule. -/
theorem ms_used_exact (e : Envs) (fuel : Nat) (sm : Meta) (mkids srcs : List Obj)
    (hf : MSMaster mkids) (hfuel : depthL mkids + 1 ≤ fuel) (hsd : sm.disabled = false)
    (hinc : NoIncludeTree mkids) (hsrc : SrcTree srcs) (hs : SrcPlain srcs)
    (hkeys : KeysDefinedMS e mkids srcs) (ro : Obj) (used : List Nat)
    (h : fetchScope e fuel false sm mkids srcs = .ok (ro, used)) (i : Nat) :
    i ∈ used ↔ ∃ x ∈ allDefinitions srcs, x.2.1.id = some i ∧ x.1 ∈ defPaths mkids [] := by
  obtain ⟨_, _, hu⟩ := ok_of_total (fetch_ms_total e fuel sm mkids srcs hf hfuel hsd hsrc hkeys) h
  subst hu
  exact Phil.ms_used_exact mkids srcs hf hinc hs i

/-- **The reported list, exactly.**  Whenever the fetch succeeds and the entries of
    `all_definitions(sources)` carry pairwise distinct ids, the reported list is the list of the
    entries of `all_definitions(sources)` (in order) whose full path is not the path of an active
    master parameter. -/
theorem ms_unused_exact (e : Envs) (fuel : Nat) (sm : Meta) (mkids srcs : List Obj)
    (hf : MSMaster mkids) (hfuel : depthL mkids + 1 ≤ fuel) (hsd : sm.disabled = false)
    (hinc : NoIncludeTree mkids) (hsrc : SrcTree srcs) (hs : SrcPlain srcs)
    (hkeys : KeysDefinedMS e mkids srcs)
    (hsome : ∀ x ∈ allDefinitions srcs, x.2.1.id ≠ none)
    (hids : ((allDefinitions srcs).map (fun x => x.2.1.id)).Nodup)
    (ro : Obj) (used : List Nat)
    (h : fetchScope e fuel false sm mkids srcs = .ok (ro, used)) :
    unusedOf srcs used =
      (allDefinitions srcs).filter (fun x => !((allDefinitions mkids).map (·.1)).contains x.1) := by
  rw [← defPaths_eq_allDefinitions_ms mkids hf hinc]
  exact Phil.ms_unused_exact e fuel sm mkids srcs hf hfuel hsd hinc hsrc hs hkeys hsome hids ro used h

/-- membership form: an entry of `all_definitions(sources)` is reported iff its path names no active
    master parameter -/
theorem reported_iff_ms (e : Envs) (fuel : Nat) (sm : Meta) (mkids srcs : List Obj)
    (hf : MSMaster mkids) (hfuel : depthL mkids + 1 ≤ fuel) (hsd : sm.disabled = false)
    (hinc : NoIncludeTree mkids) (hsrc : SrcTree srcs) (hs : SrcPlain srcs)
    (hkeys : KeysDefinedMS e mkids srcs)
    (hsome : ∀ x ∈ allDefinitions srcs, x.2.1.id ≠ none)
    (hids : ((allDefinitions srcs).map (fun x => x.2.1.id)).Nodup)
    (ro : Obj) (used : List Nat)
    (h : fetchScope e fuel false sm mkids srcs = .ok (ro, used))
    (x : Str × Meta × List Word) :
    x ∈ unusedOf srcs used ↔
      x ∈ allDefinitions srcs ∧ x.1 ∉ (allDefinitions mkids).map (·.1) := by
  rw [ms_unused_exact e fuel sm mkids srcs hf hfuel hsd hinc hsrc hs hkeys hsome hids ro used h,
    List.mem_filter]
  simp

/-- **`master.fetch(sources, track_unused_definitions=True)`** on parsed roots, with the side
    conditions in their executable form. -/
theorem fetchRoot_ms_unused_exact (e : Envs) (master : List Obj) (ss : List (List Obj))
    (hm : masterCheck_ms master = true) (hs : srcCheck ss.flatten = true)
    (hk : keysDefinedMSB e master ss.flatten = true)
    (hsome : ∀ x ∈ allDefinitions ss.flatten, x.2.1.id ≠ none)
    (hids : ((allDefinitions ss.flatten).map (fun x => x.2.1.id)).Nodup)
    (ro : Obj) (used : List Nat)
    (h : fetchRoot e false master ss = .ok (ro, used)) :
    unusedOf ss.flatten used =
      (allDefinitions ss.flatten).filter
        (fun x => !((allDefinitions master).map (·.1)).contains x.1) := by
  have hM := masterCheck_ms_sound master hm
  have hS := srcCheck_sound ss.flatten hs
  exact ms_unused_exact e _ _ master ss.flatten hM.tree (fetchRoot_fuel_tree master hM.depth) rfl
    hM.noInclude hS.tree hS.plain (keysDefinedMSB_sound e master _ hk) hsome hids ro used h

/-- the theorem applied to the instance of `Phil.C05`: the reported list follows from
    `fetchRoot_ms_unused_exact` (hypotheses discharged by kernel evaluation) -/
example (ro : Obj) (used : List Nat) (h : fetchRoot C05.envTm false C05.msM [C05.msS] = .ok (ro, used)) :
    (unusedOf C05.msS used).map (fun x => String.ofList x.1) = ["zz", "s.q"] := by
  have hfl : ([C05.msS] : List (List Obj)).flatten = C05.msS := by simp
  have := fetchRoot_ms_unused_exact C05.envTm C05.msM [C05.msS] C05.msInst_master
    (by rw [hfl]; exact C05.msInst_src) (by rw [hfl]; exact C05.msInst_keys)
    (by
      rw [hfl]
      intro x hx
      have hall : ((allDefinitions C05.msS).all (fun x => x.2.1.id.isSome)) = true := by
        rw [C05.msS_eq]; decide +kernel
      have := List.all_eq_true.mp hall x hx
      intro hn; rw [hn] at this; cases this)
    (by rw [hfl, C05.msS_eq]; decide +kernel)
    ro used h
  rw [hfl] at this
  rw [this, C05.msM_eq, C05.msS_eq]
  decide +kernel

end Phil.C06

namespace Phil.C07
open Phil

/-- **C07 at the level of the specification: fetching is idempotent** on masters with `.multiple`
    scopes nested at will.  NO hypothesis on the renderings (canonical or not) is needed: the
    candidate rebuilt from a surviving instance is that instance, the one rebuilt from the template
    is the master's own fetched block, whose rendering is the master key — it is dropped again.
    (`RefetchTree`: master definitions are not template-marked and carry variable-free words — true of
    every parsed master.) -/
theorem msResult_idempotent (e : Envs) (mkids srcs : List Obj) (hf : MSMaster mkids)
    (hr : RefetchTree mkids) :
    msResult e mkids (msResult e mkids srcs) = msResult e mkids srcs :=
  msResult_idem e mkids srcs hf hr

/-- **the master's own body as a source changes nothing** (`M.fetch(M) = M.fetch()`): every
    candidate built from the master's own objects renders like the master and is dropped -/
theorem master_as_source (e : Envs) (mkids : List Obj) (hf : MSMaster mkids) (hr : RefetchTree mkids) :
    msResult e mkids mkids = msResult e mkids [] :=
  msResult_self e mkids hf hr

/-- the instance: the second fetch reproduces the first -/
example :
    (match fetchRoot C05.envTm false C05.msM [C05.msS] with
     | .ok (ro, _) =>
       (match fetchRoot C05.envTm false C05.msM [ro.children] with
        | .ok (ro2, _) => some (C05.dumpListMS "" ro.children == C05.dumpListMS "" ro2.children,
            (C05.dumpListMS "" ro2.children).length)
        | .error _ => none)
     | .error _ => none) = some (true, 23) := by
  rw [C05.msM_eq, C05.msS_eq]
  decide +kernel


/-- **C07 for masters with `.multiple` scopes, nested at will: fetching is idempotent.**  Whenever the
    fetch succeeds, fetching its result again — as the only source — succeeds and returns the same
    result.  Full strength: no hypothesis on the renderings; `RefetchTree` / `SrcNoDollar` (master
    definitions not template-marked, variable-free words) hold for every parsed, variable-free input. -/
theorem ms_refetch_idempotent (e : Envs) (fuel : Nat) (sm : Meta) (mkids srcs : List Obj)
    (hf : MSMaster mkids) (hfuel : depthL mkids + 1 ≤ fuel) (hsd : sm.disabled = false)
    (hr : RefetchTree mkids) (hsrc : SrcTree srcs) (hdol : SrcNoDollar srcs)
    (hkeys : KeysDefinedMS e mkids srcs) (ro : Obj) (used : List Nat)
    (h : fetchScope e fuel false sm mkids srcs = .ok (ro, used)) :
    ∃ used', fetchScope e fuel false sm mkids ro.children = .ok (ro, used') := by
  obtain ⟨_, hro, _⟩ := ok_of_total (fetch_ms_total e fuel sm mkids srcs hf hfuel hsd hsrc hkeys) h
  subst hro
  exact ⟨_, Phil.ms_refetch_idempotent e fuel sm mkids srcs hf hfuel hsd hr hdol hkeys⟩

/-- the re-fetch needs no further hypotheses: the result never clashes with its master, is a
    well-formed source tree, and its keys are defined -/
theorem refetch_hypotheses_ms (e : Envs) (mkids srcs : List Obj) (hf : MSMaster mkids)
    (hr : RefetchTree mkids) (hdol : SrcNoDollar srcs) (hkeys : KeysDefinedMS e mkids srcs) :
    msNoClash mkids (msResult e mkids srcs) = true ∧ SrcTree (msResult e mkids srcs) ∧
      KeysDefinedMS e mkids (msResult e mkids srcs) :=
  ⟨(msSide_result e mkids srcs hf hr hkeys).1, srcTree_msResult e mkids srcs hf hr hdol,
    (msSide_result e mkids srcs hf hr hkeys).2⟩

/-- **adding the master itself as the source gives the fetch with no source** (`M.fetch(M) = M.fetch()`),
    operationally: both succeed with the same tree -/
theorem ms_fetch_master_itself (e : Envs) (fuel : Nat) (sm : Meta) (mkids : List Obj)
    (hf : MSMaster mkids) (hfuel : depthL mkids + 1 ≤ fuel) (hsd : sm.disabled = false)
    (hr : RefetchTree mkids) (hkeys : KeysDefinedMS e mkids []) :
    ∃ u1 u2, fetchScope e fuel false sm mkids mkids =
        .ok (.scope { sm with tmpl := 0 } (msResult e mkids []), u1) ∧
      fetchScope e fuel false sm mkids [] =
        .ok (.scope { sm with tmpl := 0 } (msResult e mkids []), u2) := by
  have heq := fun S => ms2_eq_ms e mkids [] S hf.kids hf.distinct (fun _ _ => rfl)
  have h := ms2_fetch_self e fuel sm mkids hf.toMS2 hfuel hsd hr
    (by rw [(heq []).2.1]; exact msNoClash_nil_src mkids) ((heq []).2.2.2.mpr hkeys)
  rw [(heq []).1] at h
  refine ⟨_, msUsed mkids [], h, ?_⟩
  rw [Phil.fetch_ms_total e fuel sm mkids [] hf hfuel hsd srcTree_nil hkeys, msNoClash_nil_src]
  rfl

/-- **`master.fetch(source=master.fetch(sources))`** on parsed roots, side conditions in executable
    form -/
theorem fetchRoot_ms_idempotent (e : Envs) (master : List Obj) (ss : List (List Obj))
    (hm : masterCheck_ms master = true) (hs : srcCheck ss.flatten = true)
    (hk : keysDefinedMSB e master ss.flatten = true)
    (ro : Obj) (used : List Nat)
    (h : fetchRoot e false master ss = .ok (ro, used)) :
    ∃ used', fetchRoot e false master [ro.children] = .ok (ro, used') := by
  have hM := masterCheck_ms_sound master hm
  have hS := srcCheck_sound ss.flatten hs
  have hfl : ([ro.children] : List (List Obj)).flatten = ro.children := by simp
  unfold fetchRoot
  rw [hfl]
  exact ms_refetch_idempotent e _ _ master ss.flatten hM.tree (fetchRoot_fuel_tree master hM.depth) rfl
    hM.refetch hS.tree hS.noDollar (keysDefinedMSB_sound e master _ hk) ro used h

/-- the theorem applied to the instance of `Phil.C05` (hypotheses discharged by kernel evaluation) -/
example (ro : Obj) (used : List Nat) (h : fetchRoot C05.envTm false C05.msM [C05.msS] = .ok (ro, used)) :
    ∃ used', fetchRoot C05.envTm false C05.msM [ro.children] = .ok (ro, used') := by
  have hfl : ([C05.msS] : List (List Obj)).flatten = C05.msS := by simp
  exact fetchRoot_ms_idempotent C05.envTm C05.msM [C05.msS] C05.msInst_master
    (by rw [hfl]; exact C05.msInst_src) (by rw [hfl]; exact C05.msInst_keys) ro used h

end Phil.C07

#print axioms Phil.C05.fetch_ms_total
#print axioms Phil.C05.fetchRoot_ms
#print axioms Phil.C05.fetchRoot_ms_checked
#print axioms Phil.C05.treeMultiMaster_is_msMaster
#print axioms Phil.C05.rendering_fuel_independent
#print axioms Phil.C05.result_depth
#print axioms Phil.C05.multiple_scope_list_rule
#print axioms Phil.C05.multiple_scope_candidate
#print axioms Phil.C05.plain_scope_block
#print axioms Phil.C05.defn_block
#print axioms Phil.C05.msResult_eq
#print axioms Phil.C05.result_view
#print axioms Phil.C05.keysDefined_needed
#print axioms Phil.C07.msResult_idempotent
#print axioms Phil.C07.master_as_source
#print axioms Phil.C04.ms_result_blocks
#print axioms Phil.C04.ms_block_members
#print axioms Phil.C04.ms_plain_exactly_once
#print axioms Phil.C04.ms_result_paths
#print axioms Phil.C06.ms_used_exact
#print axioms Phil.C06.ms_unused_exact
#print axioms Phil.C06.reported_iff_ms
#print axioms Phil.C06.fetchRoot_ms_unused_exact
#print axioms Phil.C07.ms_refetch_idempotent
#print axioms Phil.C07.refetch_hypotheses_ms
#print axioms Phil.C07.ms_fetch_master_itself
#print axioms Phil.C07.fetchRoot_ms_idempotent
