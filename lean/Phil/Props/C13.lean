/-
  C13 — Includes behave as textual inlining; every include cycle is detected.
    "The same file may be included any number of times along different branches; any chain of
     includes that returns to a file already being expanded raises 'Include dependency cycle'
     instead of recursing without bound; relative names are resolved against the directory of the
     including file.  'include scope' splices the named Python-level scope (optionally one sub-path
     of it) the same way."

  Model: Phil/Include.lean (`expandFile` = parse(file_name=…, process_includes=True,
  include_stack=…), `processIncludes` = scope.process_includes, `expand` = the top-level call) over
  an environment `env : IncEnv`: an abstract file system `env.fs`, the table `env.imports` of the
  importable Python-level scopes (python path ↦ text) and the current directory `env.cwd`.
  The lemmas and the auxiliary definitions the statements speak in (`includeTarget`, `scopeTarget`,
  `NoInclude`, `resetTmpl`, `splice`, `ReachFile`, `Includes`, `IncWalk`, `ImportsRanked`, …) are in
  Phil/Proofs/IncludeLemmas.lean.  All statements hold for every environment, stack, fuel and object
  list (no size bound).

  Hypotheses that refer to the *parser* rather than to include processing (`parseObjs` is a
  fuel-driven model of its own and has its own error sites):
    * `ParseFuelOK env.fs` / `ImportsParseFuelOK env.imports` — no file / imported scope makes
      `parseObjs` return `outOfFuel` (true of every file system and import table:
      `Phil.C16.parseFuelOK_always`, `importsParseFuelOK_always`, Props/C16More.lean);
    * `ParseNoCycleErr env.fs` / `ImportsParseNoCycleErr env.imports` — … return the include-cycle
      error (the parser has no such error site; not proved here).
  Hypothesis on the imported scopes, needed for termination only:
    * `ImportsRanked env` — imported scopes refer only to imported scopes of higher rank (there is
      no cycle detection for scopes: Python itself recurses without bound on `a ↦ "include scope a"`,
      and the model answers `outOfFuel`, see the example at the end).
  With `env.imports = []` the statements of the file-only model are recovered (`…_files`).
-/
import Phil.Proofs.IncludeLemmas
import Phil.Proofs.ObjEq
namespace Phil.C13
open Phil

/-! ### 1. a file already being expanded is refused -/

/-- **Cycle refusal.**  A readable, parseable file that is already on the include stack is refused
    with the cycle error, whatever it contains and whatever fuel is left (≥ 1). -/
theorem cycle_refused (env : IncEnv) (fuel : Nat) (path : Path) (stack : List Path) (text : Str)
    (objs : List Obj) (hin : path ∈ stack) (hread : env.fs.read path = some text)
    (hparse : parseObjs text = .ok objs) :
    expandFile env (fuel + 1) path stack = .error (.runtime "include_cycle" none) :=
  Phil.cycle_refused env fuel path stack text objs hin hread hparse

/-! ### 2. termination: the fuel `(fs.length + 1) * (imports.length + 1) + 1` is never exhausted -/

/-- **Counting lemma.**  A duplicate-free list all of whose elements lie in `k` has at most as many
    elements as `k` has distinct ones. -/
theorem nodup_subset_length_le_distinct {α : Type} [BEq α] [LawfulBEq α] (l k : List α)
    (hnd : l.Nodup) (hsub : ∀ x ∈ l, x ∈ k) : l.length ≤ k.eraseDups.length :=
  hnd.length_le_of_subset fun x hx => List.mem_eraseDups.mpr (hsub x hx)

/-- **Fuel adequacy (`expandFile`).**  `M = imports.length + 1`.  With a duplicate-free stack of
    existing files and `fuel + |stack| * M ≥ (number of distinct file names) * M + 1`, `expandFile`
    never reports `outOfFuel`: the stack holds distinct files, and between two file pushes a chain
    hops through at most `imports.length` imported scopes because their ranks increase. -/
theorem expand_never_out_of_fuel (env : IncEnv) (hpf : ParseFuelOK env.fs)
    (hpi : ImportsParseFuelOK env.imports) (hrk : ImportsRanked env) (fuel : Nat) (path : Path)
    (stack : List Path) (hnd : stack.Nodup) (hsub : ∀ p ∈ stack, p ∈ env.fs.map (·.1))
    (hb : fuel + stack.length * (env.imports.length + 1)
            ≥ (env.fs.map (·.1)).eraseDups.length * (env.imports.length + 1) + 1) :
    expandFile env fuel path stack ≠ .error .outOfFuel := by
  obtain ⟨rank, hr1, hr2⟩ := hrk
  exact (fuel_adequate env hpf hpi rank hr1 hr2 _
    (fun st => nodup_subset_length_le_distinct st _) fuel).1 path stack hnd hsub hb

/-- **Fuel adequacy (`processIncludes`)** on a list whose followed `include scope` statements name
    imports of rank ≥ `k` (`k = 0`: any list, e.g. the objects of a file).  Entering a file costs one
    unit of fuel, pushes one file and resets `k`; entering an imported scope of rank `r` costs one
    unit and raises `k` to `r + 1`: `fuel + |stack| * M + k` never decreases. -/
theorem processIncludes_never_out_of_fuel (env : IncEnv) (hpf : ParseFuelOK env.fs)
    (hpi : ImportsParseFuelOK env.imports) (rank : Str → Nat)
    (hr1 : ∀ p text, env.imported p = some text → rank p < env.imports.length)
    (hr2 : ∀ p text src, env.imported p = some text → parseObjs text = .ok src →
      ∀ q ∈ scopeTargets src, ∀ text', env.imported q = some text' → rank p < rank q)
    (fuel : Nat) (refdir : Path) (stack : List Path) (objs : List Obj) (k : Nat) (hnd : stack.Nodup)
    (hsub : ∀ p ∈ stack, p ∈ env.fs.map (·.1)) (hk : k ≤ env.imports.length)
    (hA : ∀ p ∈ scopeTargets objs, ∀ text, env.imported p = some text → k ≤ rank p)
    (hb : fuel + stack.length * (env.imports.length + 1) + k
            ≥ (env.fs.map (·.1)).eraseDups.length * (env.imports.length + 1) + env.imports.length + 1) :
    processIncludes env fuel refdir stack objs ≠ .error .outOfFuel :=
  (fuel_adequate env hpf hpi rank hr1 hr2 _ (fun st => nodup_subset_length_le_distinct st _) fuel).2
    refdir stack objs k hnd hsub hk hA hb

/-- **Totality of `expand`.**  For every environment whose imported scopes are ranked (duplicate
    keys allowed) and every root, the include recursion ends within the fuel that `expand` provides. -/
theorem expand_total (env : IncEnv) (hpf : ParseFuelOK env.fs) (hpi : ImportsParseFuelOK env.imports)
    (hrk : ImportsRanked env) (root : Path) :
    expand env root ≠ .error .outOfFuel :=
  expand_ne_outOfFuel env hpf hpi hrk root

/-- the position in `env.imports` is a ranking: the decidable check `importsRankedB` suffices -/
theorem importsRanked_of_check (env : IncEnv) (h : importsRankedB env = true) : ImportsRanked env := by
  refine ⟨fun p => env.imports.findIdx (·.1 == p), ?_, ?_⟩
  · intro p text hp
    have := IncEnv.imported_some_any hp
    exact List.findIdx_lt_length_of_exists (by simpa using this)
  · intro p text src hp hsrc q hq text' hq'
    unfold importsRankedB at h
    have h1 := List.all_eq_true.mp h (p, text) (IncEnv.imported_some_mem hp)
    simp only [hsrc] at h1
    have h2 := List.all_eq_true.mp h1 q hq
    have h3 := IncEnv.imported_some_any hq'
    simp only [h3, Bool.not_true, Bool.false_or, decide_eq_true_eq] at h2
    exact h2

/-- **File-only case** (no importable scopes): the bound of the file-only model,
    `fuel + |stack| ≥ (number of distinct file names) + 1`, with no hypothesis besides the parser's. -/
theorem expand_never_out_of_fuel_files (env : IncEnv) (hi : env.imports = []) (hpf : ParseFuelOK env.fs)
    (fuel : Nat) (path : Path)
    (stack : List Path) (hnd : stack.Nodup) (hsub : ∀ p ∈ stack, p ∈ env.fs.map (·.1))
    (hb : fuel + stack.length ≥ (env.fs.map (·.1)).eraseDups.length + 1) :
    expandFile env fuel path stack ≠ .error .outOfFuel := by
  apply expand_never_out_of_fuel env hpf (hi ▸ importsParseFuelOK_nil) (importsRanked_nil env hi)
    fuel path stack hnd hsub
  rw [hi]
  simp only [List.length_nil, Nat.zero_add, Nat.mul_one]
  exact hb

theorem processIncludes_never_out_of_fuel_files (env : IncEnv) (hi : env.imports = [])
    (hpf : ParseFuelOK env.fs) (fuel : Nat)
    (refdir : Path) (stack : List Path) (objs : List Obj) (hnd : stack.Nodup)
    (hsub : ∀ p ∈ stack, p ∈ env.fs.map (·.1))
    (hb : fuel + stack.length ≥ (env.fs.map (·.1)).eraseDups.length + 1) :
    processIncludes env fuel refdir stack objs ≠ .error .outOfFuel := by
  obtain ⟨rank, hr1, hr2⟩ := importsRanked_nil env hi
  apply processIncludes_never_out_of_fuel env hpf (hi ▸ importsParseFuelOK_nil) rank hr1 hr2 fuel
    refdir stack objs 0 hnd hsub (Nat.zero_le _) (fun _ _ _ _ => Nat.zero_le _)
  rw [hi]
  simp only [List.length_nil, Nat.zero_add, Nat.mul_one, Nat.add_zero]
  exact hb

theorem expand_total_files (env : IncEnv) (hi : env.imports = []) (hpf : ParseFuelOK env.fs)
    (root : Path) : expand env root ≠ .error .outOfFuel :=
  expand_ne_outOfFuel env hpf (hi ▸ importsParseFuelOK_nil) (importsRanked_nil env hi) root

/-! ### 3. without include statements nothing changes -/

/-- **Identity on include-free lists.**  If no enabled definition named `include` occurs (at top
    level or inside enabled scopes), processing succeeds — for every environment, fuel, reference
    directory and stack — and returns the objects with every enabled scope rebuilt with `tmpl = 0`. -/
theorem no_include_identity (env : IncEnv) (fuel : Nat) (refdir : Path) (stack : List Path)
    (objs : List Obj) (h : NoInclude objs = true) :
    processIncludes env fuel refdir stack objs = .ok (resetTmpl objs) :=
  Phil.no_include_identity env fuel refdir stack objs h

/-- … and exactly the given objects when the enabled scopes already have `tmpl = 0` (parser output). -/
theorem no_include_identity_tmpl0 (env : IncEnv) (fuel : Nat) (refdir : Path) (stack : List Path)
    (objs : List Obj) (hn : NoInclude objs = true) (hz : AllTmplZero objs = true) :
    processIncludes env fuel refdir stack objs = .ok objs := by
  rw [no_include_identity env fuel refdir stack objs hn, resetTmpl_id objs hz]

/-! ### textual inlining -/

/-- **Inlining law.**  In a file `a` (not yet being expanded) whose text parses to include-free
    objects `pre`, an include statement `i` with file name `n`, and further objects `post`, the
    statement is replaced by the expansion of `resolvePath (directory of a) n`, performed with `a`
    pushed on the stack; errors of that expansion propagate. -/
theorem include_inlines (env : IncEnv) (f : Nat) (a : Path) (stack : List Path) (t : Str)
    (pre post : List Obj) (i : Obj) (n : Str)
    (hr : env.fs.read a = some t) (hp : parseObjs t = .ok (pre ++ i :: post)) (ha : a ∉ stack)
    (hpre : NoInclude pre = true) (hi : includeTarget i = some n) :
    expandFile env (f + 1) a stack =
      match expandFile env f (resolvePath a.dropLast n) (stack ++ [a]) with
      | .error e => .error e
      | .ok l => (processIncludes env f a.dropLast (stack ++ [a]) post).map
                    (fun r => resetTmpl pre ++ (l ++ r)) := by
  rw [expandFile_fresh env f a stack t _ ha hr hp, Phil.processIncludes_append,
    no_include_identity env f _ _ pre hpre, processIncludes_cons, includeHere_include' env f _ _ i n hi]
  cases expandFile env f (resolvePath a.dropLast n) (stack ++ [a]) with
  | error e => rfl
  | ok l => cases processIncludes env f a.dropLast (stack ++ [a]) post <;> rfl

/-- An include statement whose name resolves to the including file itself or to a file further up
    the stack makes the expansion of the including file fail with the cycle error (objects before
    the statement are include-free; anything may follow it). -/
theorem back_edge_is_cycle_error (env : IncEnv) (f : Nat) (a q : Path) (stack : List Path) (t tq : Str)
    (pre post oq : List Obj) (i : Obj) (n : Str)
    (hr : env.fs.read a = some t) (hp : parseObjs t = .ok (pre ++ i :: post)) (ha : a ∉ stack)
    (hpre : NoInclude pre = true) (hi : includeTarget i = some n)
    (hq : resolvePath a.dropLast n = q) (hmem : q ∈ stack ++ [a])
    (hrq : env.fs.read q = some tq) (hpq : parseObjs tq = .ok oq) :
    expandFile env (f + 2) a stack = .error (.runtime "include_cycle" none) := by
  rw [include_inlines env (f + 1) a stack t pre post i n hr hp ha hpre hi, hq,
    cycle_refused env f q (stack ++ [a]) tq oq hmem hrq hpq]

/-- processing is compositional over concatenation of object lists -/
theorem processIncludes_append (env : IncEnv) (fuel : Nat) (refdir : Path) (stack : List Path)
    (a b : List Obj) :
    processIncludes env fuel refdir stack (a ++ b) =
      match processIncludes env fuel refdir stack a with
      | .error e => .error e
      | .ok l => (processIncludes env fuel refdir stack b).map (fun r => l ++ r) :=
  Phil.processIncludes_append env fuel refdir stack a b

/-! ### 4. the diamond -/

/-- **Diamond.**  A root whose text consists of two include statements naming the same include-free
    leaf file expands to the leaf's objects twice; no cycle error. -/
theorem diamond_ok (env : IncEnv) (r l : Path) (tr tl : Str) (i1 i2 : Obj) (n1 n2 : Str)
    (objsL : List Obj)
    (hr : env.fs.read r = some tr) (hpr : parseObjs tr = .ok [i1, i2])
    (h1 : includeTarget i1 = some n1) (h2 : includeTarget i2 = some n2)
    (hn1 : resolvePath r.dropLast n1 = l) (hn2 : resolvePath r.dropLast n2 = l)
    (hl : env.fs.read l = some tl) (hpl : parseObjs tl = .ok objsL)
    (hni : NoInclude objsL = true) (hne : l ≠ r) :
    expand env r = .ok (resetTmpl objsL ++ resetTmpl objsL) := by
  unfold expand
  have hpos : 0 < (env.fs.length + 1) * (env.imports.length + 1) :=
    Nat.mul_pos (Nat.succ_pos _) (Nat.succ_pos _)
  obtain ⟨f, hf⟩ : ∃ f, (env.fs.length + 1) * (env.imports.length + 1) + 1 = f + 1 + 1 :=
    ⟨(env.fs.length + 1) * (env.imports.length + 1) - 1, by omega⟩
  rw [hf, expandFile_fresh env (f + 1) r [] tr [i1, i2] (by simp) hr hpr]
  have hleaf : expandFile env (f + 1) l ([] ++ [r]) = .ok (resetTmpl objsL) := by
    rw [expandFile_fresh env f l ([] ++ [r]) tl objsL (by simpa using hne) hl hpl]
    exact no_include_identity env f _ _ objsL hni
  rw [processIncludes_cons, includeHere_include' env _ _ _ i1 n1 h1, hn1, hleaf,
    processIncludes_cons, includeHere_include' env _ _ _ i2 n2 h2, hn2, hleaf, processIncludes_nil]
  simp [splice, Except.map]

/-! ### 5. path resolution -/

/-- **Relative names are resolved against the reference directory** (which `expandFile` sets to the
    directory of the including file, see `include_inlines`): a name all of whose `/`-separated
    components are ordinary (not empty, `.` or `..`) is appended to it. -/
theorem resolvePath_relative_components (refdir : Path) (name : Str)
    (h : (splitOn '/' name).all plainComp = true) :
    resolvePath refdir name = refdir ++ splitOn '/' name := by
  rw [resolvePath_rel_norm refdir name ?_]
  · exact normComponents_plain _ _ h
  · intro e
    cases name with
    | nil => cases e
    | cons c cs =>
      simp only [List.take_succ_cons, List.take_zero, List.cons.injEq, and_true] at e
      subst e
      rw [splitOn_cons_sep] at h
      simp [plainComp] at h

/-- … in particular a single ordinary component. -/
theorem resolvePath_relative (refdir : Path) (c : Str) (hslash : '/' ∉ c) (h0 : c ≠ [])
    (h1 : c ≠ ".".toList) (h2 : c ≠ "..".toList) :
    resolvePath refdir c = refdir ++ [c] := by
  have hs := splitOn_of_not_mem '/' c hslash
  have := resolvePath_relative_components refdir c (by
    rw [hs]
    have e1 : ".".toList = ['.'] := rfl
    have e2 : "..".toList = ['.', '.'] := rfl
    rw [e1] at h1; rw [e2] at h2
    simp [plainComp, h0, h1, h2])
  rw [this, hs]

/-- **A name starting with `/` ignores the reference directory.** -/
theorem resolvePath_absolute (refdir : Path) (rest : Str) :
    resolvePath refdir ('/' :: rest) = normComponents (splitOn '/' rest) [] := by
  unfold resolvePath
  simp only [List.take_succ_cons, List.take_zero, BEq.rfl, ↓reduceIte]
  rw [splitOn_cons_sep, normComponents_empty]

theorem resolvePath_absolute_indep (refdir refdir' : Path) (rest : Str) :
    resolvePath refdir ('/' :: rest) = resolvePath refdir' ('/' :: rest) := by
  rw [resolvePath_absolute, resolvePath_absolute]

/-- **`..` pops the last component** (and is dropped at the root, as `normpath` does). -/
theorem normComponents_dotdot (cs : List Str) (acc : Path) :
    normComponents ("..".toList :: cs) acc = normComponents cs acc.dropLast := by
  have : "..".toList = ['.', '.'] := rfl
  rw [this]
  simp [normComponents]

/-! ### 6. the cycle error and the include graph -/

/-- **Soundness of the cycle error.**  If the expansion of `path` with stack `stack` ends with the
    cycle error, then a chain of include statements (`Includes`: an `include file` statement, or
    `include scope` statements leading to one) leads from `path` to a file `p` that is on its own
    stack `st` at that moment; `st` extends `stack`. -/
theorem cycle_error_sound (env : IncEnv) (hpc : ParseNoCycleErr env.fs)
    (hpi : ImportsParseNoCycleErr env.imports) (fuel : Nat) (path : Path) (stack : List Path)
    (h : expandFile env fuel path stack = .error (.runtime "include_cycle" none)) :
    ∃ p st, IncWalk env path stack p st ∧ stack <+: st ∧ p ∈ st := by
  obtain ⟨p, st, hw, hm⟩ := Phil.cycle_error_sound env hpc hpi fuel path stack h
  exact ⟨p, st, hw, hw.prefix, hm⟩

/-- The same without any hypothesis on the parser: the chain ends at a file on its own stack, or at
    a file whose parser outcome is itself the cycle error — or some imported scope's is. -/
theorem cycle_error_sound_gen (env : IncEnv) (fuel : Nat) (path : Path) (stack : List Path)
    (h : expandFile env fuel path stack = .error (.runtime "include_cycle" none)) :
    (∃ pt ∈ env.imports, parseObjs pt.2 = .error (.runtime "include_cycle" none)) ∨
    ∃ p st, IncWalk env path stack p st ∧ stack <+: st ∧
      (p ∈ st ∨ ∃ t, env.fs.read p = some t ∧ parseObjs t = .error (.runtime "include_cycle" none)) := by
  rcases (cycle_error_sound_both env fuel).1 path stack h with hx | ⟨p, st, hw, hm⟩
  · exact .inl hx
  · exact .inr ⟨p, st, hw, hw.prefix, hm⟩

/-- **Every cycle is detected (1).**  If an expansion succeeds, no chain of include statements
    starting from it — through files and imported scopes — reaches a file that is on its own stack. -/
theorem ok_no_cycle (env : IncEnv) (a : Path) (st : List Path) (p : Path) (st' : List Path)
    (hw : IncWalk env a st p st') (fuel : Nat) (res : List Obj)
    (h : expandFile env fuel a st = .ok res) : p ∉ st' :=
  Phil.ok_no_cycle env hw fuel res h

/-- **Every cycle is detected (2).**  If some chain of include statements from the root returns to
    a file of the chain, `expand` ends with an error, and that error is not `outOfFuel`: the
    recursion is cut, it does not run until the fuel is gone.  (The error is the cycle error unless
    an earlier statement fails first, e.g. a missing file — as in the implementation.) -/
theorem cycle_detected (env : IncEnv) (hpf : ParseFuelOK env.fs) (hpi : ImportsParseFuelOK env.imports)
    (hrk : ImportsRanked env) (root p : Path) (st : List Path)
    (hw : IncWalk env root [] p st) (hp : p ∈ st) :
    ∃ e, expand env root = .error e ∧ e ≠ .outOfFuel := by
  obtain ⟨e, he⟩ := Phil.cycle_detected env root p st hw hp
  refine ⟨e, he, ?_⟩
  intro h
  subst h
  exact expand_total env hpf hpi hrk root he

theorem cycle_detected_files (env : IncEnv) (hi : env.imports = []) (hpf : ParseFuelOK env.fs)
    (root p : Path) (st : List Path) (hw : IncWalk env root [] p st) (hp : p ∈ st) :
    ∃ e, expand env root = .error e ∧ e ≠ .outOfFuel :=
  cycle_detected env hpf (hi ▸ importsParseFuelOK_nil) (importsRanked_nil env hi) root p st hw hp

/-! ### 7. `include scope`: the named Python-level scope is spliced the same way -/

/-- what `scopeTarget` recognises, two words: an enabled definition `include scope <p>` without `$` -/
theorem scopeTarget_two_words (m : Meta) (w1 w2 : Word) (hd : m.disabled = false)
    (hn : m.name = "include".toList) (hdol : containsDollar [w1, w2] = false)
    (hty : lower w1.value = "scope".toList) :
    scopeTarget (.defn m [w1, w2]) = some (w2.value, none) := by
  simp only [scopeTarget, hd, hn, hdol, hty]
  rfl

/-- … three words: `include scope <p> <q>` -/
theorem scopeTarget_three_words (m : Meta) (w1 w2 w3 : Word) (hd : m.disabled = false)
    (hn : m.name = "include".toList) (hdol : containsDollar [w1, w2, w3] = false)
    (hty : lower w1.value = "scope".toList) :
    scopeTarget (.defn m [w1, w2, w3]) = some (w2.value, some w3.value) := by
  simp only [scopeTarget, hd, hn, hdol, hty]
  rfl

/-- **Splicing law.**  An enabled statement `include scope p` (two words, no `$`) naming a known
    import whose text parses to `src` is replaced by the result of processing `src`'s own includes
    — one unit of fuel less, reference directory `env.cwd`, the *same* include stack — spliced before
    the processed rest of the list (`splice`: the first failing part's error, else concatenation). -/
theorem include_scope_inlines (env : IncEnv) (f : Nat) (refdir : Path) (stack : List Path) (o : Obj)
    (rest : List Obj) (p text : Str) (src : List Obj)
    (ho : scopeTarget o = some (p, none)) (hi : env.imported p = some text)
    (hp : parseObjs text = .ok src) :
    processIncludes env (f + 1) refdir stack (o :: rest) =
      splice (processIncludes env f env.cwd stack src)
        (processIncludes env (f + 1) refdir stack rest) := by
  rw [processIncludes_scope_known env f refdir stack o rest p none text src ho hi hp]
  cases processIncludes env f env.cwd stack src <;> rfl

/-- … the result is `expanded ++ rest'` exactly when both parts succeed -/
theorem include_scope_inlines_ok (env : IncEnv) (f : Nat) (refdir : Path) (stack : List Path) (o : Obj)
    (rest : List Obj) (p text : Str) (src : List Obj)
    (ho : scopeTarget o = some (p, none)) (hi : env.imported p = some text)
    (hp : parseObjs text = .ok src) (res : List Obj) :
    processIncludes env (f + 1) refdir stack (o :: rest) = .ok res ↔
      ∃ expanded rest', processIncludes env f env.cwd stack src = .ok expanded ∧
        processIncludes env (f + 1) refdir stack rest = .ok rest' ∧ res = expanded ++ rest' := by
  rw [include_scope_inlines env f refdir stack o rest p text src ho hi hp]
  exact splice_eq_ok_iff _ _ _

/-- … and the error of the first failing part otherwise -/
theorem include_scope_inlines_error (env : IncEnv) (f : Nat) (refdir : Path) (stack : List Path)
    (o : Obj) (rest : List Obj) (p text : Str) (src : List Obj)
    (ho : scopeTarget o = some (p, none)) (hi : env.imported p = some text)
    (hp : parseObjs text = .ok src) (e : Err) :
    processIncludes env (f + 1) refdir stack (o :: rest) = .error e ↔
      processIncludes env f env.cwd stack src = .error e ∨
      ∃ expanded, processIncludes env f env.cwd stack src = .ok expanded ∧
        processIncludes env (f + 1) refdir stack rest = .error e := by
  rw [include_scope_inlines env f refdir stack o rest p text src ho hi hp]
  exact splice_eq_error_iff _ _ _

/-- **Sub-path.**  With a third word `q` the spliced objects are `selectPath expanded q`
    (= `scope.get(path=q)` on the *expanded* imported scope) when that selection is non-empty and
    `$`-free; an empty selection is the error "path not found" at the statement's line. -/
theorem include_scope_subpath (env : IncEnv) (f : Nat) (refdir : Path) (stack : List Path) (o : Obj)
    (rest : List Obj) (p q text : Str) (src expanded : List Obj)
    (ho : scopeTarget o = some (p, some q)) (hi : env.imported p = some text)
    (hp : parseObjs text = .ok src)
    (hexp : processIncludes env f env.cwd stack src = .ok expanded) :
    (selectPath expanded q = [] →
      processIncludes env (f + 1) refdir stack (o :: rest)
        = .error (.runtime "include_scope_not_found" o.meta.line)) ∧
    (selectPath expanded q ≠ [] → (selectPath expanded q).any (anyDollar 1000) = false →
      processIncludes env (f + 1) refdir stack (o :: rest)
        = splice (.ok (selectPath expanded q)) (processIncludes env (f + 1) refdir stack rest)) := by
  rw [processIncludes_scope_known env f refdir stack o rest p (some q) text src ho hi hp, hexp]
  constructor
  · intro h
    simp [Except.bind, selectSub, h]
  · intro h hd
    have : (selectPath expanded q).isEmpty = false := by
      cases hs : selectPath expanded q with
      | nil => exact absurd hs h
      | cons _ _ => rfl
    simp [Except.bind, selectSub, this, hd]

/-- … and an error while processing the imported scope's own includes propagates -/
theorem include_scope_subpath_error (env : IncEnv) (f : Nat) (refdir : Path) (stack : List Path)
    (o : Obj) (rest : List Obj) (p text : Str) (sub : Option Str) (src : List Obj) (e : Err)
    (ho : scopeTarget o = some (p, sub)) (hi : env.imported p = some text)
    (hp : parseObjs text = .ok src)
    (hexp : processIncludes env f env.cwd stack src = .error e) :
    processIncludes env (f + 1) refdir stack (o :: rest) = .error e := by
  rw [processIncludes_scope_known env f refdir stack o rest p sub text src ho hi hp, hexp]
  rfl

/-- **The imported scope's own includes are processed first.**  Whenever `include scope p q`
    succeeds, the spliced objects are the selection of `q` in the *expanded* imported scope — the
    outcome of processing `src`'s includes — not in `src` itself (see the example `envNested` below,
    where `selectPath src q` is empty). -/
theorem include_scope_expands_first (env : IncEnv) (f : Nat) (refdir : Path) (stack : List Path)
    (o : Obj) (p q text : Str) (src res : List Obj)
    (ho : scopeTarget o = some (p, some q)) (hi : env.imported p = some text)
    (hp : parseObjs text = .ok src)
    (hres : processIncludes env (f + 1) refdir stack [o] = .ok res) :
    ∃ expanded, processIncludes env f env.cwd stack src = .ok expanded ∧
      res = selectPath expanded q := by
  rw [processIncludes_scope_known env f refdir stack o [] p (some q) text src ho hi hp, processIncludes_nil] at hres
  cases hx : processIncludes env f env.cwd stack src with
  | error e => rw [hx] at hres; cases hres
  | ok expanded =>
    refine ⟨expanded, rfl, ?_⟩
    rw [hx] at hres
    simp only [Except.bind, selectSub] at hres
    split at hres
    · cases hres
    · split at hres
      · cases hres
      · simp [splice, Except.map] at hres
        exact hres.symm

/-- **Reference directory (1).**  What an `include scope` statement contributes does not depend on
    the reference directory of the list it stands in (the directory of the including file). -/
theorem include_scope_refdir_indep (env : IncEnv) (fuel : Nat) (refdir refdir' : Path)
    (stack : List Path) (o : Obj) (p : Str) (sub : Option Str) (ho : scopeTarget o = some (p, sub)) :
    processIncludes env fuel refdir stack [o] = processIncludes env fuel refdir' stack [o] := by
  rw [processIncludes_cons, processIncludes_cons, processIncludes_nil, processIncludes_nil,
    includeHere_scope env fuel refdir stack o p sub ho, includeHere_scope env fuel refdir' stack o p sub ho]

/-- **Reference directory (2).**  A file name `n` inside the imported scope (include-free objects
    `pre`, the statement `i`, then `post`) is resolved against `env.cwd`
    (`reference_directory=None`), whatever `refdir` is. -/
theorem include_scope_refdir (env : IncEnv) (f : Nat) (refdir : Path) (stack : List Path) (o : Obj)
    (rest : List Obj) (p text : Str) (pre post : List Obj) (i : Obj) (n : Str)
    (ho : scopeTarget o = some (p, none)) (hi : env.imported p = some text)
    (hp : parseObjs text = .ok (pre ++ i :: post)) (hpre : NoInclude pre = true)
    (hin : includeTarget i = some n) :
    processIncludes env (f + 1) refdir stack (o :: rest) =
      splice
        (splice (.ok (resetTmpl pre))
          (splice (expandFile env f (resolvePath env.cwd n) stack)
            (processIncludes env f env.cwd stack post)))
        (processIncludes env (f + 1) refdir stack rest) := by
  rw [include_scope_inlines env f refdir stack o rest p text _ ho hi hp, Phil.processIncludes_append,
    no_include_identity env f _ _ pre hpre, processIncludes_cons, includeHere_include' env f _ _ i n hin]

/-- **A file cycle through an imported scope is detected.**  File `a` (not yet being expanded)
    includes the scope `p`, whose text includes a file that resolves — against `env.cwd` — to `a`
    itself or to a file further up the stack: the cycle error (the imported scope is processed with
    the same include stack, on which `a` has been pushed). -/
theorem file_cycle_through_scope_detected (env : IncEnv) (f : Nat) (a q : Path) (stack : List Path)
    (t ts tq : Str) (pre post pre' post' oq : List Obj) (o i : Obj) (p : Str) (sub : Option Str) (n : Str)
    (hr : env.fs.read a = some t) (hp : parseObjs t = .ok (pre ++ o :: post)) (ha : a ∉ stack)
    (hpre : NoInclude pre = true) (ho : scopeTarget o = some (p, sub))
    (his : env.imported p = some ts) (hps : parseObjs ts = .ok (pre' ++ i :: post'))
    (hpre' : NoInclude pre' = true) (hi : includeTarget i = some n)
    (hq : resolvePath env.cwd n = q) (hmem : q ∈ stack ++ [a])
    (hrq : env.fs.read q = some tq) (hpq : parseObjs tq = .ok oq) :
    expandFile env (f + 3) a stack = .error (.runtime "include_cycle" none) := by
  rw [expandFile_fresh env (f + 2) a stack t _ ha hr hp, Phil.processIncludes_append,
    no_include_identity env (f + 2) _ _ pre hpre,
    processIncludes_scope_known env (f + 1) _ _ o post p sub ts _ ho his hps,
    Phil.processIncludes_append, no_include_identity env (f + 1) _ _ pre' hpre', processIncludes_cons,
    includeHere_include' env (f + 1) _ _ i n hi, hq,
    cycle_refused env f q (stack ++ [a]) tq oq hmem hrq hpq]
  rfl

/-- the two-step chain `a → scope p → a` -/
theorem file_scope_file_cycle (env : IncEnv) (f : Nat) (a : Path) (t ts : Str)
    (pre post pre' post' : List Obj) (o i : Obj) (p : Str) (sub : Option Str) (n : Str)
    (hr : env.fs.read a = some t) (hp : parseObjs t = .ok (pre ++ o :: post))
    (hpre : NoInclude pre = true) (ho : scopeTarget o = some (p, sub))
    (his : env.imported p = some ts) (hps : parseObjs ts = .ok (pre' ++ i :: post'))
    (hpre' : NoInclude pre' = true) (hi : includeTarget i = some n)
    (hq : resolvePath env.cwd n = a) :
    expandFile env (f + 3) a [] = .error (.runtime "include_cycle" none) :=
  file_cycle_through_scope_detected env f a a [] t ts t pre post pre' post' _ o i p sub n
    hr hp (by simp) hpre ho his hps hpre' hi hq (by simp) hr hp

/-! ### concrete instances (checked by the kernel) -/

/-- A parse compared with its expected outcome by evaluation.  With `decide +kernel` on the hypothesis
    only the kernel evaluates; `rfl` on the equation itself makes the elaborator evaluate it first. -/
theorem parse_eq_of_check (text : Str) (objs : List Obj)
    (h : (match parseObjs text with
      | .ok r => (objsDecEq r objs).decide
      | .error _ => false) = true) :
    parseObjs text = .ok objs := by
  cases hp : parseObjs text with
  | ok r =>
    rw [hp] at h
    rw [@of_decide_eq_true _ (objsDecEq r objs) h]
  | error e =>
    rw [hp] at h
    cases h

theorem ne_outOfFuel_of_ok {text : Str} {objs : List Obj} (h : parseObjs text = .ok objs) :
    parseObjs text ≠ .error .outOfFuel := by
  rw [h]
  nofun

def pA : Path := ["d".toList, "a".toList]
def pB : Path := ["d".toList, "b".toList]

/-- `/d/a` includes itself; `/d/b` is unrelated -/
def fsSelf : IncEnv := { fs := [(pA, "x = 1\ninclude file a\n".toList), (pB, "y = 2\n".toList)] }

def objX : Obj := .defn { name := "x".toList, id := some 1, line := some 1 } [⟨"1".toList, none, some 1⟩]
def incAt (id line : Nat) (name : String) : Obj :=
  .defn { name := "include".toList, id := some id, line := some line }
    [⟨"file".toList, none, some line⟩, ⟨name.toList, none, some line⟩]

theorem parse_selfA : parseObjs "x = 1\ninclude file a\n".toList = .ok ([objX] ++ incAt 2 2 "a" :: []) := by
  rw [String.toList_ofList]
  exact parse_eq_of_check _ _ (by decide +kernel)

/-- a self-including file is reported as a cycle -/
example : expand fsSelf pA = .error (.runtime "include_cycle" none) :=
  back_edge_is_cycle_error fsSelf 2 pA pA [] _ _ [objX] [] _ (incAt 2 2 "a") "a".toList
    rfl parse_selfA (by simp) rfl rfl rfl (by simp) rfl parse_selfA

/-- the same through the graph view: `/d/a` includes `/d/a` -/
example : IncWalk fsSelf pA [] pA [pA] ∧ pA ∈ [pA] :=
  ⟨.step (Includes.direct _ _ "a".toList rfl parse_selfA (by simp [includeTargets, includeTargetsObj, objX, incAt, includeTarget, containsDollar, lower]; decide) rfl)
      (.here _ _), by simp⟩

/-- a two-file cycle `/d/a → /d/b → /d/a` -/
def fsTwo : IncEnv := { fs := [(pA, "include file b\n".toList), (pB, "include file ../d/a\n".toList)] }

theorem parse_twoA : parseObjs "include file b\n".toList = .ok ([] ++ incAt 1 1 "b" :: []) := by
  rw [String.toList_ofList]
  exact parse_eq_of_check _ _ (by decide +kernel)
theorem parse_twoB : parseObjs "include file ../d/a\n".toList = .ok ([] ++ incAt 1 1 "../d/a" :: []) := by
  rw [String.toList_ofList]
  exact parse_eq_of_check _ _ (by decide +kernel)

example : expand fsTwo pA = .error (.runtime "include_cycle" none) := by
  have := include_inlines fsTwo 3 pA [] _ [] [] (incAt 1 1 "b") "b".toList rfl parse_twoA (by simp) rfl rfl
  have hres : resolvePath pA.dropLast "b".toList = pB := by decide
  have hb3 : expandFile fsTwo 3 pB ([] ++ [pA]) = .error (.runtime "include_cycle" none) :=
    back_edge_is_cycle_error fsTwo 1 pB pA [pA] _ _ [] [] _ (incAt 1 1 "../d/a") "../d/a".toList
      rfl parse_twoB (by decide) rfl rfl (by decide) (by simp) rfl parse_twoA
  rw [hres, hb3] at this
  exact this

/-- a diamond: `/d/r` includes `/d/l` twice -/
def pR : Path := ["d".toList, "r".toList]
def pL : Path := ["d".toList, "l".toList]
def fsDiamond : IncEnv :=
  { fs := [(pR, "include file l\ninclude file ./l\n".toList), (pL, "x = 1\ns { y = 2 }\n".toList)] }

def leafObjs : List Obj :=
  [objX,
   .scope { name := "s".toList, id := some 2, line := some 2 }
     [.defn { name := "y".toList, id := some 3, line := some 2 } [⟨"2".toList, none, some 2⟩]]]

theorem parse_diamondR :
    parseObjs "include file l\ninclude file ./l\n".toList = .ok [incAt 1 1 "l", incAt 2 2 "./l"] := by
  rw [String.toList_ofList]
  exact parse_eq_of_check _ _ (by decide +kernel)
theorem parse_diamondL : parseObjs "x = 1\ns { y = 2 }\n".toList = .ok leafObjs := by
  rw [String.toList_ofList]
  exact parse_eq_of_check _ _ (by decide +kernel)

example : expand fsDiamond pR = .ok (leafObjs ++ leafObjs) := by
  have h := diamond_ok fsDiamond pR pL _ _ (incAt 1 1 "l") (incAt 2 2 "./l") "l".toList "./l".toList
    leafObjs rfl parse_diamondR rfl rfl (by decide) (by decide) rfl parse_diamondL rfl (by decide)
  have e : resetTmpl leafObjs = leafObjs := resetTmpl_id leafObjs rfl
  rw [e] at h
  exact h

/-- the file system satisfies the parser hypothesis of the theorems above -/
theorem parseFuelOK_fsDiamond : ParseFuelOK fsDiamond.fs :=
  List.forall_mem_cons.mpr ⟨ne_outOfFuel_of_ok parse_diamondR,
    List.forall_mem_cons.mpr ⟨ne_outOfFuel_of_ok parse_diamondL, nofun⟩⟩

example : expand fsDiamond pR ≠ .error .outOfFuel :=
  expand_total_files fsDiamond rfl parseFuelOK_fsDiamond pR

/-- the bound of `expand_never_out_of_fuel_files` is sharp: one file, fuel 1 (= number of files), and
    the file includes something: the model gives up -/
example : expandFile { fs := [(pA, "include file b\n".toList)] } 1 pA [] = .error .outOfFuel := by
  rw [expandFile_fresh _ 0 pA [] _ _ (by simp) rfl parse_twoA]
  show processIncludes _ 0 _ _ (incAt 1 1 "b" :: []) = _
  rw [processIncludes_cons]
  rfl

/-- names are resolved against the directory of the *including* file: `/d/r` includes `sub/m`, and
    `/d/sub/m` includes `leaf`, which is `/d/sub/leaf` (not `/d/leaf`, which does not exist) -/
def fsNested : IncEnv :=
  { fs := [(pR, "include file sub/m\n".toList),
           (["d".toList, "sub".toList, "m".toList], "include file leaf\n".toList),
           (["d".toList, "sub".toList, "leaf".toList], "x = 1\n".toList)] }

/-- the texts of `/d/r`, `/d/sub/m` (also the text of the import `m.lib` below) and `/d/sub/leaf` -/
theorem parse_subM : parseObjs "include file sub/m\n".toList = .ok ([] ++ incAt 1 1 "sub/m" :: []) := by
  rw [String.toList_ofList]
  exact parse_eq_of_check _ _ (by decide +kernel)
theorem parse_lib : parseObjs "include file leaf\n".toList = .ok ([] ++ incAt 1 1 "leaf" :: []) := by
  rw [String.toList_ofList]
  exact parse_eq_of_check _ _ (by decide +kernel)
theorem parse_x1 : parseObjs "x = 1\n".toList = .ok [objX] := by
  rw [String.toList_ofList]
  exact parse_eq_of_check _ _ (by decide +kernel)

example : expand fsNested pR = .ok [objX] := by
  have hleaf : expandFile fsNested 3 ["d".toList, "sub".toList, "leaf".toList]
      ([] ++ [pR] ++ [["d".toList, "sub".toList, "m".toList]]) = .ok [objX] := by
    rw [expandFile_fresh _ 2 _ _ _ [objX] (by decide) rfl parse_x1]
    exact Phil.no_include_identity _ _ _ _ _ rfl
  have hm : expandFile fsNested 4 ["d".toList, "sub".toList, "m".toList] ([] ++ [pR]) = .ok [objX] := by
    have := include_inlines fsNested 3 ["d".toList, "sub".toList, "m".toList] ([] ++ [pR]) _ [] []
      (incAt 1 1 "leaf") "leaf".toList rfl parse_lib (by decide) rfl rfl
    have hres : resolvePath (["d".toList, "sub".toList, "m".toList] : Path).dropLast "leaf".toList
        = ["d".toList, "sub".toList, "leaf".toList] := by decide
    rw [hres] at this
    rw [this, hleaf, processIncludes_nil]
    rfl
  have := include_inlines fsNested 4 pR [] _ [] [] (incAt 1 1 "sub/m") "sub/m".toList rfl parse_subM
    (by simp) rfl rfl
  have hres : resolvePath pR.dropLast "sub/m".toList = ["d".toList, "sub".toList, "m".toList] := by decide
  rw [hres] at this
  unfold expand
  show expandFile fsNested 5 pR [] = _
  rw [this, hm, processIncludes_nil]
  rfl

/-- path resolution on concrete names -/
example : resolvePath ["a".toList, "b".toList] "../c/./d//e".toList
    = ["a".toList, "c".toList, "d".toList, "e".toList] := by decide +kernel
example : resolvePath ["a".toList, "b".toList] "/c/../../d".toList = ["d".toList] := by decide +kernel
example : resolvePath ["a".toList, "b".toList] "x.phil".toList
    = ["a".toList, "b".toList, "x.phil".toList] :=
  resolvePath_relative _ _ (by decide) (by decide) (by decide) (by decide)

/-! #### `include scope` -/

def scopeAt (id line : Nat) (p : String) : Obj :=
  .defn { name := "include".toList, id := some id, line := some line }
    [⟨"scope".toList, none, some line⟩, ⟨p.toList, none, some line⟩]
def scopeSubAt (id line : Nat) (p q : String) : Obj :=
  .defn { name := "include".toList, id := some id, line := some line }
    [⟨"scope".toList, none, some line⟩, ⟨p.toList, none, some line⟩, ⟨q.toList, none, some line⟩]

theorem scope_no_dollar : "scope".toList.contains '$' = false := by decide
theorem scopeTarget_scopeAt (id line : Nat) (p : String) (h : p.toList.contains '$' = false) :
    scopeTarget (scopeAt id line p) = some (p.toList, none) :=
  scopeTarget_two_words _ _ _ rfl rfl
    (by simp only [containsDollar, List.any_cons, List.any_nil, h, scope_no_dollar]; rfl) rfl
theorem scopeTarget_scopeSubAt (id line : Nat) (p q : String) (h : p.toList.contains '$' = false)
    (h' : q.toList.contains '$' = false) :
    scopeTarget (scopeSubAt id line p q) = some (p.toList, some q.toList) :=
  scopeTarget_three_words _ _ _ _ rfl rfl
    (by simp only [containsDollar, List.any_cons, List.any_nil, h, h', scope_no_dollar]; rfl) rfl

/-- the scope `s { y = 2 }` as parsed from the import `m.inner` -/
def scopeS : Obj :=
  .scope { name := "s".toList, id := some 1, line := some 1 }
    [.defn { name := "y".toList, id := some 2, line := some 2 } [⟨"2".toList, none, some 2⟩]]
def objZ : Obj := .defn { name := "z".toList, id := some 2, line := some 2 } [⟨"3".toList, none, some 2⟩]

/-- `m.outer` is nothing but `include scope m.inner`; `m.inner` holds `s { y = 2 }` -/
def envNested : IncEnv :=
  { fs := [(pR, "include scope m.outer s\nz = 3\n".toList)],
    imports := [("m.outer".toList, "include scope m.inner\n".toList),
                ("m.inner".toList, "s {\n  y = 2\n}\n".toList)],
    cwd := ["d".toList] }

theorem parse_outer : parseObjs "include scope m.inner\n".toList = .ok [scopeAt 1 1 "m.inner"] := by
  rw [String.toList_ofList]
  exact parse_eq_of_check _ _ (by decide +kernel)
theorem parse_inner : parseObjs "s {\n  y = 2\n}\n".toList = .ok [scopeS] := by
  rw [String.toList_ofList]
  exact parse_eq_of_check _ _ (by decide +kernel)
theorem parse_nestedR :
    parseObjs "include scope m.outer s\nz = 3\n".toList = .ok [scopeSubAt 1 1 "m.outer" "s", objZ] := by
  rw [String.toList_ofList]
  exact parse_eq_of_check _ _ (by decide +kernel)

/-- `include_scope_inlines` at work: `include scope m.inner` is replaced by the objects of `m.inner` -/
theorem expanded_outer (f : Nat) (refdir : Path) (stack : List Path) :
    processIncludes envNested (f + 1) refdir stack [scopeAt 1 1 "m.inner"] = .ok [scopeS] := by
  rw [include_scope_inlines envNested f refdir stack _ [] _ _ _ (scopeTarget_scopeAt 1 1 "m.inner" (by decide))
    rfl parse_inner, processIncludes_nil,
    Phil.no_include_identity envNested f _ _ [scopeS] rfl]
  rfl

/-- **the selection is taken after expansion**: in the text of `m.outer` there is no `s` at all … -/
example : selectPath [scopeAt 1 1 "m.inner"] "s".toList = [] := by decide
/-- … but in its expansion there is -/
theorem select_s : selectPath [scopeS] "s".toList = [scopeS] := by rfl

/-- … and `include scope m.outer s` splices it (`include_scope_subpath`, non-empty case) -/
theorem nested_subpath (f : Nat) (refdir : Path) (stack : List Path) :
    processIncludes envNested (f + 2) refdir stack [scopeSubAt 1 1 "m.outer" "s", objZ]
      = .ok [scopeS, objZ] := by
  have h := (include_scope_subpath envNested (f + 1) refdir stack _ [objZ] _ _ _ _ [scopeS]
    (scopeTarget_scopeSubAt 1 1 "m.outer" "s" (by decide) (by decide)) rfl parse_outer
    (expanded_outer f _ stack)).2 (by rw [select_s]; simp) (by rw [select_s]; rfl)
  rw [h, select_s, Phil.no_include_identity envNested _ _ _ [objZ] rfl]
  rfl

example : expand envNested pR = .ok [scopeS, objZ] := by
  unfold expand
  show expandFile envNested 7 pR [] = _
  rw [expandFile_fresh envNested 6 pR [] _ _ (by simp) rfl parse_nestedR]
  exact nested_subpath 4 _ _

/-- `include_scope_expands_first` applies to it: the spliced objects *are* the selection from the
    expansion of `m.outer` (its text itself has no `s`, see above) -/
example : ∃ expanded, processIncludes envNested 1 envNested.cwd [] [scopeAt 1 1 "m.inner"] = .ok expanded ∧
    [scopeS] = selectPath expanded "s".toList := by
  have h := (include_scope_subpath envNested 1 [] [] _ [] _ _ _ _ [scopeS]
    (scopeTarget_scopeSubAt 1 1 "m.outer" "s" (by decide) (by decide)) rfl parse_outer
    (expanded_outer 0 _ [])).2 (by rw [select_s]; simp) (by rw [select_s]; rfl)
  rw [select_s, processIncludes_nil] at h
  exact include_scope_expands_first envNested 1 [] [] (scopeSubAt 1 1 "m.outer" "s") _ _ _ _ [scopeS]
    (scopeTarget_scopeSubAt 1 1 "m.outer" "s" (by decide) (by decide)) rfl parse_outer h

/-- `include_scope_subpath`, empty case: a path that selects nothing is an error at the statement's line -/
example (f : Nat) (refdir : Path) (stack : List Path) :
    processIncludes envNested (f + 2) refdir stack [scopeSubAt 1 1 "m.outer" "zz"]
      = .error (.runtime "include_scope_not_found" (some 1)) :=
  (include_scope_subpath envNested (f + 1) refdir stack _ [] _ _ _ _ [scopeS]
    (scopeTarget_scopeSubAt 1 1 "m.outer" "zz" (by decide) (by decide)) rfl parse_outer (expanded_outer f _ stack)).1 (by decide)

/-- the imports of `envNested` are ranked by position (`m.outer` refers to the later `m.inner`), so
    `expand_total` applies -/
theorem importsRanked_envNested : ImportsRanked envNested := importsRanked_of_check envNested (by decide +kernel)

example : expand envNested pR ≠ .error .outOfFuel := by
  apply expand_total envNested ?_ ?_ importsRanked_envNested
  · exact List.forall_mem_cons.mpr ⟨ne_outOfFuel_of_ok parse_nestedR, nofun⟩
  · exact List.forall_mem_cons.mpr ⟨ne_outOfFuel_of_ok parse_outer,
      List.forall_mem_cons.mpr ⟨ne_outOfFuel_of_ok parse_inner, nofun⟩⟩

/-- **reference directory**: `/d/r` includes the scope `m.lib`, whose text includes the relative name
    `leaf`: it is `/w/leaf` (current directory `/w`), not `/d/leaf` next to the including file -/
def envCwd : IncEnv :=
  { fs := [(pR, "include scope m.lib\n".toList),
           (["d".toList, "leaf".toList], "y = 2\n".toList),
           (["w".toList, "leaf".toList], "x = 1\n".toList)],
    imports := [("m.lib".toList, "include file leaf\n".toList)],
    cwd := ["w".toList] }

theorem parse_libR : parseObjs "include scope m.lib\n".toList = .ok ([] ++ scopeAt 1 1 "m.lib" :: []) := by
  rw [String.toList_ofList]
  exact parse_eq_of_check _ _ (by decide +kernel)

example : expand envCwd pR = .ok [objX] := by
  unfold expand
  show expandFile envCwd 9 pR [] = _
  rw [expandFile_fresh envCwd 8 pR [] _ _ (by simp) rfl parse_libR]
  show processIncludes envCwd (7 + 1) _ _ (scopeAt 1 1 "m.lib" :: []) = _
  rw [include_scope_refdir envCwd 7 _ _ _ [] _ _ [] [] (incAt 1 1 "leaf") "leaf".toList
    (scopeTarget_scopeAt 1 1 "m.lib" (by decide)) rfl parse_lib rfl rfl]
  have hres : resolvePath envCwd.cwd "leaf".toList = ["w".toList, "leaf".toList] := by decide
  rw [hres, expandFile_fresh envCwd 6 _ _ _ [objX] (by decide) rfl parse_x1,
    Phil.no_include_identity envCwd 6 _ _ [objX] rfl, processIncludes_nil, processIncludes_nil]
  rfl

/-- **a file cycle through an imported scope**: `/d/a` includes the scope `m.back`, whose text
    includes `a` — with current directory `/d` that is `/d/a` again -/
def envBack : IncEnv :=
  { fs := [(pA, "include scope m.back\n".toList)],
    imports := [("m.back".toList, "include file a\n".toList)],
    cwd := ["d".toList] }

theorem parse_backA : parseObjs "include scope m.back\n".toList = .ok ([] ++ scopeAt 1 1 "m.back" :: []) := by
  rw [String.toList_ofList]
  exact parse_eq_of_check _ _ (by decide +kernel)
theorem parse_back : parseObjs "include file a\n".toList = .ok ([] ++ incAt 1 1 "a" :: []) := by
  rw [String.toList_ofList]
  exact parse_eq_of_check _ _ (by decide +kernel)

example : expand envBack pA = .error (.runtime "include_cycle" none) :=
  file_scope_file_cycle envBack 2 pA _ _ [] [] [] [] (scopeAt 1 1 "m.back") (incAt 1 1 "a") _ none
    "a".toList rfl parse_backA rfl (scopeTarget_scopeAt 1 1 "m.back" (by decide)) rfl parse_back rfl rfl (by decide)

/-- the same through the graph view: `/d/a` includes `/d/a`, by way of the scope `m.back` -/
example : IncWalk envBack pA [] pA [pA] ∧ pA ∈ [pA] :=
  ⟨.step ⟨_, _, rfl, parse_backA,
      .scope "m.back".toList _ _ (by decide) rfl parse_back
        (.file "a".toList (by simp [includeTargets, includeTargetsObj, incAt, includeTarget, containsDollar, lower]; decide)
          (by decide))⟩
      (.here _ _), by simp⟩

/-- **`ImportsRanked` is needed**: an imported scope that includes itself — Python recurses without
    bound (no cycle detection for scopes), the model gives up -/
def envLoop : IncEnv :=
  { fs := [(pA, "include scope m.loop\n".toList)],
    imports := [("m.loop".toList, "include scope m.loop\n".toList)] }

example : importsRankedB envLoop = false := by decide +kernel

theorem parse_loop : parseObjs "include scope m.loop\n".toList = .ok ([] ++ scopeAt 1 1 "m.loop" :: []) := by
  rw [String.toList_ofList]
  exact parse_eq_of_check _ _ (by decide +kernel)

/-- whatever the fuel, the statement `include scope m.loop` exhausts it -/
theorem loop_out_of_fuel (f : Nat) (refdir : Path) (stack : List Path) :
    processIncludes envLoop f refdir stack [scopeAt 1 1 "m.loop"] = .error .outOfFuel := by
  induction f generalizing refdir with
  | zero =>
    rw [processIncludes_cons,
      includeHere_scope envLoop 0 refdir stack _ _ _ (scopeTarget_scopeAt 1 1 "m.loop" (by decide))]
    rfl
  | succ f ih =>
    rw [include_scope_inlines envLoop f refdir stack _ [] _ _ _
      (scopeTarget_scopeAt 1 1 "m.loop" (by decide)) rfl parse_loop]
    show splice (processIncludes envLoop f envLoop.cwd stack [scopeAt 1 1 "m.loop"]) _ = _
    rw [ih]; rfl

example : expand envLoop pA = .error .outOfFuel := by
  unfold expand
  rw [expandFile_fresh envLoop _ pA [] _ _ (by simp) rfl parse_loop]
  exact loop_out_of_fuel _ _ _

end Phil.C13

/-! ### axioms -/
#print axioms Phil.C13.cycle_refused
#print axioms Phil.C13.back_edge_is_cycle_error
#print axioms Phil.C13.nodup_subset_length_le_distinct
#print axioms Phil.C13.expand_never_out_of_fuel
#print axioms Phil.C13.processIncludes_never_out_of_fuel
#print axioms Phil.C13.expand_total
#print axioms Phil.C13.importsRanked_of_check
#print axioms Phil.C13.expand_never_out_of_fuel_files
#print axioms Phil.C13.processIncludes_never_out_of_fuel_files
#print axioms Phil.C13.expand_total_files
#print axioms Phil.C13.no_include_identity
#print axioms Phil.C13.no_include_identity_tmpl0
#print axioms Phil.C13.include_inlines
#print axioms Phil.C13.processIncludes_append
#print axioms Phil.C13.diamond_ok
#print axioms Phil.C13.resolvePath_relative
#print axioms Phil.C13.resolvePath_relative_components
#print axioms Phil.C13.resolvePath_absolute
#print axioms Phil.C13.resolvePath_absolute_indep
#print axioms Phil.C13.normComponents_dotdot
#print axioms Phil.C13.cycle_error_sound
#print axioms Phil.C13.cycle_error_sound_gen
#print axioms Phil.C13.ok_no_cycle
#print axioms Phil.C13.cycle_detected
#print axioms Phil.C13.cycle_detected_files
#print axioms Phil.C13.scopeTarget_two_words
#print axioms Phil.C13.scopeTarget_three_words
#print axioms Phil.C13.include_scope_inlines
#print axioms Phil.C13.include_scope_inlines_ok
#print axioms Phil.C13.include_scope_inlines_error
#print axioms Phil.C13.include_scope_subpath
#print axioms Phil.C13.include_scope_subpath_error
#print axioms Phil.C13.include_scope_expands_first
#print axioms Phil.C13.include_scope_refdir_indep
#print axioms Phil.C13.include_scope_refdir
#print axioms Phil.C13.file_cycle_through_scope_detected
#print axioms Phil.C13.file_scope_file_cycle
#print axioms Phil.C13.parse_selfA
#print axioms Phil.C13.parse_twoA
#print axioms Phil.C13.parse_twoB
#print axioms Phil.C13.parseFuelOK_fsDiamond
#print axioms Phil.C13.scope_no_dollar
#print axioms Phil.C13.scopeTarget_scopeAt
#print axioms Phil.C13.scopeTarget_scopeSubAt
#print axioms Phil.C13.parse_outer
#print axioms Phil.C13.parse_inner
#print axioms Phil.C13.parse_nestedR
#print axioms Phil.C13.expanded_outer
#print axioms Phil.C13.select_s
#print axioms Phil.C13.nested_subpath
#print axioms Phil.C13.importsRanked_envNested
#print axioms Phil.C13.parse_libR
#print axioms Phil.C13.parse_lib
#print axioms Phil.C13.parse_backA
#print axioms Phil.C13.parse_back
#print axioms Phil.C13.parse_loop
#print axioms Phil.C13.loop_out_of_fuel
