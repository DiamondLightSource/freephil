/-
  C08 (NESTED masters WITH `.multiple` SCOPES) — "fetch_diff is a faithful and minimal difference":
  the closed form of `scope.fetch(diff=True)` on `MSMaster` masters (the class of Props/C05TreeMS.lean:
  enabled scopes to any depth, `.multiple` or not, optional or mandatory, nested in each other at will;
  `.multiple` or plain typed definitions; sibling names pairwise distinct) with arbitrary sources.

  Model: Phil/Fetch.lean (`fetchScope … true …`).  Lemmas: Phil/Proofs/DiffTreeMS.lean.
  Specification (structural recursion on the master tree, fuel-free):
    `mdBlock e mo srcs` — what the master child `mo` contributes to the difference:
        a definition — `diffBlockL` (Props/C08Tree.lean);
        a non-multiple scope — itself with `msDiff` of its body against the children of ALL enabled source
        scopes of its name, dropped if that is empty;
        a `.multiple` scope — NO template; per enabled source scope `s` of its name the candidate "the
        scope with `msDiff` of the body against the children of `s`"; EMPTY candidates are skipped; the
        others go through the list rule (`survivorsOf`) with the keys
        `mo.extract_format(source=candidate).as_str()` of the DIFFERENCE candidates — dropped when equal to
        the key of the master's own fetched block, of equal keys the last one stays;
    `msDiff e mkids srcs` — the concatenation of the blocks in master order.
  Hypotheses: `KeysDiffMS` (every rendering the difference compares is defined), fuel
  `depthL mkids + 1 < fuel`, `SrcTree srcs`.
  Facts (sections below):
    1. `fetch_diff_ms_total` (TOTAL: difference + consumed ids, or "incompatible"), `fetchRoot_diff_ms(_checked)`;
    2. `diff_ms_minimal`, `diff_ms_no_empty_scope`, `self_diff_ms_empty_nosrc`;
    3. `master_as_source_diff_empty`, `diff_of_working_ms(_spec,_minimal)` (`M.fetch_diff(M.fetch(S)) = M.fetch_diff(S)`),
       `self_diff_ms_empty` — the working-set laws need `CohMS` (coherence of the working-set rendering and the
       difference rendering of the blocks of a `.multiple` scope; trivially true without sources; sharp for
       arbitrary environments: `cohMS_needed`);
    4. `diff_ms_idempotent`, `restore_ms_closed` (closed form `msRestoredS` of `M.fetch(M.fetch_diff(S))`),
       `restore_ms_same_instances` (same template, same instances in the same order), `restore_ms_exact`,
       `diff_restore_ms_fixed_point(_spec,_checked)`, `restore_ms_twice`;
    witnesses: `keysDiff_needed`, `diff_ms_fuel_needed`, `restore_ms_not_tree_equal`, `cohMS_needed`,
    `restore_ms_further_occurrence_reorders` (finding D10 on `.multiple` SCOPES: one occurrence per name is sharp).
  Not covered: further master occurrences in diff mode (the `-1` marker), values equal after restoring (D42).
  After proving: 500 fresh instances — `msDiff`, `msRestoredS` and the difference of the restored set equal the
  real library's `D`, `M.fetch(D)`, `M.fetch_diff(M.fetch(D))` on all 500; `cohMSB` true on the sources and on
  the difference for all 500.  Python probe of the four laws of C08 on 1500 random inputs of the class: 0 failures.
  Validation of the specification against the real library BEFORE proving: 750 random instances
  (scratch generator: depth ≤ 3, `.multiple` scopes nested in each other, mandatory ones, `.multiple`
  definitions, int/bool/str/untyped values with non-canonical spellings; sources dotted/braced, repeated
  blocks, disabled objects, unknown names, clashes): 693 differences equal to `msDiff` (315 non-empty),
  57 clash errors agree with `msNoClash`, 0 mismatches; the model agreed with Python on all 750.
-/
import Phil.Proofs.DiffTreeMS
import Phil.Props.C05TreeMS
import Phil.Props.C08Tree

namespace Phil.C08
open Phil

/-! ### 1. the closed form -/

/-- **The difference in closed form, masters with `.multiple` scopes (total).**  With fuel beyond the
    nesting depth plus one and defined keys, `master.fetch_diff(sources)` succeeds exactly when no kinds
    clash (`msNoClash`, the test of the non-diff fetch); its children are `msDiff`; the consumed ids are
    those of the non-diff fetch (`msUsed`); a clash makes it fail with RuntimeError ("incompatible"). -/
theorem fetch_diff_ms_total (e : Envs) (fuel : Nat) (sm : Meta) (mkids srcs : List Obj)
    (hf : MSMaster mkids) (hfuel : depthL mkids + 1 < fuel) (hsd : sm.disabled = false)
    (hsrc : SrcTree srcs) (hkeys : KeysDiffMS e mkids srcs) :
    fetchScope e fuel true sm mkids srcs =
      if msNoClash mkids srcs then
        .ok (.scope { sm with tmpl := 0 } (msDiff e mkids srcs), msUsed mkids srcs)
      else .error (.runtime "incompatible" none) :=
  Phil.diff_ms_total e fuel sm mkids srcs hf hfuel hsd hsrc hkeys

/-- a successful difference is the specification -/
theorem fetch_diff_ms_ok (e : Envs) (fuel : Nat) (sm : Meta) (mkids srcs : List Obj)
    (hf : MSMaster mkids) (hfuel : depthL mkids + 1 < fuel) (hsd : sm.disabled = false)
    (hsrc : SrcTree srcs) (hkeys : KeysDiffMS e mkids srcs) (rm : Meta) (D : List Obj) (used : List Nat)
    (h : fetchScope e fuel true sm mkids srcs = .ok (.scope rm D, used)) :
    msNoClash mkids srcs = true ∧ rm = { sm with tmpl := 0 } ∧ D = msDiff e mkids srcs ∧
      used = msUsed mkids srcs := by
  obtain ⟨hnc, hro, hu⟩ := ok_of_total (diff_ms_total e fuel sm mkids srcs hf hfuel hsd hsrc hkeys) h
  cases hro
  exact ⟨hnc, rfl, rfl, hu⟩

/-- **`master.fetch_diff(sources=…)`** on parsed roots: the fuel `fetchRoot` computes is adequate -/
theorem fetchRoot_diff_ms (e : Envs) (master : List Obj) (ss : List (List Obj))
    (hf : MSMaster master) (hd : depthL master ≤ 1000) (hsrc : SrcTree ss.flatten)
    (hkeys : KeysDiffMS e master ss.flatten) :
    fetchRoot e true master ss =
      if msNoClash master ss.flatten then
        .ok (.scope { name := [], id := some 0 } (msDiff e master ss.flatten), msUsed master ss.flatten)
      else .error (.runtime "incompatible" none) :=
  diff_ms_total e _ _ master ss.flatten hf (fetchRoot_fuel_dt master hd) rfl hsrc hkeys

/-- … with the side conditions in executable form (`masterCheck_ms`, `srcCheck`, `keysDiffMSB`) -/
theorem fetchRoot_diff_ms_checked (e : Envs) (master : List Obj) (ss : List (List Obj))
    (hm : masterCheck_ms master = true) (hs : srcCheck ss.flatten = true)
    (hk : keysDiffMSB e master ss.flatten = true) :
    fetchRoot e true master ss =
      if msNoClash master ss.flatten then
        .ok (.scope { name := [], id := some 0 } (msDiff e master ss.flatten), msUsed master ss.flatten)
      else .error (.runtime "incompatible" none) :=
  have hM := masterCheck_ms_sound master hm
  fetchRoot_diff_ms e master ss hM.tree hM.depth (srcCheck_sound ss.flatten hs).tree
    (keysDiffMSB_sound e master _ hk)

/-- **the block of a `.multiple` scope in a difference** (the specification spelled out): no
    template; the survivors of the list rule among the NON-EMPTY difference candidates, one per enabled
    source scope of that name in document order, compared by the renderings of the difference
    candidates -/
theorem diff_multiple_scope_rule (e : Envs) (mm : Meta) (kids srcs : List Obj)
    (hmult : (mm.attrs.get "multiple").truthy = true) :
    mdBlock e (.scope mm kids) srcs =
      (dedupKeepLast
        ((((scopesNamed mm.name srcs).filter (fun s => !(msDiff e kids s.children).isEmpty)).map
            (fun s => (Obj.scope { mm with tmpl := 0 } (msDiff e kids s.children),
              keyMS e (.scope mm kids) (Obj.scope { mm with tmpl := 0 } (msDiff e kids s.children))))).filter
          (fun y => y.2 != keyMS e (.scope mm kids) (.scope { mm with tmpl := 0 } (msResult e kids []))))).map
        (·.1) := by
  rw [mdBlock_multi_eq e mm kids srcs hmult]
  rfl

/-- a non-multiple scope: itself with the difference of its body, dropped when empty -/
theorem diff_plain_scope_block (e : Envs) (mm : Meta) (kids srcs : List Obj)
    (hmult : (mm.attrs.get "multiple").truthy = false) :
    mdBlock e (.scope mm kids) srcs =
      if (msDiff e kids (srcStep srcs mm.name)).isEmpty then []
      else [.scope { mm with tmpl := 0 } (msDiff e kids (srcStep srcs mm.name))] :=
  mdBlock_plain_eq e mm kids srcs hmult

/-- a definition: as for masters without `.multiple` scopes (`tdBlock`) -/
theorem diff_defn_block (e : Envs) (mm : Meta) (mws : List Word) (srcs : List Obj) :
    mdBlock e (.defn mm mws) srcs = tdBlock e (.defn mm mws) srcs := by
  rw [mdBlock, tdBlock]

/-- the whole difference: the blocks in master order -/
theorem msDiff_eq (e : Envs) (mkids srcs : List Obj) :
    msDiff e mkids srcs = mkids.flatMap (fun mo => mdBlock e mo srcs) :=
  msDiff_eq_flatMap e srcs mkids

/-- the difference is nested no deeper than the master -/
theorem diff_ms_depth (e : Envs) (mkids srcs : List Obj) : depthL (msDiff e mkids srcs) ≤ depthL mkids :=
  depthL_msDiff e mkids srcs

/-! ### 2. minimality; no empty scopes; no sources -/

/-- **Minimality.**  Every definition `x` of `master.fetch_diff(sources)`, at any depth — inside the
    instances of `.multiple` scopes too — is the candidate built from an enabled source definition for a
    master definition `mo`, and its key `mo.extract_format(source=x).as_str()` differs from
    `mo.extract_format().as_str()`: it renders differently from the master default. -/
theorem diff_ms_minimal (e : Envs) (fuel : Nat) (sm : Meta) (mkids srcs : List Obj)
    (hf : MSMaster mkids) (hfuel : depthL mkids + 1 < fuel) (hsd : sm.disabled = false)
    (hsrc : SrcTree srcs) (hkeys : KeysDiffMS e mkids srcs) (rm : Meta) (D : List Obj) (used : List Nat)
    (h : fetchScope e fuel true sm mkids srcs = .ok (.scope rm D, used)) :
    ∀ x, ActiveIn x D → x.isDefn = true →
      ∃ mo, ActiveIn mo mkids ∧ mo.isDefn = true ∧ (∃ d, ActiveIn d srcs ∧ x = candOfSrc mo d) ∧
        keyOf e 0 mo x ≠ keyOf e 0 mo mo := by
  obtain ⟨_, _, rfl, _⟩ := fetch_diff_ms_ok e fuel sm mkids srcs hf hfuel hsd hsrc hkeys rm D used h
  exact msDiff_minimal_md e mkids srcs hf.kids

/-- **No empty scopes.**  Every scope of a difference, at any depth — every kept instance of a
    `.multiple` scope included — has children. -/
theorem diff_ms_no_empty_scope (e : Envs) (fuel : Nat) (sm : Meta) (mkids srcs : List Obj)
    (hf : MSMaster mkids) (hfuel : depthL mkids + 1 < fuel) (hsd : sm.disabled = false)
    (hsrc : SrcTree srcs) (hkeys : KeysDiffMS e mkids srcs) (rm : Meta) (D : List Obj) (used : List Nat)
    (h : fetchScope e fuel true sm mkids srcs = .ok (.scope rm D, used)) :
    ∀ m kids, ActiveIn (.scope m kids) D → kids ≠ [] := by
  obtain ⟨_, _, rfl, _⟩ := fetch_diff_ms_ok e fuel sm mkids srcs hf hfuel hsd hsrc hkeys rm D used h
  exact msDiff_no_empty_md e mkids srcs

/-- **No sources: empty difference** (nothing consumed). -/
theorem self_diff_ms_empty_nosrc (e : Envs) (fuel : Nat) (sm : Meta) (mkids : List Obj)
    (hf : MSMaster mkids) (hfuel : depthL mkids + 1 < fuel) (hsd : sm.disabled = false)
    (hk : KeysDiffMS e mkids []) :
    fetchScope e fuel true sm mkids [] = .ok (.scope { sm with tmpl := 0 } [], []) := by
  rw [Phil.diff_ms_total e fuel sm mkids [] hf hfuel hsd srcTree_nil hk, msNoClash_nil_src,
    msDiff_nil_md, msUsed_nil_md]
  rfl

/-! ### 3. empty self-difference; the difference of a working set -/

/-- **The master itself as the source: empty difference** (`M.fetch_diff(M)` has no children), on the
    specification; no hypothesis on the renderings.  (`RefetchTree`: master definitions are not
    template-marked and carry variable-free words — true of every parsed master.) -/
theorem master_as_source_diff_empty (e : Envs) (mkids : List Obj) (hf : MSMaster mkids)
    (hr : RefetchTree mkids) : msDiff e mkids mkids = [] :=
  msDiff_self e mkids hf hr

/-- **`M.fetch_diff(M.fetch(S)) = M.fetch_diff(S)`** on the specification, for masters with `.multiple`
    scopes nested at will, under the coherence hypothesis `CohMS e mkids srcs` (the working-set
    rendering and the difference rendering of the source blocks of a `.multiple` scope identify the
    same blocks; see `CohMS`; executable form `cohMSB`; sharp: `cohMS_needed`). -/
theorem diff_of_working_ms_spec (e : Envs) (mkids srcs : List Obj) (hf : MSMaster mkids)
    (hr : RefetchTree mkids) (hc : CohMS e mkids srcs) :
    msDiff e mkids (msResult e mkids srcs) = msDiff e mkids srcs :=
  msDiff_working e mkids srcs hf hr hc

/-- the side conditions of the second difference follow from those of the first: the working set never
    clashes with its master, is a well-formed source tree, and its difference keys are defined -/
theorem diff_of_working_hypotheses_ms (e : Envs) (mkids srcs : List Obj) (hf : MSMaster mkids)
    (hr : RefetchTree mkids) (hdol : SrcNoDollar srcs) (hkeys : KeysDefinedMS e mkids srcs)
    (hkd : KeysDiffMS e mkids srcs) (hc : CohMS e mkids srcs) :
    msNoClash mkids (msResult e mkids srcs) = true ∧ SrcTree (msResult e mkids srcs) ∧
      KeysDiffMS e mkids (msResult e mkids srcs) :=
  ⟨(msSide_result e mkids srcs hf hr hkeys).1, srcTree_msResult e mkids srcs hf hr hdol,
    keysDiff_msResult e mkids srcs hf hr hkd hc⟩

/-- **`master.fetch_diff(master.fetch(sources))` has the children of `master.fetch_diff(sources)`**
    (and never fails), operationally. -/
theorem diff_of_working_ms (e : Envs) (fuel : Nat) (sm : Meta) (mkids srcs : List Obj)
    (hf : MSMaster mkids) (hfuel : depthL mkids + 1 < fuel) (hsd : sm.disabled = false)
    (hr : RefetchTree mkids) (hsrc : SrcTree srcs) (hdol : SrcNoDollar srcs)
    (hkeys : KeysDefinedMS e mkids srcs) (hkd : KeysDiffMS e mkids srcs) (hc : CohMS e mkids srcs)
    (rm : Meta) (W : List Obj) (u : List Nat)
    (hW : fetchScope e fuel false sm mkids srcs = .ok (.scope rm W, u)) :
    ∃ ud ud', fetchScope e fuel true sm mkids W = .ok (.scope rm (msDiff e mkids srcs), ud) ∧
      fetchScope e fuel true sm mkids srcs = .ok (.scope rm (msDiff e mkids srcs), ud') := by
  obtain ⟨hnc, hro, _⟩ := ok_of_total (fetch_ms_total e fuel sm mkids srcs hf (by omega) hsd hsrc hkeys) hW
  injection hro with hrm hWe
  subst hrm; subst hWe
  refine ⟨_, msUsed mkids srcs, diff_working_ms e fuel sm mkids srcs hf hfuel hsd hr hdol hkeys hkd hc, ?_⟩
  rw [Phil.diff_ms_total e fuel sm mkids srcs hf hfuel hsd hsrc hkd, hnc]
  rfl

/-- **The difference of the master's own defaults is empty**: `W₀ = master.fetch()`,
    `master.fetch_diff(W₀)` succeeds and has no children.  No hypothesis on the renderings. -/
theorem self_diff_ms_empty (e : Envs) (fuel : Nat) (sm : Meta) (mkids : List Obj)
    (hf : MSMaster mkids) (hr : RefetchTree mkids) (hfuel : depthL mkids + 1 < fuel)
    (hsd : sm.disabled = false) (hkeys : KeysDefinedMS e mkids []) (hkd : KeysDiffMS e mkids [])
    (rm : Meta) (W0 : List Obj) (u : List Nat)
    (hW : fetchScope e fuel false sm mkids [] = .ok (.scope rm W0, u)) :
    ∃ u', fetchScope e fuel true sm mkids W0 = .ok (.scope rm [], u') := by
  obtain ⟨ud, _, h, _⟩ := diff_of_working_ms e fuel sm mkids [] hf hfuel hsd hr srcTree_nil
    SrcNoDollar.nil hkeys hkd (cohMS_nil e mkids) rm W0 u hW
  rw [msDiff_nil_md] at h
  exact ⟨ud, h⟩

/-- minimality for the difference of a working set (the wording of C08): every definition of
    `D = master.fetch_diff(W)`, `W = master.fetch(sources)`, at any depth, renders differently from its
    master default; no scope of `D` is empty -/
theorem diff_of_working_ms_minimal (e : Envs) (fuel : Nat) (sm : Meta) (mkids srcs : List Obj)
    (hf : MSMaster mkids) (hfuel : depthL mkids + 1 < fuel) (hsd : sm.disabled = false)
    (hr : RefetchTree mkids) (hsrc : SrcTree srcs) (hdol : SrcNoDollar srcs)
    (hkeys : KeysDefinedMS e mkids srcs) (hkd : KeysDiffMS e mkids srcs) (hc : CohMS e mkids srcs)
    (rm : Meta) (W : List Obj) (u : List Nat)
    (hW : fetchScope e fuel false sm mkids srcs = .ok (.scope rm W, u))
    (rd : Meta) (D : List Obj) (ud : List Nat)
    (hD : fetchScope e fuel true sm mkids W = .ok (.scope rd D, ud)) :
    (∀ x, ActiveIn x D → x.isDefn = true →
      ∃ mo, ActiveIn mo mkids ∧ mo.isDefn = true ∧ x.name = mo.name ∧ keyOf e 0 mo x ≠ keyOf e 0 mo mo) ∧
    (∀ m kids, ActiveIn (.scope m kids) D → kids ≠ []) := by
  obtain ⟨ud', _, h, _⟩ := diff_of_working_ms e fuel sm mkids srcs hf hfuel hsd hr hsrc hdol hkeys hkd hc
    rm W u hW
  rw [h] at hD
  injection hD with hD
  injection hD with hD1 hD2
  injection hD1 with _ hDk
  subst hDk
  refine ⟨?_, msDiff_no_empty_md e mkids srcs⟩
  intro x hx hdef
  obtain ⟨mo, hmo, hmd, ⟨d, _, hxd⟩, hne⟩ := msDiff_minimal_md e mkids srcs hf.kids x hx hdef
  refine ⟨mo, hmo, hmd, ?_, hne⟩
  rw [hxd]
  rfl

/-! ### 4. the difference as a source; the restored working set -/

/-- **the difference of a difference is that difference** (no hypothesis on the renderings) -/
theorem diff_ms_idempotent (e : Envs) (mkids srcs : List Obj) (hf : MSMaster mkids) (hr : RefetchTree mkids) :
    msDiff e mkids (msDiff e mkids srcs) = msDiff e mkids srcs :=
  msDiff_idem e mkids srcs hf hr

/-- **Closed form of the restored working set** `W' = master.fetch(master.fetch_diff(sources))`:
    `msRestoredS`, by structural recursion on the master (blocks: `restore_ms_defn_block`,
    `restore_ms_plain_scope_block`, `restore_ms_multiple_scope_block`). -/
theorem restore_ms_closed (e : Envs) (mkids srcs : List Obj) (hf : MSMaster mkids) (hr : RefetchTree mkids) :
    msResult e mkids (msDiff e mkids srcs) = msRestoredS e mkids srcs :=
  (msDiff_view_md e mkids srcs _ hf.kids hr (view_md e mkids srcs hf)).2

/-- a definition of `W'`: `restoredBlockL` (Props/C08Tree.lean) — a `.multiple` definition gets the
    block of the working set back; another one the working value, except that a value merely
    re-spelling the default comes back in the master's spelling -/
theorem restore_ms_defn_block (e : Envs) (mm : Meta) (mws : List Word) (srcs : List Obj) :
    mrBlock e (.defn mm mws) srcs = restoredBlockL e 0 (.defn mm mws) (defsNamed mm.name srcs) := by
  rw [mrBlock]

/-- a non-multiple scope of `W'`: itself, restored -/
theorem restore_ms_plain_scope_block (e : Envs) (mm : Meta) (kids srcs : List Obj)
    (hmult : (mm.attrs.get "multiple").truthy = false) :
    mrBlock e (.scope mm kids) srcs =
      [.scope { mm with tmpl := 0 } (msRestoredS e kids (srcStep srcs mm.name))] := by
  rw [mrBlock]; simp only [hmult, Bool.false_eq_true, if_false]

/-- a `.multiple` scope of `W'`: the template as in any fetch, then the list rule over the restored
    instances of exactly those source blocks that survive in the difference (`diffSurv`: visible — a
    non-empty difference whose rendering is not the master's — and last of their difference
    rendering), in document order: the difference keeps instance boundaries and order -/
theorem restore_ms_multiple_scope_block (e : Envs) (mm : Meta) (kids srcs : List Obj)
    (hmult : (mm.attrs.get "multiple").truthy = true) :
    mrBlock e (.scope mm kids) srcs =
      msMultiBlock (.scope mm kids) (.scope { mm with tmpl := 0 } (msResult e kids []))
        (keyMS e (.scope mm kids) (.scope { mm with tmpl := 0 } (msResult e kids [])))
        ((diffSurv e mm kids (scopesNamed mm.name srcs)).map (fun s =>
          (Obj.scope { mm with tmpl := 0 } (msRestoredS e kids s.children),
           keyMS e (.scope mm kids) (Obj.scope { mm with tmpl := 0 } (msRestoredS e kids s.children))))) := by
  rw [mrBlock]; simp only [hmult, if_true]

/-- **Merging the difference back keeps instance boundaries and order.**  Under `StrongCohAt` (the three
    renderings — working-set instance, difference candidate, restored instance — identify the same
    source blocks of this `.multiple` scope; executable `strongCohAtB`), the block of the scope in the
    working set `W` and its block in the restored working set `W'` are: the SAME template, followed by
    one instance per source scope of `workSurv` (the sources surviving the working set's list rule), in
    the same order — in `W` the fetched instance, in `W'` the restored instance of the same source. -/
theorem restore_ms_same_instances (e : Envs) (mm : Meta) (kids srcs : List Obj)
    (hmult : (mm.attrs.get "multiple").truthy = true)
    (h : StrongCohAt e mm kids (scopesNamed mm.name srcs)) :
    msBlock e (.scope mm kids) srcs =
      tmplOfMS e mm kids (workSurv e mm kids (scopesNamed mm.name srcs)) ::
        (workSurv e mm kids (scopesNamed mm.name srcs)).map
          (fun s => Obj.scope { mm with tmpl := 0 } (msResult e kids s.children)) ∧
    mrBlock e (.scope mm kids) srcs =
      tmplOfMS e mm kids (workSurv e mm kids (scopesNamed mm.name srcs)) ::
        (workSurv e mm kids (scopesNamed mm.name srcs)).map
          (fun s => Obj.scope { mm with tmpl := 0 } (msRestoredS e kids s.children)) :=
  ⟨msBlock_multi_surv e mm kids srcs hmult, mrBlock_multi_surv e mm kids srcs hmult h⟩

/-- **Exact restoration.**  If no non-multiple working value merely re-spells its default and the
    renderings are coherent at every `.multiple` scope (`ExactMS`, at every depth and inside every
    surviving instance), merging the difference back gives the working set itself — as a tree. -/
theorem restore_ms_exact (e : Envs) (mkids srcs : List Obj) (hf : MSMaster mkids) (hr : RefetchTree mkids)
    (hx : ExactMS e mkids srcs) :
    msResult e mkids (msDiff e mkids srcs) = msResult e mkids srcs := by
  rw [restore_ms_closed e mkids srcs hf hr]
  exact msRestoredS_eq_msResult e mkids srcs hx

/-- **The difference of the restored working set is the difference again** (on the specification):
    `D' = M.fetch_diff(M.fetch(D)) = D` for `D = M.fetch_diff(S)`.  Hypothesis: `CohMS` on the difference
    taken as the source (executable: `cohMSB e mkids (msDiff e mkids srcs)`). -/
theorem diff_restore_ms_fixed_point_spec (e : Envs) (mkids srcs : List Obj) (hf : MSMaster mkids)
    (hr : RefetchTree mkids) (hc : CohMS e mkids (msDiff e mkids srcs)) :
    msDiff e mkids (msResult e mkids (msDiff e mkids srcs)) = msDiff e mkids srcs := by
  rw [msDiff_working e mkids _ hf hr hc, msDiff_idem e mkids srcs hf hr]

/-- restoring twice changes nothing -/
theorem restore_ms_twice (e : Envs) (mkids srcs : List Obj) (hf : MSMaster mkids) (hr : RefetchTree mkids)
    (hc : CohMS e mkids (msDiff e mkids srcs)) :
    msResult e mkids (msDiff e mkids (msResult e mkids (msDiff e mkids srcs))) =
      msResult e mkids (msDiff e mkids srcs) := by
  rw [diff_restore_ms_fixed_point_spec e mkids srcs hf hr hc]

/-- **The chain `D = M.fetch_diff(S)`, `W' = M.fetch(D)`, `D' = M.fetch_diff(W')` on `fetchScope`**:
    all three succeed, `W'` is `msRestoredS`, and `D' = D`.  The hypotheses on `D` (it is a well-formed
    source, its keys are defined, it is coherent) are stated on `msDiff e mkids srcs`; each has an
    executable form (`srcCheck`, `keysDefinedMSB`, `keysDiffMSB`, `cohMSB`, `msNoClash`). -/
theorem diff_restore_ms_fixed_point (e : Envs) (fuel : Nat) (sm : Meta) (mkids srcs : List Obj)
    (hf : MSMaster mkids) (hfuel : depthL mkids + 1 < fuel) (hsd : sm.disabled = false)
    (hr : RefetchTree mkids) (hsrc : SrcTree srcs) (hkd : KeysDiffMS e mkids srcs)
    (hnc : msNoClash mkids srcs = true)
    (hDsrc : SrcTree (msDiff e mkids srcs)) (hDdol : SrcNoDollar (msDiff e mkids srcs))
    (hDnc : msNoClash mkids (msDiff e mkids srcs) = true)
    (hDk : KeysDefinedMS e mkids (msDiff e mkids srcs)) (hDkd : KeysDiffMS e mkids (msDiff e mkids srcs))
    (hDc : CohMS e mkids (msDiff e mkids srcs)) :
    ∃ u1 u2 u3,
      fetchScope e fuel true sm mkids srcs = .ok (.scope { sm with tmpl := 0 } (msDiff e mkids srcs), u1) ∧
      fetchScope e fuel false sm mkids (msDiff e mkids srcs) =
        .ok (.scope { sm with tmpl := 0 } (msRestoredS e mkids srcs), u2) ∧
      fetchScope e fuel true sm mkids (msRestoredS e mkids srcs) =
        .ok (.scope { sm with tmpl := 0 } (msDiff e mkids srcs), u3) := by
  rw [← restore_ms_closed e mkids srcs hf hr]
  refine ⟨msUsed mkids srcs, msUsed mkids (msDiff e mkids srcs),
    msUsed mkids (msResult e mkids (msDiff e mkids srcs)), ?_, ?_, ?_⟩
  · rw [Phil.diff_ms_total e fuel sm mkids srcs hf hfuel hsd hsrc hkd, hnc]; rfl
  · rw [Phil.fetch_ms_total e fuel sm mkids _ hf (by omega) hsd hDsrc hDk, hDnc]
    rfl
  · have h := diff_working_ms e fuel sm mkids (msDiff e mkids srcs) hf hfuel hsd hr hDdol hDk hDkd hDc
    rw [msDiff_idem e mkids srcs hf hr] at h
    exact h

/-- … with every side condition in executable form -/
theorem diff_restore_ms_fixed_point_checked (e : Envs) (fuel : Nat) (sm : Meta) (mkids srcs : List Obj)
    (hm : masterCheck_ms mkids = true) (hfuel : depthL mkids + 1 < fuel) (hsd : sm.disabled = false)
    (hs : srcCheck srcs = true) (hkd : keysDiffMSB e mkids srcs = true) (hnc : msNoClash mkids srcs = true)
    (hDs : srcCheck (msDiff e mkids srcs) = true) (hDnc : msNoClash mkids (msDiff e mkids srcs) = true)
    (hDk : keysDefinedMSB e mkids (msDiff e mkids srcs) = true)
    (hDkd : keysDiffMSB e mkids (msDiff e mkids srcs) = true)
    (hDc : cohMSB e mkids (msDiff e mkids srcs) = true) :
    ∃ u1 u2 u3,
      fetchScope e fuel true sm mkids srcs = .ok (.scope { sm with tmpl := 0 } (msDiff e mkids srcs), u1) ∧
      fetchScope e fuel false sm mkids (msDiff e mkids srcs) =
        .ok (.scope { sm with tmpl := 0 } (msRestoredS e mkids srcs), u2) ∧
      fetchScope e fuel true sm mkids (msRestoredS e mkids srcs) =
        .ok (.scope { sm with tmpl := 0 } (msDiff e mkids srcs), u3) :=
  have hM := masterCheck_ms_sound mkids hm
  have hS := srcCheck_sound srcs hs
  have hD := srcCheck_sound (msDiff e mkids srcs) hDs
  diff_restore_ms_fixed_point e fuel sm mkids srcs hM.tree hfuel hsd hM.refetch hS.tree
    (keysDiffMSB_sound e mkids srcs hkd) hnc hD.tree hD.noDollar hDnc (keysDefinedMSB_sound e mkids _ hDk)
    (keysDiffMSB_sound e mkids _ hDkd) (cohMSB_sound e mkids _ hDc)

/-! ### non-vacuity: the nested instance of Props/C05TreeMS.lean (through the parser) -/

/-- the parsed instance (`C05.msM`: `a`; `.multiple` scope `s { b ; .multiple scope t { .multiple c } }`;
    mandatory `.multiple` scope `u { d }` — `C05.msS`: `s` three times + dotted, `u` twice, unknown
    names, a disabled block) satisfies every hypothesis -/
example : (masterCheck_ms C05.msM && srcCheck C05.msS && keysDiffMSB C05.envTm C05.msM C05.msS &&
    msNoClash C05.msM C05.msS) = true := by
  rw [C05.msM_eq, C05.msS_eq]
  decide +kernel

/-- the specification on the instance — the real library returns exactly this tree (replayed):
    the second `s` block (`b = True`, the default) has an empty difference and is skipped; the dotted
    `s.t.c = z` is an instance of its own; the first and the fourth block have the same difference, the
    later one stays; of `u` only `d = 3` -/
example : C05.dumpListMS "" (msDiff C05.envTm C05.msM C05.msS) =
    ["S s 0", "S s.t 0", "D s.t.c 0 z", "S s 0", "D s.b 0 no", "S s.t 0", "D s.t.c 0 y",
     "S u 0", "D u.d 0 3"] := by
  rw [C05.msM_eq, C05.msS_eq]
  decide +kernel

theorem msInst_keysDiff : keysDiffMSB C05.envTm C05.msM C05.msS = true := by
  rw [C05.msM_eq, C05.msS_eq]
  decide +kernel

/-- the theorem applied to the instance (hypotheses discharged by kernel evaluation) -/
example : fetchRoot C05.envTm true C05.msM [C05.msS] =
    .ok (.scope { name := [], id := some 0 } (msDiff C05.envTm C05.msM C05.msS), msUsed C05.msM C05.msS) := by
  have hfl : ([C05.msS] : List (List Obj)).flatten = C05.msS := by simp
  have h := fetchRoot_diff_ms_checked C05.envTm C05.msM [C05.msS] C05.msInst_master
    (by rw [hfl]; exact C05.msInst_src) (by rw [hfl]; exact msInst_keysDiff)
  rw [hfl] at h
  rw [h, C05.msInst_noClash]
  rfl

/-- **the hypothesis `KeysDiffMS` is sharp**: a source value that does not convert (`maybe` for the
    `bool` inside the `.multiple` scope `s`) makes a rendering undefined — the executable check says so,
    nothing clashes, and the difference raises the converter's RuntimeError instead of returning the
    specification (replayed on the real library: `RuntimeError: One True or False value expected,
    s.b="maybe" found (input line 1)`) -/
theorem keysDiff_needed :
    keysDiffMSB C05.envTm C05.msM (C05.tmObjs "s.b = maybe\n") = false ∧
      msNoClash C05.msM (C05.tmObjs "s.b = maybe\n") = true ∧
      errOf (fetchRoot C05.envTm true C05.msM [C05.tmObjs "s.b = maybe\n"]) =
        some (.runtime "bool_expected" (some 1)) := by
  rw [C05.msM_eq, C05.tmObjs_ofList]
  decide +kernel

/-- **the fuel bound is sharp**: with `fuel = depthL mkids + 1` (enough for the non-diff fetch) the
    difference runs out of fuel at the deepest definition -/
theorem diff_ms_fuel_needed :
    depthL C05.msM = 2 ∧
      errOf (fetchScope C05.envTm 3 true { name := [], id := some 0 } C05.msM C05.msS) = some .outOfFuel ∧
      errOf (fetchScope C05.envTm 3 false { name := [], id := some 0 } C05.msM C05.msS) = none ∧
      errOf (fetchScope C05.envTm 4 true { name := [], id := some 0 } C05.msM C05.msS) = none := by
  rw [C05.msM_eq, C05.msS_eq]
  decide +kernel

/-! ### the chain on the instance; sharp edges -/

/-- the listings `[W, D, W', D']` of a chain evaluated on the model's `fetchRoot` -/
def chainViewsMS (e : Envs) (master source : List Obj) : Option (List (List String)) :=
  (chain_dt e master source).map (fun c =>
    [C05.dumpListMS "" c.1, C05.dumpListMS "" c.2.1, C05.dumpListMS "" c.2.2.1, C05.dumpListMS "" c.2.2.2])

/-- the instance satisfies the hypotheses of `diff_of_working_ms` and `diff_restore_ms_fixed_point`:
    coherence on the sources and on the difference, the difference is a well-formed source whose keys
    are defined and which does not clash -/
example : (cohMSB C05.envTm C05.msM C05.msS && cohMSB C05.envTm C05.msM (msDiff C05.envTm C05.msM C05.msS) &&
    srcCheck (msDiff C05.envTm C05.msM C05.msS) && msNoClash C05.msM (msDiff C05.envTm C05.msM C05.msS) &&
    keysDefinedMSB C05.envTm C05.msM (msDiff C05.envTm C05.msM C05.msS) &&
    keysDiffMSB C05.envTm C05.msM (msDiff C05.envTm C05.msM C05.msS) &&
    keysDefinedMSB C05.envTm C05.msM C05.msS) = true := by
  rw [C05.msM_eq, C05.msS_eq]
  decide +kernel

/-- the meta of a parsed root -/
def rootMetaMS : Meta := { name := [], id := some 0 }

theorem msInst_master : masterCheck_ms C05.msM = true := C05.msInst_master
theorem msInst_src : srcCheck C05.msS = true := C05.msInst_src
theorem msInst_depth : depthL C05.msM = 2 := by
  rw [C05.msM_eq]
  decide +kernel
theorem msInst_noClash : msNoClash C05.msM C05.msS = true := C05.msInst_noClash
theorem msInst_srcD : srcCheck (msDiff C05.envTm C05.msM C05.msS) = true := by
  rw [C05.msM_eq, C05.msS_eq]
  decide +kernel
theorem msInst_noClashD : msNoClash C05.msM (msDiff C05.envTm C05.msM C05.msS) = true := by
  rw [C05.msM_eq, C05.msS_eq]
  decide +kernel
theorem msInst_keysD : keysDefinedMSB C05.envTm C05.msM (msDiff C05.envTm C05.msM C05.msS) = true := by
  rw [C05.msM_eq, C05.msS_eq]
  decide +kernel
theorem msInst_keysDiffD : keysDiffMSB C05.envTm C05.msM (msDiff C05.envTm C05.msM C05.msS) = true := by
  rw [C05.msM_eq, C05.msS_eq]
  decide +kernel
theorem msInst_cohD : cohMSB C05.envTm C05.msM (msDiff C05.envTm C05.msM C05.msS) = true := by
  rw [C05.msM_eq, C05.msS_eq]
  decide +kernel

/-- `diff_restore_ms_fixed_point` applied to the instance (hypotheses discharged by kernel evaluation,
    `msInst_…`) -/
example : ∃ u1 u2 u3,
    fetchScope C05.envTm 4 true rootMetaMS C05.msM C05.msS =
      .ok (.scope { rootMetaMS with tmpl := 0 } (msDiff C05.envTm C05.msM C05.msS), u1) ∧
    fetchScope C05.envTm 4 false rootMetaMS C05.msM (msDiff C05.envTm C05.msM C05.msS) =
      .ok (.scope { rootMetaMS with tmpl := 0 } (msRestoredS C05.envTm C05.msM C05.msS), u2) ∧
    fetchScope C05.envTm 4 true rootMetaMS C05.msM (msRestoredS C05.envTm C05.msM C05.msS) =
      .ok (.scope { rootMetaMS with tmpl := 0 } (msDiff C05.envTm C05.msM C05.msS), u3) :=
  diff_restore_ms_fixed_point_checked C05.envTm 4 rootMetaMS C05.msM C05.msS msInst_master
    (by rw [msInst_depth]; decide) rfl msInst_src msInst_keysDiff msInst_noClash msInst_srcD msInst_noClashD
    msInst_keysD msInst_keysDiffD msInst_cohD

/-- `StrongCohAt` holds at the two top-level `.multiple` scopes of the instance (`s`: first child,
    `u`: third child of `C05.msM`), on all the source blocks of their names -/
example : (match C05.msM with
    | [_, .scope ms ks, .scope mu ku] =>
      strongCohAtB C05.envTm ms ks (scopesNamed ms.name C05.msS) &&
        strongCohAtB C05.envTm mu ku (scopesNamed mu.name C05.msS) &&
        (scopesNamed ms.name C05.msS).length == 5 && (workSurv C05.envTm ms ks (scopesNamed ms.name C05.msS)).length == 2
    | _ => false) = true := by
  rw [C05.msM_eq, C05.msS_eq]
  decide +kernel

/-- the whole chain evaluated on the model (Python gives the same four listings): the restored
    working set `W'` has the instances of `W`, `D' = D` -/
example : (chainViewsMS C05.envTm C05.msM C05.msS).map (fun l => (l.map List.length, l[1]? == l[3]?,
    l[0]? == l[2]?)) = some ([23, 9, 23, 9], true, true) := by
  rw [C05.msM_eq, C05.msS_eq]
  decide +kernel

/-- **Restoring is not tree equality** (inside the class): the instance `s { b = True ; t { c = y } }`
    keeps `b = True` in `W` (a re-spelling of the default `yes`), the difference keeps only `s.t.c = y`,
    and merging it back gives the instance with `b = yes`: `W' ≠ W` as trees, while `D' = D`.
    Replayed on the real library (same four listings). -/
theorem restore_ms_not_tree_equal :
    chainViewsMS C05.envTm C05.msM (C05.tmObjs "s {\n  b = True\n  t { c = y }\n}\n") =
      some [["D a 0 1", "S s -1", "D s.b 0 yes", "S s.t 0", "D s.t.c 0 x", "S s 0", "D s.b 0 True", "S s.t -1",
             "D s.t.c 0 x", "S s.t 0", "D s.t.c -1 x", "D s.t.c 0 y", "S u 0", "D u.d 0 2"],
            ["S s 0", "S s.t 0", "D s.t.c 0 y"],
            ["D a 0 1", "S s -1", "D s.b 0 yes", "S s.t 0", "D s.t.c 0 x", "S s 0", "D s.b 0 yes", "S s.t -1",
             "D s.t.c 0 x", "S s.t 0", "D s.t.c -1 x", "D s.t.c 0 y", "S u 0", "D u.d 0 2"],
            ["S s 0", "S s.t 0", "D s.t.c 0 y"]] := by
  rw [C05.msM_eq, C05.tmObjs_ofList]
  decide +kernel

/-- an ARTIFICIAL environment whose `"%.10g"` answers contain line breaks: `2 ↦ "1⏎  b = 7"`,
    `3 ↦ "7⏎  b = 5"` (no Python float renders like that; the environment is a parameter of the
    theorems, and this instance shows what the coherence hypothesis excludes) -/
def envIncoherent : Envs :=
  { eval := fun s => match s with
      | [c] => if c.isDigit then some (.num (.flt (c.toNat - 48) 1)) else none
      | _ => none,
    fmt := fun n => match n with
      | .flt 2 1 => some "1\n  b = 7".toList
      | .flt 3 1 => some "7\n  b = 5".toList
      | .flt 1 1 => some "1".toList
      | .flt 5 1 => some "5".toList
      | _ => none }

/-- **the hypothesis `CohMS` is sharp** (for the theorems as stated, i.e. for every environment): master
    `s .multiple { a = 1 float ; b = 5 float }`, sources `s { a = 2 }`, `s { b = 3 }`.  Under
    `envIncoherent` the two full instances have the SAME rendering (`a = 1⏎b = 7⏎b = 5`) but different
    difference renderings; every other hypothesis holds, the executable coherence check says no, and
    `M.fetch_diff(M.fetch(S))` (one instance) differs from `M.fetch_diff(S)` (two) — on the
    specification and on the model.  Not replayable on Python: needs a float whose `%.10g` text contains
    a line break. -/
theorem cohMS_needed :
    let M := C05.tmObjs "s\n.multiple=True\n{\n  a = 1\n  .type=float\n  b = 5\n  .type=float\n}\n"
    let S := C05.tmObjs "s { a = 2 }\ns { b = 3 }\n"
    (masterCheck_ms M && srcCheck S && keysDiffMSB envIncoherent M S && keysDefinedMSB envIncoherent M S &&
        keysDiffMSB envIncoherent M (msResult envIncoherent M S)) = true ∧
      cohMSB envIncoherent M S = false ∧
      C05.dumpListMS "" (msDiff envIncoherent M S) = ["S s 0", "D s.a 0 2", "S s 0", "D s.b 0 3"] ∧
      C05.dumpListMS "" (msDiff envIncoherent M (msResult envIncoherent M S)) = ["S s 0", "D s.b 0 3"] ∧
      (chain_dt envIncoherent M S).map (fun c => C05.dumpListMS "" c.2.1) = some ["S s 0", "D s.b 0 3"] := by
  rw [C05.tmObjs_ofList, C05.tmObjs_ofList]
  decide +kernel

/-- **"one master occurrence per name" is sharp for restoring — finding D10 on `.multiple` SCOPES**
    (outside `MSMaster`: `masterCheck_ms` says no).  Master `s .multiple { h = 1 int }` followed by the
    further occurrence `s { h = 2 }`; sources `s.h = 3`, `s.h = 2`.  `W` lists the instances `3, 2` (the
    source instance `2` repeats the master-provided one and moves to the end), the difference keeps
    only `3` (the instance `2` is master-provided: marker `-1`), and merging it back gives `2, 3`: the
    restored working set has the instances in another order, although `D' = D`.  Replayed on the real
    library: `[x.h for x in W.extract().s] == [3, 2]`, `[x.h for x in W2.extract().s] == [2, 3]`. -/
theorem restore_ms_further_occurrence_reorders :
    let M := C05.tmObjs "s\n.multiple=True\n{\n  h = 1\n  .type=int\n}\ns {\n  h = 2\n}\n"
    masterCheck_ms M = false ∧
    chainViewsMS C05.envTm M (C05.tmObjs "s.h = 3\ns.h = 2\n") =
      some [["S s -1", "D s.h 0 1", "S s 0", "D s.h 0 3", "S s 0", "D s.h 0 2"],
            ["S s 0", "D s.h 0 3"],
            ["S s -1", "D s.h 0 1", "S s 0", "D s.h 0 2", "S s 0", "D s.h 0 3"],
            ["S s 0", "D s.h 0 3"]] := by
  rw [C05.tmObjs_ofList, C05.tmObjs_ofList]
  decide +kernel

end Phil.C08

#print axioms Phil.C08.fetch_diff_ms_total
#print axioms Phil.C08.fetch_diff_ms_ok
#print axioms Phil.C08.fetchRoot_diff_ms
#print axioms Phil.C08.fetchRoot_diff_ms_checked
#print axioms Phil.C08.diff_multiple_scope_rule
#print axioms Phil.C08.diff_plain_scope_block
#print axioms Phil.C08.diff_defn_block
#print axioms Phil.C08.msDiff_eq
#print axioms Phil.C08.diff_ms_depth
#print axioms Phil.C08.diff_ms_minimal
#print axioms Phil.C08.diff_ms_no_empty_scope
#print axioms Phil.C08.self_diff_ms_empty_nosrc
#print axioms Phil.C08.master_as_source_diff_empty
#print axioms Phil.C08.diff_of_working_ms_spec
#print axioms Phil.C08.diff_of_working_hypotheses_ms
#print axioms Phil.C08.diff_of_working_ms
#print axioms Phil.C08.self_diff_ms_empty
#print axioms Phil.C08.diff_of_working_ms_minimal
#print axioms Phil.C08.diff_ms_idempotent
#print axioms Phil.C08.restore_ms_closed
#print axioms Phil.C08.restore_ms_defn_block
#print axioms Phil.C08.restore_ms_plain_scope_block
#print axioms Phil.C08.restore_ms_multiple_scope_block
#print axioms Phil.C08.restore_ms_same_instances
#print axioms Phil.C08.restore_ms_exact
#print axioms Phil.C08.diff_restore_ms_fixed_point_spec
#print axioms Phil.C08.restore_ms_twice
#print axioms Phil.C08.diff_restore_ms_fixed_point
#print axioms Phil.C08.diff_restore_ms_fixed_point_checked
#print axioms Phil.C08.restore_ms_not_tree_equal
#print axioms Phil.C08.cohMS_needed
#print axioms Phil.C08.restore_ms_further_occurrence_reorders
#print axioms Phil.C08.keysDiff_needed
#print axioms Phil.C08.diff_ms_fuel_needed
