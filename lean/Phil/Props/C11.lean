/-
  C11 — Choices keep the master's alternatives and select only what was asked:
  `choice_converters.fetch` (`choiceFetch mwords optional src ignoreErrors`) returns the master's
  alternatives — same names, order and quoting — with stars only on what the source selects, fails
  only with Sorry listing all alternatives, and extraction of a choice returns at most one name for a
  single choice and never "nothing" for a mandatory one.
  Property theorems only; lemmas are in Phil/Proofs/ChoiceLemmas.lean.
-/
import Phil.Proofs.ChoiceLemmas
import Phil.Props.EvalCheck
namespace Phil.C11
open Phil

/-! ### 1. the alternatives are preserved -/

/-- General form, no side condition: a successful fetch of a source other than plain `Auto` is the
    master's word list, each word `w` re-drawn by `renderStar flags w`: value `name` or `*name` where
    `name = (stripStar w.value).1`, quote and line of `w`. -/
theorem choice_alts_shape (mwords : List Word) (opt : AttrVal) (src : List Word) (ign : Bool)
    (out : List Word) (h : choiceFetch mwords opt src ign = .ok out) (hs : isPlainAuto src = false) :
    ∃ flags : Flags, out = mwords.map (renderStar flags) ∧
      ∀ w, (renderStar flags w).quote = w.quote ∧ (renderStar flags w).line = w.line ∧
        ((renderStar flags w).value = (stripStar w.value).1 ∨
         (renderStar flags w).value = '*' :: (stripStar w.value).1) := by
  rcases choiceFetch_ok_shape _ _ _ _ _ h with ⟨h1, _⟩ | ⟨_, flags, _, h2⟩
  · rw [h1] at hs; cases hs
  · exact ⟨flags, h2, fun w => render_name flags w⟩

/-- The result lists exactly the master's alternatives — same names, same order, same quoting — for
    every source, every `optional`, with or without `ignore_errors`.
    Side condition (needed, see the example below): no master alternative is written with two
    leading stars. -/
theorem choice_alts_preserved (mwords : List Word) (opt : AttrVal) (src : List Word) (ign : Bool)
    (out : List Word) (hm : NoDoubleStar mwords)
    (h : choiceFetch mwords opt src ign = .ok out) (hs : isPlainAuto src = false) :
    out.map (fun w => ((stripStar w.value).1, w.quote)) =
      mwords.map (fun w => ((stripStar w.value).1, w.quote)) := by
  rcases choiceFetch_ok_shape _ _ _ _ _ h with ⟨h1, _⟩ | ⟨_, flags, _, rfl⟩
  · rw [h1] at hs; cases hs
  · rw [List.map_map]
    apply List.map_congr_left
    intro w hw
    simp only [Function.comp, renderStar, stripStar_ite _ _ (hm w hw)]

/-- length form, no side condition -/
theorem choice_alts_count (mwords : List Word) (opt : AttrVal) (src : List Word) (ign : Bool)
    (out : List Word) (h : choiceFetch mwords opt src ign = .ok out) (hs : isPlainAuto src = false) :
    out.length = mwords.length := by
  obtain ⟨flags, h1, _⟩ := choice_alts_shape mwords opt src ign out h hs
  rw [h1, List.length_map]

/-- a plain `Auto` source gives `Auto` -/
theorem choice_auto (mwords : List Word) (opt : AttrVal) (src : List Word) (ign : Bool)
    (hm : (isPlainNone mwords || isPlainAuto mwords) = false) (hs : isPlainAuto src = true) :
    choiceFetch mwords opt src ign = .ok [wordOf "Auto"] := by
  rw [choiceFetch_eq]
  simp only [hm, hs, Bool.false_eq_true, ↓reduceIte]

private def W (s : String) : Word := { value := s.toList }

/-- Why the side condition: the master alternative written `**a` is the name `*a`; fetching the
    source `b` re-draws it as `*a`, which reads back as the *selected* name `a`.  (Same on the
    implementation: master `c = **a b`, source `c = b` gives `c = *a *b`.) -/
example : choiceFetch [W "**a", W "b"] .none [W "b"] = .ok [W "*a", W "*b"] := ok_of_check (by decide +kernel)

example : choiceFetch [W "a", W "*b", W "c"] .none [W "C"] = .ok [W "a", W "b", W "*c"] := ok_of_check (by decide +kernel)

/-! ### 2. an unknown alternative is refused, listing all alternatives -/

/-- Outside the `a+b` branch and without `ignore_errors`: if some source word is selected (starred,
    or it is the only word) and its lower-cased name is not the lower-cased name of a master
    alternative, the fetch fails with Sorry carrying ALL alternatives of the master.
    `hn` excludes the one case where the source is not looked at (plain `None`, master not
    mandatory); `BadWord mwords single w` unfolds to
    `((stripStar w.value).2 || single) = true ∧ lower (stripStar w.value).1 ∉ altKeys mwords`. -/
theorem choice_unknown_sorry (mwords : List Word) (opt : AttrVal) (src : List Word)
    (hm : (isPlainNone mwords || isPlainAuto mwords) = false)
    (ha : isPlainAuto src = false)
    (hn : (opt.mandatory || !isPlainNone src) = true)
    (hp : plusMode src = false)
    (hbad : ∃ w ∈ src, BadWord mwords (src.length == 1) w) :
    choiceFetch mwords opt src false
      = .error (.sorry_ "not_a_possible_choice" (mwords.map (·.value))) := by
  rw [choiceFetch_eq]
  unfold fetchFlags
  simp only [hm, ha, hn, hp, Bool.false_eq_true, ↓reduceIte]
  obtain ⟨w, hw, hb⟩ := hbad
  rw [foldlM_starStep_bad hb hw]
  rfl

/-- `plusMode src = false` holds whenever no source word contains `+` … -/
theorem not_plus_of_no_plus (src : List Word) (h : ∀ w ∈ src, w.value.contains '+' = false) :
    plusMode src = false := plusMode_false_of_no_plus src h
/-- … or the first word is quoted or starred. -/
theorem not_plus_of_head (w : Word) (ws : List Word)
    (h : w.quote.isSome = true ∨ (stripStar w.value).2 = true) : plusMode (w :: ws) = false :=
  plusMode_false_of_head w ws h

example : choiceFetch [W "a", W "*b"] .none [W "*c", W "a"]
    = .error (.sorry_ "not_a_possible_choice" ["a".toList, "*b".toList]) := error_of_check (by decide +kernel)
example : choiceFetch [W "a", W "*b"] .none [W "c"]
    = .error (.sorry_ "not_a_possible_choice" ["a".toList, "*b".toList]) := error_of_check (by decide +kernel)
/-- an unselected unknown word among several is silently dropped (not an error) -/
example : choiceFetch [W "a", W "*b"] .none [W "c", W "*a"] = .ok [W "*a", W "b"] := ok_of_check (by decide +kernel)

/-! ### 3. the only failures -/

/-- Every failure of `fetch` is the Sorry with all alternatives, except the assertion on a master
    whose words are plain `None`/`Auto` — and that one occurs only then. -/
theorem choice_error_is_sorry (mwords : List Word) (opt : AttrVal) (src : List Word) (ign : Bool)
    (e : Err) (h : choiceFetch mwords opt src ign = .error e) :
    ((isPlainNone mwords || isPlainAuto mwords) = true ∧ e = .stray "AssertionError" "choice_fetch") ∨
    ((isPlainNone mwords || isPlainAuto mwords) = false ∧ isPlainAuto src = false ∧
      e = .sorry_ "not_a_possible_choice" (mwords.map (·.value))) :=
  choiceFetch_error mwords opt src ign e h

example : choiceFetch [W "none"] .none [W "a"] = .error (.stray "AssertionError" "choice_fetch") := error_of_check (by decide +kernel)
example : choiceFetch [W "a", W "b"] .none [W "a+x"]
    = .error (.sorry_ "not_a_possible_choice" ["a".toList, "b".toList]) := error_of_check (by decide +kernel)

/-! ### 4. extraction -/

/-- A single choice extracts to `Auto`, `None` (nothing starred, not mandatory) or exactly one name —
    the only starred word; never a list. -/
theorem single_at_most_one (env : EvalEnv) (opt : AttrVal) (ws : List Word) (v : PVal)
    (h : fromWords (.choice false) env opt ws = .ok v) :
    (v = .auto ∧ isPlainAuto ws = true) ∨
    (v = .none ∧ starredNames ws = [] ∧ opt.mandatory = false) ∨
    (∃ s, v = .str s ∧ starredNames ws = [s]) := by
  rw [fromWords_choice_eq] at h
  split at h
  next h1 => cases h; exact .inl ⟨rfl, h1⟩
  next =>
    simp only [Bool.false_eq_true, ↓reduceIte] at h
    split at h
    next h2 =>
      split at h
      next => cases h
      next h3 => cases h; exact .inr (.inl ⟨rfl, h2, eq_false_of_ne_true h3⟩)
    next s h2 => cases h; exact .inr (.inr ⟨s, rfl, h2⟩)
    next => cases h

/-- two or more stars in a single choice: an error -/
theorem single_rejects_multiple (env : EvalEnv) (opt : AttrVal) (ws : List Word)
    (ha : isPlainAuto ws = false) (h2 : 2 ≤ (starredNames ws).length) :
    fromWords (.choice false) env opt ws = .error (wordsErr "choice_multiple" ws) := by
  rw [fromWords_choice_eq]
  simp only [ha, Bool.false_eq_true, ↓reduceIte]
  split
  next h => simp [h] at h2
  next h => simp [h] at h2
  next => rfl

/-- a multi choice extracts to `Auto` or the list of the starred names (in order) -/
theorem multi_is_starred (env : EvalEnv) (opt : AttrVal) (ws : List Word) (v : PVal)
    (h : fromWords (.choice true) env opt ws = .ok v) :
    (v = .auto ∧ isPlainAuto ws = true) ∨
    (v = .list ((starredNames ws).map PVal.str) ∧ (opt.mandatory = true → starredNames ws ≠ [])) := by
  rw [fromWords_choice_eq] at h
  split at h
  next h1 => cases h; exact .inl ⟨rfl, h1⟩
  next =>
    simp only [↓reduceIte] at h
    split at h
    next => cases h
    next h3 =>
      cases h
      exact .inr ⟨rfl, fun hm hs => h3 (by simp [hm, hs])⟩

/-- A mandatory choice (`.optional = False`) never extracts to `None` (single) nor `[]` (multi). -/
theorem mandatory_never_empty (multi : Bool) (env : EvalEnv) (opt : AttrVal) (ws : List Word)
    (hm : opt.mandatory = true) :
    fromWords (.choice multi) env opt ws ≠ .ok .none ∧
    fromWords (.choice multi) env opt ws ≠ .ok (.list []) := by
  rw [fromWords_choice_eq, hm]
  split
  · exact ⟨nofun, nofun⟩
  · cases multi
    · simp only [Bool.false_eq_true, ↓reduceIte]
      split <;> exact ⟨nofun, nofun⟩
    · cases hs : starredNames ws <;> simp
  

example : fromWords (.choice false) (fun _ => none) .none [W "a", W "*b"] = .ok (.str "b".toList) := by rfl
example : fromWords (.choice false) (fun _ => none) (.bool false) [W "a", W "b"]
    = .error (.runtime "choice_unspecified" none) := by rfl
example : fromWords (.choice true) (fun _ => none) .none [W "*a", W "*b"]
    = .ok (.list [.str "a".toList, .str "b".toList]) := by rfl

/-! ### 5. star-only sources select exactly what was asked -/

/-- Source consisting of starred words only (any number, `ignore_errors` or not; no distinctness
    assumption is needed): the result is the master's list where an alternative is starred iff its
    lower-cased name is one of the lower-cased source names. -/
theorem choice_selected_star (mwords : List Word) (opt : AttrVal) (src : List Word) (ign : Bool)
    (out : List Word) (hstar : ∀ w ∈ src, (stripStar w.value).2 = true)
    (h : choiceFetch mwords opt src ign = .ok out) :
    out = mwords.map (fun w =>
      let v := (stripStar w.value).1
      { value := if lower v ∈ src.map (fun x => lower (stripStar x.value).1) then '*' :: v else v,
        quote := w.quote, line := w.line }) := by
  obtain ⟨hnone, hauto, hplus⟩ := star_only_guards src hstar
  rcases choiceFetch_ok_shape _ _ _ _ _ h with ⟨h1, _⟩ | ⟨_, flags, hf, rfl⟩
  · rw [h1] at hauto; cases hauto
  · unfold fetchFlags at hf
    simp only [hnone, hplus, Bool.not_false, Bool.or_true, ↓reduceIte, Bool.false_eq_true] at hf
    apply List.map_congr_left
    intro w hw
    have hk : lower (stripStar w.value).1 ∈ altKeys mwords := List.mem_map_of_mem hw
    simp only [renderStar, foldlM_starStep_allstar hstar hf hk, flagGet_flags0, hk, ↓reduceIte]
    split <;> simp [*]

/-- read-back form: `stripStar` of each result word is (master name, was it asked for) -/
theorem choice_selected_star_readback (mwords : List Word) (opt : AttrVal) (src : List Word)
    (ign : Bool) (out : List Word) (hm : NoDoubleStar mwords)
    (hstar : ∀ w ∈ src, (stripStar w.value).2 = true)
    (h : choiceFetch mwords opt src ign = .ok out) :
    out.map (fun o => stripStar o.value) =
      mwords.map (fun w => ((stripStar w.value).1,
        decide (lower (stripStar w.value).1 ∈ src.map (fun x => lower (stripStar x.value).1)))) := by
  rw [choice_selected_star mwords opt src ign out hstar h, List.map_map]
  apply List.map_congr_left
  intro w hw
  exact stripStar_ite _ _ (hm w hw)

/-- … so what extraction sees as selected in the result is exactly the master alternatives asked
    for, in the master's order. -/
theorem choice_selected_star_extract (mwords : List Word) (opt : AttrVal) (src : List Word)
    (ign : Bool) (out : List Word) (hm : NoDoubleStar mwords)
    (hstar : ∀ w ∈ src, (stripStar w.value).2 = true)
    (h : choiceFetch mwords opt src ign = .ok out) :
    starredNames out =
      (mwords.filter (fun w => decide (lower (stripStar w.value).1 ∈
          src.map (fun x => lower (stripStar x.value).1)))).map (fun w => (stripStar w.value).1) := by
  rw [choice_selected_star mwords opt src ign out hstar h]
  exact starredNames_map_draw _ _ mwords hm (fun w _ => by simp only [decide_eq_true_eq])

example : choiceFetch [W "a", W "*b", W "c"] .none [W "*C", W "*a"] = .ok [W "*a", W "b", W "*c"] := ok_of_check (by decide +kernel)
/-- recorded finding D19 seen here: alternatives equal up to case are both starred -/
example : choiceFetch [W "x", W "X"] .none [W "*x"] = .ok [W "*x", W "*X"] := ok_of_check (by decide +kernel)

end Phil.C11
