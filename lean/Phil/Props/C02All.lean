/-
  C02 (closed form, ONE layout grammar for whole documents): nesting + continuations + switched-off
  regions + attributes in one grammar given as data.

  Property theorems only; lemmas are in Phil/Proofs/LayoutAll.lean.

  ## The grammar (definitions in Phil/Proofs/LayoutAll.lean)

  * `DocItem` — an item of a document (nested inductive: a scope holds the list of its items):
      - `.defn path d L bang attrs`: the definition `[!]p1.….pk.name sp1 = g1 w1 g2 w2 … term` under the
        Layout3 layout `L : DefLayout3` (filler `Pre3` in front — filler lines and `#phil __OFF__` …
        `#phil __ON__` regions —, gaps `Gap` with backslash / quoted continuation lines, terminator
        newline / `;` / trailing comment / nothing), followed by its attribute items
        `AttrIt3 = pre [!].n sp1 = g1 w1 … term` (same layout vocabulary, regions allowed in front);
      - `.scope path nm bang pre hattrs gap kids close`: `[!]p1.….pk.nm`, header attribute items
        (`AttrIt` of Phil/Proofs/LayoutAttrs.lean: plain filler and gaps — the parser's header loop knows
        no `#phil`), the gap in front of `{`, the items of the body, the filler (`Pre3`) in front of `}`.
  * `renderAll xs post e` — the text: items, trailing filler, `DocEnd` (end of text or `#phil __END__`
    and an arbitrary tail).
  * `wfDocAll xs post e` — the decidable input class.  Beyond the per-piece conditions of the separate
    grammars (Layout, Layout2, Layout3, LayoutAttrs, LayoutAttrsScope): the terminator "nothing" needs `}` or the
    end of the text behind blanks (so it is the last entry of the last item of its block, no filler lines, no
    cut); after `;` and after `}` a `#phil`
    directive must not stand on the same line (`Pre3.lineFree`).
  * `objsAll xs l i` — what `parse` returns (closed form by structural recursion);
    `docTree xs` — the abstract tree: a function of names, paths, `!`, words without lines and
    attribute values only.

  Validation before proving: 1000 random well-formed documents (depth ≤ 2; 249/700 with scopes, 181 with
  attributes, 347 cut, 409 with regions, 189 with backslash continuations, 273 dotted, 166 with `!`):
  `objsAll` = Lean model `parseObjs` = real Python `parse` (names, flags, lines of scopes /
  definitions / words, `help` / `expert_level` / `optional`) on all of them.
-/
import Phil.Proofs.LayoutAll
import Phil.Props.C02Nested
namespace Phil.C02
open Phil

attribute [local instance] Phil.C01.objDecEqInst Phil.C01.exceptDecEqRT

/-! ### layout independence -/

/-- the parse result in one equation -/
theorem parse_closed_form_all (xs : List DocItem) (post : Pre3) (e : DocEnd) (h : wfDocAll xs post e = true) :
    parseObjs (renderAll xs post e) = .ok (objsAll xs 1 1) :=
  parseObjs_renderAll xs post e h

/-- **C02, whole documents.**  For every well-formed layout of the one grammar `parse` succeeds with
    `objsAll xs 1 1`, and erasing ids and source lines from it gives `docTree xs` — which does not see
    the layout at all (filler, comments, switched-off regions, blanks, continuation lines, brace
    placement, terminators, a cut tail). -/
theorem layout_independent_all (xs : List DocItem) (post : Pre3) (e : DocEnd) (h : wfDocAll xs post e = true) :
    parseObjs (renderAll xs post e) = .ok (objsAll xs 1 1) ∧ eraseList (objsAll xs 1 1) = docTree xs :=
  ⟨parseObjs_renderAll xs post e h, objsAll_erase_all xs post e.isCut 1 1 (wfDocAll_facts h).1⟩

/-- **Two layouts, one tree.** -/
theorem two_layouts_same_tree_all (xs1 xs2 : List DocItem) (post1 post2 : Pre3) (e1 e2 : DocEnd)
    (hsame : docTree xs1 = docTree xs2)
    (h1 : wfDocAll xs1 post1 e1 = true) (h2 : wfDocAll xs2 post2 e2 = true) :
    ∃ o1 o2, parseObjs (renderAll xs1 post1 e1) = .ok o1 ∧ parseObjs (renderAll xs2 post2 e2) = .ok o2 ∧
      eraseList o1 = eraseList o2 := by
  obtain ⟨p1, t1⟩ := layout_independent_all xs1 post1 e1 h1
  obtain ⟨p2, t2⟩ := layout_independent_all xs2 post2 e2 h2
  exact ⟨_, _, p1, p2, by rw [t1, t2, hsame]⟩

/-- **A cut tail is ignored**: whatever follows `#phil __END__` — unbalanced braces and quotes
    included — does not change the result. -/
theorem cut_tail_ignored_all (xs : List DocItem) (post : Pre3) (b1 tail1 tail2 : Str)
    (h1 : wfDocAll xs post (.cut b1 tail1) = true) (h2 : wfDocAll xs post (.cut b1 tail2) = true) :
    parseObjs (renderAll xs post (.cut b1 tail1)) = parseObjs (renderAll xs post (.cut b1 tail2)) := by
  rw [parseObjs_renderAll _ _ _ h1, parseObjs_renderAll _ _ _ h2]

/-- … and the cut document parses to what the text up to the cut parses to -/
theorem cut_same_as_end_of_text_all (xs : List DocItem) (post : Pre3) (b1 tail : Str)
    (h1 : wfDocAll xs post (.cut b1 tail) = true) (h2 : wfDocAll xs post .eof = true) :
    parseObjs (renderAll xs post (.cut b1 tail)) = parseObjs (renderAll xs post .eof) := by
  rw [parseObjs_renderAll _ _ _ h1, parseObjs_renderAll _ _ _ h2]

/-! ### `!` disables exactly one construct -/

/-- **`!` on definitions and scopes.**  The document with its `!` marks and the document without them
    (`docUnbang`; same input class) parse to trees that differ in the `disabled` flags only, and the
    flags are exactly the marks: one flag per definition (with all its attribute items) and one per
    scope (with header attributes and body — the flags of the objects inside are their own); the
    scopes built for leading components of a dotted name are never disabled. -/
theorem bang_disables_exactly_one_all (xs : List DocItem) (post : Pre3) (e : DocEnd)
    (h : wfDocAll xs post e = true) :
    ∃ objs objs0, parseObjs (renderAll xs post e) = .ok objs ∧
      parseObjs (renderAll (docUnbang xs) post e) = .ok objs0 ∧
      enableAllList (eraseList objs) = eraseList objs0 ∧
      disabledFlagsList (eraseList objs) = docFlags xs := by
  have h0 : wfDocAll (docUnbang xs) post e = true := by rw [wfDocAll_unbang_all]; exact h
  obtain ⟨p1, t1⟩ := layout_independent_all xs post e h
  obtain ⟨p0, t0⟩ := layout_independent_all (docUnbang xs) post e h0
  obtain ⟨u1, u2⟩ := docTree_unbang_all xs
  exact ⟨_, _, p1, p0, by rw [t1, t0, u1], by rw [t1, u2]⟩

/-- **`!` on an attribute item of a definition** removes that one assignment and nothing else: the
    abstract tree is the tree of the document without the item -/
theorem bang_on_attribute_all (p : List Str) (d : DefSpec) (L L' : DefLayout3) (b : Bool)
    (ts1 ts2 : List AttrIt3) (t : AttrIt3) (ht : t.b = true) :
    (DocItem.defn p d L b (ts1 ++ t :: ts2)).tree = (DocItem.defn p d L' b (ts1 ++ ts2)).tree := by
  simp [DocItem.tree, attrsOf3_append_all, attrsOf3, ht]

/-- **`!` on a header attribute item of a scope**, likewise -/
theorem bang_on_header_attribute_all (p : List Str) (nm : Str) (b : Bool) (pre pre' close close' : Pre3)
    (gap gap' : Pre) (kids : List DocItem) (ts1 ts2 : List AttrIt) (t : AttrIt) (ht : t.b = true) :
    (DocItem.scope p nm b pre (ts1 ++ t :: ts2) gap kids close).tree
      = (DocItem.scope p nm b pre' (ts1 ++ ts2) gap' kids close').tree := by
  simp [DocItem.tree, sattrsOf_append_ls, sattrsOf, ht]

/-- an attribute item without `!` appends exactly its value (the last assignment of a name wins:
    `Attrs.get` reads from the end, `attrs_get_append_one_la`) -/
theorem attribute_appends_all (ts : List AttrIt3) (t : AttrIt3) (ht : t.b = false) :
    attrsOf3 (ts ++ [t]) = attrsOf3 ts ++ [(t.n, (attrValOf t.n t.ws).getD .none)] := by
  simp [attrsOf3_append_all, attrsOf3, ht]

/-! ### dotted names ≡ nested braces -/

/-- a dotted definition `p1.….pk.name = words` (with its attribute items) and a dotted header
    `p1.….pk.nm … {` are, up to the `merge_names` flags, the definition / the scope inside the proper
    scopes `p1`, …, `pk` -/
theorem dotted_item_is_braces_all (p : List Str) :
    (∀ (d : DefSpec) (L : DefLayout3) (b : Bool) (attrs : List AttrIt3),
      (DocItem.defn p d L b attrs).tree.eraseMerge
        = bracesIn_l2 p (.defn { name := d.1, disabled := b, attrs := attrsOf3 attrs } (d.2.map Word.erase))) ∧
    (∀ (nm : Str) (b : Bool) (pre : Pre3) (hattrs : List AttrIt) (gap : Pre) (kids : List DocItem)
        (close : Pre3),
      (DocItem.scope p nm b pre hattrs gap kids close).tree.eraseMerge
        = bracesIn_l2 p (.scope { name := nm, disabled := b, attrs := sattrsOf hattrs }
            (eraseMergeList (docTree kids)))) := by
  constructor
  · intro d L b attrs
    rw [DocItem.tree, eraseMerge_nestIn_l2, Obj.eraseMerge, word_erase_erase_l2]
    rfl
  · intro nm b pre hattrs gap kids close
    rw [DocItem.tree, eraseMerge_nestIn_l2]
    simp [Obj.eraseMerge, Meta.erase]

/-- the dotted item `n.rest` and the braces spelling `n { rest }` have the same abstract tree up to
    `merge_names` (any layouts on both sides) -/
theorem dotted_equals_nested_item_all (n : Str) (p : List Str) (d : DefSpec) (L L' : DefLayout3) (b : Bool)
    (attrs : List AttrIt3) (pre close : Pre3) (gap : Pre) :
    (DocItem.defn (n :: p) d L b attrs).tree.eraseMerge
      = (DocItem.scope [] n false pre [] gap [DocItem.defn p d L' b attrs] close).tree.eraseMerge := by
  rw [(dotted_item_is_braces_all (n :: p)).1, (dotted_item_is_braces_all []).2]
  simp only [bracesIn_l2, docTree, eraseMergeList, (dotted_item_is_braces_all p).1, sattrsOf]

/-- **Dotted ≡ nested, any layout.**  Two well-formed documents whose abstract trees agree up to the
    `merge_names` flags parse to trees equal up to ids, source lines and `merge_names`. -/
theorem dotted_equals_nested_all (xs1 xs2 : List DocItem) (post1 post2 : Pre3) (e1 e2 : DocEnd)
    (hsame : eraseMergeList (docTree xs1) = eraseMergeList (docTree xs2))
    (h1 : wfDocAll xs1 post1 e1 = true) (h2 : wfDocAll xs2 post2 e2 = true) :
    ∃ o1 o2, parseObjs (renderAll xs1 post1 e1) = .ok o1 ∧ parseObjs (renderAll xs2 post2 e2) = .ok o2 ∧
      eraseMergeList o1 = eraseMergeList o2 := by
  obtain ⟨p1, t1⟩ := layout_independent_all xs1 post1 e1 h1
  obtain ⟨p2, t2⟩ := layout_independent_all xs2 post2 e2 h2
  refine ⟨_, _, p1, p2, ?_⟩
  rw [← eraseMerge_erase_l2.2 (objsAll xs1 1 1), ← eraseMerge_erase_l2.2 (objsAll xs2 1 1), t1, t2,
    hsame]

/-! ### `#phil __END__` inside a scope body: unclosed braces at the cut -/

/-- **A cut inside a scope body is refused.**  `CutDoc` describes a document that reaches
    `#phil __END__` while scopes are still open (`.deeper items header inner`, innermost piece
    `.here items filler cut`): `parse` fails with "no matching `}`", and the line it cites is the line
    of the innermost `{` that is open at the cut — `1 +` the newlines of `openText`, the text up to and
    including that brace (a prefix of the document: `Phil.openText_prefix_all`).  So the "cut tail is
    ignored" clause holds at the outermost level only (`cut_tail_ignored_all`). -/
theorem cut_inside_scope_fails_all (c : CutDoc) (h : c.wf = true) (hd : c.isHere = false) :
    parseObjs c.text = .error (.runtime "no_matching_brace" (some (1 + nlCount (c.openText [] [])))) := by
  rw [parseObjs_cut_in_scope_all c h hd]
  cases c with
  | here xs tp b1 tail => cases hd
  | deeper xs p nm b pre hattrs gap inner =>
    have e : (CutDoc.deeper xs p nm b pre hattrs gap inner).errLine 1 none
        = some (1 + nlCount ((CutDoc.deeper xs p nm b pre hattrs gap inner).openText [] [])) :=
      errLine_eq_all (.deeper xs p nm b pre hattrs gap inner) [] [] h
    rw [e]

/-- the example: `a = 1`, then `s {` never closed, holding `b = 2`, then `t.u` + header attribute +
    `{` never closed, holding `c = 3` and the cut -/
def exCutAll : CutDoc :=
  let L1 : DefLayout3 := { sp1 := " ".toList, gaps := [{ ws := " ".toList }] }
  .deeper [.defn [] ("a".toList, [{ value := "1".toList }]) L1 false []] [] "s".toList false {} [] { ind := " ".toList }
    (.deeper [.defn [] ("b".toList, [{ value := "2".toList }]) { L1 with pre := { lines := [{ ind := [], cmt := none }], ind := " ".toList } } false []]
      ["t".toList] "u".toList false { ind := " ".toList }
      [{ n := "help", ws := [{ value := "h".toList }],
         L := { pre := { lines := [{ ind := [], cmt := none }], ind := " ".toList }, sp1 := " ".toList,
                gaps := [" ".toList], term := .nl [] } }]
      {}
      (.here [.defn [] ("c".toList, [{ value := "3".toList }]) { L1 with pre := { ind := " ".toList } } false []] {} " ".toList "\n}}".toList))

example : exCutAll.text = "a = 1\ns {\n b = 2\n t.u\n .help = h\n{ c = 3\n#phil __END__\n}}".toList := by
  unfold exCutAll
  -- a literal is `String.ofList […]` for `rw` and the kernel: no UTF-8 decoding
  repeat rw [String.toList_ofList]
  decide +kernel

theorem exCutAll_wf : exCutAll.wf = true := by
  unfold exCutAll
  repeat rw [String.toList_ofList]
  decide +kernel

/-- through the theorem: the brace of `t.u` on line 6 is cited -/
example : parseObjs exCutAll.text = .error (.runtime "no_matching_brace" (some 6)) := by
  rw [cut_inside_scope_fails_all exCutAll exCutAll_wf rfl]
  unfold exCutAll
  repeat rw [String.toList_ofList]
  decide +kernel

/-- directly evaluated (Python: `no matching "}" for "{" at input line 1` / `line 2`) -/
theorem cut_in_scope_evaluated :
    parseObjs "a {\n b = 1\n#phil __END__\n}\n".toList = .error (.runtime "no_matching_brace" (some 1)) ∧
    parseObjs "a {\n b {\n#phil __END__\n}\n}\n".toList = .error (.runtime "no_matching_brace" (some 2)) := by
  repeat rw [String.toList_ofList]
  decide +kernel

/-! ### non-vacuity: one document with everything, and a plain layout of the same tree -/

def exRegionAll : OffRegion := { body := ["junk {".toList] }

/-- a comment line and a switched-off region in front of the disabled dotted scope `!a.b`, a header
    attribute on its own line, `{` on the next line; inside: a definition with a backslash continuation
    line, an attribute item and a commented-out attribute item; a nested scope on one line whose last
    definition has a quoted continuation line and ends with nothing in front of `}`; a switched-off
    region in front of the closing brace; then `d.e = 5; f = 6` on one line and a cut -/
def exDocAll : List DocItem :=
  [ .scope ["a".toList] "b".toList true
      { segs := [([{ ind := [], cmt := some " top".toList }], exRegionAll)] }
      [{ n := "help", ws := [{ value := "h".toList, quote := some .d1 }],
         L := { pre := { lines := [{ ind := [], cmt := none }], ind := "  ".toList }, sp1 := " ".toList,
                gaps := [" ".toList], term := .nl [] } }]
      { ind := "  ".toList }
      [ .defn [] ("x".toList, [{ value := "1".toList }, { value := "2".toList }])
          { pre := { lines := [{ ind := [], cmt := none }], ind := "  ".toList }, sp1 := " ".toList,
            gaps := [{ ws := " ".toList }, { bs := some " ".toList, ws := "\n    ".toList }], term := .nl [] } false
          [ { n := "expert_level", ws := [{ value := "2".toList }],
              L := { pre := { ind := "  ".toList }, sp1 := " ".toList, gaps := [{ ws := " ".toList }], term := .nl [] } },
            { n := "help", ws := [{ value := "no".toList }],
              L := { pre := { ind := "  ".toList }, sp1 := " ".toList, gaps := [{ ws := " ".toList }], term := .nl [] },
              b := true } ],
        .scope [] "c".toList false { ind := "  ".toList } [] { ind := " ".toList }
          [ .defn [] ("y".toList, [{ value := "q".toList, quote := some .d1 }, { value := "r".toList, quote := some .d1 }])
              { pre := { ind := " ".toList }, sp1 := " ".toList,
                gaps := [{ ws := " ".toList }, { ws := "\n    ".toList }], term := .eof } false [] ]
          { ind := " ".toList } ]
      { segs := [([{ ind := [], cmt := none }], { ind := "  ".toList, body := ["  z = 3".toList] })] },
    .defn ["d".toList] ("e".toList, [{ value := "5".toList }])
      { pre := { lines := [{ ind := [], cmt := none }] }, sp1 := " ".toList, gaps := [{ ws := " ".toList }],
        term := .semi [] } false [],
    .defn [] ("f".toList, [{ value := "6".toList }])
      { pre := { ind := " ".toList }, sp1 := " ".toList, gaps := [{ ws := " ".toList }], term := .nl [] } false [] ]

def exEndAll : DocEnd := .cut " ".toList "\ngarbage {{{".toList

example : renderAll exDocAll {} exEndAll =
    ("# top\n#phil __OFF__\njunk {\n#phil __ON__\n!a.b\n  .help = \"h\"\n  {\n  x = 1 \\\n    2\n" ++
     "  .expert_level = 2\n  !.help = no\n  c { y = \"q\"\n    \"r\" }\n  #phil __OFF__\n  z = 3\n#phil __ON__\n}\n" ++
     "d.e = 5; f = 6\n#phil __END__\ngarbage {{{").toList := by
  unfold exDocAll exEndAll exRegionAll
  simp only [String.toList_append]
  repeat rw [String.toList_ofList]
  decide +kernel

theorem exDocAll_wf : wfDocAll exDocAll {} exEndAll = true := by
  unfold exDocAll exEndAll exRegionAll
  repeat rw [String.toList_ofList]
  decide +kernel

/-- the same abstract tree, everything on lines of its own, no filler, no continuation, no cut -/
def exPlainAll : List DocItem :=
  let L1 : DefLayout3 := { sp1 := " ".toList, gaps := [{ ws := " ".toList }] }
  let L2 : DefLayout3 := { sp1 := " ".toList, gaps := [{ ws := " ".toList }, { ws := " ".toList }] }
  [ .scope ["a".toList] "b".toList true {}
      [{ n := "help", ws := [{ value := "h".toList, quote := some .d1 }],
         L := { pre := { ind := " ".toList }, sp1 := " ".toList, gaps := [" ".toList], term := .nl [] } }]
      {}
      [ .defn [] ("x".toList, [{ value := "1".toList }, { value := "2".toList }]) { L2 with pre := { lines := [{ ind := [], cmt := none }] } } false
          [ { n := "expert_level", ws := [{ value := "2".toList }], L := L1 } ],
        .scope [] "c".toList false {} [] { ind := " ".toList }
          [ .defn [] ("y".toList, [{ value := "q".toList, quote := some .d1 }, { value := "r".toList, quote := some .d1 }])
              { L2 with pre := { lines := [{ ind := [], cmt := none }] } } false [] ]
          {} ]
      {},
    .defn ["d".toList] ("e".toList, [{ value := "5".toList }]) { L1 with pre := { lines := [{ ind := [], cmt := none }] } } false [],
    .defn [] ("f".toList, [{ value := "6".toList }]) L1 false [] ]

example : renderAll exPlainAll {} .eof =
    "!a.b .help = \"h\"\n{\nx = 1 2\n.expert_level = 2\nc {\ny = \"q\" \"r\"\n}}\nd.e = 5\nf = 6\n".toList := by
  unfold exPlainAll
  repeat rw [String.toList_ofList]
  decide +kernel

theorem exPlainAll_wf : wfDocAll exPlainAll {} .eof = true := by
  unfold exPlainAll
  repeat rw [String.toList_ofList]
  decide +kernel

/-- both layouts through the theorem: same tree (the commented-out `!.help = no` of the first layout is
    simply absent from the second) -/
example : ∃ o1 o2, parseObjs (renderAll exDocAll {} exEndAll) = .ok o1 ∧
    parseObjs (renderAll exPlainAll {} .eof) = .ok o2 ∧ eraseList o1 = eraseList o2 :=
  two_layouts_same_tree_all exDocAll exPlainAll {} {} exEndAll .eof (by decide +kernel) exDocAll_wf exPlainAll_wf

/-- the flags of the example: the chain scope `a` never, `b` yes, nothing else -/
example : docFlags exDocAll = [false, true, false, false, false, false, false, false] := by decide +kernel

/-! ### sharp edges (kernel-checked on the model; each replayed on Python) -/

/-- `Pre3.lineFree` after `}`: a `#phil` directive on the line of the scope's *name* is not a directive
    (the parser compares with the line of the previous lead word) … -/
theorem directive_on_line_of_scope_name_fails :
    parseObjs "a { b = 1 } #phil __OFF__\nx = 1\n#phil __ON__\nc = 2".toList
      = .error (.runtime "improper_definition_name" (some 1)) := by
  repeat rw [String.toList_ofList]
  decide +kernel

/-- … while behind a `}` on a later line it is one (the condition of the grammar — a filler line in
    between — is sufficient, not necessary) -/
theorem directive_after_brace_on_later_line :
    (parseObjs "a {\n b = 1 } #phil __OFF__\nx = 1\n#phil __ON__\nc = 2".toList).map eraseList
      = (parseObjs "a {\n b = 1 }\nc = 2".toList).map eraseList := by
  repeat rw [String.toList_ofList]
  decide +kernel

/-- `;` then a directive on the same line: not a directive (`termOK3`) -/
theorem directive_after_semicolon_fails :
    parseObjs "a = 1; #phil __OFF__\nx = 1\n#phil __ON__\n.help = h\n".toList
      = .error (.runtime "improper_definition_name" (some 1)) := by
  repeat rw [String.toList_ofList]
  decide +kernel

/-- a region between a definition and its attribute item is fine (inside the grammar) -/
theorem region_between_definition_and_attribute :
    (parseObjs "a = 1\n#phil __OFF__\nx = 1\n#phil __ON__\n.help = h\n".toList).map eraseList
      = (parseObjs "a = 1\n.help = h\n".toList).map eraseList := by
  repeat rw [String.toList_ofList]
  decide +kernel

/-- a region directly behind `{` is fine: the body starts with "previous line 0" -/
theorem region_directly_behind_open_brace :
    (parseObjs "a { #phil __OFF__\nx = 1\n#phil __ON__\n b = 1 }".toList).map eraseList
      = (parseObjs "a {\n b = 1 }".toList).map eraseList := by
  repeat rw [String.toList_ofList]
  decide +kernel

/-- the terminator "nothing" in front of an attribute item does not end the value: `.help = x` become
    words of `b` (why `termOK3 .eof` asks for the last entry of the block) -/
theorem attribute_on_line_of_value_is_words :
    (parseObjs "a {\n b = 1 .help = x\n}".toList).map eraseList
      = .ok [.scope { name := ['a'] } [.defn { name := ['b'] }
          [{ value := ['1'] }, { value := ".help".toList }, { value := ['='] }, { value := ['x'] }]]] := by
  repeat rw [String.toList_ofList]
  decide +kernel

/-- … while an attribute item may end with nothing in front of `}` -/
theorem attribute_ends_at_brace :
    (parseObjs "a {\n b = 1\n .help = x }".toList).map eraseList
      = .ok [.scope { name := ['a'] } [.defn { name := ['b'], attrs := [("help", .str ['x'])] }
          [{ value := ['1'] }]]] := by
  repeat rw [String.toList_ofList]
  decide +kernel

/-- no `#phil` between a scope's name and its `{`: the header loop knows no directives (why header
    items carry plain filler `Pre`) -/
theorem region_in_scope_header_fails :
    parseObjs "a\n#phil __OFF__\n#phil __ON__\n{\n}".toList = .error (.runtime "expected" (some 2)) ∧
    parseObjs "a\n.help = x\n#phil __OFF__\n#phil __ON__\n{\n}".toList
      = .error (.runtime "unexpected_scope_attribute" (some 3)) := by
  repeat rw [String.toList_ofList]
  decide +kernel

/-- an attribute item needs an active definition: the first item of a scope body cannot be one (the
    grammar attaches attribute items to definitions) -/
theorem attribute_first_in_body_fails :
    parseObjs "a {\n!.help = x\n b = 1 }".toList
      = .error (.runtime "unexpected_definition_attribute" (some 2)) := by
  repeat rw [String.toList_ofList]
  decide +kernel

/-- `goodAttr3`: a value the converter refuses makes the parse fail — unless the item is commented out
    by `!` (then the value is never converted) -/
theorem refused_attribute_value_fails :
    parseObjs "a = 1\n.optional = maybe\n".toList = .error (.runtime "bool_expected" (some 2)) ∧
    (parseObjs "a = 1\n!.optional = maybe\n".toList).map eraseList
      = (parseObjs "a = 1\n".toList).map eraseList := by
  repeat rw [String.toList_ofList]
  decide +kernel

/-- the hypothesis `isHere = false` of `cut_inside_scope_fails_all` (some scope is open at the cut) is
    what makes the difference: the same cut at the outermost level succeeds -/
theorem cut_at_top_level_succeeds :
    (parseObjs "a {\n b = 1\n}\n#phil __END__\n}\n".toList).map eraseList
      = (parseObjs "a {\n b = 1\n}\n".toList).map eraseList := by
  repeat rw [String.toList_ofList]
  decide +kernel

end Phil.C02

#print axioms Phil.C02.parse_closed_form_all
#print axioms Phil.C02.layout_independent_all
#print axioms Phil.C02.two_layouts_same_tree_all
#print axioms Phil.C02.cut_tail_ignored_all
#print axioms Phil.C02.cut_same_as_end_of_text_all
#print axioms Phil.C02.bang_disables_exactly_one_all
#print axioms Phil.C02.bang_on_attribute_all
#print axioms Phil.C02.bang_on_header_attribute_all
#print axioms Phil.C02.attribute_appends_all
#print axioms Phil.C02.dotted_item_is_braces_all
#print axioms Phil.C02.dotted_equals_nested_item_all
#print axioms Phil.C02.dotted_equals_nested_all
#print axioms Phil.C02.cut_inside_scope_fails_all
#print axioms Phil.C02.exCutAll_wf
#print axioms Phil.C02.cut_in_scope_evaluated
#print axioms Phil.C02.exDocAll_wf
#print axioms Phil.C02.exPlainAll_wf
#print axioms Phil.C02.directive_on_line_of_scope_name_fails
#print axioms Phil.C02.directive_after_brace_on_later_line
#print axioms Phil.C02.directive_after_semicolon_fails
#print axioms Phil.C02.region_between_definition_and_attribute
#print axioms Phil.C02.region_directly_behind_open_brace
#print axioms Phil.C02.attribute_on_line_of_value_is_words
#print axioms Phil.C02.attribute_ends_at_brace
#print axioms Phil.C02.region_in_scope_header_fails
#print axioms Phil.C02.attribute_first_in_body_fails
#print axioms Phil.C02.refused_attribute_value_fails
#print axioms Phil.C02.cut_at_top_level_succeeds
