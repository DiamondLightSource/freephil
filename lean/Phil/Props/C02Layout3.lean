/-
  C02 (closed form, flat documents, extended layout grammar) — the spellings named by the property
  that the grammar of Phil/Props/C02Layout.lean does not have are *inside* the grammar:
    (a) backslash continuation lines,
    (b) quoted continuation lines (a quoted word on a later line continues the value),
    (c) regions switched off with `#phil __OFF__` … `#phil __ON__` wherever filler lines are allowed,
        and a document cut by `#phil __END__`,
    (d) newlines inside quoted words in every position the parser accepts them.
  The theorems say: whatever well-formed layout is chosen, `parse` succeeds and returns the same tree
  (names, word values, quote styles, order) with ids 1..n.

  Property theorems only; lemmas are in Phil/Proofs/Layout3.lean (`parseObjs_render3`: Phil/Proofs/LayoutAll.lean).

  ## The layout (definitions in Phil/Proofs/Layout3.lean, those of the gaps in Phil/Proofs/PrintParse.lean;
  `FillLine`, `Terminator`, `inlineB`, `cmtSafe` as in Phil/Props/C02Layout.lean)

  * `Gap`             — what stands in front of a word: `bs : Option Str`, `ws : Str`;
                        text `ws`, or `b ++ "\\" ++ ws` when `bs = some b`.
  * `gapOK first same g w` (`first`: first word of the value; `same`: the previous word — or the name —
                        ended on the line on which it started):
                        `ws` is white space (any `str.isspace()` characters, newlines included) and
                        - no backslash: `ws` non-empty unless `first`; the word `w` is quoted (then `ws`
                          may contain newlines and blank lines: quoted continuation), or `same` holds and
                          `ws` has no newline;
                        - backslash: `b` inline blanks, non-empty unless `first`; `ws` non-empty (a
                          newline, but also `"  \n\n  "` or just `" "`); `same` holds (the backslash is an
                          unquoted word and must stand on the line on which the previous word started).
  * `gapsOK3 first same gaps ws` — one well-formed gap per word, `same` for the next word being
                        "this word contains no newline".
  * `OffRegion`       — `ind #phil b1 __OFF__ rest ⏎ body₁ ⏎ … bodyₙ ⏎ #phil junk b2 __ON__ b3 ⏎`:
                        `ind`, `b1`, `b2`, `b3` inline blanks (`b1`, `b2` non-empty); `rest` anything
                        without a newline that does not continue the word `__OFF__`; `junk` any characters
                        other than white space glued to the closing `#phil`; every body line `offLineOk`:
                        ANY text without a newline that does not start with `#phil` in column 0
                        (unbalanced quotes and braces, `;`, backslashes, indented `#phil __ON__` …), or
                        a line starting with `#phil` that is inert (`inertDirective`: after `#phil…` and
                        blanks comes a word that is neither `__ON__…` nor `__END__…`, or such a word
                        followed by more text on the line: `#phil __OFF__`, `#phil __ON__ x`).  Excluded:
                        the activating lines, and `#phil…` followed by blanks only (it continues on
                        the next line, see `on_split_over_lines_closes`).
  * `Pre3`            — filler in front of a name: `segs` (each: filler lines, then a region), `lines`,
                        `ind`.
  * `DocEnd`          — `eof`, or `cut b1 tail`: `#phil b1 __END__ tail` with ARBITRARY `tail` (it only
                        must not continue the word `__END__`).
  * `DefLayout3`      — `pre : Pre3`, `sp1`, `gaps : List Gap`, `term : Terminator`.
  * `termOK3`         — `eof` only on the last definition of an uncut text with nothing but blanks after
                        it; after `;` the next `#phil` directive must not stand on the same line (at
                        least one filler line in front of it).
  * `goodDef3 d`      — `goodName d.1`, at least one word, every word `goodWord` (quoted with any
                        content, or plain unquoted).
  * `wfDoc3 ds post e`, `render3 ds post e` — well-formedness (decidable) and the text.
-/
import Phil.Proofs.LayoutAll
import Phil.Props.C02Layout
namespace Phil.C02
open Phil

/-- **C02, extended layout: the tree does not depend on the layout.**  `ds` pairs every definition
    `(name, words)` with a layout, `post` is the filler after the last definition, `e` says whether the
    text ends or is cut by `#phil __END__`.  For every well-formed choice `parse` of the rendered text
    succeeds; the tree is — up to ids and source lines — the abstract tree of the definitions alone,
    and the ids are `1, 2, …, n`.  Continuation lines (backslash, quoted), blank lines inside a
    continuation, multi-line quoted words, switched-off regions of any admissible content and
    whatever follows `#phil __END__` are invisible in the tree. -/
theorem layout3_independent (ds : List (DefSpec × DefLayout3)) (post : Pre3) (e : DocEnd)
    (h : wfDoc3 ds post e = true) :
    ∃ objs, parseObjs (render3 ds post e) = .ok objs ∧
      eraseList objs = eraseList (flatTree (ds.map Prod.fst)) ∧
      objs.map (fun x => x.meta.id) = (List.range' 1 ds.length).map some :=
  ⟨parsedLay3 1 1 ds, parseObjs_render3 ds post e h,
    by rw [parsedLay3_erase post e ds 1 1 h, erase_flatTree], parsedLay3_ids ds 1 1⟩

/-- **Two layouts, one tree** (extended grammar): two well-formed layouts of the same definitions
    parse to trees that are equal up to source lines, ids included. -/
theorem two_layouts3_same_tree (ds1 ds2 : List (DefSpec × DefLayout3)) (post1 post2 : Pre3)
    (e1 e2 : DocEnd) (hsame : ds1.map Prod.fst = ds2.map Prod.fst)
    (h1 : wfDoc3 ds1 post1 e1 = true) (h2 : wfDoc3 ds2 post2 e2 = true) :
    ∃ o1 o2, parseObjs (render3 ds1 post1 e1) = .ok o1 ∧ parseObjs (render3 ds2 post2 e2) = .ok o2 ∧
      eraseList o1 = eraseList o2 ∧
      o1.map (fun x => x.meta.id) = o2.map (fun x => x.meta.id) := by
  obtain ⟨o1, p1, e1', i1⟩ := layout3_independent ds1 post1 e1 h1
  obtain ⟨o2, p2, e2', i2⟩ := layout3_independent ds2 post2 e2 h2
  refine ⟨o1, o2, p1, p2, by rw [e1', e2', hsame], ?_⟩
  have hl : ds1.length = ds2.length := by
    have := congrArg List.length hsame
    simpa using this
  rw [i1, i2, hl]

/-- **What follows `#phil __END__` is ignored, whatever it is**: the parse result (ids and source
    lines included) is the same for every admissible tail, and the same as for the uncut text when
    that is well formed too. -/
theorem cut_tail_ignored (ds : List (DefSpec × DefLayout3)) (post : Pre3) (b1 t1 t2 : Str)
    (h1 : wfDoc3 ds post (.cut b1 t1) = true) (h2 : wfDoc3 ds post (.cut b1 t2) = true) :
    parseObjs (render3 ds post (.cut b1 t1)) = parseObjs (render3 ds post (.cut b1 t2)) := by
  rw [parseObjs_render3 ds post _ h1, parseObjs_render3 ds post _ h2]

theorem cut_same_as_end_of_text (ds : List (DefSpec × DefLayout3)) (post : Pre3) (b1 t : Str)
    (h1 : wfDoc3 ds post (.cut b1 t) = true) (h2 : wfDoc3 ds post .eof = true) :
    parseObjs (render3 ds post (.cut b1 t)) = parseObjs (render3 ds post .eof) := by
  rw [parseObjs_render3 ds post _ h1, parseObjs_render3 ds post _ h2]

/-- **The content of a switched-off region is invisible** — not only in the tree: two layouts that
    differ only in what stands between `#phil __OFF__` and `#phil __ON__` (same number of lines) give
    the same objects with the same ids and the same source lines.  (`parsedLay3` reads from a layout
    only the line counts `Pre3.nl`, the gaps and the terminators.) -/
theorem parse_result_closed_form (ds : List (DefSpec × DefLayout3)) (post : Pre3) (e : DocEnd)
    (h : wfDoc3 ds post e = true) : parseObjs (render3 ds post e) = .ok (parsedLay3 1 1 ds) :=
  parseObjs_render3 ds post e h

/-- **The extended grammar contains the flat one**: every layout of Phil/Props/C02Layout.lean is a layout
    of the extended grammar with the same text, and its well-formedness carries over. -/
theorem old_layouts_embed (ds : List (DefSpec × DefLayout)) (post : Pre) (h : wfDoc ds post = true) :
    render3 (liftDoc ds) (liftPre post) .eof = render ds post ∧
      wfDoc3 (liftDoc ds) (liftPre post) .eof = true :=
  ⟨render3_lift ds post, wfDoc3_lift ds post h⟩

/-- **Every extended layout agrees with the canonical print** `name = w1 … wk⏎` (C01). -/
theorem same_as_canonical_text3 (ds : List (DefSpec × DefLayout3)) (post : Pre3) (e : DocEnd)
    (h : wfDoc3 ds post e = true) :
    ∃ o1 o2, parseObjs (render3 ds post e) = .ok o1 ∧ parseObjs (docText (ds.map Prod.fst)) = .ok o2 ∧
      eraseList o1 = eraseList o2 := by
  obtain ⟨o1, p1, e1, _⟩ := layout3_independent ds post e h
  have hgood : ∀ d ∈ ds.map Prod.fst, GoodDefn d := by
    intro d hd
    obtain ⟨x, hx, rfl⟩ := List.mem_map.mp hd
    obtain ⟨k, hk⟩ := List.getElem?_of_mem hx
    obtain ⟨hg, hw⟩ := wfDoc3_get post e ds k x.1 x.2 h hk
    obtain ⟨h1, h2, h3⟩ := goodDef3_facts hg
    simp only [wfDef3, Bool.and_eq_true] at hw
    exact ⟨h1, h2, h3, gapsOK3_chainOK x.1.2 x.2.gaps true true hw.1.2⟩
  refine ⟨o1, _, p1, parseObjs_docText _ hgood, ?_⟩
  rw [e1, parsedDefs_erase_flat]

/-! ### the pieces, one by one (the value collector and the region scanner) -/

/-- **`collect_assigned_words` under continuation lines**: with the gaps of the extended grammar the
    words of a value come back with value, quote style and start line; see `relineG`. -/
theorem value_under_continuations (ws : List Word) (gaps : List Gap) (t : Terminator)
    (ls : List FillLine) (ind X : Str) (l : Nat) (lead : Word)
    (hne : ws ≠ []) (hgood : ∀ w ∈ ws, goodWord w = true)
    (hgaps : gapsOK3 true true gaps ws = true) (ht : t.wf = true) (hls : ls.all FillLine.wf = true)
    (hind : inlineB ind = true) (hX : StopHead X) (heof : t.isEof = true → ls = [] ∧ X = [])
    (hlead : lead.line = some l) (hbs : isUnq lead "\\" = false) :
    ∃ ci4, collectAssigned ⟨wordsLay3 gaps ws ++ (t.text ++ (linesStr ls ++ (ind ++ X))), l⟩ lead
        = .ok (relineG l gaps ws, ci4) :=
  let ⟨ci4, h, _⟩ := collectAssigned_layout3 ws gaps t ls ind X l lead hne hgood hgaps ht hls hind hX
    (fun h => ⟨(heof h).1, .inl (heof h).2⟩) hlead hbs
  ⟨ci4, h⟩

/-- **`scan_for_start` over a switched-off region** (closed form): started right after the word
    `__OFF__` it answers 1 (`__ON__` found), stands at the first character after the closing line,
    and has advanced the line counter by the number of lines of the region. -/
theorem off_region_scan (r : OffRegion) (hwf : r.wf = true) (after : Str) (line : Nat) :
    scanForStart "#phil".toList ["__END__".toList, "__ON__".toList]
        ((r.afterOff ++ after).length + 1) (r.afterOff ++ after) line
      = (1, ⟨after, line + r.nl⟩) :=
  scanOff_region r hwf after line

/-! ### non-vacuity: the document of C02Layout in a layout that uses everything -/

/-- a region with unbalanced quote and brace, an empty line, an indented `#phil __ON__` (which does
    not close), closed by `#philxx⇥__ON__ ` -/
def exRegion3 : OffRegion :=
  { b1 := [' '], rest := " junk { \"".toList,
    body := ["b = '".toList, [], " #phil __ON__".toList, "}".toList],
    junk := "xx".toList, b2 := ['\t'], b3 := [' '] }

def exPreA3 : Pre3 :=
  { segs := [([⟨[], some " header".toList⟩], exRegion3)], lines := [⟨[], none⟩], ind := [' '] }
def exPreB3 : Pre3 := { segs := [([⟨[], none⟩], {})] }

/-- `a` with a backslash directly after `=`; `b_2` with a quoted continuation over a blank line and a
    backslash followed by a blank before the newline; `c` with its quoted words on later lines -/
def exCont3 : List (DefSpec × DefLayout3) :=
  [ (exSpecs[0]!, { pre := exPreA3, sp1 := [], gaps := [{ bs := some [], ws := "\n  ".toList }],
                    term := .semi [] }),
    (exSpecs[1]!, { pre := exPreB3,
                    gaps := [{ ws := [' '] }, { ws := "\n\n\t".toList },
                             { bs := some [' '], ws := " \n ".toList }],
                    term := .comment [' '] " done".toList }),
    (exSpecs[2]!, { gaps := [{ ws := ['\n'] }, { ws := "\r\n".toList }], term := .nl [] }) ]
def exPost3 : Pre3 := { lines := [⟨[], none⟩] }
def exEnd3 : DocEnd := .cut [' '] "\n}}} \" unbalanced".toList

example : render3 exCont3 exPost3 exEnd3 =
    ("# header\n#phil __OFF__ junk { \"\nb = '\n\n #phil __ON__\n}\n#philxx\t__ON__ \n\n a=\\\n  1;" ++
     "\n#phil __OFF__\n#phil __ON__\nb_2 = x*y\n\n\t\"p q\" \\ \n it's # done\n" ++
     "c =\n'''l1\nl2'''\r\n';#'\n\n#phil __END__\n}}} \" unbalanced").toList := by
  unfold exCont3 exPost3 exEnd3 exPreA3 exPreB3 exRegion3 exSpecs
  simp only [String.toList_append]
  -- a literal is `String.ofList […]` for `rw` and the kernel: no UTF-8 decoding
  repeat rw [String.toList_ofList]
  decide +kernel

theorem exCont3_wf : wfDoc3 exCont3 exPost3 exEnd3 = true := by
  unfold exCont3 exPost3 exEnd3 exPreA3 exPreB3 exRegion3 exSpecs
  repeat rw [String.toList_ofList]
  decide +kernel

/-- the plain layout of C02Layout, embedded -/
def exPlain3 : List (DefSpec × DefLayout3) := liftDoc (exSpecs.map (fun d => (d, layPlain d.2.length)))
theorem exPlain3_wf : wfDoc3 exPlain3 {} .eof = true := by decide +kernel

/-- both layouts, through the theorem: same tree, same ids -/
example : ∃ o1 o2, parseObjs (render3 exCont3 exPost3 exEnd3) = .ok o1 ∧
    parseObjs (render3 exPlain3 {} .eof) = .ok o2 ∧
    eraseList o1 = eraseList o2 ∧ o1.map (fun x => x.meta.id) = o2.map (fun x => x.meta.id) :=
  two_layouts3_same_tree exCont3 exPlain3 exPost3 {} exEnd3 .eof (by decide +kernel) exCont3_wf exPlain3_wf

/-- satisfiability of `off_region_scan` / `value_under_continuations` hypotheses on the example -/
example : exRegion3.wf = true ∧ exRegion3.nl = 6 := by
  unfold exRegion3
  repeat rw [String.toList_ofList]
  decide +kernel
example : gapsOK3 true true [{ ws := [' '] }, { ws := "\n\n\t".toList }, { bs := some [' '], ws := " \n ".toList }]
    exSpecs[1]!.2 = true := by decide +kernel

/-! ### sharp edges of these constructs (kernel-checked on the model; each replayed on Python)

  `brief` is the decidable summary of Phil/Props/C02Layout.lean. -/

/-- positive: blanks between the backslash and the newline are fine (`Gap.ws` is any white space) -/
example : brief "a = 1 \\  \n 2\nb = 3" = .inr
    [some ("a".toList, some 1, some 1, [{ value := "1".toList, line := some 1 },
                                         { value := "2".toList, line := some 2 }]),
     some ("b".toList, some 2, some 3, [{ value := "3".toList, line := some 3 }])] := by
  rw [brief_ofList]
  repeat rw [String.toList_ofList]
  decide +kernel

/-- positive: the "continuation" backslash need not be followed by a newline at all -/
example : brief "a = 1 \\ 2" = .inr
    [some ("a".toList, some 1, some 1, [{ value := "1".toList, line := some 1 },
                                         { value := "2".toList, line := some 1 }])] := by
  rw [brief_ofList]
  repeat rw [String.toList_ofList]
  decide +kernel

/-- a backslash glued to the previous word is part of that word: the next line is not a continuation
    (`gapOK`: blanks in front of the backslash, non-empty unless first) -/
theorem backslash_glued_to_word_fails :
    brief "a = 1\\\n 2\nb = 3" = .inl (.runtime "improper_definition_name" (some 2)) := by
  rw [brief_ofList]
  repeat rw [String.toList_ofList]
  decide +kernel

/-- a backslash glued to the next word is part of that word (`gapOK`: `ws` non-empty) -/
theorem backslash_glued_to_next_word :
    brief "a = 1 \\2\nb = 3" = .inr
    [some ("a".toList, some 1, some 1, [{ value := "1".toList, line := some 1 },
                                         { value := "\\2".toList, line := some 1 }]),
     some ("b".toList, some 2, some 2, [{ value := "3".toList, line := some 2 }])] := by
  rw [brief_ofList]
  repeat rw [String.toList_ofList]
  decide +kernel

/-- a backslash after a quoted word that contains a newline does not continue (`gapOK`: `same`) -/
theorem backslash_after_multiline_fails :
    brief "a = \"x\ny\" \\\n 2\nb = 3" = .inl (.runtime "improper_definition_name" (some 2)) := by
  rw [brief_ofList]
  repeat rw [String.toList_ofList]
  decide +kernel

/-- a second backslash directly after a continuation is taken as a word (`plainWord` excludes `\`) -/
theorem double_backslash_is_a_word :
    brief "a = 1 \\\n \\\n 2" = .inr
    [some ("a".toList, some 1, some 1, [{ value := "1".toList, line := some 1 },
        { value := "\\".toList, line := some 2 }, { value := "2".toList, line := some 3 }])] := by
  rw [brief_ofList]
  repeat rw [String.toList_ofList]
  decide +kernel

/-- a comment line between the backslash and the continued word breaks the value (`Gap.ws` is white
    space only) -/
theorem comment_inside_continuation_fails :
    brief "a = 1 \\\n# c\n2\nb = 3" = .inl (.runtime "improper_definition_name" (some 3)) := by
  rw [brief_ofList]
  repeat rw [String.toList_ofList]
  decide +kernel

/-- a `#phil` directive after a backslash is taken as two words of the value (a region is filler
    between definitions, not inside a value) -/
theorem directive_inside_continuation_is_words :
    brief "a = 1 \\\n#phil __OFF__\nb=2\n#phil __ON__\nc = 2" = .inr
    [some ("a".toList, some 1, some 1, [{ value := "1".toList, line := some 1 },
        { value := "#phil".toList, line := some 2 }, { value := "__OFF__".toList, line := some 2 }]),
     some ("b".toList, some 2, some 3, [{ value := "2".toList, line := some 3 }]),
     some ("c".toList, some 3, some 5, [{ value := "2".toList, line := some 5 }])] := by
  rw [brief_ofList]
  repeat rw [String.toList_ofList]
  decide +kernel

/-- `#phil __OFF__` on the line of the previous definition (after `;`) is not a directive
    (`termOK3`: a filler line in front) … -/
theorem off_on_line_of_definition_fails :
    brief "a = 1; #phil __OFF__\nb=2\n#phil __ON__\nc = 2"
      = .inl (.runtime "improper_definition_name" (some 1)) := by
  rw [brief_ofList]
  repeat rw [String.toList_ofList]
  decide +kernel

/-- … unless the value ended on a later line than the name (the test compares with the line of the
    *name*): `termOK3` is sufficient, not necessary -/
example : brief "a = \"x\ny\"; #phil __OFF__\nb=2\n#phil __ON__\nc = 2" = .inr
    [some ("a".toList, some 1, some 1, [{ value := "x\ny".toList, quote := some .d1, line := some 1 }]),
     some ("c".toList, some 2, some 5, [{ value := "2".toList, line := some 5 }])] := by
  rw [brief_ofList]
  repeat rw [String.toList_ofList]
  decide +kernel

/-- the same for `#phil __END__` -/
theorem cut_on_line_of_definition_fails :
    brief "a = 1; #phil __END__\nb = 2" = .inl (.runtime "improper_definition_name" (some 1)) := by
  rw [brief_ofList]
  repeat rw [String.toList_ofList]
  decide +kernel

/-- the opening `#phil __OFF__` may be indented, the closing `#phil __ON__` may NOT: an indented
    closing line is skipped and the rest of the text stays switched off, silently
    (`OffRegion.closing` starts in column 0; an indented one is an admissible *body* line) -/
theorem indented_on_does_not_close :
    brief "a = 1\n  #phil __OFF__\nb=2\n #phil __ON__\nc = 2" = .inr
    [some ("a".toList, some 1, some 1, [{ value := "1".toList, line := some 1 }])] := by
  rw [brief_ofList]
  repeat rw [String.toList_ofList]
  decide +kernel

/-- `#phil __ON__ x` does not switch on (it is an admissible body line: `inertDirective`) … -/
theorem on_with_trailing_text_does_not_close :
    brief "a = 1\n#phil __OFF__\nb=2\n#phil __ON__ x\nc = 2\n#phil __ON__\nd=3" = .inr
    [some ("a".toList, some 1, some 1, [{ value := "1".toList, line := some 1 }]),
     some ("d".toList, some 2, some 7, [{ value := "3".toList, line := some 7 }])] := by
  rw [brief_ofList]
  repeat rw [String.toList_ofList]
  decide +kernel

/-- … while `#phil`, blank lines, `__ON__` on a later line does: a body line `#phil…` followed by
    blanks only is outside `offLineOk` for this reason -/
theorem on_split_over_lines_closes :
    brief "a = 1\n#phil __OFF__\nb=2\n#phil\n\n__ON__\nd=3" = .inr
    [some ("a".toList, some 1, some 1, [{ value := "1".toList, line := some 1 }]),
     some ("d".toList, some 2, some 7, [{ value := "3".toList, line := some 7 }])] := by
  rw [brief_ofList]
  repeat rw [String.toList_ofList]
  decide +kernel

/-- text glued to `__OFF__` / `__END__` makes an unknown directive (`stopsAt structSettings rest`) -/
theorem glued_directive_word_fails :
    brief "a = 1\n#phil __OFF__x\nb = 2\n#phil __ON__\nc = 3" = .inl (.runtime "unknown_phil" (some 2)) ∧
    brief "a = 1\n#phil __END__x\nb = 2" = .inl (.runtime "unknown_phil" (some 2)) ∧
    brief "a = 1\n#phil__OFF__\nb = 2" = .inl (.runtime "improper_definition_name" (some 2)) := by
  rw [brief_ofList]
  repeat rw [String.toList_ofList]
  rw [brief_ofList]
  repeat rw [String.toList_ofList]
  rw [brief_ofList]
  repeat rw [String.toList_ofList]
  decide +kernel

/-- a region that is never closed, or is closed by `#phil __END__`, ends the document (outside the
    grammar: `OffRegion` has a closing `__ON__` line) -/
example : brief "a = 1\n#phil __OFF__\nb = 2" = .inr
    [some ("a".toList, some 1, some 1, [{ value := "1".toList, line := some 1 }])] ∧
    brief "a = 1\n#phil __OFF__\nb = 2\n#phil __END__\nc = 3\n#phil __ON__\nd = 4" = .inr
    [some ("a".toList, some 1, some 1, [{ value := "1".toList, line := some 1 }])] := by
  rw [brief_ofList]
  repeat rw [String.toList_ofList]
  rw [brief_ofList]
  repeat rw [String.toList_ofList]
  decide +kernel

/-- the class of switched-off lines -/
example : offLineOk " #phil __ON__".toList = true := by decide +kernel
example : offLineOk "b = ' \" { } ; \\".toList = true := by decide +kernel
example : offLineOk "#phil __ON__ x".toList = true := by decide +kernel
example : offLineOk "#phil __OFF__".toList = true := by decide +kernel
example : offLineOk "#philfoo\t__END__ {".toList = true := by decide +kernel
example : offLineOk "#phil __ON__  ".toList = false := by decide +kernel
example : offLineOk "#phil __END__".toList = false := by decide +kernel
example : offLineOk "#phil  ".toList = false := by decide +kernel
example : offLineOk "#philosophy".toList = false := by decide +kernel

end Phil.C02

#print axioms Phil.C02.layout3_independent
#print axioms Phil.C02.two_layouts3_same_tree
#print axioms Phil.C02.cut_tail_ignored
#print axioms Phil.C02.cut_same_as_end_of_text
#print axioms Phil.C02.parse_result_closed_form
#print axioms Phil.C02.old_layouts_embed
#print axioms Phil.C02.same_as_canonical_text3
#print axioms Phil.C02.value_under_continuations
#print axioms Phil.C02.off_region_scan
#print axioms Phil.C02.exCont3_wf
#print axioms Phil.C02.exPlain3_wf
#print axioms Phil.C02.backslash_glued_to_word_fails
#print axioms Phil.C02.backslash_glued_to_next_word
#print axioms Phil.C02.backslash_after_multiline_fails
#print axioms Phil.C02.double_backslash_is_a_word
#print axioms Phil.C02.comment_inside_continuation_fails
#print axioms Phil.C02.directive_inside_continuation_is_words
#print axioms Phil.C02.off_on_line_of_definition_fails
#print axioms Phil.C02.cut_on_line_of_definition_fails
#print axioms Phil.C02.indented_on_does_not_close
#print axioms Phil.C02.on_with_trailing_text_does_not_close
#print axioms Phil.C02.on_split_over_lines_closes
#print axioms Phil.C02.glued_directive_word_fails
