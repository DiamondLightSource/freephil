/-
  C15 (closed form, flat documents with attribute assignments) — attribute lines do not disturb the
  source lines: every definition and every word still reports `1 +` the number of newlines in the
  text in front of it, whatever attribute assignments (with their own filler lines, multi-line quoted
  values, `;`, trailing comments, `!`) stand between the definitions.

  Setting: Phil/Props/C02Attrs.lean (`ADef`, `AttrIt`, `flattenA`, `renderA`, `wfDocG`).  As in
  Phil/Props/C15Layout.lean the statement is not circular: `beforeNameG ds k` / `beforeWordG ds k j`
  are explicit functions of the document (no reference to the parser), and `beforeNameG_is_prefix` /
  `beforeWordG_is_prefix` show that they are the prefixes of the rendered text that end where the
  name (or its `!`) / the word begins.

  Property theorems only; lemmas are in Phil/Proofs/LayoutAttrs.lean.
-/
import Phil.Props.C02Attrs
namespace Phil.C15
open Phil

attribute [local instance] Phil.C01.objDecEqInst Phil.C01.exceptDecEqRT

/-- `beforeNameG ds k` is the part of the text that ends exactly where definition `k` begins (at its
    `!` if it has one, else at its name); everything in front — including all attribute assignments
    of the definitions before — is in it -/
theorem beforeNameG_is_prefix (ds : List ADef) (post : Pre) (k : Nat) (a : ADef) (hk : ds[k]? = some a) :
    ∃ tail, renderA (flattenA ds) post = beforeNameG ds k ++ (bangText_l2 a.b ++ (a.d.1 ++ tail)) := by
  obtain ⟨tail, ht⟩ := beforeNameG_prefix_la post ds k a hk
  exact ⟨a.L.sp1 ++ '=' :: (wordsLay a.L.gaps a.d.2 ++ a.L.term.text) ++ tail, by
    rw [ht]; simp [defText]⟩

/-- `beforeWordG ds k j` is the part of the text that ends exactly where word `j` of definition `k`
    begins -/
theorem beforeWordG_is_prefix (ds : List ADef) (post : Pre) (h : wfDocG ds post = true) (k j : Nat)
    (a : ADef) (w : Word) (hk : ds[k]? = some a) (hj : a.d.2[j]? = some w) :
    ∃ tail, renderA (flattenA ds) post = beforeWordG ds k j ++ (w.str ++ tail) :=
  beforeWordG_prefix_la post ds k j a w hk (wfDef_gaps_length (wfDocG_get_la post ds k a h hk).2.1) hj

/-- **C15, flat documents with attributes.**  For every well-formed layout, `parse` returns one
    definition per definition of the document, and for every `k`: the `k`-th object has the `k`-th
    name, id `k + 1`, the attribute assignments `attrsOf`, and its source line is `1 +` the number of
    newlines in the text in front of it — attribute lines of earlier definitions included; its `j`-th
    word is the `j`-th word (value, quote style) with source line `1 +` the number of newlines in the
    text in front of that word. -/
theorem attrs_lines_correct (ds : List ADef) (post : Pre) (h : wfDocG ds post = true) :
    ∃ objs, parseObjs (renderA (flattenA ds) post) = .ok objs ∧ objs.length = ds.length ∧
      ∀ (k : Nat) (a : ADef), ds[k]? = some a →
        ∃ ws, objs[k]? = some (.defn
            { name := a.d.1, id := some (1 + k), disabled := a.b,
              line := some (1 + nlCount (beforeNameG ds k)), attrs := attrsOf a.attrs } ws) ∧
          ws.length = a.d.2.length ∧
          ∀ (j : Nat) (w' : Word), ws[j]? = some w' →
            ∃ w : Word, a.d.2[j]? = some w ∧ w'.value = w.value ∧ w'.quote = w.quote ∧
              w'.line = some (1 + nlCount (beforeWordG ds k j)) := by
  refine ⟨linedG [] 1 ds, parseObjs_renderG_lined_la ds post h, linedG_length_la ds [] 1, ?_⟩
  intro k a hk
  obtain ⟨_, hwd, _⟩ := wfDocG_get_la post ds k a h hk
  have hlen := wfDef_gaps_length hwd
  have hget := linedG_get_la ds [] 1 k a hk
  refine ⟨_, by simpa using hget, linedWords_length a.d.2 a.L.gaps _ hlen, ?_⟩
  intro j w' hj
  obtain ⟨w, hw, e⟩ := linedWords_get a.d.2 a.L.gaps _ j w' hlen hj
  refine ⟨w, hw, by rw [e], by rw [e], ?_⟩
  rw [e, beforeWordG, hk]
  simp

/-- the same in one equation: the parse result is `linedG [] 1 ds`, the list of definitions in which
    every line is computed from the text in front -/
theorem attrs_lines_closed_form (ds : List ADef) (post : Pre) (h : wfDocG ds post = true) :
    parseObjs (renderA (flattenA ds) post) = .ok (linedG [] 1 ds) :=
  parseObjs_renderG_lined_la ds post h

/-! ### non-vacuity: `exAttrs` of C02Attrs -/

open Phil.C02 in
/-- the text in front of `!b` (7 lines: a header comment, `a`, four attribute assignments on three
    lines, a blank line, a comment line) and in front of its second word -/
theorem exAttrs_front : beforeNameG exAttrs 1 =
    ("# header\na = 1 # trailing comment\n  .help = \"two words\" more\n" ++
     "!.caption = dropped ; .type = ints(size=2)\n\n# stand-alone comment\n\t.optional\t=\tYes\n").toList ∧
    beforeWordG exAttrs 1 1 = beforeNameG exAttrs 1 ++ "!b = x ".toList ∧
    1 + nlCount (beforeNameG exAttrs 1) = 8 := by
  unfold exAttrs
  simp only [String.toList_append]
  -- a literal is `String.ofList […]` for `rw` and the kernel: no UTF-8 decoding
  repeat rw [String.toList_ofList]
  decide +kernel

open Phil.C02 in
example : beforeNameG exAttrs 1 =
    ("# header\na = 1 # trailing comment\n  .help = \"two words\" more\n" ++
     "!.caption = dropped ; .type = ints(size=2)\n\n# stand-alone comment\n\t.optional\t=\tYes\n").toList ∧
    beforeWordG exAttrs 1 1 = beforeNameG exAttrs 1 ++ "!b = x ".toList ∧
    1 + nlCount (beforeNameG exAttrs 1) = 8 :=
  exAttrs_front

open Phil.C02 in
/-- through the theorem: `b` is on line 8 although only one definition stands in front of it -/
example : ∃ objs ws, parseObjs (renderA (flattenA exAttrs) {}) = .ok objs ∧
    objs[1]? = some (Obj.defn (Meta.mk "b".toList (some 2) true (some 8) false 0
      [("expert_level", AttrVal.int 2), ("help", AttrVal.str "first".toList), ("help", AttrVal.str "last".toList)]
      none) ws) := by
  obtain ⟨objs, hp, _, hk⟩ := attrs_lines_correct exAttrs {} exAttrs_wf
  obtain ⟨ws, h1, _, _⟩ := hk 1 _ rfl
  refine ⟨objs, ws, hp, ?_⟩
  rw [h1]
  have : 1 + nlCount (beforeNameG exAttrs 1) = 8 := exAttrs_front.2.2
  rw [this]
  rfl

/-! ### sharp edges: the lines cited by attribute errors (model = Python) -/

/-- the error of a refused attribute value cites the line of the value, counted through the
    multi-line word of the definition in front
    (Python: `One True or False value expected, .optional="maybe" found (input line 4)`) -/
theorem attribute_error_line :
    parseObjs "a = 'x\ny'\n\n.optional = maybe".toList = .error (.runtime "bool_expected" (some 4)) := by
  repeat rw [String.toList_ofList]
  decide +kernel

/-- an unknown attribute after filler lines: the line of the attribute (line 5) -/
example : parseObjs "a = 1\n# c\n\n  # d\n.nope = 1".toList
    = .error (.runtime "unexpected_definition_attribute" (some 5)) := by
  repeat rw [String.toList_ofList]
  decide +kernel

/-! ### scope headers with attributes -/

/-- **C15, scope headers with attributes.**  In the parsed tree `hObjs xs 1 1` every line is given by
    counting: the `k`-th top-level scope reports the line on which the filler in front of it starts
    plus the number of its filler lines; the line of `{` (from which the lines of the body are counted
    exactly as for a scope without header attributes, C15Nested) is the line after the header
    assignments (`attrsEnd`: per assignment its filler lines, the newlines inside its words, the
    newline of its terminator) plus the filler lines in front of `{`; the next scope starts after the
    body and the filler in front of `}`. -/
theorem scope_attrs_lines_closed_form (xs : List HScope) (post : Pre) (h : wfDocH xs post = true) :
    ∃ objs, parseObjs (renderH xs post) = .ok objs ∧ objs = hObjs xs 1 1 ∧
      ∀ (x : HScope) (rest : List HScope) (l i : Nat),
        hObjs (x :: rest) l i
          = .scope { name := x.nm, id := some i, disabled := x.b, line := some (l + x.pre.lines.length),
                     attrs := sattrsOf x.ts }
              (layObjs x.kids (attrsEnd (l + x.pre.lines.length) x.ts + x.gap.lines.length) (i + 1))
            :: hObjs rest (layEndLn x.kids (attrsEnd (l + x.pre.lines.length) x.ts + x.gap.lines.length)
                            + x.close.lines.length) (i + (1 + layCount x.kids)) :=
  ⟨_, parseObjs_renderH_ls xs post h, rfl, fun _ _ _ _ => rfl⟩

/-- the line after header assignments is the line in front plus the newlines of their text -/
theorem header_lines_count (ts : List AttrIt) (h : ∀ t ∈ ts, t.item.wf = true) (l : Nat) :
    attrsEnd l ts = l + nlCount (attrsText ts) := by
  induction ts generalizing l with
  | nil => rfl
  | cons t ts ih =>
    obtain ⟨ht, hts⟩ := List.forall_mem_cons.mp h
    simp only [AttrIt.item, AItem.wf, goodAttr, Bool.and_eq_true] at ht
    rw [attrsEnd, ih hts, attrsText, ← List.append_assoc, nlCount_append, ← Nat.add_assoc,
      body_endLine_la (attrLead_nlCount_la ht.1.1.1.1.1) ht.2 t.b l]
    rfl

open Phil.C02 in
/-- through the theorem: in `exScopes` the child `b` is on line 6 (after a 4-line header and a comment
    line) and the second scope on line 7 -/
example : ∃ objs, parseObjs (renderH exScopes {}) = .ok objs ∧
    objs.map (fun o => (o.meta.line, o.children.map (fun c => c.meta.line))) = [(some 1, [some 6]), (some 7, [])] := by
  obtain ⟨objs, hp, rfl, _⟩ := scope_attrs_lines_closed_form exScopes {} exScopes_wf
  exact ⟨_, hp, by decide +kernel⟩

#print axioms beforeNameG_is_prefix
#print axioms beforeWordG_is_prefix
#print axioms attrs_lines_correct
#print axioms attrs_lines_closed_form
#print axioms attribute_error_line
#print axioms scope_attrs_lines_closed_form
#print axioms header_lines_count

end Phil.C15
