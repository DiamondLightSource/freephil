/-
  C15 (closed form, ONE layout grammar for whole documents): every scope, definition and word of a
  document under the grammar of Phil/Props/C02All.lean — nested scopes to any depth, `!`, dotted names,
  backslash / quoted continuation lines, switched-off regions wherever the main loop reads filler,
  attribute items on definitions and on scope headers, an optional `#phil __END__` cut — reports the
  line `1 +` (number of newlines in the text in front of its first character).

  Property theorems only; lemmas are in Phil/Proofs/LayoutAll.lean.

  * `linedAll xs before i`  — the parse result with every line written as `1 + nlCount (explicit prefix)`;
  * `marksAll xs before`    — for every object of the tree in document order (a scope before its items,
                              a definition before its words; `none` for the position-less scopes of a
                              dotted chain): the text in front of its first character (the `!` if there is
                              one) and what is written there;
  * `allLinesList objs`     — the lines a tree reports, in the same order.
-/
import Phil.Props.C02All
namespace Phil.C15
open Phil

attribute [local instance] Phil.C01.objDecEqInst Phil.C01.exceptDecEqRT

/-- the parse result in one equation: every line — of scopes, definitions and words — computed from the
    text in front -/
theorem lines_closed_form_all (xs : List DocItem) (post : Pre3) (e : DocEnd) (h : wfDocAll xs post e = true) :
    parseObjs (renderAll xs post e) = .ok (linedAll xs [] 1) :=
  parseObjs_renderAll_lined xs post e h

/-- every position listed in `marksAll xs []` is a position in the text: `before` is the part of the
    document that ends exactly where `written` (the name with its `!`, or the word with its quotes)
    begins -/
theorem marks_are_positions_all (xs : List DocItem) (post : Pre3) (e : DocEnd) (before written : Str)
    (hm : some (before, written) ∈ marksAll xs []) :
    ∃ tail, renderAll xs post e = before ++ (written ++ tail) := by
  obtain ⟨tail, ht⟩ := marks_prefix_all.2 xs [] before written hm
  refine ⟨tail ++ (post.text ++ e.text), ?_⟩
  rw [List.nil_append] at ht
  rw [renderAll, ht]
  simp

/-- **C15, whole documents.**  For every well-formed document of the one grammar `parse` succeeds, and
    the lines its tree reports — scope, then its objects; definition, then its words; in document
    order — are, one for one, `1 +` the number of newlines in front of the first character of that
    scope name / definition name / word (`Mark.line`; `none` for the scopes `scope.adopt` builds for the
    leading components of a dotted name, which have no source position); every listed text is a
    prefix of the document that ends where the name or word begins.  Continuation lines, multi-line
    quoted words, switched-off regions (with any content), comment lines, header attributes between a
    scope's name and its `{`, attribute items, several items on one line are all inside the grammar. -/
theorem lines_correct_all (xs : List DocItem) (post : Pre3) (e : DocEnd) (h : wfDocAll xs post e = true) :
    ∃ objs, parseObjs (renderAll xs post e) = .ok objs ∧
      allLinesList objs = (marksAll xs []).map Mark.line ∧
      ∀ before written, some (before, written) ∈ marksAll xs [] →
        ∃ tail, renderAll xs post e = before ++ (written ++ tail) :=
  ⟨linedAll xs [] 1, lines_closed_form_all xs post e h, linedAll_allLines_all xs [] 1,
    fun before written hm => marks_are_positions_all xs post e before written hm⟩

/-- **The error of a cut inside a scope body cites the right line**: the line of the innermost `{`
    that is open at `#phil __END__` is `1 +` the newlines of the text up to that brace, and that text
    is a prefix of the document. -/
theorem cut_error_line_all (c : CutDoc) (h : c.wf = true) (hd : c.isHere = false) :
    parseObjs c.text = .error (.runtime "no_matching_brace" (some (1 + nlCount (c.openText [] [])))) ∧
    ∃ tail, c.text = c.openText [] [] ++ tail := by
  refine ⟨Phil.C02.cut_inside_scope_fails_all c h hd, ?_⟩
  obtain ⟨tail, ht⟩ := openText_prefix_all c [] [] hd
  exact ⟨tail, by rw [← ht]; rfl⟩

/-! ### non-vacuity: the document of C02All -/

open Phil.C02 in
/-- the lines of the 8 objects and 7 words of the example, from the text: chain scope `a` none, `!a.b`
    5, `x` 8 with words on 8 and 9 (backslash continuation), `c` 12, `y` 12 with words on 12 and 13
    (quoted continuation), chain scope `d` none, `e` 18 with its word, `f` 18 with its word
    (Python reports the same numbers) -/
theorem exDocAll_lines : (marksAll exDocAll []).map Mark.line
    = [none, some 5, some 8, some 8, some 9, some 12, some 12, some 12, some 13,
       none, some 18, some 18, some 18, some 18] := by
  unfold exDocAll exRegionAll
  -- a literal is `String.ofList […]` for `rw` and the kernel: no UTF-8 decoding
  repeat rw [String.toList_ofList]
  decide +kernel

open Phil.C02 in
example : (marksAll exDocAll []).map Mark.line
    = [none, some 5, some 8, some 8, some 9, some 12, some 12, some 12, some 13,
       none, some 18, some 18, some 18, some 18] :=
  exDocAll_lines

open Phil.C02 in
/-- one position spelled out: the second word of `y` — the quoted continuation line -/
example : ((marksAll exDocAll [])[8]?).map (fun m => m.map (fun p => (String.ofList p.1, String.ofList p.2)))
    = some (some ("# top\n#phil __OFF__\njunk {\n#phil __ON__\n!a.b\n  .help = \"h\"\n  {\n  x = 1 \\\n    2\n" ++
        "  .expert_level = 2\n  !.help = no\n  c { y = \"q\"\n    ", "\"r\"")) := by
  unfold exDocAll exRegionAll
  repeat rw [String.toList_ofList]
  decide +kernel

open Phil.C02 in
/-- through the theorem -/
example : ∃ objs, parseObjs (renderAll exDocAll {} exEndAll) = .ok objs ∧
    allLinesList objs = [none, some 5, some 8, some 8, some 9, some 12, some 12, some 12, some 13,
       none, some 18, some 18, some 18, some 18] := by
  obtain ⟨objs, hp, hl, _⟩ := lines_correct_all exDocAll {} exEndAll exDocAll_wf
  exact ⟨objs, hp, by rw [hl]; exact exDocAll_lines⟩

open Phil.C02 in
/-- the cut example: the innermost open brace stands at the end of `… .help = h⏎{`, line 6 -/
example : String.ofList (exCutAll.openText [] []) = "a = 1\ns {\n b = 2\n t.u\n .help = h\n{" := by
  unfold exCutAll
  repeat rw [String.toList_ofList]
  decide +kernel

/-! ### sharp edges (kernel-checked, replayed on Python) -/

/-- the lines inside and behind a switched-off region in a scope body are counted: `b` stands on
    line 4 -/
theorem region_in_body_counts_lines :
    (parseObjs "a { #phil __OFF__\nx = 1\n#phil __ON__\n b = 1 }".toList).map allLinesList
      = .ok [some 1, some 4, some 4] := by
  repeat rw [String.toList_ofList]
  decide +kernel

/-- a region between a definition and its attribute item does not disturb the lines of the next
    definition -/
theorem region_before_attribute_counts_lines :
    (parseObjs "a = 1\n#phil __OFF__\nzz\n#phil __ON__\n.help = h\nb=2".toList).map allLinesList
      = .ok [some 1, some 1, some 6, some 6] := by
  repeat rw [String.toList_ofList]
  decide +kernel

end Phil.C15

#print axioms Phil.C15.lines_closed_form_all
#print axioms Phil.C15.marks_are_positions_all
#print axioms Phil.C15.lines_correct_all
#print axioms Phil.C15.cut_error_line_all
#print axioms Phil.C15.region_in_body_counts_lines
#print axioms Phil.C15.region_before_attribute_counts_lines
