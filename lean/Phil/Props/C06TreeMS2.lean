/-
  C06 (exact form) on masters with FURTHER MASTER OCCURRENCES of `.multiple` objects (`MSMaster2`, the class
  of Props/C05TreeMS3.lean) — "every source definition is either consumed or reported as unused: the reported
  list is EXACTLY the set of enabled source definitions whose dotted path names no master parameter".

  Model: Phil/Fetch.lean (`fetchScope`/`fetchRoot`); closed form `fetch_ms2_total` (Props/C05TreeMS3.lean);
  lemmas: Phil/Proofs/FetchTreeMS4.lean.
  What a "master parameter" is on this class (`ms2Paths`, structural recursion, fuel-free): the definitions
  reached through the FIRST ENABLED occurrence of every name, at every level.  A further occurrence of a
  `.multiple` object is a candidate — a provider of values, like a source — and declares nothing; a disabled
  master object declares nothing.  So the list is NOT "paths of `all_definitions(master)`" here
  (`further_occurrence_declares_no_parameter`, replayed on the real library); on masters with one enabled
  occurrence per name the two coincide (Props/C05TreeMS.lean `reported_iff_ms`).
  Class: master `MSMaster2` + `NoIncludeTree` + `SrcTree` (variable-free definitions), keys `KeysDefinedMS2`,
  sources `SrcTree` + `SrcPlain` (variable-free, dot-free names: every parsed variable-free source), entries of
  `all_definitions(sources)` with pairwise distinct ids (true of every parsed source), fuel beyond the depth.
  Facts: `ms2_used_exact`, `ms2_unused_exact`, `reported_iff_ms2`, `fetchRoot_ms2_unused_exact` (side
  conditions executable), `consumed_iff_ms2`.
  Validation of `ms2Paths` against the real library BEFORE proving the Props (generator of
  harness/validation/ms2_val_gen.py, seed 20261001: `.multiple` scopes and definitions repeated at every level,
  disabled objects, dotted / braced / disabled / unknown sources): 700 random instances, 466 in the class with a
  successful fetch: the list reported by `fetch(track_unused_definitions=True)` equals
  `all_definitions(S)` filtered by "path not in `ms2Paths`" on 466 of 466 (157 non-empty lists; on 3 the list
  differs from the one computed with the paths of `all_definitions(master)`), 0 mismatches.
-/
import Phil.Proofs.FetchTreeMS4
import Phil.Props.C05TreeMS3
import Phil.Props.C06

namespace Phil.C06
open Phil

/-- **C06 (consumed ids, exactly) with further master occurrences.**  The consumed ids are exactly the ids of
    the entries of `all_definitions(sources)` whose full path is the path of a master parameter
    (`ms2Paths`) — inside `.multiple` scopes too, whichever instance they belong to and whether that
    instance survives; the further master occurrences contribute nothing. -/
theorem ms2_used_exact (mkids srcs : List Obj) (hf : MSMaster2 mkids)
    (hinc : NoIncludeTree mkids) (hs : SrcPlain srcs) (i : Nat) :
    i ∈ ms2Used [] mkids srcs ↔
      ∃ x ∈ allDefinitions srcs, x.2.1.id = some i ∧ x.1 ∈ ms2Paths [] mkids [] :=
  mem_ms2Used mkids [] srcs [] i hf.kids hinc hs

/-- **C06 (unused list, exactly) with further master occurrences.**  Whenever the fetch succeeds and the
    entries of `all_definitions(sources)` carry pairwise distinct ids, the reported list is
    `all_definitions(sources)` filtered by "the path is not the path of a master parameter". -/
theorem ms2_unused_exact (e : Envs) (fuel : Nat) (sm : Meta) (mkids srcs : List Obj)
    (hf : MSMaster2 mkids) (hfuel : depthL mkids + 1 ≤ fuel) (hsd : sm.disabled = false)
    (hinc : NoIncludeTree mkids) (hsrc : SrcTree srcs) (hmsrc : SrcTree mkids) (hs : SrcPlain srcs)
    (hkeys : KeysDefinedMS2 e [] mkids srcs)
    (hsome : ∀ x ∈ allDefinitions srcs, x.2.1.id ≠ none)
    (hids : ((allDefinitions srcs).map (fun x => x.2.1.id)).Nodup)
    (ro : Obj) (used : List Nat)
    (h : fetchScope e fuel false sm mkids srcs = .ok (ro, used)) :
    unusedOf srcs used =
      (allDefinitions srcs).filter (fun x => !(ms2Paths [] mkids []).contains x.1) :=
  Phil.ms2_unused_exact e fuel sm mkids srcs hf hfuel hsd hinc hsrc hmsrc hs hkeys hsome hids ro used h

/-- membership form: an entry of `all_definitions(sources)` is reported iff its path names no master
    parameter -/
theorem reported_iff_ms2 (e : Envs) (fuel : Nat) (sm : Meta) (mkids srcs : List Obj)
    (hf : MSMaster2 mkids) (hfuel : depthL mkids + 1 ≤ fuel) (hsd : sm.disabled = false)
    (hinc : NoIncludeTree mkids) (hsrc : SrcTree srcs) (hmsrc : SrcTree mkids) (hs : SrcPlain srcs)
    (hkeys : KeysDefinedMS2 e [] mkids srcs)
    (hsome : ∀ x ∈ allDefinitions srcs, x.2.1.id ≠ none)
    (hids : ((allDefinitions srcs).map (fun x => x.2.1.id)).Nodup)
    (ro : Obj) (used : List Nat)
    (h : fetchScope e fuel false sm mkids srcs = .ok (ro, used))
    (x : Str × Meta × List Word) :
    x ∈ unusedOf srcs used ↔ x ∈ allDefinitions srcs ∧ x.1 ∉ ms2Paths [] mkids [] := by
  rw [ms2_unused_exact e fuel sm mkids srcs hf hfuel hsd hinc hsrc hmsrc hs hkeys hsome hids ro used h,
    List.mem_filter]
  simp

/-- the complementary form: an entry is consumed (its id is marked) iff its path names a master parameter -/
theorem consumed_iff_ms2 (mkids srcs : List Obj) (hf : MSMaster2 mkids)
    (hinc : NoIncludeTree mkids) (hs : SrcPlain srcs)
    (hids : ((allDefinitions srcs).map (fun x => x.2.1.id)).Nodup)
    (x : Str × Meta × List Word) (hx : x ∈ allDefinitions srcs) (i : Nat) (hi : x.2.1.id = some i) :
    i ∈ ms2Used [] mkids srcs ↔ x.1 ∈ ms2Paths [] mkids [] := by
  rw [ms2_used_exact mkids srcs hf hinc hs i]
  constructor
  · rintro ⟨y, hy, hyid, hyp⟩
    have := pairwise_map_eq _ _ hids x hx y hy (by rw [hi, hyid])
    rw [this]; exact hyp
  · intro hp
    exact ⟨x, hx, hi, hp⟩

/-- **the master-provided candidates mark nothing**: no source at all — nothing consumed, whatever the
    master repeats -/
theorem ms2_used_nosrc (mkids : List Obj) (hf : MSMaster2 mkids) (hinc : NoIncludeTree mkids) :
    ms2Used [] mkids [] = [] := by
  apply List.eq_nil_iff_forall_not_mem.mpr
  intro i hi
  have hs : SrcPlain [] := ⟨fun x hx => hx.not_nil.elim, fun x hx => hx.not_nil.elim⟩
  obtain ⟨x, hx, _⟩ := (ms2_used_exact mkids [] hf hinc hs i).mp hi
  have : allDefinitions [] = [] := by decide
  rw [this] at hx
  cases hx

/-- **`master.fetch(sources, track_unused_definitions=True)`** on parsed roots, with the side conditions in
    their executable form -/
theorem fetchRoot_ms2_unused_exact (e : Envs) (master : List Obj) (ss : List (List Obj))
    (hm : masterCheck_ms2 master = true) (hs : srcCheck ss.flatten = true)
    (hk : keysDefinedMS2B e [] master ss.flatten = true)
    (hsome : ∀ x ∈ allDefinitions ss.flatten, x.2.1.id ≠ none)
    (hids : ((allDefinitions ss.flatten).map (fun x => x.2.1.id)).Nodup)
    (ro : Obj) (used : List Nat)
    (h : fetchRoot e false master ss = .ok (ro, used)) :
    unusedOf ss.flatten used =
      (allDefinitions ss.flatten).filter (fun x => !(ms2Paths [] master []).contains x.1) := by
  have hM := masterCheck_ms2_sound master hm
  have hS := srcCheck_sound ss.flatten hs
  exact ms2_unused_exact e _ _ master ss.flatten hM.tree (fetchRoot_fuel_tree master hM.depth) rfl
    hM.noInclude hS.tree hM.srcTree hS.plain (keysDefinedMS2B_sound e master [] _ hk) hsome hids ro used h

/-! ### non-vacuity and sharpness -/

/-- master: the `.multiple` scope `s` with the parameter `a`, a further occurrence of `s` that mentions `b`,
    and a disabled definition `c` -/
def fo2M : List Obj := C05.tmObjs "s\n.multiple=True\n{\n a = 1\n}\ns {\n b = 2\n}\n!c = 1\n"
/-- sources: `s.b`, `s.a`, `c` -/
def fo2S : List Obj := C05.tmObjs "s.b = 3\ns.a = 5\nc = 2\n"

section
attribute [local instance] objDecEq

theorem fo2M_eq : fo2M =
    [
      .scope { name := "s".toList, id := some 1, line := some 1, attrs := [("multiple", .bool true)] } [
        .defn { name := "a".toList, id := some 2, line := some 4 }
          [{ value := "1".toList, line := some 4 }]],
      .scope { name := "s".toList, id := some 3, line := some 6 } [
        .defn { name := "b".toList, id := some 4, line := some 7 }
          [{ value := "2".toList, line := some 7 }]],
      .defn { name := "c".toList, id := some 5, disabled := true, line := some 9 }
        [{ value := "1".toList, line := some 9 }]] := by
  unfold fo2M
  rw [C05.tmObjs_ofList]
  decide +kernel

theorem fo2S_eq : fo2S =
    [
      .scope { name := "s".toList, id := some 1 } [
        .defn { name := "b".toList, id := some 1, line := some 1, mergeNames := true }
          [{ value := "3".toList, line := some 1 }]],
      .scope { name := "s".toList, id := some 2 } [
        .defn { name := "a".toList, id := some 2, line := some 2, mergeNames := true }
          [{ value := "5".toList, line := some 2 }]],
      .defn { name := "c".toList, id := some 3, line := some 3 } [{ value := "2".toList, line := some 3 }]] := by
  unfold fo2S
  rw [C05.tmObjs_ofList]
  decide +kernel

end

example : (masterCheck_ms2 fo2M && srcCheck fo2S && keysDefinedMS2B C05.envTm [] fo2M fo2S &&
    ms2NoClash [] fo2M fo2S && !msMasterB fo2M) = true := by
  rw [fo2M_eq, fo2S_eq]
  decide +kernel

/-- the theorem applied to the parsed instance (hypotheses discharged by kernel evaluation): `s.b` and `c` are
    reported, `s.a` is consumed -/
example (ro : Obj) (used : List Nat) (h : fetchRoot C05.envTm false fo2M [fo2S] = .ok (ro, used)) :
    (unusedOf fo2S used).map (fun x => String.ofList x.1) = ["s.b", "c"] := by
  have hfl : ([fo2S] : List (List Obj)).flatten = fo2S := by simp
  have := fetchRoot_ms2_unused_exact C05.envTm fo2M [fo2S] (by rw [fo2M_eq]; decide +kernel)
    (by rw [hfl, fo2S_eq]; decide +kernel) (by rw [hfl, fo2M_eq, fo2S_eq]; decide +kernel)
    (by
      rw [hfl]
      intro x hx
      have hall : ((allDefinitions fo2S).all (fun x => x.2.1.id.isSome)) = true := by
        rw [fo2S_eq]
        decide +kernel
      have := List.all_eq_true.mp hall x hx
      intro hn; rw [hn] at this; cases this)
    (by rw [hfl, fo2S_eq]; decide +kernel)
    ro used h
  rw [hfl] at this
  rw [this, fo2M_eq, fo2S_eq]
  decide +kernel

/-- **a further occurrence declares no parameter; a disabled master object declares none** — the
    characterisation by `all_definitions(master)` of the classes with one occurrence per name is FALSE here.
    Master `s (.multiple) { a = 1 }  s { b = 2 }  !c = 1`, sources `s.b = 3  s.a = 5  c = 2`: `s.b` IS a path
    of `all_definitions(master)`, yet the model's fetch reports `s.b` (and `c`) as unused — the further
    occurrence `s { b = 2 }` is fetched against `{ a = 1 }` like a source.  Replayed on the real library:
    `M.fetch(sources=[S], track_unused_definitions=True)` reports `['s.b', 'c']`, and
    `[d.path for d in M.all_definitions()] = ['s.a', 's.b']`. -/
theorem further_occurrence_declares_no_parameter :
    (ms2Paths [] fo2M []).map String.ofList = ["s.a"] ∧
    (allDefinitions fo2M).map (fun x => String.ofList x.1) = ["s.a", "s.b"] ∧
    (match fetchRoot C05.envTm false fo2M [fo2S] with
      | .ok (_, used) => (unusedOf fo2S used).map (fun x => String.ofList x.1)
      | .error _ => []) = ["s.b", "c"] := by
  rw [fo2M_eq, fo2S_eq]
  decide +kernel

/-- on the instance of Props/C05TreeMS2.lean (a `.multiple` scope repeated, a `.multiple` definition repeated
    inside it and at top level) every source definition names a parameter: nothing is reported -/
example : ((allDefinitions C05.ms2S).filter
    (fun x => !(ms2Paths [] C05.ms2M []).contains x.1)).length = 0 := by
  rw [C05.ms2M_eq, C05.ms2S_eq]
  decide +kernel

end Phil.C06

#print axioms Phil.C06.ms2_used_exact
#print axioms Phil.C06.ms2_unused_exact
#print axioms Phil.C06.reported_iff_ms2
#print axioms Phil.C06.consumed_iff_ms2
#print axioms Phil.C06.ms2_used_nosrc
#print axioms Phil.C06.fetchRoot_ms2_unused_exact
#print axioms Phil.C06.further_occurrence_declares_no_parameter
