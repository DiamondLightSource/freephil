/-
  C07 — Fetch is idempotent.
    "Fetching the result of a fetch against the same master reproduces it:
     M.fetch(M.fetch(S)) = M.fetch(S)."

  Model: Phil/Fetch.lean.  Lemmas and auxiliary definitions (`FlatMaster`, `RefetchOK`, `PlainMeta`,
  `flatResult`, `refetchCounts`, `w1Master`, `w1Source`) are in Phil/Proofs/FetchLemmas.lean.

  Status: PARTIAL.
    * `fetch_flat_idempotent_partial` proves idempotence for flat masters (all fuel, all
      definition-only sources whose variables resolve — `SrcOK` — to `$`-free words;
      `fetch_flat_idempotent_plain` is the reading for variable-free sources).
    * `refetch_stable_nested` (kernel evaluation): the input of finding D8 (a `.multiple` definition
      inside a `.multiple` scope whose default is not in canonical spelling, `yes` for a bool — before
      the repair of the library, bcaa855, the second fetch had one more instance of the scope than
      the first, counts `(1, 2)`).  The library renders the key of a `.multiple` master scope from the
      scope's own fetch (repair of D9, `masterKeyOf` in the model), which also canonicalises the
      default; both fetches have one instance.
-/
import Phil.Proofs.FetchSpec
namespace Phil.C07
open Phil

/-- **Idempotence for flat masters (partial).**  Let the master consist of enabled plain
    definitions (not `.multiple`, not `.deprecated`, not of choice type) with non-empty, pairwise
    distinct names (`FlatMaster`), not template-marked, without a recorded variable resolution and
    with variable-free defaults (`RefetchOK` — the result of the first fetch carries the master's
    meta data and is the source of the second; a live `$` without a recorded resolution makes the
    model answer `unsupported`).  Then for every list `combined` of source *definitions* whose
    variable resolution succeeds (`SrcOK`: a recorded `varRes = some (.ok rws refs)`, or none and
    `$`-free words) and whose resolved words `srcWords` contain no live `$`: fetching the children
    of the result again reproduces the result.

    The full property additionally covers — and this theorem does not — master scopes (nested
    results, sources given as scopes or dotted names), `.multiple` definitions and scopes (template
    objects, de-duplication by rendered value), choice types (`*`-marking is re-interpreted by the
    second fetch), `.deprecated` definitions, disabled master objects, and diff mode (for
    `.multiple` inside `.multiple` see `refetch_stable_nested`). -/
theorem fetch_flat_idempotent_partial (e : Envs) (fuel : Nat) (mkids combined : List Obj)
    (hf : FlatMaster mkids) (hr : RefetchOK mkids)
    (hdef : ∀ o ∈ combined, o.isDefn = true) (hsrc : ∀ o ∈ combined, SrcOK o)
    (hdol : ∀ o ∈ combined, hasDollar o.srcWords = false)
    (rm : Meta) (out : List Obj) (used : List Nat)
    (h : fetchScope e (fuel + 1) false { name := [] } mkids combined = .ok (.scope rm out, used)) :
    ∃ used', fetchScope e (fuel + 1) false { name := [] } mkids out = .ok (.scope rm out, used') :=
  Phil.fetch_flat_idempotent_partial e fuel mkids combined hf hr hdef hsrc hdol rm out used h

/-- the variable-free reading: sources without recorded variable resolutions and without live `$` -/
theorem fetch_flat_idempotent_plain (e : Envs) (fuel : Nat) (mkids combined : List Obj)
    (hf : FlatMaster mkids) (hr : RefetchOK mkids)
    (hdef : ∀ o ∈ combined, o.isDefn = true) (hnone : ∀ o ∈ combined, o.meta.varRes = none)
    (hdol : ∀ o ∈ combined, hasDollar o.words = false)
    (rm : Meta) (out : List Obj) (used : List Nat)
    (h : fetchScope e (fuel + 1) false { name := [] } mkids combined = .ok (.scope rm out, used)) :
    ∃ used', fetchScope e (fuel + 1) false { name := [] } mkids out = .ok (.scope rm out, used') :=
  Phil.fetch_flat_idempotent_partial e fuel mkids combined hf hr hdef
    (fun o ho => SrcOK.of_none (hnone o ho) (hdol o ho))
    (fun o ho => by rw [srcWords_of_varRes_none o (hnone o ho)]; exact hdol o ho) rm out used h

/-- the hypothesis of the partial theorem is never vacuous: such a fetch always succeeds -/
theorem flat_fetch_succeeds (e : Envs) (fuel : Nat) (mkids combined : List Obj)
    (hf : FlatMaster mkids)
    (hdef : ∀ o ∈ combined, o.isDefn = true) (hsrc : ∀ o ∈ combined, SrcOK o) :
    fetchScope e (fuel + 1) false { name := [] } mkids combined =
      .ok (.scope { name := [] } (flatResult mkids combined), flatUsed mkids combined) :=
  Phil.fetch_flat e fuel _ mkids combined hf rfl rfl hdef hsrc

/-- the fixed point itself: the flat result is stable under re-fetching -/
theorem flatResult_idempotent (mkids combined : List Obj) (hf : FlatMaster mkids) (hr : RefetchOK mkids) :
    flatResult mkids (flatResult mkids combined) = flatResult mkids combined := by
  unfold flatResult
  apply List.map_congr_left
  intro mo hmo
  have hen : ∀ o ∈ mkids, o.meta.disabled = false := by
    intro o ho
    obtain ⟨mm, mws, rfl, _, _, hd⟩ := hf.plain o ho
    exact hd
  rw [activeNamed_map_distinct (fun mo => lastWins mo (activeNamed mo.name combined))
    (fun o => lastWins_name o _) (fun o => lastWins_disabled o _) mkids hf.distinct hen mo hmo]
  obtain ⟨mm, mws, rfl, _, _, _⟩ := hf.plain mo hmo
  exact lastWins_idem mm mws _ (hr _ hmo).1 (hr _ hmo).2.1

/-! ### the input of finding D8 -/

/-- **Witness (D8 repaired).**  Master `s .multiple=True { d = yes .type=bool .multiple=True }`, source
    `s { d = no }`: the first fetch has one (non-template) instance of `s`, and so has the fetch of
    its result (before the fix of D9 the second fetch had two: the master key was rendered from the
    raw block, `yes`, and compared with the canonical `True` of the re-fetched template). -/
theorem refetch_stable_nested : refetchCounts envNone w1Master w1Source = some (1, 1) :=
  Phil.refetch_stable_nested

/-- the same on the parser's output for the two texts -/
theorem refetch_stable_nested_text :
    refetchCountsText envNone w1MasterText w1SourceText = some (1, 1) := by
  rw [w1MasterText, w1SourceText, refetchCountsText_ofList]
  decide +kernel

/-- pre-order listing of a tree: every object's meta data together with its words (a definition) or
    the number of its children (a scope).  Trees with the same listing are the same tree. -/
def preorder : Nat → Obj → List (Meta × (List Word ⊕ Nat))
  | 0, _ => []
  | _ + 1, .defn m ws => [(m, .inl ws)]
  | f + 1, .scope m kids => (m, .inr kids.length) :: kids.flatMap (preorder f)

/-- on this input the second fetch reproduces the first one exactly: the two result trees have the
    same pre-order listing (all meta data, all words) -/
theorem refetch_fixed_point_nested :
    (match fetchRoot envNone false w1Master [w1Source] with
     | .ok (r1, _) =>
       (match fetchRoot envNone false w1Master [r1.children] with
        | .ok (r2, _) => some (decide (preorder 8 r2 = preorder 8 r1), (preorder 8 r1).length)
        | .error _ => none)
     | .error _ => none) = some (true, 6) := by
  decide +kernel

end Phil.C07
