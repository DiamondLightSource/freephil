/-
  C12 / C05 / C06 — `$variables` INSIDE the closed form of `scope.fetch`, continued.

  Parser lemmas (Phil/Proofs/FetchVars2.lean §A, second invariant of `collectObjects`): every output of
  `parseObjs` is `Fresh` (no resolution recorded), names every scope (`ScopesNamed`) and numbers its
  definitions with present, pairwise distinct ids.  Hence the theorems of Props/C12Fetch.lean for
  PARSED source texts with no side hypothesis besides the master class.  Then: the whole fetch does not
  depend on the environment when it succeeds without one (§2), masters with `.multiple` definitions (§3),
  what `diff_mode` changes (§4).
-/
import Phil.Proofs.FetchVars2
import Phil.Props.C12Fetch
import Phil.Props.C05TreeMulti
namespace Phil.C12Fetch2
open Phil Phil.C12 Phil.C12Fetch

/-! ## 1. parser lemmas -/

/-- **Every parsed document is `Fresh`**: the parser records no `resolve_variables` outcome. -/
theorem parse_fresh (text : Str) (doc : List Obj) (h : parseObjs text = .ok doc) : Fresh doc :=
  fun _ hx => (parse_metas_pv text doc h _ (activeIn_meta_mem_pv hx)).1

/-- **Every parsed document names its scopes** (scope names and the components of dotted names are
    standard identifiers, hence non-empty). -/
theorem parse_scopesNamed (text : Str) (doc : List Obj) (h : parseObjs text = .ok doc) : ScopesNamed doc := by
  intro m kids hx hn
  have := (parse_metas_pv text doc h _ (activeIn_meta_mem_pv hx)).2
  -- the empty name is not a path of non-empty components
  exact this [] (by rw [show (Obj.scope m kids).meta.name = [] from hn]; simp [splitOn]) rfl

/-- **The ids of the definitions of a parsed document** (all of them, disabled ones included, in
    document order: `didsList`) **are present and pairwise distinct.**  (Scopes may share an id with the
    object of a dotted name; definitions never share one.) -/
theorem parse_definition_ids (text : Str) (doc : List Obj) (h : parseObjs text = .ok doc) :
    (didsList doc).Nodup ∧ ∀ x ∈ didsList doc, x ≠ none :=
  parseObjs_dids_pv text doc h

/-- … in the form the C06 theorems use: the entries of `all_definitions` of the denoted document -/
theorem parse_allDefinitions_ids (env : Env) (diff : Bool) (text : Str) (doc : List Obj)
    (h : parseObjs text = .ok doc) :
    (∀ x ∈ allDefinitions (denoteDoc env diff doc), x.2.1.id ≠ none) ∧
      ((allDefinitions (denoteDoc env diff doc)).map (fun x => x.2.1.id)).Nodup := by
  obtain ⟨hnd, hsome⟩ := parseObjs_dids_pv text doc h
  have hsub := allDefsList_ids_sublist_pv (denoteDoc env diff doc) []
  unfold denoteDoc at hsub
  rw [didsList_annList_pv] at hsub
  refine ⟨?_, List.Nodup.sublist hsub hnd⟩
  intro x hx
  exact hsome _ (hsub.subset (List.mem_map.mpr ⟨x, hx, rfl⟩))

/-- all three for a list of parsed texts -/
theorem parsed_docs_wellformed (texts : List Str) (docs : List (List Obj))
    (hp : texts.mapM parseObjs = .ok docs) :
    (∀ d ∈ docs, DocIds d) ∧ (∀ d ∈ docs, Fresh d) ∧ ScopesNamed docs.flatten := by
  have hm := mapM_ok_mem_R hp
  refine ⟨?_, ?_, scopesNamed_flatten_pv docs ?_⟩
  · intro d hd; obtain ⟨t, _, ht⟩ := hm d hd; exact parse_docIds t d ht
  · intro d hd; obtain ⟨t, _, ht⟩ := hm d hd; exact parse_fresh t d ht
  · intro d hd; obtain ⟨t, _, ht⟩ := hm d hd; exact parse_scopesNamed t d ht

/-! ## 1b. the fetch theorems for parsed texts, no side hypothesis -/

/-- **`master.fetch(sources)` with `$variables`, parsed source texts**: the fetch of the pre-resolved
    documents is `treeFetch` on the denoted documents.  Hypotheses: the master class only. -/
theorem fetch_with_variables_of_texts (e : Envs) (env : Env) (master : List Obj) (texts : List Str)
    (docs : List (List Obj)) (hp : texts.mapM parseObjs = .ok docs)
    (hf : TreeMaster master) (hd : depthL master ≤ 1000) :
    fetchRoot e false master (docs.map (preResolve env false)) =
      treeFetch { name := [], id := some 0 } master (docs.map (denoteDoc env false)).flatten :=
  fetch_with_variables_parsed e env master texts docs hp hf hd (parsed_docs_wellformed texts docs hp).2.2

/-- **C05 with variables, parsed source texts.**  The last enabled source definition reached by the
    path of a master definition wins, with its DENOTED words. -/
theorem last_value_wins_of_texts (e : Envs) (env : Env) (master : List Obj) (texts : List Str)
    (docs : List (List Obj)) (hp : texts.mapM parseObjs = .ok docs)
    (hf : TreeMaster master) (hd : depthL master ≤ 1000)
    (ro : Obj) (used : List Nat)
    (h : fetchRoot e false master (docs.map (preResolve env false)) = .ok (ro, used))
    (ps : List Str) (n : Str) (mm : Meta) (mws : List Word)
    (hm : defAt master ps n = some (.defn mm mws)) :
    (lastDef (srcAt (docs.map (denoteDoc env false)).flatten ps) n = none ∧
        defAt ro.children ps n = some (.defn mm mws)) ∨
      ∃ doc ∈ docs, ∃ pos m ws r, objAt doc pos = some (.defn m ws) ∧ m.name = n ∧ m.disabled = false ∧
        lastDef (srcAt (docs.map (denoteDoc env false)).flatten ps) n =
          some (annObj env false doc pos (.defn m ws)) ∧
        denote env doc pos false = .ok r ∧
        defAt ro.children ps n = some (.defn { mm with tmpl := 0 } r) :=
  have hw := parsed_docs_wellformed texts docs hp
  last_value_wins_with_variables e env master docs hf hd hw.1 hw.2.1 hw.2.2 ro used h ps n mm mws hm

/-- **C06 with variables (consumed ids, exactly), parsed source texts.** -/
theorem used_exact_of_texts (e : Envs) (env : Env) (master : List Obj) (texts : List Str)
    (docs : List (List Obj)) (hp : texts.mapM parseObjs = .ok docs)
    (hf : TreeMaster master) (hd : depthL master ≤ 1000) (hinc : NoIncludeTree master)
    (ro : Obj) (used : List Nat)
    (h : fetchRoot e false master (docs.map (preResolve env false)) = .ok (ro, used)) (i : Nat) :
    i ∈ used ↔
      ∃ x ∈ allDefinitions (docs.map (denoteDoc env false)).flatten,
        x.1 ∈ (allDefinitions master).map (·.1) ∧
          (x.2.1.id = some i ∨ i ∈ srcRefs (.defn x.2.1 x.2.2)) :=
  have hw := parsed_docs_wellformed texts docs hp
  used_with_variables_exact e env master docs hf hd hinc hw.1 hw.2.2 ro used h i

/-- **C06 with variables (the reported list, exactly), ONE parsed source text.**  An entry of
    `all_definitions(source)` is reported iff its path names no master definition and no entry whose
    path names a master definition consulted it.  (One text: every parse numbers from 1, so the ids of
    two parsed documents clash — `two_texts_share_ids`; the driver shifts the ids per document.) -/
theorem unused_exact_of_text (e : Envs) (env : Env) (master : List Obj) (text : Str) (doc : List Obj)
    (hp : parseObjs text = .ok doc)
    (hf : TreeMaster master) (hd : depthL master ≤ 1000) (hinc : NoIncludeTree master)
    (ro : Obj) (used : List Nat)
    (h : fetchRoot e false master [preResolve env false doc] = .ok (ro, used))
    (x : Str × Meta × List Word) :
    x ∈ C06.unusedOf (denoteDoc env false doc) used ↔
      x ∈ allDefinitions (denoteDoc env false doc) ∧
        x.1 ∉ (allDefinitions master).map (·.1) ∧
        ∀ y ∈ allDefinitions (denoteDoc env false doc),
          y.1 ∈ (allDefinitions master).map (·.1) →
            ∀ i, x.2.1.id = some i → i ∉ srcRefs (.defn y.2.1 y.2.2) := by
  have hids := parse_allDefinitions_ids env false text doc hp
  have hfl : ([doc].map (denoteDoc env false)).flatten = denoteDoc env false doc := by simp
  have := unused_with_variables_exact e env master [doc] hf hd hinc
    (by intro d hd'; rw [List.mem_singleton] at hd'; subst hd'; exact parse_docIds text _ hp)
    (by simpa using parse_scopesNamed text doc hp)
    (by rw [hfl]; exact hids.1) (by rw [hfl]; exact hids.2) ro used (by simpa using h) x
  rw [hfl] at this
  exact this

/-! ### non-vacuity and sharpness -/

/-- a source text: helper `q`, a mixture, a chain of references through a dotted name, an undefined
    variable in a definition that names no master parameter, a single-quoted `$` -/
def srcText : String := "q = 5 6\na = $q x$q\nr = 0\ns.b = $a\nz = $nope\ns {\n  c = $(s.b) '$q'\n}\n"
/-- a second text, parsed separately -/
def srcText2 : String := "a = $q\n"

attribute [local instance] objDecEq in
theorem parsed_srcText : parsed srcText =
    [ .defn { name := "q".toList, id := some 1, line := some 1 } [wl "5" 1, wl "6" 1],
      .defn { name := "a".toList, id := some 2, line := some 2 } [wl "$q" 2, wl "x$q" 2],
      .defn { name := "r".toList, id := some 3, line := some 3 } [wl "0" 3],
      .scope { name := "s".toList, id := some 4 } [
        .defn { name := "b".toList, id := some 4, line := some 4, mergeNames := true } [wl "$a" 4] ],
      .defn { name := "z".toList, id := some 5, line := some 5 } [wl "$nope" 5],
      .scope { name := "s".toList, id := some 6, line := some 6 } [
        .defn { name := "c".toList, id := some 7, line := some 7 }
          [wl "$(s.b)" 7, { value := "$q".toList, quote := some .s1, line := some 7 }] ] ] := by
  unfold srcText
  rw [parsed_ofList]
  decide +kernel

theorem srcTexts_parse : [srcText.toList, srcText2.toList].mapM parseObjs = .ok [parsed srcText, parsed srcText2] := by
  rw [mapM_cons_R, parsed_ok_of_cons _ _ _ parsed_srcText, mapM_cons_R, parsed_ok srcText2 (by decide +kernel),
    mapM_nil_R]

/-- the theorems apply to the parsed texts with the master `a = 1 ; s { b = 2 ; c = 3 }`: the
    hypotheses left are the master class, kernel-evaluated -/
example (env : Env) : fetchRoot env12 false mT [preResolve env false (parsed srcText), preResolve env false (parsed srcText2)] =
    treeFetch { name := [], id := some 0 } mT (denoteDoc env false (parsed srcText) ++ denoteDoc env false (parsed srcText2)) := by
  have h := fetch_with_variables_of_texts env12 env mT _ _ srcTexts_parse
    mT_tree mT_depth
  simpa using h

/-- on the instance: the second text's `$q` is undefined IN ITS OWN document (Python: "Undefined
    variable: $q (input line 1)") although the first text defines `q` -/
example : errOf (fetchRoot env12 false mT [preResolve noEnv false (parsed srcText), preResolve noEnv false (parsed srcText2)]) =
    some (Err.runtime "undefined_variable" (some 1)) := by
  rw [mT_eq, parsed_srcText]
  decide +kernel

/-- two parsed texts share ids: the pairwise-distinctness of ids holds per document only -/
theorem two_texts_share_ids :
    (allDefinitions ((C06.objsOf "a = 1\n") ++ (C06.objsOf "b = 2\n"))).map (fun x => x.2.1.id) = [some 1, some 1] := by
  decide +kernel

/-! ## 2. whole-fetch environment independence (C12) -/

/-- **C12 lifted to the whole fetch.**  If the fetch succeeds on the documents pre-resolved with the
    EMPTY environment — every reference of every consumed definition resolves inside its own document,
    `consumed_definitions_resolved` — then under EVERY environment the fetch gives the same result: the
    same tree and the same consumed ids.  The environment never overrides an earlier definition, and
    definitions that are not consumed (here: whatever they refer to) do not matter. -/
theorem fetch_env_independent (e : Envs) (env : Env) (master : List Obj) (docs : List (List Obj))
    (hf : TreeMaster master) (hd : depthL master ≤ 1000) (hdocs : ∀ d ∈ docs, DocIds d)
    (hnamed : ScopesNamed docs.flatten) (r : Obj × List Nat)
    (h : fetchRoot e false master (docs.map (preResolve emptyEnv false)) = .ok r) :
    fetchRoot e false master (docs.map (preResolve env false)) = .ok r := by
  rw [fetchRoot_preResolved e _ master docs hf hd hdocs hnamed] at h ⊢
  exact treeFetch_envRel_pv _ master _ _ (envRel_docs_pv env docs hdocs) r h

/-- … for parsed source texts: master class only -/
theorem fetch_env_independent_of_texts (e : Envs) (env : Env) (master : List Obj) (texts : List Str)
    (docs : List (List Obj)) (hp : texts.mapM parseObjs = .ok docs)
    (hf : TreeMaster master) (hd : depthL master ≤ 1000) (r : Obj × List Nat)
    (h : fetchRoot e false master (docs.map (preResolve emptyEnv false)) = .ok r) :
    fetchRoot e false master (docs.map (preResolve env false)) = .ok r :=
  have hw := parsed_docs_wellformed texts docs hp
  fetch_env_independent e env master docs hf hd hw.1 hw.2.2 r h

/-- two arbitrary environments give the same fetch -/
theorem fetch_same_under_two_envs (e : Envs) (env1 env2 : Env) (master : List Obj) (texts : List Str)
    (docs : List (List Obj)) (hp : texts.mapM parseObjs = .ok docs)
    (hf : TreeMaster master) (hd : depthL master ≤ 1000) (r : Obj × List Nat)
    (h : fetchRoot e false master (docs.map (preResolve emptyEnv false)) = .ok r) :
    fetchRoot e false master (docs.map (preResolve env1 false)) =
      fetchRoot e false master (docs.map (preResolve env2 false)) := by
  rw [fetch_env_independent_of_texts e env1 master texts docs hp hf hd r h,
    fetch_env_independent_of_texts e env2 master texts docs hp hf hd r h]

/-- what the hypothesis says: after a successful fetch with the empty environment every CONSUMED
    definition — every enabled source definition reached by the path of a master definition —
    resolved (its denotation with the empty environment is a value) -/
theorem consumed_definitions_resolved (e : Envs) (master : List Obj) (docs : List (List Obj))
    (hf : TreeMaster master) (hd : depthL master ≤ 1000) (hdocs : ∀ d ∈ docs, DocIds d)
    (hnamed : ScopesNamed docs.flatten) (r : Obj × List Nat)
    (h : fetchRoot e false master (docs.map (preResolve emptyEnv false)) = .ok r)
    (ps : List Str) (n : Str) (mm : Meta) (mws : List Word)
    (hm : defAt master ps n = some (.defn mm mws)) :
    ∀ d ∈ defsNamed n (srcAt (docs.map (denoteDoc emptyEnv false)).flatten ps), srcErrOf d = none := by
  rw [fetchRoot_preResolved e _ master docs hf hd hdocs hnamed] at h
  exact firstErr_none_matched ps master _ n mm mws (ok_of_optError h).1 hm

/-- the congruence behind it: a successful closed form is unchanged when the sources are replaced by
    sources that are identical wherever the original carries no resolution error -/
theorem treeFetch_congruence (sm : Meta) (mkids s1 s2 : List Obj) (hr : envRelList s1 s2)
    (r : Obj × List Nat) (h : treeFetch sm mkids s1 = .ok r) : treeFetch sm mkids s2 = .ok r :=
  treeFetch_envRel_pv sm mkids s1 s2 hr r h

/-- an environment that defines `q`, `nope` and `X` -/
def someEnv : Env := fun n =>
  if n = "q".toList then some "ENVQ".toList else if n = "nope".toList then some "ENVNOPE".toList
  else if n = "X".toList then some "7".toList else none

/-- instance: `srcText` has the unconsumed `z = $nope` (undefined without the environment) — the fetch
    succeeds with the empty environment, hence is the same under `someEnv`, which defines `q` (shadowed
    by the earlier definition) and `nope` (only used by the unconsumed `z`) -/
example : fetchRoot env12 false mT [preResolve someEnv false (parsed srcText)] =
    fetchRoot env12 false mT [preResolve emptyEnv false (parsed srcText)] := by
  have hp : [srcText.toList].mapM parseObjs = .ok [parsed srcText] := by
    rw [mapM_cons_R, parsed_ok_of_cons _ _ _ parsed_srcText, mapM_nil_R]
  cases hr : fetchRoot env12 false mT ([parsed srcText].map (preResolve emptyEnv false)) with
  | error e0 =>
    have hden := preResolve_is_denotation_parsed emptyEnv false _ _ (parsed_ok_of_cons _ _ _ parsed_srcText)
    have : errOf (fetchRoot env12 false mT [denoteDoc emptyEnv false (parsed srcText)]) = none := by
      rw [mT_eq, parsed_srcText]
      decide +kernel
    simp only [List.map_cons, List.map_nil, hden] at hr
    rw [hr] at this; cases this
  | ok r =>
    have h := fetch_env_independent_of_texts env12 someEnv mT _ _ hp
      mT_tree mT_depth r hr
    simp only [List.map_cons, List.map_nil] at h hr
    rw [h, hr]

/-- **the hypothesis is sharp**: with a consumed definition that does not resolve inside its document
    (`a = $X`), the fetch fails with the empty environment and succeeds — with the environment's
    value — under `someEnv` (Python: `os.environ["X"] = "7"` gives `a = "7"`, without it
    "Undefined variable: $X (input line 1)") -/
theorem closed_needed :
    errOf (fetchRoot env12 false (C06.objsOf "a = 1\n") [preResolve emptyEnv false (C06.objsOf "a = $X\n")]) =
      some (Err.runtime "undefined_variable" (some 1)) ∧
    (fetchRoot env12 false (C06.objsOf "a = 1\n") [preResolve someEnv false (C06.objsOf "a = $X\n")]).toOption.map
      (fun r => C06.valsOf r.1.children) = some [("a", ["7"])] := by
  decide +kernel

/-! ## 3. masters with `.multiple` definitions: the candidates are the DENOTED words (C05, C12) -/

/-- **Total closed form of the fetch of a nested master whose definitions may be `.multiple`
    (`TreeMultiMaster`) on annotated sources of ANY kind** — no `SrcTree`, no `SrcNoDollar`: the error of
    the first offending source object in master order (a recorded `resolve_variables` error of a
    matching definition, `.multiple` or not, or "incompatible"), else `treeMultiResult` — whose
    candidates are built from the RESOLVED words — with the consumed ids `treeUsed`. -/
theorem fetch_tree_multi_vars_total (e : Envs) (fuel : Nat) (sm : Meta) (mkids srcs : List Obj)
    (hf : TreeMultiMaster mkids) (hfuel : depthL mkids + 1 ≤ fuel) (hsd : sm.disabled = false)
    (hsrc : ScopesNamed srcs) (hkeys : KeysDefinedTree e mkids srcs) :
    fetchScope e fuel false sm mkids srcs = treeMultiFetch e sm mkids srcs :=
  Phil.fetch_tree_multi_vars_total e fuel sm mkids srcs hf hfuel hsd hsrc hkeys

/-- **`master.fetch(sources)` with `$variables`, master with `.multiple` definitions, parsed source
    texts.**  Hypotheses: the master class, and the keys of the list rule are defined. -/
theorem fetch_multi_with_variables_of_texts (e : Envs) (env : Env) (master : List Obj) (texts : List Str)
    (docs : List (List Obj)) (hp : texts.mapM parseObjs = .ok docs)
    (hf : TreeMultiMaster master) (hd : depthL master ≤ 1000)
    (hkeys : KeysDefinedTree e master (docs.map (denoteDoc env false)).flatten) :
    fetchRoot e false master (docs.map (preResolve env false)) =
      treeMultiFetch e { name := [], id := some 0 } master (docs.map (denoteDoc env false)).flatten :=
  have hw := parsed_docs_wellformed texts docs hp
  fetchRoot_multi_preResolved_pv e env master docs hf hd hw.1 hw.2.2 hkeys

/-- **C05 list rule with variables.**  After a successful fetch, where the master has the `.multiple`
    definition `.defn mm mws` at the path `ps.n`: the enabled objects called `n` at that path of the
    result are the template followed by the `dedupKeepLast` survivors of the candidates built, in
    document order, from the enabled source definitions reached by that path IN THE DENOTED DOCUMENTS;
    every such source definition is the definition at some position `pos` of one of the documents,
    resolved, and its candidate carries the denoted words `denote env doc pos`. -/
theorem multiple_list_rule_with_variables (e : Envs) (env : Env) (master : List Obj) (texts : List Str)
    (docs : List (List Obj)) (hp : texts.mapM parseObjs = .ok docs)
    (hf : TreeMultiMaster master) (hd : depthL master ≤ 1000)
    (hkeys : KeysDefinedTree e master (docs.map (denoteDoc env false)).flatten)
    (ro : Obj) (used : List Nat)
    (h : fetchRoot e false master (docs.map (preResolve env false)) = .ok (ro, used))
    (ps : List Str) (n : Str) (mm : Meta) (mws : List Word)
    (hm : defAt master ps n = some (.defn mm mws)) (hmult : isMultiple (.defn mm mws) = true) :
    activeNamed n (srcAt ro.children ps) =
        multiBlock (.defn mm mws) (keyOf e 0 (.defn mm mws) (.defn mm mws))
          (candsOf e 0 (.defn mm mws) (defsNamed n (srcAt (docs.map (denoteDoc env false)).flatten ps))) ∧
      ∀ d ∈ defsNamed n (srcAt (docs.map (denoteDoc env false)).flatten ps),
        ∃ doc ∈ docs, ∃ pos m ws r, objAt doc pos = some (.defn m ws) ∧ m.name = n ∧ m.disabled = false ∧
          d = annObj env false doc pos (.defn m ws) ∧ denote env doc pos false = .ok r ∧
          candOfSrc (.defn mm mws) d = .defn { mm with tmpl := 0 } r := by
  have hw := parsed_docs_wellformed texts docs hp
  rw [fetchRoot_multi_preResolved_pv e env master docs hf hd hw.1 hw.2.2 hkeys] at h
  obtain ⟨hfe, hv⟩ := ok_of_optError h
  have hch : ro.children = treeMultiResult e master (docs.map (denoteDoc env false)).flatten := by
    cases hv; rfl
  refine ⟨by rw [hch]; exact multiple_list_rule_at_depth_tm e master _ hf ps n mm mws hm hmult, ?_⟩
  intro d hdm
  obtain ⟨doc, hdoc, pos, m, ws, ho, hn, hdis, hdx, herr, hok⟩ :=
    matched_denoted_pv env docs hw.1 hw.2.1 ps n d hdm
  have hnone := firstErr_none_matched ps master _ n mm mws hfe hm d hdm
  rw [hnone] at herr
  cases hden : denote env doc pos false with
  | error e0 => rw [hden] at herr; cases herr
  | ok r =>
    refine ⟨doc, hdoc, pos, m, ws, r, ho, hn, hdis, hdx, hden, ?_⟩
    unfold candOfSrc
    rw [(hok r hden).1]
    rfl

/-- master `a = 1 (.multiple) ; b = 2` -/
def mM : List Obj := C06.objsOf "a = 1\n.multiple = True\nb = 2\n"
/-- source: three values for `a`, two of them through `$q` -/
def srcM : String := "q = 5\na = $q\na = 7\nb = $q\na = $q\n"

/-- the hypotheses of `fetch_multi_with_variables_of_texts` hold on the parsed instance, and the result:
    template, then `a = 7`, `a = 5` — the two `$q` candidates denote the same words, the LAST stays
    (Python: `a = 7`, `a = 5`, `b = 5`) -/
theorem mM_srcM_hyps : (treeMultiMasterB mM && decide (depthL mM ≤ 1000) &&
    keysDefinedTreeB env12 mM (denoteDoc emptyEnv false (parsed srcM))) = true := by
  rw [mM, srcM, C06.objsOf_ofList, parsed_ofList]
  decide +kernel

example : (treeMultiMasterB mM && decide (depthL mM ≤ 1000) &&
    keysDefinedTreeB env12 mM (denoteDoc emptyEnv false (parsed srcM))) = true ∧
    (treeMultiFetch env12 { name := [], id := some 0 } mM (denoteDoc emptyEnv false (parsed srcM))).toOption.map
      (fun r => (C06.valsOf r.1.children, r.2)) =
      some ([("a", ["1"]), ("a", ["7"]), ("a", ["5"]), ("b", ["5"])], [2, 1, 3, 5, 1, 4, 1]) := by
  refine ⟨mM_srcM_hyps, ?_⟩
  rw [mM, srcM, C06.objsOf_ofList, parsed_ofList]
  decide +kernel

example : fetchRoot env12 false mM [preResolve emptyEnv false (parsed srcM)] =
    treeMultiFetch env12 { name := [], id := some 0 } mM (denoteDoc emptyEnv false (parsed srcM)) := by
  have hp : [srcM.toList].mapM parseObjs = .ok [parsed srcM] := by
    rw [mapM_cons_R, parsed_ok srcM (by rw [srcM, String.toList_ofList]; decide +kernel), mapM_nil_R]
  obtain ⟨hmd, hk⟩ := Bool.and_eq_true_iff.mp mM_srcM_hyps
  obtain ⟨hm, hd⟩ := Bool.and_eq_true_iff.mp hmd
  -- with the master a variable the elaborator cannot unfold `KeysDefinedTree` on it (it would parse the text)
  generalize mM = M at hm hd hk ⊢
  have h := fetch_multi_with_variables_of_texts env12 emptyEnv M _ _ hp
    (treeMultiMasterB_sound M hm) (of_decide_eq_true hd)
    (keysDefinedTreeB_sound env12 M _ (by
      simp only [List.map_cons, List.map_nil, List.flatten_cons, List.flatten_nil, List.append_nil]
      exact hk))
  simpa using h

/-- a candidate of a `.multiple` definition that does not resolve fails the fetch with ITS error
    (Python: "Undefined variable: $nope (input line 2)"), before the later `b = $alsonope` -/
theorem multiple_candidate_error_first :
    errOf (treeMultiFetch env12 { name := [], id := some 0 } mM
      (denoteDoc emptyEnv false (parsed "a = 7\na = $nope\nb = $alsonope\n"))) =
      some (Err.runtime "undefined_variable" (some 2)) := by
  decide +kernel

/-! ## 4. diff mode (`resolve_variables(diff_mode=True)`, used by `fetch_diff`) — what changes

  Python (`common.py`, `definition.resolve_variables`): `diff_mode` only replaces the ENVIRONMENT lookup
  of the definition being fetched — a variable of ITS OWN words that no earlier definition defines
  becomes the word `"$name"` (double-quoted), whether or not `os.environ` has it.  A referenced
  definition is resolved by `substitution_source.resolve_variables()` — `diff_mode` is not passed on —
  so inside references the environment is still consulted and an undefined variable still raises.
  Only the one-step statement is proved here; the fetch-level closed form of `fetchRoot e true` with
  variables is Props/C12Fetch3.lean (`fetch_diff_with_variables`). -/

/-- **diff mode, one variable**: a variable that no earlier definition defines stands for the word
    `"$name"` — the environment is not consulted, nothing is raised -/
theorem diff_mode_keeps_undefined (env : Env) (ref : Str → VarRef) (w : Word) (name : Str)
    (h : ref name = .undefined) : varWords env true ref w name = .ok [wordDq ('$' :: name)] := by
  unfold varWords
  rw [h]
  rfl

/-- … while in non-diff mode the same variable takes the environment's value or raises -/
theorem nondiff_mode_uses_env (env : Env) (ref : Str → VarRef) (w : Word) (name : Str)
    (h : ref name = .undefined) :
    varWords env false ref w name =
      match env name with
      | some v => .ok [wordDq v]
      | none => .error (.runtime "undefined_variable" w.line) := by
  unfold varWords
  rw [h]
  rfl

/-- kernel-checked instances, replayed on Python (`X` unset, then `X=7`):
    `a = $X` in diff mode gives `a = "$X"` with or without `X` in the environment;
    `q = $X ; a = $q` in diff mode raises "Undefined variable: $X (input line 1)" without `X` and gives
    `a = "7"` with it: inside a reference diff mode changes nothing. -/
theorem diff_mode_instances :
    (denote emptyEnv (parsed "a = $X\n") [0] true).toOption.map (fun ws => ws.map (fun w => (String.ofList w.value, w.quote)))
      = some [("$X", some .d1)] ∧
    (denote someEnv (parsed "a = $X\n") [0] true).toOption.map (fun ws => ws.map (fun w => (String.ofList w.value, w.quote)))
      = some [("$X", some .d1)] ∧
    errOf (denote emptyEnv (parsed "q = $X\na = $q\n") [1] true) = some (Err.runtime "undefined_variable" (some 1)) ∧
    (denote someEnv (parsed "q = $X\na = $q\n") [1] true).toOption.map (fun ws => ws.map (fun w => String.ofList w.value))
      = some ["7"] := by
  decide +kernel

end Phil.C12Fetch2

#print axioms Phil.C12Fetch2.parse_fresh
#print axioms Phil.C12Fetch2.parse_scopesNamed
#print axioms Phil.C12Fetch2.parse_definition_ids
#print axioms Phil.C12Fetch2.parse_allDefinitions_ids
#print axioms Phil.C12Fetch2.parsed_docs_wellformed
#print axioms Phil.C12Fetch2.fetch_with_variables_of_texts
#print axioms Phil.C12Fetch2.last_value_wins_of_texts
#print axioms Phil.C12Fetch2.used_exact_of_texts
#print axioms Phil.C12Fetch2.unused_exact_of_text
#print axioms Phil.C12Fetch2.two_texts_share_ids
#print axioms Phil.C12Fetch2.fetch_env_independent
#print axioms Phil.C12Fetch2.fetch_env_independent_of_texts
#print axioms Phil.C12Fetch2.fetch_same_under_two_envs
#print axioms Phil.C12Fetch2.consumed_definitions_resolved
#print axioms Phil.C12Fetch2.treeFetch_congruence
#print axioms Phil.C12Fetch2.closed_needed
#print axioms Phil.C12Fetch2.fetch_tree_multi_vars_total
#print axioms Phil.C12Fetch2.fetch_multi_with_variables_of_texts
#print axioms Phil.C12Fetch2.multiple_list_rule_with_variables
#print axioms Phil.C12Fetch2.multiple_candidate_error_first
#print axioms Phil.C12Fetch2.diff_mode_keeps_undefined
#print axioms Phil.C12Fetch2.nondiff_mode_uses_env
#print axioms Phil.C12Fetch2.diff_mode_instances
