/-
  C16 (continued) — User mistakes surface as RuntimeError or Sorry, never as internal errors: the
  argument interpreter, fetch, extract and format.

  In the model an escaping exception of any other class is `Err.stray cls site`, a loop bound that was
  too small is `Err.outOfFuel`; `Err.unsupported` marks inputs the model declares outside its domain.
  Parser and `from_words` are covered by Phil/Props/C16.lean.  Here:
    1. `processArg_no_stray`      — the argument interpreter, every text, every master;
    2. `asWords_no_stray` (+ `asWords_stray_iff`) — formatting a Python value, with the exact set
       `¬ ShapeOK c v` of ill-typed (converter, value) pairs that raise TypeError/AssertionError;
    3. `fetch_tree_no_stray`, `fetchRoot_tree_no_stray`, `extract_tree_no_stray` — nested masters
       without `.multiple`, arbitrary sources;
    4. `fetchRoot_stray_sites` (and the same for `fetchScope`, `extractObj`, `formatObj`, `philSet`,
       `philJoin`, `extractFormatStr`) — the exhaustive list of the stray sites reachable in general;
    5. kernel-checked instances through the parser, and a smallest input for every listed site.
  Property theorems only; lemmas are in Phil/Proofs/NoStray.lean.
-/
import Phil.Proofs.ExtractTree
import Phil.Proofs.ObjEq
namespace Phil.C16
open Phil

/-! ### 1. the argument interpreter -/

/-- **C16, `argument_interpreter.process_arg`.**  For every argument text, every list of target
    paths with their expert levels (i.e. every master) and every home scope, the interpreter returns
    the parsed objects, refuses with Sorry, fails with RuntimeError, or the text leaves the modelled
    domain.  Never `.stray` (in particular never the `IndexError` of `target_paths[i]`, nor the
    "unreachable" branch of the model), never `.outOfFuel`. -/
theorem processArg_no_stray (home : Option Str) (targets : List Str) (experts : List Int) (arg : Str) :
    (∃ objs, processArg home targets experts arg = .ok objs) ∨
    (∃ kind paths, processArg home targets experts arg = .sorry_ kind paths) ∨
    (∃ s l, processArg home targets experts arg = .runtime (.runtime s l)) ∨
    (∃ w, processArg home targets experts arg = .runtime (.unsupported w)) := by
  have h := processArg_good_ns home targets experts arg
  cases hp : processArg home targets experts arg with
  | ok objs => exact .inl ⟨objs, rfl⟩
  | sorry_ k p => exact .inr (.inl ⟨k, p, rfl⟩)
  | runtime e =>
    rw [hp] at h
    rcases benign_cases_ns h with ⟨s, l, rfl⟩ | ⟨w, rfl⟩
    · exact .inr (.inr (.inl ⟨s, l, rfl⟩))
    · exact .inr (.inr (.inr ⟨w, rfl⟩))

/-- the refusals are of four kinds: the argument does not parse ("arg_syntax"), a path matches no
    parameter ("unknown"), several equally well ("ambiguous"), or the argument defines nothing
    ("no_effect") -/
theorem processArg_sorry_kinds (home : Option Str) (targets : List Str) (experts : List Int) (arg : Str)
    (kind : String) (paths : List Str) (h : processArg home targets experts arg = .sorry_ kind paths) :
    kind ∈ ["arg_syntax", "unknown", "ambiguous", "no_effect"] := by
  have := processArg_good_ns home targets experts arg
  rw [h] at this
  exact this

/-- the index chosen by the selection step always addresses a target path: the `IndexError` branch
    of the model is dead -/
theorem chosen_index_in_range (home : Option Str) (targets : List Str) (experts : List Int) (src : Str)
    (i : Nat) (w : Bool) (h : choosePath home targets experts src = .chosen i w) :
    i < targets.length := by
  obtain ⟨t, ht, _⟩ := choose_sound h
  exact (List.getElem?_eq_some_iff.1 ht).1

/-! ### 2. `as_words`: formatting a Python value -/

/-- the value has the converter's own shape as far as exceptions are concerned: a multi-choice is
    not handed `None`, `int`/`float` are handed `None`, `Auto`, a bool or a number.  (Every other
    pair is answered with a word list, a RuntimeError, or `unsupported`.) -/
def ShapeOK (c : Conv) (v : PVal) : Prop := asWordsStrays_ns c v = false

instance (c : Conv) (v : PVal) : Decidable (ShapeOK c v) :=
  inferInstanceAs (Decidable (asWordsStrays_ns c v = false))

def isNoneV : PVal → Bool
  | .none => true
  | _ => false

def isScalarV : PVal → Bool
  | .none | .auto | .bool _ | .num _ => true
  | _ => false

/-- `ShapeOK` spelled out -/
theorem shapeOK_iff (c : Conv) (v : PVal) :
    ShapeOK c v ↔
      (c = .choice true → isNoneV v = false) ∧
      (∀ a, c = .int a ∨ c = .float a → isScalarV v = true) := by
  unfold ShapeOK
  cases c with
  | choice multi =>
    cases multi <;> cases v <;> simp [asWordsStrays_ns, isNoneV]
  | int a => cases v <;> simp [asWordsStrays_ns, isScalarV]
  | float a => cases v <;> simp [asWordsStrays_ns, isScalarV]
  | _ => cases v <;> simp [asWordsStrays_ns]

/-- **C16, `type.as_words(python_object, master)`.**  On a value of the converter's shape the
    result is a word list, a RuntimeError, or outside the modelled domain — for every `"%.10g"`
    oracle, every `.optional`, every master word list. -/
theorem asWords_no_stray (c : Conv) (fmt : FmtEnv) (opt : AttrVal) (mw : List Word) (v : PVal)
    (h : ShapeOK c v) (e : Err) (he : asWords c fmt opt mw v = .error e) :
    (∃ s l, e = .runtime s l) ∨ (∃ w, e = .unsupported w) :=
  benign_cases_ns ((asWords_benign_ns c fmt opt mw v h).error he)

/-- the form asked for: no `.stray`, and no `.outOfFuel` either -/
theorem asWords_ne_stray (c : Conv) (fmt : FmtEnv) (opt : AttrVal) (mw : List Word) (v : PVal)
    (h : ShapeOK c v) (cls site : String) : asWords c fmt opt mw v ≠ .error (.stray cls site) := by
  intro he
  rcases asWords_no_stray c fmt opt mw v h _ he with ⟨s, l, h1⟩ | ⟨w, h1⟩ <;> cases h1

/-- **the characterisation is exact**: `as_words` strays if and only if the pair is excluded, and
    then with AssertionError (`assert` of the multi-choice) resp. TypeError (`"%d" % value`). -/
theorem asWords_stray_iff (c : Conv) (fmt : FmtEnv) (opt : AttrVal) (mw : List Word) (v : PVal) :
    (∃ cls site, asWords c fmt opt mw v = .error (.stray cls site)) ↔ ¬ ShapeOK c v := by
  constructor
  · rintro ⟨cls, site, h⟩ hs
    exact asWords_ne_stray c fmt opt mw v hs cls site h
  · intro hs
    have := asWords_strays_ns c fmt opt mw v (eq_true_of_ne_false hs)
    cases c <;> exact ⟨_, _, this⟩

/-- which exception: AssertionError for a choice, TypeError for `int`/`float` -/
theorem asWords_stray_class (c : Conv) (fmt : FmtEnv) (opt : AttrVal) (mw : List Word) (v : PVal)
    (h : ¬ ShapeOK c v) :
    asWords c fmt opt mw v =
      .error (match c with
        | .choice _ => .stray "AssertionError" "choice_as_words"
        | _ => .stray "TypeError" "value_as_str") := by
  rw [asWords_strays_ns c fmt opt mw v (eq_true_of_ne_false h)]
  cases c <;> rfl

/-- the excluded pairs really stray (they are TypeErrors/AssertionErrors of the Python code for
    ill-typed Python values — outside the property, which speaks about texts) -/
example : Phil.errOf (asWords (.int {}) (fun _ => none) .none [] (.str "x".toList))
    = some (.stray "TypeError" "value_as_str") := by decide +kernel
example : Phil.errOf (asWords (.float {}) (fun _ => none) .none [] (.list []))
    = some (.stray "TypeError" "value_as_str") := by decide +kernel
example : Phil.errOf (asWords (.int {}) (fun _ => none) .none [] (.record []))
    = some (.stray "TypeError" "value_as_str") := by decide +kernel
example : Phil.errOf (asWords (.choice true) (fun _ => none) .none [{ value := "x".toList }] .none)
    = some (.stray "AssertionError" "choice_as_words") := by decide +kernel
example : ¬ ShapeOK (.int {}) (.str "x".toList) := by decide
example : ¬ ShapeOK (.choice true) .none := by decide
example : ShapeOK (.choice false) .none := by decide
example : ShapeOK (.int {}) (.num (.int 3)) := by decide
/-- a list handed to `str` is outside the model's domain, not a stray -/
example : ShapeOK .str (.list []) ∧
    Phil.errOf (asWords .str (fun _ => none) .none [] (.list []))
      = some (.unsupported "value outside the type's Python domain") := by
  constructor
  · decide
  · decide +kernel

/-! ### 3. nested masters without `.multiple`: fetch and extract never stray -/

/-- **C16, `scope.fetch`, `TreeMaster`.**  With fuel beyond the nesting depth the only failure of
    the fetch of a nested master without `.multiple` against ANY sources (enabled definitions
    resolve, enabled scopes are named) is RuntimeError — in fact "incompatible"
    (`Phil.fetch_tree_total`). -/
theorem fetch_tree_no_stray (e : Envs) (fuel : Nat) (sm : Meta) (mkids srcs : List Obj)
    (hf : TreeMaster mkids) (hfuel : depthL mkids < fuel) (hsd : sm.disabled = false)
    (hsrc : SrcTree srcs) (err : Err) (h : fetchScope e fuel false sm mkids srcs = .error err) :
    err = .runtime "incompatible" none := by
  rw [fetch_tree_total e fuel sm mkids srcs hf hfuel hsd hsrc] at h
  split at h
  · cases h
  · cases h; rfl

/-- the same at the entry point `master.fetch(sources)` (its fuel is adequate for depth ≤ 1000) -/
theorem fetchRoot_tree_no_stray (e : Envs) (master : List Obj) (ss : List (List Obj))
    (hf : TreeMaster master) (hd : depthL master ≤ 1000) (hsrc : SrcTree ss.flatten) (err : Err)
    (h : fetchRoot e false master ss = .error err) : err = .runtime "incompatible" none := by
  rw [fetchRoot_tree e master ss hf hd hsrc] at h
  split at h
  · cases h
  · cases h; rfl

/-- **C16, `scope.extract` of a fetch result, `TreeMaster`.**  If master and sources carry at least
    one word per definition (what the parser delivers: `collectAssigned_nonempty`), extraction of
    the fetch result fails only with the converters' RuntimeErrors (or leaves the modelled domain):
    `__phil_set__`/`__phil_join__` never raise, because sibling names of the result are pairwise
    distinct and nothing is `.multiple`; extraction fuel beyond the depth is never exhausted. -/
theorem extract_tree_no_stray (e : Envs) (fuel xfuel : Nat) (sm : Meta) (mkids srcs : List Obj)
    (hf : TreeMaster mkids) (hfuel : depthL mkids < fuel) (hsd : sm.disabled = false)
    (hsrc : SrcTree srcs) (hw : wordsKidsB_ns mkids = true) (hs : SrcWords_ns srcs)
    (hx : depthL mkids + 1 < xfuel) (ro : Obj) (used : List Nat)
    (h : fetchScope e fuel false sm mkids srcs = .ok (ro, used)) (err : Err)
    (he : extractObj e xfuel ro = .error err) :
    (∃ s l, err = .runtime s l) ∨ (∃ w, err = .unsupported w) :=
  benign_cases_ns
    ((extract_of_fetch_tree_benign_ns e fuel xfuel sm mkids srcs hf hfuel hsd hsrc hw hs hx ro used h).error he)

/-- the closed form: extraction of `treeResult mkids srcs` under any scope meta data -/
theorem extract_treeResult_no_stray (e : Envs) (xfuel : Nat) (m : Meta) (mkids srcs : List Obj)
    (hf : TreeMaster mkids) (hw : wordsKidsB_ns mkids = true) (hs : SrcWords_ns srcs)
    (hx : depthL mkids + 1 < xfuel) (err : Err)
    (he : extractObj e xfuel (.scope m (treeResult mkids srcs)) = .error err) :
    (∃ s l, err = .runtime s l) ∨ (∃ w, err = .unsupported w) :=
  benign_cases_ns ((extract_treeResult_benign_ns e xfuel m mkids srcs hf hw hs hx).error he)

/-- the general reason: `scope.extract` of ANY object whose sibling names are pairwise distinct at
    every depth, without `.multiple`, every definition carrying a word (`XObj_ns`) -/
theorem extract_distinct_no_stray (e : Envs) (fuel : Nat) (o : Obj) (hx : XObj_ns o)
    (hd : depthT o < fuel) (err : Err) (he : extractObj e fuel o = .error err) :
    (∃ s l, err = .runtime s l) ∨ (∃ w, err = .unsupported w) :=
  benign_cases_ns ((extract_xobj_benign_ns e fuel o hx hd).error he)

/-- `master.fetch(sources)` followed by `.extract()`, hypotheses in executable form (for parsed
    instances): no failure other than RuntimeError / outside the domain at either step -/
theorem fetch_extract_checked_no_stray (e : Envs) (master : List Obj) (ss : List (List Obj))
    (hm : treeMasterB master = true) (hd : depthL master ≤ 1000) (hw : wordsKidsB_ns master = true)
    (hs : srcCheck ss.flatten = true) (hsw : srcWordsB_ns ss.flatten = true) :
    (∀ err, fetchRoot e false master ss = .error err → err = .runtime "incompatible" none) ∧
    (∀ ro used, fetchRoot e false master ss = .ok (ro, used) →
      ∀ xfuel, depthL master + 1 < xfuel → ∀ err, extractObj e xfuel ro = .error err →
        (∃ s l, err = .runtime s l) ∨ (∃ w, err = .unsupported w)) := by
  have hf := treeMasterB_sound master hm
  have hsrc := (srcCheck_sound ss.flatten hs).tree
  refine ⟨fun err h => fetchRoot_tree_no_stray e master ss hf hd hsrc err h, ?_⟩
  intro ro used h xfuel hx err he
  exact extract_tree_no_stray e _ xfuel _ master ss.flatten hf (fetchRoot_fuel_tree master hd) rfl hsrc hw
    (srcWordsB_sound_ns _ hsw) hx ro used h err he

/-! ### 4. the stray sites reachable in general -/

/-- the (exception class, site) pairs of the model's `__phil_join__` -/
def philJoinSites : List (String × String) :=
  [("AssertionError", "phil_join"), ("AttributeError", "phil_join")]
/-- … of `__phil_set__` -/
def philSetSites : List (String × String) := ("AttributeError", "phil_set_append") :: philJoinSites
/-- … of `scope.extract` / `definition.extract` -/
def extractSites : List (String × String) := ("AssertionError", "bool_from_words") :: philSetSites
/-- … of `scope.format` / `definition.format` -/
def formatSites : List (String × String) :=
  [("TypeError", "value_as_str"), ("AssertionError", "choice_as_words"),
   ("TypeError", "format_iterate"), ("TypeError", "format_len"), ("AttributeError", "phil_get")]
/-- … of `scope.fetch` (which extracts and formats candidates of `.multiple` objects and, in diff
    mode, of every definition) -/
def fetchSites : List (String × String) :=
  ("AssertionError", "choice_fetch") :: (extractSites ++ formatSites)

example : philJoinSites = philJoinSites_ns ∧ philSetSites = philSetSites_ns ∧
    extractSites = extractSites_ns ∧ formatSites = formatSites_ns ∧ fetchSites = fetchSites_ns :=
  ⟨rfl, rfl, rfl, rfl, rfl⟩

/-- the ten sites, spelled out -/
example : fetchSites =
    [("AssertionError", "choice_fetch"), ("AssertionError", "bool_from_words"),
     ("AttributeError", "phil_set_append"), ("AssertionError", "phil_join"),
     ("AttributeError", "phil_join"), ("TypeError", "value_as_str"),
     ("AssertionError", "choice_as_words"), ("TypeError", "format_iterate"),
     ("TypeError", "format_len"), ("AttributeError", "phil_get")] := rfl

theorem philJoin_stray_sites (fuel : Nat) (self other : List (Str × PVal)) (cls site : String)
    (h : philJoin fuel self other = .error (.stray cls site)) : (cls, site) ∈ philJoinSites :=
  philJoin_strayIn_ns fuel self other _ h

theorem philSet_stray_sites (fs : List (Str × PVal)) (name : Str) (optional : AttrVal) (multiple : Bool)
    (x : XVal) (cls site : String)
    (h : philSet fs name optional multiple x = .error (.stray cls site)) : (cls, site) ∈ philSetSites :=
  philSet_strayIn_ns fs name optional multiple x _ h

/-- **`scope.extract`, any object, any fuel** -/
theorem extractObj_stray_sites (e : Envs) (fuel : Nat) (o : Obj) (cls site : String)
    (h : extractObj e fuel o = .error (.stray cls site)) : (cls, site) ∈ extractSites :=
  extractObj_strayIn_ns e fuel o _ h

/-- **`scope.format`, any object, any Python value, any fuel** -/
theorem formatObj_stray_sites (e : Envs) (fuel : Nat) (o : Obj) (v : PVal) (cls site : String)
    (h : formatObj e fuel o v = .error (.stray cls site)) : (cls, site) ∈ formatSites :=
  formatObj_strayIn_ns e fuel o v _ h

/-- `as_str()` with default options never fails at all -/
theorem showObj_default_total (o : Obj) (merged : List Str) (p : Str) :
    ∃ l, showObj {} o merged p = .ok l := showObj_default_ok_ns o merged p

/-- `master.extract_format(source=candidate).as_str()` -/
theorem extractFormatStr_stray_sites (e : Envs) (fuel : Nat) (master cand : Obj) (cls site : String)
    (h : extractFormatStr e fuel master cand = .error (.stray cls site)) :
    (cls, site) ∈ extractSites ++ formatSites :=
  extractFormatStr_strayIn_ns e fuel master cand _ h

/-- **`scope.fetch`, any fuel, diff or not, any master objects, any sources** -/
theorem fetchScope_stray_sites (e : Envs) (fuel : Nat) (diff : Bool) (sm : Meta)
    (mkids combined : List Obj) (cls site : String)
    (h : fetchScope e fuel diff sm mkids combined = .error (.stray cls site)) :
    (cls, site) ∈ fetchSites :=
  fetchScope_strayIn_ns e fuel diff sm mkids combined _ h

/-- **`master.fetch(sources, diff)` on parsed roots**: every escaping non-RuntimeError of the model
    is one of the ten listed (class, site) pairs — the model-side anchor of the harness's
    completeness-by-correspondence claim. -/
theorem fetchRoot_stray_sites (e : Envs) (diff : Bool) (master : List Obj) (sources : List (List Obj))
    (cls site : String) (h : fetchRoot e diff master sources = .error (.stray cls site)) :
    (cls, site) ∈ fetchSites :=
  fetchRoot_strayIn_ns e diff master sources _ h

/-- fetch, then extract the result -/
theorem fetchRoot_extract_stray_sites (e : Envs) (diff : Bool) (master : List Obj)
    (sources : List (List Obj)) (xfuel : Nat) (cls site : String)
    (h : (match fetchRoot e diff master sources with
          | .error err => (.error err : R PVal)
          | .ok (ro, _) => extractObj e xfuel ro) = .error (.stray cls site)) :
    (cls, site) ∈ fetchSites := by
  split at h
  · rename_i err herr
    cases h
    exact fetchRoot_stray_sites e diff master sources cls site herr
  · have := extractObj_stray_sites e xfuel _ cls site h
    exact List.mem_cons_of_mem _ (List.mem_append_left _ this)

/-! ### 5. instances through the parser -/

def objsX (t : String) : List Obj :=
  match parseObjs t.toList with
  | .ok m => m
  | .error _ => []

def rootX (t : String) : Obj := .scope { name := [], id := some 0 } (objsX t)

/-- error of `master.fetch(source)` -/
def fetchErrX (diff : Bool) (m s : String) : Option Err :=
  Phil.errOf (fetchRoot env12 diff (objsX m) [objsX s])

/-- error of `master.fetch(source).extract()` (`unsupported` if the fetch itself fails) -/
def fetchExtractErrX (m s : String) : Option Err :=
  match fetchRoot env12 false (objsX m) [objsX s] with
  | .error _ => some (.unsupported "fetch failed")
  | .ok (ro, _) => Phil.errOf (extractObj env12 50 ro)

def argKindX (o : ArgOutcome) : String :=
  match o with
  | .ok _ => "ok"
  | .sorry_ k _ => "refusal:" ++ k
  | .runtime (.runtime s _) => "runtime:" ++ s
  | .runtime (.unsupported w) => "unsupported:" ++ w
  | .runtime _ => "OTHER"

/-- a nested master `a (int); s { b (bool); t { c } }` -/
def masterX : List Obj := objsX "a = 1\n.type = int\ns {\n  b = yes\n  .type = bool\n  t {\n    c = None\n  }\n}\n"
def targetsX : List Str := (allDefinitions masterX).map (·.1)
def expertsX : List Int := expertLevels masterX

/-- the objects of a text given by its characters -/
def objsL (l : List Char) : List Obj :=
  match parseObjs l with
  | .ok m => m
  | .error _ => []

/-- For `rw` and the kernel a literal is `String.ofList […]`: rewriting with this avoids UTF-8 decoding. -/
theorem objsX_ofList (l : List Char) : objsX (String.ofList l) = objsL l := by
  unfold objsX
  rw [String.toList_ofList]
  rfl

theorem fetchErrX_ofList (diff : Bool) (m s : List Char) :
    fetchErrX diff (String.ofList m) (String.ofList s) =
      Phil.errOf (fetchRoot env12 diff (objsL m) [objsL s]) := by
  unfold fetchErrX
  rw [objsX_ofList, objsX_ofList]

theorem fetchExtractErrX_ofList (m s : List Char) :
    fetchExtractErrX (String.ofList m) (String.ofList s) =
      match fetchRoot env12 false (objsL m) [objsL s] with
      | .error _ => some (.unsupported "fetch failed")
      | .ok (ro, _) => Phil.errOf (extractObj env12 50 ro) := by
  unfold fetchExtractErrX
  rw [objsX_ofList, objsX_ofList]

section
attribute [local instance] objDecEq

theorem masterX_eq : masterX =
    [
      .defn { name := "a".toList, id := some 1, line := some 1, attrs := [("type", .conv (.int {}))] }
        [{ value := "1".toList, line := some 1 }],
      .scope { name := "s".toList, id := some 2, line := some 3 } [
        .defn { name := "b".toList, id := some 3, line := some 4, attrs := [("type", .conv .bool)] }
          [{ value := "yes".toList, line := some 4 }],
        .scope { name := "t".toList, id := some 4, line := some 6 } [
          .defn { name := "c".toList, id := some 5, line := some 7 }
            [{ value := "None".toList, line := some 7 }]]]] := by
  unfold masterX
  rw [objsX_ofList]
  decide +kernel

end

theorem targetsX_eq : targetsX = ["a".toList, "s.b".toList, "s.t.c".toList] := by
  unfold targetsX
  rw [masterX_eq]
  decide +kernel

theorem expertsX_eq : expertsX = [0, 0, 0] := by
  unfold expertsX
  rw [masterX_eq]
  decide +kernel

/-- the instance satisfies the executable hypotheses of `fetch_extract_checked_no_stray` -/
theorem masterX_hyps : (masterX.length == 2 && treeMasterB masterX && depthL masterX == 2 && wordsKidsB_ns masterX &&
    targetsX.map String.ofList == ["a", "s.b", "s.t.c"]) = true := by
  rw [targetsX_eq, masterX_eq]
  decide +kernel

example : (masterX.length == 2 && treeMasterB masterX && depthL masterX == 2 && wordsKidsB_ns masterX &&
    targetsX.map String.ofList == ["a", "s.b", "s.t.c"]) = true :=
  masterX_hyps

/-- user mistakes in a parameter file against that master: a non-number, a non-bool → RuntimeError
    from the converter at extraction -/
example : fetchExtractErrX "a = 1\n.type = int\ns {\n  b = yes\n  .type = bool\n  t {\n    c = None\n  }\n}\n"
    "a = true\n" = some (.runtime "numeric_expected" (some 1)) := by
  rw [fetchExtractErrX_ofList]
  decide +kernel
example : fetchExtractErrX "a = 1\n.type = int\ns {\n  b = yes\n  .type = bool\n  t {\n    c = None\n  }\n}\n"
    "s.b = maybe\n" = some (.runtime "bool_expected" (some 1)) := by
  rw [fetchExtractErrX_ofList]
  decide +kernel
/-- a scope where the master has a definition, a definition where it has a scope → RuntimeError -/
example : fetchErrX false "a = 1\n.type = int\ns {\n  b = yes\n  .type = bool\n  t {\n    c = None\n  }\n}\n"
    "s.b { x = 1 }\n" = some (.runtime "incompatible" none) := by
  rw [fetchErrX_ofList]
  decide +kernel
example : fetchErrX false "a = 1\n.type = int\ns {\n  b = yes\n  .type = bool\n  t {\n    c = None\n  }\n}\n"
    "s.t = 3\n" = some (.runtime "incompatible" none) := by
  rw [fetchErrX_ofList]
  decide +kernel
/-- a well-formed file goes through both steps -/
example : fetchExtractErrX "a = 1\n.type = int\ns {\n  b = yes\n  .type = bool\n  t {\n    c = None\n  }\n}\n"
    "s { b = no\n t.c = 5 }\na = 2\nzz = 1\n" = none := by
  rw [fetchExtractErrX_ofList]
  decide +kernel

/-- the theorem applied to the parsed instance and a parsed source (all hypotheses discharged by
    kernel evaluation) -/
example (ro : Obj) (used : List Nat)
    (h : fetchRoot env12 false masterX [objsX "s { b = maybe\n t.c = 5 }\na = 2\nzz = 1\n"] = .ok (ro, used))
    (err : Err) (he : extractObj env12 50 ro = .error err) :
    (∃ s l, err = .runtime s l) ∨ (∃ w, err = .unsupported w) := by
  have hfl : ([objsX "s { b = maybe\n t.c = 5 }\na = 2\nzz = 1\n"] : List (List Obj)).flatten
      = objsX "s { b = maybe\n t.c = 5 }\na = 2\nzz = 1\n" := by simp
  have hX := masterX_hyps
  simp only [Bool.and_eq_true, beq_iff_eq] at hX
  exact (fetch_extract_checked_no_stray env12 masterX [objsX "s { b = maybe\n t.c = 5 }\na = 2\nzz = 1\n"]
    hX.1.1.1.2 (by rw [hX.1.1.2]; decide) hX.1.2
    (by rw [hfl, objsX_ofList]; decide +kernel) (by rw [hfl, objsX_ofList]; decide +kernel)).2
    ro used h 50 (by rw [hX.1.1.2]; decide) err he

/-- the argument interpreter on that master: every kind of answer -/
example : argKindX (processArg none targetsX expertsX "c=7".toList) = "ok" := by
  rw [targetsX_eq, expertsX_eq]
  decide +kernel
example : argKindX (processArg none targetsX expertsX "s.b=maybe".toList) = "ok" := by
  rw [targetsX_eq, expertsX_eq]
  decide +kernel
example : argKindX (processArg none targetsX expertsX "q=1".toList) = "refusal:unknown" := by
  rw [targetsX_eq, expertsX_eq]
  decide +kernel
example : argKindX (processArg none targetsX expertsX "s=1".toList) = "refusal:ambiguous" := by
  rw [targetsX_eq, expertsX_eq]
  decide +kernel
example : argKindX (processArg none targetsX expertsX "a=".toList) = "refusal:arg_syntax" := by
  rw [targetsX_eq, expertsX_eq]
  decide +kernel
example : argKindX (processArg none targetsX expertsX "a {".toList) = "refusal:arg_syntax" := by
  rw [targetsX_eq, expertsX_eq]
  decide +kernel
example : argKindX (processArg none targetsX expertsX "a='".toList) = "refusal:arg_syntax" := by
  rw [targetsX_eq, expertsX_eq]
  decide +kernel
example : argKindX (processArg none targetsX expertsX "!a=1".toList) = "refusal:no_effect" := by
  rw [targetsX_eq, expertsX_eq]
  decide +kernel
example : argKindX (processArg none targetsX expertsX "".toList) = "refusal:no_effect" := by
  rw [targetsX_eq, expertsX_eq]
  decide +kernel
example : argKindX (processArg none targetsX expertsX "a=1\n.expert_level=1+1".toList)
    = "unsupported:attribute value needs eval" := by
  rw [targetsX_eq, expertsX_eq]
  decide +kernel
/-- expert levels shorter than the target list (no tie-break possible): still no stray -/
example : argKindX (processArg none targetsX [] "s=1".toList) = "refusal:ambiguous" := by
  rw [targetsX_eq]
  decide +kernel

/-! ### every listed site is reached: a smallest model input for each

  First by a direct call (ill-typed Python values, empty word lists: outside the property) … -/

def defX (n : String) (attrs : Attrs) (ws : List String) : Obj :=
  .defn { name := n.toList, attrs := attrs } (ws.map (fun s => { value := s.toList }))
def scopeX (n : String) (attrs : Attrs) (kids : List Obj) : Obj :=
  .scope { name := n.toList, attrs := attrs } kids

/-- `bool_from_words(words=[])`: `assert len(words) > 0` -/
example : Phil.errOf (extractObj envNone 1 (defX "a" [("type", .conv .bool)] []))
    = some (.stray "AssertionError" "bool_from_words") := by decide +kernel
/-- `__phil_join__`: a `scope_extract_list` joined with something else -/
example : Phil.errOf (philJoin 1 [("k".toList, .multi .none [])] [("k".toList, .none)])
    = some (.stray "AssertionError" "phil_join") := by decide +kernel
/-- `__phil_join__`: a `scope_extract` joined with a value that has no `__dict__` -/
example : Phil.errOf (philJoin 1 [("k".toList, .record [])] [("k".toList, .none)])
    = some (.stray "AttributeError" "phil_join") := by decide +kernel
/-- `__phil_set__(multiple=True)`: `.append` on a `scope_extract` -/
example : Phil.errOf (philSet [("x".toList, .record [])] "x".toList .none true (.val .none))
    = some (.stray "AttributeError" "phil_set_append") := by decide +kernel
/-- `"%d" % "x"` -/
example : Phil.errOf (formatObj envNone 2 (scopeX "" [] [defX "a" [("type", .conv (.int {}))] ["1"]])
      (.record [("a".toList, .str "x".toList)]))
    = some (.stray "TypeError" "value_as_str") := by decide +kernel
/-- multi-choice handed `None` -/
example : Phil.errOf (formatObj envNone 2 (scopeX "" [] [defX "a" [("type", .conv (.choice true))] ["x"]])
      (.record [("a".toList, .none)]))
    = some (.stray "AssertionError" "choice_as_words") := by decide +kernel
/-- `master.format(True)`: `for … in True` -/
example : Phil.errOf (formatObj envNone 2 (scopeX "" [] [defX "a" [] ["1"]]) (.bool true))
    = some (.stray "TypeError" "format_iterate") := by decide +kernel
/-- `len(True)` for a `.multiple` object -/
example : Phil.errOf (formatObj envNone 2 (scopeX "" [] [defX "a" [("multiple", .bool true)] ["1"]])
      (.record [("a".toList, .bool true)]))
    = some (.stray "TypeError" "format_len") := by decide +kernel
/-- `master.format([True])`: `True.__phil_get__` -/
example : Phil.errOf (formatObj envNone 2 (scopeX "" [] [defX "a" [] ["1"]]) (.list [.bool true]))
    = some (.stray "AttributeError" "phil_get") := by decide +kernel
/-- `choice_converters.fetch`: `assert not is_plain_none(master.words)` -/
example : Phil.errOf (fetchValue (defX "a" [("type", .conv (.choice false))] ["None"]) (defX "a" [] ["x"]))
    = some (.stray "AssertionError" "choice_fetch") := by decide +kernel

/-! … then through the parser, where a site is reachable from text at all.  Every one of these
    needs a master that declares one name twice with conflicting kinds or types (or a choice whose
    value is `None`): the parser and `master_active_objects` accept such masters.  With a master
    whose sibling names are distinct the theorems of §3 exclude all of them. -/

/-- a choice definition whose master value is `None`/`Auto`, any source value -/
example : fetchErrX false "a = None\n.type = choice\n" "a = x\n"
    = some (.stray "AssertionError" "choice_fetch") := by
  rw [fetchErrX_ofList]
  decide +kernel
example : fetchErrX false "a = Auto\n.type = choice\n" "a = x\n"
    = some (.stray "AssertionError" "choice_fetch") := by
  rw [fetchErrX_ofList]
  decide +kernel
/-- `a.b` declared as a scope, then as a definition: `parse(text).extract()` and
    `master.fetch().extract()` -/
example : Phil.errOf (extractObj env12 50 (rootX "a { b { c = 1 } }\na { b = 1 }\n"))
    = some (.stray "AttributeError" "phil_join") := by decide +kernel
example : fetchExtractErrX "a { b { c = 1 } }\na { b = 1 }\n" ""
    = some (.stray "AttributeError" "phil_join") := by
  rw [fetchExtractErrX_ofList]
  decide +kernel
/-- the other order is harmless -/
example : Phil.errOf (extractObj env12 50 (rootX "a { b = 1 }\na { b { c = 1 } }\n")) = none := by
  decide +kernel
/-- `a.k` declared `.multiple`, then not -/
example : fetchExtractErrX "a { k\n.multiple = True\n{ x = 1 } }\na { k { x = 1 } }\n" ""
    = some (.stray "AssertionError" "phil_join") := by
  rw [fetchExtractErrX_ofList]
  decide +kernel
/-- `x` declared as a plain scope, then as a `.multiple` scope -/
example : fetchExtractErrX "x { a = 1 }\nx\n.multiple = True\n{ a = 2 }\n" ""
    = some (.stray "AttributeError" "phil_set_append") := by
  rw [fetchExtractErrX_ofList]
  decide +kernel
/-- the same three inside a `.multiple` scope escape from `master.fetch()` itself (the block is
    extracted and formatted for the master key) -/
example : fetchErrX false "m\n.multiple = True\n{\na { b { c = 1 } }\na { b = 1 }\n}\n" ""
    = some (.stray "AttributeError" "phil_join") := by
  rw [fetchErrX_ofList]
  decide +kernel
example : fetchErrX false "m\n.multiple = True\n{\na { k\n.multiple = True\n{ x = 1 } }\na { k { x = 1 } }\n}\n" ""
    = some (.stray "AssertionError" "phil_join") := by
  rw [fetchErrX_ofList]
  decide +kernel
example : fetchErrX false "m\n.multiple = True\n{\nx { a = 1 }\nx\n.multiple = True\n{ a = 2 }\n}\n" ""
    = some (.stray "AttributeError" "phil_set_append") := by
  rw [fetchErrX_ofList]
  decide +kernel
/-- `s.a` declared `int`, then `str`, inside a `.multiple` scope: the later value is formatted with
    the earlier type -/
example : fetchErrX false "m\n.multiple = True\n{\ns { a = 1\n.type = int\n}\ns { a = x\n.type = str\n}\n}\n" ""
    = some (.stray "TypeError" "value_as_str") := by
  rw [fetchErrX_ofList]
  decide +kernel

end Phil.C16
