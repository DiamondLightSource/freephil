/-
  C12, the link to the parser: every document `parseObjs` returns satisfies `DocIds`, hence the
  denotational closed form of variable substitution (Phil/Props/C12Spec.lean) holds UNCONDITIONALLY
  for parsed texts.

  How the parser numbers objects (Phil/Parse.lean, `collectObjects`): one counter `nextId`, starting
  at 1 for the text.  A definition takes the current value when its name is read (also a definition
  named `include`; a disabled `!name` is numbered like any other); a scope takes the current value
  when its name is read, BEFORE its attributes and its objects, which continue from the next value.
  Attributes (`.help = …`, disabled or not) and `#phil __OFF__`/`__ON__`/`__END__` directives do not
  touch the counter.  `scope.adopt` (`adopt`/`wrapDotted`) turns an object named `a.b.c` into nested
  scopes `a { b { c } }` that SHARE the id of the object — therefore ids are only non-decreasing
  among siblings, and a scope's id is `≤` (not `<`) the ids of its objects.

  The invariant (`CollectInv lo n acc pending`, Phil/Proofs/ParseIds.lean) of `collectObjects` with counter
  `n = st.nextId`, objects `acc` adopted so far, active definition `pending`, in a scope whose first
  free id was `lo`:
    * `acc` is in order at every level (`levelOk`, `okList`) and every id in the tree `acc` is
      `some i` with `lo ≤ i < n` (with `lo ≤ i < j`, `n = j + 1`, when a definition with id `j` is pending);
    * `lo ≤ n ≤ lo + sizeList acc (+ 1 for a pending definition)`: every id was spent on an object;
    * the counter never decreases.
  Lemmas: Phil/Proofs/ParseIds.lean.
-/
import Phil.Props.C12Spec
import Phil.Proofs.ParseIds
namespace Phil.C12
open Phil

/-! ### 1. the invariant of `collect_objects` -/

/-- **The invariant is preserved by `collectObjects`** (any fuel, any stop token, any starting
    state): what it returns is in order, numbered inside `[lo, st'.nextId)`, has at least
    `st'.nextId - lo` objects, and the counter has not decreased. -/
theorem collectObjects_inv (fuel : Nat) (st st' : PState) (stop : Option Word) (prev : Nat)
    (acc objs : List Obj) (pending : Option Obj) (lo : Nat)
    (h : collectObjects fuel st stop prev acc pending = .ok (objs, st'))
    (hinv : CollectInv lo st.nextId acc pending) :
    CollectInv lo st'.nextId objs none ∧ st.nextId ≤ st'.nextId :=
  (collectObjects_collects h).inv_pid lo hinv

/-- `scope.adopt` of an object numbered `j`: the chain of scopes built for a dotted name carries the
    id `j` at every link, has dot-free names, is in order, and is not smaller than the object -/
theorem wrapDotted_good (lo hi j : Nat) (o : Obj) (hid : o.meta.id = some j) (hok : okObj o = true)
    (hr : inRngObj lo hi o = true) :
    ((wrapDotted o).meta.id = some j ∧ '.' ∉ (wrapDotted o).name ∧ okObj (wrapDotted o) = true ∧
      inRngObj lo hi (wrapDotted o) = true) ∧ sizeObj o ≤ sizeObj (wrapDotted o) :=
  wrapDotted_good_pid o hid hok hr

/-! ### 2. parsed documents are well formed -/

/-- the ids of a parsed document: all present, between 1 and the final value `n` of the counter
    (exclusive), which is at most one more than the number of objects -/
theorem parse_ids_in_range (text : Str) (root : List Obj) (h : parseObjs text = .ok root) :
    ∃ n, inRngList 1 n root = true ∧ 1 ≤ n ∧ n ≤ 1 + sizeList root := by
  obtain ⟨n, ⟨_, _, h3⟩, hlo, hsz⟩ := parseObjs_inv_pid text root h
  exact ⟨n, h3, hlo, hsz⟩

/-- **Every parsed document satisfies `DocIds`.** -/
theorem parse_docIds (text : Str) (root : List Obj) (h : parseObjs text = .ok root) : DocIds root :=
  parse_docIds_pid text root h

/-- the same for the root scope `freephil.parse` returns (id 0, empty name) -/
theorem parse_root_docIds (text : Str) (r : Obj) (h : parse text = .ok r) : DocIds [r] := by
  unfold parse at h
  cases hp : parseObjs text with
  | error e => simp [hp, Except.map] at h
  | ok root =>
    simp only [hp, Except.map, Except.ok.injEq] at h
    subst h
    obtain ⟨n, hk⟩ := parseObjs_inv_pid text root hp
    have hs := CollectInv.scope_pid (acc := []) { name := [], id := some 0 } (CollectInv.nil_pid 0) hk rfl
    have hw : adopt [] (.scope { name := [], id := some 0 } root) = [.scope { name := [], id := some 0 } root] := by
      simp [adopt, wrapDotted, splitOn, Obj.name, Obj.meta]
    rw [hw] at hs
    obtain ⟨⟨h1, h2, h3⟩, _, hsz⟩ := hs
    refine ⟨⟨h1, h2⟩, inRngList_idsLe_pid _ (inRngList_mono_pid (Nat.le_refl 0) ?_ _ h3)⟩
    omega

/-! ### 3. the closed form of `$variable` substitution, unconditionally for parsed texts -/

/-- **C12 for parsed texts.**  For every text the parser accepts, every tree position and both
    modes, `resolveAt` (the model of `definition.resolve_variables`) equals the specification `denote`. -/
theorem resolveAt_eq_denote_parsed (env : Env) (text : Str) (root : List Obj)
    (h : parseObjs text = .ok root) (pos : List Nat) (diff : Bool) :
    resolveAt env root pos diff = denote env root pos diff :=
  resolveAt_eq_denote env root (parse_docIds text root h) pos diff

/-- the form of the task statement (`diff_mode = False`) -/
theorem resolveAt_eq_denote_parsed_fetch (env : Env) (text : Str) (root : List Obj)
    (h : parseObjs text = .ok root) (pos : List Nat) :
    resolveAt env root pos false = denote env root pos :=
  resolveAt_eq_denote_parsed env text root h pos false

/-! ### 4. kernel-checked instances (`decide +kernel`) -/

/-- nested scopes: a scope is numbered before its objects -/
def textNest : String := "a = 1\nb {\n c = 2\n d { e = 3 }\n f = $c\n}\ng = 4\n"
attribute [local instance] objDecEq in
theorem parsed_textNest : parsed textNest =
    [ .defn { name := "a".toList, id := some 1, line := some 1 } [wl "1" 1],
      .scope { name := "b".toList, id := some 2, line := some 2 } [
        .defn { name := "c".toList, id := some 3, line := some 3 } [wl "2" 3],
        .scope { name := "d".toList, id := some 4, line := some 4 } [
          .defn { name := "e".toList, id := some 5, line := some 4 } [wl "3" 4] ],
        .defn { name := "f".toList, id := some 6, line := some 5 } [wl "$c" 5] ],
      .defn { name := "g".toList, id := some 7, line := some 7 } [wl "4" 7] ] := by
  unfold textNest
  rw [parsed_ofList]
  decide +kernel
example : parseObjs textNest.toList = .ok (parsed textNest) := parsed_ok_of_cons _ _ _ parsed_textNest
example : DocIds (parsed textNest) := by
  rw [parsed_textNest]
  decide +kernel
example : (parsed textNest).map (·.meta.id) = [some 1, some 2, some 7] := by
  rw [parsed_textNest]
  decide +kernel
example : sizeList (parsed textNest) = 7 := by
  rw [parsed_textNest]
  decide +kernel
/-- by the theorem, without evaluating `DocIds` -/
example : DocIds (parsed textNest) := parse_docIds _ _ (parsed_ok_of_cons _ _ _ parsed_textNest)

/-- dotted names of definitions and scopes: the wrapping scopes share the id -/
def textDots : String := "a.b.c = 1\nx.y {\n z = 1\n w.v = 2\n}\nq = 3\n"
attribute [local instance] objDecEq in
theorem parsed_textDots : parsed textDots =
    [ .scope { name := "a".toList, id := some 1 } [
        .scope { name := "b".toList, id := some 1, mergeNames := true } [
          .defn { name := "c".toList, id := some 1, line := some 1, mergeNames := true } [wl "1" 1] ] ],
      .scope { name := "x".toList, id := some 2 } [
        .scope { name := "y".toList, id := some 2, line := some 2, mergeNames := true } [
          .defn { name := "z".toList, id := some 3, line := some 3 } [wl "1" 3],
          .scope { name := "w".toList, id := some 4 } [
            .defn { name := "v".toList, id := some 4, line := some 4, mergeNames := true } [wl "2" 4] ] ] ],
      .defn { name := "q".toList, id := some 5, line := some 6 } [wl "3" 6] ] := by
  unfold textDots
  rw [parsed_ofList]
  decide +kernel
example : parseObjs textDots.toList = .ok (parsed textDots) := parsed_ok_of_cons _ _ _ parsed_textDots
example : DocIds (parsed textDots) := by
  rw [parsed_textDots]
  decide +kernel
example : (parsed textDots).map (·.meta.id) = [some 1, some 2, some 5] := by
  rw [parsed_textDots]
  decide +kernel
example : idAt (parsed textDots) [0] = some 1 ∧ idAt (parsed textDots) [0, 0] = some 1 ∧
    idAt (parsed textDots) [0, 0, 0] = some 1 ∧ idAt (parsed textDots) [1, 0] = some 2 ∧
    idAt (parsed textDots) [1, 0, 0] = some 3 ∧ idAt (parsed textDots) [1, 0, 1] = some 4 ∧
    idAt (parsed textDots) [1, 0, 1, 0] = some 4 := by
  rw [parsed_textDots]
  decide +kernel
/-- 5 ids, 9 objects -/
example : sizeList (parsed textDots) = 9 := by
  rw [parsed_textDots]
  decide +kernel

/-- disabled objects are numbered like the others -/
def textBang : String := "!a = 1\n!b {\n c = 1\n}\nd = 2\n"
attribute [local instance] objDecEq in
theorem parsed_textBang : parsed textBang =
    [ .defn { name := "a".toList, id := some 1, disabled := true, line := some 1 } [wl "1" 1],
      .scope { name := "b".toList, id := some 2, disabled := true, line := some 2 } [
        .defn { name := "c".toList, id := some 3, line := some 3 } [wl "1" 3] ],
      .defn { name := "d".toList, id := some 4, line := some 5 } [wl "2" 5] ] := by
  unfold textBang
  rw [parsed_ofList]
  decide +kernel
example : parseObjs textBang.toList = .ok (parsed textBang) := parsed_ok_of_cons _ _ _ parsed_textBang
example : DocIds (parsed textBang) := by
  rw [parsed_textBang]
  decide +kernel
example : idAt (parsed textBang) [0] = some 1 ∧ idAt (parsed textBang) [1] = some 2 ∧
    idAt (parsed textBang) [1, 0] = some 3 ∧ idAt (parsed textBang) [2] = some 4 := by
  rw [parsed_textBang]
  decide +kernel

/-- attributes (of definitions and scopes, enabled and disabled), `include`, `#phil` directives:
    no id is spent on them -/
def textAttrs : String :=
  "a = 1\n .help = foo\n !.type = int\ns .help = x\n !.expert_level = 1 {\n y = 1\n}\ninclude = f\n#phil __OFF__\nz = 0\n#phil __ON__\nt = 2\n"
attribute [local instance] objDecEq in
theorem parsed_textAttrs : parsed textAttrs =
    [ .defn { name := "a".toList, id := some 1, line := some 1, attrs := [("help", .str "foo".toList)] }
        [wl "1" 1],
      .scope { name := "s".toList, id := some 2, line := some 4, attrs := [("help", .str "x".toList)] } [
        .defn { name := "y".toList, id := some 3, line := some 6 } [wl "1" 6] ],
      .defn { name := "include".toList, id := some 4, line := some 8 } [wl "=" 8, wl "f" 8],
      .defn { name := "t".toList, id := some 5, line := some 12 } [wl "2" 12] ] := by
  unfold textAttrs
  rw [parsed_ofList]
  decide +kernel
example : parseObjs textAttrs.toList = .ok (parsed textAttrs) := parsed_ok_of_cons _ _ _ parsed_textAttrs
example : DocIds (parsed textAttrs) := by
  rw [parsed_textAttrs]
  decide +kernel
example : idAt (parsed textAttrs) [0] = some 1 ∧ idAt (parsed textAttrs) [1] = some 2 ∧
    idAt (parsed textAttrs) [1, 0] = some 3 ∧ idAt (parsed textAttrs) [2] = some 4 ∧
    idAt (parsed textAttrs) [3] = some 5 ∧ (parsed textAttrs).length = 4 := by
  rw [parsed_textAttrs]
  decide +kernel
/-- the corollary applied: no `DocIds` side condition is left -/
example (env : Env) (pos : List Nat) (diff : Bool) :
    resolveAt env (parsed textAttrs) pos diff = denote env (parsed textAttrs) pos diff :=
  resolveAt_eq_denote_parsed env _ _ (parsed_ok_of_cons _ _ _ parsed_textAttrs) pos diff

/-- hand-made trees the parser cannot produce: a scope numbered after one of its objects; a name with
    a '.'; an id larger than the number of objects -/
example : ¬ DocIds [.scope { name := "s".toList, id := some 2 } [.defn { name := "a".toList, id := some 1 } []]] := by
  decide +kernel
example : ¬ DocIds [.defn { name := "a.b".toList, id := some 1 } []] := by decide +kernel
example : ¬ DocIds [.defn { name := "a".toList, id := some 1 } [], .defn { name := "b".toList, id := some 3 } []] := by
  decide +kernel
/-- … while equal ids of a scope and its only object (a dotted name) are accepted -/
example : DocIds [.scope { name := "a".toList, id := some 1 } [.defn { name := "b".toList, id := some 1 } []]] := by
  decide +kernel

end Phil.C12

#print axioms Phil.C12.collectObjects_inv
#print axioms Phil.C12.wrapDotted_good
#print axioms Phil.C12.parse_ids_in_range
#print axioms Phil.C12.parse_docIds
#print axioms Phil.C12.parse_root_docIds
#print axioms Phil.C12.resolveAt_eq_denote_parsed
#print axioms Phil.C12.resolveAt_eq_denote_parsed_fetch
