/-
  C15 (closed form for nested documents) — every scope and every definition reports the 1-based source
  line on which its name actually stands.  Setting: a nested document under an arbitrary well-formed
  nested layout (Phil/Props/C02Nested.lean for the vocabulary: `LayItem`, `renderN`, `wfDocN`),
  dotted names included.

  As in the flat case (Phil/Props/C15Layout.lean) the statement is not circular: the recorded line of
  an object is compared with `1 + (number of newlines in the text in front of its name)`, where "the
  text in front of its name" is an explicit function of the items and their layouts
  (`layNamePos xs []`, by recursion on the layout tree, no reference to the parser), and
  `namePos_is_prefix` shows that every such text, followed by the name as written, really is a prefix
  of the rendered document.  An entry of `layNamePos` is `(name, pos)` with
    * `pos = some (before, written)` — `before` the text in front of the name (a `!` included),
      `written` the name as it stands in the text (the dotted name for a dotted item: the innermost
      object of `a.b.c = 1` is named `c` and stands where `a.b.c` begins);
    * `pos = none` — a scope `scope.adopt` builds for a leading component of a dotted name: it has no
      source position (`where_str` is empty), its recorded line is `none`.
  The lines of the words of every definition are part of the closed form `layLined` (`linedWords`, as
  in the flat case: `1 +` the newlines in front of the word).

  Property theorems only; lemmas are in Phil/Proofs/Layout2.lean.
-/
import Phil.Props.C02Nested
namespace Phil.C15
open Phil

attribute [local instance] Phil.C01.objDecEqInst Phil.C01.exceptDecEqRT

/-- the parse result in one equation: `layLined xs [] 1`, the tree in which every line — of scopes,
    definitions and words — is computed from the text in front (see `LayItem.lined`, `linedWords`) -/
theorem nested_lines_closed_form (xs : List LayItem) (post : Pre) (h : wfDocN xs post = true) :
    parseObjs (renderN xs post) = .ok (layLined xs [] 1) := by
  rw [← renderAll_toAll, parseObjs_renderAll_lined _ _ _ (wfDocAll_toAll h), toAll_lined_all.2]

/-- every position `(before, written)` listed in `layNamePos xs []` is a position of that name in the
    text: `before` is the part of the text that ends exactly where `written` begins -/
theorem namePos_is_prefix (xs : List LayItem) (post : Pre) (n before written : Str)
    (hpn : (n, some (before, written)) ∈ layNamePos xs []) :
    ∃ tail, renderN xs post = before ++ (written ++ tail) := by
  obtain ⟨tail, ht⟩ := layNamePos_prefix_l2 xs [] n before written hpn
  refine ⟨tail ++ post.text, ?_⟩
  rw [renderN]
  rw [List.nil_append] at ht
  rw [ht]
  simp

/-- **C15, nested documents.**  For every well-formed nested layout `parse` succeeds, and the list of
    (name, source line) of all objects of the tree in document order (a scope before its children) is
    the list of (name, `1 +` number of newlines in the text in front of that name — `NamePos.line`)
    of all scopes and definitions of the document (`none` for the position-less scopes built for the
    leading components of a dotted name); every listed text is a prefix of the document that ends
    where the name begins.  Multi-line quoted words, blank lines, comment lines, `name` and `{` on
    different lines, several items and `}` on one line are all covered by the layout language. -/
theorem nested_lines_correct (xs : List LayItem) (post : Pre) (h : wfDocN xs post = true) :
    ∃ objs, parseObjs (renderN xs post) = .ok objs ∧
      nameLinesList objs = (layNamePos xs []).map (fun e => (e.1, e.2.line)) ∧
      ∀ n before written, (n, some (before, written)) ∈ layNamePos xs [] →
        ∃ tail, renderN xs post = before ++ (written ++ tail) :=
  ⟨layLined xs [] 1, nested_lines_closed_form xs post h, linedList_nameLines_l2 xs [] 1,
    fun n before written hpn => namePos_is_prefix xs post n before written hpn⟩

/-! ### non-vacuity: the wild layout of C02Nested -/

open Phil.C02 in
/-- the positions of the eight names of the wild layout: lines 2, 4, 6, 7, 7, 7, 9, 11 -/
example : (layNamePos (exWildN true true false) []).map (fun e => (String.ofList e.1, e.2.line))
    = [("x", some 2), ("a", some 4), ("y", some 6), ("e", some 7), ("z", some 7), ("f", some 7),
       ("g", some 9), ("w", some 11)] := by
  decide +kernel

open Phil.C02 in
/-- … and with `f.g = 4` spelt dotted: the scope `f` built by `scope.adopt` has no line, `g` is on
    line 8 -/
example : (layNamePos (exWildN true true true) []).map (fun e => (String.ofList e.1, e.2.line))
    = [("x", some 2), ("a", some 4), ("y", some 6), ("e", some 7), ("z", some 7), ("f", none),
       ("g", some 8), ("w", some 9)] := by
  decide +kernel

open Phil.C02 in
/-- the text in front of `z` (third item of the scope `a`) -/
example : ((layNamePos (exWildN true true false) [])[4]?).map (fun e => e.2)
    = some (some ("# head\nx = 1\n\n !a # c\n\t{ #in\n  !y=2 \"p\nq\"; e{ } ".toList, ['z'])) := by
  repeat rw [String.toList_ofList]
  decide +kernel

open Phil.C02 in
/-- through the theorem: names and lines of the wild layout (the Python library reports the same) -/
example : ∃ objs, parseObjs (renderN (exWildN true true false) { ind := [' '] }) = .ok objs ∧
    nameLinesList objs = [(['x'], some 2), (['a'], some 4), (['y'], some 6), (['e'], some 7),
      (['z'], some 7), (['f'], some 7), (['g'], some 9), (['w'], some 11)] := by
  obtain ⟨objs, p, hl, _⟩ := nested_lines_correct (exWildN true true false) { ind := [' '] }
    (exWildN_wf true true false)
  exact ⟨objs, p, by rw [hl]; decide +kernel⟩

#print axioms nested_lines_closed_form
#print axioms namePos_is_prefix
#print axioms nested_lines_correct

end Phil.C15
