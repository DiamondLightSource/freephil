/-
  C12 — "$variables resolve lexically, backwards only, and never inside single quotes: text in single
  quotes and text without '$' is passed through untouched; a word that is exactly one unquoted
  variable takes over the referenced words as they are, any other mixture becomes one double-quoted
  string; definitions appearing later in the file, and the environment when an earlier definition
  exists, never influence the result; resolution always terminates."

  The lemmas and the auxiliary definitions (`vis`, `visiblePrefix`, `pruneBeforeObj`,
  `pruneBeforeList`) are in Phil/Proofs/VarsLemmas.lean, those about whole words (one round of
  `resolveWords` is `mapM substWord`, `resolveWords_succ_nf`) in Phil/Proofs/VarsSpec.lean.  All statements hold for all
  inputs (every environment, every object tree — also trees no parser produces —, every fuel).

  Model: Phil/Vars.lean with `resolveWords` calling
  `lexicalGet (2 * name.length + chain.length + 1) chain name id true` (lookup fuel independent of the
  resolution fuel; adequacy is `lexicalGet_fuel_adequate` below).
-/
import Phil.Proofs.VarsSpec
import Phil.Props.EvalCheck
namespace Phil.C12
open Phil

/-! ### 1. text without '$' has no variables -/

/-- A value without '$' is one literal fragment (none for the empty value) and has no variables. -/
theorem no_dollar_no_vars (value : Str) (h : '$' ∉ value) :
    fragments value = .ok (if value.isEmpty then [] else [.lit value], false) :=
  Phil.no_dollar_no_vars value h

/-! ### 2. single-quoted text and text without '$' pass through untouched -/

/-- If every word is single-quoted or free of '$', resolution returns the words unchanged — for every
    environment, enclosing chain, primary id and `diff` mode. -/
theorem untouched (env : Env) (fuel : Nat) (chain : Chain) (id : Nat) (words : List Word)
    (diff : Bool) (h : ∀ w ∈ words, w.quote = some .s1 ∨ '$' ∉ w.value) :
    resolveWords env (fuel + 1) chain id words diff = .ok words :=
  Phil.untouched env fuel chain id words diff h

/-! ### 3. a mixture becomes one double-quoted word, a sole variable keeps the referenced words -/

/-- A word with variables that is quoted (not single-quoted: those are covered by `untouched`) or has
    more than one fragment resolves, when it resolves, to exactly one double-quoted word. -/
theorem mixture_is_one_dq_word (env : Env) (fuel : Nat) (chain : Chain) (id : Nat) (diff : Bool)
    (w : Word) (frags : List Fragment) (r : List Word) (hq : w.quote ≠ some .s1)
    (hf : fragments w.value = .ok (frags, true))
    (hmix : w.quote.isSome ∨ frags.length > 1)
    (hr : resolveWords env (fuel + 1) chain id [w] diff = .ok r) :
    ∃ s, r = [{ value := s, quote := some .d1 }] := by
  rw [resolveWords_single_nf, substWord_forced_vs env diff _ w frags hq hf hmix] at hr
  cases hm : frags.mapM (fragText env diff (opRef env fuel chain id) w) with
  | error e => rw [hm] at hr; cases hr
  | ok texts => rw [hm] at hr; cases hr; exact ⟨_, rfl⟩

/-- An unquoted word that is exactly one variable takes over the resolved words of the referenced
    definition as they are (number of words, quotes and line numbers included). -/
theorem sole_variable_keeps_words (env : Env) (fuel : Nat) (chain : Chain) (id : Nat) (diff : Bool)
    (w : Word) (name : Str) (m : Meta) (ws vws : List Word) (ch : Chain) (sid : Nat)
    (hq : w.quote = none) (hf : fragments w.value = .ok ([.var name], true))
    (hl : lexicalGet (2 * name.length + chain.length + 1) chain name id true = some (.defn m ws, ch))
    (hid : m.id = some sid)
    (hv : resolveWords env fuel ch sid ws false = .ok vws) :
    resolveWords env (fuel + 1) chain id [w] diff = .ok vws := by
  rw [resolveWords_single_nf, substWord_sole_vs env diff _ w name hq hf]
  simp only [varWords, opRef, hl, refOfLookup, hid, hv]

/-- `$name` with a simple identifier is exactly one variable fragment. -/
theorem dollar_ident_is_one_variable (name : Str) (h : isSimpleIdent name = true) :
    fragments ('$' :: name) = .ok ([.var name], true) := by
  cases name with
  | nil => simp [isSimpleIdent] at h
  | cons d rest =>
    simp only [isSimpleIdent, Bool.and_eq_true] at h
    unfold fragments
    simp only [List.length_cons]
    rw [fragmentsAux_dollar_ident _ _ _ h.1 h.2]
    rfl

/-! ### 4. backwards only; later definitions never influence the result -/

/-- **Backwards only.**  Whatever a lookup finds has an id strictly smaller than the id of the
    definition being resolved. -/
theorem backwards_only (fuel : Nat) (c : Chain) (path : Str) (stopId : Nat) (up : Bool)
    (o : Obj) (ch : Chain) (i : Nat) (h : lexicalGet fuel c path stopId up = some (o, ch))
    (hi : o.meta.id = some i) : i < stopId :=
  Phil.lexicalGet_id_lt fuel c path stopId up o ch i h hi

/-- **Frame property of lookup (shallow).**  Two chains with the same number of levels whose levels
    agree on the visible prefix (`visiblePrefix stopId`: the objects before the first one with id
    ≥ `stopId`) find the same object, in enclosing chains that again agree on visible prefixes.
    `c1.map (visiblePrefix stopId) = c2.map (visiblePrefix stopId)` says exactly "same length and
    level-wise equal visible prefixes".  No side condition is needed: the nested descent
    `o.children :: objs :: outer` and the re-rooting by a leading '.' both preserve the relation. -/
theorem lexicalGet_frame (fuel : Nat) (c1 c2 : Chain) (path : Str) (stopId : Nat) (up : Bool)
    (h : c1.map (visiblePrefix stopId) = c2.map (visiblePrefix stopId)) :
    (lexicalGet fuel c1 path stopId up).map (fun r => (r.1, r.2.map (visiblePrefix stopId)))
      = (lexicalGet fuel c2 path stopId up).map (fun r => (r.1, r.2.map (visiblePrefix stopId))) :=
  Phil.lexicalGet_frame fuel c1 c2 path stopId up h

/-- the object found is the same -/
theorem lexicalGet_frame_obj (fuel : Nat) (c1 c2 : Chain) (path : Str) (stopId : Nat) (up : Bool)
    (h : c1.map (visiblePrefix stopId) = c2.map (visiblePrefix stopId)) :
    (lexicalGet fuel c1 path stopId up).map (·.1) = (lexicalGet fuel c2 path stopId up).map (·.1) := by
  have := congrArg (Option.map (·.1)) (lexicalGet_frame fuel c1 c2 path stopId up h)
  simpa [Option.map_map, Function.comp_def] using this

/-- **Frame property of lookup (deep).**  The shallow form cannot be applied when a later definition
    sits inside an *enclosing* scope, because that scope is itself a (visible) object of the next
    level.  `pruneBeforeList stopId` cuts every level at the first object with id ≥ `stopId`, recursively in
    all scopes that remain.  Chains that agree after pruning find the same object up to pruning. -/
theorem lexicalGet_frame_deep (fuel : Nat) (c1 c2 : Chain) (path : Str) (stopId : Nat) (up : Bool)
    (h : c1.map (pruneBeforeList stopId) = c2.map (pruneBeforeList stopId)) :
    (lexicalGet fuel c1 path stopId up).map (fun r => (pruneBeforeObj stopId r.1, r.2.map (pruneBeforeList stopId)))
      = (lexicalGet fuel c2 path stopId up).map (fun r => (pruneBeforeObj stopId r.1, r.2.map (pruneBeforeList stopId))) :=
  Phil.lexicalGet_frame_deep fuel c1 c2 path stopId up h

/-- **Later objects are irrelevant to lookup** (append form).  Appending to every level `k` of the
    chain arbitrary objects `extras[k]`, all with ids ≥ `stopId`, does not change the object found. -/
theorem later_irrelevant (fuel : Nat) (c : Chain) (extras : List (List Obj)) (path : Str)
    (stopId : Nat) (up : Bool) (hlen : extras.length = c.length)
    (hx : ∀ e ∈ extras, ∀ o ∈ e, vis stopId o = false) :
    (lexicalGet fuel (List.zipWith (· ++ ·) c extras) path stopId up).map (·.1)
      = (lexicalGet fuel c path stopId up).map (·.1) := by
  apply lexicalGet_frame_obj
  rw [zipWith_append_later (visiblePrefix_append_later stopId) c extras hx, hlen, List.take_length]

/-- **Later definitions never influence the result.**  If two enclosing chains agree after cutting —
    at every level and at every depth — everything from the first object with id ≥ `id` onwards, the
    definition with primary id `id` resolves to the same words or the same error in both, for every
    environment and fuel.  (The whole transitive resolution is covered: referenced definitions have
    smaller ids, and pruning at a smaller id sees even less.) -/
theorem later_definitions_irrelevant (env : Env) (fuel : Nat) (c1 c2 : Chain) (id : Nat)
    (ws : List Word) (diff : Bool) (h : c1.map (pruneBeforeList id) = c2.map (pruneBeforeList id)) :
    resolveWords env fuel c1 id ws diff = resolveWords env fuel c2 id ws diff :=
  Phil.resolveWords_frame env fuel fuel c1 c2 id ws diff rfl h

/-- append form of `later_definitions_irrelevant` -/
theorem later_definitions_irrelevant_append (env : Env) (fuel : Nat) (c : Chain)
    (extras : List (List Obj)) (id : Nat) (ws : List Word) (diff : Bool)
    (hlen : extras.length = c.length) (hx : ∀ e ∈ extras, ∀ o ∈ e, vis id o = false) :
    resolveWords env fuel (List.zipWith (· ++ ·) c extras) id ws diff
      = resolveWords env fuel c id ws diff := by
  apply resolveWords_frame env fuel fuel _ _ id ws diff rfl
  rw [zipWith_append_later (pruneList_append_later id) c extras hx, hlen, List.take_length]

/-- Document level: the same definition (same words, same id) at the same index path in two
    documents whose enclosing chains agree after pruning.  A successful resolution in the smaller
    document is the resolution in the larger one. -/
theorem resolveAt_later_irrelevant (env : Env) (root1 root2 : List Obj) (p : List Nat) (diff : Bool)
    (m : Meta) (ws : List Word) (c1 c2 : Chain) (id : Nat) (r : List Word)
    (h1 : chainAt root1 p [] = some (.defn m ws, c1))
    (h2 : chainAt root2 p [] = some (.defn m ws, c2))
    (hid : m.id = some id)
    (hc : c1.map (pruneBeforeList id) = c2.map (pruneBeforeList id))
    (hle : countObjs root1 ≤ countObjs root2)
    (hr : resolveAt env root1 p diff = .ok r) :
    resolveAt env root2 p diff = .ok r := by
  unfold resolveAt at hr ⊢
  simp only [h1, h2, hid] at hr ⊢
  rw [← Phil.resolveWords_frame env _ _ c1 c2 id ws diff rfl hc]
  exact Phil.resolveWords_mono env env (fun _ _ h => h) _ _ c1 id ws diff (by omega) r hr

/-! ### 5. the environment is only a fallback -/

/-- One unquoted `$name`: when an earlier definition is found, the environment does not matter at
    this word (it can act only through the referenced definition's own resolution). -/
theorem env_only_fallback (env1 env2 : Env) (fuel : Nat) (chain : Chain) (id : Nat)
    (w : Word) (name : Str) (m : Meta) (ws : List Word) (ch : Chain) (sid : Nat) (r : List Word)
    (hq : w.quote = none) (hv : w.value = '$' :: name) (hn : isSimpleIdent name = true)
    (h1 : resolveWords env1 (fuel + 1) chain id [w] false = .ok r)
    (hl : lexicalGet (2 * name.length + chain.length + 1) chain name id true = some (.defn m ws, ch))
    (hid : m.id = some sid)
    (hnested : resolveWords env1 fuel ch sid ws false = resolveWords env2 fuel ch sid ws false) :
    resolveWords env2 (fuel + 1) chain id [w] false = .ok r := by
  have hf : fragments w.value = .ok ([.var name], true) := hv ▸ dollar_ident_is_one_variable name hn
  rw [resolveWords_single_nf, substWord_sole_vs _ _ _ w name hq hf] at h1 ⊢
  simp only [varWords, opRef, hl, refOfLookup, hid] at h1 ⊢
  rw [← hnested]
  exact h1

/-- Global form: if the words resolve with the *empty* environment (every variable, transitively,
    is found lexically), they resolve to the same result in every environment. -/
theorem env_irrelevant_when_closed (env : Env) (fuel : Nat) (chain : Chain) (id : Nat)
    (ws : List Word) (diff : Bool) (r : List Word)
    (h : resolveWords (fun _ => none) fuel chain id ws diff = .ok r) :
    resolveWords env fuel chain id ws diff = .ok r :=
  Phil.resolveWords_mono (fun _ => none) env (fun _ _ h => by cases h) fuel fuel chain id ws diff
    (Nat.le_refl _) r h

/-- Adding variables to the environment never changes a successful resolution. -/
theorem env_monotone (env1 env2 : Env) (henv : ∀ name v, env1 name = some v → env2 name = some v)
    (fuel : Nat) (chain : Chain) (id : Nat) (ws : List Word) (diff : Bool) (r : List Word)
    (h : resolveWords env1 fuel chain id ws diff = .ok r) :
    resolveWords env2 fuel chain id ws diff = .ok r :=
  Phil.resolveWords_mono env1 env2 henv fuel fuel chain id ws diff (Nat.le_refl _) r h

/-! ### 6. termination / fuel -/

/-- Results are stable once enough fuel is given. -/
theorem resolveWords_mono_fuel (env : Env) (f f' : Nat) (chain : Chain) (id : Nat) (ws : List Word)
    (diff : Bool) (r : List Word) (hle : f ≤ f')
    (h : resolveWords env f chain id ws diff = .ok r) :
    resolveWords env f' chain id ws diff = .ok r :=
  resolveWords_mono env env (fun _ _ h => h) f f' chain id ws diff hle r h

/-- Every reference goes to a strictly smaller id, so fuel `id + 1` is enough: resolution never
    reports `outOfFuel` … -/
theorem terminates (env : Env) (f : Nat) (chain : Chain) (id : Nat) (ws : List Word) (diff : Bool)
    (h : id < f) : resolveWords env f chain id ws diff ≠ .error .outOfFuel :=
  Phil.resolveWords_not_outOfFuel env f chain id ws diff h

/-- … and beyond that the fuel does not matter at all (errors included). -/
theorem fuel_irrelevant (env : Env) (f f' : Nat) (chain : Chain) (id : Nat) (ws : List Word)
    (diff : Bool) (h : id < f) (h' : id < f') :
    resolveWords env f chain id ws diff = resolveWords env f' chain id ws diff :=
  Phil.resolveWords_frame env f f' chain chain id ws diff (by omega) rfl

/-- **Lookup fuel adequacy.**  The measure `2*|path| + |chain|` strictly decreases in every recursive
    call of `lexicalGet`; with fuel ≥ `2*|path| + |chain| + 1` (what `resolveWords` passes) the
    result does not depend on the fuel. -/
theorem lexicalGet_fuel_adequate (f : Nat) (c : Chain) (path : Str) (stopId : Nat) (up : Bool)
    (h : 2 * path.length + c.length + 1 ≤ f) :
    lexicalGet f c path stopId up = lexicalGet (2 * path.length + c.length + 1) c path stopId up :=
  Phil.lexicalGet_fuel_adequate f c path stopId up h

/-! ### concrete instances (kernel-checked; they show the hypotheses above are satisfiable) -/

/-- unquoted word -/
def uw (s : String) : Word := { value := s.toList }
/-- quoted word -/
def qw (q : Quote) (s : String) : Word := { value := s.toList, quote := some q }
def dfn (n : String) (i : Nat) (ws : List Word) : Obj := .defn { name := n.toList, id := some i } ws
def scp (n : String) (i : Nat) (k : List Obj) : Obj := .scope { name := n.toList, id := some i } k
def envEmpty : Env := fun _ => none
def envAll : Env := fun _ => some "ENV".toList

/-- ```
a = 1
x = $a
a = 2
``` -/
def docA : List Obj := [dfn "a" 0 [uw "1"], dfn "x" 1 [uw "$a"], dfn "a" 2 [uw "2"]]

/-- `x = $a` resolves to the earlier `a`, not the later one — and not to the environment. -/
example : resolveAt envEmpty docA [1] false = .ok [uw "1"] := by rfl
example : resolveAt envAll docA [1] false = .ok [uw "1"] := by rfl

/-- the later `a = 2` may be changed or removed: the chains agree after pruning at id 1 -/
def docA' : List Obj := [dfn "a" 0 [uw "1"], dfn "x" 1 [uw "$a"]]
example : [docA].map (pruneBeforeList 1) = [docA'].map (pruneBeforeList 1) := by rfl
example : resolveAt envAll docA' [1] false = .ok [uw "1"] := by rfl

/-- ```
x = $a
a = 2
```
only a *later* `a`: the lookup fails, the environment is the fallback. -/
def docB : List Obj := [dfn "x" 0 [uw "$a"], dfn "a" 1 [uw "2"]]
example : resolveAt envAll docB [0] false = .ok [qw .d1 "ENV"] := by rfl
example : resolveAt envEmpty docB [0] false = .error (.runtime "undefined_variable" none) := by rfl
example : (lexicalGet 10 [docB] "a".toList 0 true).map (·.1) = none := by rfl

/-- ```
a = 1 "two words"
x = $a pre$a 'lit $a' "q $a" plain
```
sole variable: the words of `a` as they are; mixtures: one double-quoted word; single quotes and
text without '$': untouched. -/
def docC : List Obj :=
  [dfn "a" 0 [uw "1", qw .d1 "two words"],
   dfn "x" 1 [uw "$a", uw "pre$a", qw .s1 "lit $a", qw .d1 "q $a", uw "plain"]]
example : resolveAt envEmpty docC [1] false =
    .ok [uw "1", qw .d1 "two words", qw .d1 "pre1 two words", qw .s1 "lit $a",
         qw .d1 "q 1 two words", uw "plain"] := ok_of_check (by decide +kernel)

example : fragments "plain".toList = .ok ([.lit "plain".toList], false) := by rfl
example : fragments "".toList = .ok ([], false) := by rfl
example : fragments "pre$a".toList = .ok ([.lit "pre".toList, .var "a".toList], true) := by rfl

/-- The hypothesis `w.quote ≠ some .s1` of `mixture_is_one_dq_word` cannot be dropped: a
    single-quoted word with a '$' has fragments with variables but stays single-quoted. -/
example : fragments (qw .s1 "lit $a").value = .ok ([.lit "lit ".toList, .var "a".toList], true) ∧
    resolveWords envEmpty 1 [] 0 [qw .s1 "lit $a"] false = .ok [qw .s1 "lit $a"] := ⟨by rfl, by rfl⟩

/-- ```
a { b { c { d {
  y = 1
  x = $(a.b.c.d.y)
  y = 2
} } e = 5 } }
```
four scopes deep: five steps outward, four descents — nine lookup steps; sharing the fuel
`countObjs + 2 = 10` of `resolveAt` with the lookup would leave it only 8, hence the lookup's own fuel. -/
def docDeep : List Obj :=
  [scp "a" 0 [scp "b" 1 [scp "c" 2 [scp "d" 3
    [dfn "y" 4 [uw "1"], dfn "x" 5 [uw "$(a.b.c.d.y)"], dfn "y" 6 [uw "2"]]],
    dfn "e" 7 [uw "5"]]]]

example : resolveAt envEmpty docDeep [0, 0, 0, 0, 1] false = .ok [uw "1"] := ok_of_check (by decide +kernel)
example : resolveAt envAll docDeep [0, 0, 0, 0, 1] false = .ok [uw "1"] := ok_of_check (by decide +kernel)

/-- the same document without anything after `x` (also nothing after the enclosing scopes) -/
def docDeep' : List Obj :=
  [scp "a" 0 [scp "b" 1 [scp "c" 2 [scp "d" 3
    [dfn "y" 4 [uw "1"], dfn "x" 5 [uw "$(a.b.c.d.y)"]]]]]]

/-- The deep frame hypothesis holds for the two documents although no level of the outer chain has
    equal visible prefixes (scope `a` itself differs): this is the case the shallow form misses. -/
example : [docDeep].map (visiblePrefix 5) ≠ [docDeep'].map (visiblePrefix 5) := by
  intro h
  have := congrArg (fun c => c.map (fun l => l.map (fun o => o.children.map (fun o' => o'.children.length)))) h
  exact absurd this (by decide)
example : ((chainAt docDeep [0, 0, 0, 0, 1] []).map (fun r => r.2.map (pruneBeforeList 5)))
    = ((chainAt docDeep' [0, 0, 0, 0, 1] []).map (fun r => r.2.map (pruneBeforeList 5))) := by rfl
example : resolveAt envEmpty docDeep' [0, 0, 0, 0, 1] false = .ok [uw "1"] := ok_of_check (by decide +kernel)

/-- `resolveAt_later_irrelevant` applied: the result for `docDeep` follows from the one for the
    truncated document `docDeep'`; all hypotheses are discharged by computation. -/
example : resolveAt envAll docDeep [0, 0, 0, 0, 1] false = .ok [uw "1"] := by
  refine resolveAt_later_irrelevant envAll docDeep' docDeep [0, 0, 0, 0, 1] false _ _ _ _ 5 _
    (by rfl) (by rfl) (by rfl) (by rfl) ?_ (by rfl)
  simp [docDeep, docDeep', scp, dfn, countObjs]

/-- `lexicalGet` itself is NOT monotone in its fuel on arbitrary trees (a definition with a dotted
    name next to a scope path): with fuel 2 the nested descent gives up and the dotted definition is
    found, with fuel 3 the nested `c`.  Hence the adequacy bound in `lexicalGet_fuel_adequate`. -/
def docDotted : List Obj :=
  [dfn "a.b.c" 0 [uw "1"], scp "a" 1 [scp "b" 2 [dfn "c" 3 [uw "2"]]]]
example : (lexicalGet 2 [docDotted] "a.b.c".toList 4 true).map (·.1) = some (dfn "a.b.c" 0 [uw "1"]) := by rfl
example : (lexicalGet 3 [docDotted] "a.b.c".toList 4 true).map (·.1) = some (dfn "c" 3 [uw "2"]) := by rfl
example : (lexicalGet (2 * 5 + 1 + 1) [docDotted] "a.b.c".toList 4 true).map (·.1) = some (dfn "c" 3 [uw "2"]) := by rfl

end Phil.C12
