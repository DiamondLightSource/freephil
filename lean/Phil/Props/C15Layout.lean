/-
  C15 (closed form for flat documents) — every object and every word reports the 1-based source
  line on which it actually starts.  Setting: a flat document under an arbitrary well-formed layout
  (Phil/Props/C02Layout.lean for the vocabulary: `DefLayout`, `Pre`, `Terminator`, `wfDoc`, `render`).

  The statement is not circular: the line of a definition / of a word is compared with
  `1 + (number of newlines in the text in front of it)`, where "the text in front" is an explicit
  function of the definitions and the layout (`beforeName`, `beforeWord`, defined by recursion without
  any reference to the parser), and `beforeName_is_prefix` / `beforeWord_is_prefix` show that these
  really are the prefixes of the rendered text that end where the name / the word begins.

  Property theorems only; lemmas are in Phil/Proofs/Layout.lean and Phil/Proofs/Layout3.lean.
-/
import Phil.Props.C02Layout
namespace Phil.C15
open Phil

/-- `beforeName ds k` is the part of the text that ends exactly where the name of definition `k`
    begins -/
theorem beforeName_is_prefix (ds : List (DefSpec × DefLayout)) (post : Pre) (k : Nat)
    (d : DefSpec) (L : DefLayout) (hk : ds[k]? = some (d, L)) :
    ∃ tail, render ds post = beforeName ds k ++ (d.1 ++ tail) := by
  rw [← render3_lift, ← beforeName3_lift]
  exact beforeName3_prefix _ _ _ k d _ (liftDoc_get hk)

/-- `beforeWord ds k j` is the part of the text that ends exactly where word `j` of definition `k`
    begins (`w.str` is the spelling of the word: the value, or the quoted and escaped value) -/
theorem beforeWord_is_prefix (ds : List (DefSpec × DefLayout)) (post : Pre)
    (h : wfDoc ds post = true) (k j : Nat) (d : DefSpec) (L : DefLayout) (w : Word)
    (hk : ds[k]? = some (d, L)) (hj : d.2[j]? = some w) :
    ∃ tail, render ds post = beforeWord ds k j ++ (w.str ++ tail) :=
  beforeWord_prefix post ds k j d L w hk (wfDef_gaps_length (wfDoc_mem h _ (List.mem_of_getElem? hk)).2) hj

/-- **C15, flat documents.**  For every well-formed layout of a flat document, `parse` returns one
    definition per definition of the document, and for every `k`:
    the `k`-th object is a definition with the `k`-th name, id `k + 1`, and its source line is
    `1 +` the number of newlines in the text in front of its name; it has as many words as the `k`-th
    definition, and its `j`-th word is the `j`-th word (value and quote style) with source line
    `1 +` the number of newlines in the text in front of that word.
    Multi-line quoted words, blank lines, comment lines, `;`-separated definitions on one line and
    `\r\n` line ends are all covered by the layout language. -/
theorem flat_lines_correct (ds : List (DefSpec × DefLayout)) (post : Pre)
    (h : wfDoc ds post = true) :
    ∃ objs, parseObjs (render ds post) = .ok objs ∧ objs.length = ds.length ∧
      ∀ (k : Nat) (d : DefSpec) (L : DefLayout), ds[k]? = some (d, L) →
        ∃ ws, objs[k]? = some (.defn
            { name := d.1, id := some (1 + k), line := some (1 + nlCount (beforeName ds k)) } ws) ∧
          ws.length = d.2.length ∧
          ∀ (j : Nat) (w' : Word), ws[j]? = some w' →
            ∃ w : Word, d.2[j]? = some w ∧ w'.value = w.value ∧ w'.quote = w.quote ∧
              w'.line = some (1 + nlCount (beforeWord ds k j)) := by
  refine ⟨linedObjs [] 1 ds, parseObjs_render_lined ds post h, linedObjs_length ds [] 1, ?_⟩
  intro k d L hk
  obtain ⟨ws, h1, h2, h3⟩ := linedObjs_spec post ds h k d L hk
  refine ⟨ws, h1, h2, ?_⟩
  intro j w' hj
  obtain ⟨w, hw, e⟩ := h3 j w' hj
  exact ⟨w, hw, by rw [e], by rw [e], by rw [e]⟩

/-- the same in one equation: the parse result is `linedObjs [] 1 ds`, the list of definitions in
    which every line is computed from the text in front (see `linedObjs`, `linedWords`) -/
theorem flat_lines_closed_form (ds : List (DefSpec × DefLayout)) (post : Pre)
    (h : wfDoc ds post = true) : parseObjs (render ds post) = .ok (linedObjs [] 1 ds) :=
  parseObjs_render_lined ds post h

/-! ### non-vacuity: the airy layout of C02Layout -/

open Phil.C02 in
/-- the text in front of the name of the third definition of `exAiry` and in front of its second
    word (which follows a two-line quoted word) -/
theorem exAiry_front : beforeName exAiry 2 =
    ("\n # it's {x}; ok\\n\n\ta \t=  1\r\n" ++
     "# a stand-alone comment read by the value collector\n #'quote\n\t\n" ++
     "b_2 = x*y\t\t\"p q\" it's # trailing; {comment}\n" ++
     "#\n  ").toList ∧
    beforeWord exAiry 2 1 = beforeName exAiry 2 ++ "c = '''l1\nl2''' ".toList ∧
    1 + nlCount (beforeName exAiry 2) = 9 ∧ 1 + nlCount (beforeWord exAiry 2 1) = 10 := by
  unfold exAiry exSpecs
  simp only [String.toList_append]
  -- a literal is `String.ofList […]` for `rw` and the kernel: no UTF-8 decoding
  repeat rw [String.toList_ofList]
  decide +kernel

open Phil.C02 in
example : beforeName exAiry 2 =
    ("\n # it's {x}; ok\\n\n\ta \t=  1\r\n" ++
     "# a stand-alone comment read by the value collector\n #'quote\n\t\n" ++
     "b_2 = x*y\t\t\"p q\" it's # trailing; {comment}\n" ++
     "#\n  ").toList ∧
    beforeWord exAiry 2 1 = beforeName exAiry 2 ++ "c = '''l1\nl2''' ".toList ∧
    1 + nlCount (beforeName exAiry 2) = 9 ∧ 1 + nlCount (beforeWord exAiry 2 1) = 10 :=
  exAiry_front

open Phil.C02 in
/-- through the theorem: definition `c` of `exAiry` is on line 9, its second word on line 10 -/
example : ∃ objs ws w', parseObjs (render exAiry exPost) = .ok objs ∧
    objs[2]? = some (.defn { name := "c".toList, id := some 3, line := some 9 } ws) ∧
    ws[1]? = some w' ∧ w'.line = some 10 := by
  obtain ⟨objs, hp, _, hk⟩ := flat_lines_correct exAiry exPost exAiry_wf
  obtain ⟨ws, h1, h2, h3⟩ := hk 2 _ _ rfl
  have hlen : 1 < ws.length := by rw [h2]; decide
  obtain ⟨w, _, _, _, hl⟩ := h3 1 ws[1] (List.getElem?_eq_getElem hlen)
  have hn : nlCount (beforeName exAiry 2) = 8 ∧ nlCount (beforeWord exAiry 2 1) = 9 := by
    have := exAiry_front.2.2
    omega
  refine ⟨objs, ws, ws[1], hp, ?_, List.getElem?_eq_getElem hlen, ?_⟩
  · rw [h1, hn.1]
    rfl
  · rw [hl, hn.2]

end Phil.C15
