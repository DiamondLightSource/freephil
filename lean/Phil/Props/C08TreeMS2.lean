/-
  C08 on masters with FURTHER MASTER OCCURRENCES of `.multiple` objects (`MSMaster2`, the class of
  Props/C05TreeMS3.lean) — "fetch_diff is a faithful and minimal difference": the closed form of
  `scope.fetch(diff=True)` with the `-1` marker of the candidate loop.

  Model: Phil/Fetch.lean (`fetchScope … true …`).  Lemmas: Phil/Proofs/FetchTreeMS4.lean (§3, §5 the candidate loop
  with master-provided candidates: `master_fold_diff_ms4`, `multiBranch_diff_ms4`, over `cand_fold` of
  Phil/Proofs/FetchSpec.lean; §4 the specification; §6 the members of a block (the blocking rule), depth, keys;
  §7 the steps; §8 `diff_ms2_of_furtherSrc`; §9–§11 laws on the specification).
  Specification (structural recursion on the master tree, fuel-free): `ms2Diff e seen mkids srcs` — the blocks
  `md2Block e mo FM srcs` of the FIRST enabled occurrences `mo` (with `FM` = their further occurrences), in
  master order.  A `.multiple` object: NO template; the candidates built from the SOURCES go through the list
  rule (dropped when equal to the master's key, of equal keys the last stays) after those whose key is the key
  of a candidate built from a FURTHER MASTER OCCURRENCE are removed: a master-provided instance is never part
  of the difference, and it blocks every source instance that renders like it.  For a `.multiple` scope the
  candidates are the NON-EMPTY differences of the body against ONE block (source or further occurrence).
  Class: `MSMaster2` + `SrcTree mkids` (variable-free master definitions), arbitrary `SrcTree` sources, keys
  `KeysDiffMS2` (executable: `keysDiffMS2B`, sharp: `keysDiff_ms2_needed`), fuel `depthL mkids + 1 < fuel` (sharp: `diff_ms2_fuel_needed`).
  Facts: `fetch_diff_ms2_total` (TOTAL: difference + consumed ids, or "incompatible"), `fetch_diff_ms2_ok`,
  `fetchRoot_diff_ms2(_checked)`; the rule spelled out: `diff_ms2_multiple_scope_rule`,
  `diff_ms2_multiple_defn_rule`; minimality and the blocking rule: `diff_ms2_scope_minimal`,
  `diff_ms2_defn_minimal`, `diff_ms2_no_empty_scope`, `diff_ms2_block_members`; `diff_ms2_conservative`
  (= `msDiff` on `MSMaster`); `self_diff_ms2_empty_nosrc` (+ operational `fetch_diff_ms2_nosrc`);
  `master_as_source_diff_ms2` (`M.fetch_diff(M) = ∅`, + operational `fetch_diff_ms2_master_itself`);
  restoring: `restore_ms2_order` (list level: if no source instance renders like a master-provided one, the
  list rule over the further occurrences followed by the instances of the difference gives the survivors of the
  working set IN THE SAME ORDER), `restore_ms2_defn_exact` (the same at the level of the specification for
  `.multiple` definitions: the block of the working set is restored exactly), with the witnesses `restore_ms2_reorders` (finding D10 on a `.multiple`
  DEFINITION: the hypothesis is sharp) and `restore_ms2_blocked_same_order` (it is not necessary).
  Validation of `ms2Diff` against the real library BEFORE proving (generator of harness/validation/ms2_val_gen.py
  with `fetch_diff`, seed 20261002): 600 random instances, 501 in the class (359 outside `MSMaster`), keys defined
  on all: 422 differences equal to `ms2Diff` (284 non-empty), 79 clash errors agree with `ms2NoClash`,
  0 mismatches; the model's `fetchRoot … true` equals the specification (tree and consumed ids) on all 501.
  On the same run, Python's `M.fetch(M.fetch_diff(S))` equals `M.fetch(S)` on 383 of the 422 and differs (order
  of instances only) on 39 — finding D10; `M.fetch_diff(M.fetch(M.fetch_diff(S))) = M.fetch_diff(S)` on 422 of 422.
  Not covered: the working-set laws (`diff_of_working`, restoring as a tree) on this class — they need the
  rendering coherence of rebuilt candidates.
-/
import Phil.Proofs.FetchTreeMS4
import Phil.Props.C05TreeMS3
import Phil.Props.C08TreeMS

namespace Phil.C08
open Phil

/-! ### 1. the closed form -/

/-- **The difference in closed form, masters with further master occurrences (total).**  With fuel beyond the
    nesting depth plus one, variable-free master definitions and defined keys, `master.fetch_diff(sources)`
    succeeds exactly when no kinds clash (`ms2NoClash`, the test of the non-diff fetch — a clash may sit among
    the master's own further occurrences); its children are `ms2Diff`; the consumed ids are those of the
    non-diff fetch (`ms2Used`: the master-provided candidates mark nothing); a clash makes it fail with
    RuntimeError ("incompatible"). -/
theorem fetch_diff_ms2_total (e : Envs) (fuel : Nat) (sm : Meta) (mkids srcs : List Obj)
    (hf : MSMaster2 mkids) (hfuel : depthL mkids + 1 < fuel) (hsd : sm.disabled = false)
    (hsrc : SrcTree srcs) (hmsrc : SrcTree mkids) (hkeys : KeysDiffMS2 e [] mkids srcs) :
    fetchScope e fuel true sm mkids srcs =
      if ms2NoClash [] mkids srcs then
        .ok (.scope { sm with tmpl := 0 } (ms2Diff e [] mkids srcs), ms2Used [] mkids srcs)
      else .error (.runtime "incompatible" none) :=
  diff_ms2_of_furtherSrc e fuel sm mkids srcs hf hfuel hsd hsrc (.of_srcTree hmsrc) hkeys

/-- a successful difference is the specification -/
theorem fetch_diff_ms2_ok (e : Envs) (fuel : Nat) (sm : Meta) (mkids srcs : List Obj)
    (hf : MSMaster2 mkids) (hfuel : depthL mkids + 1 < fuel) (hsd : sm.disabled = false)
    (hsrc : SrcTree srcs) (hmsrc : SrcTree mkids) (hkeys : KeysDiffMS2 e [] mkids srcs)
    (rm : Meta) (D : List Obj) (used : List Nat)
    (h : fetchScope e fuel true sm mkids srcs = .ok (.scope rm D, used)) :
    ms2NoClash [] mkids srcs = true ∧ rm = { sm with tmpl := 0 } ∧ D = ms2Diff e [] mkids srcs ∧
      used = ms2Used [] mkids srcs := by
  obtain ⟨hnc, hro, hu⟩ := ok_of_total (fetch_diff_ms2_total e fuel sm mkids srcs hf hfuel hsd hsrc hmsrc hkeys) h
  cases hro
  exact ⟨hnc, rfl, rfl, hu⟩

/-- **`master.fetch_diff(sources=…)`** on parsed roots: the fuel `fetchRoot` computes is adequate -/
theorem fetchRoot_diff_ms2 (e : Envs) (master : List Obj) (ss : List (List Obj))
    (hf : MSMaster2 master) (hd : depthL master ≤ 1000) (hsrc : SrcTree ss.flatten)
    (hmsrc : SrcTree master) (hkeys : KeysDiffMS2 e [] master ss.flatten) :
    fetchRoot e true master ss =
      if ms2NoClash [] master ss.flatten then
        .ok (.scope { name := [], id := some 0 } (ms2Diff e [] master ss.flatten), ms2Used [] master ss.flatten)
      else .error (.runtime "incompatible" none) :=
  fetch_diff_ms2_total e _ _ master ss.flatten hf (fetchRoot_fuel_dt master hd) rfl hsrc hmsrc hkeys

/-- … with the side conditions in executable form (`masterCheck_ms2`, `srcCheck`, `keysDiffMS2B`) -/
theorem fetchRoot_diff_ms2_checked (e : Envs) (master : List Obj) (ss : List (List Obj))
    (hm : masterCheck_ms2 master = true) (hs : srcCheck ss.flatten = true)
    (hk : keysDiffMS2B e [] master ss.flatten = true) :
    fetchRoot e true master ss =
      if ms2NoClash [] master ss.flatten then
        .ok (.scope { name := [], id := some 0 } (ms2Diff e [] master ss.flatten), ms2Used [] master ss.flatten)
      else .error (.runtime "incompatible" none) :=
  have hM := masterCheck_ms2_sound master hm
  fetchRoot_diff_ms2 e master ss hM.tree hM.depth (srcCheck_sound ss.flatten hs).tree hM.srcTree
    (keysDiffMS2B_sound e master [] _ hk)

/-! ### 2. the rule spelled out; minimality; the blocking rule -/

/-- **the block of a `.multiple` scope with further master occurrences `FM` in a difference**: no template;
    `survivorsOf` (dropped when equal to the key of the master's own fetched block, of equal keys the last
    stays) over the NON-EMPTY difference candidates of the SOURCE blocks whose key is not the key of a non-empty
    difference candidate of a further master occurrence -/
theorem diff_ms2_multiple_scope_rule (e : Envs) (mm : Meta) (kids FM srcs : List Obj)
    (hmult : (mm.attrs.get "multiple").truthy = true) :
    md2Block e (.scope mm kids) FM srcs =
      survivorsOf (keyMS e (.scope mm kids) (ms2Cand e mm kids []))
        ((((scopesNamed mm.name srcs).filter (fun s => !(ms2Diff e [] kids s.children).isEmpty)).map (fun s =>
          (md2Cand e mm kids s.children, keyMS e (.scope mm kids) (md2Cand e mm kids s.children)))).filter
          (fun y => !((((scopesNamed mm.name FM).filter (fun s => !(ms2Diff e [] kids s.children).isEmpty)).map
            (fun s => keyMS e (.scope mm kids) (md2Cand e mm kids s.children))).contains y.2))) :=
  md2Block_multi_scope_eq e mm kids FM srcs hmult

/-- **the block of a `.multiple` definition with further master occurrences `FM` in a difference** -/
theorem diff_ms2_multiple_defn_rule (e : Envs) (mm : Meta) (mws : List Word) (FM srcs : List Obj)
    (hmult : isMultiple (.defn mm mws) = true) :
    md2Block e (.defn mm mws) FM srcs =
      survivorsOf (keyOf e 0 (.defn mm mws) (.defn mm mws))
        ((candsOf e 0 (.defn mm mws) (defsNamed mm.name srcs)).filter (fun y =>
          !((candsOf e 0 (.defn mm mws) (defsNamed mm.name FM)).map (·.2)).contains y.2)) :=
  md2Block_multi_defn_eq e mm mws FM srcs hmult

/-- the difference unfolds along the master: a first enabled occurrence contributes its block (its later
    enabled same-name siblings being its master-provided candidates), every other object nothing -/
theorem ms2Diff_cons (e : Envs) (seen : List Str) (mo : Obj) (rest srcs : List Obj)
    (hen : mo.meta.disabled = false) (hs : seen.contains mo.name = false) :
    ms2Diff e seen (mo :: rest) srcs =
      md2Block e mo (activeNamed mo.name rest) srcs ++ ms2Diff e (mo.name :: seen) rest srcs := by
  rw [ms2Diff]
  simp only [hen, hs, Bool.or_self, Bool.false_eq_true, if_false]

theorem ms2Diff_further (e : Envs) (seen : List Str) (mo : Obj) (rest srcs : List Obj)
    (hs : seen.contains mo.name = true) :
    ms2Diff e seen (mo :: rest) srcs = ms2Diff e seen rest srcs := by
  rw [ms2Diff]
  simp only [hs, Bool.or_true, if_true]

/-- **minimality and the blocking rule, `.multiple` scopes**: every instance of the difference is the
    non-empty difference candidate of an enabled SOURCE block; its key differs from the key of the master's own
    block AND from the key of every (non-empty) candidate built from a further master occurrence — a
    master-provided instance is never part of the difference and blocks the source instances equal to it -/
theorem diff_ms2_scope_minimal (e : Envs) (mm : Meta) (kids FM srcs : List Obj)
    (hmult : (mm.attrs.get "multiple").truthy = true) (o : Obj)
    (ho : o ∈ md2Block e (.scope mm kids) FM srcs) :
    ∃ s ∈ scopesNamed mm.name srcs, o = md2Cand e mm kids s.children ∧
      (ms2Diff e [] kids s.children).isEmpty = false ∧
      keyMS e (.scope mm kids) o ≠ keyMS e (.scope mm kids) (ms2Cand e mm kids []) ∧
      ∀ t ∈ scopesNamed mm.name FM, (ms2Diff e [] kids t.children).isEmpty = false →
        keyMS e (.scope mm kids) (md2Cand e mm kids t.children) ≠ keyMS e (.scope mm kids) o :=
  mem_md2Block_multi_scope e mm kids FM srcs hmult o ho

/-- **minimality and the blocking rule, `.multiple` definitions** -/
theorem diff_ms2_defn_minimal (e : Envs) (mm : Meta) (mws : List Word) (FM srcs : List Obj)
    (hmult : isMultiple (.defn mm mws) = true) (o : Obj)
    (ho : o ∈ md2Block e (.defn mm mws) FM srcs) :
    ∃ d ∈ defsNamed mm.name srcs, o = candOfSrc (.defn mm mws) d ∧
      keyOf e 0 (.defn mm mws) o ≠ keyOf e 0 (.defn mm mws) (.defn mm mws) ∧
      ∀ t ∈ defsNamed mm.name FM,
        keyOf e 0 (.defn mm mws) (candOfSrc (.defn mm mws) t) ≠ keyOf e 0 (.defn mm mws) o :=
  mem_md2Block_multi_defn e mm mws FM srcs hmult o ho

/-- the difference is nested no deeper than the master -/
theorem diff_ms2_depth (e : Envs) (mkids srcs : List Obj) :
    depthL (ms2Diff e [] mkids srcs) ≤ depthL mkids :=
  depthL_ms2Diff e mkids [] srcs

/-- **without sources the difference is empty** — whatever the master repeats: the further occurrences are
    never part of the difference -/
theorem self_diff_ms2_empty_nosrc (e : Envs) (mkids : List Obj) : ms2Diff e [] mkids [] = [] :=
  ms2Diff_nil_ms4 e mkids []

/-- … operationally: `master.fetch_diff()` of a master that does not clash with itself is the empty scope and
    consumes nothing -/
theorem fetch_diff_ms2_nosrc (e : Envs) (fuel : Nat) (sm : Meta) (mkids : List Obj)
    (hf : MSMaster2 mkids) (hfuel : depthL mkids + 1 < fuel) (hsd : sm.disabled = false)
    (hmsrc : SrcTree mkids) (hkeys : KeysDiffMS2 e [] mkids []) (hnc : ms2NoClash [] mkids [] = true) :
    ∃ used, fetchScope e fuel true sm mkids [] = .ok (.scope { sm with tmpl := 0 } [], used) := by
  rw [fetch_diff_ms2_total e fuel sm mkids [] hf hfuel hsd srcTree_nil hmsrc hkeys, hnc,
    self_diff_ms2_empty_nosrc]
  exact ⟨_, rfl⟩

/-- **empty scopes are dropped**: every scope of the difference, at any depth, has children -/
theorem diff_ms2_no_empty_scope (e : Envs) (fuel : Nat) (sm : Meta) (mkids srcs : List Obj)
    (hf : MSMaster2 mkids) (hfuel : depthL mkids + 1 < fuel) (hsd : sm.disabled = false)
    (hsrc : SrcTree srcs) (hmsrc : SrcTree mkids) (hkeys : KeysDiffMS2 e [] mkids srcs)
    (rm : Meta) (D : List Obj) (used : List Nat)
    (h : fetchScope e fuel true sm mkids srcs = .ok (.scope rm D, used))
    (m : Meta) (k : List Obj) (hx : ActiveIn (.scope m k) D) : k ≠ [] := by
  obtain ⟨_, _, hD, _⟩ := fetch_diff_ms2_ok e fuel sm mkids srcs hf hfuel hsd hsrc hmsrc hkeys rm D used h
  subst hD
  exact ms2Diff_no_empty_ms4 e mkids [] srcs m k hx

/-- **every member of the difference comes from a source**: a definition of a block is the candidate built
    from a source definition, a scope of a block is built from the body's difference against source objects —
    never a copy of a further master occurrence -/
theorem diff_ms2_block_members (e : Envs) (mm : Meta) (kids FM srcs : List Obj) (o : Obj)
    (ho : o ∈ md2Block e (.scope mm kids) FM srcs) :
    ∃ S, o = .scope { mm with tmpl := 0 } (ms2Diff e [] kids S) ∧ ms2Diff e [] kids S ≠ [] :=
  mem_md2Block_scope_ms4 e mm kids FM srcs o ho

/-- **conservative extension**: on `MSMaster` masters (one occurrence per name) `ms2Diff` is the `msDiff` of
    Props/C08TreeMS.lean — `fetch_diff_ms2_total` extends `fetch_diff_ms_total` -/
theorem diff_ms2_conservative (e : Envs) (mkids srcs : List Obj) (hf : MSMaster mkids) :
    ms2Diff e [] mkids srcs = msDiff e mkids srcs :=
  ms2Diff_eq_msDiff e mkids srcs hf

/-- **the master's own body as the source gives the empty difference** (`M.fetch_diff(M) = ∅`), further
    occurrences included: the copy of a first occurrence renders like the master (or has an empty difference),
    the copies of the further occurrences are blocked by the master-provided candidates they equal.  No
    hypothesis on the renderings.  (Python probe: `M.fetch_diff(source=M)` has no objects on 503 of 503 random
    masters of the class that do not clash with themselves.) -/
theorem master_as_source_diff_ms2 (e : Envs) (mkids : List Obj) (hf : MSMaster2 mkids)
    (hr : RefetchTree mkids) : ms2Diff e [] mkids mkids = [] :=
  ms2Diff_self e mkids hf hr

/-- … operationally -/
theorem fetch_diff_ms2_master_itself (e : Envs) (fuel : Nat) (sm : Meta) (mkids : List Obj)
    (hf : MSMaster2 mkids) (hfuel : depthL mkids + 1 < fuel) (hsd : sm.disabled = false)
    (hr : RefetchTree mkids) (hkeys : KeysDiffMS2 e [] mkids mkids)
    (hnc : ms2NoClash [] mkids mkids = true) :
    ∃ used, fetchScope e fuel true sm mkids mkids = .ok (.scope { sm with tmpl := 0 } [], used) := by
  have hst := srcTree_of_refetch_ms2 mkids hf hr
  rw [fetch_diff_ms2_total e fuel sm mkids mkids hf hfuel hsd hst hst hkeys, hnc,
    master_as_source_diff_ms2 e mkids hf hr]
  exact ⟨_, rfl⟩

/-- the hypotheses of `fetch_diff_ms2_master_itself` hold on the parsed instance of Props/C05TreeMS2.lean -/
example : (masterCheck_ms2 C05.ms2M && keysDiffMS2B C05.envTm [] C05.ms2M C05.ms2M &&
    ms2NoClash [] C05.ms2M C05.ms2M) = true := by
  rw [C05.ms2M_eq]
  decide +kernel

/-! ### 3. restoring: when the order of the instances is kept (finding D10, positive side) -/

/-- **restoring keeps the order of the instances when no source instance renders like a master-provided one.**
    List level — `A`: the candidates of the further master occurrences, `S`: those of the sources, each with its
    key; `k0`: the master's key.  Left: the list rule of a non-diff fetch over `A` followed by the instances of the
    difference (`survivors` of `S` minus the blocked ones) — what `M.fetch(M.fetch_diff(S))` keeps; right: what
    `M.fetch(S)` keeps.  (The hypothesis is sharp: `restore_ms2_reorders`; it is not necessary:
    `restore_ms2_blocked_same_order`.) -/
theorem restore_ms2_order {α : Type} (k0 : Str) (A S : List (α × Str))
    (h : ∀ s ∈ S, s.2 ∉ A.map (·.2)) :
    dedupKeepLast ((A ++ dedupKeepLast ((S.filter (fun y => !(A.map (·.2)).contains y.2)).filter
      (fun y => y.2 != k0))).filter (fun y => y.2 != k0)) =
    dedupKeepLast ((A ++ S).filter (fun y => y.2 != k0)) := by
  have h1 : S.filter (fun y => !(A.map (·.2)).contains y.2) = S := by
    rw [List.filter_eq_self]
    intro s hs
    simp [h s hs]
  have h2 : (dedupKeepLast (S.filter (fun y => y.2 != k0))).filter (fun y => y.2 != k0) =
      dedupKeepLast (S.filter (fun y => y.2 != k0)) := by
    rw [List.filter_eq_self]
    intro y hy
    exact (List.mem_filter.mp ((dedupKeepLast_sublist _).subset hy)).2
  rw [h1, List.filter_append, h2, dedupKeepLast_append_dedup, List.filter_append]

/-- **finding D10, positive side, at the level of the specification (`.multiple` definitions):** if no enabled
    source definition renders like a further master occurrence, merging the difference back restores the block
    of the working set EXACTLY — same template flag, same instances, same order.  `R` is any source list whose
    enabled definitions of that name are the block of the difference (`M.fetch_diff(S)` itself, for instance);
    `ms2Block e mo (FM ++ ·)` is the block of the non-diff fetch (`fetch_ms2_total`).  The hypothesis is sharp:
    `restore_ms2_reorders`. -/
theorem restore_ms2_defn_exact (e : Envs) (mm : Meta) (mws : List Word) (FM S R : List Obj)
    (hmult : isMultiple (.defn mm mws) = true) (hvr : mm.varRes = none)
    (hv : defsNamed mm.name R = md2Block e (.defn mm mws) FM S)
    (hno : ∀ s ∈ defsNamed mm.name S, ∀ t ∈ defsNamed mm.name FM,
      keyOf e 0 (.defn mm mws) (candOfSrc (.defn mm mws) s) ≠ keyOf e 0 (.defn mm mws) (candOfSrc (.defn mm mws) t)) :
    ms2Block e (.defn mm mws) (FM ++ R) = ms2Block e (.defn mm mws) (FM ++ S) := by
  rw [ms2Block, ms2Block, tmBlock, tmBlock]
  simp only [hmult, if_true]
  rw [defsNamed_append_ms3, defsNamed_append_ms3, hv, md2Block_multi_defn_eq e mm mws FM S hmult]
  have happ : ∀ a b, candsOf e 0 (.defn mm mws) (a ++ b) =
      candsOf e 0 (.defn mm mws) a ++ candsOf e 0 (.defn mm mws) b := by
    intro a b; unfold candsOf; rw [List.map_append]
  rw [happ, happ]
  generalize hA : candsOf e 0 (.defn mm mws) (defsNamed mm.name FM) = A
  have hScmem : ∀ x ∈ candsOf e 0 (.defn mm mws) (defsNamed mm.name S),
      (candOfSrc (.defn mm mws) x.1, keyOf e 0 (.defn mm mws) (candOfSrc (.defn mm mws) x.1)) = x ∧
      x.2 ∉ A.map (·.2) := by
    intro x hx
    unfold candsOf at hx
    obtain ⟨d, hd, rfl⟩ := List.mem_map.mp hx
    refine ⟨by simp only; rw [candOfSrc_cand mm mws hvr], ?_⟩
    intro hin
    rw [← hA] at hin
    unfold candsOf at hin
    rw [List.map_map] at hin
    obtain ⟨t, ht, hkt⟩ := List.mem_map.mp hin
    exact hno d hd t ht hkt.symm
  generalize candsOf e 0 (.defn mm mws) (defsNamed mm.name S) = Sc at hScmem ⊢
  have hX : candsOf e 0 (.defn mm mws)
      (survivorsOf (keyOf e 0 (.defn mm mws) (.defn mm mws))
        (Sc.filter (fun y => !(A.map (·.2)).contains y.2))) =
      dedupKeepLast ((Sc.filter (fun y => !(A.map (·.2)).contains y.2)).filter
        (fun y => y.2 != keyOf e 0 (.defn mm mws) (.defn mm mws))) := by
    unfold survivorsOf candsOf
    rw [List.map_map]
    conv => rhs; rw [← List.map_id (dedupKeepLast _)]
    apply List.map_congr_left
    intro x hx
    have hx' : x ∈ Sc :=
      (List.mem_filter.mp (List.mem_filter.mp ((dedupKeepLast_sublist _).subset hx)).1).1
    exact (hScmem x hx').1
  rw [hX]
  apply multiBlock_congr
  exact restore_ms2_order _ A Sc (fun s hs => (hScmem s hs).2)

/-- the listings `[W, D, W', D']` of the chain `W = M.fetch(S)`, `D = M.fetch_diff(S)`, `W' = M.fetch(D)`,
    `D' = M.fetch_diff(W')` evaluated on the model's `fetchRoot` -/
def chainViewsMS2 (e : Envs) (M S : List Obj) : List (List String) :=
  let W := C05.kidsOfMS2 (fetchRoot e false M [S])
  let D := C05.kidsOfMS2 (fetchRoot e true M [S])
  let W' := C05.kidsOfMS2 (fetchRoot e false M [D])
  let D' := C05.kidsOfMS2 (fetchRoot e true M [W'])
  [C05.dumpListMS "" W, C05.dumpListMS "" D, C05.dumpListMS "" W', C05.dumpListMS "" D']

/-- **finding D10 on a `.multiple` DEFINITION — the hypothesis of `restore_ms2_order` is sharp.**  Master
    `d = 1 (.multiple, int)  d = 2`, sources `d = 3  d = 2`: the source `d = 2` renders like the master-provided
    further occurrence and comes after the user instance `3`.  Working set `1(template) 3 2`; the difference is
    only `3` (`2` is blocked: marker `-1`); restoring gives `1 2 3` — same instances, ANOTHER ORDER; `D' = D`.
    Replayed on the real library: `W = ['D d -1 1', 'D d 0 3', 'D d 0 2']`, `D = ['D d 0 3']`,
    `M.fetch(D) = ['D d -1 1', 'D d 0 2', 'D d 0 3']`, `D' = ['D d 0 3']`. -/
theorem restore_ms2_reorders :
    let M := C05.tmObjs "d = 1\n.type=int\n.multiple=True\nd = 2\n"
    masterCheck_ms2 M = true ∧ keysDiffMS2B C05.envTm [] M (C05.tmObjs "d = 3\nd = 2\n") = true ∧
    chainViewsMS2 C05.envTm M (C05.tmObjs "d = 3\nd = 2\n") =
      [["D d -1 1", "D d 0 3", "D d 0 2"], ["D d 0 3"], ["D d -1 1", "D d 0 2", "D d 0 3"], ["D d 0 3"]] := by
  rw [C05.tmObjs_ofList, C05.tmObjs_ofList]
  decide +kernel

/-- **the hypothesis of `restore_ms2_order` is not necessary**: sources `d = 2  d = 3` (the blocked instance
    first): the working set is `1(template) 2 3`, the difference `3`, the restored set `1 2 3` — the same order.
    Replayed on the real library (`W = M.fetch(D) = ['D d -1 1', 'D d 0 2', 'D d 0 3']`). -/
theorem restore_ms2_blocked_same_order :
    chainViewsMS2 C05.envTm (C05.tmObjs "d = 1\n.type=int\n.multiple=True\nd = 2\n") (C05.tmObjs "d = 2\nd = 3\n") =
      [["D d -1 1", "D d 0 2", "D d 0 3"], ["D d 0 3"], ["D d -1 1", "D d 0 2", "D d 0 3"], ["D d 0 3"]] := by
  rw [C05.tmObjs_ofList, C05.tmObjs_ofList]
  decide +kernel

/-! ### 4. non-vacuity and sharpness (instances through the parser) -/

/-- the parsed instance of Props/C05TreeMS2.lean (a `.multiple` scope repeated, a `.multiple` definition
    repeated inside it and at top level) satisfies every hypothesis of `fetchRoot_diff_ms2_checked` -/
example : (masterCheck_ms2 C05.ms2M && srcCheck C05.ms2S && keysDiffMS2B C05.envTm [] C05.ms2M C05.ms2S &&
    ms2NoClash [] C05.ms2M C05.ms2S && !msMasterB C05.ms2M) = true := by
  rw [C05.ms2M_eq, C05.ms2S_eq]
  decide +kernel

/-- the theorem applied to the instance (hypotheses discharged by kernel evaluation): the model's difference IS
    the specification -/
example : fetchRoot C05.envTm true C05.ms2M [C05.ms2S] =
    .ok (.scope { name := [], id := some 0 } (ms2Diff C05.envTm [] C05.ms2M C05.ms2S),
      ms2Used [] C05.ms2M C05.ms2S) := by
  have hfl : ([C05.ms2S] : List (List Obj)).flatten = C05.ms2S := by simp
  have h := fetchRoot_diff_ms2_checked C05.envTm C05.ms2M [C05.ms2S] (by rw [C05.ms2M_eq]; decide +kernel)
    (by rw [hfl, C05.ms2S_eq]; decide +kernel) (by rw [hfl, C05.ms2M_eq, C05.ms2S_eq]; decide +kernel)
  rw [hfl] at h
  rw [h, show ms2NoClash [] C05.ms2M C05.ms2S = true by rw [C05.ms2M_eq, C05.ms2S_eq]; decide +kernel]
  rfl

/-- … and what it is: the source blocks `s.h = 2` (equal to the further occurrence `s { h = 2 }`) and `d = 2`
    (equal to the further occurrence `d = 2`) are BLOCKED, `d = 1` equals the master.  Replayed on the real
    library: `M.fetch_diff(S)` lists `['S s 0', 'D s.h 0 3', 'S s 0', 'D s.c 0 z', 'D d 0 4']`. -/
theorem diff_ms2_instance :
    C05.dumpListMS "" (ms2Diff C05.envTm [] C05.ms2M C05.ms2S) =
      ["S s 0", "D s.h 0 3", "S s 0", "D s.c 0 z", "D d 0 4"] := by
  rw [C05.ms2M_eq, C05.ms2S_eq]
  decide +kernel

/-- **the hypothesis `KeysDiffMS2` is sharp — already for a master-provided candidate and no source**: the
    further occurrence `d = maybe` of the `.multiple` bool `d = yes` does not convert; the master is in the
    class, nothing clashes, `keysDiffMS2B` is false and the difference raises the converter's error (replayed
    on the real library: `RuntimeError: One True or False value expected, d="maybe" found (input line 4)`) -/
theorem keysDiff_ms2_needed :
    masterCheck_ms2 (C05.tmObjs "d = yes\n.type=bool\n.multiple=True\nd = maybe\n") = true ∧
    keysDiffMS2B C05.envTm [] (C05.tmObjs "d = yes\n.type=bool\n.multiple=True\nd = maybe\n") [] = false ∧
    ms2NoClash [] (C05.tmObjs "d = yes\n.type=bool\n.multiple=True\nd = maybe\n") [] = true ∧
    errOf (fetchRoot C05.envTm true (C05.tmObjs "d = yes\n.type=bool\n.multiple=True\nd = maybe\n") []) =
      some (.runtime "bool_expected" (some 4)) := by
  rw [C05.tmObjs_ofList]
  decide +kernel

/-- **the fuel bound is sharp** on an instance with further occurrences: with `fuel = depthL mkids + 1` (enough
    for the non-diff fetch) the difference runs out of fuel at the deepest definition; one more suffices -/
theorem diff_ms2_fuel_needed :
    depthL C05.ms2M = 1 ∧
      errOf (fetchScope C05.envTm 2 true { name := [], id := some 0 } C05.ms2M C05.ms2S) = some .outOfFuel ∧
      errOf (fetchScope C05.envTm 2 false { name := [], id := some 0 } C05.ms2M C05.ms2S) = none ∧
      errOf (fetchScope C05.envTm 3 true { name := [], id := some 0 } C05.ms2M C05.ms2S) = none := by
  rw [C05.ms2M_eq, C05.ms2S_eq]
  decide +kernel

end Phil.C08

#print axioms Phil.C08.fetch_diff_ms2_total
#print axioms Phil.C08.fetch_diff_ms2_ok
#print axioms Phil.C08.fetchRoot_diff_ms2
#print axioms Phil.C08.fetchRoot_diff_ms2_checked
#print axioms Phil.C08.diff_ms2_multiple_scope_rule
#print axioms Phil.C08.diff_ms2_multiple_defn_rule
#print axioms Phil.C08.ms2Diff_cons
#print axioms Phil.C08.ms2Diff_further
#print axioms Phil.C08.diff_ms2_scope_minimal
#print axioms Phil.C08.diff_ms2_defn_minimal
#print axioms Phil.C08.diff_ms2_depth
#print axioms Phil.C08.self_diff_ms2_empty_nosrc
#print axioms Phil.C08.fetch_diff_ms2_nosrc
#print axioms Phil.C08.diff_ms2_no_empty_scope
#print axioms Phil.C08.diff_ms2_block_members
#print axioms Phil.C08.diff_ms2_conservative
#print axioms Phil.C08.master_as_source_diff_ms2
#print axioms Phil.C08.fetch_diff_ms2_master_itself
#print axioms Phil.C08.restore_ms2_order
#print axioms Phil.C08.restore_ms2_defn_exact
#print axioms Phil.C08.restore_ms2_reorders
#print axioms Phil.C08.restore_ms2_blocked_same_order
#print axioms Phil.C08.diff_ms2_instance
#print axioms Phil.C08.keysDiff_ms2_needed
#print axioms Phil.C08.diff_ms2_fuel_needed
