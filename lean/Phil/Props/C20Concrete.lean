/-
  C20 (concrete kernel) — the kernel laws of Phil/Props/C20.lean discharged for the fetch model.

    "After any sequence of edits through the parameter index …, popping a state restores exactly the
     working parameters that were current at the matching push.  Applying the same edit twice in a
     row leaves the working parameters as after the first application."

  Phil/Props/C20.lean proves these for an ARBITRARY kernel under two named laws: `pop_restores_exact`
  needs `k.refetch w = w` on the pushed working set, `same_edit_twice` needs `IdemKernel k e`.  Here
  both laws are PROVED for `concreteKernel c` (Phil/IndexConcrete.lean: merge = parse the edit, refusal
  check, deletion of the instances of the `.multiple` objects the edit mentions, fetch of
  `[old, edit]`; refetch = fetch of `[working]`) on flat contexts, so no law hypothesis is left.

  Class covered (unbounded: every such context, every history, every edit of the class):
    * contexts `FlatCtx c`: the master is a `FlatMultiMaster` (enabled definitions with pairwise
      distinct non-empty names, not `.deprecated`, not choices, `.multiple` or not, any type), fit for
      re-fetching (`RefetchOK`: not template-marked, `$`-free), and `c.multiple` lists exactly the
      names of the `.multiple` master definitions; the theorems hold for every `Envs`;
    * edits `DefEdit e`: if the text parses at all, it parses to root-level definitions without `$`
      (of any names and values; when the merge fails — the text does not parse, the key of a
      `.multiple` candidate cannot be computed — the edit is refused and changes nothing);
    * working sets `Reached c w`: `w` is the result of `master.fetch(sources = D)` for some
      definition-only, `$`-free `D`.  `Reached` is an INVARIANT of the histories made of `update`,
      `push`, `pop`, `set_state`, `get_python_object` (`reached_invariant`), and the initial working
      set `master.fetch()` is reached.
  `update_from_python` is outside the invariant, and necessarily so: it installs `master.format(obj)`,
  which in general is not a fetch result, and then "pop restores exactly" is FALSE — in the model
  (`pop_not_exact_after_fromPython`) and in the library (replay in the doc comment there).

    1. `reached_is_closed_form`          — structural characterisation of reached working sets
    2. `refetch_exact`                   — `refetch w = w` on reached working sets
    3. `merge_reached`, `init_reached`, `reached_invariant`
    4. `pop_restores_concrete` (+ `_reachable`, `_stack`)
    5. `same_edit_twice_concrete` (the kernel law on reached working sets; + `_state`, `_reachable`),
       `idem_needs_reached` (the law over ALL working sets is false in the model)
    6. kernel-checked instances on a literal context (int, `.multiple` str, bool)
  Lemmas: Phil/Proofs/IndexConcreteLemmas.lean.
-/
import Phil.Props.C20
import Phil.Proofs.IndexConcreteLemmas
import Phil.Proofs.ObjEq
namespace Phil.C20
open Phil Phil.Index

variable {W P E : Type}

/-! ### 1. reached working sets -/

/-- **Structure of a reached working set.**  On a flat context a reached working set is the closed
    form of the fetch: one block per master definition in master order — `[lastWins …]` for a
    non-multiple definition, `multiBlock …` (template, then the surviving instances) for a `.multiple`
    one — for some good source list `D` whose keys are defined; it is itself a good source list. -/
theorem reached_is_closed_form (c : IndexCtx) (hc : FlatCtx c) (w : List Obj) (h : Reached c w) :
    (∃ D, GoodSrc D ∧ KeysOK c D ∧
      w = c.master.flatMap (blockOf c.envs (rootFuel c.master) D)) ∧ GoodSrc w :=
  ⟨reached_closed_ick hc h, reached_goodSrc_ick hc h⟩

/-- … and conversely every such closed form is reached -/
theorem closed_form_is_reached (c : IndexCtx) (hc : FlatCtx c) (D : List Obj) (hD : GoodSrc D)
    (hk : KeysOK c D) : Reached c (c.master.flatMap (blockOf c.envs (rootFuel c.master) D)) :=
  ⟨D, _, hD, fetchRoot_closed_ick hc hD hk⟩

/-! ### 2. `push_state`'s re-fetch is the identity on reached working sets -/

/-- **refetch law.**  `master.fetch(source = w) = w` for every reached working set. -/
theorem refetch_exact (c : IndexCtx) (hc : FlatCtx c) (w : List Obj) (h : Reached c w) :
    (concreteKernel c).refetch w = w := by
  obtain ⟨D, u, hD, hf⟩ := h
  obtain ⟨hk, _⟩ := fetchRoot_good_ick hc hD hf
  rw [fetchRoot_eq, List.flatten_singleton] at hf
  obtain ⟨u', hu⟩ := fetch_flat_multi_idempotent c.envs (rootFuel c.master) _ c.master D hc.flat hc.refetch
    rfl hD.isDefn hD.srcOK hD.noDollar hk _ w u hf
  rw [refetch_eq_ick, fetchRoot_eq, List.flatten_singleton, hu]
  rfl

/-! ### 3. `Reached` is an invariant -/

/-- every successful merge of a definition-only edit from a reached working set yields a reached
    working set -/
theorem merge_reached (c : IndexCtx) (hc : FlatCtx c) (w : List Obj) (hw : Reached c w)
    (e : Str) (he : DefEdit e) (w' : List Obj) (h : (concreteKernel c).merge w e = some w') :
    Reached c w' := by
  obtain ⟨edit, hp⟩ := merge_parses_ick h
  have hgw := reached_goodSrc_ick hc hw
  obtain ⟨_, hk, rfl⟩ := (merge_iff_ick hc hgw hp (he edit hp)).mp h
  exact closed_form_is_reached c hc _ ((oldOf_good_ick c edit hgw).append (he edit hp)) hk

/-- what such a merge computes: the edit alone fetches (refusal check), the keys of all candidates are
    defined, and the new working set is the closed form on `old ++ edit`, `old` being the working set
    without the non-template objects whose name the edit mentions and the master declares `.multiple` -/
theorem merge_closed_form (c : IndexCtx) (hc : FlatCtx c) (w : List Obj) (hw : Reached c w)
    (e : Str) (edit : List Obj) (hp : parseObjs e = .ok edit) (he : GoodSrc edit) (w' : List Obj)
    (h : (concreteKernel c).merge w e = some w') :
    oldOf c edit w = w.filter (fun o => o.meta.tmpl != 0 || !(redundantOf c edit).contains o.name) ∧
    (∀ p, p ∈ redundantOf c edit ↔ (∃ o ∈ edit, o.name = p) ∧ p ∈ c.multiple) ∧
    w' = c.master.flatMap (blockOf c.envs (rootFuel c.master) (oldOf c edit w ++ edit)) :=
  ⟨oldOf_eq_filter_ick c edit w (reached_goodSrc_ick hc hw).isDefn,
   mem_redundantOf_ick c edit he.isDefn,
   ((merge_iff_ick hc (reached_goodSrc_ick hc hw) hp he).mp h).2.2⟩

/-- the initial working set `master.fetch()` is reached -/
theorem init_reached (c : IndexCtx) (hc : FlatCtx c) (r : Obj) (u : List Nat)
    (h : fetchRoot c.envs false c.master [] = .ok (r, u)) : Reached c r.children := by
  have h' : fetchRoot c.envs false c.master [[]] = .ok (r, u) := by
    rw [fetchRoot_eq] at h ⊢; simpa using h
  obtain ⟨_, hr⟩ := fetchRoot_good_ick hc GoodSrc.nil h'
  refine ⟨[], u, GoodSrc.nil, ?_⟩
  rw [h', hr]
  rfl

/-- **the invariant.**  From a state whose working set and saved states are reached, every history
    of `update` (definition-only edits), `push`, `pop`, `set_state`, `get_python_object` leads to such
    a state. -/
theorem reached_invariant (c : IndexCtx) (hc : FlatCtx c) (s : State (List Obj) PVal)
    (ops : List (Op PVal Str)) (hg : GoodOps ops) (hs : StateReached c s) :
    StateReached c (run (concreteKernel c) s ops) :=
  run_inv (fun w h => by rw [refetch_exact c hc w h]; exact h)
    (fun _ w _ he hw h => merge_reached c hc w hw _ he _ h) (fun _ _ => goodOps_cons_ick) ops s hg hs

theorem reached_invariant_init (c : IndexCtx) (hc : FlatCtx c) (w : List Obj) (hw : Reached c w)
    (ops : List (Op PVal Str)) (hg : GoodOps ops) :
    Reached c (run (concreteKernel c) (init (concreteKernel c) w) ops).working :=
  (reached_invariant c hc _ ops hg (init_inv hw)).1

/-! ### 4. pop restores exactly — no law hypothesis left -/

/-- **C20, pop restores (concrete kernel).**  On a flat context, from any state whose working set is
    reached, for EVERY balanced inner history (any edits, `update_from_python` included), the working
    set after the matching `pop` EQUALS the working set at the `push`. -/
theorem pop_restores_concrete (c : IndexCtx) (hc : FlatCtx c) (s : State (List Obj) PVal)
    (hs : Reached c s.working) (inner : List (Op PVal Str)) (hb : Balanced inner) :
    (run (concreteKernel c) s (.push :: (inner ++ [.pop]))).working = s.working :=
  pop_restores_exact (concreteKernel c) s inner hb (refetch_exact c hc _ hs)

/-- the stack is restored as well -/
theorem pop_restores_concrete_stack (c : IndexCtx) (s : State (List Obj) PVal)
    (inner : List (Op PVal Str)) (hb : Balanced inner) :
    (run (concreteKernel c) s (.push :: (inner ++ [.pop]))).states = s.states :=
  (pop_restores (concreteKernel c) s inner hb).2.1

/-- **anywhere in a history from the initial state**: after a prefix of definition-only edits, pushes,
    pops, `set_state`s and `get_python_object`s, a `push`, any balanced inner history and the matching
    `pop`, the working set is the one current at the `push`. -/
theorem pop_restores_concrete_reachable (c : IndexCtx) (hc : FlatCtx c) (w : List Obj) (hw : Reached c w)
    (pre inner : List (Op PVal Str)) (hg : GoodOps pre) (hb : Balanced inner) :
    (run (concreteKernel c) (init (concreteKernel c) w) (pre ++ .push :: (inner ++ [.pop]))).working
      = (run (concreteKernel c) (init (concreteKernel c) w) pre).working := by
  rw [run_append]
  exact pop_restores_concrete c hc _ (reached_invariant_init c hc w hw pre hg) inner hb

/-- `set_state i` makes the `i`-th saved state itself current (its re-fetch is the identity) -/
theorem set_state_exact (c : IndexCtx) (hc : FlatCtx c) (s : State (List Obj) PVal)
    (hs : StateReached c s) (i : Nat) (w : List Obj) (hi : s.states[i]? = some w) :
    (step (concreteKernel c) s (.setState i)).1.working = w := by
  rw [step_setState_some _ s i w hi]
  exact refetch_exact c hc w (hs.2 w (List.mem_of_getElem? hi))

/-! ### 5. the same edit twice — the kernel law proved -/

/-- the kernel law restricted to the working sets satisfying `R` -/
def IdemKernelOn (k : Kernel W P E) (R : W → Prop) (e : E) : Prop :=
  ∀ w w', R w → k.merge w e = some w' → k.merge w' e = some w'

/-- **C20, edit idempotence (the kernel law of the concrete kernel).**  On a flat context, for every
    definition-only edit: merging the edit into the result of merging it into a reached working set
    changes nothing.  (Non-multiple parameter: the last value wins, so the second application
    re-installs the same words.  `.multiple` parameter the edit mentions: both applications delete
    all previous instances — only the template survives the deletion, and its candidate carries the
    master's key and is dropped — so both build the block from the edit's definitions alone.
    `.multiple` parameter the edit does not mention: its block is a fixed point of the list rule.) -/
theorem same_edit_twice_concrete (c : IndexCtx) (hc : FlatCtx c) (e : Str) (he : DefEdit e) :
    IdemKernelOn (concreteKernel c) (Reached c) e :=
  fun _ _ hw h => merge_idem_ick hc hw he h

/-- the whole state after the second application is the state after the first -/
theorem same_edit_twice_concrete_state (c : IndexCtx) (hc : FlatCtx c) (e : Str) (he : DefEdit e)
    (s : State (List Obj) PVal) (hs : Reached c s.working) :
    run (concreteKernel c) s [.update e, .update e] = run (concreteKernel c) s [.update e] :=
  update_twice_state (fun _ h => merge_idem_ick hc hs he h)

/-- anywhere in a history from the initial state -/
theorem same_edit_twice_concrete_reachable (c : IndexCtx) (hc : FlatCtx c) (w : List Obj)
    (hw : Reached c w) (pre : List (Op PVal Str)) (hg : GoodOps pre) (e : Str) (he : DefEdit e) :
    (run (concreteKernel c) (init (concreteKernel c) w) (pre ++ [.update e, .update e])).working =
    (run (concreteKernel c) (init (concreteKernel c) w) (pre ++ [.update e])).working := by
  rw [run_append, run_append,
    same_edit_twice_concrete_state c hc e he _ (reached_invariant_init c hc w hw pre hg)]

/-- the generic theorem of Phil/Props/C20.lean follows whenever the law holds on the working set at hand -/
theorem idemKernelOn_of_idemKernel (k : Kernel W P E) (R : W → Prop) (e : E) (h : IdemKernel k e) :
    IdemKernelOn k R e := fun w w' _ hm => h w w' hm

/-! ### 6. a literal context: a plain int, a `.multiple` str, a bool -/

/-- ```
    n = 1
      .type = int
    s = a
      .type = str
      .multiple = True
    b = True
      .type = bool
    ``` -/
def exMasterText : Str :=
  "n = 1\n  .type = int\ns = a\n  .type = str\n  .multiple = True\nb = True\n  .type = bool\n".toList

def exMaster : List Obj := match parseObjs exMasterText with | .ok m => m | .error _ => []

def exC : IndexCtx := { envs := env12, master := exMaster, multiple := [['s']] }

/-- the initial working set `master.fetch()` -/
def exW0 : List Obj :=
  match fetchRoot exC.envs false exC.master [] with | .ok (r, _) => r.children | .error _ => []

section
attribute [local instance] objDecEq

theorem exMaster_eq : exMaster =
    [
      .defn { name := "n".toList, id := some 1, line := some 1, attrs := [("type", .conv (.int {}))] }
        [{ value := "1".toList, line := some 1 }],
      .defn
        { name := "s".toList, id := some 2, line := some 3,
          attrs := [("type", .conv .str), ("multiple", .bool true)] }
        [{ value := "a".toList, line := some 3 }],
      .defn { name := "b".toList, id := some 3, line := some 6, attrs := [("type", .conv .bool)] }
        [{ value := "True".toList, line := some 6 }]] := by
  decide +kernel

theorem exW0_eq : exW0 =
    [
      .defn { name := "n".toList, id := some 1, line := some 1, attrs := [("type", .conv (.int {}))] }
        [{ value := "1".toList, line := some 1 }],
      .defn
        { name := "s".toList, id := some 2, line := some 3, tmpl := 1,
          attrs := [("type", .conv .str), ("multiple", .bool true)] }
        [{ value := "a".toList, line := some 3 }],
      .defn { name := "b".toList, id := some 3, line := some 6, attrs := [("type", .conv .bool)] }
        [{ value := "True".toList, line := some 6 }]] := by
  decide +kernel

/-- `exW0` as the fetch it abbreviates, by evaluation from the parsed master: unfolding `exW0` instead makes the
    kernel evaluate the fetch from the text of the master once more. -/
theorem exW0_fetch :
    (match fetchRoot exC.envs false exC.master [] with | .ok (r, _) => r.children | .error _ => []) = exW0 := by
  rw [exW0_eq, exC, exMaster_eq]
  decide +kernel

end

/-- what is compared: name, template flag, word values of every object -/
def obs (w : List Obj) : List (String × Int × List String) :=
  w.map (fun k => (String.ofList k.name, k.meta.tmpl, k.words.map (fun x => String.ofList x.value)))

local notation "K₀" => concreteKernel exC

def e1 : Str := "s = x\ns = y\nn = 2".toList
def e2 : Str := "b = False".toList
def e3 : Str := "s = z".toList
/-- an edit that does not parse -/
def eBad : Str := "n = 3 }".toList

example : (exMaster.map (fun o => (String.ofList o.name, isMultiple o))) =
    [("n", false), ("s", true), ("b", false)] := by
  rw [exMaster_eq]
  decide +kernel

theorem exC_flat : FlatCtx exC := flatCtx_of_B_ick (by rw [exC, exMaster_eq]; decide +kernel)

theorem e1_def : DefEdit e1 := defEdit_of_B_ick (by decide +kernel)
theorem e2_def : DefEdit e2 := defEdit_of_B_ick (by decide +kernel)
theorem e3_def : DefEdit e3 := defEdit_of_B_ick (by decide +kernel)
theorem eBad_def : DefEdit eBad := defEdit_of_B_ick (by decide +kernel)

theorem exW0_reached : Reached exC exW0 := by
  have hok : (errOf (fetchRoot exC.envs false exC.master [])).isNone = true := by
    rw [exC, exMaster_eq]
    decide +kernel
  obtain ⟨⟨r, u⟩, hr⟩ := ok_of_errOf_none hok
  have : exW0 = r.children := by rw [← exW0_fetch, hr]
  rw [this]
  exact init_reached exC exC_flat r u hr

example : obs exW0 = [("n", 0, ["1"]), ("s", 1, ["a"]), ("b", 0, ["True"])] := by
  rw [exW0_eq]
  decide +kernel

/-- one edit: `n` takes the last value, `s` gets its two instances after the template -/
example : obs (run K₀ (init K₀ exW0) [.update e1]).working =
    [("n", 0, ["2"]), ("s", -1, ["a"]), ("s", 0, ["x"]), ("s", 0, ["y"]), ("b", 0, ["True"])] := by
  rw [exC, exMaster_eq, exW0_eq]
  decide +kernel

/-- a later edit of `s` REPLACES the instances (deletion of the redundant paths) -/
example : obs (run K₀ (init K₀ exW0) [.update e1, .update e3]).working =
    [("n", 0, ["2"]), ("s", -1, ["a"]), ("s", 0, ["z"]), ("b", 0, ["True"])] := by
  rw [exC, exMaster_eq, exW0_eq]
  decide +kernel

/-- a refused edit changes nothing -/
example : (Kernel.merge K₀ (run K₀ (init K₀ exW0) [.update e1]).working eBad).isNone = true := by
  rw [exC, exMaster_eq, exW0_eq]
  decide +kernel

/-- fetching does not type-check the value of a non-multiple parameter: `n = oops` is merged (the
    library does the same; the error surfaces at extraction) -/
example : (Kernel.merge K₀ exW0 "n = oops".toList).map obs =
    some [("n", 0, ["oops"]), ("s", 1, ["a"]), ("b", 0, ["True"])] := by
  rw [exC, exMaster_eq, exW0_eq]
  decide +kernel

/-- a balanced inner history with a nested bracket, edits of all three parameters and a
    `get_python_object` -/
def exInner : List (Op PVal Str) := [.update e2, .push, .update e3, .pop, .getPython, .update e3]

theorem exInner_balanced : Balanced exInner :=
  .update e2 (.push (inner := [.update e3]) (.update e3 .nil) (.getPython (.update e3 .nil)))

/-- the history before the bracket -/
def exPre : List (Op PVal Str) := [.update e1]

theorem exPre_good : GoodOps exPre := ⟨e1_def, trivial⟩

/-- the working set really moved inside the bracket … -/
example : obs (run K₀ (init K₀ exW0) ([.update e1] ++ .push :: exInner)).working =
    [("n", 0, ["2"]), ("s", -1, ["a"]), ("s", 0, ["z"]), ("b", 0, ["False"])] := by
  rw [exC, exMaster_eq, exW0_eq]
  decide +kernel

/-- … and the matching pop restores it: by evaluation … -/
example : obs (run K₀ (init K₀ exW0) ([.update e1] ++ .push :: (exInner ++ [.pop]))).working =
    obs (run K₀ (init K₀ exW0) [.update e1]).working := by
  rw [exC, exMaster_eq, exW0_eq]
  decide +kernel

/-- … and by the theorem (equality of the working sets themselves, not only of what `obs` shows) -/
example : (run K₀ (init K₀ exW0) (exPre ++ .push :: (exInner ++ [.pop]))).working =
    (run K₀ (init K₀ exW0) exPre).working :=
  pop_restores_concrete_reachable exC exC_flat exW0 exW0_reached exPre exInner exPre_good exInner_balanced

/-- `set_state` inside the bracket does not disturb the restoration either -/
example : obs (run K₀ (init K₀ exW0)
      ([.update e1] ++ .push :: ([.update e2, .push, .update e3, .setState 0, .pop] ++ [.pop]))).working =
    [("n", 0, ["2"]), ("s", -1, ["a"]), ("s", 0, ["x"]), ("s", 0, ["y"]), ("b", 0, ["True"])] := by
  rw [exC, exMaster_eq, exW0_eq]
  decide +kernel

/-- the same edit twice: by evaluation … -/
example : obs (run K₀ (init K₀ exW0) [.update e1, .update e1]).working =
    obs (run K₀ (init K₀ exW0) [.update e1]).working := by
  rw [exC, exMaster_eq, exW0_eq]
  decide +kernel

example : obs (run K₀ (init K₀ exW0) [.update e1, .update e3, .update e3]).working =
    [("n", 0, ["2"]), ("s", -1, ["a"]), ("s", 0, ["z"]), ("b", 0, ["True"])] := by
  rw [exC, exMaster_eq, exW0_eq]
  decide +kernel

/-- … and by the theorem -/
example : (run K₀ (init K₀ exW0) (exPre ++ [.update e3, .update e3])).working =
    (run K₀ (init K₀ exW0) (exPre ++ [.update e3])).working :=
  same_edit_twice_concrete_reachable exC exC_flat exW0 exW0_reached exPre exPre_good e3 e3_def

/-- the invariant on the instance: the working set after the history is reached, hence a fixed point
    of the re-fetch -/
def exHist : List (Op PVal Str) := [.update e1, .push, .update e3, .pop, .setState 0]

theorem exHist_good : GoodOps exHist := ⟨e1_def, e3_def, trivial⟩

example : Kernel.refetch K₀ (run K₀ (init K₀ exW0) exHist).working = (run K₀ (init K₀ exW0) exHist).working :=
  refetch_exact exC exC_flat _ (reached_invariant_init exC exC_flat exW0 exW0_reached exHist exHist_good)

/-! #### why `Reached` is needed -/

/-- a working set that is NOT a fetch result: the template-flagged `s` object carries the value `q`
    instead of the master's `a` -/
def exWbad : List Obj :=
  exW0.map (fun o => if o.name == ['s'] then
    (match o with | .defn m _ => Obj.defn m [{ value := ['q'] }] | o => o) else o)

/-- **the kernel law over ALL working sets is false in the model** (so `IdemKernel (concreteKernel c) e`
    is not provable; `IdemKernelOn … (Reached c)` is the law that holds): from `exWbad` the first
    application of `s = z` keeps `q` as an instance (the deletion spares template-flagged objects),
    the second one deletes it. -/
theorem idem_needs_reached :
    (Kernel.merge K₀ exWbad e3).map obs =
      some [("n", 0, ["1"]), ("s", -1, ["a"]), ("s", 0, ["q"]), ("s", 0, ["z"]), ("b", 0, ["True"])] ∧
    ((Kernel.merge K₀ exWbad e3).bind (fun w => Kernel.merge K₀ w e3)).map obs =
      some [("n", 0, ["1"]), ("s", -1, ["a"]), ("s", 0, ["z"]), ("b", 0, ["True"])] ∧
    ¬ IdemKernel K₀ e3 := by
  refine (fun h1 h2 => ⟨h1, h2, fun h => ?_⟩) ?_ ?_
  · rw [exC, exWbad, exMaster_eq, exW0_eq]; decide +kernel
  · rw [exC, exWbad, exMaster_eq, exW0_eq]; decide +kernel
  · cases hm : Kernel.merge K₀ exWbad e3 with
    | none => rw [hm] at h1; cases h1
    | some w1 =>
      rw [hm, Option.bind_some, h exWbad w1 hm, ← hm, h1] at h2
      exact absurd h2 (by decide)

/-- the Python object `n = 1, s = ['a'], b = True`: the list of `s` holds the master's own value -/
def exPv : PVal :=
  .record [(['n'], .num (.int 1)), (['s'], .multi .none [.str ['a']]), (['b'], .bool true)]

/-- the values of `s` in an extracted Python object -/
def sValues : Option PVal → Option (List String)
  | some (.record fs) =>
    (match fieldGet fs ['s'] with
     | some (.multi _ l) => some (l.map (fun v => match v with | .str s => String.ofList s | _ => "?"))
     | _ => none)
  | _ => none

/-- **`update_from_python` is necessarily outside the invariant: after it, pop does NOT restore
    exactly.**  `update_from_python(obj)` installs `master.format(obj)` — the instance `s = a` and no
    template — which is not a fetch result; `push_state` saves `master.fetch(working)`, where the list
    rule drops the instance equal to the master's value (and duplicates) and inserts the template.
    After the matching `pop` the working set differs from the one current at the `push`, and so does
    its extraction: `s = ['a']` before, `s = []` after.

    The library behaves the same (replayed on the unchanged tree):
    ```
    m = freephil.parse("s = a\n .type = str\n .multiple = True\n")
    ix = freephil.interface.index(master_phil=m)
    p = ix.get_python_object(); p.s = ['a']            # also ['x','x'] -> ['x'],  ['a','x'] -> ['x']
    ix.update_from_python(p)
    ix.working_phil.extract().s      # ['a']
    ix.push_state(); ix.pop_state()
    ix.working_phil.extract().s      # []
    ``` -/
theorem pop_not_exact_after_fromPython :
    obs (run K₀ (init K₀ exW0) [.updateFromPython (some exPv)]).working =
      [("n", 0, ["1"]), ("s", 0, ["a"]), ("b", 0, ["True"])] ∧
    obs (run K₀ (init K₀ exW0) [.updateFromPython (some exPv), .push, .pop]).working =
      [("n", 0, ["1"]), ("s", 1, ["a"]), ("b", 0, ["True"])] ∧
    sValues (Kernel.extract K₀ (run K₀ (init K₀ exW0) [.updateFromPython (some exPv)]).working) = some ["a"] ∧
    sValues (Kernel.extract K₀ (run K₀ (init K₀ exW0) [.updateFromPython (some exPv), .push, .pop]).working)
      = some [] ∧
    (run K₀ (init K₀ exW0) [.updateFromPython (some exPv), .push, .pop]).working ≠
      (run K₀ (init K₀ exW0) [.updateFromPython (some exPv)]).working := by
  rw [exC, exMaster_eq, exW0_eq]
  refine ⟨by decide +kernel, by decide +kernel, by decide +kernel, by decide +kernel, fun h => ?_⟩
  exact absurd (congrArg obs h) (by decide +kernel)

end Phil.C20
