/-
  Phil.Props.Translated2 — the converters' decision logic as harness/translate.py regenerates it from
  src/freephil/converters.py on every run (Phil/Generated/Translated.lean; semantics of the subset — objects as
  `PVal`, raising as `Except Err` with the SITE name — in Phil/Generated/PyPrelude.lean) is EQUAL, on all inputs, to
  the pieces of the hand-written converter model `fromWords` is built from (Phil/Conv.lean).  (C10, C09, C16)
-/
import Phil.Generated.Translated
import Phil.Proofs.ConvDomain
namespace Phil.Translated2

/-! ### converters.bool_from_words -/

theorem boolFalse_lit : boolFalseSpellings = [['f', 'a', 'l', 's', 'e'], ['n', 'o'], ['o', 'f', 'f'], ['0']] := by
  decide +kernel
theorem boolTrue_lit : boolTrueSpellings = [['t', 'r', 'u', 'e'], ['y', 'e', 's'], ['o', 'n'], ['1']] := by
  decide +kernel

theorem len_pos (ws : List Word) : decide (Py.len ws > 0) = !ws.isEmpty := by
  cases ws with
  | nil => simp [Py.len]
  | cons w r => simp [Py.len]

/-- the translated `bool_from_words` is the `bool` branch of the model's `fromWords` (all word lists) -/
theorem bool_from_words_eq (env : EvalEnv) (opt : AttrVal) (ws : List Word) :
    Gen.bool_from_words ws = fromWords .bool env opt ws := by
  unfold Gen.bool_from_words fromWords boolFromWords Py.str_from_words strFromWords
  rw [boolFalse_lit, boolTrue_lit, len_pos]
  by_cases h1 : isPlainNone ws = true
  · simp [h1, Py.isNone]
  · by_cases h2 : isPlainAuto ws = true
    · simp [h1, h2, Py.isNone, Py.isAuto]
    · simp only [h1, h2, Bool.false_eq_true, if_false, Py.isNone, Py.isAuto, Py.strOf, Py.lower, Py.where_]
      generalize lower (joinWith [' '] (List.map (fun x => x.value) ws)) = l
      split
      · rfl
      · split
        · rfl
        · cases ws <;> simp

/-- the translated `bool_from_words` is the model's `boolFromWords` read as an object -/
theorem bool_from_words_model (ws : List Word) :
    Gen.bool_from_words ws = (match boolFromWords ws with
      | .error e => .error e | .ok .none => .ok .none | .ok .auto => .ok .auto | .ok (.bool b) => .ok (.bool b)
      | .ok _ => .error (.unsupported "boolFromWords")) :=
  bool_from_words_eq (fun _ => Option.none) .none ws

example : Gen.bool_from_words [{ value := "Yes".toList }] = .ok (.bool true) := by rfl
example : Gen.bool_from_words [{ value := "maybe".toList, line := some 3 }] = .error (.runtime "bool_expected" (some 3)) := by rfl

/-! ### _check_value_base._check_value -/

def optWords (withLine : Bool) (ws : List Word) : Option (List Word) := if withLine then some ws else Option.none

theorem ge_num (x : PVal) (n m : PNum) (hx : Py.numOf x = some n) : Py.ge x (.num m) = pyLe m n := by
  unfold Py.ge; rw [hx]; rfl
theorem le_num (x : PVal) (n m : PNum) (hx : Py.numOf x = some n) : Py.le x (.num m) = pyLe n m := by
  unfold Py.le; rw [hx]; rfl

/-- the translated `_check_value` on an object that compares as the number `n` (a number, or a bool as 0/1) is the
    model's `checkValue` -/
theorem check_value_eq (lo hi : Option PNum) (ws : List Word) (withLine : Bool) (x : PVal) (n : PNum)
    (hx : Py.numOf x = some n) :
    Gen._check_value lo hi x (optWords withLine ws) = checkValue lo hi ws withLine n := by
  unfold Gen._check_value checkValue optWords
  rcases lo with _ | m <;> rcases hi with _ | M <;> cases withLine <;>
    simp only [Py.ofOptNum, ge_num x n _ hx, le_num x n _ hx, Py.where_opt, Option.isNone_none, Option.isNone_some,
      Bool.not_true, Bool.not_false, Bool.false_and, Bool.true_and, Bool.false_eq_true, if_false, if_true] <;>
    first
      | rfl
      | (cases pyLe n M <;> rfl)
      | (cases pyLe m n <;> rfl)
      | (cases pyLe m n <;> cases pyLe n M <;> rfl)

theorem check_value_num (lo hi : Option PNum) (ws : List Word) (withLine : Bool) (n : PNum) :
    Gen._check_value lo hi (.num n) (optWords withLine ws) = checkValue lo hi ws withLine n :=
  check_value_eq lo hi ws withLine (.num n) n rfl

theorem check_value_bool (lo hi : Option PNum) (ws : List Word) (withLine : Bool) (b : Bool) :
    Gen._check_value lo hi (.bool b) (optWords withLine ws) = checkValue lo hi ws withLine (.int (if b then 1 else 0)) :=
  check_value_eq lo hi ws withLine (.bool b) _ rfl

/-- `_check_value(value, words)` followed by a result that does not depend on its outcome, as the model writes it -/
theorem check_value_then {β : Type} (lo hi : Option PNum) (ws : List Word) (x : PVal) (n : PNum)
    (hx : Py.numOf x = some n) (b : β) :
    ((match Gen._check_value lo hi x (some ws) with
      | .error e => .error e
      | .ok _ => .ok b) : R β) = (checkValue lo hi ws true n).map (fun _ => b) := by
  rw [show some ws = optWords true ws from rfl, check_value_eq lo hi ws true x n hx]
  cases checkValue lo hi ws true n <;> rfl

/-- sharpness of `numOf x = some n`: on a non-number Python raises TypeError (outside the subset); the translated
    function refuses, the model has no such case -/
theorem check_value_non_number :
    Gen._check_value (some (.int 0)) Option.none (.str []) Option.none = .error (.runtime "value_min" Option.none) := by rfl

example : Gen._check_value (some (.int 0)) (some (.flt 5 2)) (.num .nan) (some [{ value := "nan".toList, line := some 2 }])
    = .error (.runtime "value_min" (some 2)) := by rfl

/-! ### numbers_converters_base._check_size -/

/-- the translated `_check_size` is the model's `checkSize` (all bounds, all sizes) -/
theorem check_size_eq (smin smax : Option Int) (ws : List Word) (withLine : Bool) (n : Nat) :
    Gen._check_size smin smax (n : Int) (optWords withLine ws) = checkSize smin smax ws withLine n := by
  unfold Gen._check_size checkSize optWords
  cases smin <;> cases smax <;> cases withLine <;>
    simp only [Py.getInt, Py.where_opt, Option.isNone_none, Option.isNone_some, Option.getD_some,
      Bool.not_true, Bool.not_false, Bool.false_and, Bool.true_and, Bool.false_eq_true, if_false, if_true] <;>
    (repeat' split) <;> simp_all <;> omega

example : Gen._check_size (some 2) (some 2) 3 (some [{ value := "1".toList, line := some 4 }])
    = .error (.runtime "too_many" (some 4)) := by rfl

/-! ### converters.int_from_number / float_from_number -/

theorem roundRatio_mul (n : Int) (d : Nat) (hd : d ≠ 0) :
    (Py.roundRatio n d * (d : Int) == n) = (n % (d : Int) == 0) := by
  have hd' : (0 : Int) < d := by omega
  by_cases h : n % (d : Int) = 0
  · have h2 : Py.roundRatio n d = n / (d : Int) := by
      unfold Py.roundRatio
      simp only [h]
      rw [if_pos (by omega)]
    rw [h2, Int.ediv_mul_cancel (Int.dvd_of_emod_eq_zero h), h]; simp
  · have : ¬ Py.roundRatio n d * (d : Int) = n := by
      intro e; apply h; rw [← e]; exact Int.mul_emod_left _ _
    rw [show (Py.roundRatio n d * (d : Int) == n) = false from by simpa using this,
      show (n % (d : Int) == 0) = false from by simpa using h]

/-- the translated `int_from_number` is the model's `intFromNumber` (all objects) -/
theorem int_from_number_eq (ws : List Word) (v : PVal) : Gen.int_from_number v ws = intFromNumber ws v := by
  unfold Gen.int_from_number
  cases v with
  | num n =>
    cases n with
    | int i => rfl
    | flt n d =>
      simp only [Py.isinstance_int, Py.isinstance_float, Py.isfinite, Py.round, Py.veq, Py.numOf, Py.numEq, Py.int,
        intFromNumber, wordsErr, Py.where_, Bool.false_eq_true, if_false, Bool.true_and]
      by_cases hd : d = 0
      · subst hd; simp
      · rw [roundRatio_mul n d hd]
        have hd' : (d != 0) = true := by simpa using hd
        rw [hd']
        by_cases h : n % (d : Int) = 0
        · have hdv : (d : Int) ∣ n := Int.dvd_of_emod_eq_zero h
          simp [h, Int.tdiv_eq_ediv, hdv]
        · simp [h]
    | _ => rfl
  | _ => rfl

/-- the translated `float_from_number` is the model's `floatFromNumber` (all objects) -/
theorem float_from_number_eq (ws : List Word) (v : PVal) : Gen.float_from_number v ws = floatFromNumber ws v := by
  unfold Gen.float_from_number
  cases v with
  | num n =>
    cases n with
    | int i =>
      simp only [Py.isinstance_int, Py.isinstance_float, Py.float, floatFromNumber, Bool.false_eq_true, if_false, if_true]
      by_cases hi : i.natAbs ≤ 9007199254740992 <;> simp [hi, Py.isExc]
    | _ => rfl
  | _ => rfl

example : Gen.int_from_number (.num (.flt 6 2)) [] = .ok (.num (.int 3)) := by rfl
example : Gen.int_from_number (.num (.flt 5 2)) [{ value := "2.5".toList, line := some 1 }]
    = .error (.runtime "integer_expected" (some 1)) := by rfl
example : Gen.float_from_number (.bool true) [] = .ok (.num (.flt 1 1)) := by rfl

/-! ### number_converters_base.from_words: the None / Auto gates and the range check -/

/-- hand-written reading of `int_from_words` / `float_from_words` (`number_from_words`, then `int_/float_from_number`
    unless None / Auto) in the model's terms — the `_value_from_words` the gate is applied to -/
def valueFromWords (isInt : Bool) (env : EvalEnv) (ws : List Word) : R PVal :=
  match strFromWords ws with
  | .none => .ok .none
  | .auto => .ok .auto
  | .str s =>
    (match numberFromValueString env ws s with
     | .error e => .error e
     | .ok .none => .ok .none
     | .ok .auto => .ok .auto
     | .ok raw => if isInt then intFromNumber ws raw else floatFromNumber ws raw)
  | _ => .error (.unsupported "strFromWords")

theorem fromNumber_ok (isInt : Bool) (ws : List Word) (raw v : PVal)
    (h : (if isInt then intFromNumber ws raw else floatFromNumber ws raw) = .ok v) :
    (∃ n, v = .num n) ∨ (∃ b, v = .bool b) := by
  cases isInt
  · obtain ⟨n, rfl, _⟩ := floatFromNumber_ok ws raw v h
    exact .inl ⟨n, rfl⟩
  · rcases intFromNumber_ok ws raw v h with ⟨i, rfl⟩ | hb
    · exact .inl ⟨_, rfl⟩
    · exact .inr hb

/-- the range check after a conversion `r` that yields a number or a bool: translated form = model form.  `g` is what
    is returned for the checked value; `K` is what the translated code wraps around the check (the `None` / `Auto`
    tests of the scalar gate), which does nothing on a number or a bool -/
theorem checked_tail {β : Type} (lo hi : Option PNum) (ws : List Word) (g : PVal → β) (K : PVal → R β → R β)
    (hn : ∀ n t, K (.num n) t = t) (hb : ∀ b t, K (.bool b) t = t) (r : R PVal)
    (hr : ∀ v, r = .ok v → (∃ n, v = .num n) ∨ (∃ b, v = .bool b)) :
    ((match (generalizing := false) r with
      | .error e => .error e
      | .ok value =>
        K value (match Gen._check_value lo hi value (some ws) with
          | .error e => .error e
          | .ok _ => .ok (g value))) : R β)
    = (match (generalizing := false) r with
      | .error e => .error e
      | .ok (.num v) => (checkValue lo hi ws true v).map (fun _ => g (.num v))
      | .ok (.bool b) => (checkValue lo hi ws true (.int (if b then 1 else 0))).map (fun _ => g (.bool b))
      | .ok v => .ok (g v)) := by
  cases r with
  | error e => rfl
  | ok v =>
    rcases hr v rfl with ⟨n, rfl⟩ | ⟨b, rfl⟩
    · exact (hn n _).trans (check_value_then lo hi ws (.num n) n rfl _)
    · exact (hb b _).trans (check_value_then lo hi ws (.bool b) _ rfl _)

/-- the translated `number_converters_base.from_words`, applied to the model's reading of `int_from_words` /
    `float_from_words`, is the model's `fromWords` of an `int` / `float` type (all arguments, all word lists) -/
theorem number_gate_eq (isInt : Bool) (a : NumArgs) (env : EvalEnv) (opt : AttrVal) (ws : List Word) :
    Gen.number_from_words_gate a.valueMin a.valueMax a.allowNone (valueFromWords isInt env) ws
      = fromWords (if isInt then .int a else .float a) env opt ws := by
  have hfw : fromWords (if isInt then .int a else .float a) env opt ws = scalarTail isInt a env ws := by
    cases isInt
    · exact fromWords_float_eq a env opt ws
    · exact fromWords_int_eq a env opt ws
  rw [hfw]
  unfold Gen.number_from_words_gate valueFromWords scalarTail convertChecked
  cases strFromWords ws with
  | none => simp only [Py.isNone]; cases a.allowNone <;> rfl
  | auto => simp only [Py.isNone, Py.isAuto]; rfl
  | str s =>
    simp only
    cases numberFromValueString env ws s with
    | error e => rfl
    | ok raw =>
      cases raw with
      | none => simp only [Py.isNone]; cases a.allowNone <;> rfl
      | auto => simp only [Py.isNone, Py.isAuto]; rfl
      | _ =>
        dsimp only
        exact checked_tail _ _ ws id (fun value t => if Py.isNone value then
            (if a.allowNone then .ok value else .error (.runtime "cannot_be_none" Option.none))
          else if Py.isAuto value then .ok value else t) (fun _ _ => rfl) (fun _ _ => rfl) _ (fromNumber_ok isInt ws _)
  | bool b => rfl
  | int i => rfl
  | conv c => rfl

/-! ### numbers_converters_base.from_words: None / Auto, size check, element gates and range checks -/

/-- the model's `numbersFromWords` read as an object: `None` | `Auto` | the list of raw numbers -/
def numbersObj (env : EvalEnv) (ws : List Word) : R PVal :=
  match numbersFromWords env ws with
  | .error e => .error e
  | .ok (.inr ()) => .ok .auto
  | .ok (.inl Option.none) => .ok .none
  | .ok (.inl (some l)) => .ok (.list l)

/-- the translated `numbers_converters_base.from_words`, applied to the model's `numbersFromWords` and
    `intFromNumber` / `floatFromNumber`, is the model's `fromWords` of an `ints` / `floats` type -/
theorem numbers_gate_eq (isInt : Bool) (a : ListArgs) (env : EvalEnv) (opt : AttrVal) (ws : List Word) :
    Gen.numbers_from_words_gate a.sizeMin a.sizeMax a.valueMin a.valueMax a.allowNoneEl a.allowAutoEl
        (fun n ws => if isInt then intFromNumber ws n else floatFromNumber ws n) (numbersObj env) ws
      = fromWords (if isInt then .ints a else .floats a) env opt ws := by
  have hfw : fromWords (if isInt then .ints a else .floats a) env opt ws = listTail isInt a env ws := by
    cases isInt
    · exact fromWords_floats_eq a env opt ws
    · exact fromWords_ints_eq a env opt ws
  rw [hfw]
  unfold Gen.numbers_from_words_gate numbersObj listTail elemStep
  cases numbersFromWords env ws with
  | error e => rfl
  | ok r =>
    rcases r with (_ | raws) | ⟨⟨⟩⟩
    · rfl
    · have hs := check_size_eq a.sizeMin a.sizeMax ws true raws.length
      simp only [optWords, if_true] at hs
      have h0 : (Py.isNone (PVal.list raws) || Py.isAuto (PVal.list raws)) = false := rfl
      simp only [h0, Py.vlen, Py.items, Bool.false_eq_true, if_false, hs]
      cases checkSize a.sizeMin a.sizeMax ws true raws.length with
      | error e => rfl
      | ok u =>
        have hmap : ∀ F : R (List PVal), ((match F with
            | .error e => .error e
            | .ok result => .ok (PVal.list result)) : R PVal) = F.map PVal.list := by
          intro F; cases F <;> rfl
        -- the two loop bodies agree on every accumulator and element
        refine (hmap _).trans (congrArg (Except.map PVal.list)
          (congrArg (fun f => List.foldlM f ([] : List PVal) raws) (funext fun acc => funext fun raw => ?_)))
        cases raw with
        | none => rfl
        | auto => rfl
        | _ => exact checked_tail _ _ ws (acc ++ [·]) (fun _ t => t) (fun _ _ => rfl) (fun _ _ => rfl) _ (fromNumber_ok isInt ws _)
    · rfl

end Phil.Translated2

#print axioms Phil.Translated2.bool_from_words_eq
#print axioms Phil.Translated2.bool_from_words_model
#print axioms Phil.Translated2.check_value_eq
#print axioms Phil.Translated2.check_value_num
#print axioms Phil.Translated2.check_value_bool
#print axioms Phil.Translated2.check_value_non_number
#print axioms Phil.Translated2.check_size_eq
#print axioms Phil.Translated2.int_from_number_eq
#print axioms Phil.Translated2.float_from_number_eq
#print axioms Phil.Translated2.number_gate_eq
#print axioms Phil.Translated2.numbers_gate_eq
