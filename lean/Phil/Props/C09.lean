/-
  C09 — Python objects written back to PHIL (`type.as_words`) and read again (`type.from_words`) are
  unchanged; formatting refuses values that break the declared bounds, sizes, alternatives or None
  rules.  All statements are for values of any size.  CPython's `int()`/`eval` (`env`) and
  `"%.10g" % x` (`fmt`) are parameters; the only assumption made about them is `EnvDecimal`
  (`int(str(i)) == i`), and only where stated.
  Lemmas are in Phil/Proofs/RoundTrip.lean.  The quoting/tokenizing leg
  (word ↦ text ↦ word) is property C03 (`Phil.C03.tokenize_quote`).
-/
import Phil.Proofs.RoundTrip
namespace Phil.C09
open Phil

/-- used by the concrete examples only (`decide +kernel` on results that hold printed numbers) -/
local instance {ε α : Type} [DecidableEq ε] [DecidableEq α] : DecidableEq (Except ε α) := fun a b =>
  match a, b with
  | .ok x, .ok y => if h : x = y then isTrue (by rw [h]) else isFalse (fun e => h (by cases e; rfl))
  | .error x, .error y => if h : x = y then isTrue (by rw [h]) else isFalse (fun e => h (by cases e; rfl))
  | .ok _, .error _ => isFalse (fun e => by cases e)
  | .error _, .ok _ => isFalse (fun e => by cases e)

/-! ### 1. integers survive exactly, any magnitude -/

/-- `str(i)` is read back as `i`: the digit string of every natural number evaluates to it, and the
    printed form of every integer (sign included) parses to that integer. -/
theorem digits_round_trip :
    (∀ n : Nat, digitsVal (natDigits n) = some n) ∧ (∀ i : Int, parseIntLit (intStr i) = some i) :=
  ⟨digitsVal_natDigits, parseIntLit_intStr⟩

example : parseIntLit (intStr (-123456789012345678901234567890)) = some (-123456789012345678901234567890) :=
  digits_round_trip.2 _

/-! ### 2. bool, None, Auto -/

/-- `True`/`False` are written as the words `True`/`False` and read back as the same bool, whatever
    the evaluator and the `.optional` attribute. -/
theorem bool_round_trip (fmt : FmtEnv) (env : EvalEnv) (opt opt' : AttrVal) (mws ws : List Word) (b : Bool)
    (h : asWords .bool fmt opt mws (.bool b) = .ok ws) :
    fromWords .bool env opt' ws = .ok (.bool b) := by
  rw [asWords_bool] at h
  cases h
  exact fromWords_bool_word env opt' b

example : asWords .bool (fun _ => none) .none [] (.bool true) = .ok [wordOf "True"] := rfl

/-- `None`, every type except `choice`: whenever `as_words` accepts `None` (it refuses for
    `int`/`float` with `allow_none=False`), the word is `None` and it is read back as `None`. -/
theorem none_round_trip (c : Conv) (hc : ∀ m, c ≠ .choice m) (fmt : FmtEnv) (env : EvalEnv)
    (opt opt' : AttrVal) (mws ws : List Word) (h : asWords c fmt opt mws .none = .ok ws) :
    ws = [wordOf "None"] ∧ fromWords c env opt' ws = .ok .none := by
  obtain ⟨rfl, hn⟩ := asWords_none_cases c hc fmt opt mws ws h
  exact ⟨rfl, fromWords_none_word c hc hn env opt'⟩

example : asWords (.ints {}) (fun _ => none) .none [] .none = .ok [wordOf "None"] := rfl

/-- `None` for a single `choice` means "no alternative starred": `as_words` writes the master's
    alternatives with their stars removed (and refuses when the choice is mandatory); reading that
    back gives `None` provided no alternative of the master carries two stars and the result is not
    the single bare word `auto` (see the two witnesses below). -/
theorem choice_none_round_trip (fmt : FmtEnv) (env : EvalEnv) (opt : AttrVal) (mws ws : List Word)
    (hds : NoDoubleStar mws) (h : asWords (.choice false) fmt opt mws .none = .ok ws)
    (hpa : isPlainAuto ws = false) :
    ws = mws.map unstar ∧ fromWords (.choice false) env opt ws = .ok .none :=
  (Phil.choice_none_round_trip fmt env opt mws ws hds h).imp_right (· hpa)

example : asWords (.choice false) (fun _ => none) .none [wordOf "*a", wordOf "b"] .none
    = .ok [wordOf "a", wordOf "b"] := rfl

/-- a multi `choice` has no `None` (AssertionError); its "nothing selected" is the empty list, which
    round-trips under the same two conditions. -/
theorem multi_choice_none_refused (fmt : FmtEnv) (opt : AttrVal) (mws : List Word) :
    asWords (.choice true) fmt opt mws .none = .error (.stray "AssertionError" "choice_as_words") := rfl

theorem multi_choice_empty_round_trip (fmt : FmtEnv) (env : EvalEnv) (opt : AttrVal) (mws ws : List Word)
    (hds : NoDoubleStar mws) (h : asWords (.choice true) fmt opt mws (.list []) = .ok ws)
    (hpa : isPlainAuto ws = false) :
    ws = mws.map unstar ∧ fromWords (.choice true) env opt ws = .ok (.list []) :=
  (Phil.multi_choice_empty_round_trip fmt env opt mws ws hds h).imp_right (· hpa)

example : asWords (.choice true) (fun _ => none) .none [wordOf "*a", wordOf "b"] (.list [])
    = .ok [wordOf "a", wordOf "b"] := rfl

/-- witness: the side conditions are needed.  A master whose only alternative is the bare word
    `auto` turns `None` into `Auto`; a master alternative `**a` turns `None` into `"a"`. -/
theorem choice_none_collapses_on_auto_master (env : EvalEnv) (fmt : FmtEnv) :
    asWords (.choice false) fmt .none [wordOf "auto"] .none = .ok [wordOf "auto"] ∧
    fromWords (.choice false) env .none [wordOf "auto"] = .ok .auto := ⟨rfl, rfl⟩

theorem choice_none_collapses_on_double_star (env : EvalEnv) (fmt : FmtEnv) :
    asWords (.choice false) fmt .none [wordOf "**a", wordOf "b"] .none = .ok [wordOf "*a", wordOf "b"] ∧
    fromWords (.choice false) env .none [wordOf "*a", wordOf "b"] = .ok (.str "a".toList) := ⟨rfl, rfl⟩

/-- `Auto`, every type (choice included): written as the word `Auto`, read back as `Auto`. -/
theorem auto_round_trip (c : Conv) (fmt : FmtEnv) (env : EvalEnv) (opt opt' : AttrVal)
    (mws ws : List Word) (h : asWords c fmt opt mws .auto = .ok ws) :
    ws = [wordOf "Auto"] ∧ fromWords c env opt' ws = .ok .auto := by
  rw [asWords_auto] at h
  cases h
  exact ⟨rfl, fromWords_auto_word c env opt'⟩

example : asWords (.choice true) (fun _ => none) .none [wordOf "a"] .auto = .ok [wordOf "Auto"] := rfl

/-! ### 3. strings survive character for character -/

/-- `str` and `key`: every string (any characters, the empty string, `None`, `Auto` …) is written
    as one double-quoted word holding exactly the string, and a quoted word holding `s` is read as
    `s`, whatever its quote style and line. -/
theorem str_round_trip (c : Conv) (hc : c = .str ∨ c = .key) (fmt : FmtEnv) (env : EvalEnv)
    (opt opt' : AttrVal) (mws : List Word) (s : Str) :
    asWords c fmt opt mws (.str s) = .ok [⟨s, some .d1, none⟩] ∧
    ∀ l, fromWords c env opt' [⟨s, some .d1, l⟩] = .ok (.str s) :=
  ⟨asWords_str c (by rcases hc with h | h <;> simp [h]) fmt opt mws s,
   fun l => fromWords_str_quoted c hc env opt' .d1 l s⟩

example : fromWords .str (fun _ => none) .none [⟨"None".toList, some .d1, some 3⟩] = .ok (.str "None".toList) :=
  (str_round_trip .str (.inl rfl) (fun _ => none) _ .none .none [] _).2 _

/-- `path`: the same for every string that does not start with `~` (for those the model declares
    `os.path.expanduser` outside its domain). -/
theorem path_round_trip (fmt : FmtEnv) (env : EvalEnv) (opt opt' : AttrVal) (mws : List Word) (s : Str)
    (hs : s.take 1 ≠ ['~']) :
    asWords .path fmt opt mws (.str s) = .ok [⟨s, some .d1, none⟩] ∧
    ∀ l, fromWords .path env opt' [⟨s, some .d1, l⟩] = .ok (.str s) :=
  ⟨asWords_str .path (.inr (.inr rfl)) fmt opt mws s, fun l => fromWords_path_quoted env opt' .d1 l s hs⟩

theorem path_tilde_unsupported (env : EvalEnv) (opt : AttrVal) (l : Option Nat) (s : Str) :
    fromWords .path env opt [⟨'~' :: s, some .d1, l⟩] = .error (.unsupported "expanduser") := rfl

example : fromWords .path (fun _ => none) .none [⟨"/a b/c".toList, some .d1, none⟩] = .ok (.str "/a b/c".toList) :=
  (path_round_trip (fun _ => none) _ .none .none [] _ (by decide)).2 _

/-! ### 4. lists of strings -/

/-- `strings`: every list of strings (the empty list included) is written as one word per element,
    holding exactly the element, in order, and is read back as the same list.  The bare/quoted
    decision never produces a plain `None`/`Auto` word. -/
theorem strings_round_trip (fmt : FmtEnv) (env : EvalEnv) (opt opt' : AttrVal) (mws ws : List Word)
    (l : List Str) (h : asWords .strings fmt opt mws (.list (l.map PVal.str)) = .ok ws) :
    ws.map (·.value) = l ∧ fromWords .strings env opt' ws = .ok (.list (l.map PVal.str)) := by
  obtain ⟨out, ws', hf, h1, h2, h3⟩ := foldlM_strStep l ([], false)
  rw [asWords_strings_list, hf] at h
  cases h
  show (out.1).map (·.value) = l ∧ fromWords .strings env opt' out.1 = _
  rw [h1, List.nil_append]
  refine ⟨h2, ?_⟩
  have : fromWords .strings env opt' ws' =
    if isPlainNone ws' then .ok .none else if isPlainAuto ws' then .ok .auto
    else .ok (.list (ws'.map (fun w => .str w.value))) := rfl
  rw [this, (not_plain ws' h3).1, (not_plain ws' h3).2, ← h2, List.map_map]
  rfl

/-- … and `as_words` never fails on a list of strings. -/
theorem strings_as_words_total (fmt : FmtEnv) (opt : AttrVal) (mws : List Word) (l : List Str) :
    ∃ ws, asWords .strings fmt opt mws (.list (l.map PVal.str)) = .ok ws := by
  obtain ⟨out, _, hf, _⟩ := foldlM_strStep l ([], false)
  exact ⟨out.1, by rw [asWords_strings_list, hf]; rfl⟩

example : asWords .strings (fun _ => none) .none [] (.list (["a".toList, "None".toList, "b c".toList].map PVal.str))
    = .ok [⟨"a".toList, none, none⟩, ⟨"None".toList, some .d1, none⟩, ⟨"b c".toList, some .d1, none⟩] := by
  decide +kernel

/-! ### 5. ints -/

/-- `int`: if `as_words` accepts the integer `i` (it checks the bounds), the word is `str(i)`
    and reading it back gives `i` — the bounds `from_words` checks are the ones `as_words` checked. -/
theorem int_round_trip (a : NumArgs) (fmt : FmtEnv) (env : EvalEnv) (opt opt' : AttrVal)
    (mws ws : List Word) (i : Int) (henv : EnvDecimal env)
    (h : asWords (.int a) fmt opt mws (.num (.int i)) = .ok ws) :
    ws = [{ value := intStr i }] ∧ fromWords (.int a) env opt' ws = .ok (.num (.int i)) := by
  change scalarAsWords true a fmt (.num (.int i)) = .ok ws at h
  unfold scalarAsWords numChk at h
  simp only at h
  split at h
  · cases h
  · rename_i hc
    cases h
    refine ⟨rfl, ?_⟩
    rw [fromWords_int_eq,
      scalarTail_plain true a env _ _ _ (strFromWords_int_word i _ _) (intStr_not_special i) (henv i)]
    simp only [convertChecked, ↓reduceIte, intFromNumber,
      (checkValue_ok_iff _ _ _ _ _).mpr ((checkValue_ok_iff _ _ _ _ _).mp hc)]
    rfl

/-- the evaluator used in the examples: decimal integer literals only -/
def envDec : EvalEnv := fun s => (parseIntLit s).map (fun i => .num (.int i))
theorem envDec_decimal : EnvDecimal envDec := fun i => by simp [envDec, parseIntLit_intStr]

example : asWords (.int { valueMin := some (.int (-5)) }) (fun _ => none) .none [] (.num (.int (-3)))
    = .ok [wordOf "-3"] := by decide +kernel
example : fromWords (.int { valueMin := some (.int (-5)) }) envDec .none [wordOf "-3"] = .ok (.num (.int (-3))) :=
  (int_round_trip _ (fun _ => none) envDec .none .none [] _ (-3) envDec_decimal (by decide +kernel)).2

/-- `ints`: a list whose elements are ints (and `None`/`Auto` where the type allows them), of
    length ≥ 2 or consisting of one number, is written as one word per element and read back
    unchanged (sizes and bounds included).  That all elements are of these kinds follows from the
    success of `as_words`.  The remaining lists — `[]`, `[None]`, `[Auto]` — are the witnesses of
    section 7. -/
theorem ints_round_trip (a : ListArgs) (fmt : FmtEnv) (env : EvalEnv) (opt opt' : AttrVal)
    (mws ws : List Word) (l : List PVal) (henv : EnvDecimal env)
    (hne : 2 ≤ l.length ∨ ∃ i, l = [.num (.int i)])
    (h : asWords (.ints a) fmt opt mws (.list l) = .ok ws) :
    ws = l.map elemWordOf ∧ fromWords (.ints a) env opt' ws = .ok (.list l) := by
  rw [asWords_ints_eq] at h
  unfold listAsWords at h
  split at h
  · cases h
  · rename_i hs
    have hws : ws = l.map elemWordOf := by
      simpa using mapR_names _ elemWordOf id (fun x w hw => (elemWord_int_ok a fmt x w hw).1) l ws h
    have hok : ∀ x ∈ l, IntElemOk a x := fun x hx => by
      obtain ⟨w, _, hw⟩ := mapR_mem _ l ws h x hx
      exact (elemWord_int_ok _ _ _ _ hw).2
    refine ⟨hws, ?_⟩
    subst hws
    have hstr := strFromWords_elems l hne
    have hparts : ∀ p ∈ l.map elemText, p ≠ [] ∧ ∀ c ∈ p, GoodChar c := by
      intro p hp
      obtain ⟨x, hx, rfl⟩ := List.mem_map.mp hp
      have := intElem_facts env henv a [] x (hok x hx)
      exact ⟨this.1, this.2.1⟩
    have hlne : l.map elemText ≠ [] := by
      rcases hne with h2 | ⟨i, rfl⟩
      · intro e; have := congrArg List.length e; simp at this; rw [this] at h2; simp at h2
      · simp
    -- the joined text starts with a harmless character
    obtain ⟨c, t, hct, p, hp, hcp⟩ := joinWith_first [' '] _ hlne (fun p hp => (hparts p hp).1)
    obtain ⟨_, _, _, hc1, hc2⟩ := (hparts p hp).2 c hcp
    have hnum : numbersFromWords env (l.map elemWordOf) = .ok (.inl (some l)) := by
      rw [numbersFromWords_str env _ _ hstr, hct, stripBrackets_of_head _ c t hc1 hc2, ← hct,
        map_commaBlank_join _ (fun p hp => (hparts p hp).2),
        splitWs_join _ hlne (fun p hp => ⟨(hparts p hp).1, fun c hc => ((hparts p hp).2 c hc).1⟩),
        mapR_map_id _ _ _ (fun x hx => (intElem_facts env henv a _ x (hok x hx)).2.2.1)]
      rfl
    rw [fromWords_ints_eq, listTail_of_raws true a env _ l hnum ((checkSize_ok_iff _ _ _ _ _).mp hs)]
    have := mapR_of_forall (elemConv true a (l.map elemWordOf)) id l
      (fun x hx => (intElem_facts env henv a _ x (hok x hx)).2.2.2)
    rw [this]; simp [Except.map]

example : asWords (.ints { allowNoneEl := true, sizeMax := some 3 }) (fun _ => none) .none []
      (.list [.none, .num (.int (-5)), .none]) = .ok [wordOf "None", wordOf "-5", wordOf "None"] := by
  decide +kernel
example : fromWords (.ints { allowNoneEl := true, sizeMax := some 3 }) envDec .none
      [wordOf "None", wordOf "-5", wordOf "None"] = .ok (.list [.none, .num (.int (-5)), .none]) :=
  (ints_round_trip _ (fun _ => none) envDec .none .none [] _ _ envDec_decimal (.inl (by decide))
    (by decide +kernel)).2

/-! ### 6. formatting refuses values outside the declaration -/

/-- (a) a number `v` is refused with "value_min" by `int` and `float` exactly when Python's
    `value_min <= v` is false (`v` below the bound, or `v` = nan) … -/
theorem asWords_refuses_below_min (c : Conv) (a : NumArgs) (hc : c = .int a ∨ c = .float a)
    (fmt : FmtEnv) (opt : AttrVal) (mws : List Word) (v lo : PNum)
    (h1 : a.valueMin = some lo) :
    asWords c fmt opt mws (.num v) = .error (.runtime "value_min" none) ↔ pyLe lo v = false := by
  obtain ⟨isInt, hw⟩ := asWords_num hc fmt opt mws
  rw [hw]; exact scalarAsWords_value_min_iff isInt a fmt v lo h1

/-- … and with "value_max" exactly when `v <= value_max` is false while `value_min <= v` (reported
    first) holds. -/
theorem asWords_refuses_above_max (c : Conv) (a : NumArgs) (hc : c = .int a ∨ c = .float a)
    (fmt : FmtEnv) (opt : AttrVal) (mws : List Word) (v hi : PNum)
    (h1 : a.valueMax = some hi) :
    asWords c fmt opt mws (.num v) = .error (.runtime "value_max" none) ↔
      (pyLe v hi = false ∧ ∀ lo, a.valueMin = some lo → pyLe lo v = true) := by
  obtain ⟨isInt, hw⟩ := asWords_num hc fmt opt mws
  rw [hw]; exact scalarAsWords_value_max_iff isInt a fmt v hi h1

/-- in particular `nan` is never written for a type with a declared bound -/
theorem asWords_refuses_nan (a : NumArgs) (fmt : FmtEnv) (opt : AttrVal) (mws : List Word)
    (hb : a.valueMin.isSome = true ∨ a.valueMax.isSome = true) :
    asWords (.float a) fmt opt mws (.num .nan) =
      .error (.runtime (if a.valueMin.isSome then "value_min" else "value_max") none) := by
  cases h1 : a.valueMin with
  | some lo =>
    exact (asWords_refuses_below_min _ a (.inr rfl) fmt opt mws .nan lo h1).mpr (pyLe_nan_right lo)
  | none =>
    cases h2 : a.valueMax with
    | none => simp [h1, h2] at hb
    | some hi =>
      exact (asWords_refuses_above_max _ a (.inr rfl) fmt opt mws .nan hi h2).mpr
        ⟨pyLe_nan_left hi, by simp [h1]⟩

example : asWords (.int { valueMin := some (.int 3) }) (fun _ => none) .none [] (.num (.int 2))
    = .error (.runtime "value_min" none) :=
  (asWords_refuses_below_min _ _ (.inl rfl) _ _ _ _ _ rfl).mpr (by decide +kernel)
example : asWords (.float { valueMax := some (.flt 1 2) }) (fun _ => none) .none [] (.num (.flt 3 4))
    = .error (.runtime "value_max" none) :=
  (asWords_refuses_above_max _ _ (.inr rfl) _ _ _ _ _ rfl).mpr ⟨by decide +kernel, by simp⟩
example : asWords (.float { valueMax := some (.flt 1 2) }) (fun _ => none) .none [] (.num .nan)
    = .error (.runtime "value_max" none) :=
  asWords_refuses_nan _ _ _ _ (.inr rfl)

/-- (b) `None` is refused by `int`/`float` declared with `allow_none=False`. -/
theorem asWords_refuses_none (c : Conv) (a : NumArgs) (hc : c = .int a ∨ c = .float a)
    (fmt : FmtEnv) (opt : AttrVal) (mws : List Word) (h : a.allowNone = false) :
    asWords c fmt opt mws .none = .error (.runtime "cannot_be_none" none) := by
  have : asWords c fmt opt mws .none =
      if a.allowNone then .ok [wordOf "None"] else .error (.runtime "cannot_be_none" Option.none) := by
    rcases hc with rfl | rfl <;> rfl
  rw [this, h]; rfl

example : asWords (.int { allowNone := false }) (fun _ => none) .none [] .none
    = .error (.runtime "cannot_be_none" none) := asWords_refuses_none _ _ (.inl rfl) _ _ _ rfl

/-- (c) a list longer than `size_max` is refused by `ints`/`floats` … -/
theorem asWords_refuses_too_many (c : Conv) (a : ListArgs) (hc : c = .ints a ∨ c = .floats a)
    (fmt : FmtEnv) (opt : AttrVal) (mws : List Word) (l : List PVal) (M : Int)
    (h1 : a.sizeMax = some M) (h2 : M < (l.length : Int)) :
    asWords c fmt opt mws (.list l) = .error (.runtime "too_many" none) := by
  obtain ⟨isInt, hw⟩ := asWords_list hc fmt opt mws
  rw [hw]; exact listAsWords_too_many isInt a fmt l M h1 h2

/-- … one shorter than `size_min` (and not too long) too … -/
theorem asWords_refuses_not_enough (c : Conv) (a : ListArgs) (hc : c = .ints a ∨ c = .floats a)
    (fmt : FmtEnv) (opt : AttrVal) (mws : List Word) (l : List PVal) (m : Int)
    (h1 : a.sizeMin = some m) (h2 : (l.length : Int) < m)
    (h3 : ∀ M, a.sizeMax = some M → (l.length : Int) ≤ M) :
    asWords c fmt opt mws (.list l) = .error (.runtime "not_enough" none) := by
  obtain ⟨isInt, hw⟩ := asWords_list hc fmt opt mws
  rw [hw]; exact listAsWords_not_enough isInt a fmt l m h1 h2 h3

/-- … and a list holding `None` (resp. `Auto`) anywhere is never accepted when the type does not
    allow such elements; when it is the first element and the size is right the error is
    "element_none" (resp. "element_auto"). -/
theorem asWords_refuses_none_element (c : Conv) (a : ListArgs) (hc : c = .ints a ∨ c = .floats a)
    (fmt : FmtEnv) (opt : AttrVal) (mws : List Word) (l : List PVal)
    (h : a.allowNoneEl = false) (hm : PVal.none ∈ l) :
    ∃ e, asWords c fmt opt mws (.list l) = .error e := by
  obtain ⟨isInt, hw⟩ := asWords_list hc fmt opt mws
  rw [hw]
  exact listAsWords_error_of_elem isInt a fmt l .none (.runtime "element_none" none) hm (by simp [elemWord, h])

theorem asWords_refuses_auto_element (c : Conv) (a : ListArgs) (hc : c = .ints a ∨ c = .floats a)
    (fmt : FmtEnv) (opt : AttrVal) (mws : List Word) (l : List PVal)
    (h : a.allowAutoEl = false) (hm : PVal.auto ∈ l) :
    ∃ e, asWords c fmt opt mws (.list l) = .error e := by
  obtain ⟨isInt, hw⟩ := asWords_list hc fmt opt mws
  rw [hw]
  exact listAsWords_error_of_elem isInt a fmt l .auto (.runtime "element_auto" none) hm (by simp [elemWord, h])

theorem asWords_refuses_none_first (c : Conv) (a : ListArgs) (hc : c = .ints a ∨ c = .floats a)
    (fmt : FmtEnv) (opt : AttrVal) (mws : List Word) (l : List PVal)
    (h : a.allowNoneEl = false) (hs : sizeOk a.sizeMin a.sizeMax (PVal.none :: l).length = true) :
    asWords c fmt opt mws (.list (.none :: l)) = .error (.runtime "element_none" none) := by
  obtain ⟨isInt, hw⟩ := asWords_list hc fmt opt mws
  rw [hw]
  exact listAsWords_head_error isInt a fmt .none l _ hs (by simp [elemWord, h])

example : asWords (.ints { sizeMax := some 1 }) (fun _ => none) .none [] (.list [.num (.int 2), .num (.int 2)])
    = .error (.runtime "too_many" none) := asWords_refuses_too_many _ _ (.inl rfl) _ _ _ _ 1 rfl (by decide)
example : asWords (.ints { sizeMin := some 3 }) (fun _ => none) .none [] (.list [.num (.int 2), .num (.int 2)])
    = .error (.runtime "not_enough" none) :=
  asWords_refuses_not_enough _ _ (.inl rfl) _ _ _ _ 3 rfl (by decide) (by simp)
example : asWords (.ints {}) (fun _ => none) .none [] (.list [.none, .num (.int 2)])
    = .error (.runtime "element_none" none) := asWords_refuses_none_first _ _ (.inl rfl) _ _ _ _ rfl rfl

/-- (d) a single choice refuses a name that is not one of the master's alternatives. -/
theorem asWords_refuses_unknown_choice (fmt : FmtEnv) (opt : AttrVal) (mws : List Word) (s : Str)
    (h : ∀ w ∈ mws, (stripStar w.value).1 ≠ s) :
    asWords (.choice false) fmt opt mws (.str s) = .error (.runtime "invalid_choice" none) := by
  rw [asWords_choice_str]
  have : mws.filter (fun w => (stripStar w.value).1 == s) = [] := by
    rw [List.filter_eq_nil_iff]
    intro w hw
    simpa using h w hw
  simp [this]

example : asWords (.choice false) (fun _ => none) .none [wordOf "*a", wordOf "b"] (.str "c".toList)
    = .error (.runtime "invalid_choice" none) :=
  asWords_refuses_unknown_choice _ _ _ _ (by decide)

/-! ### 7. recorded findings: lists that have no spelling of their own -/

/-- the empty list is accepted by `ints.as_words` (no size given) and becomes no words at all — so
    there is nothing to print after `name =`, and the printed definition cannot be parsed back. -/
theorem empty_list_has_no_spelling (fmt : FmtEnv) :
    asWords (.ints {}) fmt .none [] (.list []) = .ok [] := rfl

/-- the one-element list `[None]` is written as the single word `None`, which reads back as the
    scalar `None`, not as a list. -/
theorem singleton_none_list_collapses (fmt : FmtEnv) (env : EvalEnv) :
    asWords (.ints { allowNoneEl := true }) fmt .none [] (.list [.none]) = .ok [wordOf "None"] ∧
    fromWords (.ints { allowNoneEl := true }) env .none [wordOf "None"] = .ok .none := ⟨rfl, rfl⟩

/-- the same for `[Auto]`. -/
theorem singleton_auto_list_collapses (fmt : FmtEnv) (env : EvalEnv) :
    asWords (.ints { allowAutoEl := true }) fmt .none [] (.list [.auto]) = .ok [wordOf "Auto"] ∧
    fromWords (.ints { allowAutoEl := true }) env .none [wordOf "Auto"] = .ok .auto := ⟨rfl, rfl⟩

end Phil.C09
