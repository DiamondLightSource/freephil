/-
  C06 (exact form) — "the reported list is EXACTLY the active source definitions whose full path
  names no active master parameter."

  Model: Phil/Fetch.lean (`fetchScope`/`fetchRoot`; the `.tmp` marks are the returned list `used`),
  Phil/CmdLine.lean (`allDefinitions`); the driver reports `unusedOf sources used`
  (Phil/Props/C06.lean).  Lemmas: Phil/Proofs/FetchSpec.lean, part A.

  Class covered (unbounded: every such master, every such source list, every fuel):
    * master: FLAT — enabled definitions, pairwise distinct non-empty names, not `.multiple`, not
      `.deprecated`, no choice type (`FlatMaster`), names dot-free (the parser never produces a
      definition whose name contains a dot: `a.b = 1` becomes `a { b = 1 }`), fetched at the root,
      non-diff mode;
    * sources: root-level definitions AND scopes; the scopes are named (`name ≠ []`, as the parser
      guarantees) and have arbitrary contents at any depth; variable-free (`srcRefs = []`,
      `SrcOK`).
  Facts:
    * `clash_fails`: an enabled root-level source scope bearing the name of a master definition
      makes the fetch raise RuntimeError ("incompatible") — so the theorems below are stated for
      the success case, with no further hypothesis;
    * `flat_used_exact`: the consumed ids are exactly the ids of the enabled root-level source
      definitions named like a master child;
    * `flat_unused_exact` / `fetchRoot_unused_exact`: with pairwise distinct ids, the reported
      list is exactly the sub-list of `all_definitions(sources)` whose path is no master name;
      in particular every definition nested in a source scope is reported;
    * `fetch_flat_mixed`: complete description of the result (source scopes are ignored).
-/
import Phil.Proofs.FetchSpec
import Phil.Props.C06
import Phil.Props.C05
import Phil.Parse
set_option linter.unusedVariables false
namespace Phil.C06
open Phil

/-- the driver's list is the `notConsumed` filter of `all_definitions` -/
theorem unusedOf_eq (sources : List Obj) (used : List Nat) :
    unusedOf sources used = (allDefinitions sources).filter (notConsumed used) := rfl

/-- **A source scope named like a master definition is an error.** -/
theorem clash_fails (e : Envs) (fuel : Nat) (sm : Meta) (mkids combined : List Obj)
    (hf : FlatMaster mkids) (hdot : ∀ mo ∈ mkids, '.' ∉ mo.name)
    (hsm : sm.name = []) (hsd : sm.disabled = false)
    (hsc : ∀ m kids, Obj.scope m kids ∈ combined → m.name ≠ [])
    (hsrc : ∀ o ∈ combined, o.isDefn = true → SrcOK o)
    (m : Meta) (k : List Obj) (hm : Obj.scope m k ∈ combined) (hmd : m.disabled = false)
    (hmn : m.name ∈ mkids.map Obj.name) :
    fetchScope e (fuel + 1) false sm mkids combined = .error (.runtime "incompatible" none) :=
  fetch_flat_clash e fuel sm mkids combined hf hdot hsd hsc hsrc m k hm hmd hmn

/-- **Consumed ids, exactly.**  Whenever the fetch of a flat master succeeds, `i` is consumed iff it
    is the id of an enabled root-level source definition whose name is the name of a master
    child. -/
theorem flat_used_exact (e : Envs) (fuel : Nat) (sm : Meta) (mkids combined : List Obj)
    (hf : FlatMaster mkids) (hdot : ∀ mo ∈ mkids, '.' ∉ mo.name)
    (hsm : sm.name = []) (hsd : sm.disabled = false)
    (hsc : ∀ m kids, Obj.scope m kids ∈ combined → m.name ≠ [])
    (hsrc : ∀ o ∈ combined, o.isDefn = true → SrcOK o)
    (hrefs : ∀ o ∈ combined, srcRefs o = [])
    (ro : Obj) (used : List Nat)
    (h : fetchScope e fuel false sm mkids combined = .ok (ro, used)) (i : Nat) :
    i ∈ used ↔ ∃ d ∈ combined, d.isDefn = true ∧ d.meta.disabled = false ∧ d.meta.id = some i ∧
      d.name ∈ mkids.map Obj.name :=
  Phil.flat_used_exact e fuel sm mkids combined hf hdot hsm hsd hsc hsrc hrefs ro used h i

/-- **The reported list, exactly.**  Whenever the fetch of a flat master succeeds and the
    definitions of the sources carry pairwise distinct ids, the reported list is the list of the
    entries of `all_definitions(sources)` (in order) whose full path is not the name of a master
    parameter: every such definition is reported — those nested in source scopes included, their
    paths being dotted — and no consumed one is. -/
theorem flat_unused_exact (e : Envs) (fuel : Nat) (sm : Meta) (mkids combined : List Obj)
    (hf : FlatMaster mkids) (hdot : ∀ mo ∈ mkids, '.' ∉ mo.name)
    (hinc : "include".toList ∉ mkids.map Obj.name)
    (hsm : sm.name = []) (hsd : sm.disabled = false)
    (hsc : ∀ m kids, Obj.scope m kids ∈ combined → m.name ≠ [])
    (hsrc : ∀ o ∈ combined, o.isDefn = true → SrcOK o)
    (hrefs : ∀ o ∈ combined, srcRefs o = [])
    (hsome : ∀ x ∈ allDefinitions combined, x.2.1.id ≠ none)
    (hids : ((allDefinitions combined).map (fun x => x.2.1.id)).Nodup)
    (ro : Obj) (used : List Nat)
    (h : fetchScope e fuel false sm mkids combined = .ok (ro, used)) :
    unusedOf combined used =
      (allDefinitions combined).filter (fun x => !(mkids.map Obj.name).contains x.1) :=
  Phil.flat_unused_exact e fuel sm mkids combined hf hdot hinc hsm hsd hsc hsrc hrefs hsome hids ro used h

/-- membership form: an entry of `all_definitions(sources)` is reported iff its path names no master
    parameter -/
theorem reported_iff (e : Envs) (fuel : Nat) (sm : Meta) (mkids combined : List Obj)
    (hf : FlatMaster mkids) (hdot : ∀ mo ∈ mkids, '.' ∉ mo.name)
    (hinc : "include".toList ∉ mkids.map Obj.name)
    (hsm : sm.name = []) (hsd : sm.disabled = false)
    (hsc : ∀ m kids, Obj.scope m kids ∈ combined → m.name ≠ [])
    (hsrc : ∀ o ∈ combined, o.isDefn = true → SrcOK o)
    (hrefs : ∀ o ∈ combined, srcRefs o = [])
    (hsome : ∀ x ∈ allDefinitions combined, x.2.1.id ≠ none)
    (hids : ((allDefinitions combined).map (fun x => x.2.1.id)).Nodup)
    (ro : Obj) (used : List Nat)
    (h : fetchScope e fuel false sm mkids combined = .ok (ro, used))
    (x : Str × Meta × List Word) :
    x ∈ unusedOf combined used ↔ x ∈ allDefinitions combined ∧ x.1 ∉ mkids.map Obj.name := by
  rw [flat_unused_exact e fuel sm mkids combined hf hdot hinc hsm hsd hsc hsrc hrefs hsome hids ro used h,
    List.mem_filter]
  simp

/-- **`master.fetch(sources)`** — the same for the entry point on parsed roots. -/
theorem fetchRoot_unused_exact (e : Envs) (master : List Obj) (ss : List (List Obj))
    (hf : FlatMaster master) (hdot : ∀ mo ∈ master, '.' ∉ mo.name)
    (hinc : "include".toList ∉ master.map Obj.name)
    (hsc : ∀ m kids, Obj.scope m kids ∈ ss.flatten → m.name ≠ [])
    (hsrc : ∀ o ∈ ss.flatten, o.isDefn = true → SrcOK o)
    (hrefs : ∀ o ∈ ss.flatten, srcRefs o = [])
    (hsome : ∀ x ∈ allDefinitions ss.flatten, x.2.1.id ≠ none)
    (hids : ((allDefinitions ss.flatten).map (fun x => x.2.1.id)).Nodup)
    (ro : Obj) (used : List Nat)
    (h : fetchRoot e false master ss = .ok (ro, used)) :
    unusedOf ss.flatten used =
      (allDefinitions ss.flatten).filter (fun x => !(master.map Obj.name).contains x.1) :=
  flat_unused_exact e _ _ master ss.flatten hf hdot hinc rfl rfl hsc hsrc hrefs hsome hids ro used h

/-- **Complete description of the result**: source scopes (not named like a master definition) are
    ignored; the fetch cannot fail. -/
theorem fetch_flat_mixed (e : Envs) (fuel : Nat) (sm : Meta) (mkids combined : List Obj)
    (hf : FlatMaster mkids) (hdot : ∀ mo ∈ mkids, '.' ∉ mo.name)
    (hsm : sm.name = []) (hsd : sm.disabled = false)
    (hmix : MixedSrc (mkids.map Obj.name) combined)
    (hsrc : ∀ o ∈ combined, o.isDefn = true → SrcOK o) :
    fetchScope e (fuel + 1) false sm mkids combined =
      .ok (.scope { sm with tmpl := 0 } (flatResult mkids (defnsOf combined)),
           flatUsed mkids (defnsOf combined)) :=
  Phil.fetch_flat_mixed e fuel sm mkids combined hf hdot hsd hmix hsrc

/-! ### non-vacuity -/

/-- sources for the master `a = 1 .type=int ; c = x` (`Phil.C05.flatM`):
    `a = 2 ; s { a = 5 ; !q = 0 ; t { c = 9 } } ; z = 1 ; !c = y ; a = 3` -/
def mixS : List Obj :=
  [.defn { name := ['a'], id := some 11 } [{ value := ['2'] }],
   .scope { name := ['s'], id := some 12 }
     [.defn { name := ['a'], id := some 13 } [{ value := ['5'] }],
      .defn { name := ['q'], id := some 14, disabled := true } [{ value := ['0'] }],
      .scope { name := ['t'], id := some 15 } [.defn { name := ['c'], id := some 16 } [{ value := ['9'] }]]],
   .defn { name := ['z'], id := some 17 } [{ value := ['1'] }],
   .defn { name := ['c'], id := some 18, disabled := true } [{ value := ['y'] }],
   .defn { name := ['a'], id := some 19 } [{ value := ['3'] }]]

/-- the consumed ids and the reported paths, evaluated -/
example :
    (match fetchRoot env12 false C05.flatM [mixS] with
     | .ok (ro, used) => some (used, (unusedOf mixS used).map (·.1),
         ro.children.map (fun k => k.words.map Word.value))
     | .error _ => none) =
      some ([11, 19], [['s', '.', 'a'], ['s', '.', 't', '.', 'c'], ['z']], [[['3']], [['x']]]) := by
  decide +kernel

theorem mixS_scopeNamed : ∀ m kids, Obj.scope m kids ∈ mixS → m.name ≠ [] := by
  intro m kids h
  simp only [mixS, List.mem_cons, List.not_mem_nil, or_false, reduceCtorEq, false_or, or_false] at h
  cases h
  decide

theorem mixS_srcOK : ∀ o ∈ mixS, o.isDefn = true → SrcOK o := by
  intro o ho _
  simp only [mixS, List.mem_cons, List.not_mem_nil, or_false] at ho
  rcases ho with rfl | rfl | rfl | rfl | rfl <;> exact .inr ⟨rfl, by decide⟩

theorem mixS_noRefs : ∀ o ∈ mixS, srcRefs o = [] := by
  intro o ho
  simp only [mixS, List.mem_cons, List.not_mem_nil, or_false] at ho
  rcases ho with rfl | rfl | rfl | rfl | rfl <;> rfl

theorem flatM_dotfree : ∀ mo ∈ C05.flatM, '.' ∉ mo.name := by
  intro mo hmo
  simp only [C05.flatM, List.mem_cons, List.not_mem_nil, or_false] at hmo
  rcases hmo with rfl | rfl <;> decide

/-- the hypotheses of `fetchRoot_unused_exact` are satisfiable: the theorem applied to the instance -/
example (ro : Obj) (used : List Nat) (h : fetchRoot env12 false C05.flatM [mixS] = .ok (ro, used)) :
    (unusedOf mixS used).map (·.1) = [['s', '.', 'a'], ['s', '.', 't', '.', 'c'], ['z']] := by
  have := fetchRoot_unused_exact env12 C05.flatM [mixS] C05.flatM_flat flatM_dotfree (by decide)
    (by simpa using mixS_scopeNamed) (by simpa using mixS_srcOK) (by simpa using mixS_noRefs)
    (by
      intro x hx
      have : ([mixS] : List (List Obj)).flatten = mixS := by simp
      rw [this] at hx
      have hall : ((allDefinitions mixS).all (fun x => x.2.1.id.isSome)) = true := by decide +kernel
      have := List.all_eq_true.mp hall x hx
      intro hn; rw [hn] at this; cases this)
    (by
      have : ([mixS] : List (List Obj)).flatten = mixS := by simp
      rw [this]
      decide +kernel)
    ro used h
  have hfl : ([mixS] : List (List Obj)).flatten = mixS := by simp
  rw [hfl] at this
  rw [this]
  decide +kernel

/-- a source scope called `c` clashes with the master definition `c` -/
example :
    errOf (fetchRoot env12 false C05.flatM
      [[.scope { name := ['c'], id := some 12 } [.defn { name := ['x'], id := some 13 } [{ value := ['5'] }]]]]) =
      some (.runtime "incompatible" none) := by
  decide +kernel

/-! ### flat masters with `.multiple` definitions -/

/-- **Consumed ids, exactly — masters with `.multiple` definitions** (`FlatMultiMaster`; the keys the
    list rule compares must be defined, `KeysDefined`; no enabled source scope bears a master
    name): every enabled root-level source definition named like a master child is consumed —
    also those that the list rule drops as duplicates or as equal to the master's value. -/
theorem flat_multi_used_exact (e : Envs) (fuel : Nat) (sm : Meta) (mkids combined : List Obj)
    (hf : FlatMultiMaster mkids) (hdot : ∀ mo ∈ mkids, '.' ∉ mo.name)
    (hsm : sm.name = []) (hsd : sm.disabled = false)
    (hmix : MixedSrc (mkids.map Obj.name) combined)
    (hsrc : ∀ o ∈ combined, o.isDefn = true → SrcOK o)
    (hrefs : ∀ o ∈ combined, srcRefs o = [])
    (hkeys : ∀ mo ∈ mkids, isMultiple mo = true →
      KeysDefined e fuel mo (activeNamed mo.name (defnsOf combined)))
    (ro : Obj) (used : List Nat)
    (h : fetchScope e (fuel + 1) false sm mkids combined = .ok (ro, used)) (i : Nat) :
    i ∈ used ↔ ∃ d ∈ combined, d.isDefn = true ∧ d.meta.disabled = false ∧ d.meta.id = some i ∧
      d.name ∈ mkids.map Obj.name := by
  rw [fetch_flat_multi_mixed e fuel sm mkids combined hf hdot hsd hmix hsrc hkeys] at h
  cases h
  exact mem_flatUsed_defnsOf mkids combined hrefs i

/-- **The reported list, exactly — masters with `.multiple` definitions.** -/
theorem flat_multi_unused_exact (e : Envs) (fuel : Nat) (sm : Meta) (mkids combined : List Obj)
    (hf : FlatMultiMaster mkids) (hdot : ∀ mo ∈ mkids, '.' ∉ mo.name)
    (hinc : "include".toList ∉ mkids.map Obj.name)
    (hsm : sm.name = []) (hsd : sm.disabled = false)
    (hmix : MixedSrc (mkids.map Obj.name) combined)
    (hsrc : ∀ o ∈ combined, o.isDefn = true → SrcOK o)
    (hrefs : ∀ o ∈ combined, srcRefs o = [])
    (hkeys : ∀ mo ∈ mkids, isMultiple mo = true →
      KeysDefined e fuel mo (activeNamed mo.name (defnsOf combined)))
    (hsome : ∀ x ∈ allDefinitions combined, x.2.1.id ≠ none)
    (hids : ((allDefinitions combined).map (fun x => x.2.1.id)).Nodup)
    (ro : Obj) (used : List Nat)
    (h : fetchScope e (fuel + 1) false sm mkids combined = .ok (ro, used)) :
    unusedOf combined used =
      (allDefinitions combined).filter (fun x => !(mkids.map Obj.name).contains x.1) :=
  unused_filter_exact (mkids.map Obj.name) combined used
    (by intro n hn; obtain ⟨mo, hmo, rfl⟩ := List.mem_map.mp hn; exact hdot mo hmo)
    hinc hsome hids
    (flat_multi_used_exact e fuel sm mkids combined hf hdot hsm hsd hmix hsrc hrefs hkeys ro used h)

/-! ### the same instance through the parser -/

/-- master text `a = 1 .type=int ; c = x`, source text with a nested scope: the parser's output has
    dot-free definition names, named scopes and pairwise distinct definition ids; the reported
    paths are the dotted ones and the unknown `z` -/
example :
    (match parseObjs "a = 1\n.type=int\nc = x\n".toList,
           parseObjs "a = 2\ns {\n  a = 5\n  t.c = 9\n}\nz = 1\n!c = y\na = 3\n".toList with
     | .ok m, .ok src =>
       (match fetchRoot env12 false m [src] with
        | .ok (_, used) => some ((unusedOf src used).map (fun x => String.ofList x.1),
            (m.map Obj.name).all (fun n => !n.contains '.'),
            decide (((allDefinitions src).map (fun x => x.2.1.id)).Nodup),
            (allDefinitions src).all (fun x => x.2.1.id.isSome))
        | .error _ => none)
     | _, _ => none) = some (["s.a", "s.t.c", "z"], true, true, true) := by
  -- a literal is `String.ofList […]` for the unifier and the kernel: no UTF-8 decoding; done in a hypothesis,
  -- since the check of a rewrite below the `match` evaluates the parse
  generalize hm : String.toList _ = m
  generalize hs : String.toList _ = s
  rw [String.toList_ofList] at hm hs
  subst hm hs
  decide +kernel

end Phil.C06
