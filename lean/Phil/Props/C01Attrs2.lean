/-
  C01 (part) — the attribute round trip, remaining classes.  Property theorems only; the lemmas are in
  Phil/Proofs/TextWrap.lean, AttrLines.lean, AttrTrees.lean and AttrRoundTrip.lean.  Continues Phil/Props/C01Attrs.lean.

  1. Free-text attributes that are WRAPPED and contain RUNS of blanks ("compared up to runs of white
     space" in the property text): the parser reads back `reflowStr` (the `textwrap` blocks joined by
     single blanks), which equals the original value up to runs of white space (`wsNorm`); the second
     print of the attribute is byte-identical exactly when `reflowStable` holds (finding D28 is the
     failing case); single-spaced text is always stable.
  2. (partly) a deprecated definition directly after a definition: the value collector of the line
     before consumes the `# WARNING` line (`warning_line_consumed`, `attribute_then_warning_one_turn`).
  3. Templates: what printing a FETCH RESULT and re-parsing gives (`fetch_result_prints_as_visible`,
     `fetch_result_reparsed`): `is_template = -1` objects are hidden below attributes level 2 and come
     back as ordinary objects from level 2 on.
-/
import Phil.Proofs.AttrRoundTrip
import Phil.Props.C01Attrs
namespace Phil.C01
open Phil

attribute [local instance] objDecEqInst exceptDecEqRT

/-! ### `textwrap.wrap` on arbitrary text

  `wordsOf s`: the maximal blank-free runs of `s` in order; `wsNorm s`: the words joined by single
  blanks (runs of blanks collapsed, both ends stripped).  `noOddWs s`: the only `textwrap` white space
  in `s` is the blank (no tab, newline, `\r`, `\x0b`, `\x0c`). -/

/-- **`textwrap.wrap(text, width, break_long_words=False, break_on_hyphens=False)` keeps the words**:
    for every text whose only white space is the blank (runs of any length, leading and trailing
    blanks included) and every width, the words of the lines, in order, are the words of the text, and
    the lines contain only characters of the text. -/
theorem wrap_keeps_words (s : Str) (hs : noOddWs s = true) (W : Nat) :
    (twWrap s W).flatMap wordsOf = wordsOf s ∧ ∀ b ∈ twWrap s W, ∀ d ∈ b, d ∈ s :=
  twWrap_words_ar2 s hs W

/-- the structural form, for ANY chunk list without empty chunks in which of two consecutive chunks
    one is white space (`sepOK`; true of the chunks of every text, `chunks_sepOK`): the lines of
    `_wrap_chunks` are concatenations of consecutive chunks, white-space chunks being dropped only
    between lines and at both ends (`SegW`) -/
theorem wrap_chunks_segments (W : Nat) (chunks : List Str) (h : sepOK chunks = true) (lines : List Str) :
    ∃ ps, SegW chunks ps ∧ twWrapChunks W (chunks.length + 1) chunks lines = lines.reverse ++ ps :=
  wrapChunks_seg_ar2 W _ chunks lines (Nat.le_refl _) h

theorem chunks_sepOK (s : Str) : sepOK (twChunks s) = true := (twChunks_inv_ar2 s).2

/-- joining lines by single blanks keeps the words -/
theorem words_of_joined (ps : List Str) : wordsOf (joinWith [' '] ps) = ps.flatMap wordsOf :=
  wordsOf_joinWith_ar2 ps

/-! ### a wrapped string attribute with runs of blanks

  `strWrapRunsOK pre w name s`: the value does not stay on the line of its name, the wrap width
  `w - 2 - indentation` is positive, `noOddWs s`, the text has at least one word, and it contains no
  backslash and no double quote (`noEsc`: the blocks are then printed without escapes; with escapes
  the statement holds too — validated — but is proved only for single-spaced text, C01Attrs). -/

/-- **C01, free text "up to runs of white space".**  A string attribute of the class that is wrapped:
    the printer yields the lines of `attrLineText`; `collect_assigned_words` + `assign_attribute` read
    them back as the string `reflowStr pre w name s` (the `textwrap` blocks joined by single blanks);
    and that value equals the original up to runs of white space. -/
theorem wrapped_runs_round_trip (isDef : Bool) (pre : Str) (hb : ∀ c ∈ pre, c = ' ') (width : Int)
    (n : String) (s : Str) (hk : kindOf isDef n = .str) (h : strWrapRunsOK pre width n s = true) :
    (∃ ls, attrLines pre width n (.str s) = .ok ls ∧ unlines ls = attrLineText pre width n (.str s)) ∧
    ReadsAs (attrTail pre width n (.str s)) (attrValueOf isDef n) (.str (reflowStr pre width n s)) ∧
    wsNorm (reflowStr pre width n s) = wsNorm s := by
  simp only [strWrapRunsOK, Bool.and_eq_true, Bool.not_eq_true', decide_eq_true_eq] at h
  obtain ⟨⟨⟨⟨hnot, hroom⟩, hws⟩, hne⟩, hword⟩ := h
  have hsesc : ∀ d ∈ s, d ≠ '\\' ∧ d ≠ '"' := by
    intro d hd
    have := (List.all_eq_true.mp hne) d hd
    simpa using this
  obtain ⟨hwords, hmem⟩ := twWrap_words_ar2 s hws (wrapWidth pre width n).toNat
  -- the blocks are their own escaped forms
  have hblocks : twWrap (escape '"' s) (wrapWidth pre width n).toNat
      = (twWrap s (wrapWidth pre width n).toNat).map (escape '"') := by
    rw [escape_id_ar2 '"' s hsesc]
    symm
    conv => rhs; rw [← List.map_id (twWrap s (wrapWidth pre width n).toNat)]
    apply List.map_congr_left
    intro b hb'
    exact escape_id_ar2 '"' b (fun d hd => hsesc d (hmem b hb' d hd))
  have hpne : twWrap s (wrapWidth pre width n).toNat ≠ [] := by
    intro e
    rw [e] at hwords
    simp only [List.flatMap_nil] at hwords
    rw [← hwords] at hword
    simp at hword
  obtain ⟨h1, h2⟩ := attr_line_wrapped isDef pre hb width n s hk hnot hroom (noTab_of_noOddWs_ar2 s hws) _ hpne
    hblocks
  refine ⟨h1, h2.readsAs, ?_⟩
  unfold wsNorm reflowStr
  rw [wordsOf_joinWith_ar2, hwords]

/-- the clause of the property by itself: the value read back equals the original up to runs of
    white space (no hypothesis on the width: it holds for every `textwrap` width) -/
theorem reparsed_value_up_to_whitespace (pre : Str) (width : Int) (n : String) (s : Str)
    (hs : noOddWs s = true) : wsNorm (reflowStr pre width n s) = wsNorm s := by
  unfold wsNorm reflowStr
  rw [wordsOf_joinWith_ar2, (twWrap_words_ar2 s hs _).1]

/-- **when the second print of the attribute is byte-identical** (decidable): printing the value read
    back gives the lines printed for the original value -/
def reflowStable (pre : Str) (width : Int) (name : String) (s : Str) : Bool :=
  attrLineText pre width name (.str (reflowStr pre width name s)) == attrLineText pre width name (.str s)

/-- **Print, parse, print again for one wrapped attribute — the exact condition.**  The text read back
    is `reflowStr`; its print equals the first print iff `reflowStable` (finding D28: not always). -/
theorem second_print_identical_iff (isDef : Bool) (pre : Str) (hb : ∀ c ∈ pre, c = ' ') (width : Int)
    (n : String) (s : Str) (hk : kindOf isDef n = .str) (h : strWrapRunsOK pre width n s = true) :
    ∃ v', ReadsAs (attrTail pre width n (.str s)) (attrValueOf isDef n) (.str v') ∧
      wsNorm v' = wsNorm s ∧
      (attrLineText pre width n (.str v') = attrLineText pre width n (.str s) ↔
        reflowStable pre width n s = true) := by
  obtain ⟨_, h2, h3⟩ := wrapped_runs_round_trip isDef pre hb width n s hk h
  exact ⟨_, h2, h3, by simp [reflowStable]⟩

/-- **single-spaced text is a fixed point**: the value read back is the value itself (hence
    `reflowStable`); this is the sufficient condition `v = wsNorm v` of the existing class -/
theorem single_spaced_is_fixed (pre : Str) (width : Int) (n : String) (s : Str)
    (hss : singleSpaced s = true) : reflowStr pre width n s = s ∧ reflowStable pre width n s = true := by
  have hs : joinWith [' '] (splitOn ' ' s) = s := joinWith_splitOn_art ' ' s
  have hw : ∀ w ∈ splitOn ' ' s, twWord w = true := fun w hw => (List.all_eq_true.mp hss) w hw
  obtain ⟨groups, hfl, hgne, hwrap⟩ := twWrap_singleSpaced_art _ hw (wrapWidth pre width n).toNat
  have e : reflowStr pre width n s = s := by
    unfold reflowStr
    conv => lhs; rw [← hs]
    rw [hwrap, joinWith_flatten_art groups hgne, hfl, hs]
  exact ⟨e, by simp [reflowStable, e]⟩

/-- non-vacuity: a text with a run of blanks INSIDE a line and a run AT a line break; the value read
    back keeps the first and collapses the second -/
example : strWrapRunsOK [' ', ' '] 30 "help" "aa  bb cccccccc     dddddddd".toList = true ∧
    reflowStr [' ', ' '] 30 "help" "aa  bb cccccccc     dddddddd".toList = "aa  bb cccccccc dddddddd".toList ∧
    reflowStable [' ', ' '] 30 "help" "aa  bb cccccccc     dddddddd".toList = true := by
  repeat rw [String.toList_ofList]
  decide +kernel

/-! ### sharp edges (kernel-checked; each replayed on the Python library) -/

/-- **D28 characterised**: `aaaaaaa     bb ccccccc dddddd` at width 24 is in the class, is read back as
    `aaaaaaa bb ccccccc dddddd` (equal up to runs of white space), and is NOT stable: the second print
    differs (`reflow_not_fixpoint` in C01Attrs has the texts). -/
theorem d28_is_unstable :
    strWrapRunsOK [] 24 "help" "aaaaaaa     bb ccccccc dddddd".toList = true ∧
    reflowStr [] 24 "help" "aaaaaaa     bb ccccccc dddddd".toList = "aaaaaaa bb ccccccc dddddd".toList ∧
    reflowStable [] 24 "help" "aaaaaaa     bb ccccccc dddddd".toList = false := by
  repeat rw [String.toList_ofList]
  decide +kernel

/-- **`v = wsNorm v` is sufficient, not necessary**: `aaaa   bbbb` at width 18 is broken AT the run;
    the value read back is `aaaa bbbb` (≠ the original) and prints identically.  Replayed on Python:
    second print identical. -/
theorem run_at_line_break_is_stable :
    strWrapRunsOK [] 18 "help" "aaaa   bbbb".toList = true ∧
    reflowStr [] 18 "help" "aaaa   bbbb".toList = "aaaa bbbb".toList ∧
    reflowStable [] 18 "help" "aaaa   bbbb".toList = true := by
  decide +kernel

/-- **why the text must have a word**: a help text of 30 blanks at width 20 does not fit on its line,
    `textwrap.wrap` returns no block, NOTHING is printed for the attribute and it is read back as
    unset.  Replayed on Python: `as_str(attributes_level=1, print_width=20)` = `a = 1⏎`, re-parsed
    `help is None`. -/
theorem blank_text_is_lost :
    let t : List Obj := [.defn { name := ['a'], attrs := [("help", .str (List.replicate 30 ' '))] } [{ value := ['1'] }]]
    strWrapRunsOK [] 20 "help" (List.replicate 30 ' ') = false ∧
    asStr { level := 1, width := 20 } (rootOf t) = .ok "a = 1\n".toList := by
  decide +kernel

/-- **why the only white space must be the blank** (for THIS statement of "up to white space"):
    `textwrap` turns a newline inside a wrapped value into a blank; `wsNorm` counts only blanks as
    separators, so the words differ (with Python's `str.split()` as normal form they agree). -/
theorem newline_becomes_blank :
    noOddWs "aaaaaaa\nbb ccccccc dddddd".toList = false ∧
    wsNorm (reflowStr [] 24 "help" "aaaaaaa\nbb ccccccc dddddd".toList) = "aaaaaaa bb ccccccc dddddd".toList ∧
    wsNorm "aaaaaaa\nbb ccccccc dddddd".toList = "aaaaaaa\nbb ccccccc dddddd".toList := by
  repeat rw [String.toList_ofList]
  decide +kernel

/-! ### templates: printing a FETCH RESULT and re-parsing it (C01 / C07 "re-parsed from its printed text")

  A fetch result contains template copies (`is_template = -1` for the template of a `.multiple` object,
  `1` for a template that is also the value); parser outputs never do.  `visTList L objs`: the forest
  the printer shows at attributes level `L` — objects with `is_template = -1` removed when `L < 2`,
  every template flag cleared.  `tmplWFs L objs`: in every named scope the first child and the first
  VISIBLE child agree on `merge_names` (so the scope prints as a dotted prefix in both or in neither;
  true of fetch results, where all copies of an object share the flag). -/

/-- an object with `is_template = -1` prints nothing below attributes level 2 -/
theorem template_hidden_below_level2 (o : ShowOpts) (x : Obj) (ht : x.meta.tmpl < 0) (hl : o.level < 2)
    (ms : List Str) (pre : Str) : showObj o x ms pre = .ok [] := by
  have hh : (decide (x.meta.tmpl < 0) && decide (o.level < 2)) = true := by simp [ht, hl]
  cases x with
  | defn m ws =>
    rw [showObj_defn_eq, showDefn_tmpl_ar2]
    exact if_pos hh
  | scope m os =>
    rw [showObj_scope_eq]
    exact if_pos hh

/-- **Printing a fetch result.**  At every attributes level, width and expert level the text printed
    for a forest with template flags is the text printed for its visible part with all flags cleared:
    templates with `is_template = -1` are hidden below level 2 and printed like ordinary objects from
    level 2 on; `is_template = 1` never matters. -/
theorem fetch_result_prints_as_visible (o : ShowOpts) (objs : List Obj) (h : tmplWFs o.level objs = true) :
    asStr o (rootOf objs) = asStr o (rootOf (visTList o.level objs)) := by
  have hwf : (rootOf objs).tmplWF o.level = true := by simp [rootOf, Obj.tmplWF, h]
  have := show_visT_ar2 o (rootOf objs) hwf [] []
  have hh : (rootOf objs).hiddenT o.level = false := by simp [rootOf, Obj.hiddenT, Obj.meta]
  rw [hh] at this
  simp only [Bool.false_eq_true, ↓reduceIte] at this
  unfold asStr
  rw [this]
  rfl

/-- **Re-parsing the printed fetch result** (the tree C07's "re-parsed from its printed text" clause
    talks about): if the visible part is in the attribute round-trip class, the text parses to the
    visible part — templates as ORDINARY objects, every object carrying the attributes shown at the
    level — and printing the re-parsed tree gives the same text. -/
theorem fetch_result_reparsed (o : ShowOpts) (he : o.expert = none) (objs : List Obj)
    (hwf : tmplWFs o.level objs = true)
    (h : ∀ x ∈ visTList o.level objs, RTTreeAttr o.level o.width x)
    (hnl : ∀ x ∈ visTList o.level objs, x.allDefns NlOnlyLast)
    (hnd : depPlacedList (visTList o.level objs) = true) :
    ∃ text objs' root', asStr o (rootOf objs) = .ok text ∧ parseObjs text = .ok objs' ∧
      eraseList objs' = eraseList (normAList o.level (visTList o.level objs)) ∧
      parse text = .ok root' ∧ asStr o root' = .ok text := by
  obtain ⟨text, objs', h1, _, h2, h3, _⟩ := print_parse_tree_attrs o he _ h hnl hnd
  obtain ⟨text', root', g1, g2, g3⟩ := second_print_identical_attrs o he _ h hnl hnd
  have : text' = text := by rw [h1] at g1; cases g1; rfl
  subst this
  exact ⟨text', objs', root', by rw [fetch_result_prints_as_visible o objs hwf]; exact h1, h2, h3, g2, g3⟩

/-- the fetch of `a = 2⏎s { x = 3 }` against the master `a = 1 .multiple=True⏎s .multiple=True { x = 1 }`
    (flags as Python reports them: -1, 0, -1, 0) -/
def exTmplForest : List Obj :=
  [ .defn { name := ['a'], tmpl := -1, attrs := [("multiple", .bool true)] } [{ value := ['1'] }],
    .defn { name := ['a'], attrs := [("multiple", .bool true)] } [{ value := ['2'] }],
    .scope { name := ['s'], tmpl := -1,
             attrs := [("multiple", .bool true)] } [.defn { name := ['x'] } [{ value := ['1'] }]],
    .scope { name := ['s'],
             attrs := [("multiple", .bool true)] } [.defn { name := ['x'] } [{ value := ['3'] }]] ]

/-- non-vacuity (texts replayed on Python, identical): level 0 shows the values only, level 2 shows the
    templates as well; both re-parse, second print identical -/
theorem exTmpl_facts :
    tmplWFs 0 exTmplForest = true ∧ tmplWFs 2 exTmplForest = true ∧
    (∀ x ∈ visTList 0 exTmplForest, RTTreeAttr 0 79 x) ∧ (∀ x ∈ visTList 2 exTmplForest, RTTreeAttr 2 79 x) ∧
    (∀ x ∈ visTList 0 exTmplForest, x.allDefns NlOnlyLast) ∧ (∀ x ∈ visTList 2 exTmplForest, x.allDefns NlOnlyLast) ∧
    depPlacedList (visTList 0 exTmplForest) = true ∧ depPlacedList (visTList 2 exTmplForest) = true ∧
    asStr { level := 0 } (rootOf exTmplForest) = .ok "a = 2\ns {\n  x = 3\n}\n".toList ∧
    asStr { level := 2 } (rootOf exTmplForest)
      = .ok ("a = 1\n  .multiple = True\na = 2\n  .multiple = True\ns\n  .multiple = True\n{\n  x = 1\n}\n" ++
             "s\n  .multiple = True\n{\n  x = 3\n}\n").toList := by
  rw [String.toList_append, String.toList_ofList, String.toList_ofList, String.toList_ofList]
  decide +kernel

example : ∃ text objs' root', asStr { level := 2 } (rootOf exTmplForest) = .ok text ∧
    parseObjs text = .ok objs' ∧
    eraseList objs' = eraseList (normAList 2 (visTList 2 exTmplForest)) ∧
    parse text = .ok root' ∧ asStr { level := 2 } root' = .ok text := by
  obtain ⟨_, h2, _, h4, _, h6, _, h8, _, _⟩ := exTmpl_facts
  exact fetch_result_reparsed { level := 2 } rfl exTmplForest h2 h4 h6 h8

/-- **why `tmplWFs` is needed**: a scope whose first child is a hidden template with `merge_names` and
    whose second child is not dotted prints `s.c = 2`; without the hidden child it prints `s { c = 2 }`.
    (Not producible by `fetch`: all copies of an object share `merge_names`.) -/
theorem tmplWF_needed :
    let t : List Obj := [ .scope { name := ['s'] }
      [.defn { name := ['b'], tmpl := -1, mergeNames := true } [{ value := ['1'] }],
       .defn { name := ['c'] } [{ value := ['2'] }]] ]
    tmplWFs 0 t = false ∧
    asStr { level := 0 } (rootOf t) = .ok "s.c = 2\n".toList ∧
    asStr { level := 0 } (rootOf (visTList 0 t)) = .ok "s {\n  c = 2\n}\n".toList := by
  decide +kernel

/-! ### a deprecated definition directly after a definition (`depPlacedList`)

  The parse theorems of C01Attrs carry the hypothesis `depPlacedList`: no deprecated definition directly
  follows a definition.  Proved here: the reason the text is read back all the same — the value collector of
  the line before consumes the `# WARNING: deprecated parameter` line as a trailing comment line, and
  `collect_objects` then continues exactly as if it stood in front of that line.  (At level 3 the line before is
  the last attribute line of the preceding definition; `.expert_level = …` / `.deprecated = True` are one plain
  word.  Every other last line — a string-valued `.alias`, quoted or wrapped — and the lift through the tree
  induction are in Phil/Props/C01Attrs3.lean, whose round-trip theorems have no placement hypothesis.) -/

/-- **The value collector consumes the warning line as a trailing comment line**: after a line ending
    in one plain word `w`, the line `ind ++ "# WARNING: deprecated parameter"` contributes nothing; the
    collector stops in front of the newline ending the warning line, one line further down. -/
theorem warning_line_consumed (w ind Y : Str) (l : Nat) (lead : Word)
    (hlead : lead.line = some l) (hw : plainWord w = true) (hind : ∀ c ∈ ind, c = ' ')
    (hnext : ∀ c, firstNonSpace Y = some c → isQuoteChar c = false) :
    ∃ tb, InlineSpace tb ∧
      collectAssigned ⟨[' '] ++ w ++ (('\n' :: ind) ++ '#' :: (warnBody ++ '\n' :: Y)), l⟩ lead
        = .ok ([{ value := w, quote := none, line := some l }], ⟨tb ++ '\n' :: Y, l + 1⟩) := by
  obtain ⟨hstop, hend⟩ := endsVal_warn ind Y hind hnext
  have h := collectAssigned_word (E := fun ci => ∃ tb, InlineSpace tb ∧ ci = ⟨tb ++ '\n' :: Y, l + 1⟩) [' ']
    ⟨w, none, none⟩ _ l lead space_blank hw (.inl hstop)
  simp only [nlCount_blank, plainWord_nlCount hw, Nat.add_zero] at h
  obtain ⟨_, ⟨tb, htb, rfl⟩, h⟩ := h (fun _ => hlead) fun fuel acc hf hbs =>
    hend (fuel + 1) l l _ acc (Nat.succ_le_succ hf) rfl (Nat.le_refl l) hbs
  exact ⟨tb, htb, h⟩

/-- **One turn of `collect_objects`** on `.name = p` (one plain word) followed by the warning line: the
    attribute is assigned to the pending definition and the parser continues IN FRONT OF the warning
    line — the same resulting state as when no warning line follows (`collectObjects_defn_attr_art`). -/
theorem attribute_then_warning_one_turn (fuel : Nat) (stop : Option Word) (prevLine : Nat) (acc : List Obj)
    (d : Obj) (sp : Str) (n : String) (p ind Y : Str) (l i : Nat) (v : AttrVal)
    (hsp : ∀ c ∈ sp, isSpace c = true) (hn : n ∈ defAttrNames) (hp : plainWord p = true)
    (hv : ∀ l', defAttrValue n [{ value := p, quote := none, line := some l' }] = .ok v)
    (hind : ∀ c ∈ ind, c = ' ') (hnext : ∀ c, firstNonSpace Y = some c → isQuoteChar c = false)
    (hs : ∃ r, nextWordAux structSettings false Y (l + nlCount sp + 2) = .ok (some r)) :
    collectObjects (fuel + 1)
        { ci := ⟨sp ++ '.' :: n.toList ++ ' ' :: '=' ::
            (([' '] ++ p) ++ '\n' :: (ind ++ ("# WARNING: deprecated parameter\n".toList ++ Y))), l⟩, nextId := i }
        stop prevLine acc (some d)
      = collectObjects fuel
          { ci := ⟨'\n' :: (ind ++ ("# WARNING: deprecated parameter\n".toList ++ Y)), l + nlCount sp⟩, nextId := i }
          stop (l + nlCount sp) acc
          (some (d.withMeta (fun m => { m with attrs := m.attrs ++ [(n, v)] }))) := by
  obtain ⟨tb, htb, h3⟩ := warning_line_consumed p ind Y (l + nlCount sp)
    { value := '.' :: n.toList, quote := none, line := some (l + nlCount sp) } rfl hp hind hnext
  have etext : ([' '] ++ p) ++ '\n' :: (ind ++ ("# WARNING: deprecated parameter\n".toList ++ Y))
      = [' '] ++ p ++ (('\n' :: ind) ++ '#' :: (warnBody ++ '\n' :: Y)) := by
    rw [warnRest_eq_ar3]; simp [warnRest]
  rw [etext, collectObjects_attr_line_art fuel stop prevLine acc d sp n _ l i _ _ v hsp hn h3 (hv _)]
  exact collectObjects_after_warn_ar2 fuel tb ind Y (l + nlCount sp) i stop _ acc _ htb hind hs

/-- non-vacuity: `… None⏎# WARNING: deprecated parameter⏎b = 2⏎` -/
example : ∃ tb, InlineSpace tb ∧
    collectAssigned ⟨[' '] ++ "None".toList ++ (('\n' :: []) ++ '#' :: (warnBody ++ '\n' :: "b = 2\n".toList)), 7⟩
        { value := ".expert_level".toList, line := some 7 }
      = .ok ([{ value := "None".toList, quote := none, line := some 7 }], ⟨tb ++ '\n' :: "b = 2\n".toList, 8⟩) := by
  refine warning_line_consumed "None".toList [] "b = 2\n".toList 7 _ rfl (by decide) (by intro c hc; cases hc) ?_
  intro c hc
  have e : firstNonSpace "b = 2\n".toList = some 'b' := by decide
  rw [e] at hc
  cases hc
  decide

#print axioms wrap_keeps_words
#print axioms wrap_chunks_segments
#print axioms chunks_sepOK
#print axioms words_of_joined
#print axioms wrapped_runs_round_trip
#print axioms reparsed_value_up_to_whitespace
#print axioms second_print_identical_iff
#print axioms single_spaced_is_fixed
#print axioms d28_is_unstable
#print axioms run_at_line_break_is_stable
#print axioms blank_text_is_lost
#print axioms newline_becomes_blank
#print axioms template_hidden_below_level2
#print axioms fetch_result_prints_as_visible
#print axioms fetch_result_reparsed
#print axioms exTmpl_facts
#print axioms tmplWF_needed
#print axioms warning_line_consumed
#print axioms attribute_then_warning_one_turn

end Phil.C01
