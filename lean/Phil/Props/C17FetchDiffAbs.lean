/-
  C17, the `fetch_diff` clause, abstraction level: the heap-level model `fetchDiffH` (Phil/HeapFetchDiff.lean — what
  `scope.fetch(diff=True)` / `definition.fetch_diff` ALLOCATE, WRITE and SHARE) REFINES the pure model `fetchScope`
  with `diff = true` (Phil/Fetch.lean — WHAT the result is; the model the diff properties are proved about).  Diff twin
  of `C17FetchHeap.fetchH_abs`.  Simulation lemmas: Phil/Proofs/HeapFetchAbs.lean (the
  `diff = true` case of `fetchF_sim`, which simulates the pure loop bodies in both modes; the non-diff recursion for
  the master key of a `.multiple` scope is its `diff = false` case).

  * `fetchDiffH_abs`      — master scope cell `.scope sm mk sp`, children denote `mobjs`, source objects denote `cobjs`:
                             whenever `fetchDiffH` returns `(s', r)`, `fetchScope e fuel true sm mobjs cobjs` returns and
                             `r` denotes its result in the new heap;
  * `fetchDiffH_abs_eq`   — the executable abstraction of the result cell, whenever it answers, is the pure result;
  * `fetchDiffRootH_abs`  — `master.fetch_diff(sources=…)` of parsed documents refines `fetchRoot e true` (no
                             hypothesis beyond "the call returned").

  Input class: every heap without dangling child / parent reference (`closedB`; every parsed document), every master
  scope in it whose children denote trees, every list of source objects that denote trees, every fuel, outcome `ok`.
-/
import Phil.Proofs.HeapFetchAbs
import Phil.Props.C17FetchDiffHeap
namespace Phil.C17FetchDiffAbs
open Phil Phil.Heap Phil.C17FetchHeap Phil.C17FetchDiffHeap

/-- **The heap-level diff fetch refines the pure model.**  Let the master scope `self` be the cell
    `.scope sm mk sp`, let its children denote the trees `mobjs` and the source objects `combined` the trees
    `cobjs`.  Whenever `fetchDiffH` returns `(s', r)`, the pure `fetchScope` in diff mode returns on
    `(sm, mobjs, cobjs)` with the same fuel, and `r` denotes its result in the new heap. -/
theorem fetchDiffH_abs (e : Envs) (fuel self : Nat) (combined : List Nat) (s s' : HS) (r : Nat)
    (sm : Meta) (mk : List Nat) (sp : Option Nat) (mobjs cobjs : List Obj)
    (hc : closedB s.heap = true) (hself : self < s.heap.length)
    (hcell : s.heap[self]? = some (.scope sm mk sp))
    (hm : Rel2 (Abs s.heap) mk mobjs) (hs : Rel2 (Abs s.heap) combined cobjs)
    (hf : fetchDiffH e fuel self combined s = .ok (s', r)) :
    ∃ ro used, fetchScope e fuel true sm mobjs cobjs = .ok (ro, used) ∧ Abs s'.heap r ro :=
  (fetchF_sim e fuel true self combined s s' r sm mk sp mobjs cobjs hcell hm hs (fetchF_true e fuel ▸ hf)).2

/-- `abs` form: the executable abstraction of the result, whenever it answers, is the pure result -/
theorem fetchDiffH_abs_eq (e : Envs) (fuel self : Nat) (combined : List Nat) (s s' : HS) (r : Nat)
    (sm : Meta) (mk : List Nat) (sp : Option Nat) (mobjs cobjs : List Obj)
    (hc : closedB s.heap = true) (hself : self < s.heap.length)
    (hcell : s.heap[self]? = some (.scope sm mk sp))
    (hm : Rel2 (Abs s.heap) mk mobjs) (hs : Rel2 (Abs s.heap) combined cobjs)
    (hf : fetchDiffH e fuel self combined s = .ok (s', r)) (o : Obj) (ho : abs s'.heap r = some o) :
    (fetchScope e fuel true sm mobjs cobjs).map (·.1) = .ok o := by
  obtain ⟨ro, used, h1, h2⟩ := fetchDiffH_abs e fuel self combined s s' r sm mk sp mobjs cobjs hc hself hcell hm hs hf
  rw [h1, Abs_unique ⟨_, ho⟩ h2]
  rfl

/-- **`master.fetch_diff(sources=…)` of parsed documents refines the pure `fetchRoot` in diff mode**: if the
    heap-level call returns, so does `fetchRoot e true`, and the result object denotes the pure result. -/
theorem fetchDiffRootH_abs (e : Envs) (master : List Obj) (sources : List (List Obj)) (s' : HS) (r : Nat)
    (hf : (fetchDiffRootH e master sources).2 = .ok (s', r)) :
    ∃ ro used, fetchRoot e true master sources = .ok (ro, used) ∧ Abs s'.heap r ro := by
  obtain ⟨hc, hpos⟩ := fetchRootH_start e master sources
  obtain ⟨ks, p, hcell, hks, hcomb⟩ := fetchRootH_inputs e master sources
  exact fetchDiffH_abs e _ 0 _ { heap := (fetchRootH e master sources).1, tmp := [] } s' r _ ks p master sources.flatten
    hc hpos hcell hks hcomb hf

/-! ### the hypotheses are satisfiable: the witness run `dRun` of Phil/Props/C17FetchDiffHeap.lean returns
    (`example : dRun.isSome = true` there), so `fetchDiffRootH_abs` applies to it; the pure diff result has exactly the
    children the heap result denotes (`diff_witness_result`): the `s` instance and `b` -/

theorem diff_witness_pure : (match parseObjs dMaster.toList, parseObjs dSource.toList with
    | .ok m, .ok s =>
      (match fetchRoot envNone true m [s] with
       | .ok (ro, _) => some (ro.children.map (fun k => (k.name, k.meta.tmpl)))
       | .error _ => none)
    | _, _ => none) = some [("s".toList, 0), ("b".toList, 0)] := by
  -- a literal is `String.ofList […]` for the unifier and the kernel: no UTF-8 decoding; done in a hypothesis,
  -- since the check of a rewrite below the `match` evaluates the parse
  generalize hm : dMaster.toList = m
  generalize hs : dSource.toList = s
  have hm' : m = _ := hm.symm.trans String.toList_ofList
  have hs' : s = _ := hs.symm.trans String.toList_ofList
  subst hm' hs'
  decide +kernel

#print axioms fetchDiffH_abs
#print axioms fetchDiffH_abs_eq
#print axioms fetchDiffRootH_abs
#print axioms diff_witness_pure

end Phil.C17FetchDiffAbs
