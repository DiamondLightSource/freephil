/-
  C12 / C08 / C06 — `$variables` in DIFF mode: the fetch-level closed form of `fetch_diff`
  (`scope.fetch(diff=True)`) on sources with variables.  The lemmas about shifted ids are in
  Phil/Proofs/FetchVars3.lean.  Continues Phil/Props/C12Fetch2.lean §4, which has the one-step statements
  `diff_mode_keeps_undefined`, `diff_mode_instances`.

  `treeDiffFetch e sm master S`: the error of the first offending source object in MASTER order — the
  `resolve_variables` error recorded at a matching definition, or "incompatible" for a clash of kinds —
  else the difference `treeDiff e master S` (Phil/Proofs/DiffTree.lean, the specification behind C08),
  computed from the RESOLVED words, with the consumed ids `treeUsed master S`.
  `denoteDoc env true doc`: the document in which every definition carries its diff-mode denotation
  `denote env doc pos true` (a variable of its own words that no earlier definition defines stands for
  the word `"$name"`; inside referenced definitions the environment is consulted as usual).
  Validation: 400 random source texts (helpers, references, chains, `$(s.b)`, undefined variables,
  self-references, single-quoted `$`, references to scopes, clashes of kinds) against the master
  `a = 1 ; s { b = 2 ; c = 3 }`: `treeDiffFetch` on the denoted document = Python `master.fetch_diff`
  (printed difference, or the error with its line) in all 400 cases, 160 of them errors.
-/
import Phil.Proofs.FetchVars3
import Phil.Props.C12Fetch2
import Phil.Props.C08Tree
set_option linter.unusedVariables false
namespace Phil.C12Fetch3
open Phil Phil.C12 Phil.C12Fetch Phil.C12Fetch2

/-! ## 1. the closed form -/

/-- **`fetch_diff` on ANY annotated sources** (no hypothesis that the source definitions resolve): for a
    nested master whose definitions may be `.multiple` (`TreeMultiMaster`; every `TreeMaster` is one),
    fuel beyond the nesting depth plus one, named source scopes (true of parser outputs) and defined
    keys, `fetchScope … diff=true …` is `treeDiffFetch`.  The diff analogue of `fetch_tree_vars_total`;
    `diff_tree_total` (C08) is the special case of sources whose definitions all resolve
    (`agrees_with_diff_tree_total`). -/
theorem fetch_diff_any_sources (e : Envs) (fuel : Nat) (sm : Meta) (mkids srcs : List Obj)
    (hf : TreeMultiMaster mkids) (hfuel : depthL mkids + 1 < fuel) (hsd : sm.disabled = false)
    (hsrc : ScopesNamed srcs) (hkeys : KeysAll_dt e mkids srcs) :
    fetchScope e fuel true sm mkids srcs = treeDiffFetch e sm mkids srcs :=
  diff_tree_vars_total e fuel sm mkids srcs hf hfuel hsd hsrc hkeys

/-- the same on the plain class `TreeMaster` of `fetch_tree_vars_total` -/
theorem fetch_diff_any_sources_plain (e : Envs) (fuel : Nat) (sm : Meta) (mkids srcs : List Obj)
    (hf : TreeMaster mkids) (hfuel : depthL mkids + 1 < fuel) (hsd : sm.disabled = false)
    (hsrc : ScopesNamed srcs) (hkeys : KeysAll_dt e mkids srcs) :
    fetchScope e fuel true sm mkids srcs = treeDiffFetch e sm mkids srcs :=
  diff_tree_vars_total e fuel sm mkids srcs hf.toMulti hfuel hsd hsrc hkeys

/-- on sources whose definitions all resolve (`SrcTree`) the closed form is the one of C08 -/
theorem agrees_with_diff_tree_total (e : Envs) (sm : Meta) (mkids srcs : List Obj) (hs : SrcTree srcs) :
    treeDiffFetch e sm mkids srcs =
      if noClash mkids srcs then .ok (.scope { sm with tmpl := 0 } (treeDiff e mkids srcs), treeUsed mkids srcs)
      else .error incompatibleErr :=
  treeDiffFetch_of_srcTree e sm mkids srcs hs

/-- **`master.fetch_diff(sources)` with `$variables`**: the difference of the documents pre-resolved in
    diff mode (what the library computes lazily) is `treeDiffFetch` on the DENOTED documents. -/
theorem fetch_diff_with_variables (e : Envs) (env : Env) (master : List Obj) (docs : List (List Obj))
    (hf : TreeMultiMaster master) (hd : depthL master ≤ 1000) (hdocs : ∀ d ∈ docs, DocIds d)
    (hnamed : ScopesNamed docs.flatten)
    (hkeys : KeysAll_dt e master (docs.map (denoteDoc env true)).flatten) :
    fetchRoot e true master (docs.map (preResolve env true)) =
      treeDiffFetch e { name := [], id := some 0 } master (docs.map (denoteDoc env true)).flatten := by
  rw [map_preResolve env true docs hdocs]
  exact diff_tree_vars_total e _ _ master _ hf (fetchRoot_fuel_dt master hd) rfl
    (scopesNamed_denoteDocs env true docs hnamed) hkeys

/-- … for PARSED source texts: hypotheses left are the master class and the keys -/
theorem fetch_diff_with_variables_of_texts (e : Envs) (env : Env) (master : List Obj) (texts : List Str)
    (docs : List (List Obj)) (hp : texts.mapM parseObjs = .ok docs)
    (hf : TreeMultiMaster master) (hd : depthL master ≤ 1000)
    (hkeys : KeysAll_dt e master (docs.map (denoteDoc env true)).flatten) :
    fetchRoot e true master (docs.map (preResolve env true)) =
      treeDiffFetch e { name := [], id := some 0 } master (docs.map (denoteDoc env true)).flatten :=
  have hw := parsed_docs_wellformed texts docs hp
  fetch_diff_with_variables e env master docs hf hd hw.1 hw.2.2 hkeys

/-! ## 2. consequences: C12 (errors), C08 (the difference), C06 (consumed ids) -/

/-- **the error of a failing difference** is the first error in master order among the source objects
    matching master objects: a definition whose diff-mode resolution raised (recorded by the
    denotation), or a clash of kinds -/
theorem fetch_diff_error (e : Envs) (env : Env) (master : List Obj) (docs : List (List Obj))
    (hf : TreeMultiMaster master) (hd : depthL master ≤ 1000) (hdocs : ∀ d ∈ docs, DocIds d)
    (hnamed : ScopesNamed docs.flatten)
    (hkeys : KeysAll_dt e master (docs.map (denoteDoc env true)).flatten) (E : Err) :
    fetchRoot e true master (docs.map (preResolve env true)) = .error E ↔
      firstErr master (docs.map (denoteDoc env true)).flatten = some E := by
  rw [fetch_diff_with_variables e env master docs hf hd hdocs hnamed hkeys]
  unfold treeDiffFetch
  cases firstErr master (docs.map (denoteDoc env true)).flatten with
  | none => simp
  | some E' => simp

/-- **C08-facing corollary: the difference of sources with variables is the difference of their denoted
    documents.**  If `fetch_diff` succeeds, its result is the specification `treeDiff` of C08 applied to
    the documents denoted in diff mode, no source object raised, and the consumed ids are `treeUsed`. -/
theorem difference_of_denoted_documents (e : Envs) (env : Env) (master : List Obj) (docs : List (List Obj))
    (hf : TreeMultiMaster master) (hd : depthL master ≤ 1000) (hdocs : ∀ d ∈ docs, DocIds d)
    (hnamed : ScopesNamed docs.flatten)
    (hkeys : KeysAll_dt e master (docs.map (denoteDoc env true)).flatten)
    (D : Obj) (used : List Nat)
    (h : fetchRoot e true master (docs.map (preResolve env true)) = .ok (D, used)) :
    firstErr master (docs.map (denoteDoc env true)).flatten = none ∧
    D = .scope { name := [], id := some 0 } (treeDiff e master (docs.map (denoteDoc env true)).flatten) ∧
    used = treeUsed master (docs.map (denoteDoc env true)).flatten := by
  rw [fetch_diff_with_variables e env master docs hf hd hdocs hnamed hkeys] at h
  obtain ⟨hfe, hv⟩ := ok_of_optError h
  cases hv
  exact ⟨hfe, rfl, rfl⟩

/-- **the laws of C08 for a difference with variables** (`S` = the denoted documents, `D` the
    difference): merging `D` back gives the restored working set of `S`; the difference of the restored
    working set is `D` again; the working set fetched from `S` has the difference `D`. -/
theorem difference_with_variables_laws (e : Envs) (env : Env) (master : List Obj) (docs : List (List Obj))
    (hf : TreeMultiMaster master) (hr : RefetchTree master) (hd : depthL master ≤ 1000)
    (hdocs : ∀ d ∈ docs, DocIds d) (hnamed : ScopesNamed docs.flatten)
    (hkeys : KeysAll_dt e master (docs.map (denoteDoc env true)).flatten)
    (D : Obj) (used : List Nat)
    (h : fetchRoot e true master (docs.map (preResolve env true)) = .ok (D, used)) :
    treeMultiResult e master D.children = treeRestored e master (docs.map (denoteDoc env true)).flatten ∧
    treeDiff e master (treeRestored e master (docs.map (denoteDoc env true)).flatten) = D.children ∧
    treeDiff e master (treeMultiResult e master (docs.map (denoteDoc env true)).flatten) = D.children := by
  obtain ⟨_, rfl, _⟩ := difference_of_denoted_documents e env master docs hf hd hdocs hnamed hkeys D used h
  exact ⟨treeMultiResult_treeDiff_dt e master _ hf hr, treeDiff_treeRestored_dt e master _ hf hr,
    treeDiff_working_dt e master _ hf hr⟩

/-! ## 3. non-vacuity and sharpness (kernel-checked; replayed on the Python library) -/

/-- helper `q`, a reference that reproduces the master default, an undefined variable -/
def srcTextD : String := "q = 1\na = $q\ns.b = $X\n"

theorem srcTextD_parse : [srcTextD.toList].mapM parseObjs = .ok [parsed srcTextD] := by
  rw [mapM_cons_R, parsed_ok srcTextD (by decide +kernel), mapM_nil_R]

/-- the closed form on the parsed text, master `a = 1 ; s { b = 2 ; c = 3 }`, any environment -/
example (env : Env) (hk : KeysAll_dt env12 mT (denoteDoc env true (parsed srcTextD))) :
    fetchRoot env12 true mT [preResolve env true (parsed srcTextD)] =
      treeDiffFetch env12 { name := [], id := some 0 } mT (denoteDoc env true (parsed srcTextD)) := by
  have hm := mT_tree.toMulti
  have hd := mT_depth
  -- with the master a variable the elaborator cannot unfold `KeysAll_dt` on it (it would parse the text)
  generalize mT = M at hm hd hk ⊢
  have h := fetch_diff_with_variables_of_texts env12 env M _ _ srcTextD_parse hm hd (by simpa using hk)
  simpa using h

/-- the value on the instance (Python, replayed: `master.fetch_diff(source)` prints `s {⏎  b = "$X"⏎}`):
    `a = $q` resolves to the master default and is dropped; `s.b = $X` stays as the word `"$X"`; keys
    defined; ids 2 (`a`), 1 (`q`, consulted), 3 (`s.b`) consumed -/
theorem srcTextD_difference :
    keysAllB_dt env12 mT (denoteDoc C12Fetch.noEnv true (parsed srcTextD)) = true ∧
    (treeDiffFetch env12 { name := [], id := some 0 } mT (denoteDoc C12Fetch.noEnv true (parsed srcTextD))).toOption.map
        (fun r => ((asStr {} r.1).toOption.map String.ofList, r.2))
      = some (some "s {\n  b = \"$X\"\n}\n", [2, 1, 3]) := by
  rw [mT_eq, srcTextD, parsed_ofList]
  decide +kernel

/-- **errors come in MASTER order, not source order**: `s.b = $u` fails on line 1 (`u = $X`), `a = $v`
    on line 3 (`v = $Y`); the master lists `a` first, so line 3 is reported.  Python (replayed):
    `Undefined variable: $Y (input line 3)`. -/
theorem error_in_master_order :
    errOf (treeDiffFetch env12 { name := [], id := some 0 } mT
      (denoteDoc C12Fetch.noEnv true (parsed "u = $X\ns.b = $u\nv = $Y\na = $v\n")))
      = some (Err.runtime "undefined_variable" (some 3)) ∧
    errOf (fetchRoot env12 true mT [preResolve C12Fetch.noEnv true (parsed "u = $X\ns.b = $u\nv = $Y\na = $v\n")])
      = some (Err.runtime "undefined_variable" (some 3)) := by
  rw [mT_eq, parsed_ofList]
  decide +kernel

/-- **why the keys must be defined** (`KeysAll_dt`): with the master `a = 1 .type = int` and the source
    `a = x` no variable fails, the specification yields a difference, but the comparison of the rendered
    values fails first.  Python (replayed): `RuntimeError: Error interpreting a="x" as a numeric
    expression`. -/
theorem keys_needed :
    let mI : List Obj := C06.objsOf "a = 1\n  .type = int\n"
    treeMultiMasterB mI = true ∧
    keysAllB_dt env12 mI (denoteDoc C12Fetch.noEnv true (parsed "a = x\n")) = false ∧
    (fetchRoot env12 true mI [preResolve C12Fetch.noEnv true (parsed "a = x\n")]).toBool = false ∧
    (treeDiffFetch env12 { name := [], id := some 0 } mI (denoteDoc C12Fetch.noEnv true (parsed "a = x\n"))).toBool
      = true := by
  rw [C06.objsOf_ofList, parsed_ofList]
  decide +kernel

/-- **why source scopes must be named** (`ScopesNamed`; true of every parser output): an unnamed source
    scope — constructible through the API only — is looked through by `scope.fetch`, so its `a = 5`
    reaches the master's `a`; the specification does not see it.  Python (replayed with
    `freephil.scope(name="", objects=[…])`): the difference is `a = 5`. -/
theorem scopes_named_needed :
    let badSrc : List Obj := [.scope { name := [] } [.defn { name := ['a'], id := some 1 } [{ value := ['5'] }]]]
    (fetchRoot env12 true mT [badSrc]).toOption.map (fun r => (asStr {} r.1).toOption.map String.ofList)
      = some (some "a = 5\n") ∧
    (treeDiffFetch env12 { name := [], id := some 0 } mT badSrc).toOption.map
      (fun r => (asStr {} r.1).toOption.map String.ofList) = some (some "") := by
  rw [mT_eq]
  decide +kernel

/-- **why the fuel bound is `depthL + 1 < fuel`**: the master has depth 1; fuel 2 is not enough in diff
    mode (the key of a definition one level down is rendered with the fuel of its loop), fuel 3 is. -/
theorem fuel_bound_sharp :
    depthL mT = 1 ∧
    errOf (fetchScope env12 2 true { name := [], id := some 0 } mT (denoteDoc C12Fetch.noEnv true (parsed "s.b = $X\n")))
      = some .outOfFuel ∧
    (fetchScope env12 3 true { name := [], id := some 0 } mT (denoteDoc C12Fetch.noEnv true (parsed "s.b = $X\n"))).toOption.map
        (fun r => ((asStr {} r.1).toOption.map String.ofList, r.2))
      = some (some "s {\n  b = \"$X\"\n}\n", [1]) ∧
    (treeDiffFetch env12 { name := [], id := some 0 } mT (denoteDoc C12Fetch.noEnv true (parsed "s.b = $X\n"))).toOption.map
        (fun r => ((asStr {} r.1).toOption.map String.ofList, r.2))
      = some (some "s {\n  b = \"$X\"\n}\n", [1]) := by
  rw [mT_eq, parsed_ofList]
  decide +kernel

/-! ## 4. C06 with variables, SEVERAL source texts: the ids are shifted per document

  Every `parse` numbers its definitions from 1, so the ids of two parsed documents clash
  (`two_texts_share_ids`).  The driver — like the library, where the marks are object identities —
  keeps them apart: document `i` is pre-resolved in its own frame and its ids (primary ids and recorded
  consulted ids) are increased by `1000000 * (i + 1)` (`offsetIds` of Main.lean; structurally:
  `shiftList`).  `shiftedDocs env false dks`: the denoted documents, shifted; `Separated dks`: every later
  shift exceeds the shift plus the size of an earlier document. -/

/-- **the id-shift lemma**: separated shifts make the ids of the entries of `all_definitions` of ALL
    documents present and pairwise distinct -/
theorem shifted_ids_distinct (env : Env) (diff : Bool) (dks : List (List Obj × Nat))
    (hdocs : ∀ dk ∈ dks, DocIds dk.1)
    (hsome : ∀ dk ∈ dks, ∀ x ∈ allDefinitions (denoteDoc env diff dk.1), x.2.1.id ≠ none)
    (hnd : ∀ dk ∈ dks, ((allDefinitions (denoteDoc env diff dk.1)).map (fun x => x.2.1.id)).Nodup)
    (hsep : Separated dks) :
    (∀ x ∈ allDefinitions (shiftedDocs env diff dks).flatten, x.2.1.id ≠ none) ∧
    ((allDefinitions (shiftedDocs env diff dks).flatten).map (fun x => x.2.1.id)).Nodup :=
  shiftedDocs_ids_fv3 env diff dks hdocs hsome hnd hsep

/-- the entries of `all_definitions` of a shifted document are the shifted entries: paths and words are
    untouched -/
theorem all_definitions_shifted (k : Nat) (doc : List Obj) :
    allDefinitions (shiftList k doc) = (allDefinitions doc).map (shiftEntry k) :=
  allDefinitions_shift_fv3 k doc

/-- **C06 with variables, several PARSED source texts (the reported list, exactly).**  Texts parsed
    separately, pre-resolved each in its own document, ids shifted by `ks` (separated): after a
    successful fetch an entry of `all_definitions(sources)` is reported iff its path names no master
    definition and no entry whose path names a master definition consulted it.  Hypotheses: the master
    class and the separation of the shifts. -/
theorem unused_exact_of_texts_shifted (e : Envs) (env : Env) (master : List Obj) (texts : List Str)
    (docs : List (List Obj)) (hp : texts.mapM parseObjs = .ok docs) (ks : List Nat)
    (hlen : ks.length = docs.length) (hsep : Separated (docs.zip ks))
    (hf : TreeMaster master) (hd : depthL master ≤ 1000) (hinc : NoIncludeTree master)
    (ro : Obj) (used : List Nat)
    (h : fetchRoot e false master ((docs.zip ks).map (fun dk => shiftList dk.2 (preResolve env false dk.1)))
          = .ok (ro, used))
    (x : Str × Meta × List Word) :
    x ∈ C06.unusedOf (shiftedDocs env false (docs.zip ks)).flatten used ↔
      x ∈ allDefinitions (shiftedDocs env false (docs.zip ks)).flatten ∧
        x.1 ∉ (allDefinitions master).map (·.1) ∧
        ∀ y ∈ allDefinitions (shiftedDocs env false (docs.zip ks)).flatten,
          y.1 ∈ (allDefinitions master).map (·.1) →
            ∀ i, x.2.1.id = some i → i ∉ srcRefs (.defn y.2.1 y.2.2) := by
  have hmem : ∀ dk ∈ docs.zip ks, ∃ t, parseObjs t = .ok dk.1 := fun dk hdk =>
    (mapM_ok_mem_R hp dk.1 (List.of_mem_zip hdk).1).imp fun _ h => h.2
  exact unused_shifted_exact_fv3 e env master (docs.zip ks) hf hd hinc
    (fun dk hdk => by obtain ⟨t, ht⟩ := hmem dk hdk; exact parse_docIds t _ ht)
    (fun dk hdk => by obtain ⟨t, ht⟩ := hmem dk hdk; exact parse_scopesNamed t _ ht)
    (fun dk hdk => by obtain ⟨t, ht⟩ := hmem dk hdk; exact (parse_allDefinitions_ids env false t _ ht).1)
    (fun dk hdk => by obtain ⟨t, ht⟩ := hmem dk hdk; exact (parse_allDefinitions_ids env false t _ ht).2)
    hsep ro used h x

/-- the shifts of the driver for `n` documents, starting with document number `i` -/
def driverShifts : Nat → Nat → List Nat
  | _, 0 => []
  | i, n + 1 => 1000000 * (i + 1) :: driverShifts (i + 1) n

theorem driverShifts_ge : ∀ (n i k : Nat), k ∈ driverShifts i n → 1000000 * (i + 1) ≤ k
  | 0, i, k, h => by rw [driverShifts] at h; cases h
  | n + 1, i, k, h => by
    rw [driverShifts, List.mem_cons] at h
    rcases h with rfl | h
    · exact Nat.le_refl _
    · have := driverShifts_ge n (i + 1) k h
      omega

/-- **the driver's shifts are separated** as long as every document has fewer than 1000000 objects -/
theorem driverShifts_separated : ∀ (docs : List (List Obj)) (i : Nat), (∀ d ∈ docs, sizeList d < 1000000) →
    Separated (docs.zip (driverShifts i docs.length))
  | [], i, _ => by simp [Separated]
  | d :: rest, i, h => by
    rw [List.length_cons, driverShifts, List.zip_cons_cons, Separated]
    refine ⟨fun dk' hdk' => ?_, driverShifts_separated rest (i + 1) (fun d' hd' => h d' (List.mem_cons_of_mem _ hd'))⟩
    have h1 := driverShifts_ge rest.length (i + 1) dk'.2 (List.of_mem_zip hdk').2
    have h2 := h d List.mem_cons_self
    simp only
    omega

/-- two texts: `q` is consulted by `a = $q`, `z` and `w` name no master parameter -/
def multiT1 : String := "q = 5\na = $q\nz = 1\n"
def multiT2 : String := "s.b = 7\nw = 2\n"

/-- non-vacuity and sharpness in one (Python, replayed: `master.fetch(sources=[…, …],
    track_unused_definitions=True)` reports `z` and `w`; the compiled model with the driver's shifts:
    consumed 1000002, 1000001, 2000001, reported `z`, `w`).  Kernel-checked on the closed form with the
    separated shifts 10, 20: the fetch consumes 12 (`a`), 11 (`q`, consulted), 21 (`s.b`) and the reported
    entries are those with the ids 13 (`z`) and 22 (`w`).  WITHOUT a shift the consumed ids are 2, 1, 1 and
    `w` — id 2 in its own document — is taken for consumed because `a` has id 2 in the other document:
    only `z` would be reported. -/
theorem shift_needed :
    (treeFetch { name := [], id := some 0 } mT (shiftList 10 (denoteDoc C12Fetch.noEnv false (parsed multiT1)) ++
        shiftList 20 (denoteDoc C12Fetch.noEnv false (parsed multiT2)))).toOption.map (·.2) = some [12, 11, 21] ∧
    (C06.unusedOf (shiftList 10 (denoteDoc C12Fetch.noEnv false (parsed multiT1)) ++
        shiftList 20 (denoteDoc C12Fetch.noEnv false (parsed multiT2))) [12, 11, 21]).map (fun x => x.2.1.id)
      = [some 13, some 22] ∧
    (treeFetch { name := [], id := some 0 } mT (denoteDoc C12Fetch.noEnv false (parsed multiT1) ++
        denoteDoc C12Fetch.noEnv false (parsed multiT2))).toOption.map (·.2) = some [2, 1, 1] ∧
    (C06.unusedOf (denoteDoc C12Fetch.noEnv false (parsed multiT1) ++
        denoteDoc C12Fetch.noEnv false (parsed multiT2)) [2, 1, 1]).map (fun x => x.2.1.id) = [some 3] := by
  rw [mT_eq, multiT1, multiT2, parsed_ofList, parsed_ofList]
  decide +kernel

/-- executable form of `NoIncludeTree` -/
def noIncludeB (l : List Obj) : Bool := allActive (fun o => !o.isDefn || o.name != "include".toList) l

theorem noIncludeB_sound (l : List Obj) (h : noIncludeB l = true) : NoIncludeTree l := by
  intro d hd hdef
  have := allActive_sound _ hd h
  simpa [hdef] using this

theorem multiTexts_parse : [multiT1.toList, multiT2.toList].mapM parseObjs = .ok [parsed multiT1, parsed multiT2] := by
  rw [mapM_cons_R, parsed_ok multiT1 (by decide +kernel), mapM_cons_R, parsed_ok multiT2 (by decide +kernel),
    mapM_nil_R]

/-- the theorem applies to the two parsed texts with the driver's shifts -/
example (env : Env) (ro : Obj) (used : List Nat)
    (h : fetchRoot env12 false mT (([parsed multiT1, parsed multiT2].zip (driverShifts 0 2)).map
          (fun dk => shiftList dk.2 (preResolve env false dk.1))) = .ok (ro, used))
    (x : Str × Meta × List Word) :
    x ∈ C06.unusedOf (shiftedDocs env false ([parsed multiT1, parsed multiT2].zip (driverShifts 0 2))).flatten used ↔
      x ∈ allDefinitions (shiftedDocs env false ([parsed multiT1, parsed multiT2].zip (driverShifts 0 2))).flatten ∧
        x.1 ∉ (allDefinitions mT).map (·.1) ∧
        ∀ y ∈ allDefinitions (shiftedDocs env false ([parsed multiT1, parsed multiT2].zip (driverShifts 0 2))).flatten,
          y.1 ∈ (allDefinitions mT).map (·.1) →
            ∀ i, x.2.1.id = some i → i ∉ srcRefs (.defn y.2.1 y.2.2) := by
  have hm := mT_tree
  have hd := mT_depth
  have hn := noIncludeB_sound mT (by rw [mT_eq]; decide +kernel)
  -- with the master a variable the elaborator cannot unfold the predicates on it (it would parse the text)
  generalize mT = M at hm hd hn h ⊢
  exact unused_exact_of_texts_shifted env12 env M _ _ multiTexts_parse (driverShifts 0 2) rfl
    (driverShifts_separated [parsed multiT1, parsed multiT2] 0
      (by rw [multiT1, multiT2, parsed_ofList, parsed_ofList]; decide +kernel))
    hm hd hn ro used h x

end Phil.C12Fetch3

#print axioms Phil.C12Fetch3.fetch_diff_any_sources
#print axioms Phil.C12Fetch3.fetch_diff_any_sources_plain
#print axioms Phil.C12Fetch3.agrees_with_diff_tree_total
#print axioms Phil.C12Fetch3.fetch_diff_with_variables
#print axioms Phil.C12Fetch3.fetch_diff_with_variables_of_texts
#print axioms Phil.C12Fetch3.fetch_diff_error
#print axioms Phil.C12Fetch3.difference_of_denoted_documents
#print axioms Phil.C12Fetch3.difference_with_variables_laws
#print axioms Phil.C12Fetch3.srcTextD_parse
#print axioms Phil.C12Fetch3.srcTextD_difference
#print axioms Phil.C12Fetch3.error_in_master_order
#print axioms Phil.C12Fetch3.keys_needed
#print axioms Phil.C12Fetch3.scopes_named_needed
#print axioms Phil.C12Fetch3.fuel_bound_sharp
#print axioms Phil.C12Fetch3.shifted_ids_distinct
#print axioms Phil.C12Fetch3.all_definitions_shifted
#print axioms Phil.C12Fetch3.unused_exact_of_texts_shifted
#print axioms Phil.C12Fetch3.driverShifts_ge
#print axioms Phil.C12Fetch3.driverShifts_separated
#print axioms Phil.C12Fetch3.shift_needed
#print axioms Phil.C12Fetch3.multiTexts_parse
#print axioms Phil.C12Fetch3.noIncludeB_sound
