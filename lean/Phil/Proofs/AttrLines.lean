/-
  The printed line(s) of one attribute and how the parser reads them back (C01 at attributes levels 1, 2, 3).

  Part 1: attribute kinds, the words the printer writes for an attribute value and what
          `assign_attribute` makes of them.
  Part 2: the printed text of one attribute (`show_attributes`) in closed form; the value collector on
          what is printed, whatever value-ending text follows (`EndsVal`, `Reads`); wrapped strings
          (`textwrap.wrap`: Phil/Proofs/TextWrap.lean) — single-spaced text comes back as it was, text with
          RUNS of blanks with the same words (`reflowStr`, `wsNorm`: the definitions and lemmas for
          `wrapped_runs_round_trip` of Phil/Props/C01Attrs2.lean).
-/
import Phil.Proofs.PrintParseNested
import Phil.Proofs.TextWrap
import Phil.Proofs.RoundTrip
namespace Phil

/-! ## Part 1: kinds of attributes and their values -/

/-- how `assign_attribute` converts the words of an attribute -/
inductive AKind | bool | int | type | str | call | seqfmt
  deriving DecidableEq, Repr

/-- definition.assign_attribute: which converter is used for which name -/
def defKind (n : String) : AKind :=
  if n == "optional" || n == "multiple" || n == "deprecated" then .bool
  else if n == "type" then .type
  else if n == "input_size" || n == "expert_level" then .int
  else .str

/-- scope.assign_attribute: which converter is used for which name -/
def scopeKind (n : String) : AKind :=
  if n == "optional" || n == "multiple" || n == "disable_add" || n == "disable_delete" then .bool
  else if n == "expert_level" then .int
  else if n == "call" then .call
  else if n == "sequential_format" then .seqfmt
  else .str

/-- the conversion by kind (the bodies of `defAttrValue` / `scopeAttrValue`) -/
def kindValue : AKind → List Word → R AttrVal
  | .bool, ws => boolFromWords ws
  | .int, ws => intFromWordsLit ws
  | .type, ws =>
    if isPlainNone ws then .ok .none
    else if isPlainAuto ws then .ok .auto
    else match strFromWords ws with
      | .str s => (convFromExpr (strip s) (firstLine ws)).map AttrVal.conv
      | v => .ok v
  | .str, ws => .ok (strFromWords ws)
  | .call, ws =>
    if isPlainNone ws then .ok .none
    else if isPlainAuto ws then .ok .auto
    else .error (.unsupported ".call import")
  | .seqfmt, ws =>
    match strFromWords ws with
    | .none => .ok .none
    | _ => .error (.unsupported ".sequential_format % 0")

theorem defAttrValue_kind_art (n : String) (ws : List Word) :
    defAttrValue n ws = kindValue (defKind n) ws := by
  unfold defAttrValue defKind
  split
  · rfl
  · split
    · rfl
    · split <;> rfl

theorem scopeAttrValue_kind_art (n : String) (ws : List Word) :
    scopeAttrValue n ws = kindValue (scopeKind n) ws := by
  unfold scopeAttrValue scopeKind
  split
  · rfl
  · split
    · rfl
    · split
      · rfl
      · split <;> rfl

/-- the attribute names of a definition (`true`) or a scope (`false`) -/
def attrNamesOf (isDef : Bool) : List String := if isDef then defAttrNames else scopeAttrNames
def kindOf (isDef : Bool) (n : String) : AKind := if isDef then defKind n else scopeKind n
def attrValueOf (isDef : Bool) (n : String) (ws : List Word) : R AttrVal :=
  if isDef then defAttrValue n ws else scopeAttrValue n ws

theorem attrValueOf_kind_art (isDef : Bool) (n : String) (ws : List Word) :
    attrValueOf isDef n ws = kindValue (kindOf isDef n) ws := by
  cases isDef
  · exact scopeAttrValue_kind_art n ws
  · exact defAttrValue_kind_art n ws

/-! ### text that is read back as plain words -/

/-- a character that may stand anywhere in an unquoted value word -/
def safeChar (c : Char) : Bool :=
  !endsUnquoted valueSettings c && !isQuoteChar c && c != '\\' && c != '#'

/-- a text made of non-empty runs of safe characters separated by single blanks: what the value
    collector reads back as the unquoted words `splitOn ' ' s` -/
def safeText (s : Str) : Bool := (splitOn ' ' s).all (fun p => !p.isEmpty && p.all safeChar)

def plainW (s : Str) : Word := { value := s }

theorem plainWord_of_safe_art {p : Str} (hne : p.isEmpty = false) (h : p.all safeChar = true) :
    plainWord p = true := by
  cases p with
  | nil => simp at hne
  | cons c t =>
    have hc : safeChar c = true := by
      simp only [List.all_cons, Bool.and_eq_true] at h; exact h.1
    simp only [safeChar, Bool.and_eq_true, Bool.not_eq_true', bne_iff_ne, ne_eq] at hc
    obtain ⟨⟨⟨h1, h2⟩, h3⟩, h4⟩ := hc
    simp only [plainWord, List.isEmpty_cons, Bool.not_false, Bool.true_and, List.head?_cons,
      Option.any_some, Bool.and_eq_true, Bool.not_eq_true', bne_iff_ne, ne_eq, List.cons.injEq,
      not_and, List.all_eq_true]
    refine ⟨⟨⟨?_, h2⟩, fun e => absurd e h3⟩, fun e => absurd e h4⟩
    intro d hd
    have := (List.all_eq_true.mp h) d hd
    simp only [safeChar, Bool.and_eq_true, Bool.not_eq_true'] at this
    exact this.1.1.1

theorem joinWith_splitOn_art (sep : Char) (s : Str) : joinWith [sep] (splitOn sep s) = s := by
  induction s with
  | nil => rfl
  | cons c cs ih =>
    rw [splitOn]
    cases h : splitOn sep cs with
    | nil => exact absurd h (splitOn_ne_nil sep cs)
    | cons p ps =>
      rw [h] at ih
      simp only []
      by_cases hc : c = sep
      · subst hc
        simp only [beq_self_eq_true, ↓reduceIte]
        show [] ++ [c] ++ joinWith [c] (p :: ps) = _
        rw [ih]; rfl
      · have : (c == sep) = false := by simpa using hc
        simp only [this, Bool.false_eq_true, ↓reduceIte]
        cases ps with
        | nil =>
          simp only [joinWith] at ih ⊢
          rw [ih]
        | cons q qs =>
          simp only [joinWith, List.cons_append] at ih ⊢
          rw [ih]

theorem wordsText_plainW_art (ps : List Str) (hne : ps ≠ []) :
    wordsText (ps.map plainW) = ' ' :: joinWith [' '] ps := by
  induction ps with
  | nil => exact absurd rfl hne
  | cons p ps ih =>
    cases ps with
    | nil => simp [wordsText, plainW, Word.str, joinWith]
    | cons q qs =>
      have := ih (by simp)
      simp only [List.map_cons, wordsText] at this ⊢
      rw [this]
      simp [plainW, Word.str, joinWith]

/-- the words of a safe text -/
def safeWords (s : Str) : List Word := (splitOn ' ' s).map plainW

theorem safeWords_facts_art (s : Str) (h : safeText s = true) :
    safeWords s ≠ [] ∧ wordsText (safeWords s) = ' ' :: s ∧
    (∀ w ∈ safeWords s, goodWord w = true) ∧ (∀ w ∈ safeWords s, nlCount w.value = 0) ∧
    (∀ w ∈ safeWords s, w.quote = none) ∧
    (safeWords s).map (·.value) = splitOn ' ' s := by
  have hne : splitOn ' ' s ≠ [] := splitOn_ne_nil ' ' s
  have hpw : ∀ w ∈ safeWords s, plainWord w.value = true ∧ w.quote = none := by
    intro w hw
    obtain ⟨p, hp, rfl⟩ := List.mem_map.mp hw
    have := (List.all_eq_true.mp h) p hp
    simp only [Bool.and_eq_true, Bool.not_eq_true'] at this
    exact ⟨plainWord_of_safe_art this.1 this.2, rfl⟩
  refine ⟨by simpa [safeWords] using hne, ?_, ?_, ?_, fun w hw => (hpw w hw).2, ?_⟩
  · rw [safeWords, wordsText_plainW_art _ hne, joinWith_splitOn_art]
  · intro w hw
    simp [goodWord, (hpw w hw).1]
  · intro w hw
    exact plainWord_nlCount (hpw w hw).1
  · simp [safeWords, plainW, List.map_map, Function.comp_def]

/-- `reline` of words without newlines -/
def atLine (l : Nat) (ws : List Word) : List Word := ws.map (fun w => { w with line := some l })

theorem atLine_values_art (l : Nat) (ws : List Word) : (atLine l ws).map (·.value) = ws.map (·.value) := by
  simp [atLine, List.map_map, Function.comp_def]

/-! ### the value of words by kind -/

theorem isPlainNone_atLine_art (l : Nat) (ws : List Word) : isPlainNone (atLine l ws) = isPlainNone ws := by
  cases ws with
  | nil => rfl
  | cons w ws => cases ws <;> simp [atLine, isPlainNone]

theorem isPlainAuto_atLine_art (l : Nat) (ws : List Word) : isPlainAuto (atLine l ws) = isPlainAuto ws := by
  cases ws with
  | nil => rfl
  | cons w ws => cases ws <;> simp [atLine, isPlainAuto]

theorem firstLine_atLine_art (l : Nat) (ws : List Word) (hne : ws ≠ []) :
    firstLine (atLine l ws) = some l := by
  cases ws with
  | nil => exact absurd rfl hne
  | cons w ws => rfl


theorem safeChar_of_idCont_art {c : Char} (h : isIdCont c = true) : safeChar c = true := by
  obtain ⟨h1, h2, _, h4, h5, h6, h7, h8, _⟩ := idCont_facts h
  simp [safeChar, endsUnquoted, valueSettings, Gen.valueSingle, idCont_not_space h, h1, h2, h4, h5,
    isQuoteChar, h6, h7, h8]

theorem safeChar_of_intChar_art {c : Char} (h : IntChar c) : safeChar c = true := by
  rcases h with h | rfl
  · exact safeChar_of_idCont_art (by simp [isIdCont, h])
  · decide

theorem plainW_facts_art (s : Str) (hne : s ≠ []) (h : ∀ c ∈ s, safeChar c = true) :
    [plainW s] ≠ [] ∧ wordsText [plainW s] = ' ' :: s ∧ (∀ w ∈ [plainW s], goodWord w = true) ∧
      (∀ w ∈ [plainW s], nlCount w.value = 0) := by
  have hb : ' ' ∉ s := by
    intro hm
    have := h ' ' hm
    simp [safeChar, endsUnquoted, isSpace] at this
  have hs := splitOn_of_not_mem ' ' s hb
  have hsafe : safeText s = true := by
    simp only [safeText, hs, List.all_cons, List.all_nil, Bool.and_true, Bool.and_eq_true,
      Bool.not_eq_true', List.all_eq_true]
    exact ⟨by cases s <;> simp_all, h⟩
  have := safeWords_facts_art s hsafe
  simp only [safeWords, hs, List.map_cons, List.map_nil] at this
  exact ⟨this.1, this.2.1, this.2.2.1, this.2.2.2.1⟩

theorem stdIdent_chars_art {s : Str} (h : isStdIdent s = true) : s ≠ [] ∧ ∀ c ∈ s, isIdCont c = true := by
  cases s with
  | nil => simp [isStdIdent] at h
  | cons c w =>
    simp only [isStdIdent, Bool.and_eq_true, List.all_eq_true] at h
    refine ⟨by simp, ?_⟩
    intro d hd
    rcases List.mem_cons.mp hd with rfl | hd
    · exact idStart_cont h.1.1
    · exact h.1.2 d hd

/-- the words printed for an attribute value that is not a string -/
def valueWords : AttrVal → List Word
  | .none => [plainW "None".toList]
  | .auto => [plainW "Auto".toList]
  | .bool b => [plainW (if b then "True".toList else "False".toList)]
  | .int i => [plainW (intStr i)]
  | .conv c => safeWords c.render
  | .str _ => []

/-- the `.type` values inside the round trip: the printable converters (Phil/Proofs/RoundTrip.lean)
    whose rendering is read back word by word (`safeText`; true of every rendering — the condition
    is kept in decidable form) -/
def typeTextOK (c : Conv) : Bool :=
  Printable c && safeText c.render && strip c.render == c.render &&
    lower c.render != "none".toList && lower c.render != "auto".toList

/-- the attribute values `assign_attribute` can produce for a kind (strings: see `strOK`) -/
def kindOK : AKind → AttrVal → Bool
  | _, .none => true
  | .seqfmt, _ => false
  | _, .auto => true
  | .bool, .bool _ => true
  | .int, .int _ => true
  | .type, .conv c => typeTextOK c
  | _, _ => false

theorem valueWords_text_art (k : AKind) (v : AttrVal) (hs : ∀ s, v ≠ .str s) (hk : kindOK k v = true) :
    valueWords v ≠ [] ∧ wordsText (valueWords v) = ' ' :: v.pyStr ∧
    (∀ w ∈ valueWords v, goodWord w = true) ∧ (∀ w ∈ valueWords v, nlCount w.value = 0) := by
  cases v with
  | none => exact plainW_facts_art _ (by decide) (by decide)
  | auto => exact plainW_facts_art _ (by decide) (by decide)
  | bool b => cases b <;> exact plainW_facts_art _ (by decide) (by decide)
  | int i => exact plainW_facts_art _ (intStr_ne_nil i) (fun c hc => safeChar_of_intChar_art (intStr_chars i c hc))
  | str s => exact absurd rfl (hs s)
  | conv c =>
    have hk' : typeTextOK c = true := by cases k <;> simp_all [kindOK]
    simp only [typeTextOK, Bool.and_eq_true] at hk'
    have := safeWords_facts_art c.render hk'.1.1.1.2
    exact ⟨this.1, this.2.1, this.2.2.1, this.2.2.2.1⟩

theorem notPlain_art (ws : List Word)
    (h : ∀ w, ws = [w] → w.quote.isSome = true ∨
      (lower w.value ≠ "none".toList ∧ lower w.value ≠ "auto".toList)) :
    isPlainNone ws = false ∧ isPlainAuto ws = false := by
  match ws with
  | [] => exact ⟨rfl, rfl⟩
  | _ :: _ :: _ => exact ⟨rfl, rfl⟩
  | [w] =>
    rcases h w rfl with hq | ⟨h1, h2⟩
    · simp [isPlainNone, isPlainAuto, Option.isNone_eq_false_iff.mpr hq]
    · have h1' : ¬ lower w.value = ['n', 'o', 'n', 'e'] := h1
      have h2' : ¬ lower w.value = ['a', 'u', 't', 'o'] := h2
      simp [isPlainNone, isPlainAuto, h1', h2']

theorem strFromWords_str_art (ws : List Word)
    (h : ∀ w, ws = [w] → w.quote.isSome = true ∨
      (lower w.value ≠ "none".toList ∧ lower w.value ≠ "auto".toList)) :
    strFromWords ws = .str (joinWith [' '] (ws.map (·.value))) := by
  simp [strFromWords, notPlain_art ws h]

theorem kindValue_valueWords_art (k : AKind) (v : AttrVal) (hs : ∀ s, v ≠ .str s)
    (hk : kindOK k v = true) (l : Nat) : kindValue k (atLine l (valueWords v)) = .ok v := by
  cases v with
  | none => cases k <;> rfl
  | auto => cases k <;> first | rfl | (simp [kindOK] at hk)
  | bool b =>
    cases k <;> first | (simp [kindOK] at hk; done) | skip
    cases b <;> rfl
  | int i =>
    cases k <;> first | (simp [kindOK] at hk; done) | skip
    show intFromWordsLit [⟨intStr i, none, some l⟩] = _
    unfold intFromWordsLit
    rw [strFromWords_int_word]
    simp only [intStr_strip, intStr_lower, parseIntLit_intStr]
    have := intStr_not_special i
    unfold isSpecialNumText at this
    simp only [intStr_strip, intStr_lower] at this
    simp only [Bool.or_eq_false_iff, beq_eq_false_iff_ne, ne_eq] at this
    obtain ⟨⟨⟨t1, t2⟩, t3⟩, t4⟩ := this
    have t1' : ¬ intStr i = ['t', 'r', 'u', 'e'] := t1
    have t2' : ¬ intStr i = ['f', 'a', 'l', 's', 'e'] := t2
    have t3' : ¬ intStr i = ['n', 'o', 'n', 'e'] := t3
    have t4' : ¬ intStr i = ['a', 'u', 't', 'o'] := t4
    simp [t1', t2', t3', t4']
  | str s => exact absurd rfl (hs s)
  | conv c =>
    cases k <;> first | (simp [kindOK] at hk; done) | skip
    have hk' : typeTextOK c = true := hk
    simp only [typeTextOK, Bool.and_eq_true, bne_iff_ne, ne_eq, beq_iff_eq] at hk'
    obtain ⟨⟨⟨⟨hp, hsafe⟩, hstrip⟩, hn⟩, ha⟩ := hk'
    obtain ⟨_, _, _, _, _, hvals⟩ := safeWords_facts_art c.render hsafe
    have hjoin : joinWith [' '] ((safeWords c.render).map (·.value)) = c.render := by
      rw [hvals, joinWith_splitOn_art]
    -- a single word is the whole rendering, which is neither `none` nor `auto`
    have hnp := notPlain_art (safeWords c.render) (fun w e => Or.inr (by
      rw [e] at hjoin
      have : w.value = c.render := hjoin
      rw [this]; exact ⟨hn, ha⟩))
    show kindValue .type (atLine l (safeWords c.render)) = _
    simp only [kindValue, isPlainNone_atLine_art, isPlainAuto_atLine_art, strFromWords, atLine_values_art,
      hnp, hjoin, Bool.false_eq_true, ↓reduceIte, hstrip, type_round_trip c _ hp]
    rfl


/-! ## Part 2: the printed text of one attribute, and how it is read back -/

/-- `show_attributes` puts a string value in double quotes unless it is an identifier other than
    none / auto that fits on the line -/
def strNeedQuote (pre : Str) (width : Int) (name : String) (s : Str) : Bool :=
  !isStdIdent s || lower s == "none".toList || lower s == "auto".toList ||
    !attrFits (attrIndent pre name) width s

/-- the string value as printed when it stays on one line -/
def strPrinted (pre : Str) (width : Int) (name : String) (s : Str) : Str :=
  if strNeedQuote pre width name s then quoteStr .d1 s else s

/-- the word the parser reads back from `strPrinted` -/
def strWord (pre : Str) (width : Int) (name : String) (s : Str) : Word :=
  if strNeedQuote pre width name s then { value := s, quote := some .d1 } else { value := s }

/-- the printed string value fits on the line of the attribute name (no wrapping) -/
def strOneLine (pre : Str) (width : Int) (name : String) (s : Str) : Bool :=
  attrFits (attrIndent pre name) width (strPrinted pre width name s)

/-- the lines of a wrapped value: the first block after `.name =`, the others on lines of their own,
    indented to the column of the first -/
def wrapT (indent : Str) : List Str → Str
  | [] => []
  | b :: bs => ' ' :: '"' :: b ++ ['"'] ++ bs.flatMap (fun b => '\n' :: indent ++ '"' :: b ++ ['"'])

/-- the wrap width `show_attributes` passes to `textwrap.wrap` -/
def wrapWidth (pre : Str) (width : Int) (name : String) : Int := width - 2 - (attrIndent pre name).length

/-- the text printed after `.name =` up to (not including) the final newline -/
def attrTail (pre : Str) (width : Int) (name : String) : AttrVal → Str
  | .str s =>
    if strOneLine pre width name s then ' ' :: strPrinted pre width name s
    else wrapT (attrIndent pre name) (twWrap (escape '"' s) (wrapWidth pre width name).toNat)
  | v => ' ' :: v.pyStr

/-- the printed line(s) of one attribute, final newline included -/
def attrLineText (pre : Str) (width : Int) (name : String) (v : AttrVal) : Str :=
  pre ++ "  .".toList ++ name.toList ++ " =".toList ++ attrTail pre width name v ++ ['\n']

/-- `T` (the text after `.name =`, followed by a newline) is read by `collect_assigned_words` as words
    from which `f` makes the value `v`; the newline is left -/
def ReadsAs (T : Str) (f : List Word → R AttrVal) (v : AttrVal) : Prop :=
  ∀ (rest : Str) (l : Nat) (lead : Word), lead.line = some l → isUnq lead "\\" = false → NextOK rest →
    ∃ ws l', collectAssigned ⟨T ++ '\n' :: rest, l⟩ lead = .ok (ws, ⟨'\n' :: rest, l'⟩) ∧ f ws = .ok v

theorem attrHead_split_art (pre : Str) (name : String) (X : Str) :
    attrHead pre name ++ X = pre ++ "  .".toList ++ name.toList ++ " =".toList ++ (' ' :: X) := by
  simp [attrHead]

/-! ### the value collector in front of text that ends the value -/

/-- `T` (the text after `.name =`) is read by `collect_assigned_words`, whatever value-ending text follows,
    as words from which `f` makes the value `v` -/
def Reads (T : Str) (f : List Word → R AttrVal) (v : AttrVal) : Prop :=
  ∀ (F : Str) (E : Nat → CI → Prop), EndsVal F E → ∀ (l : Nat) (lead : Word), lead.line = some l →
    isUnq lead "\\" = false →
    ∃ ws l' ci', E l' ci' ∧ collectAssigned ⟨T ++ F, l⟩ lead = .ok (ws, ci') ∧ f ws = .ok v

theorem Reads.readsAs {T : Str} {f : List Word → R AttrVal} {v : AttrVal} (h : Reads T f v) :
    ReadsAs T f v := by
  intro rest l lead hl hbs hnext
  obtain ⟨ws, l', _, rfl, h1, h2⟩ := h _ _ (endsVal_next rest hnext) l lead hl hbs
  exact ⟨ws, l', h1, h2⟩

theorem reads_gaps (ws : List Word) (gaps : List Gap) (f : List Word → R AttrVal) (v : AttrVal)
    (hne : ws ≠ []) (hgood : ∀ w ∈ ws, goodWord w = true) (hgaps : gapsOK3 true true gaps ws = true)
    (hf : ∀ l, f (relineG l gaps ws) = .ok v) : Reads (wordsLay3 gaps ws) f v := by
  intro F E hF l lead hl hbs
  obtain ⟨ci', hE, hrun⟩ := collectAssigned_gaps hF ws gaps l lead hne hgood hgaps hl hbs
  exact ⟨_, _, ci', hE, hrun, hf l⟩

theorem reads_words (ws : List Word) (f : List Word → R AttrVal) (v : AttrVal)
    (hne : ws ≠ []) (hgood : ∀ w ∈ ws, goodWord w = true) (hchain : chainOK true ws = true)
    (hf : ∀ l, f (reline l ws) = .ok v) : Reads (wordsText ws) f v := by
  rw [wordsText_eq]
  exact reads_gaps ws _ f v hne hgood (chainOK_gaps ws true true hchain)
    (fun l => by rw [(relineG_blank ws l).1]; exact hf l)

theorem reads_plain_words (ws : List Word) (f : List Word → R AttrVal) (v : AttrVal)
    (hne : ws ≠ []) (hgood : ∀ w ∈ ws, goodWord w = true) (hnl : ∀ w ∈ ws, nlCount w.value = 0)
    (hf : ∀ l, f (atLine l ws) = .ok v) : Reads (wordsText ws) f v :=
  reads_words ws f v hne hgood (chainOK_noNl ws hnl)
    (fun l => by rw [(reline_noNl l ws hnl).1]; exact hf l)

/-! ### values printed on the line of the attribute name -/

theorem attr_line_value_art (isDef : Bool) (pre : Str) (width : Int) (n : String) (v : AttrVal)
    (hs : ∀ s, v ≠ .str s) (hk : kindOK (kindOf isDef n) v = true) :
    attrLines pre width n v = .ok [attrHead pre n ++ v.pyStr] ∧
    unlines [attrHead pre n ++ v.pyStr] = attrLineText pre width n v ∧
    Reads (attrTail pre width n v) (attrValueOf isDef n) v := by
  obtain ⟨h1, h2, h3, h4⟩ := valueWords_text_art _ v hs hk
  have htail : attrTail pre width n v = ' ' :: v.pyStr := by
    cases v <;> first | rfl | exact absurd rfl (hs _)
  refine ⟨?_, ?_, ?_⟩
  · cases v <;> first | rfl | exact absurd rfl (hs _)
  · rw [attrLineText, htail]
    simp [unlines, attrHead]
  · rw [htail, ← h2]
    refine reads_plain_words _ _ v h1 h3 h4 (fun l => ?_)
    rw [attrValueOf_kind_art]
    exact kindValue_valueWords_art _ v hs hk l

theorem attr_line_str_art (isDef : Bool) (pre : Str) (width : Int) (n : String) (s : Str)
    (hk : kindOf isDef n = .str) (hfit : strOneLine pre width n s = true) :
    attrLines pre width n (.str s) = .ok [attrHead pre n ++ strPrinted pre width n s] ∧
    unlines [attrHead pre n ++ strPrinted pre width n s] = attrLineText pre width n (.str s) ∧
    Reads (attrTail pre width n (.str s)) (attrValueOf isDef n) (.str s) := by
  have htail : attrTail pre width n (.str s) = ' ' :: strPrinted pre width n s := by
    simp only [attrTail, hfit, ↓reduceIte]
  refine ⟨?_, ?_, ?_⟩
  · have hfit' := hfit
    unfold strOneLine strPrinted strNeedQuote at hfit'
    simp only [attrLines]
    rw [if_pos hfit']
    rfl
  · rw [attrLineText, htail]
    simp [unlines, attrHead]
  · rw [htail]
    -- the one word read back, quoted or plain, is the string
    have hval : ∀ (w : Word) (l : Nat), w.value = s →
        (w.quote.isSome = true ∨ (lower s ≠ "none".toList ∧ lower s ≠ "auto".toList)) →
        attrValueOf isDef n (reline l [w]) = .ok (.str s) := by
      intro w l hv hw
      rw [attrValueOf_kind_art, hk]
      show Except.ok (strFromWords [{ w with line := some l }]) = _
      rw [strFromWords_str_art _ (fun w' e => by cases e; rw [← hv] at hw; exact hw), ← hv]
      rfl
    by_cases hq : strNeedQuote pre width n s = true
    · have e : ' ' :: strPrinted pre width n s = wordsText [{ value := s, quote := some .d1 }] := by
        simp [strPrinted, hq, wordsText, Word.str]
      rw [e]
      exact reads_words _ _ _ (by simp) (by simp [goodWord]) (by simp [chainOK])
        (fun l => hval _ l rfl (Or.inl rfl))
    · have hq' : strNeedQuote pre width n s = false := by simpa using hq
      simp only [strNeedQuote, Bool.or_eq_false_iff, Bool.not_eq_eq_eq_not] at hq'
      obtain ⟨⟨⟨hid, hn⟩, ha⟩, _⟩ := hq'
      obtain ⟨hne, hchars⟩ := stdIdent_chars_art hid
      have hw := plainW_facts_art s hne (fun c hc => safeChar_of_idCont_art (hchars c hc))
      have e : ' ' :: strPrinted pre width n s = wordsText [plainW s] := by
        rw [hw.2.1]; simp [strPrinted, hq]
      rw [e]
      exact reads_words _ _ _ hw.1 hw.2.2.1 (by simp [chainOK, plainW])
        (fun l => hval _ l rfl (Or.inr ⟨ne_of_beq_false hn, ne_of_beq_false ha⟩))

/-! ### escaping commutes with the word structure -/

/-- what `escape` writes for one character -/
def escChar (q c : Char) : Str := if c == '\\' then ['\\', '\\'] else if c == q then ['\\', q] else [c]

theorem escape_eq (q : Char) (s : Str) : escape q s = s.flatMap (escChar q) := by
  induction s with
  | nil => rfl
  | cons c cs ih =>
    rw [escape, List.flatMap_cons, ← ih, escChar]
    split
    · rfl
    · split <;> rfl

theorem escape_append_art (q : Char) (a b : Str) : escape q (a ++ b) = escape q a ++ escape q b := by
  rw [escape_eq, escape_eq, escape_eq, List.flatMap_append]

theorem escape_joinWith_art (q : Char) (hq : q ≠ ' ') : ∀ (ws : List Str),
    escape q (joinWith [' '] ws) = joinWith [' '] (ws.map (escape q)) := by
  intro ws
  induction ws with
  | nil => rfl
  | cons w ws ih =>
    cases ws with
    | nil => simp [joinWith]
    | cons w2 ws =>
      have e : joinWith [' '] (w :: w2 :: ws) = w ++ (' ' :: joinWith [' '] (w2 :: ws)) := by simp [joinWith]
      have hb : (' ' == '\\') = false := by decide
      have hq' : (' ' == q) = false := by simpa using fun e => hq e.symm
      rw [e, escape_append_art, escape, ih]
      simp [hb, hq', joinWith]

theorem mem_escape_art (q : Char) (s : Str) (d : Char) (hd : d ∈ escape q s) : d ∈ s ∨ d = '\\' ∨ d = q := by
  rw [escape_eq, List.mem_flatMap] at hd
  obtain ⟨c, hc, hd⟩ := hd
  unfold escChar at hd
  split at hd
  · exact Or.inr (Or.inl (by simpa using hd))
  · split at hd
    · simp only [List.mem_cons, List.not_mem_nil, or_false] at hd
      exact Or.inr hd
    · exact Or.inl (by rw [List.mem_singleton.mp hd]; exact hc)

theorem escape_ne_nil_art (q : Char) (s : Str) (h : s ≠ []) : escape q s ≠ [] := by
  cases s with
  | nil => exact absurd rfl h
  | cons c cs =>
    rw [escape]
    split
    · simp
    · split <;> simp

theorem twWord_escape_art {w : Str} (h : twWord w = true) : twWord (escape '"' w) = true := by
  obtain ⟨c, t, rfl, hct⟩ := twWord_cases_art h
  have hne := escape_ne_nil_art '"' (c :: t) (by simp)
  simp only [twWord, Bool.and_eq_true, Bool.not_eq_true', List.all_eq_true]
  refine ⟨by cases he : escape '"' (c :: t) <;> simp_all, fun d hd => ?_⟩
  rcases mem_escape_art '"' _ d hd with h | rfl | rfl
  · exact hct d h
  · decide
  · decide

theorem flatten_eq_map_art {α β : Type} (f : α → β) : ∀ (groups : List (List β)) (l : List α),
    groups.flatten = l.map f → ∃ groups0 : List (List α), groups = groups0.map (List.map f) ∧ groups0.flatten = l := by
  intro groups
  induction groups with
  | nil =>
    intro l h
    have : l = [] := by cases l <;> simp_all
    exact ⟨[], rfl, by rw [this]; rfl⟩
  | cons g gs ih =>
    intro l h
    rw [List.flatten_cons] at h
    obtain ⟨l1, l2, rfl, h1, h2⟩ := List.map_eq_append_iff.mp h.symm
    obtain ⟨gs0, e1, e2⟩ := ih l2 h2.symm
    exact ⟨l1 :: gs0, by rw [List.map_cons, h1, e1], by rw [List.flatten_cons, e2]⟩

theorem joinWith_append_art (sep : Str) : ∀ (a b : List Str), a ≠ [] → b ≠ [] →
    joinWith sep (a ++ b) = joinWith sep a ++ sep ++ joinWith sep b := by
  intro a
  induction a with
  | nil => intro b h; exact absurd rfl h
  | cons x xs ih =>
    intro b _ hb
    cases xs with
    | nil =>
      cases b with
      | nil => exact absurd rfl hb
      | cons y ys => simp [joinWith]
    | cons x2 xs =>
      have := ih b (by simp) hb
      simp only [List.cons_append] at this ⊢
      simp only [joinWith]
      rw [this]
      simp [List.append_assoc]

theorem joinWith_flatten_art : ∀ (groups : List (List Str)), (∀ g ∈ groups, g ≠ []) →
    joinWith [' '] (groups.map (joinWith [' '])) = joinWith [' '] groups.flatten := by
  intro groups
  induction groups with
  | nil => intro _; rfl
  | cons g gs ih =>
    intro h
    have hg := h g (by simp)
    have ih' := ih (fun x hx => h x (by simp [hx]))
    cases gs with
    | nil => simp [joinWith]
    | cons g2 gs =>
      have hfl : (g2 :: gs).flatten ≠ [] := by
        have := h g2 (by simp)
        cases g2 with
        | nil => exact absurd rfl this
        | cons a b => simp
      rw [List.flatten_cons, joinWith_append_art _ g _ hg hfl, ← ih']
      simp [joinWith]

/-! ### quoted words on several lines -/

def quotedW (p : Str) : Word := { value := p, quote := some .d1 }

/-- the white space in front of the blocks of a wrapped value: a blank in front of the first, a newline and the
    indentation in front of the others -/
def blockGaps (indent : Str) : List Str → List Gap
  | [] => []
  | _ :: ps => { ws := [' '] } :: ps.map fun _ => { ws := '\n' :: indent }

/-- the printed blocks are quoted words behind their gaps -/
theorem wrapT_eq (indent : Str) (pieces : List Str) :
    wrapT indent (pieces.map (escape '"')) = wordsLay3 (blockGaps indent pieces) (pieces.map quotedW) := by
  have tail : ∀ ps : List Str, (ps.map (escape '"')).flatMap (fun b => '\n' :: indent ++ '"' :: b ++ ['"'])
      = wordsLay3 (ps.map fun _ => { ws := '\n' :: indent }) (ps.map quotedW) := by
    intro ps
    induction ps with
    | nil => rfl
    | cons p ps ih =>
      simp only [List.map_cons, List.flatMap_cons, ih, wordsLay3]
      simp [Gap.text, quotedW, Word.str, quoteStr, Quote.token, Quote.triple, Quote.char]
  cases pieces with
  | nil => rfl
  | cons p ps =>
    simp only [List.map_cons, wrapT, blockGaps, wordsLay3, tail]
    simp [Gap.text, quotedW, Word.str, quoteStr, Quote.token, Quote.triple, Quote.char]

theorem gapsOK3_quoted : ∀ (ps : List Str) (gaps : List Gap) (first same : Bool), gaps.length = ps.length →
    (∀ g ∈ gaps, g.bs = none ∧ g.ws ≠ [] ∧ allSpace g.ws = true) →
    gapsOK3 first same gaps (ps.map quotedW) = true
  | [], [], _, _, _, _ => rfl
  | [], _ :: _, _, _, h, _ => by simp at h
  | _ :: _, [], _, _, h, _ => by simp at h
  | p :: ps, g :: gs, first, same, hl, h => by
    obtain ⟨h1, h2, h3⟩ := h g (by simp)
    simp only [List.map_cons, gapsOK3, gapOK, h1, h3, Bool.and_eq_true]
    exact ⟨by simp [h2, quotedW], gapsOK3_quoted ps gs _ _ (by simpa using hl) fun g' hg' => h g' (by simp [hg'])⟩

theorem strFromWords_quoted (ps : List Str) (gaps : List Gap) (l : Nat) (hl : gaps.length = ps.length) :
    strFromWords (relineG l gaps (ps.map quotedW)) = .str (joinWith [' '] ps) := by
  rw [← strFromWords_erase_la, relineG_erase _ _ _ (by simpa using hl), strFromWords_erase_la,
    strFromWords_str_art _ (fun w e => Or.inl ?_), List.map_map]
  · exact congrArg _ (congrArg _ (List.map_id' ps))
  · obtain ⟨p, _, rfl⟩ := List.mem_map.mp (show w ∈ ps.map quotedW by rw [e]; simp)
    rfl

/-! ### a wrapped string attribute -/

/-- the condition on a string value that is wrapped: room for `textwrap`, single-spaced text -/
def strWrapOK (pre : Str) (width : Int) (name : String) (s : Str) : Bool :=
  !strOneLine pre width name s && decide (0 < wrapWidth pre width name) && singleSpaced s &&
    !(quoteStr .d1 s).contains '\t'

theorem zipIdx_wrapLine_art (head indent : Str) : ∀ (bs : List Str) (n : Nat), 1 ≤ n →
    (bs.zipIdx n).map (wrapLine head indent) = bs.map (fun b => indent ++ '"' :: b ++ ['"']) := by
  intro bs
  induction bs with
  | nil => intro n _; rfl
  | cons b bs ih =>
    intro n hn
    have : (n == 0) = false := by simpa using (by omega : n ≠ 0)
    simp only [List.zipIdx_cons, List.map_cons, wrapLine, this, Bool.false_eq_true, ↓reduceIte]
    rw [ih (n + 1) (by omega)]

theorem unlines_wrapLines_art (pre : Str) (name : String) (indent : Str) (b : Str) (bs : List Str) :
    unlines (((b :: bs).zipIdx).map (wrapLine (attrHead pre name) indent))
      = pre ++ "  .".toList ++ name.toList ++ " =".toList ++ wrapT indent (b :: bs) ++ ['\n'] := by
  rw [List.zipIdx_cons, List.map_cons, zipIdx_wrapLine_art _ _ bs 1 (Nat.le_refl _)]
  simp only [wrapLine, beq_self_eq_true, ↓reduceIte, unlines_cons, wrapT]
  have : ∀ (xs : List Str), unlines (xs.map (fun b => indent ++ '"' :: b ++ ['"']))
      = (xs.flatMap (fun b => '\n' :: indent ++ '"' :: b ++ ['"'])).drop 1 ++ (if xs.isEmpty then [] else ['\n']) := by
    intro xs
    induction xs with
    | nil => rfl
    | cons x xs ih =>
      rw [List.map_cons, unlines_cons, ih]
      cases xs with
      | nil => simp
      | cons y ys => simp
  rw [this]
  cases bs with
  | nil => simp [attrHead]
  | cons y ys => simp [attrHead]

/-- **a wrapped string attribute** whose blocks are the escaped forms of `pieces`: what is printed, and
    that the pieces are read back as one value, joined by single blanks -/
theorem attr_line_wrapped (isDef : Bool) (pre : Str) (hb : Blank pre) (width : Int) (n : String) (s : Str)
    (hk : kindOf isDef n = .str) (hnot : strOneLine pre width n s = false)
    (hroom : 0 < wrapWidth pre width n) (htab : (quoteStr .d1 s).contains '\t' = false)
    (pieces : List Str) (hne : pieces ≠ [])
    (hp : twWrap (escape '"' s) (wrapWidth pre width n).toNat = pieces.map (escape '"')) :
    (∃ ls, attrLines pre width n (.str s) = .ok ls ∧ unlines ls = attrLineText pre width n (.str s)) ∧
    Reads (attrTail pre width n (.str s)) (attrValueOf isDef n) (.str (joinWith [' '] pieces)) := by
  have hind : ∀ d ∈ attrIndent pre n, d = ' ' := by
    intro d hd
    simp only [attrIndent, List.mem_append] at hd
    rcases hd with h | h
    · exact hb d h
    · simp only [spaces, List.mem_replicate] at h; exact h.2
  have htail : attrTail pre width n (.str s)
      = wordsLay3 (blockGaps (attrIndent pre n) pieces) (pieces.map quotedW) := by
    simp only [attrTail, hnot, Bool.false_eq_true, ↓reduceIte]
    rw [hp, wrapT_eq]
  refine ⟨?_, ?_⟩
  · -- a value that does not fit is printed in quotes: unquoted it would fit
    have hq : strNeedQuote pre width n s = true := by
      cases hq : strNeedQuote pre width n s with
      | true => rfl
      | false =>
        have hfit : attrFits (attrIndent pre n) width s = true := by
          simp only [strNeedQuote, Bool.or_eq_false_iff, Bool.not_eq_false'] at hq
          exact hq.2
        simp only [strOneLine, strPrinted, hq, Bool.false_eq_true, ↓reduceIte, hfit] at hnot
        cases hnot
    have hfit' : attrFits (attrIndent pre n) width (quoteStr .d1 s) = false := by
      simpa only [strOneLine, strPrinted, hq, ↓reduceIte] using hnot
    have hinner : ((quoteStr Quote.d1 s).drop 1).take ((quoteStr Quote.d1 s).length - 2) = escape '"' s := by
      simp [quoteStr, Quote.token, Quote.triple, Quote.char]
    have hroom' : ¬ (width - 2 - ((attrIndent pre n).length : Int) ≤ 0) := by
      unfold wrapWidth at hroom; omega
    have hlines : attrLines pre width n (.str s)
        = .ok (wrapLines (attrHead pre n) (attrIndent pre n) (escape '"' s) (wrapWidth pre width n).toNat) := by
      unfold strNeedQuote at hq
      simp only [attrLines, hq, ↓reduceIte, hfit', Bool.false_eq_true, hinner]
      rw [if_neg hroom', if_neg (by simpa using htab)]
      rfl
    refine ⟨_, hlines, ?_⟩
    unfold wrapLines
    rw [hp]
    cases hpe : pieces.map (escape '"') with
    | nil => exact absurd (by simpa using hpe) hne
    | cons b bs =>
      rw [unlines_wrapLines_art, attrLineText, attrTail]
      simp only [hnot, Bool.false_eq_true, ↓reduceIte, hp, hpe]
  · rw [htail]
    have hlen : (blockGaps (attrIndent pre n) pieces).length = pieces.length := by
      cases pieces <;> simp [blockGaps]
    refine reads_gaps _ _ _ _ (by simpa using hne) (fun w hw => ?_) (gapsOK3_quoted _ _ _ _ hlen fun g hg => ?_)
      (fun l => by rw [attrValueOf_kind_art, hk]; exact congrArg Except.ok (strFromWords_quoted pieces _ l hlen))
    · obtain ⟨p, _, rfl⟩ := List.mem_map.mp hw
      rfl
    · cases pieces with
      | nil => exact absurd rfl hne
      | cons p ps =>
        simp only [blockGaps, List.mem_cons, List.mem_map] at hg
        rcases hg with rfl | ⟨_, _, rfl⟩
        · exact ⟨rfl, by simp, by decide⟩
        · refine ⟨rfl, by simp, ?_⟩
          simp only [allSpace, List.all_cons, List.all_eq_true, Bool.and_eq_true]
          exact ⟨rfl, fun d hd => by rw [hind d hd]; rfl⟩

/-- **a wrapped single-spaced string attribute**: `textwrap.wrap` only regroups the words, so the value
    comes back as it was -/
theorem attr_line_wrap_reads_art (isDef : Bool) (pre : Str) (hb : Blank pre) (width : Int) (n : String) (s : Str)
    (hk : kindOf isDef n = .str) (h : strWrapOK pre width n s = true) :
    (∃ ls, attrLines pre width n (.str s) = .ok ls ∧ unlines ls = attrLineText pre width n (.str s)) ∧
    Reads (attrTail pre width n (.str s)) (attrValueOf isDef n) (.str s) := by
  simp only [strWrapOK, Bool.and_eq_true, Bool.not_eq_true', decide_eq_true_eq] at h
  obtain ⟨⟨⟨hnot, hroom⟩, hss⟩, htab⟩ := h
  -- the words of the text and of the escaped text
  have hs : joinWith [' '] (splitOn ' ' s) = s := joinWith_splitOn_art ' ' s
  have hw : ∀ w ∈ splitOn ' ' s, twWord w = true := fun w hw => (List.all_eq_true.mp hss) w hw
  have hesc : escape '"' s = joinWith [' '] ((splitOn ' ' s).map (escape '"')) := by
    conv => lhs; rw [← hs]
    exact escape_joinWith_art '"' (by decide) _
  have hew : ∀ w ∈ (splitOn ' ' s).map (escape '"'), twWord w = true := by
    intro w hw'
    obtain ⟨w0, h0, rfl⟩ := List.mem_map.mp hw'
    exact twWord_escape_art (hw w0 h0)
  obtain ⟨groups, hfl, hgne, hwrap⟩ := twWrap_singleSpaced_art _ hew (wrapWidth pre width n).toNat
  obtain ⟨groups0, hg0, hfl0⟩ := flatten_eq_map_art (escape '"') groups (splitOn ' ' s) hfl
  have hg0ne : ∀ g ∈ groups0, g ≠ [] := by
    intro g hg e
    subst e
    exact hgne [] (by rw [hg0]; exact List.mem_map.mpr ⟨[], hg, rfl⟩) rfl
  -- the blocks are the escaped pieces
  have hblocks : twWrap (escape '"' s) (wrapWidth pre width n).toNat
      = (groups0.map (joinWith [' '])).map (escape '"') := by
    rw [hesc, hwrap, hg0, List.map_map, List.map_map]
    apply List.map_congr_left
    intro g _
    simp only [Function.comp_def]
    exact (escape_joinWith_art '"' (by decide) g).symm
  have hpne : groups0.map (joinWith [' ']) ≠ [] := by
    intro e
    have : groups0 = [] := by simpa using e
    rw [this] at hfl0
    exact splitOn_ne_nil ' ' s hfl0.symm
  have := attr_line_wrapped isDef pre hb width n s hk hnot hroom (by simpa using htab) _ hpne hblocks
  rwa [joinWith_flatten_art groups0 hg0ne, hfl0, hs] at this


/-- **the condition on a string attribute value**: it stays on one line (any content), or it is
    wrapped and then is single-spaced text with room for `textwrap` (`strWrapOK`) -/
def strOK (pre : Str) (width : Int) (name : String) (s : Str) : Bool :=
  strOneLine pre width name s || strWrapOK pre width name s

/-- **the condition on one attribute**: its value is of the kind `assign_attribute` produces for the
    name, a `.type` is printable, a string is printed in a way that is read back -/
def attrOK (isDef : Bool) (pre : Str) (width : Int) (n : String) : AttrVal → Bool
  | .str s => kindOf isDef n == .str && strOK pre width n s
  | v => kindOK (kindOf isDef n) v

theorem attr_line_art (isDef : Bool) (pre : Str) (hb : Blank pre) (width : Int) (n : String) (v : AttrVal)
    (h : attrOK isDef pre width n v = true) :
    (∃ ls, attrLines pre width n v = .ok ls ∧ unlines ls = attrLineText pre width n v) ∧
    Reads (attrTail pre width n v) (attrValueOf isDef n) v := by
  by_cases hs : ∃ s, v = .str s
  · obtain ⟨s, rfl⟩ := hs
    simp only [attrOK, Bool.and_eq_true, beq_iff_eq, strOK, Bool.or_eq_true] at h
    rcases h.2 with h2 | h2
    · obtain ⟨h1, h2, h3⟩ := attr_line_str_art isDef pre width n s h.1 h2
      exact ⟨⟨_, h1, h2⟩, h3⟩
    · exact attr_line_wrap_reads_art isDef pre hb width n s h.1 h2
  · have hs' : ∀ s, v ≠ .str s := fun s e => hs ⟨s, e⟩
    have hk : kindOK (kindOf isDef n) v = true := by
      cases v <;> first | exact h | exact absurd rfl (hs' _)
    obtain ⟨h1, h2, h3⟩ := attr_line_value_art isDef pre width n v hs' hk
    exact ⟨⟨_, h1, h2⟩, h3⟩

/-! ### a wrapped string attribute with runs of blanks -/

/-- free text without backslash and double quote (printed inside double quotes without escapes) -/
def noEsc (s : Str) : Bool := s.all (fun c => c != '\\' && c != '"')

theorem escape_id_ar2 (q : Char) (b : Str) (h : ∀ d ∈ b, d ≠ '\\' ∧ d ≠ q) : escape q b = b := by
  rw [escape_eq]
  conv => rhs; rw [← List.flatMap_singleton' b]
  exact flatMap_congr_mem _ _ _ fun d hd => by simp [escChar, (h d hd).1, (h d hd).2]

/-- **the value the parser reads back from a wrapped string attribute** (escape-free text): the blocks
    of `textwrap.wrap` joined by single blanks -/
def reflowStr (pre : Str) (width : Int) (name : String) (s : Str) : Str :=
  joinWith [' '] (twWrap s (wrapWidth pre width name).toNat)

/-- the condition on a string value that is wrapped and may contain RUNS of blanks: room for
    `textwrap`; the only white space is the blank; at least one word; no backslash, no double quote -/
def strWrapRunsOK (pre : Str) (width : Int) (name : String) (s : Str) : Bool :=
  !strOneLine pre width name s && decide (0 < wrapWidth pre width name) && noOddWs s && noEsc s &&
    !(wordsOf s).isEmpty

theorem noTab_of_noOddWs_ar2 (s : Str) (h1 : noOddWs s = true) : (quoteStr .d1 s).contains '\t' = false := by
  have hmem : ∀ d ∈ quoteStr .d1 s, d ≠ '\t' := by
    intro d hd
    have hq : quoteStr .d1 s = '"' :: (escape '"' s ++ ['"']) := by
      simp [quoteStr, Quote.token, Quote.triple, Quote.char]
    rw [hq] at hd
    simp only [List.mem_cons, List.mem_append, List.not_mem_nil, or_false] at hd
    rcases hd with rfl | hd | rfl
    · decide
    · rcases mem_escape_art '"' s d hd with h | rfl | rfl
      · have := (List.all_eq_true.mp h1) d h
        intro e; subst e
        simp [isTwWs] at this
      · decide
      · decide
    · decide
  cases hc : (quoteStr .d1 s).contains '\t' with
  | false => rfl
  | true =>
    have := List.contains_iff_mem.mp hc
    exact absurd rfl (hmem _ this)

end Phil
