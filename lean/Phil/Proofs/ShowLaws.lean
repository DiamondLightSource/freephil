/-
  Lemmas behind C19: laws of the printer model (`Phil.Show`) — `showAttributes` name by name; an extra
  leading prefix = reduced width + the prefix prepended to every line; the expert-level gate is pruning of
  the tree; attribute levels only add lines.  The laws about trees go by `Obj.both` / `Obj.ind_mem`: induction over a
  tree and its child list at once.
-/
import Phil.Show
import Phil.Proofs.Generic
namespace Phil

/-! ## `showAttributes` in pieces -/

/-- is attribute `name` with value `value` printed at `level` (> 0)? -/
def attrShown (level : Int) (name : String) (value : AttrVal) : Bool :=
  if name == "deprecated" && !value.truthy then false
  else if (name == "help" && !value.isNone) || (name == "alias" && !value.isNone) ||
          (!value.isNone && level > 1) || level > 2 then
    if name == "alias" && value.isNone then false else true
  else false

def attrHead (pre : Str) (name : String) : Str := pre ++ "  .".toList ++ name.toList ++ " = ".toList
def attrIndent (pre : Str) (name : String) : Str := pre ++ spaces (3 + name.length + 3)
def attrFits (indent : Str) (width : Int) (s : Str) : Bool :=
  decide (((indent ++ s).length : Int) < width)
def wrapLine (head indent : Str) (bi : Str × Nat) : Str :=
  if bi.2 == 0 then head ++ '"' :: bi.1 ++ ['"'] else indent ++ '"' :: bi.1 ++ ['"']
def wrapLines (head indent inner : Str) (w : Nat) : List Str :=
  (twWrap inner w).zipIdx.map (wrapLine head indent)

/-- the lines printed for one attribute that is shown -/
def attrLines (pre : Str) (width : Int) (name : String) : AttrVal → R (List Str)
  | .str v =>
    let head := attrHead pre name
    let indent := attrIndent pre name
    let needQuote := !isStdIdent v || lower v == "none".toList || lower v == "auto".toList ||
      !attrFits indent width v
    let v' := if needQuote then quoteStr .d1 v else v
    if attrFits indent width v' then .ok [head ++ v']
    else
      let w : Int := width - 2 - indent.length
      if w ≤ 0 then .error (.stray "ValueError" "textwrap_width")
      else if v'.contains '\t' then .error (.unsupported "tab in wrapped attribute")
      else .ok (wrapLines head indent ((v'.drop 1).take (v'.length - 2)) w.toNat)
  | v => .ok [attrHead pre name ++ v.pyStr]

/-- the lines one attribute name contributes at `level` -/
def attrOne (attrs : Attrs) (pre : Str) (level width : Int) (name : String) : R (List Str) :=
  if attrShown level name (attrs.get name) then attrLines pre width name (attrs.get name) else .ok []

/-- concatenation of the contributions, first error wins -/
def attrAll (attrs : Attrs) (pre : Str) (level width : Int) : List String → R (List Str)
  | [] => .ok []
  | n :: ns =>
    match attrOne attrs pre level width n with
    | .error e => .error e
    | .ok l => match attrAll attrs pre level width ns with
      | .error e => .error e
      | .ok r => .ok (l ++ r)

def appendTo (out : List Str) : R (List Str) → R (List Str)
  | .error e => .error e
  | .ok l => .ok (out ++ l)

@[simp] theorem appendTo_ok (out l : List Str) : appendTo out (.ok l) = .ok (out ++ l) := rfl
@[simp] theorem appendTo_error (out : List Str) (e : Err) : appendTo out (.error e) = .error e := rfl
theorem appendTo_ite (out : List Str) (c : Prop) [Decidable c] (a b : R (List Str)) :
    appendTo out (if c then a else b) = if c then appendTo out a else appendTo out b := by
  split <;> rfl

theorem foldlM_attrAll (attrs : Attrs) (pre : Str) (level width : Int)
    (f : List Str → String → R (List Str))
    (h : ∀ out n, f out n = appendTo out (attrOne attrs pre level width n)) :
    ∀ (ns : List String) (out : List Str),
      ns.foldlM f out = appendTo out (attrAll attrs pre level width ns) := by
  intro ns
  induction ns with
  | nil => intro out; simp [attrAll, pure, Except.pure]
  | cons n ns ih =>
    intro out
    rw [List.foldlM_cons, h, attrAll]
    cases attrOne attrs pre level width n with
    | error e => rfl
    | ok l =>
      simp only [appendTo_ok, bind, Except.bind]
      rw [ih]
      cases attrAll attrs pre level width ns <;> simp [appendTo, List.append_assoc]

/-- leaving with `a` at each test that hides an attribute is one test of the Boolean that collects
    them (the shape of `attrShown`) -/
theorem ite_attrShown {α : Type} (c1 c2 c3 : Bool) (a b : α) :
    (if c1 = true then a else if c2 = true then (if c3 = true then a else b) else a) =
      if (if c1 = true then false else if c2 = true then (if c3 = true then false else true) else false) = true
      then b else a := by
  cases c1 <;> cases c2 <;> cases c3 <;> rfl

theorem showAttributes_all (names : List String) (attrs : Attrs) (pre : Str) (level width : Int) :
    showAttributes names attrs pre level width =
      if level ≤ 0 then .ok [] else attrAll attrs pre level width names := by
  unfold showAttributes
  by_cases hl : level ≤ 0
  · rw [if_pos hl, if_pos hl]
  · rw [if_neg hl, if_neg hl]
    refine (foldlM_attrAll attrs pre level width _ ?_ names []).trans ?_
    · intro out name
      simp only [attrOne]
      generalize attrs.get name = value
      -- the three tests of the code are those of `attrShown`, which `ite_congr` unfolds
      rw [ite_attrShown, appendTo_ite]
      refine ite_congr rfl (fun _ => ?_) (fun _ => ?_)
      · cases value <;> simp only [attrLines, appendTo_ite, appendTo_ok, appendTo_error] <;> rfl
      · simp
    · cases attrAll attrs pre level width names <;> simp [appendTo]

/-! ## prefix law -/

abbrev addPre (p : Str) (r : R (List Str)) : R (List Str) := r.map (List.map (p ++ ·))

@[simp] theorem map_ok' (f : List Str → List Str) (l : List Str) :
    Except.map f (.ok l : R (List Str)) = .ok (f l) := rfl
@[simp] theorem map_error' (f : List Str → List Str) (e : Err) :
    Except.map f (.error e : R (List Str)) = .error e := rfl

theorem attrHead_prefix (p pre : Str) (name : String) :
    attrHead (p ++ pre) name = p ++ attrHead pre name := by
  simp [attrHead, List.append_assoc]

theorem attrIndent_prefix (p pre : Str) (name : String) :
    attrIndent (p ++ pre) name = p ++ attrIndent pre name := by
  simp [attrIndent, List.append_assoc]

theorem attrFits_prefix (p ind : Str) (width : Int) (s : Str) :
    attrFits (p ++ ind) width s = attrFits ind (width - p.length) s := by
  simp only [attrFits, List.length_append]
  apply decide_eq_decide.mpr
  omega

theorem wrapLines_prefix (p head indent inner : Str) (w : Nat) :
    wrapLines (p ++ head) (p ++ indent) inner w = (wrapLines head indent inner w).map (p ++ ·) := by
  simp only [wrapLines, List.map_map]
  congr 1
  funext bi
  simp only [wrapLine, Function.comp]
  split <;> simp [List.append_assoc]

theorem attrLines_prefix (p pre : Str) (width : Int) (name : String) (value : AttrVal) :
    attrLines (p ++ pre) width name value
      = addPre p (attrLines pre (width - p.length) name value) := by
  cases value
  case str v =>
    simp only [attrLines, attrHead_prefix, attrIndent_prefix, attrFits_prefix]
    have hw : width - 2 - ((p ++ attrIndent pre name).length : Int)
        = width - (p.length : Int) - 2 - ((attrIndent pre name).length : Int) := by
      simp only [List.length_append]; omega
    rw [hw]
    generalize (if (!isStdIdent v || lower v == "none".toList || lower v == "auto".toList ||
      !attrFits (attrIndent pre name) (width - (p.length : Int)) v) = true
      then quoteStr Quote.d1 v else v) = v'
    by_cases h1 : attrFits (attrIndent pre name) (width - (p.length : Int)) v' = true
    · rw [if_pos h1, if_pos h1]; simp [addPre, List.append_assoc]
    · rw [if_neg h1, if_neg h1]
      by_cases h2 : width - (p.length : Int) - 2 - ((attrIndent pre name).length : Int) ≤ 0
      · rw [if_pos h2, if_pos h2]; rfl
      · rw [if_neg h2, if_neg h2]
        by_cases h3 : v'.contains '\t' = true
        · rw [if_pos h3, if_pos h3]; rfl
        · rw [if_neg h3, if_neg h3]; simp [addPre, wrapLines_prefix]
  all_goals simp [attrLines, addPre, attrHead_prefix, List.append_assoc]

theorem attrOne_prefix (attrs : Attrs) (p pre : Str) (level width : Int) (name : String) :
    attrOne attrs (p ++ pre) level width name
      = addPre p (attrOne attrs pre level (width - p.length) name) := by
  simp only [attrOne]
  split
  · exact attrLines_prefix p pre width name _
  · rfl

theorem attrAll_prefix (attrs : Attrs) (p pre : Str) (level width : Int) (names : List String) :
    attrAll attrs (p ++ pre) level width names
      = addPre p (attrAll attrs pre level (width - p.length) names) := by
  induction names with
  | nil => rfl
  | cons n ns ih =>
    simp only [attrAll, attrOne_prefix, ih]
    cases attrOne attrs pre level (width - p.length) n with
    | error e => rfl
    | ok l =>
      cases attrAll attrs pre level (width - p.length) ns with
      | error e => rfl
      | ok r => simp [addPre]

theorem showAttributes_prefix (names : List String) (attrs : Attrs) (p pre : Str) (level width : Int) :
    showAttributes names attrs (p ++ pre) level width
      = (showAttributes names attrs pre level (width - p.length)).map (List.map (p ++ ·)) := by
  rw [showAttributes_all, showAttributes_all]
  split
  · rfl
  · exact attrAll_prefix attrs p pre level width names

theorem showWords_prefix (p : Str) (width : Int) :
    ∀ (ws : List Word) (indent line : Str) (out : List Str),
      showWords width (p ++ indent) ws (p ++ line) (out.map (p ++ ·))
        = (showWords (width - p.length) indent ws line out).map (p ++ ·) := by
  intro ws
  induction ws with
  | nil => intro indent line out; simp [showWords]
  | cons w ws ih =>
    intro indent line out
    simp only [showWords]
    have hc : (decide ((((p ++ line) ++ ' ' :: w.str).length : Int) > width - 2) &&
          decide ((p ++ line).length > (p ++ indent).length))
        = (decide (((line ++ ' ' :: w.str).length : Int) > width - (p.length : Int) - 2) &&
          decide (line.length > indent.length)) := by
      congr 1
      · apply decide_eq_decide.mpr; simp only [List.length_append, List.length_cons]; omega
      · apply decide_eq_decide.mpr; simp only [List.length_append]; omega
    rw [hc]
    split
    · have := ih indent (indent ++ ' ' :: w.str) (out ++ [line ++ " \\".toList])
      rw [← this]
      simp [List.append_assoc]
    · have := ih indent (line ++ ' ' :: w.str) out
      rw [← this]
      simp [List.append_assoc]

/-- first line of a definition, without the values -/
def defnLine (m : Meta) (merged : List Str) (prefix_ : Str) : Str :=
  let hash : Str := if m.disabled then ['!'] else []
  let line0 := prefix_ ++ hash ++ joinWith ['.'] (merged ++ [m.name])
  if m.name != "include".toList then line0 ++ " =".toList else line0

theorem defnLine_prefix (m : Meta) (merged : List Str) (p pre : Str) :
    defnLine m merged (p ++ pre) = p ++ defnLine m merged pre := by
  simp only [defnLine]
  split <;> simp [List.append_assoc]

theorem defnLine_length (m : Meta) (merged : List Str) (pre : Str) :
    pre.length ≤ (defnLine m merged pre).length := by
  simp only [defnLine]
  split <;> simp only [List.length_append] <;> omega

/-- the part of `showDefn` after the gates -/
def showDefnBody (o : ShowOpts) (m : Meta) (words : List Word) (merged : List Str) (prefix_ : Str) :
    R (List Str) :=
  let line := defnLine m merged prefix_
  let indent := prefix_ ++ spaces (line.length - prefix_.length)
  let warn := if (m.attrs.get "deprecated").truthy then
    [prefix_ ++ "# WARNING: deprecated parameter".toList] else []
  let body := showWords o.width indent words line []
  match showAttributes defAttrNames m.attrs prefix_ o.level o.width with
  | .error e => .error e
  | .ok attrs => .ok (warn ++ body ++ attrs)

/-- the expert-level gate applied to the rest of a `show` method -/
def expertGate (h : R Bool) (k : R (List Str)) : R (List Str) :=
  match h with
  | .error e => .error e
  | .ok true => .ok []
  | .ok false => k

@[simp] theorem expertGate_error (e : Err) (k : R (List Str)) : expertGate (.error e) k = .error e := rfl
@[simp] theorem expertGate_true (k : R (List Str)) : expertGate (.ok true) k = .ok [] := rfl
@[simp] theorem expertGate_false (k : R (List Str)) : expertGate (.ok false) k = k := rfl

theorem showDefn_eq (o : ShowOpts) (m : Meta) (words : List Word) (merged : List Str) (pre : Str) :
    showDefn o m words merged pre =
      if m.tmpl < 0 && o.level < 2 then .ok []
      else if (m.attrs.get "deprecated").truthy && o.level < 3 then .ok []
      else expertGate (expertHidden (m.attrs.get "expert_level") o.expert)
        (showDefnBody o m words merged pre) := by
  rfl

/-- `mergeNames` of the first child (the dotted-scope test of `scope.show`) -/
def firstMerges : List Obj → Bool
  | c :: _ => c.meta.mergeNames
  | [] => false

/-- the part of `scope.show` after the gates; `inner` prints the children -/
def showScopeBody (o : ShowOpts) (m : Meta) (fm : Bool) (inner : List Str → Str → R (List Str))
    (merged : List Str) (prefix_ : Str) : R (List Str) :=
  if m.name.isEmpty then inner merged prefix_
  else if fm then inner (merged ++ [m.name]) prefix_
  else
    let hash : Str := if m.disabled then ['!'] else []
    match showAttributes scopeAttrNames m.attrs prefix_ o.level o.width with
    | .error e => .error e
    | .ok attrs =>
      let mergedName := joinWith ['.'] (merged ++ [m.name])
      let head := if attrs.isEmpty then [prefix_ ++ hash ++ mergedName ++ " {".toList]
                  else [prefix_ ++ hash ++ mergedName] ++ attrs ++ [prefix_ ++ ['{']]
      match inner [] (prefix_ ++ "  ".toList) with
      | .error e => .error e
      | .ok body => .ok (head ++ body ++ [prefix_ ++ ['}']])

theorem showObj_scope_eq (o : ShowOpts) (m : Meta) (objs : List Obj) (merged : List Str) (pre : Str) :
    showObj o (.scope m objs) merged pre =
      if m.tmpl < 0 && o.level < 2 then .ok []
      else expertGate (expertHidden (m.attrs.get "expert_level") o.expert)
        (showScopeBody o m (firstMerges objs) (showObjs o objs) merged pre) := by
  cases objs <;> rfl

theorem showObj_defn_eq (o : ShowOpts) (m : Meta) (ws : List Word) (merged : List Str) (pre : Str) :
    showObj o (.defn m ws) merged pre = showDefn o m ws merged pre := rfl

theorem showObjs_nil (o : ShowOpts) (merged : List Str) (pre : Str) :
    showObjs o [] merged pre = .ok [] := rfl

def catR (a b : R (List Str)) : R (List Str) :=
  match a with
  | .error e => .error e
  | .ok l => match b with
    | .error e => .error e
    | .ok r => .ok (l ++ r)

theorem showObjs_cons (o : ShowOpts) (x : Obj) (xs : List Obj) (merged : List Str) (pre : Str) :
    showObjs o (x :: xs) merged pre = catR (showObj o x merged pre) (showObjs o xs merged pre) := rfl

theorem catR_addPre (p : Str) (a b : R (List Str)) :
    catR (addPre p a) (addPre p b) = addPre p (catR a b) := by
  cases a <;> cases b <;> simp [catR, addPre]

@[simp] theorem catR_nil_left (b : R (List Str)) : catR (.ok []) b = b := by
  cases b <;> rfl

theorem showDefnBody_prefix (o : ShowOpts) (m : Meta) (ws : List Word) (merged : List Str)
    (p pre : Str) :
    showDefnBody o m ws merged (p ++ pre)
      = addPre p (showDefnBody { o with width := o.width - p.length } m ws merged pre) := by
  simp only [showDefnBody, defnLine_prefix, showAttributes_prefix]
  have hlen : (p ++ defnLine m merged pre).length - (p ++ pre).length
      = (defnLine m merged pre).length - pre.length := by
    simp only [List.length_append]; omega
  rw [hlen]
  have hw := showWords_prefix p o.width ws
    (pre ++ spaces ((defnLine m merged pre).length - pre.length)) (defnLine m merged pre) []
  simp only [List.map_nil] at hw
  rw [← List.append_assoc] at hw
  rw [hw]
  cases showAttributes defAttrNames m.attrs pre o.level (o.width - p.length) with
  | error e => rfl
  | ok attrs =>
    simp only [map_ok', addPre]
    split <;> simp

theorem showDefn_prefix (o : ShowOpts) (m : Meta) (ws : List Word) (merged : List Str) (p pre : Str) :
    showDefn o m ws merged (p ++ pre)
      = addPre p (showDefn { o with width := o.width - p.length } m ws merged pre) := by
  rw [showDefn_eq, showDefn_eq, showDefnBody_prefix]
  simp only []
  split
  · rfl
  · split
    · rfl
    · cases expertHidden (m.attrs.get "expert_level") o.expert with
      | error e => rfl
      | ok b => cases b <;> rfl

theorem showScopeBody_prefix (o : ShowOpts) (m : Meta) (fm : Bool)
    (inner inner' : List Str → Str → R (List Str)) (p : Str)
    (hin : ∀ ms pre, inner ms (p ++ pre) = addPre p (inner' ms pre))
    (merged : List Str) (pre : Str) :
    showScopeBody o m fm inner merged (p ++ pre)
      = addPre p (showScopeBody { o with width := o.width - p.length } m fm inner' merged pre) := by
  simp only [showScopeBody, showAttributes_prefix, List.append_assoc, hin]
  split
  · rfl
  · split
    · rfl
    · cases showAttributes scopeAttrNames m.attrs pre o.level (o.width - p.length) with
      | error e => rfl
      | ok attrs =>
        simp only [map_ok']
        cases inner' [] (pre ++ "  ".toList) with
        | error e => rfl
        | ok body =>
          simp only [map_ok', addPre]
          cases attrs <;> simp [List.append_assoc]

theorem show_prefix (o : ShowOpts) (p : Str) :
    (∀ (t : Obj) (ms : List Str) (pre : Str), showObj o t ms (p ++ pre)
      = addPre p (showObj { o with width := o.width - p.length } t ms pre)) ∧
    ∀ (ts : List Obj) (ms : List Str) (pre : Str), showObjs o ts ms (p ++ pre)
      = addPre p (showObjs { o with width := o.width - p.length } ts ms pre) := by
  refine Obj.both (fun m ws ms pre => showDefn_prefix o m ws ms p pre) (fun m objs ih ms pre => ?_)
    (fun _ _ => rfl) (fun x xs ihx ihxs ms pre => ?_)
  · rw [showObj_scope_eq, showObj_scope_eq, showScopeBody_prefix o m _ _ _ p ih]
    simp only []
    split
    · rfl
    · cases expertHidden (m.attrs.get "expert_level") o.expert with
      | error e => rfl
      | ok b => cases b <;> rfl
  · rw [showObjs_cons, showObjs_cons, ihx, ihxs, catR_addPre]

/-! ## the expert-level gate is pruning -/

/-- the object's own `expert_level` is unset or an integer -/
def expertOk (m : Meta) : Bool :=
  match m.attrs.get "expert_level" with
  | .none => true
  | .int _ => true
  | _ => false

/-- the object's own `expert_level` is an integer above `k` -/
def hiddenAt (k : Int) (m : Meta) : Bool :=
  match m.attrs.get "expert_level" with
  | .int e => decide (e > k)
  | _ => false

mutual
/-- remove every object whose own expert level exceeds `k`; a dotted-name scope (first child has
    `mergeNames`) all of whose children were removed is removed as well -/
def prune (k : Int) : Obj → Option Obj
  | .defn m ws => if hiddenAt k m then none else some (.defn m ws)
  | .scope m objs =>
    if hiddenAt k m then none
    else if firstMerges objs && (pruneList k objs).isEmpty then none
    else some (.scope m (pruneList k objs))
def pruneList (k : Int) : List Obj → List Obj
  | [] => []
  | x :: xs =>
    match prune k x with
    | none => pruneList k xs
    | some x' => x' :: pruneList k xs
end

mutual
/-- no object of the tree has an `expert_level` that is neither unset nor an integer -/
def ExpertWF : Obj → Bool
  | .defn m _ => expertOk m
  | .scope m objs => expertOk m && ExpertWFs objs
def ExpertWFs : List Obj → Bool
  | [] => true
  | x :: xs => ExpertWF x && ExpertWFs xs
end

/-- all children agree with the first child on `mergeNames` -/
def uniformMerge (objs : List Obj) : Bool :=
  objs.all fun c => c.meta.mergeNames == firstMerges objs

mutual
/-- in every named scope the children are either all dotted-name continuations (`mergeNames`) or
    none is; parser-built trees satisfy this (a dotted scope has exactly one child) -/
def DottedWF : Obj → Bool
  | .defn _ _ => true
  | .scope m objs => (m.name.isEmpty || uniformMerge objs) && DottedWFs objs
def DottedWFs : List Obj → Bool
  | [] => true
  | x :: xs => DottedWF x && DottedWFs xs
end

/-- print an optional object: nothing for `none` -/
def showOpt (o : ShowOpts) (t : Option Obj) (merged : List Str) (pre : Str) : R (List Str) :=
  match t with
  | none => .ok []
  | some t => showObj o t merged pre

theorem expertHidden_none (own : AttrVal) : expertHidden own none = .ok false := by
  cases own <;> rfl

theorem expertHidden_wf (m : Meta) (k : Int) (hk : 0 ≤ k) (h : expertOk m = true) :
    expertHidden (m.attrs.get "expert_level") (some k) = .ok (hiddenAt k m) := by
  unfold expertOk at h
  unfold hiddenAt
  cases hv : m.attrs.get "expert_level" <;> rw [hv] at h <;> simp at h <;> simp [expertHidden, hk]

theorem expertHidden_neg (own : AttrVal) (k : Int) (hk : k < 0) :
    expertHidden own (some k) = .ok false := by
  have h1 : ¬ (k ≥ 0) := by omega
  cases own <;> simp [expertHidden, h1]

theorem prune_defn (k : Int) (m : Meta) (ws : List Word) :
    prune k (.defn m ws) = if hiddenAt k m then none else some (.defn m ws) := by
  simp [prune]

theorem prune_scope (k : Int) (m : Meta) (objs : List Obj) :
    prune k (.scope m objs) =
      if hiddenAt k m then none
      else if firstMerges objs && (pruneList k objs).isEmpty then none
      else some (.scope m (pruneList k objs)) := by
  simp [prune]

theorem pruneList_nil (k : Int) : pruneList k [] = [] := by simp [pruneList]

theorem pruneList_cons (k : Int) (x : Obj) (xs : List Obj) :
    pruneList k (x :: xs) =
      match prune k x with
      | none => pruneList k xs
      | some x' => x' :: pruneList k xs := by
  simp [pruneList]

/-- the object with its children pruned (a definition: itself) -/
def Obj.pruneKids (k : Int) : Obj → Obj
  | .defn m ws => .defn m ws
  | .scope m os => .scope m (pruneList k os)

theorem pruneList_eq_filterMap_ert (k : Int) (os : List Obj) :
    pruneList k os = os.filterMap (prune k) := by
  induction os with
  | nil => rw [pruneList_nil]; rfl
  | cons x xs ih =>
    rw [pruneList_cons, List.filterMap_cons, ih]
    cases prune k x <;> rfl

theorem prune_some_eq_ert (k : Int) (x x' : Obj) (h : prune k x = some x') : x' = x.pruneKids k := by
  cases x with
  | defn m ws =>
    rw [prune_defn] at h
    split at h
    · cases h
    · cases h; rfl
  | scope m os =>
    rw [prune_scope] at h
    split at h
    · cases h
    · split at h
      · cases h
      · cases h; rfl

theorem mem_pruneList_ert {k : Int} {os : List Obj} {c' : Obj} (h : c' ∈ pruneList k os) :
    ∃ c ∈ os, prune k c = some c' := by
  rw [pruneList_eq_filterMap_ert] at h
  exact List.mem_filterMap.mp h

theorem prune_meta (k : Int) (x x' : Obj) (h : prune k x = some x') : x'.meta = x.meta := by
  rw [prune_some_eq_ert k x x' h]
  cases x <;> rfl

theorem pruneList_merge (k : Int) (b : Bool) (objs : List Obj)
    (h : ∀ c, c ∈ objs → c.meta.mergeNames = b) :
    ∀ c, c ∈ pruneList k objs → c.meta.mergeNames = b := by
  intro c hc
  obtain ⟨x, hx, hp⟩ := mem_pruneList_ert hc
  rw [prune_meta k x c hp]
  exact h x hx

theorem firstMerges_pruneList (k : Int) (objs : List Obj) (hu : uniformMerge objs = true)
    (hne : (firstMerges objs && (pruneList k objs).isEmpty) = false) :
    firstMerges (pruneList k objs) = firstMerges objs := by
  have hall : ∀ c, c ∈ objs → c.meta.mergeNames = firstMerges objs := by
    intro c hc
    have := List.all_eq_true.mp hu c hc
    simpa using this
  have hp := pruneList_merge k _ objs hall
  cases hl : pruneList k objs with
  | nil =>
    rw [hl] at hne
    simp at hne
    rw [hne]; rfl
  | cons c cs =>
    rw [hl] at hp
    exact hp c List.mem_cons_self

theorem showScopeBody_congr (o : ShowOpts) (m : Meta) (fm : Bool)
    (inner inner' : List Str → Str → R (List Str)) (h : ∀ ms pre, inner ms pre = inner' ms pre)
    (merged : List Str) (pre : Str) :
    showScopeBody o m fm inner merged pre = showScopeBody o m fm inner' merged pre := by
  have : inner = inner' := by funext ms pre; exact h ms pre
  rw [this]

theorem showScopeBody_noname (o : ShowOpts) (m : Meta) (fm fm' : Bool)
    (inner : List Str → Str → R (List Str)) (hn : m.name.isEmpty = true)
    (merged : List Str) (pre : Str) :
    showScopeBody o m fm inner merged pre = showScopeBody o m fm' inner merged pre := by
  simp [showScopeBody, hn]

theorem showScopeBody_dotted_empty (o : ShowOpts) (m : Meta)
    (inner : List Str → Str → R (List Str)) (h : ∀ ms pre, inner ms pre = .ok [])
    (merged : List Str) (pre : Str) :
    showScopeBody o m true inner merged pre = .ok [] := by
  simp only [showScopeBody, h]
  split <;> rfl

theorem showScopeBody_expert (o : ShowOpts) (e e' : Option Int) (m : Meta) (fm : Bool)
    (inner : List Str → Str → R (List Str)) (merged : List Str) (pre : Str) :
    showScopeBody { o with expert := e } m fm inner merged pre
      = showScopeBody { o with expert := e' } m fm inner merged pre := rfl

theorem ExpertWF_scope (m : Meta) (objs : List Obj) :
    ExpertWF (.scope m objs) = (expertOk m && ExpertWFs objs) := by simp [ExpertWF]
theorem ExpertWF_defn (m : Meta) (ws : List Word) : ExpertWF (.defn m ws) = expertOk m := by
  simp [ExpertWF]
theorem ExpertWFs_cons (x : Obj) (xs : List Obj) :
    ExpertWFs (x :: xs) = (ExpertWF x && ExpertWFs xs) := by simp [ExpertWFs]
theorem DottedWF_scope (m : Meta) (objs : List Obj) :
    DottedWF (.scope m objs) = ((m.name.isEmpty || uniformMerge objs) && DottedWFs objs) := by
  simp [DottedWF]
theorem DottedWFs_cons (x : Obj) (xs : List Obj) :
    DottedWFs (x :: xs) = (DottedWF x && DottedWFs xs) := by simp [DottedWFs]

theorem DottedWFs_iff (os : List Obj) : DottedWFs os = true ↔ ∀ c ∈ os, DottedWF c = true := by
  induction os with
  | nil => simp [DottedWFs]
  | cons x xs ih => simp [DottedWFs_cons, ih]

theorem show_prune (o : ShowOpts) (k : Int) (hk : 0 ≤ k) :
    (∀ (t : Obj) (ms : List Str) (pre : Str), ExpertWF t = true → DottedWF t = true →
      showObj { o with expert := some k } t ms pre
        = showOpt { o with expert := none } (prune k t) ms pre) ∧
    ∀ (ts : List Obj) (ms : List Str) (pre : Str), ExpertWFs ts = true → DottedWFs ts = true →
      showObjs { o with expert := some k } ts ms pre
        = showObjs { o with expert := none } (pruneList k ts) ms pre := by
  refine Obj.both ?_ ?_ (fun _ _ _ _ => rfl) ?_
  · intro m ws ms pre hw _
    rw [ExpertWF_defn] at hw
    rw [showObj_defn_eq, showDefn_eq, prune_defn]
    simp only [expertHidden_wf m k hk hw]
    cases hh : hiddenAt k m
    · simp only [expertGate_false, Bool.false_eq_true, ↓reduceIte, showOpt, showObj_defn_eq,
        showDefn_eq, expertHidden_none]
      rfl
    · simp only [expertGate_true, ↓reduceIte, showOpt]
      split
      · rfl
      · split <;> rfl
  · intro m objs ih ms pre hw hd
    rw [ExpertWF_scope, Bool.and_eq_true] at hw
    rw [DottedWF_scope, Bool.and_eq_true] at hd
    rw [showObj_scope_eq, prune_scope]
    simp only [expertHidden_wf m k hk hw.1]
    by_cases ht : (decide (m.tmpl < 0) && decide (o.level < 2)) = true
    · rw [if_pos ht]
      split
      · rfl
      · split
        · rfl
        · simp only [showOpt, showObj_scope_eq]
          rw [if_pos ht]
    · rw [if_neg ht]
      cases hh : hiddenAt k m
      · simp only [expertGate_false, Bool.false_eq_true, ↓reduceIte]
        rw [showScopeBody_expert o (some k) none,
          showScopeBody_congr _ m _ _ _ (fun ms pre => ih ms pre hw.2 hd.2)]
        cases hfe : (firstMerges objs && (pruneList k objs).isEmpty)
        · simp only [Bool.false_eq_true, ↓reduceIte, showOpt, showObj_scope_eq]
          rw [if_neg ht, expertHidden_none, expertGate_false]
          cases hn : m.name.isEmpty
          · have hu : uniformMerge objs = true := by simpa [hn] using hd.1
            rw [firstMerges_pruneList k objs hu hfe]
          · exact showScopeBody_noname _ m _ _ _ hn ms pre
        · simp only [↓reduceIte, showOpt]
          rw [Bool.and_eq_true] at hfe
          have he : pruneList k objs = [] := by simpa using hfe.2
          rw [hfe.1, he]
          exact showScopeBody_dotted_empty _ m _ (fun _ _ => rfl) ms pre
      · simp only [expertGate_true, ↓reduceIte, showOpt]
  · intro x xs ihx ihxs ms pre hw hd
    rw [ExpertWFs_cons, Bool.and_eq_true] at hw
    rw [DottedWFs_cons, Bool.and_eq_true] at hd
    rw [showObjs_cons, ihx ms pre hw.1 hd.1, ihxs ms pre hw.2 hd.2, pruneList_cons]
    cases prune k x with
    | none => simp [showOpt]
    | some x' => simp only [showOpt]; rw [showObjs_cons]

theorem showObjs_prune_aux (o : ShowOpts) (k : Int) (hk : 0 ≤ k) (ts : List Obj) :
    ∀ (ms : List Str) (pre : Str), ExpertWFs ts = true → DottedWFs ts = true →
      showObjs { o with expert := some k } ts ms pre
        = showObjs { o with expert := none } (pruneList k ts) ms pre :=
  (show_prune o k hk).2 ts

/-- A negative requested level switches the gate off (no well-formedness needed). -/
theorem show_expert_neg (o : ShowOpts) (k : Int) (hk : k < 0) :
    (∀ (t : Obj) (ms : List Str) (pre : Str),
      showObj { o with expert := some k } t ms pre = showObj { o with expert := none } t ms pre) ∧
    ∀ (ts : List Obj) (ms : List Str) (pre : Str),
      showObjs { o with expert := some k } ts ms pre
        = showObjs { o with expert := none } ts ms pre := by
  refine Obj.both ?_ ?_ (fun _ _ => rfl) ?_
  · intro m ws ms pre
    rw [showObj_defn_eq, showObj_defn_eq, showDefn_eq, showDefn_eq]
    simp only [expertHidden_neg _ k hk, expertHidden_none]
    rfl
  · intro m objs ih ms pre
    rw [showObj_scope_eq, showObj_scope_eq]
    simp only [expertHidden_neg _ k hk, expertHidden_none]
    rw [showScopeBody_expert o (some k) none, showScopeBody_congr _ m _ _ _ ih]
  · intro x xs ihx ihxs ms pre
    rw [showObjs_cons, showObjs_cons, ihx, ihxs]

theorem showObjs_expert_neg_aux (o : ShowOpts) (k : Int) (hk : k < 0) (ts : List Obj) :
    ∀ (ms : List Str) (pre : Str),
      showObjs { o with expert := some k } ts ms pre
        = showObjs { o with expert := none } ts ms pre :=
  (show_expert_neg o k hk).2 ts

/-! ## attribute levels only add lines -/

/-- `attrShown` as a function of the seven tests it makes -/
def attrShownB (d h a t i l1 l2 : Bool) : Bool :=
  if d && !t then false
  else if (h && !i) || (a && !i) || (!i && l1) || l2 then
    if a && i then false else true
  else false

theorem attrShown_eq_B_art (L : Int) (n : String) (v : AttrVal) :
    attrShown L n v = attrShownB (n == "deprecated") (n == "help") (n == "alias") v.truthy v.isNone
      (decide (L > 1)) (decide (L > 2)) := rfl

theorem attrShown_mono {level level' : Int} (hl : level ≤ level') (name : String) (value : AttrVal)
    (h : attrShown level name value = true) : attrShown level' name value = true := by
  rw [attrShown_eq_B_art] at h ⊢
  have key : ∀ d hp a t i l1 l2 l1' l2' : Bool, (l1 = true → l1' = true) → (l2 = true → l2' = true) →
      attrShownB d hp a t i l1 l2 = true → attrShownB d hp a t i l1' l2' = true := by decide
  exact key _ _ _ _ _ _ _ _ _ (by simp only [decide_eq_true_eq]; omega)
    (by simp only [decide_eq_true_eq]; omega) h

theorem attrOne_mono (attrs : Attrs) (pre : Str) (level width : Int) (name : String)
    (l2 : List Str) (h2 : attrOne attrs pre (level + 1) width name = .ok l2) :
    ∃ l1, attrOne attrs pre level width name = .ok l1 ∧ l1.Sublist l2 := by
  unfold attrOne at h2 ⊢
  cases hs : attrShown level name (attrs.get name)
  · exact ⟨[], by simp, List.nil_sublist _⟩
  · rw [attrShown_mono (Int.le_add_one (Int.le_refl level)) _ _ hs] at h2
    simp only [↓reduceIte] at h2 ⊢
    exact ⟨l2, h2, List.Sublist.refl _⟩

theorem attrAll_mono (attrs : Attrs) (pre : Str) (level width : Int) (names : List String) :
    ∀ (l2 : List Str), attrAll attrs pre (level + 1) width names = .ok l2 →
      ∃ l1, attrAll attrs pre level width names = .ok l1 ∧ l1.Sublist l2 := by
  induction names with
  | nil => intro l2 h2; exact ⟨[], rfl, List.nil_sublist _⟩
  | cons n ns ih =>
    intro l2 h2
    simp only [attrAll] at h2 ⊢
    cases h1 : attrOne attrs pre (level + 1) width n with
    | error e => rw [h1] at h2; cases h2
    | ok a2 =>
      rw [h1] at h2
      cases hr : attrAll attrs pre (level + 1) width ns with
      | error e => rw [hr] at h2; cases h2
      | ok r2 =>
        rw [hr] at h2
        simp only [Except.ok.injEq] at h2
        obtain ⟨a1, ha1, hs1⟩ := attrOne_mono attrs pre level width n a2 h1
        obtain ⟨r1, hr1, hs2⟩ := ih r2 hr
        rw [ha1, hr1]
        exact ⟨a1 ++ r1, rfl, by rw [← h2]; exact List.Sublist.append hs1 hs2⟩

theorem showAttributes_level_nonpos (names : List String) (attrs : Attrs) (pre : Str)
    (level width : Int) (h : level ≤ 0) : showAttributes names attrs pre level width = .ok [] := by
  unfold showAttributes
  rw [if_pos h]

/-! ## what pruning leaves -/

mutual
/-- no object of the tree has an integer `expert_level` above `k` -/
def AllVisible (k : Int) : Obj → Bool
  | .defn m _ => !hiddenAt k m
  | .scope m objs => !hiddenAt k m && AllVisibles k objs
def AllVisibles (k : Int) : List Obj → Bool
  | [] => true
  | x :: xs => AllVisible k x && AllVisibles k xs
end

theorem prune_allVisible (k : Int) :
    (∀ t t', prune k t = some t' → AllVisible k t' = true) ∧
    ∀ ts, AllVisibles k (pruneList k ts) = true := by
  refine Obj.both ?_ ?_ (by simp [pruneList, AllVisibles]) ?_
  · intro m ws t' h
    rw [prune_defn] at h
    split at h
    · cases h
    · next hh => cases h; simpa [AllVisible] using hh
  · intro m objs ih t' h
    rw [prune_scope] at h
    split at h
    · cases h
    · next hh =>
      split at h
      · cases h
      · cases h; simp only [AllVisible, Bool.and_eq_true]; exact ⟨by simpa using hh, ih⟩
  · intro x xs ihx ihxs
    rw [pruneList_cons]
    cases hp : prune k x with
    | none => exact ihxs
    | some x' => simp only [AllVisibles, Bool.and_eq_true]; exact ⟨ihx x' hp, ihxs⟩

theorem pruneList_allVisible (k : Int) (ts : List Obj) : AllVisibles k (pruneList k ts) = true :=
  (prune_allVisible k).2 ts

theorem showDefn_default_ok_ns (m : Meta) (ws : List Word) (merged : List Str) (p : Str) :
    ∃ l, showDefn {} m ws merged p = .ok l := by
  rw [showDefn_eq, expertHidden_none, expertGate_false, showDefnBody]
  simp only [showAttributes_level_nonpos _ _ _ _ _ (Int.le_refl 0)]
  split
  · exact ⟨_, rfl⟩
  · split <;> exact ⟨_, rfl⟩

end Phil
