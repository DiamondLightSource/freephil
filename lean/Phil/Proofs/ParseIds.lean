/-
  Phil.Proofs.ParseIds — the ids the parser assigns.  Link between the parser model
  (`collectObjects`, `adopt`/`wrapDotted`) and the well-formedness predicate `DocIds` of
  Phil/Proofs/VarsSpec.lean.

  The invariant (`CollectInv`): while `collectObjects` runs with lower bound `lo`, counter `n = st.nextId`,
  accumulated objects `acc` and an optional active definition `pending`,
    * every id in the tree `acc` is `some i` with `lo ≤ i < n` (`< j` if a definition with id `j` is
      pending, and then `n = j + 1`), the levels of `acc` are `levelOk`/`okList`;
    * `n ≤ lo + sizeList acc (+ 1 if a definition is pending)` — one object per id at least.

  At the end, for invariants that speak of one `Meta` at a time (`C12.Collects.metas_pid`): a property kept
  by each of the five things the parser does to a `Meta` holds of every meta of a parser output.
-/
import Phil.Proofs.VarsSpec
namespace Phil.C12
open Phil

/-! ### ids in a range -/

def idIn (lo hi : Nat) (m : Meta) : Bool :=
  match m.id with
  | some i => decide (lo ≤ i) && decide (i < hi)
  | none => false

mutual
def inRngObj (lo hi : Nat) : Obj → Bool
  | .defn m _ => idIn lo hi m
  | .scope m kids => idIn lo hi m && inRngList lo hi kids
def inRngList (lo hi : Nat) : List Obj → Bool
  | [] => true
  | o :: rest => inRngObj lo hi o && inRngList lo hi rest
end

theorem idIn_iff_pid {lo hi : Nat} {m : Meta} :
    idIn lo hi m = true ↔ ∃ i, m.id = some i ∧ lo ≤ i ∧ i < hi := by
  unfold idIn
  cases m.id with
  | none => simp
  | some i => simp

theorem idIn_mono_pid {lo hi lo' hi' : Nat} {m : Meta} (hl : lo' ≤ lo) (hh : hi ≤ hi')
    (h : idIn lo hi m = true) : idIn lo' hi' m = true := by
  rw [idIn_iff_pid] at h ⊢
  obtain ⟨i, hi1, h2, h3⟩ := h
  exact ⟨i, hi1, by omega, by omega⟩

mutual
theorem inRngObj_mono_pid {lo hi lo' hi' : Nat} (hl : lo' ≤ lo) (hh : hi ≤ hi') :
    ∀ (o : Obj), inRngObj lo hi o = true → inRngObj lo' hi' o = true
  | .defn m ws => by
    intro h
    simp only [inRngObj] at h ⊢
    exact idIn_mono_pid hl hh h
  | .scope m kids => by
    intro h
    simp only [inRngObj, Bool.and_eq_true] at h ⊢
    exact ⟨idIn_mono_pid hl hh h.1, inRngList_mono_pid hl hh kids h.2⟩
theorem inRngList_mono_pid {lo hi lo' hi' : Nat} (hl : lo' ≤ lo) (hh : hi ≤ hi') :
    ∀ (l : List Obj), inRngList lo hi l = true → inRngList lo' hi' l = true
  | [] => by intro _; simp [inRngList]
  | o :: rest => by
    intro h
    simp only [inRngList, Bool.and_eq_true] at h ⊢
    exact ⟨inRngObj_mono_pid hl hh o h.1, inRngList_mono_pid hl hh rest h.2⟩
end

theorem inRngObj_meta_pid {lo hi : Nat} : ∀ (o : Obj), inRngObj lo hi o = true → idIn lo hi o.meta = true
  | .defn m ws => by intro h; simpa [inRngObj, Obj.meta] using h
  | .scope m kids => by
    intro h
    simp only [inRngObj, Bool.and_eq_true] at h
    exact h.1

theorem inRngObj_id_pid {lo hi j : Nat} {o : Obj} (h : inRngObj lo hi o = true) (hid : o.meta.id = some j) :
    lo ≤ j ∧ j < hi := by
  obtain ⟨i, hi1, h2⟩ := idIn_iff_pid.1 (inRngObj_meta_pid o h)
  rw [hid] at hi1; cases hi1; exact h2

theorem inRngList_mem_pid {lo hi : Nat} : ∀ (l : List Obj) (a : Obj), inRngList lo hi l = true → a ∈ l →
    inRngObj lo hi a = true := by
  intro l
  induction l with
  | nil => intro a _ h; cases h
  | cons b r ih =>
    intro a h ha
    simp only [inRngList, Bool.and_eq_true] at h
    cases ha with
    | head => exact h.1
    | tail _ ha' => exact ih a h.2 ha'

theorem inRngList_append_pid {lo hi : Nat} : ∀ (l r : List Obj),
    inRngList lo hi (l ++ r) = (inRngList lo hi l && inRngList lo hi r) := by
  intro l
  induction l with
  | nil => intro r; simp [inRngList]
  | cons a l ih => intro r; simp [inRngList, ih, Bool.and_assoc]

theorem okList_append_pid : ∀ (l r : List Obj), okList (l ++ r) = (okList l && okList r) := by
  intro l
  induction l with
  | nil => intro r; simp [okList]
  | cons a l ih => intro r; simp [okList, ih, Bool.and_assoc]

theorem sizeList_append_pid : ∀ (l r : List Obj), sizeList (l ++ r) = sizeList l + sizeList r := by
  intro l
  induction l with
  | nil => intro r; simp [sizeList]
  | cons a l ih => intro r; simp [sizeList, ih, Nat.add_assoc]

theorem sizeObj_pos_pid : ∀ (o : Obj), 1 ≤ sizeObj o
  | .defn _ _ => by simp [sizeObj]
  | .scope _ _ => by simp [sizeObj]

mutual
theorem inRngObj_idsLe_pid {lo b : Nat} : ∀ (o : Obj), inRngObj lo (b + 1) o = true → idsLeObj b o = true
  | .defn m ws => by
    intro h
    simp only [inRngObj, idIn_iff_pid] at h
    obtain ⟨i, hi, _, h3⟩ := h
    simp only [idsLeObj, hi, decide_eq_true_eq]
    omega
  | .scope m kids => by
    intro h
    simp only [inRngObj, Bool.and_eq_true, idIn_iff_pid] at h
    obtain ⟨⟨i, hi, _, h3⟩, hk⟩ := h
    simp only [idsLeObj, hi, Bool.and_eq_true, decide_eq_true_eq]
    exact ⟨by omega, inRngList_idsLe_pid kids hk⟩
theorem inRngList_idsLe_pid {lo b : Nat} : ∀ (l : List Obj), inRngList lo (b + 1) l = true →
    idsLeList b l = true
  | [] => by intro _; simp [idsLeList]
  | o :: rest => by
    intro h
    simp only [inRngList, Bool.and_eq_true] at h
    simp only [idsLeList, Bool.and_eq_true]
    exact ⟨inRngObj_idsLe_pid o h.1, inRngList_idsLe_pid rest h.2⟩
end

mutual
theorem idsLeObj_mono_pid {b b' : Nat} (hb : b ≤ b') : ∀ (o : Obj), idsLeObj b o = true → idsLeObj b' o = true
  | .defn m ws => by
    intro h
    simp only [idsLeObj] at h ⊢
    cases hm : m.id with
    | none => simp
    | some i => rw [hm] at h; simp at h ⊢; omega
  | .scope m kids => by
    intro h
    simp only [idsLeObj, Bool.and_eq_true] at h ⊢
    refine ⟨?_, idsLeList_mono_pid hb kids h.2⟩
    have h1 := h.1
    cases hm : m.id with
    | none => simp
    | some i => rw [hm] at h1; simp at h1 ⊢; omega
theorem idsLeList_mono_pid {b b' : Nat} (hb : b ≤ b') : ∀ (l : List Obj), idsLeList b l = true →
    idsLeList b' l = true
  | [] => by intro _; simp [idsLeList]
  | o :: rest => by
    intro h
    simp only [idsLeList, Bool.and_eq_true] at h ⊢
    exact ⟨idsLeObj_mono_pid hb o h.1, idsLeList_mono_pid hb rest h.2⟩
end

/-! ### one level: appending an object -/

theorem idLe_of_ids_pid {a o : Obj} {i j : Nat} (ha : a.meta.id = some i) (ho : o.meta.id = some j)
    (h : i ≤ j) : idLe a o = true := by
  simp [idLe, ha, ho, h]

theorem levelOk_snoc_pid (o : Obj) (hid : o.meta.id.isSome = true) (hdot : '.' ∉ o.name) :
    ∀ (acc : List Obj), levelOk acc = true → (∀ a ∈ acc, idLe a o = true) →
      levelOk (acc ++ [o]) = true := by
  intro acc
  induction acc with
  | nil => intro _ _; simp [levelOk, hid, hdot]
  | cons a r ih =>
    intro h hall
    simp only [levelOk, Bool.and_eq_true] at h
    obtain ⟨⟨⟨h1, h2⟩, h3⟩, h4⟩ := h
    simp only [List.cons_append, levelOk, Bool.and_eq_true, List.all_append, List.all_cons, List.all_nil,
      Bool.and_true]
    exact ⟨⟨⟨h1, h2⟩, h3, hall a (by simp)⟩, ih h4 (fun b hb => hall b (by simp [hb]))⟩

/-- a list of objects as `collectObjects` accumulates it: levels in order, ids in `[lo, hi)` -/
def IdSeg (lo hi : Nat) (l : List Obj) : Prop :=
  levelOk l = true ∧ okList l = true ∧ inRngList lo hi l = true

/-- an object ready to be appended: numbered `j`, dot-free name, subtree in order and in range -/
def IdGood (lo hi j : Nat) (o : Obj) : Prop :=
  o.meta.id = some j ∧ '.' ∉ o.name ∧ okObj o = true ∧ inRngObj lo hi o = true

theorem IdSeg.nil_pid (lo hi : Nat) : IdSeg lo hi [] := by
  simp [IdSeg, levelOk, okList, inRngList]

theorem IdSeg.snoc_pid {lo hi j : Nat} {acc : List Obj} {o : Obj} (hs : IdSeg lo j acc) (ho : IdGood lo hi j o) :
    IdSeg lo hi (acc ++ [o]) := by
  obtain ⟨h1, h2, h3⟩ := hs
  obtain ⟨g1, g2, g3, g4⟩ := ho
  have hj := inRngObj_id_pid g4 g1
  refine ⟨?_, ?_, ?_⟩
  · refine levelOk_snoc_pid o (by simp [g1]) g2 acc h1 ?_
    intro a ha
    have := inRngObj_meta_pid a (inRngList_mem_pid acc a h3 ha)
    rw [idIn_iff_pid] at this
    obtain ⟨i, hi1, _, hlt⟩ := this
    exact idLe_of_ids_pid hi1 g1 (by omega)
  · simp [okList_append_pid, h2, okList, g3]
  · simp [inRngList_append_pid, inRngList, g4, inRngList_mono_pid (Nat.le_refl lo) (Nat.le_of_lt hj.2) acc h3]

/-! ### dotted names: `wrapDotted` -/

theorem splitOn_comp_pid (sep : Char) : ∀ (s : Str), ∀ c ∈ splitOn sep s, sep ∉ c := by
  intro s
  induction s with
  | nil => intro c hc; simp [splitOn] at hc; subst hc; simp
  | cons d ds ih =>
    intro c hc
    unfold splitOn at hc
    split at hc
    · simp at hc; subst hc; simp
    · rename_i p ps hp
      rw [hp] at ih
      split at hc
      · rename_i hd
        simp only [List.mem_cons] at hc
        rcases hc with hc | hc | hc
        · subst hc; simp
        · exact ih c (by simp [hc])
        · exact ih c (by simp [hc])
      · rename_i hd
        simp only [List.mem_cons] at hc
        rcases hc with hc | hc
        · subst hc
          have := ih p (by simp)
          simp only [List.mem_cons, not_or]
          exact ⟨fun e => hd (by simp [e]), this⟩
        · exact ih c (by simp [hc])

theorem splitOn_single_pid (sep : Char) (s x : Str) (h : splitOn sep s = [x]) : sep ∉ s := by
  intro hm
  obtain ⟨c, rest, rfl, hc⟩ := List.eq_append_cons_of_mem hm
  rw [splitOn_append_sep sep c rest hc] at h
  exact splitOn_ne_nil sep rest (List.cons.inj h).2

theorem idLe_meta_pid {a b : Obj} (x : Obj) (h : a.meta.id = b.meta.id) : idLe a x = idLe b x := by
  simp [idLe, h]

theorem okObj_withMeta_pid (f : Meta → Meta) (hf : ∀ m, (f m).id = m.id) :
    ∀ (o : Obj), okObj o = true → okObj (o.withMeta f) = true
  | .defn m ws => by intro _; simp [Obj.withMeta, okObj]
  | .scope m kids => by
    intro h
    simp only [Obj.withMeta, okObj, Bool.and_eq_true] at h ⊢
    refine ⟨h.1, ?_⟩
    have h2 := h.2
    rw [List.all_eq_true] at h2 ⊢
    intro x hx
    rw [idLe_meta_pid (b := .scope m kids) x (by simp [Obj.meta, hf])]
    exact h2 x hx

theorem inRngObj_withMeta_pid {lo hi : Nat} (f : Meta → Meta) (hf : ∀ m, (f m).id = m.id) :
    ∀ (o : Obj), inRngObj lo hi o = true → inRngObj lo hi (o.withMeta f) = true
  | .defn m ws => by intro h; simpa [Obj.withMeta, inRngObj, idIn, hf] using h
  | .scope m kids => by intro h; simpa [Obj.withMeta, inRngObj, idIn, hf] using h

theorem sizeObj_withMeta_pid (f : Meta → Meta) : ∀ (o : Obj), sizeObj (o.withMeta f) = sizeObj o
  | .defn m ws => by simp [Obj.withMeta, sizeObj]
  | .scope m kids => by simp [Obj.withMeta, sizeObj]

theorem meta_withMeta_pid (f : Meta → Meta) : ∀ (o : Obj), (o.withMeta f).meta = f o.meta
  | .defn _ _ => rfl
  | .scope _ _ => rfl

/-- `wrapDotted o` is `o` itself when its name has no dot; otherwise it is `o` renamed to one component
    of its name, inside scopes named by components that carry `o`'s id and nothing else -/
theorem wrapDotted_induct (o : Obj) {P : Obj → Prop} (plain : '.' ∉ o.name → P o)
    (dotted : 2 ≤ (splitOn '.' o.name).length →
      (∀ last ∈ splitOn '.' o.name, P (o.withMeta fun m => { m with name := last, mergeNames := true })) ∧
      ∀ n ∈ splitOn '.' o.name, ∀ (b : Bool) (acc : Obj), P acc →
        P (.scope { name := n, id := o.meta.id, mergeNames := b } [acc])) :
    P (wrapDotted o) := by
  unfold wrapDotted
  dsimp only
  split
  · rename_i hrev
    exact absurd (by simpa using hrev) (splitOn_ne_nil '.' o.name)
  · rename_i x hrev
    exact plain (splitOn_single_pid '.' o.name x (by simpa using congrArg List.reverse hrev))
  · rename_i last initRev hne hrev
    have hmem : ∀ c ∈ last :: initRev, c ∈ splitOn '.' o.name := by
      intro c hc
      rw [← List.mem_reverse, hrev]; exact hc
    obtain ⟨hin, hw⟩ := dotted (by
      rw [← List.length_reverse, hrev]
      cases initRev with
      | nil => exact absurd rfl hne
      | cons a b => simp)
    have build : ∀ (ns : List Str) (acc : Obj), (∀ n ∈ ns, n ∈ last :: initRev) → P acc →
        P (wrapDotted.build o ns acc) := by
      intro ns
      induction ns with
      | nil => intro acc _ h; rw [wrapDotted.build]; exact h
      | cons n more ih =>
        intro acc hns h
        rw [wrapDotted.build]
        exact ih _ (fun k hk => hns k (List.mem_cons_of_mem _ hk))
          (hw n (hmem n (hns n List.mem_cons_self)) _ acc h)
    exact build initRev _ (fun n hn => List.mem_cons_of_mem _ hn) (hin last (hmem last List.mem_cons_self))

/-- `adopt` of an object numbered `j`: the chain of scopes built for a dotted name shares the id `j`,
    has dot-free names, and is not smaller than the object -/
theorem wrapDotted_good_pid {lo hi j : Nat} (o : Obj) (hid : o.meta.id = some j) (hok : okObj o = true)
    (hr : inRngObj lo hi o = true) :
    IdGood lo hi j (wrapDotted o) ∧ sizeObj o ≤ sizeObj (wrapDotted o) := by
  refine wrapDotted_induct o (P := fun x => IdGood lo hi j x ∧ sizeObj o ≤ sizeObj x)
    (fun hd => ⟨⟨hid, hd, hok, hr⟩, Nat.le_refl _⟩) fun _ => ⟨?_, ?_⟩
  · intro last hl
    refine ⟨⟨by simp [meta_withMeta_pid, hid], ?_, okObj_withMeta_pid (fun m => { m with name := last, mergeNames := true }) (fun _ => rfl) o hok,
      inRngObj_withMeta_pid (fun m => { m with name := last, mergeNames := true }) (fun _ => rfl) o hr⟩, Nat.le_of_eq (sizeObj_withMeta_pid _ o).symm⟩
    simpa [Obj.name, meta_withMeta_pid] using splitOn_comp_pid '.' o.name last hl
  · rintro n hn b acc ⟨⟨g1, g2, g3, g4⟩, hsz⟩
    refine ⟨⟨hid, by simpa [Obj.name, Obj.meta] using splitOn_comp_pid '.' o.name n hn, ?_, ?_⟩, ?_⟩
    · simp only [okObj, levelOk, okList, List.all_cons, List.all_nil, Bool.and_true, Bool.and_eq_true,
        Bool.not_eq_true', g3]
      exact ⟨⟨by simp [g1], by simpa using g2⟩, idLe_of_ids_pid hid g1 (Nat.le_refl j)⟩
    · simp only [inRngObj, inRngList, Bool.and_true, g4]
      exact idIn_iff_pid.2 ⟨j, hid, inRngObj_id_pid hr hid⟩
    · simp only [sizeObj, sizeList]
      omega
/-! ### the invariant of `collectObjects` -/

def CollectInv (lo n : Nat) (acc : List Obj) : Option Obj → Prop
  | none => IdSeg lo n acc ∧ lo ≤ n ∧ n ≤ lo + sizeList acc
  | some d => ∃ m ws j, d = .defn m ws ∧ m.id = some j ∧ n = j + 1 ∧
      IdSeg lo j acc ∧ lo ≤ j ∧ j ≤ lo + sizeList acc

theorem CollectInv.adopt_pid {lo j n' : Nat} {acc : List Obj} {o : Obj} (h : CollectInv lo j acc none)
    (hid : o.meta.id = some j) (hok : okObj o = true) (hr : inRngObj lo n' o = true)
    (hsz : n' ≤ j + sizeObj o) : CollectInv lo n' (adopt acc o) none := by
  obtain ⟨hs, hlo, hn⟩ := h
  obtain ⟨hg, hw⟩ := wrapDotted_good_pid o hid hok hr
  have hj := (inRngObj_id_pid hr hid).2
  refine ⟨hs.snoc_pid hg, by omega, ?_⟩
  simp only [adopt, sizeList_append_pid, sizeList]
  omega

theorem CollectInv.flush_pid {lo n : Nat} {acc : List Obj} {pending : Option Obj} (h : CollectInv lo n acc pending) :
    CollectInv lo n (flush acc pending) none := by
  cases pending with
  | none => exact h
  | some d =>
    obtain ⟨m, ws, j, hd, hid, hn, hs, hlo, hsz⟩ := h
    subst hd
    subst hn
    refine CollectInv.adopt_pid (o := .defn m ws) ⟨hs, hlo, hsz⟩ hid (by simp [okObj]) ?_ (by simp [sizeObj])
    simp only [inRngObj, idIn_iff_pid]
    exact ⟨j, hid, hlo, Nat.lt_succ_self j⟩

theorem CollectInv.nil_pid (n : Nat) : CollectInv n n [] none :=
  ⟨IdSeg.nil_pid n n, Nat.le_refl n, by simp [sizeList]⟩

theorem CollectInv.scope_pid {lo n n' : Nat} {acc kids : List Obj} (m : Meta) (h : CollectInv lo n acc none)
    (hk : CollectInv (n + 1) n' kids none) (hid : m.id = some n) : CollectInv lo n' (adopt acc (.scope m kids)) none := by
  obtain ⟨⟨k1, k2, k3⟩, klo, ksz⟩ := hk
  have hlo : lo ≤ n := h.2.1
  refine CollectInv.adopt_pid h (by simpa [Obj.meta] using hid) ?_ ?_ ?_
  · simp only [okObj, k1, k2, Bool.true_and]
    rw [List.all_eq_true]
    intro x hx
    have := inRngObj_meta_pid x (inRngList_mem_pid kids x k3 hx)
    rw [idIn_iff_pid] at this
    obtain ⟨i, hi1, h2, _⟩ := this
    exact idLe_of_ids_pid (by simpa [Obj.meta] using hid) hi1 (by omega)
  · simp only [inRngObj, Bool.and_eq_true, idIn_iff_pid]
    exact ⟨⟨n, hid, hlo, by omega⟩, inRngList_mono_pid (by omega) (Nat.le_refl _) kids k3⟩
  · simp only [sizeObj]; omega

/-! ### the successful runs of `collectObjects` -/

/-- A successful run of `collectObjects`, reduced to what its invariants speak of:
    `Collects n acc pending objs n'` — started with counter `n`, accumulated objects `acc` and active
    definition `pending`, it returns `objs` and the counter `n'`.  The input position, `#phil` lines and
    disabled attributes change none of these and leave no trace here.  An invariant of the parser is
    proved by induction over this relation, not by walking through `collectObjects` again. -/
inductive Collects : Nat → List Obj → Option Obj → List Obj → Nat → Prop
  | done (n : Nat) (acc : List Obj) (pending : Option Obj) : Collects n acc pending (flush acc pending) n
  | scope {n n1 n' : Nat} {acc kids objs : List Obj} {pending : Option Obj} (nm : Str) (dis : Bool)
      (ln : Option Nat) {attrs : Attrs} {k : Nat} {ci ci3 : CI} {w brace : Word} :
      isStdIdent nm = true → scopeAttrsLoop k ci w [] = .ok (attrs, brace, ci3) →
      Collects (n + 1) [] none kids n1 →
      Collects n1 (adopt (flush acc pending)
        (.scope { name := nm, id := some n, disabled := dis, line := ln, attrs := attrs } kids)) none objs n' →
      Collects n acc pending objs n'
  | defn {n n' : Nat} {acc objs : List Obj} {pending : Option Obj} (nm : Str) (dis : Bool)
      (ln : Option Nat) (ws : List Word) :
      isStdIdent nm = true →
      Collects (n + 1) (flush acc pending)
        (some (.defn { name := nm, id := some n, disabled := dis, line := ln } ws)) objs n' →
      Collects n acc pending objs n'
  | attr {n n' : Nat} {acc objs : List Obj} {d : Obj} (an : String) (ws : List Word) (v : AttrVal) :
      defAttrValue an ws = .ok v →
      Collects n acc (some (d.withMeta (fun m => { m with attrs := m.attrs ++ [(an, v)] }))) objs n' →
      Collects n acc (some d) objs n'

theorem collectObjects_collects {fuel : Nat} {st : PState} {stop : Option Word} {prev : Nat}
    {acc : List Obj} {pending : Option Obj} {objs : List Obj} {st' : PState}
    (h : collectObjects fuel st stop prev acc pending = .ok (objs, st')) :
    Collects st.nextId acc pending objs st'.nextId := by
  fun_induction collectObjects fuel st stop prev acc pending generalizing objs st'
  -- a branch that fails contradicts `h`
  any_goals (cases h; done)
  -- what is left, in the order of the definition: end of input; `#phil` `__END__`, `__ON__`, `__OFF__` up to
  -- the end of input, `__OFF__` up to a restart; `}`; a scope; a definition; an attribute, disabled or not
  · cases h; exact .done _ _ _
  · cases h; exact .done _ _ _
  · rename_i ih; exact ih h
  · cases h; exact .done _ _ _
  · rename_i ih; exact ih h
  · cases h; exact .done _ _ _
  · rename_i hstd _ _ _ _ _ h3 _ _ hk _ ihk ih
    exact .scope _ _ _ (by simpa using hstd) h3 (ihk hk) (ih h)
  · rename_i hstd _ _ _ _ _ _ _ _ ih
    exact .defn _ _ _ _ (by simpa using hstd) (ih h)
  · rename_i ih; exact ih h
  · rename_i hv ih
    exact .attr _ _ _ hv (ih h)

theorem parseObjs_collects {text : Str} {root : List Obj} (h : parseObjs text = .ok root) :
    ∃ n, Collects 1 [] none root n := by
  unfold parseObjs at h
  split at h
  · cases h
  · rename_i hc
    cases h
    exact ⟨_, collectObjects_collects hc⟩

/-! ### the invariant of `collectObjects`, along a run -/

theorem Collects.inv_pid {n n' : Nat} {acc objs : List Obj} {pending : Option Obj}
    (h : Collects n acc pending objs n') :
    ∀ (lo : Nat), CollectInv lo n acc pending → CollectInv lo n' objs none ∧ n ≤ n' := by
  induction h with
  | done => intro lo hinv; exact ⟨hinv.flush_pid, Nat.le_refl _⟩
  | scope nm dis ln _ _ _ _ ihk ih =>
    intro lo hinv
    obtain ⟨hk, hle⟩ := ihk _ (CollectInv.nil_pid _)
    obtain ⟨r1, r2⟩ := ih lo (CollectInv.scope_pid _ hinv.flush_pid hk rfl)
    exact ⟨r1, by omega⟩
  | defn nm dis ln ws _ _ ih =>
    intro lo hinv
    have hf := hinv.flush_pid
    obtain ⟨r1, r2⟩ := ih lo ⟨_, ws, _, rfl, rfl, rfl, hf.1, hf.2.1, hf.2.2⟩
    exact ⟨r1, by omega⟩
  | attr an ws v _ _ ih =>
    intro lo hinv
    obtain ⟨m, ws', j, rfl, hid, hn, hs, hlo, hsz⟩ := hinv
    exact ih lo ⟨_, ws', j, rfl, hid, hn, hs, hlo, hsz⟩

theorem parseObjs_inv_pid (text : Str) (root : List Obj) (h : parseObjs text = .ok root) :
    ∃ n, CollectInv 1 n root none :=
  (parseObjs_collects h).imp fun _ hc => (hc.inv_pid 1 (CollectInv.nil_pid 1)).1

theorem parse_docIds_pid (text : Str) (root : List Obj) (h : parseObjs text = .ok root) : DocIds root := by
  obtain ⟨n, ⟨h1, h2, h3⟩, hlo, hsz⟩ := parseObjs_inv_pid text root h
  refine ⟨⟨h1, h2⟩, ?_⟩
  have : inRngList 1 (sizeList root + 1) root = true :=
    inRngList_mono_pid (Nat.le_refl 1) (by omega) root h3
  exact inRngList_idsLe_pid root this

end Phil.C12

namespace Phil
open Phil.C12

/-! ### what holds of every `Meta` the parser builds -/

mutual
/-- the attribute carriers of a tree, in print order -/
def metasOf : Obj → List Meta
  | .defn m _ => [m]
  | .scope m os => m :: metasOfs os
def metasOfs : List Obj → List Meta
  | [] => []
  | x :: xs => metasOf x ++ metasOfs xs
end

theorem metasOfs_append_pid (a b : List Obj) : metasOfs (a ++ b) = metasOfs a ++ metasOfs b := by
  induction a with
  | nil => simp [metasOfs]
  | cons x xs ih => simp [metasOfs, ih, List.append_assoc]

theorem metasOf_withMeta_pid (f : Meta → Meta) : ∀ o : Obj,
    ∃ t, metasOf o = o.meta :: t ∧ metasOf (o.withMeta f) = f o.meta :: t
  | .defn _ _ => ⟨[], rfl, rfl⟩
  | .scope _ kids => ⟨metasOfs kids, rfl, rfl⟩

section
/- A property `Q` of metas that survives everything the parser does to a `Meta`: it holds of a new
   scope and of a new definition, and is kept by an attribute line, by renaming the object of a dotted
   name to a component of the name, and by the scopes wrapped around it. -/
variable {Q : Meta → Prop}
  (hscope : ∀ {nm : Str} {dis : Bool} {ln : Option Nat} {attrs : Attrs} {n k : Nat} {ci ci3 : CI} {w brace : Word},
    isStdIdent nm = true → scopeAttrsLoop k ci w [] = .ok (attrs, brace, ci3) →
    Q { name := nm, id := some n, disabled := dis, line := ln, attrs := attrs })
  (hdefn : ∀ {nm : Str} {dis : Bool} {ln : Option Nat} {n : Nat}, isStdIdent nm = true →
    Q { name := nm, id := some n, disabled := dis, line := ln })
  (hattr : ∀ {m : Meta} {an : String} {ws : List Word} {v : AttrVal}, defAttrValue an ws = .ok v → Q m →
    Q { m with attrs := m.attrs ++ [(an, v)] })
  (hlast : ∀ {m : Meta} {last : Str}, Q m → last ∈ splitOn '.' m.name → Q { m with name := last, mergeNames := true })
  (hwrap : ∀ {m : Meta} {n : Str} {b : Bool}, Q m → n ∈ splitOn '.' m.name → Q { name := n, id := m.id, mergeNames := b })
include hlast hwrap

theorem wrapDotted_metas_pid (o : Obj) (h : ∀ m ∈ metasOf o, Q m) : ∀ m ∈ metasOf (wrapDotted o), Q m := by
  obtain ⟨t, e1, _⟩ := metasOf_withMeta_pid id o
  rw [e1] at h
  refine wrapDotted_induct o (P := fun x => ∀ m ∈ metasOf x, Q m) (fun _ => e1 ▸ h) fun _ => ⟨fun last hl => ?_, fun n hn b acc ha => ?_⟩
  · obtain ⟨t', e1', e2⟩ := metasOf_withMeta_pid (fun m => { m with name := last, mergeNames := true }) o
    rw [e2]
    cases e1.symm.trans e1'
    intro m hm
    rcases List.mem_cons.mp hm with rfl | hm
    · exact hlast (h _ List.mem_cons_self) hl
    · exact h m (List.mem_cons_of_mem _ hm)
  · intro m hm
    simp only [metasOf, metasOfs, List.append_nil, List.mem_cons] at hm
    rcases hm with rfl | hm
    · exact hwrap (h _ List.mem_cons_self) hn
    · exact ha m hm

theorem flush_metas_pid {acc : List Obj} {pending : Option Obj} (ha : ∀ m ∈ metasOfs acc, Q m)
    (hp : ∀ d, pending = some d → ∀ m ∈ metasOf d, Q m) : ∀ m ∈ metasOfs (flush acc pending), Q m := by
  cases pending with
  | none => exact ha
  | some d =>
    intro m hm
    simp only [flush, adopt, metasOfs_append_pid, metasOfs, List.append_nil, List.mem_append] at hm
    rcases hm with hm | hm
    · exact ha m hm
    · exact wrapDotted_metas_pid hlast hwrap d (hp d rfl) m hm

include hscope hdefn hattr
/-- such a `Q` holds of every meta of everything `collectObjects` returns -/
theorem C12.Collects.metas_pid {n n' : Nat} {acc objs : List Obj} {pending : Option Obj}
    (h : Collects n acc pending objs n') :
    (∀ m ∈ metasOfs acc, Q m) → (∀ d, pending = some d → ∀ m ∈ metasOf d, Q m) → ∀ m ∈ metasOfs objs, Q m := by
  induction h with
  | done => exact flush_metas_pid hlast hwrap
  | scope nm dis ln hstd h3 _ _ ihk ih =>
    intro ha hp
    -- the new scope is adopted like an active definition that is flushed
    refine ih (flush_metas_pid (pending := some _) hlast hwrap (flush_metas_pid hlast hwrap ha hp) ?_) (fun _ e => nomatch e)
    intro d hd m hm
    cases hd
    rcases List.mem_cons.mp hm with rfl | hm
    · exact hscope hstd h3
    · exact ihk (fun _ e => nomatch e) (fun _ e => nomatch e) m hm
  | defn nm dis ln ws hstd _ ih =>
    intro ha hp
    refine ih (flush_metas_pid hlast hwrap ha hp) ?_
    intro d hd m hm
    cases hd
    cases List.mem_singleton.mp hm
    exact hdefn hstd
  | @attr _ _ _ _ d an ws v hv _ ih =>
    intro ha hp
    refine ih ha ?_
    intro d' hd' m hm
    cases hd'
    obtain ⟨t, e1, e2⟩ := metasOf_withMeta_pid (fun m => { m with attrs := m.attrs ++ [(an, v)] }) d
    have := hp d rfl
    rw [e1] at this
    rw [e2] at hm
    rcases List.mem_cons.mp hm with rfl | hm
    · exact hattr hv (this _ List.mem_cons_self)
    · exact this m (List.mem_cons_of_mem _ hm)
end

end Phil
