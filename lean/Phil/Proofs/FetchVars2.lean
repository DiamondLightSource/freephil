/-
  Phil.Proofs.FetchVars2 — `$variables` inside the closed form of scope.fetch, continued (properties C12, C05,
  C06): (A) every output of `parseObjs` numbers its definitions with present, pairwise distinct ids (an induction
  over `C12.Collects`, resting on `CollectInv` of Phil/Proofs/ParseIds.lean), carries no recorded resolution and
  names every scope; (B) the closed form does not depend on the environment where the fetch succeeds: it is
  unchanged along `envRelList`, which relates the documents denoted under two environments; (C) the entry point
  for masters with `.multiple` definitions.  Diff mode and several documents: Phil/Proofs/FetchVars3.lean.
-/
import Phil.Proofs.FetchVars
import Phil.Proofs.ParseIds
import Phil.Proofs.FetchTreeMulti
namespace Phil
open Phil.C12

/-! ## A. parser lemmas -/

mutual
/-- the ids of ALL definitions of the tree (enabled or not), in document order -/
def didsObj : Obj → List (Option Nat)
  | .defn m _ => [m.id]
  | .scope _ kids => didsList kids
def didsList : List Obj → List (Option Nat)
  | [] => []
  | o :: r => didsObj o ++ didsList r
end

theorem didsList_append_pv : ∀ (l r : List Obj), didsList (l ++ r) = didsList l ++ didsList r
  | [], r => by simp [didsList]
  | a :: l, r => by simp [didsList, didsList_append_pv l r, List.append_assoc]

mutual
theorem dids_inRngObj_pv {lo hi : Nat} : ∀ (o : Obj), inRngObj lo hi o = true →
    ∀ x ∈ didsObj o, ∃ i, x = some i ∧ lo ≤ i ∧ i < hi
  | .defn m ws => by
    intro h x hx
    simp only [didsObj, List.mem_singleton] at hx
    simp only [inRngObj, idIn_iff_pid] at h
    obtain ⟨i, hi1, h2, h3⟩ := h
    exact ⟨i, by rw [hx, hi1], h2, h3⟩
  | .scope m kids => by
    intro h x hx
    simp only [inRngObj, Bool.and_eq_true] at h
    rw [didsObj] at hx
    exact dids_inRngList_pv kids h.2 x hx
theorem dids_inRngList_pv {lo hi : Nat} : ∀ (l : List Obj), inRngList lo hi l = true →
    ∀ x ∈ didsList l, ∃ i, x = some i ∧ lo ≤ i ∧ i < hi
  | [] => by intro _ x hx; rw [didsList] at hx; cases hx
  | o :: r => by
    intro h x hx
    simp only [inRngList, Bool.and_eq_true] at h
    rw [didsList, List.mem_append] at hx
    rcases hx with hx | hx
    · exact dids_inRngObj_pv o h.1 x hx
    · exact dids_inRngList_pv r h.2 x hx
end

theorem didsObj_withMeta_pv (f : Meta → Meta) (hf : ∀ m, (f m).id = m.id) :
    ∀ (o : Obj), didsObj (o.withMeta f) = didsObj o
  | .defn m ws => by simp [Obj.withMeta, didsObj, hf]
  | .scope m kids => by simp [Obj.withMeta, didsObj]

theorem wrapDotted_dids_pv (o : Obj) : didsObj (wrapDotted o) = didsObj o := by
  refine wrapDotted_induct o (P := fun x => didsObj x = didsObj o) (fun _ => rfl) fun _ => ⟨fun last _ => ?_, fun n _ b acc ha => ?_⟩
  · exact didsObj_withMeta_pv (fun m => { m with name := last, mergeNames := true }) (fun _ => rfl) o
  · simpa [didsObj, didsList] using ha

/-! ### the ids of the definitions are pairwise distinct -/

theorem nodup_adopt_pv {lo j : Nat} {acc : List Obj} {o : Obj} (hr : inRngList lo j acc = true)
    (h : (didsList acc).Nodup) (hnd : (didsObj o).Nodup) (hge : ∀ x ∈ didsObj o, ∃ i, x = some i ∧ j ≤ i) :
    (didsList (adopt acc o)).Nodup := by
  simp only [adopt, didsList_append_pv, didsList, List.append_nil, wrapDotted_dids_pv]
  rw [List.nodup_append]
  refine ⟨h, hnd, ?_⟩
  intro a ha b hb hab
  obtain ⟨i, hi, _, hlt⟩ := dids_inRngList_pv acc hr a ha
  obtain ⟨i', hi', hle⟩ := hge b hb
  rw [hab, hi'] at hi
  cases hi
  omega

theorem nodup_flush_pv {lo n : Nat} {acc : List Obj} {pending : Option Obj}
    (hi : CollectInv lo n acc pending) (h : (didsList acc).Nodup) : (didsList (flush acc pending)).Nodup := by
  cases pending with
  | none => exact h
  | some d =>
    obtain ⟨m, ws, j, rfl, hid, hn, hs, hlo, hsz⟩ := hi
    refine nodup_adopt_pv (lo := lo) (j := j) hs.2.2 h (by simp [didsObj]) ?_
    intro x hx
    simp only [didsObj, List.mem_singleton] at hx
    exact ⟨j, by rw [hx, hid], Nat.le_refl j⟩

/-- along a run of `collectObjects` the ids accumulated so far lie below the counter (`CollectInv`), every
    new definition takes the counter: the ids of the definitions stay pairwise distinct -/
theorem C12.Collects.nodup_pv {n n' : Nat} {acc objs : List Obj} {pending : Option Obj}
    (h : Collects n acc pending objs n') :
    ∀ (lo : Nat), CollectInv lo n acc pending → (didsList acc).Nodup → (didsList objs).Nodup := by
  induction h with
  | done => intro lo hinv hnd; exact nodup_flush_pv hinv hnd
  | scope nm dis ln _ _ hk _ ihk ih =>
    intro lo hinv hnd
    have hki := (hk.inv_pid _ (CollectInv.nil_pid _)).1
    refine ih lo (CollectInv.scope_pid _ hinv.flush_pid hki rfl)
      (nodup_adopt_pv hinv.flush_pid.1.2.2 (nodup_flush_pv hinv hnd) (ihk _ (CollectInv.nil_pid _) .nil) ?_)
    intro x hx
    obtain ⟨i, hi1, h2, _⟩ := dids_inRngList_pv _ hki.1.2.2 x hx
    exact ⟨i, hi1, by omega⟩
  | defn nm dis ln ws _ _ ih =>
    intro lo hinv hnd
    have hf := hinv.flush_pid
    exact ih lo ⟨_, ws, _, rfl, rfl, rfl, hf.1, hf.2.1, hf.2.2⟩ (nodup_flush_pv hinv hnd)
  | attr an ws v _ _ ih =>
    intro lo hinv hnd
    obtain ⟨m, ws', j, rfl, hid, hn, hs, hlo, hsz⟩ := hinv
    exact ih lo ⟨_, ws', j, rfl, hid, hn, hs, hlo, hsz⟩ hnd

theorem parseObjs_dids_pv (text : Str) (root : List Obj) (h : parseObjs text = .ok root) :
    (didsList root).Nodup ∧ ∀ x ∈ didsList root, x ≠ none := by
  obtain ⟨n, hc⟩ := parseObjs_collects h
  have hinv := (hc.inv_pid 1 (CollectInv.nil_pid 1)).1
  refine ⟨hc.nodup_pv 1 (CollectInv.nil_pid 1) .nil, ?_⟩
  intro x hx
  obtain ⟨i, hi, _, _⟩ := dids_inRngList_pv _ hinv.1.2.2 x hx
  rw [hi]; simp

/-! ### no meta of a parsed document records a resolution, every name is a path of non-empty components -/

theorem goodPath_comp_pv {s c : Str} (hc : c ∈ splitOn '.' s) (h : GoodPath s) : GoodPath c := by
  intro x hx
  rw [splitOn_of_not_mem '.' c (splitOn_comp_pid '.' s c hc), List.mem_singleton] at hx
  exact hx ▸ h c hc

theorem parse_metas_pv (text : Str) (root : List Obj) (h : parseObjs text = .ok root) :
    ∀ m ∈ metasOfs root, m.varRes = none ∧ GoodPath m.name := by
  obtain ⟨_, hc⟩ := parseObjs_collects h
  refine hc.metas_pid (Q := fun m => m.varRes = none ∧ GoodPath m.name) ?_ ?_ ?_ ?_ ?_
    (fun _ e => nomatch e) (fun _ e => nomatch e)
  · intro nm dis ln attrs n k ci ci3 w brace hstd _; exact ⟨rfl, isStdIdent_goodPath_vs _ hstd⟩
  · intro nm dis ln n hstd; exact ⟨rfl, isStdIdent_goodPath_vs _ hstd⟩
  · intro m an ws v _ hm; exact hm
  · intro m last hm hl; exact ⟨hm.1, goodPath_comp_pv hl hm.2⟩
  · intro m n b hm hn; exact ⟨rfl, goodPath_comp_pv hn hm.2⟩

theorem activeIn_meta_mem_pv {x : Obj} {l : List Obj} (h : ActiveIn x l) : x.meta ∈ metasOfs l := by
  have key : ∀ (l : List Obj) (y : Obj), y ∈ l → ∀ m ∈ metasOf y, m ∈ metasOfs l := by
    intro l
    induction l with
    | nil => intro y hy; cases hy
    | cons a r ih =>
      intro y hy m hm
      rw [metasOfs, List.mem_append]
      rcases List.mem_cons.mp hy with rfl | hy
      · exact .inl hm
      · exact .inr (ih y hy m hm)
  induction h with
  | here hm _ => exact key _ x hm _ (by cases x <;> simp [metasOf, Obj.meta])
  | deeper hm _ _ ih => exact key _ _ hm _ (by simp [metasOf, ih])

theorem scopesNamed_flatten_pv (docs : List (List Obj)) (h : ∀ d ∈ docs, ScopesNamed d) :
    ScopesNamed docs.flatten := by
  intro m kids hx
  obtain ⟨l, hl, hxl⟩ := activeIn_flatten_fv hx
  exact h l hl m kids hxl

/-! ### ids of `all_definitions` -/

mutual
theorem allDefsObj_ids_sublist_pv : ∀ (o : Obj) (p : Str),
    ((allDefsObj o p).map (fun x => x.2.1.id)).Sublist (didsObj o)
  | .defn m ws, p => by
    rw [allDefsObj, didsObj]
    split
    · exact List.nil_sublist _
    · exact List.Sublist.refl _
  | .scope m kids, p => by
    rw [allDefsObj, didsObj]
    exact allDefsList_ids_sublist_pv kids _
theorem allDefsList_ids_sublist_pv : ∀ (l : List Obj) (p : Str),
    ((allDefsObj.allDefsList l p).map (fun x => x.2.1.id)).Sublist (didsList l)
  | [], p => by rw [allDefsObj.allDefsList, didsList]; exact List.Sublist.refl _
  | o :: r, p => by
    rw [allDefsObj.allDefsList, didsList, List.map_append]
    apply List.Sublist.append _ (allDefsList_ids_sublist_pv r p)
    split
    · exact List.nil_sublist _
    · exact allDefsObj_ids_sublist_pv o p
end

mutual
theorem didsObj_annObj_pv (env : Env) (diff : Bool) (root : List Obj) : ∀ (o : Obj) (pos : List Nat),
    didsObj (annObj env diff root pos o) = didsObj o
  | .defn m ws, pos => by
    rcases annObj_defn_cases diff root pos m ws with ⟨_, h⟩ | ⟨_, n, _, h⟩ <;> rw [h env] <;> rfl
  | .scope m kids, pos => by
    rw [annObj_scope, didsObj, didsObj, didsList_annList_pv env diff root kids pos 0]
theorem didsList_annList_pv (env : Env) (diff : Bool) (root : List Obj) : ∀ (l : List Obj) (pfx : List Nat)
    (k : Nat), didsList (annList env diff root pfx k l) = didsList l
  | [], pfx, k => by rw [annList]
  | o :: r, pfx, k => by
    rw [annList, didsList, didsList, didsObj_annObj_pv env diff root o, didsList_annList_pv env diff root r]
end

/-! ## B. whole-fetch environment independence -/

mutual
/-- `b` is `a` up to the recorded resolutions of definitions, and IDENTICAL to `a` wherever `a`
    carries no resolution error -/
def envRelObj : Obj → Obj → Prop
  | .defn m1 w1, .defn m2 w2 => m1.name = m2.name ∧ m1.disabled = m2.disabled ∧
      (srcErrOf (.defn m1 w1) = none → Obj.defn m2 w2 = .defn m1 w1)
  | .scope m1 k1, .scope m2 k2 => m1 = m2 ∧ envRelList k1 k2
  | .defn _ _, .scope _ _ => False
  | .scope _ _, .defn _ _ => False
def envRelList : List Obj → List Obj → Prop
  | [], [] => True
  | a :: l, b :: r => envRelObj a b ∧ envRelList l r
  | [], _ :: _ => False
  | _ :: _, [] => False
end

theorem envRelObj_attrs_pv : ∀ (a b : Obj), envRelObj a b →
    a.isDefn = b.isDefn ∧ a.meta.disabled = b.meta.disabled ∧ a.name = b.name
  | .defn m1 w1, .defn m2 w2, h => by rw [envRelObj] at h; exact ⟨rfl, h.2.1, h.1⟩
  | .scope m1 k1, .scope m2 k2, h => by rw [envRelObj] at h; obtain ⟨rfl, _⟩ := h; exact ⟨rfl, rfl, rfl⟩
  | .defn _ _, .scope _ _, h => by rw [envRelObj] at h; exact h.elim
  | .scope _ _, .defn _ _, h => by rw [envRelObj] at h; exact h.elim

theorem envRelList_nil_left_pv : ∀ (r : List Obj), envRelList [] r → r = []
  | [], _ => rfl
  | _ :: _, h => by rw [envRelList] at h; exact h.elim

theorem envRelList_filter_pv (p : Obj → Bool) (hp : ∀ a b, envRelObj a b → p a = p b) :
    ∀ (l r : List Obj), envRelList l r → envRelList (l.filter p) (r.filter p)
  | [], [], _ => by simp [envRelList]
  | [], _ :: _, h => by rw [envRelList] at h; exact h.elim
  | _ :: _, [], h => by rw [envRelList] at h; exact h.elim
  | a :: l, b :: r, h => by
    rw [envRelList] at h
    have ih := envRelList_filter_pv p hp l r h.2
    rw [List.filter_cons, List.filter_cons, ← hp a b h.1]
    cases p a with
    | true => simp only [if_true]; rw [envRelList]; exact ⟨h.1, ih⟩
    | false => simpa using ih

theorem envRelList_append_pv : ∀ (l1 r1 l2 r2 : List Obj), envRelList l1 r1 → envRelList l2 r2 →
    envRelList (l1 ++ l2) (r1 ++ r2)
  | [], [], l2, r2, _, h2 => by simpa using h2
  | [], _ :: _, _, _, h, _ => by rw [envRelList] at h; exact h.elim
  | _ :: _, [], _, _, h, _ => by rw [envRelList] at h; exact h.elim
  | a :: l, b :: r, l2, r2, h, h2 => by
    rw [envRelList] at h
    rw [List.cons_append, List.cons_append, envRelList]
    exact ⟨h.1, envRelList_append_pv l r l2 r2 h.2 h2⟩

theorem envRelObj_children_pv : ∀ (a b : Obj), envRelObj a b → envRelList a.children b.children
  | .defn m1 w1, .defn m2 w2, _ => by simp [Obj.children, envRelList]
  | .scope m1 k1, .scope m2 k2, h => by rw [envRelObj] at h; exact h.2
  | .defn _ _, .scope _ _, h => by rw [envRelObj] at h; exact h.elim
  | .scope _ _, .defn _ _, h => by rw [envRelObj] at h; exact h.elim

theorem envRelList_flatMap_children_pv : ∀ (l r : List Obj), envRelList l r →
    envRelList (l.flatMap Obj.children) (r.flatMap Obj.children)
  | [], [], _ => by simp [envRelList]
  | [], _ :: _, h => by rw [envRelList] at h; exact h.elim
  | _ :: _, [], h => by rw [envRelList] at h; exact h.elim
  | a :: l, b :: r, h => by
    rw [envRelList] at h
    rw [List.flatMap_cons, List.flatMap_cons]
    exact envRelList_append_pv _ _ _ _ (envRelObj_children_pv a b h.1) (envRelList_flatMap_children_pv l r h.2)

theorem envRelList_activeNamed_pv (n : Str) (l r : List Obj) (h : envRelList l r) :
    envRelList (activeNamed n l) (activeNamed n r) := by
  unfold activeNamed
  apply envRelList_filter_pv _ _ l r h
  intro a b hab
  obtain ⟨_, h2, h3⟩ := envRelObj_attrs_pv a b hab
  rw [h2, h3]

theorem envRelList_defsNamed_pv (n : Str) (l r : List Obj) (h : envRelList l r) :
    envRelList (defsNamed n l) (defsNamed n r) := by
  unfold defsNamed
  apply envRelList_filter_pv _ _ l r h
  intro a b hab
  obtain ⟨h1, h2, h3⟩ := envRelObj_attrs_pv a b hab
  rw [h1, h2, h3]

theorem envRelList_srcStep_pv (n : Str) (l r : List Obj) (h : envRelList l r) :
    envRelList (srcStep l n) (srcStep r n) := by
  unfold srcStep scopesNamed
  apply envRelList_flatMap_children_pv
  apply envRelList_filter_pv _ _ l r h
  intro a b hab
  obtain ⟨h1, h2, h3⟩ := envRelObj_attrs_pv a b hab
  unfold Obj.isScope
  rw [h1, h2, h3]

theorem envRelList_eq_pv : ∀ (l r : List Obj), envRelList l r → (∀ o ∈ l, srcErrOf o = none) → r = l
  | [], r, h, _ => envRelList_nil_left_pv r h
  | _ :: _, [], h, _ => by rw [envRelList] at h; exact h.elim
  | a :: l, b :: r, h, hall => by
    rw [envRelList] at h
    have ht := envRelList_eq_pv l r h.2 (fun o ho => hall o (List.mem_cons_of_mem _ ho))
    have ha := hall a List.mem_cons_self
    cases a with
    | scope m k => simp [srcErrOf] at ha
    | defn m1 w1 =>
      cases b with
      | scope m k => have := h.1; rw [envRelObj] at this; exact this.elim
      | defn m2 w2 =>
        have h1 := h.1
        rw [envRelObj] at h1
        rw [h1.2.2 ha, ht]

mutual
theorem envRel_treeObj_pv : ∀ (mo : Obj) (s1 s2 : List Obj), firstErrObj mo s1 = none → envRelList s1 s2 →
    firstErrObj mo s2 = none ∧ treeObj mo s2 = treeObj mo s1 ∧ treeUsedObj mo s2 = treeUsedObj mo s1
  | .defn mm mws, s1, s2, h1, hr => by
    rw [firstErrObj] at h1
    have hnone : ∀ o ∈ activeNamed mm.name s1, srcErrOf o = none := by
      rw [List.findSome?_eq_none_iff] at h1; exact h1
    have ha := envRelList_eq_pv _ _ (envRelList_activeNamed_pv mm.name s1 s2 hr) hnone
    have hd := envRelList_eq_pv _ _ (envRelList_defsNamed_pv mm.name s1 s2 hr) (fun o ho => by
      have := mem_defsNamed.mp ho
      exact hnone o (mem_activeNamed.mpr ⟨this.1, this.2.2.1, this.2.2.2⟩))
    refine ⟨by rw [firstErrObj, ha]; exact h1, ?_, ?_⟩
    · rw [treeObj, treeObj]; unfold lastDef; rw [hd]
    · rw [treeUsedObj, treeUsedObj, hd]
  | .scope mm kids, s1, s2, h1, hr => by
    rw [firstErrObj] at h1
    split at h1
    · rename_i hemp
      have hd : defsNamed mm.name s2 = [] := by
        have hr' := envRelList_defsNamed_pv mm.name s1 s2 hr
        have : defsNamed mm.name s1 = [] := by simpa using hemp
        rw [this] at hr'
        exact envRelList_nil_left_pv _ hr'
      obtain ⟨r1, r2, r3⟩ := envRel_tree_pv kids (srcStep s1 mm.name) (srcStep s2 mm.name) h1
        (envRelList_srcStep_pv mm.name s1 s2 hr)
      refine ⟨by rw [firstErrObj, hd]; simpa using r1, ?_, ?_⟩
      · rw [treeObj, treeObj, r2]
      · rw [treeUsedObj, treeUsedObj, r3]
    · cases h1
theorem envRel_tree_pv : ∀ (mkids : List Obj) (s1 s2 : List Obj), firstErr mkids s1 = none → envRelList s1 s2 →
    firstErr mkids s2 = none ∧ treeResult mkids s2 = treeResult mkids s1 ∧ treeUsed mkids s2 = treeUsed mkids s1
  | [], s1, s2, _, _ => by simp [firstErr, treeResult, treeUsed]
  | mo :: rest, s1, s2, h1, hr => by
    rw [firstErr] at h1
    cases ho : firstErrObj mo s1 with
    | some e => rw [ho] at h1; cases h1
    | none =>
      rw [ho] at h1
      obtain ⟨a1, a2, a3⟩ := envRel_treeObj_pv mo s1 s2 ho hr
      obtain ⟨b1, b2, b3⟩ := envRel_tree_pv rest s1 s2 h1 hr
      refine ⟨by rw [firstErr, a1]; exact b1, ?_, ?_⟩
      · rw [treeResult, treeResult, a2, b2]
      · rw [treeUsed, treeUsed, a3, b3]
end

theorem treeFetch_envRel_pv (sm : Meta) (mkids s1 s2 : List Obj) (hr : envRelList s1 s2) (r : Obj × List Nat)
    (h : treeFetch sm mkids s1 = .ok r) : treeFetch sm mkids s2 = .ok r := by
  unfold treeFetch at h ⊢
  cases hfe : firstErr mkids s1 with
  | some e => rw [hfe] at h; cases h
  | none =>
    rw [hfe] at h
    obtain ⟨a1, a2, a3⟩ := envRel_tree_pv mkids s1 s2 hfe hr
    rw [a1, a2, a3]
    exact h

/-- the empty environment -/
def emptyEnv : Env := fun _ => none

theorem srcErrOf_varResOf_pv (m : Meta) (ws : List Word) (r : R (List Word)) (refs : List Nat)
    (h : srcErrOf (.defn { m with varRes := some (varResOf r refs) } ws) = none) : ∃ rws, r = .ok rws := by
  cases r with
  | ok rws => exact ⟨rws, rfl⟩
  | error e => cases e <;> simp [srcErrOf, srcWordsR, varResOf] at h

mutual
theorem envRel_annObj_pv (env : Env) (root : List Obj) (hd : DocIds root) : ∀ (o : Obj) (pos : List Nat),
    envRelObj (annObj emptyEnv false root pos o) (annObj env false root pos o)
  | .defn m ws, pos => by
    rcases annObj_defn_cases false root pos m ws with ⟨_, h0⟩ | ⟨_, n, _, h0⟩
    · rw [h0, h0, envRelObj]
      exact ⟨rfl, rfl, fun _ => rfl⟩
    · rw [h0, h0, envRelObj]
      refine ⟨rfl, rfl, fun hnone => ?_⟩
      obtain ⟨rws, hr⟩ := srcErrOf_varResOf_pv m ws _ _ hnone
      rw [env_closed_vs env root hd pos false rws hr, hr]
  | .scope m kids, pos => by
    rw [annObj_scope, annObj_scope, envRelObj]
    exact ⟨rfl, envRel_annList_pv env root hd kids pos 0⟩
theorem envRel_annList_pv (env : Env) (root : List Obj) (hd : DocIds root) : ∀ (l : List Obj) (pfx : List Nat)
    (k : Nat), envRelList (annList emptyEnv false root pfx k l) (annList env false root pfx k l)
  | [], pfx, k => by rw [annList, annList, envRelList]; trivial
  | o :: r, pfx, k => by
    rw [annList, annList, envRelList]
    exact ⟨envRel_annObj_pv env root hd o _, envRel_annList_pv env root hd r pfx (k + 1)⟩
end

theorem envRel_docs_pv (env : Env) : ∀ (docs : List (List Obj)), (∀ d ∈ docs, DocIds d) →
    envRelList (docs.map (denoteDoc emptyEnv false)).flatten (docs.map (denoteDoc env false)).flatten
  | [], _ => by simp [envRelList]
  | d :: ds, h => by
    rw [List.map_cons, List.map_cons, List.flatten_cons, List.flatten_cons]
    exact envRelList_append_pv _ _ _ _ (envRel_annList_pv env d (h d List.mem_cons_self) d [] 0)
      (envRel_docs_pv env ds (fun x hx => h x (List.mem_cons_of_mem _ hx)))

/-! ## C. `.multiple` definitions: the candidates are the denoted words -/

/-- **`master.fetch(sources)` with `$variables`, master with `.multiple` definitions**: the fetch of
    pre-resolved documents is `treeMultiFetch` on the DENOTED documents -/
theorem fetchRoot_multi_preResolved_pv (e : Envs) (env : Env) (master : List Obj) (docs : List (List Obj))
    (hf : TreeMultiMaster master) (hd : depthL master ≤ 1000) (hdocs : ∀ d ∈ docs, DocIds d)
    (hnamed : ScopesNamed docs.flatten)
    (hkeys : KeysDefinedTree e master (docs.map (denoteDoc env false)).flatten) :
    fetchRoot e false master (docs.map (preResolve env false)) =
      treeMultiFetch e { name := [], id := some 0 } master (docs.map (denoteDoc env false)).flatten := by
  rw [map_preResolve env false docs hdocs]
  exact fetch_tree_multi_vars_total e _ _ master _ hf (fetchRoot_fuel_tree master hd) rfl
    (scopesNamed_denoteDocs env false docs hnamed) hkeys

end Phil
