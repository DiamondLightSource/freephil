/-
  Phil.Proofs.FetchChoice — closed form of scope.fetch for NESTED masters whose definitions may be
  CHOICES (single or multi, optional or not) and may be `.deprecated` (`TreeMasterC`: the class
  `TreeMaster` of Phil/Proofs/FetchTree.lean with the restriction "plain definition" dropped — only
  `.multiple` stays outside).
  The specification: `srcVal` is what one matching source yields (`choiceFetch` of the MASTER's words and the
  source's words for a choice, `None` for a deprecated definition given its default, "incompatible" for a scope);
  `firstErrC`: every matching source is checked, the first failing one in document order decides the error;
  `treeObjC` / `treeResultC`: the LAST enabled source decides the value.  `fetch_tree_choice_total`: `fetchScope`
  equals the specification, error for error.  Phil/Props/C11Tree.lean uses the corollaries at any depth (`defAt`).
-/
import Phil.Proofs.FetchTree
import Phil.Proofs.ChoiceLemmas
namespace Phil

/-! ## 1. specification -/

/-- what ONE matching source yields for the master definition `mm = mws`: a scope is refused; a
    definition goes through `definition.fetch_value` (`fetchValueW`: for a choice, `choiceFetch` of
    the master's own words and the source's words) -/
def srcVal (mm : Meta) (mws : List Word) : Obj → R (Option Obj)
  | .scope _ _ => .error incompatibleErr
  | .defn sm sws => fetchValueW mm mws (Obj.defn sm sws).srcWords

/-- the error of the first matching source that fails, in document order -/
def firstErrC (mm : Meta) (mws : List Word) (l : List Obj) : Option Err :=
  l.findSome? (fun ms => errOf (srcVal mm mws ms))

/-- what the loop over the matching sources leaves in the result: the value of the last source; with
    no value (no source, or a deprecated definition given its default) the master definition itself,
    or nothing when it is deprecated -/
def finishC (mm : Meta) (mws : List Word) : Option Obj → List Obj
  | some ro => [ro]
  | none => if (mm.attrs.get "deprecated").truthy then [] else [.defn mm mws]

mutual
/-- the result objects (none or one) for one master object, given the source objects at its level -/
def treeObjC : Obj → List Obj → R (List Obj)
  | .defn mm mws, srcs =>
    match firstErrC mm mws (activeNamed mm.name srcs) with
    | some err => .error err
    | none =>
      .ok (finishC mm mws (match lastDef srcs mm.name with
                           | some d => valOfC (srcVal mm mws d)
                           | none => none))
  | .scope mm kids, srcs =>
    if (defsNamed mm.name srcs).isEmpty then
      match treeResultC kids (srcStep srcs mm.name) with
      | .error err => .error err
      | .ok r => .ok [.scope { mm with tmpl := 0 } r]
    else .error incompatibleErr
/-- the children of the result scope, or the first error in master order -/
def treeResultC : List Obj → List Obj → R (List Obj)
  | [], _ => .ok []
  | mo :: rest, srcs =>
    match treeObjC mo srcs with
    | .error err => .error err
    | .ok os =>
      match treeResultC rest srcs with
      | .error err => .error err
      | .ok r => .ok (os ++ r)
end

/-! ### what a successful result was made of -/

theorem srcVal_shape (mm : Meta) (mws : List Word) (ms ro : Obj)
    (h : srcVal mm mws ms = .ok (some ro)) : ∃ ws, ro = .defn { mm with tmpl := 0 } ws := by
  cases ms with
  | scope m k => cases h
  | defn sm sws => exact fetchValueW_shape mm mws _ ro h

theorem treeObjC_defn_ok {mm : Meta} {mws : List Word} {srcs os : List Obj}
    (h : treeObjC (.defn mm mws) srcs = .ok os) :
    firstErrC mm mws (activeNamed mm.name srcs) = none ∧
      (os = finishC mm mws none ∨
        ∃ d ro, lastDef srcs mm.name = some d ∧ srcVal mm mws d = .ok (some ro) ∧ os = [ro]) := by
  rw [treeObjC] at h
  split at h
  · cases h
  · rename_i hfe
    cases h
    refine ⟨hfe, ?_⟩
    cases hl : lastDef srcs mm.name with
    | none => exact .inl rfl
    | some d =>
      simp only
      cases hv : srcVal mm mws d with
      | error e => exact .inl rfl
      | ok v =>
        cases v with
        | none => exact .inl rfl
        | some ro => exact .inr ⟨d, ro, rfl, hv, rfl⟩

theorem treeObjC_scope_ok {mm : Meta} {kids srcs os : List Obj}
    (h : treeObjC (.scope mm kids) srcs = .ok os) :
    ∃ r, treeResultC kids (srcStep srcs mm.name) = .ok r ∧ os = [.scope { mm with tmpl := 0 } r] := by
  rw [treeObjC] at h
  split at h
  · split at h
    · cases h
    · rename_i r h3
      cases h
      exact ⟨r, h3, rfl⟩
  · cases h

theorem treeResultC_cons_ok {mo : Obj} {rest srcs R : List Obj}
    (h : treeResultC (mo :: rest) srcs = .ok R) :
    ∃ os r, treeObjC mo srcs = .ok os ∧ treeResultC rest srcs = .ok r ∧ R = os ++ r := by
  rw [treeResultC] at h
  split at h
  · cases h
  · rename_i os h1
    split at h
    · cases h
    · rename_i r h2
      cases h
      exact ⟨os, r, h1, h2, rfl⟩

theorem treeObjC_mem {mo : Obj} {srcs os : List Obj} (h : treeObjC mo srcs = .ok os) :
    ∀ o ∈ os, o.name = mo.name ∧ o.isDefn = mo.isDefn ∧ o.meta.disabled = mo.meta.disabled := by
  intro o ho
  cases mo with
  | defn mm mws =>
    rcases (treeObjC_defn_ok h).2 with rfl | ⟨d, ro, _, hv, rfl⟩
    · simp only [finishC] at ho
      split at ho
      · cases ho
      · rw [List.mem_singleton.mp ho]
        exact ⟨rfl, rfl, rfl⟩
    · obtain ⟨ws, rfl⟩ := srcVal_shape mm mws d ro hv
      rw [List.mem_singleton.mp ho]
      exact ⟨rfl, rfl, rfl⟩
  | scope mm kids =>
    obtain ⟨r, _, rfl⟩ := treeObjC_scope_ok h
    rw [List.mem_singleton.mp ho]
    exact ⟨rfl, rfl, rfl⟩

/-- what a master object leaves in a successful result -/
def leftC (srcs : List Obj) (mo : Obj) : List Obj :=
  match treeObjC mo srcs with
  | .ok os => os
  | .error _ => []

theorem treeResultC_eq (srcs : List Obj) : ∀ (mkids : List Obj),
    treeResultC mkids srcs =
      match mkids.findSome? (fun mo => errOf (treeObjC mo srcs)) with
      | some E => .error E
      | none => .ok (mkids.flatMap (leftC srcs))
  | [] => by rw [treeResultC]; rfl
  | mo :: rest => by
    rw [treeResultC, List.findSome?_cons, List.flatMap_cons, leftC, treeResultC_eq srcs rest]
    cases treeObjC mo srcs with
    | error E => rfl
    | ok os => cases rest.findSome? (fun mo => errOf (treeObjC mo srcs)) <;> rfl

theorem treeResultC_eq_flatMap {mkids srcs R : List Obj} (h : treeResultC mkids srcs = .ok R) :
    R = mkids.flatMap (leftC srcs) ∧ ∀ mo ∈ mkids, treeObjC mo srcs = .ok (leftC srcs mo) := by
  rw [treeResultC_eq] at h
  split at h
  · cases h
  · rename_i hn
    cases h
    refine ⟨rfl, fun mo hmo => ?_⟩
    have := List.findSome?_eq_none_iff.mp hn mo hmo
    rw [leftC]
    cases hh : treeObjC mo srcs with
    | ok os => rfl
    | error E => rw [hh] at this; cases this

mutual
def TreeObjC : Obj → Prop
  | .defn mm _ => (mm.attrs.get "multiple").truthy = false ∧ mm.name ≠ [] ∧ '.' ∉ mm.name ∧ mm.disabled = false
  | .scope mm kids =>
    (mm.attrs.get "multiple").truthy = false ∧ mm.name ≠ [] ∧ '.' ∉ mm.name ∧ mm.disabled = false ∧
      TreeKidsC kids ∧ (kids.map Obj.name).Pairwise (· ≠ ·)
def TreeKidsC : List Obj → Prop
  | [] => True
  | o :: os => TreeObjC o ∧ TreeKidsC os
end

/-- a master tree without `.multiple`, definitions of ANY type (choices included) and possibly
    `.deprecated`: enabled non-multiple definitions and enabled non-multiple scopes to any depth,
    names non-empty and dot-free, sibling names pairwise distinct -/
structure TreeMasterC (mkids : List Obj) : Prop where
  kids : TreeKidsC mkids
  distinct : (mkids.map Obj.name).Pairwise (· ≠ ·)

/-! ## 2. list forms -/

theorem treeKidsC_iff : ∀ (l : List Obj), TreeKidsC l ↔ ∀ o ∈ l, TreeObjC o
  | [] => by rw [TreeKidsC]; simp
  | o :: os => by rw [TreeKidsC, treeKidsC_iff os]; simp

theorem TreeMasterC.of_scope {mm : Meta} {kids : List Obj} (h : TreeObjC (.scope mm kids)) :
    TreeMasterC kids := by
  rw [TreeObjC] at h
  exact ⟨h.2.2.2.2.1, h.2.2.2.2.2⟩

theorem TreeMasterC.obj {mkids : List Obj} (h : TreeMasterC mkids) : ∀ o ∈ mkids, TreeObjC o :=
  (treeKidsC_iff mkids).mp h.kids

theorem TreeObjC.base : ∀ {o : Obj}, TreeObjC o →
    isMultiple o = false ∧ o.name ≠ [] ∧ '.' ∉ o.name ∧ o.meta.disabled = false
  | .defn mm _, h => by rw [TreeObjC] at h; exact h
  | .scope mm _, h => by rw [TreeObjC] at h; exact ⟨h.1, h.2.1, h.2.2.1, h.2.2.2.1⟩

theorem TreeObjC.enabled : ∀ {o : Obj}, TreeObjC o → o.meta.disabled = false :=
  fun h => h.base.2.2.2

theorem TreeObjC.notMultiple : ∀ {o : Obj}, TreeObjC o → isMultiple o = false :=
  fun h => h.base.1

mutual
theorem TreeObj.toC : ∀ (o : Obj), TreeObj o → TreeObjC o
  | .defn mm mws, h => by
    rw [TreeObj] at h; rw [TreeObjC]
    exact ⟨h.1.notMultiple, h.2⟩
  | .scope mm kids, h => by
    rw [TreeObj] at h; rw [TreeObjC]
    exact ⟨h.1, h.2.1, h.2.2.1, h.2.2.2.1, TreeKids.toC kids h.2.2.2.2.1, h.2.2.2.2.2⟩
theorem TreeKids.toC : ∀ (l : List Obj), TreeKids l → TreeKidsC l
  | [], _ => by rw [TreeKidsC]; trivial
  | o :: os, h => by
    rw [TreeKids] at h; rw [TreeKidsC]
    exact ⟨TreeObj.toC o h.1, TreeKids.toC os h.2⟩
end

theorem treeResultC_view {mkids srcs R : List Obj} (hf : TreeMasterC mkids)
    (h : treeResultC mkids srcs = .ok R) :
    (∀ o ∈ R, o.meta.disabled = false) ∧
      ∀ mo ∈ mkids, treeObjC mo srcs = .ok (activeNamed mo.name R) := by
  obtain ⟨rfl, hB⟩ := treeResultC_eq_flatMap h
  have hmem : ∀ mo ∈ mkids, ∀ o ∈ leftC srcs mo, o.name = mo.name ∧ o.meta.disabled = false :=
    fun mo hmo o ho =>
      have hm := treeObjC_mem (hB mo hmo) o ho
      ⟨hm.1, hm.2.2.trans (hf.obj mo hmo).enabled⟩
  constructor
  · intro o ho
    obtain ⟨mo, hmo, ho⟩ := List.mem_flatMap.mp ho
    exact (hmem mo hmo o ho).2
  · intro mo hmo
    rw [activeNamed_flatMap_distinct _ mkids hf.distinct hmem mo hmo]
    exact hB mo hmo

/-! ## 3. the loop over the matching sources of one master definition -/

theorem fetchDefn_nodiff_srcVal (e : Envs) (fuel : Nat) (mm : Meta) (mws : List Word) (ms : Obj)
    (hok : ms.isDefn = true → SrcOK ms) : fetchDefn e fuel false (.defn mm mws) ms = srcVal mm mws ms := by
  rw [fetchDefn_nodiff]
  cases ms with
  | scope m k => rfl
  | defn sm sws => rw [fetchValue_defn, srcWordsR_ok sm sws (hok rfl), srcVal]

theorem firstErrC_cons (mm : Meta) (mws : List Word) (d : Obj) (l : List Obj) :
    firstErrC mm mws (d :: l) =
      match srcVal mm mws d with
      | .error err => some err
      | .ok _ => firstErrC mm mws l := by
  unfold firstErrC
  rw [List.findSome?_cons]
  cases srcVal mm mws d <;> rfl

theorem scopesNamed_nil_of_firstErrC {mm : Meta} {mws : List Word} {n : Str} {srcs : List Obj}
    (h : firstErrC mm mws (activeNamed n srcs) = none) : scopesNamed n srcs = [] := by
  rw [List.eq_nil_iff_forall_not_mem]
  intro sc hmem
  have hs := mem_scopesNamed.mp hmem
  unfold firstErrC at h
  rw [List.findSome?_eq_none_iff] at h
  have := h sc (mem_activeNamed.mpr ⟨hs.1, hs.2.2.1, hs.2.2.2⟩)
  cases sc with
  | defn m ws => cases hs.2.1
  | scope m k => cases this

/-! ## 4. one step of the master loop -/

theorem defnFinish_nodiff (mm : Meta) (mws : List Word) (out : List Obj) (v : Option Obj) (used : List Nat) :
    defnFinish false (.defn mm mws) mm out (.ok (v, used)) = .ok (out ++ finishC mm mws v, used) := by
  cases v with
  | some ro => rfl
  | none =>
    simp only [defnFinish, finishC, Bool.not_false, Bool.true_and]
    cases (mm.attrs.get "deprecated").truthy <;> simp

theorem stepG_defn_choice (F : FetchFn) (e : Envs) (fuel : Nat) (sm : Meta)
    (mkids combined : List Obj) (st : List Obj × List Nat) (idx : Nat) (mm : Meta) (mws : List Word)
    (hmult : (mm.attrs.get "multiple").truthy = false)
    (hmatch : fetchMatching fuel sm combined (.defn mm mws) = activeNamed mm.name combined)
    (hsrc : ∀ o ∈ combined, o.meta.disabled = false → o.isDefn = true → SrcOK o) :
    stepG F e fuel false sm mkids combined st (idx, .defn mm mws) =
      match treeObjC (.defn mm mws) combined with
      | .error err => .error err
      | .ok os => .ok (st.1 ++ os, st.2 ++ treeUsedObj (.defn mm mws) combined) := by
  rw [stepG_defn F e fuel false sm mkids combined st idx mm mws hmult, hmatch, treeObjC, treeUsedObj,
    defnOne_fold e fuel false _ (fun d => errOf (srcVal mm mws d)) (fun d => valOfC (srcVal mm mws d)) _ none st.2
      (fun d hd => (fetchDefn_nodiff_srcVal e fuel mm mws d
        (hsrc d (mem_activeNamed.mp hd).1 (mem_activeNamed.mp hd).2.1)).trans (eq_errOf_valOfC _)), firstErrC]
  cases hfe : (activeNamed mm.name combined).findSome? (fun ms => errOf (srcVal mm mws ms)) with
  | some err => rfl
  | none =>
    rw [lastDef, ← activeNamed_eq_defsNamed _ _ (scopesNamed_nil_of_firstErrC hfe), defnFinish_nodiff]
    cases (activeNamed mm.name combined).getLast? <;> rfl

/-! ## 5. the whole fetch -/

/-- **closed form of the fetch of a nested master with choices and deprecated definitions**
    (non-diff mode): with fuel beyond the nesting depth the fetch is `treeResultC` — error for
    error — and the consumed ids are `treeUsed`. -/
theorem fetch_tree_choice_total (e : Envs) : ∀ (fuel : Nat) (sm : Meta) (mkids srcs : List Obj),
    TreeMasterC mkids → depthL mkids < fuel → sm.disabled = false → SrcTree srcs →
    fetchScope e fuel false sm mkids srcs =
      match treeResultC mkids srcs with
      | .error err => .error err
      | .ok r => .ok (.scope { sm with tmpl := 0 } r, treeUsed mkids srcs) := by
  intro fuel
  induction fuel with
  | zero => intro sm mkids srcs _ hd; exact absurd hd (Nat.not_lt_zero _)
  | succ fuel ih =>
    intro sm mkids srcs hf hdepth hsd hsrc
    have hc : mkids.findSome? (fun mo => errOf (treeObjC mo srcs)) =
        (indexed mkids).findSome? (fun io => errOf (treeObjC io.2 srcs)) := by
      conv => lhs; rw [← indexed_map_snd mkids, List.findSome?_map]
      rfl
    rw [fetchScope_of_active e fuel false sm mkids srcs _ (fun io => errOf (treeObjC io.2 srcs))
      (fun io => leftC srcs io.2) (fun io => treeUsedObj io.2 srcs)
      (masterActive_of_distinct mkids (fun o ho => (hf.obj o ho).enabled) hf.distinct),
      treeResultC_eq, treeUsed_eq_flatMap, hc, flatMap_snd (leftC srcs),
      flatMap_snd (fun mo => treeUsedObj mo srcs), indexed_map_snd]
    · cases (indexed mkids).findSome? _ <;> rfl
    · intro st ⟨i, mo⟩ ha
      have hmem : mo ∈ mkids := snd_mem_of_mem_indexed ha
      have hto := hf.obj _ hmem
      have hmatch := fetchMatching_tree fuel sm srcs mo hsd hto.base.2.1 hto.base.2.2.1
        (fun m kids hm hd => hsrc.named m kids (.here hm hd))
      rw [leftC]
      cases mo with
      | defn mm mws =>
        rw [stepG_defn_choice _ e fuel sm mkids srcs st i mm mws hto.notMultiple hmatch
          (fun o ho hd hdef => hsrc.ok o (.here ho hd) hdef)]
        cases treeObjC (.defn mm mws) srcs <;> rfl
      | scope mm kids =>
        have hd1 := depthT_le_depthL mkids _ hmem
        rw [depthT] at hd1
        have hF := ih mm kids (srcStep srcs mm.name) (.of_scope hto) (by omega) hto.enabled (hsrc.step mm.name)
        rw [treeObjC, treeUsedObj]
        cases hr : treeResultC kids (srcStep srcs mm.name) with
        | error err =>
          rw [hr] at hF
          rw [stepG_scope_of_outcome _ e fuel sm mkids srcs st i mm false kids (some err) [] [] hto.notMultiple hmatch hF]
          cases (defsNamed mm.name srcs).isEmpty <;> rfl
        | ok r =>
          rw [hr] at hF
          rw [stepG_scope_of_outcome _ e fuel sm mkids srcs st i mm false kids none r _ hto.notMultiple hmatch hF]
          cases (defsNamed mm.name srcs).isEmpty <;> rfl

/-! ## 6. the value of a choice definition, errors -/

/-- a choice master definition that is not deprecated: one source yields `choiceFetch` of the
    MASTER's words and the source's (resolved) words -/
theorem srcVal_choice (mm : Meta) (mws : List Word) (b : Bool) (sm : Meta) (sws : List Word)
    (ht : mm.attrs.get "type" = .conv (.choice b)) (hd : (mm.attrs.get "deprecated").truthy = false) :
    srcVal mm mws (.defn sm sws) =
      (choiceFetch mws (mm.attrs.get "optional") (Obj.defn sm sws).srcWords false).map
        (fun ws => some (.defn { mm with tmpl := 0 } ws)) := by
  rw [srcVal]
  simp only [fetchValueW, hd, Bool.false_and, Bool.false_eq_true, if_false, ht]

theorem srcVal_error (mm : Meta) (mws : List Word) (ms : Obj) (err : Err)
    (h : srcVal mm mws ms = .error err) :
    (ms.isDefn = false ∧ err = incompatibleErr) ∨
    (ms.isDefn = true ∧ ∃ b, mm.attrs.get "type" = .conv (.choice b) ∧
      choiceFetch mws (mm.attrs.get "optional") ms.srcWords false = .error err) := by
  cases ms with
  | scope m k => cases h; exact .inl ⟨rfl, rfl⟩
  | defn sm sws =>
    rw [srcVal] at h
    simp only [fetchValueW] at h
    split at h
    · cases h
    · split at h
      · rename_i b hb
        refine .inr ⟨rfl, b, hb, ?_⟩
        cases hc : choiceFetch mws (mm.attrs.get "optional") (Obj.defn sm sws).srcWords false with
        | error e2 => rw [hc] at h; cases h; rfl
        | ok ws => rw [hc] at h; cases h
      · cases h

theorem findNamed_treeResultC {mkids srcs R : List Obj} {n : Str} {mo : Obj} (hf : TreeMasterC mkids)
    (h : treeResultC mkids srcs = .ok R) (hfn : findNamedTree mkids n = some mo) :
    ∃ os, treeObjC mo srcs = .ok os ∧ findNamedTree R n = os.head? := by
  obtain ⟨hen, hv⟩ := treeResultC_view hf h
  refine ⟨_, hv mo (findNamed_mem hfn), ?_⟩
  have hfil : activeNamed n R = R.filter (fun o => o.name == n) :=
    List.filter_congr (fun o ho => by rw [hen o ho]; rfl)
  rw [findNamed_name hfn, hfil, List.head?_filter]
  rfl

/-- **the result at a path**: where the master has the definition `mm = mws` at `ps.n`, a successful
    fetch means that every source definition reached by the path passed, and the result has at `ps.n`
    what the value of the last of them leaves -/
theorem defAt_treeResultC : ∀ (ps : List Str) (mkids srcs R : List Obj) (n : Str) (mm : Meta) (mws : List Word),
    TreeMasterC mkids → treeResultC mkids srcs = .ok R → defAt mkids ps n = some (.defn mm mws) →
    (∀ d ∈ defsNamed n (srcAt srcs ps), errOf (srcVal mm mws d) = none) ∧
      defAt R ps n = (finishC mm mws (match lastDef (srcAt srcs ps) n with
                                      | some d => valOfC (srcVal mm mws d)
                                      | none => none)).head?
  | [], mkids, srcs, R, n, mm, mws, hf, h, hd => by
    have hfn := (defAt_nil_eq_some hd).1
    obtain ⟨os, ho1, ho2⟩ := findNamed_treeResultC hf h hfn
    have hdef : defAt R [] n = os.head? := by
      rw [defAt, ho2]
      cases os with
      | nil => rfl
      | cons o os2 =>
        cases o with
        | defn m2 ws2 => rfl
        | scope m2 k2 => cases (treeObjC_mem ho1 _ List.mem_cons_self).2.1
    rw [treeObjC, show mm.name = n from findNamed_name hfn] at ho1
    split at ho1
    · cases ho1
    · rename_i hfe
      cases ho1
      refine ⟨fun d hd => ?_, hdef⟩
      have hd' := mem_defsNamed.mp hd
      exact List.findSome?_eq_none_iff.mp hfe d (mem_activeNamed.mpr ⟨hd'.1, hd'.2.2.1, hd'.2.2.2⟩)
  | s :: ps, mkids, srcs, R, n, mm, mws, hf, h, hd => by
    obtain ⟨sm, kids, hfn, hd⟩ := defAt_cons_eq_some hd
    obtain ⟨os, ho1, ho2⟩ := findNamed_treeResultC hf h hfn
    obtain ⟨r, h3, rfl⟩ := treeObjC_scope_ok ho1
    rw [defAt, ho2, srcAt, ← findNamed_name hfn]
    exact defAt_treeResultC ps kids (srcStep srcs sm.name) r n mm mws
      (.of_scope (hf.obj _ (findNamed_mem hfn))) h3 hd

/-- the errors of the specification: "incompatible", or an error of `choiceFetch` applied to the
    words of a choice definition of the master -/
def ChoiceErr (err : Err) : Prop :=
  err = incompatibleErr ∨
    ∃ (mm : Meta) (mws sws : List Word) (b : Bool), mm.attrs.get "type" = .conv (.choice b) ∧
      choiceFetch mws (mm.attrs.get "optional") sws false = .error err

mutual
theorem treeObjC_error : ∀ (mo : Obj) (srcs : List Obj) (err : Err),
    treeObjC mo srcs = .error err → ChoiceErr err
  | .defn mm mws, srcs, err, h => by
    rw [treeObjC] at h
    split at h
    · rename_i e2 hfe
      cases h
      obtain ⟨ms, _, hms⟩ := List.exists_of_findSome?_eq_some hfe
      rcases srcVal_error mm mws ms _ (eq_error_of_errOf hms) with ⟨_, h2⟩ | ⟨_, b, hb, hc⟩
      · exact .inl h2
      · exact .inr ⟨mm, mws, _, b, hb, hc⟩
    · cases h
  | .scope mm kids, srcs, err, h => by
    rw [treeObjC] at h
    split at h
    · split at h
      · rename_i e h3
        cases h
        exact treeResultC_error kids _ _ h3
      · cases h
    · cases h
      exact .inl rfl
theorem treeResultC_error : ∀ (mkids : List Obj) (srcs : List Obj) (err : Err),
    treeResultC mkids srcs = .error err → ChoiceErr err
  | [], srcs, err, h => by rw [treeResultC] at h; cases h
  | mo :: rest, srcs, err, h => by
    rw [treeResultC] at h
    split at h
    · rename_i e h1
      cases h
      exact treeObjC_error mo srcs _ h1
    · split at h
      · rename_i e h2
        cases h
        exact treeResultC_error rest srcs _ h2
      · cases h
end

/-! ## 7. executable class check -/

mutual
def treeObjCB : Obj → Bool
  | .defn mm _ => !(mm.attrs.get "multiple").truthy && !mm.name.isEmpty && !mm.name.contains '.' && !mm.disabled
  | .scope mm kids =>
    !(mm.attrs.get "multiple").truthy && !mm.name.isEmpty && !mm.name.contains '.' && !mm.disabled &&
      treeKidsCB kids && decide ((kids.map Obj.name).Pairwise (· ≠ ·))
def treeKidsCB : List Obj → Bool
  | [] => true
  | o :: os => treeObjCB o && treeKidsCB os
end

mutual
theorem treeObjCB_sound : ∀ (o : Obj), treeObjCB o = true → TreeObjC o
  | .defn mm mws, h => by
    rw [treeObjCB] at h
    simp only [Bool.and_eq_true, Bool.not_eq_true', List.contains_eq_mem, decide_eq_false_iff_not] at h
    rw [TreeObjC]
    exact ⟨h.1.1.1, List.isEmpty_eq_false_iff.mp h.1.1.2, h.1.2, h.2⟩
  | .scope mm kids, h => by
    rw [treeObjCB] at h
    simp only [Bool.and_eq_true, Bool.not_eq_true', List.contains_eq_mem, decide_eq_false_iff_not,
      decide_eq_true_eq] at h
    rw [TreeObjC]
    exact ⟨h.1.1.1.1.1, List.isEmpty_eq_false_iff.mp h.1.1.1.1.2, h.1.1.1.2, h.1.1.2,
      treeKidsCB_sound kids h.1.2, h.2⟩
theorem treeKidsCB_sound : ∀ (l : List Obj), treeKidsCB l = true → TreeKidsC l
  | [], _ => by rw [TreeKidsC]; trivial
  | o :: os, h => by
    rw [treeKidsCB, Bool.and_eq_true] at h
    rw [TreeKidsC]
    exact ⟨treeObjCB_sound o h.1, treeKidsCB_sound os h.2⟩
end

/-- executable form of `TreeMasterC` with the depth bound of `fetchRoot` -/
def treeMasterCB (mkids : List Obj) : Bool :=
  treeKidsCB mkids && decide ((mkids.map Obj.name).Pairwise (· ≠ ·)) && decide (depthL mkids ≤ 1000)

theorem treeMasterCB_sound (mkids : List Obj) (h : treeMasterCB mkids = true) :
    TreeMasterC mkids ∧ depthL mkids ≤ 1000 := by
  unfold treeMasterCB at h
  simp only [Bool.and_eq_true, decide_eq_true_eq] at h
  exact ⟨⟨treeKidsCB_sound mkids h.1.1, h.1.2⟩, h.2⟩

end Phil
