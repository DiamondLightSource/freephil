/-
  The kernel laws of the parameter index (C20) for the concrete kernel (`Phil.concreteKernel`) on NESTED masters
  whose definitions may be `.multiple` (`TreeMultiMaster`, Phil/Proofs/FetchTree.lean).  The invariant is `ReachedT`:
  the working set is the closed-form result `treeMultiResult` of a good source tree.  `delete_phil_objects` on such a
  result has a closed form too (`delResult`), and the pruned result is again a good source that fits the master; with
  no path to delete this says what a reached working set satisfies as a source.  `merge` of a tree edit is read off
  the closed forms, the deletion `merge_phil` performs first being a hypothesis (`oldOf_eq_del_it2`: met by edits
  that name no recorded `.multiple` path and, under `MultiCtx`, by all edits).  The same edit twice: the absorption
  law of the closed form with deletion (`del_idem_it2`; without deletion it is `C20.absorption_tree`), and the
  kernel law from an absorption law.
-/
import Phil.Proofs.FetchTreeMS
import Phil.Proofs.IndexConcreteLemmas
namespace Phil

theorem mem_of_allRec_itl {α : Type} {g : List α → Bool} {f : α → Bool}
    (hc : ∀ a l, g (a :: l) = (f a && g l)) : ∀ {l : List α}, g l = true → ∀ a ∈ l, f a = true
  | [], _, _, ha => nomatch ha
  | b :: l, h, a, ha => by
    rw [hc, Bool.and_eq_true] at h
    rcases List.mem_cons.mp ha with rfl | ha
    · exact h.1
    · exact mem_of_allRec_itl hc h.2 a ha

/-! ## 1. sources and `++` -/

theorem srcStep_append_itl (n : Str) (a b : List Obj) :
    srcStep (a ++ b) n = srcStep a n ++ srcStep b n := by
  unfold srcStep; rw [scopesNamed_append_ms3, List.flatMap_append]

theorem keysDefined_append_itl {e : Envs} {f : Nat} {mo : Obj} {a b : List Obj}
    (ha : KeysDefined e f mo a) (hb : KeysDefined e f mo b) : KeysDefined e f mo (a ++ b) := by
  refine ⟨ha.1, ?_⟩
  intro d hd
  rcases List.mem_append.mp hd with h | h
  · exact ha.2 d h
  · exact hb.2 d h

mutual
theorem keysDefinedObj_append_itl (e : Envs) : ∀ (mo : Obj) (a b : List Obj),
    KeysDefinedObj e mo a → KeysDefinedObj e mo b → KeysDefinedObj e mo (a ++ b)
  | .defn mm mws, a, b, ha, hb => by
    rw [KeysDefinedObj] at ha hb ⊢
    intro hm
    rw [defsNamed_append_ms3]
    exact keysDefined_append_itl (ha hm) (hb hm)
  | .scope mm kids, a, b, ha, hb => by
    rw [KeysDefinedObj] at ha hb ⊢
    rw [srcStep_append_itl]
    exact keysDefinedTree_append_itl e kids _ _ ha hb
theorem keysDefinedTree_append_itl (e : Envs) : ∀ (l : List Obj) (a b : List Obj),
    KeysDefinedTree e l a → KeysDefinedTree e l b → KeysDefinedTree e l (a ++ b)
  | [], a, b, _, _ => by rw [KeysDefinedTree]; trivial
  | mo :: rest, a, b, ha, hb => by
    rw [KeysDefinedTree] at ha hb ⊢
    exact ⟨keysDefinedObj_append_itl e mo a b ha.1 hb.1, keysDefinedTree_append_itl e rest a b ha.2 hb.2⟩
end

mutual
theorem noClashObj_append_itl : ∀ (mo : Obj) (a b : List Obj),
    noClashObj mo (a ++ b) = (noClashObj mo a && noClashObj mo b)
  | .defn mm mws, a, b => by
    rw [noClashObj, noClashObj, noClashObj, scopesNamed_append_ms3]
    cases scopesNamed mm.name a <;> cases scopesNamed mm.name b <;> rfl
  | .scope mm kids, a, b => by
    rw [noClashObj, noClashObj, noClashObj, defsNamed_append_ms3, srcStep_append_itl,
      noClash_append_itl kids]
    cases defsNamed mm.name a <;> cases defsNamed mm.name b <;>
      simp [Bool.and_comm]
theorem noClash_append_itl : ∀ (l : List Obj) (a b : List Obj),
    noClash l (a ++ b) = (noClash l a && noClash l b)
  | [], a, b => by rw [noClash, noClash, noClash]; rfl
  | mo :: rest, a, b => by
    rw [noClash, noClash, noClash, noClashObj_append_itl mo a b, noClash_append_itl rest a b]
    cases noClashObj mo a <;> cases noClashObj mo b <;> cases noClash rest a <;> cases noClash rest b <;> rfl
end

/-! ## 2. contexts, good sources, reached working sets -/

/-- the contexts covered: the master is a `TreeMultiMaster` (enabled, non-multiple scopes to any depth
    ≤ 1000; definitions of any type, `.multiple` or not; sibling names distinct, dot-free), fit for
    re-fetching, no definition called `include` (`masterCheck_tm` is the executable test) -/
structure TreeCtx (c : IndexCtx) : Prop where
  ok : MasterOK_tm c.master

/-- source trees the closed form applies to: enabled definitions resolve, enabled scopes are named,
    resolved words are `$`-free — at every depth -/
structure GoodTreeSrc (D : List Obj) : Prop where
  tree : SrcTree D
  noDollar : SrcNoDollar D

theorem GoodTreeSrc.append_itl {a b : List Obj} (ha : GoodTreeSrc a) (hb : GoodTreeSrc b) :
    GoodTreeSrc (a ++ b) :=
  ⟨srcTree_append ha.tree hb.tree, srcNoDollar_append_ms3 ha.noDollar hb.noDollar⟩

theorem GoodTreeSrc.nil_itl : GoodTreeSrc [] :=
  ⟨srcTree_nil, SrcNoDollar.nil⟩

/-- **the invariant**: the working set is the closed-form result of fetching the master against some
    good source tree `D` (keys defined, no clash of kinds) -/
def ReachedT (c : IndexCtx) (w : List Obj) : Prop :=
  ∃ D, GoodTreeSrc D ∧ KeysDefinedTree c.envs c.master D ∧ noClash c.master D = true ∧
    w = treeMultiResult c.envs c.master D

theorem fetchRoot_good_itl {c : IndexCtx} (hc : TreeCtx c) {D : List Obj} (hD : GoodTreeSrc D)
    (hk : KeysDefinedTree c.envs c.master D) :
    fetchRoot c.envs false c.master [D] =
      if noClash c.master D then
        .ok (.scope { name := [], id := some 0 } (treeMultiResult c.envs c.master D),
             treeMultiUsed c.master D)
      else .error incompatibleErr := by
  have h : fetchRoot c.envs false c.master [D] = _ :=
    fetch_tree_multi_total c.envs _ _ c.master [D].flatten hc.ok.tree (fetchRoot_fuel_tree _ hc.ok.depth) rfl
      (by rw [List.flatten_singleton]; exact hD.tree) (by rw [List.flatten_singleton]; exact hk)
  rw [List.flatten_singleton] at h
  exact h

/-- what `joinPath` puts in front of the name -/
def pathPre (pfx : Str) : Str := if pfx.isEmpty then [] else pfx ++ ['.']

theorem joinPath_eq_it2 (pfx n : Str) : joinPath pfx n = pathPre pfx ++ n := by
  unfold joinPath pathPre
  cases pfx with
  | nil => rfl
  | cons c r => simp

theorem joinPath_ne_nil_it2 (pfx n : Str) (hn : n ≠ []) : joinPath pfx n ≠ [] := by
  rw [joinPath_eq_it2]
  intro h
  exact hn (List.append_eq_nil_iff.mp h).2

theorem joinPath_of_ne_nil_it2 (pfx n : Str) (hp : pfx ≠ []) : joinPath pfx n = pfx ++ '.' :: n := by
  unfold joinPath
  cases pfx with
  | nil => exact absurd rfl hp
  | cons c r => rfl

/-! ## 3. `delete_phil_objects` on a fetch result of a `TreeMultiMaster` -/

mutual
/-- what `delete_phil_objects(paths)` leaves of the block of one master object: of the block of a
    definition whose full path is listed, the members that are not template-marked go; a scope is
    rebuilt from the pruned blocks of its children -/
def delBlock (e : Envs) (paths : List Str) (pfx : Str) : Obj → List Obj → List Obj
  | .defn mm mws, srcs =>
    (tmBlock e (.defn mm mws) srcs).filter
      (fun o => o.meta.tmpl != 0 || !paths.contains (joinPath pfx mm.name))
  | .scope mm kids, srcs =>
    [.scope { mm with tmpl := 0 } (delResult e paths (joinPath pfx mm.name) kids (srcStep srcs mm.name))]
/-- the fetch result `treeMultiResult e l srcs` after `delete_phil_objects(paths)` -/
def delResult (e : Envs) (paths : List Str) (pfx : Str) : List Obj → List Obj → List Obj
  | [], _ => []
  | mo :: rest, srcs => delBlock e paths pfx mo srcs ++ delResult e paths pfx rest srcs
end

mutual
def pathsOKObj (paths : List Str) (pfx : Str) : Obj → Bool
  | .defn mm mws => !paths.contains (joinPath pfx mm.name) || isMultiple (.defn mm mws)
  | .scope mm kids => !paths.contains (joinPath pfx mm.name) && pathsOKL paths (joinPath pfx mm.name) kids
/-- every listed path that is the path of a master object is the path of a `.multiple` DEFINITION -/
def pathsOKL (paths : List Str) (pfx : Str) : List Obj → Bool
  | [] => true
  | o :: os => pathsOKObj paths pfx o && pathsOKL paths pfx os
end

mutual
theorem pathsOKObj_mono_it2 (paths paths' : List Str) (hsub : ∀ p ∈ paths', p ∈ paths) :
    ∀ (o : Obj) (pfx : Str), pathsOKObj paths pfx o = true → pathsOKObj paths' pfx o = true
  | .defn mm mws, pfx, h => by
    rw [pathsOKObj] at h ⊢
    simp only [Bool.or_eq_true, Bool.not_eq_true', List.contains_eq_mem, decide_eq_false_iff_not] at h ⊢
    rcases h with h | h
    · exact .inl (fun hc => h (hsub _ hc))
    · exact .inr h
  | .scope mm kids, pfx, h => by
    rw [pathsOKObj] at h ⊢
    simp only [Bool.and_eq_true, Bool.not_eq_true', List.contains_eq_mem, decide_eq_false_iff_not] at h ⊢
    exact ⟨fun hc => h.1 (hsub _ hc), pathsOKL_mono_it2 paths paths' hsub kids _ h.2⟩
theorem pathsOKL_mono_it2 (paths paths' : List Str) (hsub : ∀ p ∈ paths', p ∈ paths) :
    ∀ (l : List Obj) (pfx : Str), pathsOKL paths pfx l = true → pathsOKL paths' pfx l = true
  | [], pfx, _ => rfl
  | o :: os, pfx, h => by
    rw [pathsOKL, Bool.and_eq_true] at h ⊢
    exact ⟨pathsOKObj_mono_it2 paths paths' hsub o pfx h.1, pathsOKL_mono_it2 paths paths' hsub os pfx h.2⟩
end

theorem delResult_eq_flatMap_it2 (e : Envs) (paths : List Str) (pfx : Str) (srcs : List Obj) :
    ∀ (l : List Obj), delResult e paths pfx l srcs = l.flatMap (fun mo => delBlock e paths pfx mo srcs)
  | [] => by rw [delResult]; rfl
  | mo :: rest => by rw [delResult, delResult_eq_flatMap_it2 e paths pfx srcs rest]; rfl

theorem delBlock_member_it2 (e : Envs) (paths : List Str) (pfx : Str) : ∀ (mo : Obj) (srcs : List Obj),
    ∀ o ∈ delBlock e paths pfx mo srcs,
      o.name = mo.name ∧ o.meta.disabled = mo.meta.disabled ∧ o.isDefn = mo.isDefn
  | .defn mm mws, srcs, o, ho => by
    rw [delBlock] at ho
    exact tmBlock_member_tm e _ srcs o (List.mem_filter.mp ho).1
  | .scope mm kids, srcs, o, ho => by
    rw [delBlock, List.mem_singleton] at ho
    subst ho
    exact ⟨rfl, rfl, rfl⟩

mutual
theorem delBlock_nil_it2 (e : Envs) : ∀ (mo : Obj) (pfx : Str) (srcs : List Obj),
    delBlock e [] pfx mo srcs = tmBlock e mo srcs
  | .defn mm mws, pfx, srcs => by
    rw [delBlock, List.filter_eq_self]
    intro o _
    simp
  | .scope mm kids, pfx, srcs => by
    rw [delBlock, tmBlock, delResult_nil_it2 e kids]
theorem delResult_nil_it2 (e : Envs) : ∀ (l : List Obj) (pfx : Str) (srcs : List Obj),
    delResult e [] pfx l srcs = treeMultiResult e l srcs
  | [], pfx, srcs => by rw [delResult, treeMultiResult]
  | mo :: rest, pfx, srcs => by
    rw [delResult, treeMultiResult, delBlock_nil_it2 e mo, delResult_nil_it2 e rest]
end

mutual
theorem delBlock_noop_it2 (e : Envs) (paths : List Str) : ∀ (mo : Obj) (fp : Str) (srcs : List Obj), fp ≠ [] →
    (∀ p ∈ paths, startsWith fp p = false) → delBlock e paths fp mo srcs = tmBlock e mo srcs
  | .defn mm mws, fp, srcs, hfp, hno => by
    rw [delBlock, List.filter_eq_self]
    intro o _
    have : paths.contains (joinPath fp mm.name) = false := by
      cases hc : paths.contains (joinPath fp mm.name) with
      | false => rfl
      | true =>
        have hm : joinPath fp mm.name ∈ paths := by simpa using hc
        have := hno _ hm
        rw [joinPath_of_ne_nil_it2 fp _ hfp, (startsWith_iff _ _).mpr ⟨_, rfl⟩] at this
        cases this
    rw [this]
    simp
  | .scope mm kids, fp, srcs, hfp, hno => by
    rw [delBlock, tmBlock]
    have hq : joinPath fp mm.name ≠ [] := by rw [joinPath_of_ne_nil_it2 fp _ hfp]; simp
    rw [delResult_noop_it2 e paths kids (joinPath fp mm.name) _ hq]
    intro p hp
    cases hs : startsWith (joinPath fp mm.name) p with
    | false => rfl
    | true =>
      obtain ⟨r, hr⟩ := (startsWith_iff _ _).mp hs
      have := hno p hp
      rw [hr, joinPath_of_ne_nil_it2 fp _ hfp, List.append_assoc,
        (startsWith_iff _ _).mpr ⟨_, rfl⟩] at this
      cases this
theorem delResult_noop_it2 (e : Envs) (paths : List Str) : ∀ (l : List Obj) (fp : Str) (srcs : List Obj), fp ≠ [] →
    (∀ p ∈ paths, startsWith fp p = false) → delResult e paths fp l srcs = treeMultiResult e l srcs
  | [], fp, srcs, _, _ => by rw [delResult, treeMultiResult]
  | mo :: rest, fp, srcs, hfp, hno => by
    rw [delResult, treeMultiResult, delBlock_noop_it2 e paths mo fp srcs hfp hno,
      delResult_noop_it2 e paths rest fp srcs hfp hno]
end

theorem delStep_scope_it2 (fuel : Nat) (paths : List Str) (pfx : Str) (m : Meta) (K : List Obj) :
    delStep fuel paths pfx (.scope m K) =
      if m.tmpl != 0 then some (.scope m K)
      else if paths.contains (joinPath pfx m.name) then none
      else if paths.any (fun p => startsWith (joinPath pfx m.name) p) then
        some (.scope m (deletePhilObjects fuel paths (joinPath pfx m.name) K))
      else some (.scope m K) := rfl

theorem del_tm_it2 (e : Envs) (paths : List Str) : ∀ (fuel : Nat) (l : List Obj) (pfx : Str) (D : List Obj),
    depthL l < fuel → TMKids l → pathsOKL paths pfx l = true →
    deletePhilObjects fuel paths pfx (treeMultiResult e l D) = delResult e paths pfx l D := by
  intro fuel
  induction fuel with
  | zero => intro l pfx D hd; exact absurd hd (Nat.not_lt_zero _)
  | succ f ih =>
    intro l
    induction l with
    | nil => intro pfx D _ _ _; rw [treeMultiResult, delResult, deletePhil_succ_ick]; rfl
    | cons mo rest ihl =>
      intro pfx D hd ht hp
      rw [TMKids] at ht
      rw [pathsOKL, Bool.and_eq_true] at hp
      rw [depthL] at hd
      have hd2 : depthT mo < f + 1 ∧ depthL rest < f + 1 := Nat.max_lt.mp hd
      have hrest := ihl pfx D hd2.2 ht.2 hp.2
      rw [deletePhil_succ_ick] at hrest
      rw [deletePhil_succ_ick, treeMultiResult, List.filterMap_append, hrest, delResult]
      congr 1
      cases mo with
      | defn mm mws =>
        rw [delBlock, filterMap_delStep_defns_ick f paths pfx _
          (fun o ho => (tmBlock_member_tm e (.defn mm mws) D o ho).2.2)]
        exact List.filter_congr (fun o ho => by rw [(tmBlock_member_tm e (.defn mm mws) D o ho).1]; rfl)
      | scope mm kids =>
        rw [depthT] at hd2
        have hto := ht.1
        rw [TMObj] at hto
        rw [pathsOKObj, Bool.and_eq_true] at hp
        have hpc : paths.contains (joinPath pfx mm.name) = false := by simpa using hp.1.1
        have hstep : delStep f paths pfx
            (.scope { mm with tmpl := 0 } (treeMultiResult e kids (srcStep D mm.name))) =
            some (.scope { mm with tmpl := 0 }
              (delResult e paths (joinPath pfx mm.name) kids (srcStep D mm.name))) := by
          rw [delStep_scope_it2]
          have h0 : (({ mm with tmpl := 0 } : Meta).tmpl != 0) = false := rfl
          have hnm : ({ mm with tmpl := 0 } : Meta).name = mm.name := rfl
          rw [h0, hnm, hpc]
          simp only [Bool.false_eq_true, if_false]
          by_cases hany : (paths.any fun p => startsWith (joinPath pfx mm.name) p) = true
          · rw [if_pos hany, ih kids _ _ (by omega) hto.2.2.2.2.1 hp.1.2]
          · rw [if_neg hany]
            have hno : ∀ p ∈ paths, startsWith (joinPath pfx mm.name) p = false := by
              intro p hpm
              cases hs : startsWith (joinPath pfx mm.name) p with
              | false => rfl
              | true => exact absurd (List.any_eq_true.mpr ⟨p, hpm, hs⟩) hany
            rw [delResult_noop_it2 e paths kids _ _ (joinPath_ne_nil_it2 pfx mm.name hto.2.1) hno]
        rw [tmBlock, delBlock, List.filterMap_cons, hstep, List.filterMap_nil]

/-! ### the view of the pruned result by master name -/

theorem view_del_it2 (e : Envs) (paths : List Str) (pfx : Str) (l srcs : List Obj) (hf : TreeMultiMaster l) :
    ∀ mo ∈ l, activeNamed mo.name (delResult e paths pfx l srcs) = delBlock e paths pfx mo srcs := by
  rw [delResult_eq_flatMap_it2]
  exact activeNamed_flatMap_distinct (fun mo => delBlock e paths pfx mo srcs) l hf.distinct
    (fun mo hmo o ho => by
      have h := delBlock_member_it2 e paths pfx mo srcs o ho
      exact ⟨h.1, by rw [h.2.1]; exact (hf.obj mo hmo).enabled⟩)

theorem srcStep_of_view_it2 {e : Envs} {paths : List Str} {pfx : Str} {mm : Meta} {kids srcs R : List Obj}
    (hv : activeNamed mm.name R = delBlock e paths pfx (.scope mm kids) srcs) :
    srcStep R mm.name = delResult e paths (joinPath pfx mm.name) kids (srcStep srcs mm.name) := by
  rw [← activeNamed_children_tree, hv, delBlock]
  simp [Obj.children]

theorem defsNamed_of_view_it2 {e : Envs} {paths : List Str} {pfx : Str} {mm : Meta} {mws : List Word}
    {srcs R : List Obj} (hv : activeNamed mm.name R = delBlock e paths pfx (.defn mm mws) srcs) :
    defsNamed mm.name R = delBlock e paths pfx (.defn mm mws) srcs := by
  rw [defsNamed_eq_filter_tree, hv, List.filter_eq_self]
  intro o ho
  exact (delBlock_member_it2 e paths pfx _ srcs o ho).2.2

theorem srcStep_del_it2 (e : Envs) (paths : List Str) (pfx : Str) (l srcs : List Obj) (hf : TreeMultiMaster l)
    (mm : Meta) (kids : List Obj) (hmem : Obj.scope mm kids ∈ l) :
    srcStep (delResult e paths pfx l srcs) mm.name =
      delResult e paths (joinPath pfx mm.name) kids (srcStep srcs mm.name) :=
  srcStep_of_view_it2 (view_del_it2 e paths pfx l srcs hf _ hmem)

theorem defsNamed_del_it2 (e : Envs) (paths : List Str) (pfx : Str) (l srcs : List Obj) (hf : TreeMultiMaster l)
    (mm : Meta) (mws : List Word) (hmem : Obj.defn mm mws ∈ l) :
    defsNamed mm.name (delResult e paths pfx l srcs) = delBlock e paths pfx (.defn mm mws) srcs :=
  defsNamed_of_view_it2 (view_del_it2 e paths pfx l srcs hf _ hmem)

/-! ### the pruned result is a good source -/

theorem allActive_filter_it2 (P : Obj → Bool) (q : Obj → Bool) : ∀ (l : List Obj),
    allActive P l = true → allActive P (l.filter q) = true
  | [], _ => by rw [List.filter_nil, allActive]
  | o :: os, h => by
    rw [allActive, Bool.and_eq_true] at h
    rw [List.filter_cons]
    split
    · rw [allActive, Bool.and_eq_true]
      exact ⟨h.1, allActive_filter_it2 P q os h.2⟩
    · exact allActive_filter_it2 P q os h.2

theorem tmKids_toMS_it2 {l : List Obj} (h : TMKids l) : MSKids l :=
  (msKids_iff l).mpr (fun o ho => ((tmKids_iff l).mp h o ho).toMS)

mutual
theorem good_delBlock_it2 (e : Envs) (paths : List Str) : ∀ (mo : Obj) (pfx : Str) (srcs : List Obj), TMObj mo →
    RefetchTree [mo] → SrcNoDollar srcs → allActive srcGoodB (delBlock e paths pfx mo srcs) = true
  | .defn mm mws, pfx, srcs, ht, hr, hdol => by
    rw [delBlock]
    apply allActive_filter_it2
    have := good_msBlock e (.defn mm mws) srcs ht.toMS hr hdol
    rwa [msBlock] at this
  | .scope mm kids, pfx, srcs, ht, hr, hdol => by
    have hk := TreeMultiMaster.of_scope ht
    rw [TMObj] at ht
    rw [delBlock]
    apply allActive_of_forall_ms
    intro o ho
    rw [List.mem_singleton] at ho
    subst ho
    exact allActiveObj_scope_ms _ _ ht.2.1
      (good_delResult_it2 e paths kids _ _ hk.kids (hr.kids ht.2.2.2.1)
        (fun x hx hdef => hdol x (activeIn_srcStep hx) hdef))
theorem good_delResult_it2 (e : Envs) (paths : List Str) : ∀ (l : List Obj) (pfx : Str) (srcs : List Obj), TMKids l →
    RefetchTree l → SrcNoDollar srcs → allActive srcGoodB (delResult e paths pfx l srcs) = true
  | [], pfx, srcs, _, _, _ => by rw [delResult, allActive]
  | mo :: rest, pfx, srcs, ht, hr, hdol => by
    rw [TMKids] at ht
    rw [delResult, allActive_append_ms, good_delBlock_it2 e paths mo pfx srcs ht.1 hr.head hdol,
      good_delResult_it2 e paths rest pfx srcs ht.2 hr.tail hdol]
    rfl
end

theorem srcNoDollar_of_good_it2 (R : List Obj) (h : allActive srcGoodB R = true) : SrcNoDollar R := by
  intro x hx hdef
  have := allActive_sound srcGoodB hx h
  unfold srcGoodB at this
  simp only [hdef, if_true, Bool.and_eq_true, Option.isNone_iff_eq_none, Bool.not_eq_true'] at this
  rw [srcWords_of_varRes_none x this.1]
  exact this.2

theorem goodTreeSrc_delResult_it2 (e : Envs) (paths : List Str) (l : List Obj) (pfx : Str) (srcs : List Obj)
    (hf : TreeMultiMaster l) (hr : RefetchTree l) (hdol : SrcNoDollar srcs) :
    GoodTreeSrc (delResult e paths pfx l srcs) :=
  ⟨srcTree_of_good_ms _ (good_delResult_it2 e paths l pfx srcs hf.kids hr hdol),
   srcNoDollar_of_good_it2 _ (good_delResult_it2 e paths l pfx srcs hf.kids hr hdol)⟩

mutual
theorem fitObj_del_it2 (e : Envs) (paths : List Str) : ∀ (mo : Obj) (pfx : Str) (srcs R : List Obj),
    TMObj mo → activeNamed mo.name R = delBlock e paths pfx mo srcs →
    noClashObj mo R = true ∧ (RefetchTree [mo] → KeysDefinedObj e mo srcs → KeysDefinedObj e mo R)
  | .defn mm mws, pfx, srcs, R, ht, hv => by
    have hv' : activeNamed mm.name R = delBlock e paths pfx (.defn mm mws) srcs := hv
    rw [TMObj] at ht
    constructor
    · rw [noClashObj, scopesNamed_eq_filter_tree, hv']
      have : (delBlock e paths pfx (.defn mm mws) srcs).filter Obj.isScope = [] := by
        rw [List.filter_eq_nil_iff]
        intro o ho
        unfold Obj.isScope
        rw [(delBlock_member_it2 e paths pfx _ srcs o ho).2.2]
        simp [Obj.isDefn]
      rw [this]
      rfl
    · intro hr hk
      have hr' := hr.defn_dt ht.2.2.2
      rw [KeysDefinedObj] at hk ⊢
      intro hmult
      refine ⟨(hk hmult).1, fun d hd => ?_⟩
      rw [defsNamed_of_view_it2 hv', delBlock, tmBlock, if_pos hmult] at hd
      exact (keysDefined_multiBlock hr'.1 hr'.2.1 (hk hmult)).2 d (List.mem_filter.mp hd).1
  | .scope mm kids, pfx, srcs, R, ht, hv => by
    have hkm := TreeMultiMaster.of_scope ht
    have hv' : activeNamed mm.name R = delBlock e paths pfx (.scope mm kids) srcs := hv
    rw [TMObj] at ht
    obtain ⟨h1, h2⟩ := fit_del_it2 e paths kids _ (srcStep srcs mm.name) (srcStep R mm.name) hkm.kids
      (srcStep_of_view_it2 hv' ▸ view_del_it2 e paths _ kids _ hkm)
    constructor
    · rw [noClashObj, defsNamed_eq_filter_tree, hv', h1, delBlock]
      rfl
    · intro hr hk
      rw [KeysDefinedObj] at hk ⊢
      exact h2 (hr.kids ht.2.2.2.1) hk
theorem fit_del_it2 (e : Envs) (paths : List Str) : ∀ (l : List Obj) (pfx : Str) (srcs R : List Obj),
    TMKids l → (∀ mo ∈ l, activeNamed mo.name R = delBlock e paths pfx mo srcs) →
    noClash l R = true ∧ (RefetchTree l → KeysDefinedTree e l srcs → KeysDefinedTree e l R)
  | [], pfx, srcs, R, _, _ => by rw [noClash, KeysDefinedTree]; exact ⟨rfl, fun _ _ => trivial⟩
  | mo :: rest, pfx, srcs, R, ht, hv => by
    rw [TMKids] at ht
    obtain ⟨a1, a2⟩ := fitObj_del_it2 e paths mo pfx srcs R ht.1 (hv mo List.mem_cons_self)
    obtain ⟨b1, b2⟩ := fit_del_it2 e paths rest pfx srcs R ht.2 (fun o ho => hv o (List.mem_cons_of_mem _ ho))
    rw [noClash, a1, b1, KeysDefinedTree, KeysDefinedTree]
    exact ⟨rfl, fun hr hk => ⟨a2 hr.head hk.1, b2 hr.tail hk.2⟩⟩
end

theorem noClashObj_del_it2 (e : Envs) (paths : List Str) : ∀ (mo : Obj) (pfx : Str) (srcs R : List Obj), TMObj mo →
    activeNamed mo.name R = delBlock e paths pfx mo srcs → noClashObj mo R = true :=
  fun mo pfx srcs R ht hv => (fitObj_del_it2 e paths mo pfx srcs R ht hv).1

theorem keysDefinedObj_del_it2 (e : Envs) (paths : List Str) : ∀ (mo : Obj) (pfx : Str) (srcs R : List Obj),
    TMObj mo → RefetchTree [mo] → KeysDefinedObj e mo srcs →
    activeNamed mo.name R = delBlock e paths pfx mo srcs → KeysDefinedObj e mo R :=
  fun mo pfx srcs R ht hr hk hv => (fitObj_del_it2 e paths mo pfx srcs R ht hv).2 hr hk

theorem fit_delResult_it2 (e : Envs) (paths : List Str) (l : List Obj) (pfx : Str) (srcs : List Obj)
    (hf : TreeMultiMaster l) :
    noClash l (delResult e paths pfx l srcs) = true ∧
      (RefetchTree l → KeysDefinedTree e l srcs → KeysDefinedTree e l (delResult e paths pfx l srcs)) :=
  fit_del_it2 e paths l pfx srcs _ hf.kids (view_del_it2 e paths pfx l srcs hf)

/-- the contexts for edits of `.multiple` definitions: nesting depth below the model's fuel for
    `delete_phil_objects`, and every recorded `.multiple` path that is the path of a master object is
    the path of a `.multiple` definition (what `build_index` records for such a master) -/
structure MultiCtx (c : IndexCtx) : Prop where
  depth : depthL c.master < 1000
  paths : pathsOKL c.multiple [] c.master = true

theorem pathsOK_redundant_it2 {c : IndexCtx} (hm : MultiCtx c) (edit : List Obj) :
    pathsOKL (redundantOf c edit) [] c.master = true := by
  apply pathsOKL_mono_it2 c.multiple _ _ c.master [] hm.paths
  intro p hp
  unfold redundantOf at hp
  have := (List.mem_filter.mp hp).2
  simpa using this

theorem oldOf_eq_del_it2 {c : IndexCtx} (hc : TreeCtx c) (edit : List Obj)
    (h : redundantOf c edit = [] ∨ MultiCtx c) (D : List Obj) :
    oldOf c edit (treeMultiResult c.envs c.master D) =
      delResult c.envs (redundantOf c edit) [] c.master D := by
  unfold oldOf
  split
  · rename_i h0
    rw [show redundantOf c edit = [] by simpa using h0, delResult_nil_it2]
  · rename_i h0
    rcases h with h | hm
    · rw [h] at h0; exact absurd rfl h0
    · exact del_tm_it2 c.envs _ 1000 c.master [] D hm.depth hc.ok.tree.kids (pathsOK_redundant_it2 hm edit)

/-! ## 4. a reached working set as a source -/

theorem reachedT_good_itl {c : IndexCtx} (hc : TreeCtx c) {w : List Obj} (h : ReachedT c w) :
    GoodTreeSrc w ∧ KeysDefinedTree c.envs c.master w ∧ noClash c.master w = true ∧
      treeMultiResult c.envs c.master w = w := by
  obtain ⟨D, hD, hk, hn, rfl⟩ := h
  exact ⟨delResult_nil_it2 c.envs c.master [] D ▸
      goodTreeSrc_delResult_it2 c.envs [] c.master [] D hc.ok.tree hc.ok.refetch hD.noDollar,
    keysDefined_treeMultiResult_tm _ _ _ hc.ok.tree hc.ok.refetch hk,
    noClash_treeMultiResult_tm _ _ _ hc.ok.tree,
    treeMultiResult_idem_tm _ _ _ hc.ok.tree hc.ok.refetch⟩

theorem reachedT_self_itl {c : IndexCtx} (hc : TreeCtx c) {w : List Obj} (h : ReachedT c w) :
    ReachedT c (treeMultiResult c.envs c.master w) := by
  obtain ⟨hg, hk, hn, _⟩ := reachedT_good_itl hc h
  exact ⟨w, hg, hk, hn, rfl⟩

/-! ## 5. `merge` of a tree edit into a reached working set -/

/-- the edits covered: whenever the text parses, it parses to a good source tree whose candidate keys
    are defined (the values given to `.multiple` definitions convert under their declared type) -/
def TreeEdit (c : IndexCtx) (text : Str) : Prop :=
  ∀ edit, parseObjs text = .ok edit → GoodTreeSrc edit ∧ KeysDefinedTree c.envs c.master edit

/-- the edit names no path the index recorded as `.multiple` (`redundant_paths` of `merge_phil` is
    empty: nothing is deleted before the merge) -/
def PlainEdit (c : IndexCtx) (text : Str) : Prop :=
  ∀ edit, parseObjs text = .ok edit → redundantOf c edit = []

section
variable {c : IndexCtx} (hc : TreeCtx c) {D : List Obj} (hD : GoodTreeSrc D)
  (hk : KeysDefinedTree c.envs c.master D) {text : Str} {edit : List Obj}
  (hp : parseObjs text = .ok edit) (he : GoodTreeSrc edit) (hke : KeysDefinedTree c.envs c.master edit)
include hc hD hk he hke

theorem del_append_good_itl (paths : List Str) :
    GoodTreeSrc (delResult c.envs paths [] c.master D ++ edit) ∧
      KeysDefinedTree c.envs c.master (delResult c.envs paths [] c.master D ++ edit) :=
  ⟨(goodTreeSrc_delResult_it2 c.envs paths c.master [] D hc.ok.tree hc.ok.refetch hD.noDollar).append_itl he,
   keysDefinedTree_append_itl _ _ _ _
     ((fit_delResult_it2 c.envs paths c.master [] D hc.ok.tree).2 hc.ok.refetch hk) hke⟩

include hp

/-- **`merge` on a reached working set, in closed form.**  `hold`: the deletion `merge_phil` performs
    first is the closed form `delResult` (`oldOf_eq_del_it2`).  The edit alone must
    fetch (the refusal check); the new working set is then the fetch of (the old one with the
    instances of the mentioned `.multiple` definitions deleted) ++ edit, refused on a clash of kinds. -/
theorem merge_del_eq_itl
    (hold : oldOf c edit (treeMultiResult c.envs c.master D) =
      delResult c.envs (redundantOf c edit) [] c.master D) :
    (concreteKernel c).merge (treeMultiResult c.envs c.master D) text =
      match fetchRoot c.envs false c.master [edit] with
      | .error _ => none
      | .ok _ =>
        if noClash c.master (delResult c.envs (redundantOf c edit) [] c.master D ++ edit) then
          some (treeMultiResult c.envs c.master (delResult c.envs (redundantOf c edit) [] c.master D ++ edit))
        else none := by
  obtain ⟨hg, hkx⟩ := del_append_good_itl hc hD hk he hke (redundantOf c edit)
  rw [merge_eq_ick, hp]
  simp only
  cases fetchRoot c.envs false c.master [edit] with
  | error err => rfl
  | ok r0 =>
    simp only
    rw [hold, fetchRoot_two_ick, fetchRoot_good_itl hc hg hkx]
    cases noClash c.master (delResult c.envs (redundantOf c edit) [] c.master D ++ edit) <;> rfl

theorem merge_del_some_itl
    (hold : oldOf c edit (treeMultiResult c.envs c.master D) =
      delResult c.envs (redundantOf c edit) [] c.master D) {w' : List Obj}
    (h : (concreteKernel c).merge (treeMultiResult c.envs c.master D) text = some w') :
    (∃ r, fetchRoot c.envs false c.master [edit] = .ok r) ∧
    noClash c.master (delResult c.envs (redundantOf c edit) [] c.master D ++ edit) = true ∧
      w' = treeMultiResult c.envs c.master (delResult c.envs (redundantOf c edit) [] c.master D ++ edit) := by
  rw [merge_del_eq_itl hc hD hk hp he hke hold] at h
  split at h
  · cases h
  · next r hr =>
    split at h
    · next hnc => exact ⟨⟨r, hr⟩, hnc, (Option.some.inj h).symm⟩
    · cases h

end

theorem merge_reachedT_itl {c : IndexCtx} (hc : TreeCtx c) {w : List Obj} (hw : ReachedT c w)
    {text : Str} (ht : TreeEdit c text) (hpl : PlainEdit c text ∨ MultiCtx c) {w' : List Obj}
    (h : (concreteKernel c).merge w text = some w') : ReachedT c w' := by
  obtain ⟨edit, hp⟩ := merge_parses_ick h
  obtain ⟨D, hD, hk, _, rfl⟩ := hw
  obtain ⟨he, hke⟩ := ht edit hp
  obtain ⟨_, hnc, rfl⟩ := merge_del_some_itl hc hD hk hp he hke
    (oldOf_eq_del_it2 hc edit (hpl.imp_left (· edit hp)) D) h
  obtain ⟨hg, hkx⟩ := del_append_good_itl hc hD hk he hke (redundantOf c edit)
  exact ⟨_, hg, hkx, hnc, rfl⟩

/-! ## 6. `ReachedT` is an invariant of histories -/

def StateReachedT (c : IndexCtx) (s : Index.State (List Obj) PVal) : Prop :=
  ReachedT c s.working ∧ ∀ w ∈ s.states, ReachedT c w

/-- histories covered by the invariant: no `update_from_python` (`master.format(obj)` is in general not
    a fetch result, see `pop_not_exact_after_fromPython`), every string edit is a plain tree edit -/
def GoodOpsT (c : IndexCtx) : List (Index.Op PVal Str) → Prop
  | [] => True
  | .update e :: ops => (TreeEdit c e ∧ PlainEdit c e) ∧ GoodOpsT c ops
  | .updateFromPython _ :: _ => False
  | .push :: ops => GoodOpsT c ops
  | .pop :: ops => GoodOpsT c ops
  | .setState _ :: ops => GoodOpsT c ops
  | .getPython :: ops => GoodOpsT c ops

theorem goodOpsT_cons_itl {c : IndexCtx} {op : Index.Op PVal Str} {ops : List (Index.Op PVal Str)}
    (h : GoodOpsT c (op :: ops)) :
    Index.EditsIn (fun e => TreeEdit c e ∧ PlainEdit c e) op ∧ GoodOpsT c ops := by
  cases op with
  | update e => exact h
  | updateFromPython p => exact h.elim
  | _ => exact ⟨trivial, h⟩

/-- histories of the invariant with edits of ANY kind of parameter: every string edit is a tree edit -/
def GoodOpsM (c : IndexCtx) : List (Index.Op PVal Str) → Prop
  | [] => True
  | .update e :: ops => TreeEdit c e ∧ GoodOpsM c ops
  | .updateFromPython _ :: _ => False
  | .push :: ops => GoodOpsM c ops
  | .pop :: ops => GoodOpsM c ops
  | .setState _ :: ops => GoodOpsM c ops
  | .getPython :: ops => GoodOpsM c ops

theorem goodOpsM_cons_it2 {c : IndexCtx} {op : Index.Op PVal Str} {ops : List (Index.Op PVal Str)}
    (h : GoodOpsM c (op :: ops)) : Index.EditsIn (TreeEdit c) op ∧ GoodOpsM c ops := by
  cases op with
  | update e => exact h
  | updateFromPython p => exact h.elim
  | _ => exact ⟨trivial, h⟩

/-! ## 7. the same edit twice -/

mutual
/-- the sources `A` hold no enabled definition at the path of a `.multiple` master definition -/
def noMultiObj : Obj → List Obj → Bool
  | .defn mm mws, A => !isMultiple (.defn mm mws) || (defsNamed mm.name A).isEmpty
  | .scope mm kids, A => noMulti kids (srcStep A mm.name)
def noMulti : List Obj → List Obj → Bool
  | [], _ => true
  | mo :: rest, A => noMultiObj mo A && noMulti rest A
end

theorem treeMultiResult_congr_blocks_itl {e : Envs} {l X Y : List Obj}
    (h : ∀ mo ∈ l, tmBlock e mo X = tmBlock e mo Y) : treeMultiResult e l X = treeMultiResult e l Y :=
  (treeMultiResult_eq_flatMap e X l).trans
    ((flatMap_congr_mem _ _ l h).trans (treeMultiResult_eq_flatMap e Y l).symm)

theorem tmBlock_eq_blk_itl (e : Envs) (mm : Meta) (mws : List Word) (srcs : List Obj) :
    tmBlock e (.defn mm mws) srcs = blockL e 0 (.defn mm mws) (defsNamed mm.name srcs) := by
  rw [tmBlock]; rfl

theorem TreeMultiMaster.bodies_rec {P : List Obj → Prop}
    (step : ∀ l, TreeMultiMaster l → RefetchTree l → (∀ mm kids, Obj.scope mm kids ∈ l → P kids) → P l)
    (l : List Obj) (hf : TreeMultiMaster l) (hr : RefetchTree l) : P l :=
  MSMaster2.bodies_rec (P := fun l => TreeMultiMaster l → P l)
    (fun l _ hr ih hf => step l hf hr (fun mm kids hm =>
      ih mm kids hm (hf.obj _ hm).enabled (.of_scope (hf.obj _ hm))))
    l hf.toMS.toMS2 hr hf

mutual
def unlistedObj (paths : List Str) (pfx : Str) : Obj → List Obj → Bool
  | .defn mm mws, A =>
    !isMultiple (.defn mm mws) || paths.contains (joinPath pfx mm.name) || (defsNamed mm.name A).isEmpty
  | .scope mm kids, A => unlistedL paths (joinPath pfx mm.name) kids (srcStep A mm.name)
/-- every `.multiple` master definition to which the sources `A` give a value is listed in `paths`
    (for the paths `merge_phil` computes this holds whenever the index recorded every `.multiple`
    definition of the master; with `paths = []` it is `noMulti`) -/
def unlistedL (paths : List Str) (pfx : Str) : List Obj → List Obj → Bool
  | [], _ => true
  | mo :: rest, A => unlistedObj paths pfx mo A && unlistedL paths pfx rest A
end

/-- **absorption with deletion**: prune the result of `D`, merge `A`; prune that, merge `A` again — the
    second round reproduces the first -/
theorem del_idem_it2 (e : Envs) (paths : List Str) : ∀ (l : List Obj), TreeMultiMaster l → RefetchTree l →
    ∀ (pfx : Str) (D A : List Obj), pathsOKL paths pfx l = true → unlistedL paths pfx l A = true →
    treeMultiResult e l (delResult e paths pfx l (delResult e paths pfx l D ++ A) ++ A) =
      treeMultiResult e l (delResult e paths pfx l D ++ A) := by
  refine TreeMultiMaster.bodies_rec (fun l hf hr ih pfx D A hp hu => ?_)
  apply treeMultiResult_congr_blocks_itl
  intro mo hmo
  have hto := hf.obj mo hmo
  have hpo := mem_of_allRec_itl (g := pathsOKL paths pfx) (fun _ _ => by rw [pathsOKL]) hp mo hmo
  have huo := mem_of_allRec_itl (g := (unlistedL paths pfx · A)) (fun _ _ => by rw [unlistedL]) hu mo hmo
  cases mo with
  | defn mm mws =>
    rw [TMObj] at hto
    have hr' := hr (.defn mm mws) (.here hmo hto.2.2.2) rfl
    -- the definitions called `mm.name` in a pruned result followed by `A`
    have hview : ∀ X, defsNamed mm.name (delResult e paths pfx l X ++ A) =
        (blockL e 0 (.defn mm mws) (defsNamed mm.name X)).filter
          (fun o => o.meta.tmpl != 0 || !paths.contains (joinPath pfx mm.name)) ++ defsNamed mm.name A := by
      intro X
      rw [defsNamed_append_ms3, defsNamed_del_it2 e paths pfx l X hf mm mws hmo, delBlock, tmBlock_eq_blk_itl]
    rw [tmBlock_eq_blk_itl, tmBlock_eq_blk_itl, hview, hview]
    refine blk_step_idem_ick e 0 mm mws hr'.1 hr'.2.1 _ _ _ ?_
    rw [pathsOKObj] at hpo
    rw [unlistedObj] at huo
    cases hc : paths.contains (joinPath pfx mm.name) with
    | false =>
      refine .inl ⟨fun o _ => by simp, fun hm => ?_⟩
      rw [hm, hc] at huo
      simpa using huo
    | true =>
      refine .inr ⟨?_, fun o _ => by simp⟩
      rw [hc] at hpo
      simpa using hpo
  | scope mm kids =>
    rw [pathsOKObj, Bool.and_eq_true] at hpo
    rw [unlistedObj] at huo
    have hstep : ∀ X, srcStep (delResult e paths pfx l X ++ A) mm.name =
        delResult e paths (joinPath pfx mm.name) kids (srcStep X mm.name) ++ srcStep A mm.name := by
      intro X
      rw [srcStep_append_itl, srcStep_del_it2 e paths pfx l X hf mm kids hmo]
    rw [tmBlock, tmBlock, hstep, hstep,
      ih mm kids hmo (joinPath pfx mm.name) (srcStep D mm.name) (srcStep A mm.name) hpo.2 huo]

theorem merge_del_idem_itl {c : IndexCtx} (hc : TreeCtx c) {D : List Obj} (hD : GoodTreeSrc D)
    (hk : KeysDefinedTree c.envs c.master D) {text : Str} {edit : List Obj}
    (hp : parseObjs text = .ok edit) (he : GoodTreeSrc edit) (hke : KeysDefinedTree c.envs c.master edit)
    (hold : ∀ D, oldOf c edit (treeMultiResult c.envs c.master D) =
      delResult c.envs (redundantOf c edit) [] c.master D)
    (habs : treeMultiResult c.envs c.master (delResult c.envs (redundantOf c edit) [] c.master
        (delResult c.envs (redundantOf c edit) [] c.master D ++ edit) ++ edit) =
      treeMultiResult c.envs c.master (delResult c.envs (redundantOf c edit) [] c.master D ++ edit))
    {w' : List Obj} (h : (concreteKernel c).merge (treeMultiResult c.envs c.master D) text = some w') :
    (concreteKernel c).merge w' text = some w' := by
  obtain ⟨⟨r0, hr0⟩, hnc, rfl⟩ := merge_del_some_itl hc hD hk hp he hke (hold D) h
  obtain ⟨hg, hkx⟩ := del_append_good_itl hc hD hk he hke (redundantOf c edit)
  rw [noClash_append_itl, Bool.and_eq_true] at hnc
  rw [merge_del_eq_itl hc hg hkx hp he hke (hold _), hr0]
  simp only
  rw [noClash_append_itl, (fit_delResult_it2 _ _ _ _ _ hc.ok.tree).1, hnc.2, habs]
  rfl

/-- the edit gives no value to a `.multiple` definition of the master (at any depth) -/
def NoMultiEdit (c : IndexCtx) (text : Str) : Prop :=
  ∀ edit, parseObjs text = .ok edit → noMulti c.master edit = true

/-- every `.multiple` master definition the edit gives a value to is among the paths `merge_phil`
    deletes (holds when the index recorded every `.multiple` definition of the master) -/
def ListedEdit (c : IndexCtx) (text : Str) : Prop :=
  ∀ edit, parseObjs text = .ok edit → unlistedL (redundantOf c edit) [] c.master edit = true

end Phil
