/-
  Phil.Proofs.FetchVars3 — `$variables`, several source documents: every document is pre-resolved in its own
  frame and its ids are shifted (`shiftObj`, `shiftedDocs`, `Separated`); the reported list on shifted
  documents (`unused_shifted_exact_fv3`; property C06).  The total closed form of the difference on ARBITRARY
  annotated sources (`treeDiffFetch`, `diff_tree_vars_total`) is in Phil/Proofs/DiffTree.lean; its entry point
  on pre-resolved parser outputs is Props/C12Fetch3 `fetch_diff_with_variables`.
-/
import Phil.Proofs.FetchVars2
import Phil.Proofs.DiffTree
namespace Phil
open Phil.C12

/-! ## several source documents: the ids are shifted per document (C06, the reported list) -/

/-- the shift of the ids consulted by a recorded resolution -/
def shiftRes (k : Nat) : Option VarRes → Option VarRes
  | some (.ok ws refs) => some (.ok ws (refs.map (· + k)))
  | v => v

mutual
/-- **the id shift of the driver** (`offsetIds` of Main.lean, structurally): every primary id and every
    recorded consulted id is increased by `k`; nothing else changes -/
def shiftObj (k : Nat) : Obj → Obj
  | .defn m ws => .defn { m with id := m.id.map (· + k), varRes := shiftRes k m.varRes } ws
  | .scope m kids => .scope { m with id := m.id.map (· + k) } (shiftList k kids)
def shiftList (k : Nat) : List Obj → List Obj
  | [] => []
  | o :: r => shiftObj k o :: shiftList k r
end

/-- an entry of `all_definitions`, shifted -/
def shiftEntry (k : Nat) (x : Str × Meta × List Word) : Str × Meta × List Word :=
  (x.1, { x.2.1 with id := x.2.1.id.map (· + k), varRes := shiftRes k x.2.1.varRes }, x.2.2)

theorem shiftObj_name_fv3 (k : Nat) (o : Obj) : (shiftObj k o).name = o.name := by
  cases o <;> rfl

theorem shiftObj_disabled_fv3 (k : Nat) (o : Obj) : (shiftObj k o).meta.disabled = o.meta.disabled := by
  cases o <;> rfl

theorem shiftList_mem_fv3 (k : Nat) : ∀ (l : List Obj) (x : Obj), x ∈ shiftList k l → ∃ x0 ∈ l, x = shiftObj k x0
  | [], x, h => by rw [shiftList] at h; cases h
  | o :: r, x, h => by
    rw [shiftList, List.mem_cons] at h
    rcases h with rfl | h
    · exact ⟨o, List.mem_cons_self, rfl⟩
    · obtain ⟨x0, h0, e⟩ := shiftList_mem_fv3 k r x h
      exact ⟨x0, List.mem_cons_of_mem _ h0, e⟩

theorem activeIn_shift_fv3 (k : Nat) {x : Obj} {L : List Obj} (h : ActiveIn x L) :
    ∀ (l : List Obj), L = shiftList k l → ∃ x0, ActiveIn x0 l ∧ x = shiftObj k x0 := by
  induction h with
  | here hm hd =>
    intro l e
    subst e
    obtain ⟨x0, h0, rfl⟩ := shiftList_mem_fv3 k l _ hm
    exact ⟨x0, .here h0 (by rw [← shiftObj_disabled_fv3 k x0]; exact hd), rfl⟩
  | deeper hm hd _ ih =>
    intro l e
    subst e
    obtain ⟨s0, h0, es⟩ := shiftList_mem_fv3 k l _ hm
    cases s0 with
    | defn m0 ws0 => rw [shiftObj] at es; cases es
    | scope m0 kids0 =>
      rw [shiftObj] at es
      simp only [Obj.scope.injEq] at es
      obtain ⟨em, ek⟩ := es
      obtain ⟨x0, hx0, ex⟩ := ih kids0 ek
      refine ⟨x0, .deeper h0 ?_ hx0, ex⟩
      rw [em] at hd
      exact hd

mutual
theorem allDefsObj_shift_fv3 (k : Nat) : ∀ (o : Obj) (p : Str),
    allDefsObj (shiftObj k o) p = (allDefsObj o p).map (shiftEntry k)
  | .defn m ws, p => by
    rw [shiftObj, allDefsObj, allDefsObj]
    simp only
    split
    · rfl
    · rfl
  | .scope m kids, p => by
    rw [shiftObj, allDefsObj, allDefsObj]
    exact allDefsList_shift_fv3 k kids _
theorem allDefsList_shift_fv3 (k : Nat) : ∀ (l : List Obj) (p : Str),
    allDefsObj.allDefsList (shiftList k l) p = (allDefsObj.allDefsList l p).map (shiftEntry k)
  | [], p => by rw [shiftList, allDefsObj.allDefsList]; rfl
  | o :: r, p => by
    rw [shiftList, allDefsObj.allDefsList, allDefsObj.allDefsList, List.map_append,
      allDefsList_shift_fv3 k r p, shiftObj_disabled_fv3]
    split
    · rfl
    · rw [allDefsObj_shift_fv3 k o p]
end

theorem allDefinitions_shift_fv3 (k : Nat) (l : List Obj) :
    allDefinitions (shiftList k l) = (allDefinitions l).map (shiftEntry k) :=
  allDefsList_shift_fv3 k l []

theorem allDefinitions_append_fv3 (a b : List Obj) :
    allDefinitions (a ++ b) = allDefinitions a ++ allDefinitions b :=
  allDefsList_append_tree [] a b

mutual
theorem idsLe_didsObj_fv3 (b : Nat) : ∀ (o : Obj), idsLeObj b o = true → ∀ i, some i ∈ didsObj o → i ≤ b
  | .defn m ws => by
    intro h i hi
    simp only [didsObj, List.mem_singleton] at hi
    simp only [idsLeObj] at h
    rw [← hi] at h
    simpa using h
  | .scope m kids => by
    intro h i hi
    simp only [idsLeObj, Bool.and_eq_true] at h
    rw [didsObj] at hi
    exact idsLe_didsList_fv3 b kids h.2 i hi
theorem idsLe_didsList_fv3 (b : Nat) : ∀ (l : List Obj), idsLeList b l = true → ∀ i, some i ∈ didsList l → i ≤ b
  | [] => by intro _ i hi; rw [didsList] at hi; cases hi
  | o :: r => by
    intro h i hi
    simp only [idsLeList, Bool.and_eq_true] at h
    rw [didsList, List.mem_append] at hi
    rcases hi with hi | hi
    · exact idsLe_didsObj_fv3 b o h.1 i hi
    · exact idsLe_didsList_fv3 b r h.2 i hi
end

theorem allDefinitions_id_le_fv3 (env : Env) (diff : Bool) (d : List Obj) (hd : DocIds d)
    (x : Str × Meta × List Word) (hx : x ∈ allDefinitions (denoteDoc env diff d)) (i : Nat)
    (hi : x.2.1.id = some i) : i ≤ sizeList d := by
  have hsub := allDefsList_ids_sublist_pv (denoteDoc env diff d) []
  unfold denoteDoc at hsub
  rw [didsList_annList_pv] at hsub
  have hm : some i ∈ didsList d := hsub.subset (List.mem_map.mpr ⟨x, hx, hi⟩)
  exact idsLe_didsList_fv3 _ d hd.2 i hm

/-- documents paired with shifts that keep their id ranges apart: every later shift exceeds the shift
    plus the size of the document (the driver uses `1000000 * (i + 1)`) -/
def Separated : List (List Obj × Nat) → Prop
  | [] => True
  | dk :: rest => (∀ dk' ∈ rest, dk.2 + sizeList dk.1 < dk'.2) ∧ Separated rest

/-- the sources the driver fetches from: every document denoted in its own frame, then shifted -/
def shiftedDocs (env : Env) (diff : Bool) (dks : List (List Obj × Nat)) : List (List Obj) :=
  dks.map (fun dk => shiftList dk.2 (denoteDoc env diff dk.1))

theorem shiftedDocs_entry_fv3 (env : Env) (diff : Bool) : ∀ (dks : List (List Obj × Nat))
    (x : Str × Meta × List Word), x ∈ allDefinitions (shiftedDocs env diff dks).flatten →
    ∃ dk ∈ dks, ∃ x0 ∈ allDefinitions (denoteDoc env diff dk.1), x = shiftEntry dk.2 x0
  | [], x, h => by simp [shiftedDocs, allDefinitions, allDefsObj.allDefsList] at h
  | dk :: rest, x, h => by
    have e : (shiftedDocs env diff (dk :: rest)).flatten
        = shiftList dk.2 (denoteDoc env diff dk.1) ++ (shiftedDocs env diff rest).flatten := by
      simp [shiftedDocs]
    rw [e, allDefinitions_append_fv3, List.mem_append] at h
    rcases h with h | h
    · rw [allDefinitions_shift_fv3, List.mem_map] at h
      obtain ⟨x0, h0, rfl⟩ := h
      exact ⟨dk, List.mem_cons_self, x0, h0, rfl⟩
    · obtain ⟨dk', hdk', x0, h0, ex⟩ := shiftedDocs_entry_fv3 env diff rest x h
      exact ⟨dk', List.mem_cons_of_mem _ hdk', x0, h0, ex⟩

/-- **the id-shift lemma**: per-document present, pairwise distinct ids and separated shifts give present,
    pairwise distinct ids over ALL shifted documents -/
theorem shiftedDocs_ids_fv3 (env : Env) (diff : Bool) : ∀ (dks : List (List Obj × Nat)),
    (∀ dk ∈ dks, DocIds dk.1) →
    (∀ dk ∈ dks, ∀ x ∈ allDefinitions (denoteDoc env diff dk.1), x.2.1.id ≠ none) →
    (∀ dk ∈ dks, ((allDefinitions (denoteDoc env diff dk.1)).map (fun x => x.2.1.id)).Nodup) →
    Separated dks →
    (∀ x ∈ allDefinitions (shiftedDocs env diff dks).flatten, x.2.1.id ≠ none) ∧
    ((allDefinitions (shiftedDocs env diff dks).flatten).map (fun x => x.2.1.id)).Nodup
  | [], _, _, _, _ => by
    simp [shiftedDocs, allDefinitions, allDefsObj.allDefsList]
  | dk :: rest, hdoc, hsome, hnd, hsep => by
    obtain ⟨hs1, hs2⟩ := hsep
    obtain ⟨ih1, ih2⟩ := shiftedDocs_ids_fv3 env diff rest
      (fun d hd => hdoc d (List.mem_cons_of_mem _ hd)) (fun d hd => hsome d (List.mem_cons_of_mem _ hd))
      (fun d hd => hnd d (List.mem_cons_of_mem _ hd)) hs2
    have e : (shiftedDocs env diff (dk :: rest)).flatten
        = shiftList dk.2 (denoteDoc env diff dk.1) ++ (shiftedDocs env diff rest).flatten := by
      simp [shiftedDocs]
    rw [e, allDefinitions_append_fv3, allDefinitions_shift_fv3]
    -- the ids of the first document after the shift
    have hfirst : ∀ x ∈ (allDefinitions (denoteDoc env diff dk.1)).map (shiftEntry dk.2),
        ∃ i, x.2.1.id = some (i + dk.2) ∧ i ≤ sizeList dk.1 := by
      intro x hx
      obtain ⟨x0, h0, rfl⟩ := List.mem_map.mp hx
      cases hid : x0.2.1.id with
      | none => exact absurd hid (hsome dk List.mem_cons_self x0 h0)
      | some i =>
        exact ⟨i, by simp [shiftEntry, hid],
          allDefinitions_id_le_fv3 env diff dk.1 (hdoc dk List.mem_cons_self) x0 h0 i hid⟩
    refine ⟨?_, ?_⟩
    · intro x hx
      rcases List.mem_append.mp hx with hx | hx
      · obtain ⟨i, hi, _⟩ := hfirst x hx
        rw [hi]; simp
      · exact ih1 x hx
    · rw [List.map_append, List.nodup_append]
      refine ⟨?_, ih2, ?_⟩
      · rw [List.map_map]
        have : ((fun x => x.2.1.id) ∘ shiftEntry dk.2)
            = (Option.map (· + dk.2)) ∘ (fun (x : Str × Meta × List Word) => x.2.1.id) := by
          funext x; rfl
        rw [this, ← List.map_map]
        have hinj : ∀ a b : Option Nat, Option.map (· + dk.2) a = Option.map (· + dk.2) b → a = b := by
          intro a b hab
          cases a <;> cases b <;> simp at hab ⊢
          omega
        have h0 := hnd dk List.mem_cons_self
        unfold List.Nodup at h0 ⊢
        rw [List.pairwise_map]
        exact h0.imp (fun hne e => hne (hinj _ _ e))
      · intro a ha b hb hab
        obtain ⟨x, hx, rfl⟩ := List.mem_map.mp ha
        obtain ⟨y, hy, rfl⟩ := List.mem_map.mp hb
        obtain ⟨i, hi, hle⟩ := hfirst x hx
        obtain ⟨dk', hdk', y0, hy0, rfl⟩ := shiftedDocs_entry_fv3 env diff rest y hy
        cases hid : y0.2.1.id with
        | none => exact absurd hid (hsome dk' (List.mem_cons_of_mem _ hdk') y0 hy0)
        | some j =>
          have hlt := hs1 dk' hdk'
          rw [hi] at hab
          simp [shiftEntry, hid] at hab
          omega

theorem activeIn_shiftedDocs_fv3 (env : Env) (diff : Bool) (dks : List (List Obj × Nat)) {x : Obj}
    (hx : ActiveIn x (shiftedDocs env diff dks).flatten) :
    ∃ dk ∈ dks, ∃ x0, ActiveIn x0 (denoteDoc env diff dk.1) ∧ x = shiftObj dk.2 x0 := by
  obtain ⟨l, hl, hxl⟩ := activeIn_flatten_fv hx
  obtain ⟨dk, hdk, rfl⟩ := List.mem_map.mp hl
  obtain ⟨x0, h0, e⟩ := activeIn_shift_fv3 dk.2 hxl _ rfl
  exact ⟨dk, hdk, x0, h0, e⟩

theorem scopesNamed_shiftedDocs_fv3 (env : Env) (diff : Bool) (dks : List (List Obj × Nat))
    (h : ∀ dk ∈ dks, ScopesNamed dk.1) : ScopesNamed (shiftedDocs env diff dks).flatten := by
  intro m kids hx
  obtain ⟨dk, hdk, x0, h0, e⟩ := activeIn_shiftedDocs_fv3 env diff dks hx
  have hn : ScopesNamed (denoteDoc env diff dk.1) := by
    have := scopesNamed_denoteDocs env diff [dk.1] (by simpa using h dk hdk)
    simpa using this
  cases x0 with
  | defn m0 ws0 => rw [shiftObj] at e; cases e
  | scope m0 kids0 =>
    rw [shiftObj] at e
    simp only [Obj.scope.injEq] at e
    rw [e.1]
    exact hn m0 kids0 h0

theorem srcDotfree_shiftedDocs_fv3 (env : Env) (diff : Bool) (dks : List (List Obj × Nat))
    (h : ∀ dk ∈ dks, DocIds dk.1) : SrcDotfree (shiftedDocs env diff dks).flatten := by
  intro x hx
  obtain ⟨dk, hdk, x0, h0, e⟩ := activeIn_shiftedDocs_fv3 env diff dks hx
  have hn : SrcDotfree (denoteDoc env diff dk.1) := by
    have := srcDotfree_denoteDocs env diff [dk.1] (by intro d hd; rw [List.mem_singleton] at hd; subst hd; exact h dk hdk)
    simpa using this
  rw [e, shiftObj_name_fv3]
  exact hn x0 h0

/-- what the driver passes to `fetch` -/
theorem shifted_preResolve_fv3 (env : Env) (diff : Bool) (dks : List (List Obj × Nat))
    (h : ∀ dk ∈ dks, DocIds dk.1) :
    dks.map (fun dk => shiftList dk.2 (preResolve env diff dk.1)) = shiftedDocs env diff dks := by
  unfold shiftedDocs
  exact List.map_congr_left (fun dk hdk => by rw [preResolve_eq_denoteDoc env diff dk.1 (h dk hdk)])

/-- **C06 with variables, SEVERAL source documents (the reported list, exactly).**  The documents are
    pre-resolved each in its own frame and their ids shifted apart (`Separated`); after a successful fetch
    an entry of `all_definitions` of the shifted sources is NOT consumed iff its path names no master
    definition and no entry whose path names a master definition consulted it. -/
theorem unused_shifted_exact_fv3 (e : Envs) (env : Env) (master : List Obj) (dks : List (List Obj × Nat))
    (hf : TreeMaster master) (hd : depthL master ≤ 1000) (hinc : NoIncludeTree master)
    (hdocs : ∀ dk ∈ dks, DocIds dk.1) (hnamed : ∀ dk ∈ dks, ScopesNamed dk.1)
    (hsome : ∀ dk ∈ dks, ∀ x ∈ allDefinitions (denoteDoc env false dk.1), x.2.1.id ≠ none)
    (hnd : ∀ dk ∈ dks, ((allDefinitions (denoteDoc env false dk.1)).map (fun x => x.2.1.id)).Nodup)
    (hsep : Separated dks) (ro : Obj) (used : List Nat)
    (h : fetchRoot e false master (dks.map (fun dk => shiftList dk.2 (preResolve env false dk.1))) = .ok (ro, used))
    (x : Str × Meta × List Word) :
    x ∈ (allDefinitions (shiftedDocs env false dks).flatten).filter (notConsumed used) ↔
      x ∈ allDefinitions (shiftedDocs env false dks).flatten ∧
        x.1 ∉ (allDefinitions master).map (·.1) ∧
        ∀ y ∈ allDefinitions (shiftedDocs env false dks).flatten,
          y.1 ∈ (allDefinitions master).map (·.1) →
            ∀ i, x.2.1.id = some i → i ∉ srcRefs (.defn y.2.1 y.2.2) := by
  rw [shifted_preResolve_fv3 env false dks hdocs,
    fetchRoot_tree_vars e master _ hf hd (scopesNamed_shiftedDocs_fv3 env false dks hnamed)] at h
  cases (ok_of_optError h).2
  obtain ⟨hs1, hs2⟩ := shiftedDocs_ids_fv3 env false dks hdocs hsome hnd hsep
  rw [← defPaths_eq_allDefinitions master hf hinc]
  exact unused_vars_exact _ _ _ hs1 hs2
    (tree_used_vars_exact master _ hf hinc (srcDotfree_shiftedDocs_fv3 env false dks hdocs)) x

end Phil
