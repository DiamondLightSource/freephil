/-
  Phil.Proofs.FormatLoop — the loop of `scope.format` with its three nested bodies named, the recursive
  call a parameter: `fstepP` (one active master object), `finnerP` (one element of the iterated Python
  object), `fmtAppP` (one instance of a `.multiple` object).  `formatObj_scope_xt` says once, by `rfl`,
  that the model runs `fstepP`; the closed forms (ExtractTree, FormatMS) and the heap simulation
  (HeapFormatAbs) reason about these bodies.
-/
import Phil.Fetch
namespace Phil

/-- what `scope.format` iterates over: a `scope_extract` stands for the one-element list of itself -/
def pobjsOf_xt (v : PVal) : R (List PVal) :=
  match v with
  | .record _ => .ok [v]
  | .multi _ l => .ok l
  | .list l => .ok l
  | _ => .error (.stray "TypeError" "format_iterate")

/-- `len()` / iteration of the attribute of a `.multiple` child -/
def elemsOfM (sub : PVal) : R (List PVal) :=
  match sub with
  | .multi _ l => .ok l
  | .list l => .ok l
  | .words ws => .ok (ws.map (fun _ => PVal.none))
  | .str _ => .error (.unsupported "len() of a str")
  | _ => .error (.stray "TypeError" "format_len")

/-- `multiple_scopes_done.get(object.name, True)` is False: the name was met and its placeholder
    template is not written yet -/
def needTmplP (done : List (Str × Bool)) (name : Str) : Bool :=
  match done.find? (fun (p : Str × Bool) => p.1 == name) with
  | some p => !p.2
  | none => false

/-- `result.append(object.format(x))` -/
def fmtAppP (F : Obj → PVal → R Obj) (o : Obj) : List Obj → PVal → R (List Obj) :=
  fun acc x => (F o x).map (fun r => acc ++ [r])

/-- the body of `for python_object_i in python_object` -/
def finnerP (F : Obj → PVal → R Obj) (o : Obj) (mult : Bool) :
    (List Obj × List (Str × Bool)) → PVal → R (List Obj × List (Str × Bool)) := fun st pi =>
  let out : List Obj := st.1
  let done : List (Str × Bool) := st.2
  match pi with
  | .record fs =>
    (match fieldGet fs o.name with
     | none => .ok (out, done)
     | some sub =>
       if !mult then (F o sub).map (fun r => (out ++ [r], done))
       else
         match elemsOfM sub with
         | .error err => .error err
         | .ok [] => .ok (out ++ [withTmpl o 1], done)
         | .ok l =>
           let needTmpl : Bool := needTmplP done o.name
           let out2 : List Obj := if needTmpl then out ++ [withTmpl o (-1)] else out
           let done2 : List (Str × Bool) :=
             if needTmpl then done.map (fun (p : Str × Bool) => if p.1 == o.name then (p.1, true) else p) else done
           (l.foldlM (fmtAppP F o) out2).map (fun r => (r, done2)))
  | _ => .error (.stray "AttributeError" "phil_get")

/-- the body of `for object in self.master_active_objects()`; a `.multiple` scope is visited once per name -/
def fstepP (F : Obj → PVal → R Obj) (v : PVal) :
    (List Obj × List (Str × Bool)) → (Nat × Obj) → R (List Obj × List (Str × Bool)) := fun st io =>
  let out : List Obj := st.1
  let done : List (Str × Bool) := st.2
  let o : Obj := io.2
  let mult := isMultiple o
  let skip := mult && o.isScope && done.any (·.1 == o.name)
  if skip then Except.ok (out, done) else
  let done := if mult && o.isScope then done ++ [(o.name, false)] else done
  match v with
  | .none => (F o .none).map (fun r => (out ++ [r], done))
  | .auto => (F o .auto).map (fun r => (out ++ [r], done))
  | _ =>
    match pobjsOf_xt v with
    | .error err => .error err
    | .ok pobjs => pobjs.foldlM (finnerP F o mult) (out, done)

theorem formatObj_scope_xt (e : Envs) (fuel : Nat) (m : Meta) (kids : List Obj) (v : PVal) :
    formatObj e (fuel + 1) (.scope m kids) v =
      match masterActiveObjects kids with
      | .error err => .error err
      | .ok actives =>
        match actives.foldlM (fstepP (formatObj e fuel) v) (([] : List Obj), ([] : List (Str × Bool))) with
        | .error err => .error err
        | .ok (out, _) => .ok (.scope { m with tmpl := 0 } out) := by
  rfl

end Phil
