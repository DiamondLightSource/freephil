/-
  Phil.Proofs.ExtractLoop — the loop of `scope.extract` (`xstep_xt`, the body with the recursive call a
  parameter) in closed form: `xfold_blocks`.  When the children of a scope come in blocks with pairwise
  distinct names (one non-multiple object, or the instances and templates of one `.multiple` object),
  the `__phil_set__` accumulation yields the blocks' attributes in order.  The statements about
  `scope.extract` on classes of trees (ExtractTree, FormatMS, NoStray3) rest on the lemmas of this file.
-/
import Phil.Proofs.NoStray
namespace Phil

/-- the loop body of `scope.extract` (the model's `step`), the recursive call a parameter -/
def xstep_xt (X : Obj → R PVal) (fs : List (Str × PVal)) (o : Obj) : R (List (Str × PVal)) :=
  if o.meta.tmpl < 0 then Except.ok fs else
  match (if o.meta.disabled || o.meta.tmpl > 0 then Except.ok XVal.disabled
         else (X o).map XVal.val : R XVal) with
  | .error err => Except.error err
  | .ok x => philSet fs o.name (o.attr "optional") (isMultiple o) x

theorem extractObj_scope_xt (e : Envs) (fuel : Nat) (m : Meta) (kids : List Obj) :
    extractObj e (fuel + 1) (.scope m kids) =
      (kids.foldlM (xstep_xt (extractObj e fuel)) ([] : List (Str × PVal))).map PVal.record := by
  rw [extractObj]; rfl

theorem xstep_fresh_xt (X : Obj → R PVal) (fs : List (Str × PVal)) (o : Obj) (hm : isMultiple o = false)
    (hf : fieldGet fs o.name = none) :
    xstep_xt X fs o =
      if o.meta.tmpl < 0 then .ok fs
      else if o.meta.disabled || o.meta.tmpl > 0 then .ok (fs ++ [(o.name, PVal.none)])
      else (X o).map (fun v => fs ++ [(o.name, v)]) := by
  unfold xstep_xt
  by_cases ht : o.meta.tmpl < 0
  · simp only [ht, if_true]
  · simp only [ht, if_false]
    rw [hm]
    by_cases hdis : (o.meta.disabled || decide (o.meta.tmpl > 0)) = true
    · simp only [hdis, if_true]
      rw [philSet_fresh_ns fs o.name _ _ hf, fieldSet_fresh_ns fs o.name _ hf]
    · simp only [hdis, if_false, Bool.false_eq_true]
      cases X o with
      | error err => rfl
      | ok v =>
        simp only [Except.map]
        rw [philSet_fresh_ns fs o.name _ _ hf, fieldSet_fresh_ns fs o.name _ hf]


/-! ### `__phil_set__` on a `.multiple` attribute -/

def isNoneB_M : PVal → Bool
  | .none => true
  | _ => false


/-- `__phil_set__` keeps the value `y` of an instance of a `.multiple` object with `.optional = opt` -/
def keepValB (opt : AttrVal) (y : PVal) : Bool := !isNoneB_M y || opt != .bool true

theorem keepValB_of {opt : AttrVal} {y : PVal} (h : y = .none → opt ≠ .bool true) : keepValB opt y = true := by
  cases y with
  | none =>
    -- `None` is dropped only under `.optional = True`, which `h` excludes
    cases opt with
    | bool b =>
      cases b with
      | true => exact absurd rfl (h rfl)
      | false => rfl
    | _ => rfl
  | _ => rfl

theorem fieldGet_append_last (acc : List (Str × PVal)) (nm : Str) (v : PVal) (h : fieldGet acc nm = none) :
    fieldGet (acc ++ [(nm, v)]) nm = some v := by
  rw [fieldGet_append_ns, h, fieldGet_cons_xt]
  simp

theorem fieldSet_append_last (acc : List (Str × PVal)) (nm : Str) (v v' : PVal) (h : fieldGet acc nm = none) :
    fieldSet (acc ++ [(nm, v)]) nm v' = acc ++ [(nm, v')] := by
  have hne := (fieldGet_none_iff_ns acc nm).1 h
  unfold fieldSet
  have hany : (acc ++ [(nm, v)]).any (·.1 == nm) = true := by simp
  rw [hany]
  simp only [if_true, List.map_append, List.map_cons, List.map_nil, beq_self_eq_true]
  congr 1
  rw [List.map_congr_left (g := id)]
  · simp
  · intro p hp
    have := hne p hp
    simp [this]

theorem philSet_multi_last (acc : List (Str × PVal)) (nm : Str) (opt o' : AttrVal) (pre : List PVal) (v : PVal)
    (h : fieldGet acc nm = none) :
    philSet (acc ++ [(nm, .multi o' pre)]) nm opt true (.val v) =
      .ok (acc ++ [(nm, .multi o' (if keepValB opt v then pre ++ [v] else pre))]) := by
  unfold philSet
  simp only [Bool.not_true, Bool.false_eq_true, if_false, fieldGet_append_last acc nm _ h]
  cases v with
  | none =>
    cases opt with
    | bool b => cases b <;> simp [keepValB, isNoneB_M, fieldSet_append_last acc nm _ _ h]
    | _ => simp [keepValB, isNoneB_M, fieldSet_append_last acc nm _ _ h]
  | _ => simp [keepValB, isNoneB_M, fieldSet_append_last acc nm _ _ h]

theorem philSet_multi_last_disabled (acc : List (Str × PVal)) (nm : Str) (opt o' : AttrVal) (pre : List PVal)
    (h : fieldGet acc nm = none) :
    philSet (acc ++ [(nm, .multi o' pre)]) nm opt true .disabled = .ok (acc ++ [(nm, .multi o' pre)]) := by
  unfold philSet
  simp only [Bool.not_true, Bool.false_eq_true, if_false, fieldGet_append_last acc nm _ h]

theorem philSet_multi_create (acc : List (Str × PVal)) (nm : Str) (opt : AttrVal) (x : XVal)
    (h : fieldGet acc nm = none) :
    philSet acc nm opt true x = philSet (acc ++ [(nm, .multi opt [])]) nm opt true x := by
  unfold philSet
  simp only [Bool.not_true, Bool.false_eq_true, if_false, h, fieldGet_append_last acc nm _ h,
    fieldSet_fresh_ns acc nm _ h]

theorem philSet_multi_fresh_disabled (acc : List (Str × PVal)) (nm : Str) (opt : AttrVal)
    (h : fieldGet acc nm = none) :
    philSet acc nm opt true .disabled = .ok (acc ++ [(nm, .multi opt [])]) := by
  rw [philSet_multi_create acc nm opt _ h, philSet_multi_last_disabled acc nm opt opt [] h]

/-- the values the instances of one `.multiple` block contribute, in order: placeholders
    (`is_template < 0`), templates (`is_template > 0`) and disabled instances contribute nothing, a
    live instance its value unless `__phil_set__` drops it; the first failing live instance decides
    the error -/
def blockVals (X : Obj → R PVal) (opt : AttrVal) : List Obj → R (List PVal)
  | [] => .ok []
  | w :: ws =>
    if w.meta.tmpl < 0 then blockVals X opt ws
    else if w.meta.disabled || w.meta.tmpl > 0 then blockVals X opt ws
    else
      match X w with
      | .error err => .error err
      | .ok y => (blockVals X opt ws).map (fun r => if keepValB opt y then y :: r else r)

/-- the block creates the attribute: some member is not a placeholder -/
def blockCreates (ws : List Obj) : Bool := ws.any (fun w => !decide (w.meta.tmpl < 0))

def MultiBlockOK (nm : Str) (opt : AttrVal) (ws : List Obj) : Prop :=
  ∀ w ∈ ws, w.name = nm ∧ w.attr "optional" = opt ∧ isMultiple w = true

theorem xfold_block_more (X : Obj → R PVal) (nm : Str) (opt : AttrVal) (acc : List (Str × PVal))
    (hacc : fieldGet acc nm = none) :
    ∀ (ws : List Obj) (pre : List PVal), MultiBlockOK nm opt ws →
      ws.foldlM (xstep_xt X) (acc ++ [(nm, .multi opt pre)]) =
        (blockVals X opt ws).map (fun ys => acc ++ [(nm, .multi opt (pre ++ ys))]) := by
  intro ws
  induction ws with
  | nil => intro pre _; simp [blockVals, Except.map, pure, Except.pure]
  | cons w ws ih =>
    intro pre hok
    have hw := hok w List.mem_cons_self
    have hrest : MultiBlockOK nm opt ws := fun w' hw' => hok w' (List.mem_cons_of_mem _ hw')
    rw [List.foldlM_cons, blockVals]
    unfold xstep_xt
    by_cases ht : w.meta.tmpl < 0
    · simp only [ht, if_true]
      exact ih pre hrest
    · simp only [ht, if_false]
      rw [hw.1, hw.2.1, hw.2.2]
      by_cases hdis : (w.meta.disabled || decide (w.meta.tmpl > 0)) = true
      · simp only [hdis, if_true]
        rw [philSet_multi_last_disabled acc nm opt opt pre hacc]
        exact ih pre hrest
      · simp only [hdis, Bool.false_eq_true, if_false]
        cases hX : X w with
        | error err => rfl
        | ok y =>
          simp only [Except.map]
          rw [philSet_multi_last acc nm opt opt pre y hacc]
          show ws.foldlM (xstep_xt X) _ = _
          rw [ih _ hrest]
          cases blockVals X opt ws <;> cases keepValB opt y <;> simp [Except.map]

/-- **extraction of one `.multiple` block** met with the attribute not yet set: the
    `scope_extract_list` of the kept values of its live instances, in order, tagged with the block's
    `.optional`; no attribute at all if the block consists of placeholders only -/
theorem xfold_block_fresh (X : Obj → R PVal) (nm : Str) (opt : AttrVal) :
    ∀ (ws : List Obj) (acc : List (Str × PVal)), fieldGet acc nm = none → MultiBlockOK nm opt ws →
      ws.foldlM (xstep_xt X) acc =
        (blockVals X opt ws).map (fun ys =>
          if blockCreates ws then acc ++ [(nm, .multi opt ys)] else acc) := by
  intro ws
  induction ws with
  | nil => intro acc _ _; simp [blockVals, blockCreates, Except.map, pure, Except.pure]
  | cons w ws ih =>
    intro acc hacc hok
    have hw := hok w List.mem_cons_self
    by_cases ht : w.meta.tmpl < 0
    · have hrest : MultiBlockOK nm opt ws := fun w' hw' => hok w' (List.mem_cons_of_mem _ hw')
      have hstep : xstep_xt X acc w = .ok acc := by unfold xstep_xt; simp only [ht, if_true]
      rw [List.foldlM_cons, blockVals, hstep]
      simp only [ht, if_true]
      show ws.foldlM (xstep_xt X) acc = _
      rw [ih acc hacc hrest]
      have : blockCreates (w :: ws) = blockCreates ws := by
        unfold blockCreates; rw [List.any_cons]; simp [ht]
      rw [this]
    · -- the first member that is not a placeholder creates the list: from there on `xfold_block_more`
      have hcr : blockCreates (w :: ws) = true := by
        unfold blockCreates; rw [List.any_cons]; simp [ht]
      have hstep : xstep_xt X acc w = xstep_xt X (acc ++ [(nm, .multi opt [])]) w := by
        unfold xstep_xt
        simp only [ht, if_false]
        rw [hw.1, hw.2.1, hw.2.2]
        split
        · rfl
        · exact philSet_multi_create acc nm opt _ hacc
      have hfold : (w :: ws).foldlM (xstep_xt X) acc =
          (w :: ws).foldlM (xstep_xt X) (acc ++ [(nm, .multi opt [])]) := by
        rw [List.foldlM_cons, List.foldlM_cons, hstep]
      rw [hfold, xfold_block_more X nm opt acc hacc (w :: ws) [] hok]
      simp only [hcr, if_true, List.nil_append]

/-! ### a scope whose children come in blocks (formatted trees and fetch results alike) -/

/-- a block of children of a scope: the instances and templates of ONE `.multiple` object, or one
    non-multiple object -/
inductive KidBlock
  | multi (nm : Str) (opt : AttrVal) (ws : List Obj)
  | single (w : Obj)

def KidBlock.objs : KidBlock → List Obj
  | .multi _ _ ws => ws
  | .single w => [w]
def KidBlock.name : KidBlock → Str
  | .multi nm _ _ => nm
  | .single w => w.name
def KidBlock.OK : KidBlock → Prop
  | .multi nm opt ws => MultiBlockOK nm opt ws
  | .single w => isMultiple w = false

/-- the attribute (none or one) a block contributes to the `scope_extract` -/
def blockFields (X : Obj → R PVal) : KidBlock → R (List (Str × PVal))
  | .multi nm opt ws =>
    (blockVals X opt ws).map (fun ys => if blockCreates ws then [(nm, .multi opt ys)] else [])
  | .single w =>
    if w.meta.tmpl < 0 then .ok []
    else if w.meta.disabled || w.meta.tmpl > 0 then .ok [(w.name, .none)]
    else (X w).map (fun v => [(w.name, v)])

/-- the attributes of the `scope_extract`, block by block; the first failing block decides the error -/
def scopeFieldsB (X : Obj → R PVal) : List KidBlock → R (List (Str × PVal))
  | [] => .ok []
  | b :: bs =>
    match blockFields X b with
    | .error err => .error err
    | .ok f => (scopeFieldsB X bs).map (fun r => f ++ r)

theorem blockFields_keys (X : Obj → R PVal) (b : KidBlock) (f : List (Str × PVal))
    (h : blockFields X b = .ok f) : ∀ p ∈ f, p.1 = b.name := by
  have one : ∀ (v : PVal), ∀ p ∈ [(b.name, v)], p.1 = b.name := by
    intro v p hp
    rw [List.mem_singleton] at hp
    subst hp
    rfl
  cases b with
  | multi nm opt ws =>
    simp only [blockFields] at h
    obtain ⟨ys, _, rfl⟩ := Except.map_eq_ok.mp h
    split
    · exact one _
    · intro p hp; cases hp
  | single w =>
    simp only [blockFields] at h
    split at h
    · cases h; intro p hp; cases hp
    · split at h
      · cases h; exact one _
      · obtain ⟨v, _, rfl⟩ := Except.map_eq_ok.mp h
        exact one v

theorem xfold_one_block (X : Obj → R PVal) (b : KidBlock) (hb : b.OK) (acc : List (Str × PVal))
    (hacc : fieldGet acc b.name = none) :
    b.objs.foldlM (xstep_xt X) acc = (blockFields X b).map (fun f => acc ++ f) := by
  cases b with
  | multi nm opt ws =>
    simp only [KidBlock.objs, blockFields]
    rw [xfold_block_fresh X nm opt ws acc hacc hb]
    cases blockVals X opt ws with
    | error err => rfl
    | ok ys =>
      simp only [Except.map]
      cases blockCreates ws <;> simp
  | single w =>
    simp only [KidBlock.objs, blockFields, List.foldlM_cons, List.foldlM_nil, bind_pure]
    rw [xstep_fresh_xt X acc w hb hacc]
    split
    · simp [Except.map]
    · split
      · rfl
      · cases X w <;> rfl

/-- **`scope.extract` over blocks** — closed form of the `__phil_set__` accumulation: when the
    children of a scope are the concatenation of blocks with pairwise distinct names (the shape of
    every formatted tree and of every fetch result), the extracted attributes are the blocks'
    attributes, in order. -/
theorem xfold_blocks (X : Obj → R PVal) : ∀ (bs : List KidBlock) (acc : List (Str × PVal)),
    (∀ b ∈ bs, b.OK) → (bs.map KidBlock.name).Pairwise (· ≠ ·) →
    (∀ b ∈ bs, fieldGet acc b.name = none) →
    (bs.flatMap KidBlock.objs).foldlM (xstep_xt X) acc = (scopeFieldsB X bs).map (fun r => acc ++ r) := by
  intro bs
  induction bs with
  | nil => intro acc _ _ _; simp [scopeFieldsB, Except.map, pure, Except.pure]
  | cons b bs ih =>
    intro acc hok hpw hacc
    rw [List.map_cons, List.pairwise_cons] at hpw
    rw [List.flatMap_cons, List.foldlM_append, scopeFieldsB,
      xfold_one_block X b (hok b List.mem_cons_self) acc (hacc b List.mem_cons_self)]
    cases hf : blockFields X b with
    | error err => rfl
    | ok f =>
      simp only [Except.map]
      show (bs.flatMap KidBlock.objs).foldlM (xstep_xt X) (acc ++ f) = _
      have hkeys := blockFields_keys X b f hf
      rw [ih (acc ++ f) (fun b' hb' => hok b' (List.mem_cons_of_mem _ hb')) hpw.2 (by
        intro b' hb'
        rw [fieldGet_none_iff_ns]
        intro p hp
        rw [List.mem_append] at hp
        rcases hp with hp | hp
        · exact (fieldGet_none_iff_ns acc b'.name).1 (hacc b' (List.mem_cons_of_mem _ hb')) p hp
        · rw [hkeys p hp]; exact hpw.1 b'.name (List.mem_map_of_mem hb'))]
      cases scopeFieldsB X bs <;> simp [Except.map]

theorem extractObj_blocks (e : Envs) (fuel : Nat) (m : Meta) (bs : List KidBlock)
    (hok : ∀ b ∈ bs, b.OK) (hpw : (bs.map KidBlock.name).Pairwise (· ≠ ·)) :
    extractObj e (fuel + 1) (.scope m (bs.flatMap KidBlock.objs)) =
      (scopeFieldsB (extractObj e fuel) bs).map PVal.record := by
  rw [extractObj_scope_xt, xfold_blocks (extractObj e fuel) bs [] hok hpw (fun _ _ => rfl)]
  cases scopeFieldsB (extractObj e fuel) bs <;> simp [Except.map]

end Phil
