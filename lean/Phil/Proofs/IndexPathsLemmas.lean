/-
  Lemmas about the path index of the GUI index (Phil/IndexPaths.lean).  A lookup depends only on the visits of that
  path: the entry at `p` is the fold of `entryStep` over them (`get_foldl_insertVisit_ipl`).  The visits are a
  sub-list of the document-order walk, whose positions are 0, 1, 2, …, so an index entry refers to a LIVE object of
  the working tree (`visit_is_walk_node_ipl`).  The two template tests visit the same objects when every template
  flag is ≥ -1, and one step of the state machine keeps the invariant that the stored index is `reindex` of the
  current working tree (`istep_live_ipl`).
-/
import Phil.IndexPaths
import Phil.Proofs.IndexLemmas
namespace Phil

/-! ## 1. the dict -/

theorem get_set_same_ipl (p : Str) (e : PEntry) : ∀ (ix : PathIndex), (ix.set p e).get p = some e
  | [] => by simp [PathIndex.set, PathIndex.get]
  | (q, e') :: rest => by
    rw [PathIndex.set]
    by_cases h : (q == p) = true
    · simp [h, PathIndex.get]
    · simp only [h, Bool.false_eq_true, if_false, PathIndex.get]
      exact get_set_same_ipl p e rest

theorem get_set_other_ipl (p p' : Str) (e : PEntry) (hne : (p == p') = false) :
    ∀ (ix : PathIndex), (ix.set p e).get p' = ix.get p'
  | [] => by
    simp only [PathIndex.set, PathIndex.get, hne, Bool.false_eq_true, if_false]
  | (q, e') :: rest => by
    rw [PathIndex.set]
    by_cases h : (q == p) = true
    · have hq : q = p := by simpa using h
      subst hq
      simp only [h, if_true, PathIndex.get, hne, Bool.false_eq_true, if_false]
    · simp only [h, Bool.false_eq_true, if_false, PathIndex.get]
      rw [get_set_other_ipl p p' e hne rest]

/-! ## 2. closed form of a lookup -/

/-- the value of `path_index[p]` as a function of the visits with path `p`, starting from `old` -/
def entryFold (old : Option PEntry) (vs : List Visit) : Option PEntry :=
  vs.foldl (fun acc v => some (entryStep acc v)) old

def visitsAt (p : Str) (vs : List Visit) : List Visit := vs.filter (fun v => v.path == p)

theorem get_insertVisit_same_ipl (ix : PathIndex) (v : Visit) :
    (insertVisit ix v).get v.path = some (entryStep (ix.get v.path) v) :=
  get_set_same_ipl _ _ ix

theorem get_insertVisit_other_ipl (ix : PathIndex) (v : Visit) (p : Str) (h : (v.path == p) = false) :
    (insertVisit ix v).get p = ix.get p :=
  get_set_other_ipl _ _ _ h ix

theorem get_foldl_insertVisit_ipl (p : Str) : ∀ (vs : List Visit) (ix : PathIndex),
    (vs.foldl insertVisit ix).get p = entryFold (ix.get p) (visitsAt p vs)
  | [], ix => rfl
  | v :: vs, ix => by
    rw [List.foldl_cons, get_foldl_insertVisit_ipl p vs]
    unfold visitsAt
    rw [List.filter_cons]
    by_cases h : (v.path == p) = true
    · have hp : v.path = p := by simpa using h
      simp only [h, if_true]
      unfold entryFold
      rw [List.foldl_cons, ← hp, get_insertVisit_same_ipl]
    · have h' : (v.path == p) = false := by simpa using h
      simp only [h', Bool.false_eq_true, if_false]
      rw [get_insertVisit_other_ipl ix v p h']

theorem get_buildIndex_ipl (skip : Int → Bool) (w : List Obj) (p : Str) :
    (buildIndex skip w).get p = entryFold none (visitsAt p (visitsOf skip w)) := by
  unfold buildIndex
  rw [get_foldl_insertVisit_ipl]
  rfl

/-- the pairs an entry carries -/
def pairsOf (vs : List Visit) : List (Nat × Obj) := vs.map (fun v => (v.pos, v.obj))

theorem entryFold_cons_ipl (old : Option PEntry) (v : Visit) (vs : List Visit) :
    entryFold old (v :: vs) = entryFold (some (entryStep old v)) vs := rfl

theorem entryFold_many_ipl : ∀ (vs : List Visit) (l : List (Nat × Obj)),
    (∀ v ∈ vs, multipleIsTrue v.obj = true) →
    entryFold (some (.many l)) vs = some (.many (l ++ pairsOf vs))
  | [], l, _ => by simp [entryFold, pairsOf]
  | v :: vs, l, h => by
    have hs : entryStep (some (.many l)) v = .many (l ++ [(v.pos, v.obj)]) := by
      unfold entryStep; rw [h v List.mem_cons_self]; rfl
    rw [entryFold_cons_ipl, hs, entryFold_many_ipl vs _ (fun v' hv' => h v' (List.mem_cons_of_mem _ hv'))]
    simp [pairsOf]

theorem entryFold_all_multiple_ipl (v : Visit) (vs : List Visit)
    (h : ∀ x ∈ v :: vs, multipleIsTrue x.obj = true) :
    entryFold none (v :: vs) = some (.many (pairsOf (v :: vs))) := by
  have hs : entryStep none v = .many [(v.pos, v.obj)] := by
    unfold entryStep; rw [h v List.mem_cons_self]; rfl
  rw [entryFold_cons_ipl, hs, entryFold_many_ipl vs _ (fun v' hv' => h v' (List.mem_cons_of_mem _ hv'))]
  simp [pairsOf]

theorem entryFold_last_plain_ipl (old : Option PEntry) (vs : List Visit) (v : Visit)
    (h : multipleIsTrue v.obj = false) :
    entryFold old (vs ++ [v]) = some (.one v.pos v.obj) := by
  unfold entryFold
  rw [List.foldl_append, List.foldl_cons, List.foldl_nil]
  unfold entryStep
  rw [h]
  rfl

theorem entryFold_nil_ipl (old : Option PEntry) : entryFold old [] = old := rfl

theorem entryFold_uniform_ipl (vs : List Visit)
    (h : (∀ v ∈ vs, multipleIsTrue v.obj = true) ∨ (∀ v ∈ vs, multipleIsTrue v.obj = false)) :
    entryFold none vs = none ∨ (∃ l, entryFold none vs = some (.many l)) ∨
      (∃ p o, entryFold none vs = some (.one p o)) := by
  cases vs with
  | nil => exact .inl rfl
  | cons v vs =>
    rcases h with h | h
    · exact .inr (.inl ⟨_, entryFold_all_multiple_ipl v vs h⟩)
    · right; right
      have hne : v :: vs ≠ [] := List.cons_ne_nil _ _
      obtain ⟨init, last, hl⟩ : ∃ init last, v :: vs = init ++ [last] :=
        ⟨(v :: vs).dropLast, (v :: vs).getLast hne, (List.dropLast_concat_getLast hne).symm⟩
      rw [hl]
      have hlast : multipleIsTrue last.obj = false := h last (by rw [hl]; simp)
      exact ⟨_, _, entryFold_last_plain_ipl none init last hlast⟩

/-! ## 3. positions: every visit is a node of the document-order walk -/

def noSkip : Int → Bool := fun _ => false

mutual
theorem visitObj_sublist_ipl (skip : Int → Bool) : ∀ (o : Obj) (pfx : Str) (pos : Nat),
    (visitObj skip pfx pos o).Sublist (visitObj noSkip pfx pos o)
  | .defn m ws, pfx, pos => by
    rw [visitObj, visitObj]
    cases skip m.tmpl
    · simp [noSkip]
    · simp [noSkip]
  | .scope m kids, pfx, pos => by
    rw [visitObj, visitObj]
    cases skip m.tmpl
    · simp only [noSkip, Bool.false_eq_true, if_false]
      exact (visitList_sublist_ipl skip kids _ _).cons_cons _
    · simp [noSkip]
theorem visitList_sublist_ipl (skip : Int → Bool) : ∀ (l : List Obj) (pfx : Str) (pos : Nat),
    (visitList skip pfx pos l).Sublist (visitList noSkip pfx pos l)
  | [], pfx, pos => by rw [visitList, visitList]; exact List.Sublist.refl _
  | o :: os, pfx, pos => by
    rw [visitList, visitList]
    exact (visitObj_sublist_ipl skip o pfx pos).append (visitList_sublist_ipl skip os pfx _)
end

mutual
theorem visitObj_pos_ipl : ∀ (o : Obj) (pfx : Str) (pos : Nat),
    (visitObj noSkip pfx pos o).map (·.pos) = List.range' pos o.nodeCount
  | .defn m ws, pfx, pos => by
    rw [visitObj, Obj.nodeCount]
    simp [noSkip, List.range']
  | .scope m kids, pfx, pos => by
    rw [visitObj, Obj.nodeCount]
    simp only [noSkip, Bool.false_eq_true, if_false, List.map_cons]
    rw [visitList_pos_ipl kids _ (pos + 1), Nat.add_comm 1 (nodeCountL kids), List.range'_succ]
theorem visitList_pos_ipl : ∀ (l : List Obj) (pfx : Str) (pos : Nat),
    (visitList noSkip pfx pos l).map (·.pos) = List.range' pos (nodeCountL l)
  | [], pfx, pos => by rw [visitList, nodeCountL]; rfl
  | o :: os, pfx, pos => by
    rw [visitList, nodeCountL, List.map_append, visitObj_pos_ipl o pfx pos, visitList_pos_ipl os pfx _,
      List.range'_append_1]
end

theorem walkOf_pos_ipl (w : List Obj) : (walkOf w).map (·.pos) = List.range (1 + nodeCountL w) := by
  unfold walkOf visitsOf
  rw [List.map_cons]
  show 0 :: (visitList noSkip [] 1 w).map (·.pos) = _
  rw [visitList_pos_ipl, List.range_eq_range', Nat.add_comm 1 (nodeCountL w), List.range'_succ]

theorem walkOf_getElem_pos_ipl (w : List Obj) (k : Nat) (v : Visit) (h : (walkOf w)[k]? = some v) :
    v.pos = k := by
  have h1 : ((walkOf w).map (·.pos))[k]? = some v.pos := by rw [List.getElem?_map, h]; rfl
  rw [walkOf_pos_ipl] at h1
  have hk : k < 1 + nodeCountL w := by
    have := List.getElem?_eq_some_iff.mp h1
    obtain ⟨hlt, _⟩ := this
    simpa using hlt
  rw [List.getElem?_range hk] at h1
  injection h1 with h1
  exact h1.symm

theorem visitsOf_sublist_walk_ipl (skip : Int → Bool) (w : List Obj) :
    (visitsOf skip w).Sublist (walkOf w) := by
  unfold walkOf visitsOf
  exact (visitList_sublist_ipl skip w [] 1).cons_cons _

theorem visit_is_walk_node_ipl (skip : Int → Bool) (w : List Obj) (v : Visit)
    (hv : v ∈ visitsOf skip w) : (walkOf w)[v.pos]? = some v := by
  have hm : v ∈ walkOf w := (visitsOf_sublist_walk_ipl skip w).subset hv
  obtain ⟨k, hk⟩ := List.getElem?_of_mem hm
  have := walkOf_getElem_pos_ipl w k v hk
  rw [this]
  exact hk

/-! ## 4. the two template tests visit the same objects when every template flag is ≥ -1 -/

mutual
/-- the two template tests (`< 0` and `== -1`) agree on every object of the tree -/
def tmplRangeObj : Obj → Bool
  | .defn m _ => decide (-1 ≤ m.tmpl)
  | .scope m kids => decide (-1 ≤ m.tmpl) && tmplRangeList kids
def tmplRangeList : List Obj → Bool
  | [] => true
  | o :: os => tmplRangeObj o && tmplRangeList os
end

theorem skip_agree_ipl (t : Int) (h : -1 ≤ t) : decide (t < 0) = (t == -1) := by
  by_cases h1 : t < 0
  · have : t = -1 := by omega
    subst this
    rfl
  · have : t ≠ -1 := by omega
    simp [h1, this]

mutual
theorem visitObj_skip_congr_ipl : ∀ (o : Obj) (pfx : Str) (pos : Nat), tmplRangeObj o = true →
    visitObj (fun t => decide (t < 0)) pfx pos o = visitObj (fun t => t == -1) pfx pos o
  | .defn m ws, pfx, pos, h => by
    rw [tmplRangeObj, decide_eq_true_eq] at h
    rw [visitObj, visitObj, skip_agree_ipl m.tmpl h]
  | .scope m kids, pfx, pos, h => by
    rw [tmplRangeObj, Bool.and_eq_true, decide_eq_true_eq] at h
    rw [visitObj, visitObj, skip_agree_ipl m.tmpl h.1, visitList_skip_congr_ipl kids _ _ h.2]
theorem visitList_skip_congr_ipl : ∀ (l : List Obj) (pfx : Str) (pos : Nat), tmplRangeList l = true →
    visitList (fun t => decide (t < 0)) pfx pos l = visitList (fun t => t == -1) pfx pos l
  | [], pfx, pos, _ => by rw [visitList, visitList]
  | o :: os, pfx, pos, h => by
    rw [tmplRangeList, Bool.and_eq_true] at h
    rw [visitList, visitList, visitObj_skip_congr_ipl o pfx pos h.1, visitList_skip_congr_ipl os pfx _ h.2]
end

/-! ## 5. the invariant of the state machine -/

variable {E : Type}

def IndexLive (s : IState) : Prop := s.pathIndex = reindex s.base.working

theorem istep_out_ipl (k : Index.Kernel (List Obj) PVal E) (s : IState) (op : Index.Op PVal E) :
    (istep k s op).2 = (Index.step k s.base op).2 := rfl

theorem not_rebuilds_working_ipl (k : Index.Kernel (List Obj) PVal E) (s : Index.State (List Obj) PVal)
    (op : Index.Op PVal E) (h : rebuilds k s op = false) :
    (Index.step k s op).1.working = s.working := by
  cases op with
  | update e =>
    simp only [rebuilds] at h
    cases hm : k.merge s.working e with
    | none => rw [Index.update_refused hm]
    | some w => rw [hm] at h; cases h
  | updateFromPython p =>
    cases p with
    | some x => simp [rebuilds] at h
    | none =>
      simp only [rebuilds] at h
      cases hp : s.params with
      | none => rw [Index.fromCache_none k s hp]
      | some x => rw [hp] at h; cases h
  | push => rfl
  | pop =>
    simp only [rebuilds] at h
    have : s.states = [] := by
      cases hs : s.states with
      | nil => rfl
      | cons a l => rw [hs] at h; cases h
    rw [Index.step_pop_empty k s this]
  | setState i =>
    simp only [rebuilds] at h
    cases hi : s.states[i]? with
    | none => rw [Index.step_setState_none k s i hi]
    | some w => rw [hi] at h; cases h
  | getPython => exact Index.getPython_working k s

theorem istep_live_ipl (k : Index.Kernel (List Obj) PVal E) (s : IState) (op : Index.Op PVal E)
    (h : IndexLive s) : IndexLive (istep k s op).1 := by
  unfold IndexLive
  show (if rebuilds k s.base op then reindex (Index.step k s.base op).1.working else s.pathIndex) =
    reindex (Index.step k s.base op).1.working
  cases hr : rebuilds k s.base op with
  | true => rfl
  | false =>
    simp only [Bool.false_eq_true, if_false]
    rw [not_rebuilds_working_ipl k s.base op hr]
    exact h

/-- a machine that forgets one rebuild: `pop_state` without `rebuild_index()` -/
def rebuildsNoPop (k : Index.Kernel (List Obj) PVal E) (s : Index.State (List Obj) PVal)
    (op : Index.Op PVal E) : Bool :=
  match op with
  | .pop => false
  | op => rebuilds k s op

def istepNoPop (k : Index.Kernel (List Obj) PVal E) (s : IState) (op : Index.Op PVal E) :
    IState × Option PVal :=
  let r := Index.step k s.base op
  ({ base := r.1, pathIndex := if rebuildsNoPop k s.base op then reindex r.1.working else s.pathIndex }, r.2)

def irunNoPop (k : Index.Kernel (List Obj) PVal E) (s : IState) : List (Index.Op PVal E) → IState
  | [] => s
  | op :: ops => irunNoPop k (istepNoPop k s op).1 ops

end Phil

namespace Phil

/-! ## 6. the pairs of an entry come from the visits of its path -/

def PEntry.pairs : PEntry → List (Nat × Obj)
  | .one p o => [(p, o)]
  | .many l => l
  | .stray => []

theorem entryStep_pairs_ipl (old : Option PEntry) (v : Visit) :
    ∀ x ∈ (entryStep old v).pairs, x = (v.pos, v.obj) ∨ ∃ e0, old = some e0 ∧ x ∈ e0.pairs := by
  intro x hx
  unfold entryStep at hx
  split at hx
  · split at hx
    · rename_i l
      simp only [PEntry.pairs, List.mem_append, List.mem_singleton] at hx
      rcases hx with h | h
      · exact .inr ⟨_, rfl, h⟩
      · exact .inl h
    · simp only [PEntry.pairs, List.mem_singleton] at hx
      exact .inl hx
    · simp [PEntry.pairs] at hx
    · simp [PEntry.pairs] at hx
  · simp only [PEntry.pairs, List.mem_singleton] at hx
    exact .inl hx

theorem entryFold_pairs_ipl : ∀ (vs : List Visit) (old : Option PEntry) (e : PEntry),
    entryFold old vs = some e → ∀ x ∈ e.pairs,
      (∃ v ∈ vs, x = (v.pos, v.obj)) ∨ ∃ e0, old = some e0 ∧ x ∈ e0.pairs
  | [], old, e, h, x, hx => .inr ⟨e, h, hx⟩
  | v :: vs, old, e, h, x, hx => by
    have h' : entryFold (some (entryStep old v)) vs = some e := h
    rcases entryFold_pairs_ipl vs _ e h' x hx with ⟨v', hv', hxe⟩ | ⟨e0, he0, hx0⟩
    · exact .inl ⟨v', List.mem_cons_of_mem _ hv', hxe⟩
    · injection he0 with he0
      subst he0
      rcases entryStep_pairs_ipl old v x hx0 with h1 | h1
      · exact .inl ⟨v, List.mem_cons_self, h1⟩
      · exact .inr h1

theorem entry_pairs_live_ipl (skip : Int → Bool) (w : List Obj) (p : Str) (e : PEntry)
    (h : (buildIndex skip w).get p = some e) :
    ∀ x ∈ e.pairs, (walkOf w)[x.1]? = some ⟨p, x.1, x.2⟩ := by
  intro x hx
  rw [get_buildIndex_ipl] at h
  rcases entryFold_pairs_ipl _ _ e h x hx with ⟨v, hv, hxe⟩ | ⟨e0, he0, _⟩
  · unfold visitsAt at hv
    obtain ⟨hv1, hv2⟩ := List.mem_filter.mp hv
    have hp : v.path = p := by simpa using hv2
    have := visit_is_walk_node_ipl skip w v hv1
    subst hxe
    simp only
    rw [this, ← hp]
  · cases he0

/-! ## 7. `only_scope = None` -/

theorem deletePhilScoped_none_ipl : ∀ (fuel : Nat) (paths : List Str) (pfx : Str) (objs : List Obj),
    deletePhilObjectsScoped fuel none paths pfx objs = deletePhilObjects fuel paths pfx objs := by
  intro fuel
  induction fuel with
  | zero => intro paths pfx objs; rfl
  | succ fuel ih =>
    intro paths pfx objs
    rw [deletePhilObjectsScoped, deletePhilObjects]
    congr 1
    funext o
    cases o with
    | defn m ws => simp
    | scope m kids => simp [ih]

end Phil
