/-
  Lemmas behind the print → parse round trip (C01): what `definition.show` prints for a definition
  without attributes, and what `collect_assigned_words` reads back from words with white space in front
  of each (`Gap`, `gapsOK3`, `cAA_gaps`: ONE walk of the collector loop, for every way the words can
  be laid out — the printer's single blanks `blankGaps`, its wrapping `wrapGaps`, quoted words on
  several lines, the layouts of Phil/Proofs/Layout3.lean), in front of any text that ends the value
  (`EndsVal`); the text and the parsed form of a flat document of printed lines.  That `parse`
  returns that form is proved in Phil/Proofs/FlatLayout.lean: a printed flat document is a document of
  the layout grammar.
-/
import Phil.Show
import Phil.Proofs.ParseLemmas
import Phil.Proofs.ShowLaws
namespace Phil

/-! ### the printed text of a word list -/

/-- what `definition.show` appends to `name =` when nothing is wrapped: a blank and `str(word)` per word -/
def wordsText : List Word → Str
  | [] => []
  | w :: ws => ' ' :: (w.str ++ wordsText ws)

/-- An unquoted word must not directly follow a quoted word that contains a newline (the parser ends
    the value in front of it: it compares the line of the word with the line on which the previous
    word *started*).  `same` = the previous word ended on the line on which it started. -/
def chainOK : Bool → List Word → Bool
  | _, [] => true
  | same, w :: ws => (w.quote.isSome || same) && chainOK (nlCount w.value == 0) ws

/-- the words as the parser returns them: every word carries the line on which it starts -/
def reline : Nat → List Word → List Word
  | _, [] => []
  | l, w :: ws => { w with line := some l } :: reline (l + nlCount w.value) ws

/-- the line on which the last word ends -/
def endLine : Nat → List Word → Nat
  | l, [] => l
  | l, w :: ws => endLine (l + nlCount w.value) ws

theorem endLine_eq (l : Nat) (ws : List Word) :
    endLine l ws = l + nlCount (ws.flatMap (·.value)) := by
  induction ws generalizing l with
  | nil => rfl
  | cons w ws ih => rw [endLine, ih, List.flatMap_cons, nlCount_append]; omega

theorem reline_length (l : Nat) (ws : List Word) : (reline l ws).length = ws.length := by
  induction ws generalizing l with
  | nil => rfl
  | cons w ws ih => simp [reline, ih]

theorem reline_noNl (l : Nat) (ws : List Word) (h : ∀ w ∈ ws, nlCount w.value = 0) :
    reline l ws = ws.map (fun w => { w with line := some l }) ∧ endLine l ws = l := by
  induction ws with
  | nil => exact ⟨rfl, rfl⟩
  | cons w ws ih =>
    obtain ⟨h1, h2⟩ := ih fun v hv => h v (by simp [hv])
    rw [reline, endLine, h w (by simp), Nat.add_zero, h1, h2]
    exact ⟨rfl, rfl⟩

theorem chainOK_noNl (ws : List Word) (h : ∀ w ∈ ws, nlCount w.value = 0) : chainOK true ws = true := by
  induction ws with
  | nil => rfl
  | cons w ws ih =>
    rw [chainOK, h w (by simp), Bool.or_true, Bool.true_and]
    exact ih fun v hv => h v (by simp [hv])

/-! ### the value collector on a whole line of words -/

theorem space_blank : ∀ d ∈ [' '], isSpace d = true := by
  intro d hd; simp at hd; subst hd; rfl

theorem nlCount_blank : nlCount [' '] = 0 := by decide

theorem nlCount_nl : nlCount ['\n'] = 1 := by decide

theorem cAA_continuation (fuel : Nat) (ci ci' : CI) (last w : Word) (acc : List Word)
    (h : nextWord valueSettings ci = .ok (some (w, ci'))) (hq : w.quote = none)
    (hv : w.value = ['\\']) (hlast : isUnq last "\\" = false) (hline : w.line = last.line) :
    collectAssignedAux (fuel + 1) ci last false acc = collectAssignedAux fuel ci' w false acc := by
  simp [collectAssignedAux, tryPop, h, hq, hv, hlast, hline]

/-- `F` ends a value: an unquoted word stops in front of it, and the loop of `collect_assigned_words`,
    arriving in front of `F` on line `l` (its last word began on a line `≤ l`), returns the words collected
    so far and stops at a position `E l` -/
def EndsVal (F : Str) (E : Nat → CI → Prop) : Prop :=
  stopsAt valueSettings F = true ∧
  ∀ (fuel l l0 : Nat) (last : Word) (acc : List Word), F.length + 1 ≤ fuel → last.line = some l0 → l0 ≤ l →
    isUnq last "\\" = false →
    ∃ ci', E l ci' ∧ collectAssignedAux fuel ⟨F, l⟩ last false acc = .ok (acc.reverse, ci')

theorem endsVal_next (rest : Str)
    (h : ∀ c, firstNonSpace rest = some c → isQuoteChar c = false ∧ c ≠ ';' ∧ c ≠ '#') :
    EndsVal ('\n' :: rest) (fun l ci => ci = ⟨'\n' :: rest, l⟩) := by
  refine ⟨rfl, fun fuel l l0 last acc hf hl hle hbs => ⟨_, rfl, ?_⟩⟩
  obtain ⟨f, rfl⟩ : ∃ f, fuel = f + 1 := ⟨fuel - 1, by omega⟩
  exact cAA_stop f _ last acc l0 (EndsValue_next ['\n'] rest l l0 space_nl (Nat.lt_succ_of_le hle) h) hl hbs

/-! ### gaps: what stands in front of a word -/

/-- white space inside a line: any `str.isspace()` character except the newline (blank, tab, `\r`, …) -/
def inlineB (sp : Str) : Bool := sp.all (fun c => isSpace c && c != '\n')

theorem inlineB_inline {sp : Str} (h : inlineB sp = true) : InlineSpace sp := by
  intro d hd
  simp only [inlineB, List.all_eq_true, Bool.and_eq_true, bne_iff_ne, ne_eq] at h
  exact h d hd

theorem inlineB_space {sp : Str} (h : inlineB sp = true) : ∀ d ∈ sp, isSpace d = true :=
  (inlineB_inline h).isSpace

theorem inlineB_nl {sp : Str} (h : inlineB sp = true) : nlCount sp = 0 := (inlineB_inline h).nlCount

/-- every character is white space (`str.isspace()`), newlines included -/
def allSpace (sp : Str) : Bool := sp.all isSpace

theorem allSpace_space {sp : Str} (h : allSpace sp = true) : ∀ d ∈ sp, isSpace d = true := by
  simpa [allSpace, List.all_eq_true] using h

/-- The text in front of a word of a value.
    `bs = none`: white space `ws` only.  `bs = some b`: blanks `b`, a lone backslash, white space `ws`
    (the backslash continuation: `ws` normally holds the newline, but any white space will do). -/
structure Gap where
  bs : Option Str := none
  ws : Str
  deriving Repr, DecidableEq

def Gap.text (g : Gap) : Str :=
  match g.bs with
  | none => g.ws
  | some b => b ++ '\\' :: g.ws

/-- Well-formedness of the gap in front of word `w`.  `first`: it is the first word of the value;
    `same`: the previous word (or the name) ended on the line on which it started.
    * without backslash: white space, non-empty unless first; newlines only in front of a quoted word;
      an unquoted word needs `same` (the parser compares its line with the *start* line of the previous word);
    * with backslash: inline blanks (non-empty unless first), backslash, non-empty white space; needs
      `same` (the backslash itself is an unquoted word). -/
def gapOK (first same : Bool) (g : Gap) (w : Word) : Bool :=
  allSpace g.ws &&
  match g.bs with
  | none => (first || !g.ws.isEmpty) && (w.quote.isSome || (same && inlineB g.ws))
  | some b => inlineB b && (first || !b.isEmpty) && !g.ws.isEmpty && same

def gapsOK3 : Bool → Bool → List Gap → List Word → Bool
  | _, _, [], [] => true
  | first, same, g :: gs, w :: ws => gapOK first same g w && gapsOK3 false (nlCount w.value == 0) gs ws
  | _, _, _, _ => false

def wordsLay3 : List Gap → List Word → Str
  | g :: gs, w :: ws => g.text ++ (w.str ++ wordsLay3 gs ws)
  | _, _ => []

/-- the words as the parser returns them: each with the line on which it starts -/
def relineG : Nat → List Gap → List Word → List Word
  | l, g :: gs, w :: ws =>
    { w with line := some (l + nlCount g.text) } :: relineG (l + nlCount g.text + nlCount w.value) gs ws
  | _, _, _ => []

/-- the line on which the last word ends -/
def endLineG : Nat → List Gap → List Word → Nat
  | l, g :: gs, w :: ws => endLineG (l + nlCount g.text + nlCount w.value) gs ws
  | l, _, _ => l

theorem gapsOK3_nil_right {first same : Bool} {gaps : List Gap} (h : gapsOK3 first same gaps [] = true) :
    gaps = [] := by
  cases gaps with
  | nil => rfl
  | cons g gs => simp [gapsOK3] at h

theorem gapsOK3_cons_right {first same : Bool} {gaps : List Gap} {w : Word} {ws : List Word}
    (h : gapsOK3 first same gaps (w :: ws) = true) :
    ∃ g gs, gaps = g :: gs ∧ gapOK first same g w = true ∧
      gapsOK3 false (nlCount w.value == 0) gs ws = true := by
  cases gaps with
  | nil => simp [gapsOK3] at h
  | cons g gs =>
    simp only [gapsOK3, Bool.and_eq_true] at h
    exact ⟨g, gs, rfl, h.1, h.2⟩

theorem nlCount_backslash_cons (s : Str) : nlCount ('\\' :: s) = nlCount s :=
  nlCount_cons_ne _ _ (by decide)

theorem gap_text_head {same : Bool} {g : Gap} {w : Word} (h : gapOK false same g w = true) :
    ∃ d r, g.text = d :: r ∧ isSpace d = true := by
  unfold gapOK at h
  rw [Bool.and_eq_true] at h
  obtain ⟨hws, h⟩ := h
  cases hb : g.bs with
  | none =>
    rw [hb] at h
    simp only [Bool.false_or, Bool.and_eq_true, Bool.not_eq_true', List.isEmpty_eq_false_iff] at h
    cases hw : g.ws with
    | nil => exact absurd hw h.1
    | cons d r =>
      refine ⟨d, r, by simp [Gap.text, hb, hw], ?_⟩
      exact allSpace_space hws d (by simp [hw])
  | some b =>
    rw [hb] at h
    simp only [Bool.false_or, Bool.and_eq_true, Bool.not_eq_true', List.isEmpty_eq_false_iff] at h
    obtain ⟨⟨⟨h1, h2⟩, _⟩, _⟩ := h
    cases hbb : b with
    | nil => exact absurd hbb h2
    | cons d r =>
      refine ⟨d, r ++ '\\' :: g.ws, by simp [Gap.text, hb, hbb], ?_⟩
      exact inlineB_space h1 d (by simp [hbb])

theorem wordsLay3_tail (F : Str) (hF : stopsAt valueSettings F = true) (same : Bool) (gs : List Gap)
    (ws : List Word) (h : gapsOK3 false same gs ws = true) :
    stopsAt valueSettings (wordsLay3 gs ws ++ F) = true := by
  cases ws with
  | nil => rw [gapsOK3_nil_right h]; exact hF
  | cons w ws =>
    obtain ⟨g, gs', rfl, hg, _⟩ := gapsOK3_cons_right h
    obtain ⟨d, r, e, hd⟩ := gap_text_head hg
    simp only [wordsLay3, e, List.cons_append]
    exact ends_of_isSpace _ hd

theorem nextWord_value_backslash (b rest : Str) (l : Nat) (hb : inlineB b = true)
    (hr : stopsAt valueSettings rest = true) :
    nextWord valueSettings ⟨b ++ '\\' :: rest, l⟩
      = .ok (some ({ value := ['\\'], quote := none, line := some l }, ⟨rest, l⟩)) := by
  have h := nextWord_plain valueSettings b '\\' [] rest l (inlineB_space hb) rfl (by decide) rfl rfl hr
  rwa [inlineB_nl hb, List.append_assoc] at h

/-- **The value collector on a list of words, each behind its gap** (the one walk of the loop of
    `collect_assigned_words` over words: printed with single blanks, wrapped by the printer, quoted words
    on several lines, any layout of `gapsOK3`): every word is taken with its value, quote style and the
    line on which it starts, whatever continuation (backslash, quoted word on a later line, newlines
    inside quoted words) is used; then the collector is in front of the text `F` that ends the value. -/
theorem cAA_gaps {F : Str} {E : Nat → CI → Prop} (hF : EndsVal F E) :
    ∀ (ws : List Word) (gaps : List Gap) (first : Bool) (fuel l l0 : Nat) (same : Bool) (last : Word)
      (acc : List Word),
      gapsOK3 first same gaps ws = true → (∀ w ∈ ws, goodWord w = true) →
      (wordsLay3 gaps ws ++ F).length + 1 ≤ fuel →
      last.line = some l0 → l0 ≤ l → (same = true → l0 = l) → isUnq last "\\" = false →
      ∃ ci', E (endLineG l gaps ws) ci' ∧
        collectAssignedAux fuel ⟨wordsLay3 gaps ws ++ F, l⟩ last false acc
          = .ok (acc.reverse ++ relineG l gaps ws, ci') := by
  intro ws
  induction ws with
  | nil =>
    intro gaps first fuel l l0 same last acc hgaps _ hf hl hle _ hbs
    rw [gapsOK3_nil_right hgaps] at hf ⊢
    simp only [wordsLay3, List.nil_append, relineG, List.append_nil, endLineG] at hf ⊢
    exact hF.2 fuel l l0 last acc hf hl hle hbs
  | cons w ws ih =>
    intro gaps first fuel l l0 same last acc hgaps hgood hf hl hle hsame hbs
    obtain ⟨g, gs, rfl, hg, hgs⟩ := gapsOK3_cons_right hgaps
    have hgw := hgood w (by simp)
    have hwl := str_length_pos hgw
    have htail := wordsLay3_tail F hF.1 _ gs ws hgs
    have htext : wordsLay3 (g :: gs) (w :: ws) ++ F = g.text ++ (w.str ++ (wordsLay3 gs ws ++ F)) := by
      simp [wordsLay3]
    rw [htext] at hf ⊢
    unfold gapOK at hg
    rw [Bool.and_eq_true] at hg
    obtain ⟨hws, hg⟩ := hg
    have hwsp := allSpace_space hws
    -- the backslash, if there is one, is passed: the collector stands in front of the white space `g.ws`
    obtain ⟨last', f, hpre, hf', hcond, hnl⟩ : ∃ last' f,
        collectAssignedAux fuel ⟨g.text ++ (w.str ++ (wordsLay3 gs ws ++ F)), l⟩ last false acc
          = collectAssignedAux (f + 1) ⟨g.ws ++ w.str ++ (wordsLay3 gs ws ++ F), l⟩ last' false acc ∧
        (wordsLay3 gs ws ++ F).length + 1 ≤ f ∧
        (w.quote = none → isUnq last' "\\" = true ∨ last'.line = some (l + nlCount g.ws)) ∧
        nlCount g.text = nlCount g.ws := by
      cases hb : g.bs with
      | none =>
        rw [hb] at hg
        simp only [Bool.and_eq_true, Bool.or_eq_true] at hg
        have htxt : g.text = g.ws := by simp [Gap.text, hb]
        rw [htxt] at hf ⊢
        simp only [List.length_append] at hf
        refine ⟨last, fuel - 1, ?_, by simp only [List.length_append]; omega, ?_, rfl⟩
        · rw [Nat.sub_add_cancel (by omega), List.append_assoc]
        · intro hqn
          right
          rcases hg.2 with hq | ⟨hsm, hin⟩
          · rw [hqn] at hq; cases hq
          · rw [hl, hsame hsm, inlineB_nl hin]; rfl
      | some b =>
        rw [hb] at hg
        simp only [Bool.and_eq_true, Bool.not_eq_true', List.isEmpty_eq_false_iff] at hg
        obtain ⟨⟨⟨hbi, _⟩, hwne⟩, hsm⟩ := hg
        obtain ⟨d, r, hw⟩ : ∃ d r, g.ws = d :: r := List.exists_cons_of_ne_nil hwne
        have htxt : g.text ++ (w.str ++ (wordsLay3 gs ws ++ F))
            = b ++ '\\' :: (g.ws ++ w.str ++ (wordsLay3 gs ws ++ F)) := by simp [Gap.text, hb]
        rw [htxt] at hf ⊢
        simp only [List.length_append, List.length_cons, hw] at hf
        have hbsw := nextWord_value_backslash b (g.ws ++ w.str ++ (wordsLay3 gs ws ++ F)) l hbi (by
          rw [hw]
          exact ends_of_isSpace _ (hwsp d (by simp [hw])))
        refine ⟨{ value := ['\\'], quote := none, line := some l }, fuel - 2, ?_,
          by simp only [List.length_append]; omega, fun _ => Or.inl (by rfl), ?_⟩
        · rw [show fuel = fuel - 2 + 1 + 1 by omega,
            cAA_continuation _ _ _ last _ acc hbsw rfl rfl hbs (by rw [hl, hsame hsm])]
          rfl
        · rw [Gap.text, hb, nlCount_append, inlineB_nl hbi, nlCount_backslash_cons]; omega
    obtain ⟨hstep, hbs'⟩ := cAA_good_word g.ws hwsp w hgw _ (.inl htail) f l last' acc hcond
    obtain ⟨ci', hE, h1⟩ := ih gs false f (l + nlCount g.ws + nlCount w.value) (l + nlCount g.ws)
      (nlCount w.value == 0) _ ({ w with line := some (l + nlCount g.ws) } :: acc) hgs
      (fun v hv => hgood v (by simp [hv])) hf' rfl (by omega) (by intro h; simp at h; omega) hbs'
    refine ⟨ci', by simpa [endLineG, hnl] using hE, ?_⟩
    rw [hpre, hstep, h1]
    simp [relineG, hnl]

theorem collectAssigned_gaps {F : Str} {E : Nat → CI → Prop} (hF : EndsVal F E) (ws : List Word)
    (gaps : List Gap) (l : Nat) (lead : Word) (hne : ws ≠ []) (hgood : ∀ w ∈ ws, goodWord w = true)
    (hgaps : gapsOK3 true true gaps ws = true) (hlead : lead.line = some l)
    (hbs : isUnq lead "\\" = false) :
    ∃ ci', E (endLineG l gaps ws) ci' ∧
      collectAssigned ⟨wordsLay3 gaps ws ++ F, l⟩ lead = .ok (relineG l gaps ws, ci') := by
  obtain ⟨ci', hE, h⟩ := cAA_gaps hF ws gaps true _ l l true lead [] hgaps hgood (Nat.le_refl _) hlead
    (Nat.le_refl _) (fun _ => rfl) hbs
  refine ⟨ci', hE, collectAssigned_of_aux ?_ h⟩
  cases ws with
  | nil => exact absurd rfl hne
  | cons w ws =>
    obtain ⟨g, gs, rfl, _, _⟩ := gapsOK3_cons_right hgaps
    simp [relineG]

/-! ### the printed words of a value: one blank in front of each -/

def blankGaps (ws : List Word) : List Gap := ws.map fun _ => { ws := [' '] }

theorem wordsText_eq : ∀ ws : List Word, wordsText ws = wordsLay3 (blankGaps ws) ws
  | [] => rfl
  | w :: ws => by rw [wordsText, wordsText_eq ws]; rfl

theorem chainOK_gaps : ∀ (ws : List Word) (first same : Bool), chainOK same ws = true →
    gapsOK3 first same (blankGaps ws) ws = true
  | [], _, _, _ => rfl
  | w :: ws, first, same, h => by
    rw [chainOK, Bool.and_eq_true] at h
    have hb : inlineB [' '] = true := by decide
    have hs : allSpace [' '] = true := by decide
    simp only [blankGaps, List.map_cons, gapsOK3, gapOK, hb, hs, Bool.and_true, Bool.true_and, Bool.and_eq_true]
    exact ⟨⟨by simp, h.1⟩, chainOK_gaps ws false _ h.2⟩

theorem gapsOK3_chainOK (ws : List Word) : ∀ (gaps : List Gap) (first same : Bool),
    gapsOK3 first same gaps ws = true → chainOK same ws = true := by
  induction ws with
  | nil => intro _ _ _ _; rfl
  | cons w ws ih =>
    intro gaps first same h
    obtain ⟨g, gs, rfl, hg, hgs⟩ := gapsOK3_cons_right h
    rw [chainOK, Bool.and_eq_true]
    refine ⟨?_, ih gs _ _ hgs⟩
    unfold gapOK at hg
    rw [Bool.and_eq_true] at hg
    cases hb : g.bs with
    | none =>
      rw [hb] at hg
      simp only [Bool.and_eq_true, Bool.or_eq_true] at hg ⊢
      rcases hg.2.2 with h | h
      · exact Or.inl h
      · exact Or.inr h.1
    | some b =>
      rw [hb] at hg
      simp only [Bool.and_eq_true] at hg
      simp [hg.2.2]

theorem relineG_blank : ∀ (ws : List Word) (l : Nat),
    relineG l (blankGaps ws) ws = reline l ws ∧ endLineG l (blankGaps ws) ws = endLine l ws
  | [], _ => ⟨rfl, rfl⟩
  | w :: ws, l => by
    have := relineG_blank ws (l + nlCount w.value)
    simp only [blankGaps] at this
    simp [blankGaps, relineG, endLineG, reline, endLine, Gap.text, nlCount_blank, this]

/-! ### identifier characters -/

theorem idCont_toNat {c : Char} (h : isIdCont c = true) :
    c.toNat = 46 ∨ (48 ≤ c.toNat ∧ c.toNat ≤ 57) ∨ (65 ≤ c.toNat ∧ c.toNat ≤ 90) ∨
      c.toNat = 95 ∨ (97 ≤ c.toNat ∧ c.toNat ≤ 122) := by
  simp only [isIdCont, isIdStart, isUpperAscii, isLowerAscii, isDigit, Bool.or_eq_true, Bool.and_eq_true,
    decide_eq_true_eq, beq_iff_eq] at h
  simp at h
  rcases h with (((h | h) | h) | h) | h
  · subst h; right; right; right; left; rfl
  · right; right; left; exact h
  · right; right; right; right; exact h
  · subst h; left; rfl
  · right; left; exact h

theorem idStart_cont {c : Char} (h : isIdStart c = true) : isIdCont c = true := by
  simp [isIdCont, h]

theorem idCont_not_space {c : Char} (h : isIdCont c = true) : isSpace c = false := by
  have ht := idCont_toNat h
  simp only [isSpace, Bool.or_eq_false_iff, Bool.and_eq_false_iff, decide_eq_false_iff_not, beq_eq_false_iff_ne]
  omega

theorem idCont_facts {c : Char} (h : isIdCont c = true) :
    c ≠ '{' ∧ c ≠ '}' ∧ c ≠ '=' ∧ c ≠ ';' ∧ c ≠ '#' ∧ c ≠ '"' ∧ c ≠ '\'' ∧ c ≠ '\\' ∧ c ≠ '!' := by
  have ht := idCont_toNat h
  refine ⟨?_, ?_, ?_, ?_, ?_, ?_, ?_, ?_, ?_⟩ <;> (apply char_ne_of_toNat; simp; omega)

theorem idCont_not_ends {c : Char} (h : isIdCont c = true) : endsUnquoted structSettings c = false := by
  obtain ⟨h1, h2, h3, _⟩ := idCont_facts h
  simp [endsUnquoted, structSettings, Gen.structSingle, idCont_not_space h, h1, h2, h3]

theorem idCont_not_quote {c : Char} (h : isIdCont c = true) : isQuoteChar c = false := by
  obtain ⟨_, _, _, _, _, h6, h7, _⟩ := idCont_facts h
  simp [isQuoteChar, h6, h7]


/-! ### a flat document of definitions -/

/-- a definition name the round trip is stated for: accepted by the parser as the name of an ordinary
    definition (`plainDefName`) and without a dot (`a.b = 1` is read as a scope `a` holding `b`) -/
def goodName (nm : Str) : Bool := plainDefName nm && !nm.contains '.'

theorem goodName_cases {nm : Str} (h : goodName nm = true) :
    ∃ c w, nm = c :: w ∧ isIdStart c = true ∧ (∀ d ∈ c :: w, isIdCont d = true) ∧
      plainDefName nm = true ∧ '.' ∉ nm := by
  simp only [goodName, Bool.and_eq_true, Bool.not_eq_true', List.contains_eq_mem,
    decide_eq_false_iff_not] at h
  obtain ⟨hp, hdot⟩ := h
  have hstd : isStdIdent nm = true := by
    simp only [plainDefName, Bool.and_eq_true] at hp
    exact hp.1.1.2
  cases nm with
  | nil => simp [isStdIdent] at hstd
  | cons c w =>
    simp only [isStdIdent, Bool.and_eq_true, List.all_eq_true] at hstd
    refine ⟨c, w, rfl, hstd.1.1, ?_, hp, hdot⟩
    intro d hd
    rcases List.mem_cons.mp hd with rfl | hd
    · exact idStart_cont hstd.1.1
    · exact hstd.1.2 d hd

/-! ### the unwrapped flat document -/

/-- name and words of a definition -/
abbrev DefSpec := Str × List Word

def GoodDefn (d : DefSpec) : Prop :=
  goodName d.1 = true ∧ d.2 ≠ [] ∧ (∀ w ∈ d.2, goodWord w = true) ∧ chainOK true d.2 = true

/-- the text printed for a flat document when nothing is wrapped -/
def docText : List DefSpec → Str
  | [] => []
  | d :: ds => d.1 ++ (' ' :: '=' :: (wordsText d.2 ++ '\n' :: docText ds))

/-- what the parser builds from it: ids in order from `i`, every definition on the line after the end
    of the previous one, every word on the line on which it starts -/
def parsedDefs : Nat → Nat → List DefSpec → List Obj
  | _, _, [] => []
  | l, i, d :: ds =>
    .defn { name := d.1, id := some i, line := some l } (reline l d.2)
      :: parsedDefs (endLine l d.2 + 1) (i + 1) ds

/-! ### the printer on a flat document -/

/-- the line printed for a definition when nothing is wrapped -/
def defnText (d : DefSpec) : Str := d.1 ++ ' ' :: '=' :: wordsText d.2

/-- the sufficient condition for "nothing is wrapped": the complete line fits into `width - 2` columns -/
def lineFits (width : Int) (d : DefSpec) : Prop := ((defnText d).length : Int) ≤ width - 2

theorem attrs_get_nil (n : String) : Attrs.get [] n = AttrVal.none := rfl

/-- the indentation of continuation lines: as wide as `name =` -/
def defIndent (nm : Str) : Str := spaces (nm.length + 2)
/-- the head of the first line -/
def defHead (nm : Str) : Str := nm ++ [' ', '=']

theorem defIndent_blank (nm : Str) : ∀ d ∈ defIndent nm, d = ' ' := by
  intro d hd
  simp only [defIndent, spaces, List.mem_replicate] at hd
  exact hd.2

theorem showDefn_gen (o : ShowOpts) (hl : o.level ≤ 0) (m : Meta) (mg : Bool)
    (hm : m = { name := m.name, id := m.id, line := m.line, mergeNames := mg })
    (ws : List Word) (ms : List Str) (ind : Str) (hinc : m.name ≠ "include".toList) :
    showDefn o m ws ms ind
      = .ok (showWords o.width (ind ++ defIndent (joinWith ['.'] (ms ++ [m.name]))) ws
               (ind ++ defHead (joinWith ['.'] (ms ++ [m.name]))) []) := by
  have hline : defnLine m ms ind = ind ++ joinWith ['.'] (ms ++ [m.name]) ++ [' ', '='] := by
    rw [hm]
    simp only [defnLine, bne_iff_ne, ne_eq, hinc, not_false_eq_true, ↓reduceIte]
    simp
  rw [showDefn_eq, showDefnBody, hline, hm]
  simp only [attrs_get_nil, AttrVal.truthy, Bool.false_and, Bool.false_eq_true, ↓reduceIte]
  have h0 : ¬ ((0 : Int) < 0) := by omega
  simp only [h0, decide_false, Bool.false_and, Bool.false_eq_true, ↓reduceIte, expertHidden,
    expertGate_false, showAttributes, hl]
  simp only [List.nil_append, List.append_nil, List.length_append, List.length_cons, List.length_nil,
    defIndent, defHead, List.append_assoc]
  have e : List.length ind + (List.length (joinWith ['.'] (ms ++ [m.name])) + (0 + 1 + 1))
      - List.length ind = List.length (joinWith ['.'] (ms ++ [m.name])) + 2 := by omega
  rw [e]

theorem showDefn_any (o : ShowOpts) (hl : o.level ≤ 0) (nm : Str) (i l : Option Nat)
    (ws : List Word) (hinc : nm ≠ "include".toList) :
    showDefn o { name := nm, id := i, line := l } ws [] []
      = .ok (showWords o.width (defIndent nm) ws (defHead nm) []) :=
  showDefn_gen o hl { name := nm, id := i, line := l } false rfl ws [] [] hinc

/-- an enabled definition without attributes, template flag or resolved variables; `id` and `line`
    are arbitrary (the printer ignores them) -/
def PlainDefn (x : Obj) : Prop :=
  ∃ nm ws i l, x = .defn { name := nm, id := i, line := l } ws

/-- name and words of an object -/
def Obj.spec : Obj → DefSpec
  | .defn m ws => (m.name, ws)
  | .scope m _ => (m.name, [])

theorem unlines_cons (a : Str) (ls : List Str) : unlines (a :: ls) = a ++ '\n' :: unlines ls := rfl

theorem unlines_defnText (ds : List DefSpec) : unlines (ds.map defnText) = docText ds := by
  induction ds with
  | nil => rfl
  | cons d ds ih =>
    rw [List.map_cons, unlines_cons, ih]
    simp [defnText, docText]

theorem goodName_not_include {nm : Str} (h : goodName nm = true) : nm ≠ "include".toList := by
  obtain ⟨_, _, _, _, _, hp, _⟩ := goodName_cases h
  simp only [plainDefName, Bool.and_eq_true, bne_iff_ne, ne_eq] at hp
  exact hp.1.2


/-! ### wrapped values -/

/-- the test of `definition.show`: the word does not fit and the line already holds a word -/
def wraps (width : Int) (indent line : Str) (w : Word) : Bool :=
  decide (((line ++ ' ' :: w.str).length : Int) > width - 2) && decide (line.length > indent.length)

theorem showWords_cons (width : Int) (indent : Str) (w : Word) (ws : List Word) (line : Str)
    (out : List Str) :
    showWords width indent (w :: ws) line out =
      if wraps width indent line w = true then
        showWords width indent ws (indent ++ ' ' :: w.str) (out ++ [line ++ [' ', '\\']])
      else showWords width indent ws (line ++ ' ' :: w.str) out := by
  rw [showWords]; rfl

theorem wraps_false_of_fits (w : Int) (indent line : Str) (wd : Word) (ws : List Word)
    (h : ((line ++ wordsText (wd :: ws)).length : Int) ≤ w - 2) : wraps w indent line wd = false := by
  have hlen : ¬ (((line ++ ' ' :: wd.str).length : Int) > w - 2) := by
    simp only [List.length_append, wordsText, List.length_cons] at h ⊢
    omega
  simp only [wraps, hlen, decide_false, Bool.false_and]

theorem fits_step (w : Int) (line : Str) (wd : Word) (ws : List Word)
    (h : ((line ++ wordsText (wd :: ws)).length : Int) ≤ w - 2) :
    (((line ++ ' ' :: wd.str) ++ wordsText ws).length : Int) ≤ w - 2 := by
  have e : line ++ wordsText (wd :: ws) = (line ++ ' ' :: wd.str) ++ wordsText ws := by
    simp [wordsText]
  rw [← e]; exact h

theorem showWords_nowrap (width : Int) (indent : Str) :
    ∀ (ws : List Word) (line : Str) (out : List Str),
      ((line ++ wordsText ws).length : Int) ≤ width - 2 →
      showWords width indent ws line out = out ++ [line ++ wordsText ws] := by
  intro ws
  induction ws with
  | nil => intro line out _; simp [showWords, wordsText]
  | cons w ws ih =>
    intro line out h
    rw [showWords_cons, wraps_false_of_fits width indent line w ws h, if_neg Bool.false_ne_true,
      ih _ out (fits_step width line w ws h)]
    simp [wordsText]

theorem showWords_fits (width : Int) (d : DefSpec) (hfit : lineFits width d) :
    showWords width (defIndent d.1) d.2 (defHead d.1) [] = [defnText d] := by
  have htxt : defHead d.1 ++ wordsText d.2 = defnText d := by simp [defHead, defnText]
  rw [showWords_nowrap _ _ _ _ _ (by rw [htxt]; exact hfit), htxt]
  rfl

/-- the text `definition.show` emits after the current line `line` for the remaining words -/
def wrapTail (width : Int) (indent : Str) : List Word → Str → Str
  | [], _ => []
  | w :: ws, line =>
    if wraps width indent line w then
      ' ' :: '\\' :: '\n' :: (indent ++ [' ']) ++ w.str ++ wrapTail width indent ws (indent ++ ' ' :: w.str)
    else [' '] ++ w.str ++ wrapTail width indent ws (line ++ ' ' :: w.str)

/-- The exact condition under which the printed value is read back: the continuation ` \` must not
    follow a word that contains a newline, and (as without wrapping) an unquoted word must not follow
    such a word on the same printed line. -/
def wrapOK (width : Int) (indent : Str) : List Word → Str → Bool → Bool
  | [], _, _ => true
  | w :: ws, line, same =>
    if wraps width indent line w then
      same && wrapOK width indent ws (indent ++ ' ' :: w.str) (nlCount w.value == 0)
    else (w.quote.isSome || same) && wrapOK width indent ws (line ++ ' ' :: w.str) (nlCount w.value == 0)

theorem unlines_append (a b : List Str) : unlines (a ++ b) = unlines a ++ unlines b := by
  induction a with
  | nil => rfl
  | cons x xs ih => simp [unlines_cons, ih]

theorem unlines_showWords (width : Int) (indent : Str) :
    ∀ (ws : List Word) (line : Str) (out : List Str),
      unlines (showWords width indent ws line out)
        = unlines out ++ (line ++ wrapTail width indent ws line ++ ['\n']) := by
  intro ws
  induction ws with
  | nil =>
    intro line out
    simp only [showWords, wrapTail, List.append_nil]
    rw [unlines_append]; rfl
  | cons w ws ih =>
    intro line out
    rw [showWords_cons, wrapTail]
    split
    · rw [ih, unlines_append]; simp [unlines]
    · rw [ih]; simp

theorem space_indent (indent : Str) (hind : ∀ d ∈ indent, d = ' ') :
    ∀ d ∈ '\n' :: (indent ++ [' ']), isSpace d = true := by
  intro d hd
  simp only [List.mem_cons, List.mem_append, List.not_mem_nil, or_false] at hd
  rcases hd with rfl | hd | rfl
  · rfl
  · rw [hind d hd]; rfl
  · rfl

/-- the gap `definition.show` puts in front of each word: a blank, or ` \`, newline, indentation, blank -/
def wrapGaps (width : Int) (indent : Str) : List Word → Str → List Gap
  | [], _ => []
  | w :: ws, line =>
    if wraps width indent line w then
      ⟨some [' '], '\n' :: (indent ++ [' '])⟩ :: wrapGaps width indent ws (indent ++ ' ' :: w.str)
    else ⟨none, [' ']⟩ :: wrapGaps width indent ws (line ++ ' ' :: w.str)

theorem wrapTail_eq (width : Int) (indent : Str) : ∀ (ws : List Word) (line : Str),
    wrapTail width indent ws line = wordsLay3 (wrapGaps width indent ws line) ws := by
  intro ws
  induction ws with
  | nil => intro _; rfl
  | cons w ws ih =>
    intro line
    rw [wrapTail, wrapGaps]
    split <;> simp [wordsLay3, Gap.text, ih]

theorem wrapOK_gaps (width : Int) (indent : Str) (hind : ∀ d ∈ indent, d = ' ') :
    ∀ (ws : List Word) (line : Str) (first same : Bool), wrapOK width indent ws line same = true →
      gapsOK3 first same (wrapGaps width indent ws line) ws = true := by
  intro ws
  induction ws with
  | nil => intro _ _ _ _; rfl
  | cons w ws ih =>
    intro line first same h
    rw [wrapOK] at h
    rw [wrapGaps]
    split at h <;> rw [Bool.and_eq_true] at h
    · next hw =>
      have hsp : allSpace ('\n' :: (indent ++ [' '])) = true := by
        simp only [allSpace, List.all_eq_true]; exact space_indent indent hind
      have hb : inlineB [' '] = true := by decide
      simp [hw, gapsOK3, gapOK, hsp, h.1, ih _ false _ h.2, hb]
    · next hw =>
      have hb : inlineB [' '] = true := by decide
      have hs : allSpace [' '] = true := by decide
      have hq : (w.quote.isSome || same) = true := h.1
      rw [if_neg hw]
      simp only [gapsOK3, gapOK, ih _ false _ h.2, hb, hs, Bool.and_true, Bool.true_and]
      simpa using hq


theorem wrapOK_of_noNl (width : Int) (indent : Str) (ws : List Word) :
    ∀ (line : Str) (same : Bool), (ws ≠ [] → same = true) →
      (∀ w ∈ ws.dropLast, nlCount w.value = 0) → wrapOK width indent ws line same = true := by
  induction ws with
  | nil => intro line same _ _; rfl
  | cons w ws ih =>
    intro line same hs hall
    have hsame : same = true := hs (by simp)
    have hnext : ws ≠ [] → (nlCount w.value == 0) = true := by
      intro hne
      have : w ∈ (w :: ws).dropLast := by
        cases ws with
        | nil => exact absurd rfl hne
        | cons v vs => simp [List.dropLast]
      simp [hall w this]
    have hall' : ∀ v ∈ ws.dropLast, nlCount v.value = 0 := by
      intro v hv
      apply hall v
      cases ws with
      | nil => simp at hv
      | cons u us => simp only [List.dropLast_cons_cons, List.mem_cons]; exact Or.inr hv
    rw [wrapOK]
    split <;> simp [hsame, ih _ _ hnext hall']

/-! ### erasing source positions -/

/-- a word without its source line -/
def Word.erase (w : Word) : Word := { w with line := none }
/-- object data without `primary_id` and source line -/
def Meta.erase (m : Meta) : Meta := { m with id := none, line := none }

mutual
/-- a tree without ids and source positions -/
def Obj.erase : Obj → Obj
  | .defn m ws => .defn m.erase (ws.map Word.erase)
  | .scope m os => .scope m.erase (eraseList os)
def eraseList : List Obj → List Obj
  | [] => []
  | x :: xs => x.erase :: eraseList xs
end

theorem eraseList_eq_map (xs : List Obj) : eraseList xs = xs.map Obj.erase := by
  induction xs with
  | nil => simp [eraseList]
  | cons x xs ih => simp [eraseList, ih]

theorem Obj.erase_defn (m : Meta) (ws : List Word) :
    (Obj.defn m ws).erase = .defn m.erase (ws.map Word.erase) := by simp [Obj.erase]
theorem Obj.erase_scope (m : Meta) (os : List Obj) :
    (Obj.scope m os).erase = .scope m.erase (eraseList os) := by simp [Obj.erase]
theorem eraseList_cons (x : Obj) (xs : List Obj) : eraseList (x :: xs) = x.erase :: eraseList xs := by
  simp [eraseList]
theorem eraseList_nil : eraseList [] = [] := by simp [eraseList]

theorem showWords_erase (width : Int) (indent : Str) :
    ∀ (ws : List Word) (line : Str) (out : List Str),
      showWords width indent (ws.map Word.erase) line out = showWords width indent ws line out := by
  intro ws
  induction ws with
  | nil => intro line out; rfl
  | cons w ws ih =>
    intro line out
    have hs : (Word.erase w).str = w.str := rfl
    rw [List.map_cons, showWords, showWords, hs]
    split
    · exact ih _ _
    · exact ih _ _

theorem showDefn_erase (o : ShowOpts) (m : Meta) (ws : List Word) (ms : List Str) (pre : Str) :
    showDefn o m.erase (ws.map Word.erase) ms pre = showDefn o m ws ms pre := by
  rw [showDefn_eq, showDefn_eq]
  simp only [showDefnBody, showWords_erase]
  rfl

theorem firstMerges_erase (objs : List Obj) : firstMerges (eraseList objs) = firstMerges objs := by
  cases objs with
  | nil => simp [eraseList]
  | cons x xs => rw [eraseList_cons]; cases x <;> simp [firstMerges, Obj.erase, Obj.meta, Meta.erase]

theorem showObj_erase (o : ShowOpts) (t : Obj) :
    ∀ (ms : List Str) (pre : Str), showObj o t.erase ms pre = showObj o t ms pre := by
  induction t using Obj.rec
    (motive_2 := fun ts => ∀ (ms : List Str) (pre : Str),
      showObjs o (eraseList ts) ms pre = showObjs o ts ms pre) with
  | defn m ws => intro ms pre; rw [Obj.erase_defn, showObj_defn_eq, showObj_defn_eq, showDefn_erase]
  | scope m objs ih =>
    intro ms pre
    have hfun : showObjs o (eraseList objs) = showObjs o objs := by funext ms pre; exact ih ms pre
    rw [Obj.erase_scope, showObj_scope_eq, showObj_scope_eq, firstMerges_erase, hfun]
    rfl
  | nil => rw [eraseList_nil]
  | cons x xs ihx ihxs =>
    rw [eraseList_cons, showObjs_cons, showObjs_cons, ihx, ihxs]

theorem showObjs_erase (o : ShowOpts) (ts : List Obj) (ms : List Str) (pre : Str) :
    showObjs o (eraseList ts) ms pre = showObjs o ts ms pre := by
  induction ts with
  | nil => rw [eraseList_nil]
  | cons x xs ih => rw [eraseList_cons, showObjs_cons, showObjs_cons, showObj_erase, ih]

theorem showObj_congr_erase (o : ShowOpts) (t t' : Obj) (h : t.erase = t'.erase) (ms : List Str)
    (pre : Str) : showObj o t ms pre = showObj o t' ms pre := by
  rw [← showObj_erase o t, ← showObj_erase o t', h]

theorem reline_erase (ws : List Word) : ∀ l, (reline l ws).map Word.erase = ws.map Word.erase := by
  induction ws with
  | nil => intro l; rfl
  | cons w ws ih => intro l; simp [reline, ih, Word.erase]

theorem gapsOK3_length (ws : List Word) : ∀ (gaps : List Gap) (first same : Bool),
    gapsOK3 first same gaps ws = true → gaps.length = ws.length := by
  induction ws with
  | nil => intro gaps first same h; rw [gapsOK3_nil_right h]; rfl
  | cons w ws ih =>
    intro gaps first same h
    obtain ⟨g, gs, rfl, _, hgs⟩ := gapsOK3_cons_right h
    simp [ih gs _ _ hgs]

theorem relineG_erase (ws : List Word) : ∀ (gaps : List Gap) (l : Nat), gaps.length = ws.length →
    (relineG l gaps ws).map Word.erase = ws.map Word.erase := by
  induction ws with
  | nil => intro gaps l h; cases gaps <;> simp [relineG]
  | cons w ws ih =>
    intro gaps l h
    cases gaps with
    | nil => simp at h
    | cons g gs =>
      simp only [relineG, List.map_cons, ih gs _ (by simpa using h)]
      simp [Word.erase]

theorem isPlainNone_erase_la (ws : List Word) : isPlainNone (ws.map Word.erase) = isPlainNone ws := by
  rcases ws with _ | ⟨w, _ | ⟨w', t⟩⟩ <;> simp [isPlainNone, Word.erase]

theorem isPlainAuto_erase_la (ws : List Word) : isPlainAuto (ws.map Word.erase) = isPlainAuto ws := by
  rcases ws with _ | ⟨w, _ | ⟨w', t⟩⟩ <;> simp [isPlainAuto, Word.erase]

theorem strFromWords_erase_la (ws : List Word) : strFromWords (ws.map Word.erase) = strFromWords ws := by
  unfold strFromWords
  rw [isPlainNone_erase_la, isPlainAuto_erase_la, List.map_map]
  rfl

/-! ### the printer on a flat document, any width -/

/-- a definition the round trip at width `width` is proved for -/
def GoodDefnW (width : Int) (d : DefSpec) : Prop :=
  goodName d.1 = true ∧ d.2 ≠ [] ∧ (∀ w ∈ d.2, goodWord w = true) ∧
    wrapOK width (defIndent d.1) d.2 (defHead d.1) true = true

theorem GoodDefnW_of_noNl (width : Int) (d : DefSpec) (hn : goodName d.1 = true) (hne : d.2 ≠ [])
    (hg : ∀ w ∈ d.2, goodWord w = true) (hnl : ∀ w ∈ d.2.dropLast, nlCount w.value = 0) :
    GoodDefnW width d :=
  ⟨hn, hne, hg, wrapOK_of_noNl width _ d.2 _ true (fun _ => rfl) hnl⟩

theorem showObjs_flat_any (o : ShowOpts) (hl : o.level ≤ 0) (objs : List Obj)
    (h : ∀ x ∈ objs, PlainDefn x ∧ goodName x.spec.1 = true) :
    showObjs o objs [] []
      = .ok ((objs.map Obj.spec).flatMap
          (fun d => showWords o.width (defIndent d.1) d.2 (defHead d.1) [])) := by
  induction objs with
  | nil => rfl
  | cons x xs ih =>
    obtain ⟨⟨nm, ws, i, l, rfl⟩, hn⟩ := h _ (List.mem_cons_self ..)
    rw [showObjs_cons, showObj_defn_eq, showDefn_any o hl nm i l ws (goodName_not_include hn),
      ih (fun y hy => h y (by simp [hy]))]
    rfl

theorem asStr_root (o : ShowOpts) (objs : List Obj) :
    asStr o (rootOf objs) = (showObjs o objs [] []).map unlines := by
  have h0 : ¬ ((0 : Int) < 0) := by omega
  rw [asStr, rootOf, showObj_scope_eq]
  simp only [h0, decide_false, Bool.false_and, Bool.false_eq_true, ↓reduceIte, attrs_get_nil,
    expertHidden, expertGate_false, showScopeBody, List.isEmpty_nil]

theorem parse_eq (text : Str) : parse text = (parseObjs text).map rootOf := rfl

theorem parsedDefs_erase (objs : List Obj) (h : ∀ x ∈ objs, PlainDefn x) :
    ∀ l i, eraseList (parsedDefs l i (objs.map Obj.spec)) = eraseList objs := by
  induction objs with
  | nil => intro l i; rfl
  | cons x xs ih =>
    intro l i
    obtain ⟨nm, ws, i0, l0, rfl⟩ := h _ (List.mem_cons_self ..)
    simp only [List.map_cons, parsedDefs, eraseList_cons, ih (fun y hy => h y (by simp [hy]))]
    simp [Obj.erase, Obj.spec, reline_erase, Meta.erase]

/-! ### words without newlines: everything stays on the line of the name -/

theorem nlCount_of_not_mem {s : Str} (h : '\n' ∉ s) : nlCount s = 0 :=
  nlCount_of_no_nl s (fun _ hc e => h (e ▸ hc))

/-- definition `k` of the document on line `k` with id `k`, all its words on that line -/
def numbered : Nat → List DefSpec → List Obj
  | _, [] => []
  | k, d :: ds =>
    .defn { name := d.1, id := some k, line := some k } (d.2.map (fun w => { w with line := some k }))
      :: numbered (k + 1) ds

theorem parsedDefs_noNl (ds : List DefSpec) (h : ∀ d ∈ ds, ∀ w ∈ d.2, nlCount w.value = 0) :
    ∀ k, parsedDefs k k ds = numbered k ds := by
  induction ds with
  | nil => intro k; rfl
  | cons d ds ih =>
    intro k
    have hd := h d (by simp)
    rw [parsedDefs, numbered, (reline_noNl k d.2 hd).1, (reline_noNl k d.2 hd).2,
      ih (fun x hx => h x (by simp [hx]))]

end Phil
