/-
  Trees without their attributes (`Obj.stripAttrs`, and `Obj.eraseAttrs` which also forgets ids and source
  positions), the `deprecated` gate of `definition.show`, and the root scope printed under a prefix: what the
  round trips for trees that carry attributes are stated with.
-/
import Phil.Proofs.PrintParse
import Phil.Proofs.ShowLaws
namespace Phil

/-! ### removing attributes -/

def Meta.stripAttrs (m : Meta) : Meta := { m with attrs := [] }

mutual
/-- a tree without attributes (ids, source positions, flags and words are kept) -/
def Obj.stripAttrs : Obj → Obj
  | .defn m ws => .defn m.stripAttrs ws
  | .scope m os => .scope m.stripAttrs (stripAttrsList os)
def stripAttrsList : List Obj → List Obj
  | [] => []
  | x :: xs => x.stripAttrs :: stripAttrsList xs
end

/-- object data without `primary_id`, source line AND attributes -/
def Meta.eraseAttrs (m : Meta) : Meta := { m with id := none, line := none, attrs := [] }

mutual
/-- a tree without ids, source positions and attributes: what is left is the nesting, the names, the
    `disabled` / `merge_names` / `is_template` flags and the words (values and quote styles) -/
def Obj.eraseAttrs : Obj → Obj
  | .defn m ws => .defn m.eraseAttrs (ws.map Word.erase)
  | .scope m os => .scope m.eraseAttrs (eraseAttrsList os)
def eraseAttrsList : List Obj → List Obj
  | [] => []
  | x :: xs => x.eraseAttrs :: eraseAttrsList xs
end

theorem Obj.stripAttrs_defn (m : Meta) (ws : List Word) :
    (Obj.defn m ws).stripAttrs = .defn m.stripAttrs ws := by simp [Obj.stripAttrs]
theorem Obj.stripAttrs_scope (m : Meta) (os : List Obj) :
    (Obj.scope m os).stripAttrs = .scope m.stripAttrs (stripAttrsList os) := by simp [Obj.stripAttrs]
theorem stripAttrsList_nil : stripAttrsList [] = [] := by simp [stripAttrsList]
theorem stripAttrsList_cons (x : Obj) (xs : List Obj) :
    stripAttrsList (x :: xs) = x.stripAttrs :: stripAttrsList xs := by simp [stripAttrsList]
theorem Obj.eraseAttrs_defn (m : Meta) (ws : List Word) :
    (Obj.defn m ws).eraseAttrs = .defn m.eraseAttrs (ws.map Word.erase) := by simp [Obj.eraseAttrs]
theorem Obj.eraseAttrs_scope (m : Meta) (os : List Obj) :
    (Obj.scope m os).eraseAttrs = .scope m.eraseAttrs (eraseAttrsList os) := by simp [Obj.eraseAttrs]
theorem eraseAttrsList_nil : eraseAttrsList [] = [] := by simp [eraseAttrsList]
theorem eraseAttrsList_cons (x : Obj) (xs : List Obj) :
    eraseAttrsList (x :: xs) = x.eraseAttrs :: eraseAttrsList xs := by simp [eraseAttrsList]

theorem stripAttrsList_eq_map (xs : List Obj) : stripAttrsList xs = xs.map Obj.stripAttrs := by
  induction xs with
  | nil => rfl
  | cons x xs ih => rw [stripAttrsList_cons, ih]; rfl

theorem stripAttrsList_eq_singleton {os : List Obj} {c' : Obj} (e : stripAttrsList os = [c']) :
    ∃ c, os = [c] ∧ c.stripAttrs = c' := by
  rw [stripAttrsList_eq_map] at e
  match os, e with
  | [c], e => exact ⟨c, rfl, by simpa using e⟩

theorem eraseAttrsList_eq_map (xs : List Obj) : eraseAttrsList xs = xs.map Obj.eraseAttrs := by
  induction xs with
  | nil => rfl
  | cons x xs ih => rw [eraseAttrsList_cons, ih]; rfl

theorem erase_stripAttrs_ert : (∀ x : Obj, x.stripAttrs.erase = x.eraseAttrs) ∧
    ∀ os, eraseList (stripAttrsList os) = eraseAttrsList os :=
  Obj.both (fun m ws => by rw [Obj.stripAttrs_defn, Obj.erase_defn, Obj.eraseAttrs_defn]; rfl)
    (fun m os ih => by rw [Obj.stripAttrs_scope, Obj.erase_scope, Obj.eraseAttrs_scope, ih]; rfl) rfl
    (fun x xs ihx ihxs => by rw [stripAttrsList_cons, eraseList_cons, eraseAttrsList_cons, ihx, ihxs])

theorem eraseList_stripAttrsList_ert (os : List Obj) :
    eraseList (stripAttrsList os) = eraseAttrsList os :=
  erase_stripAttrs_ert.2 os

theorem stripAttrs_erase_ert : (∀ x : Obj, x.erase.stripAttrs = x.eraseAttrs) ∧
    ∀ os, stripAttrsList (eraseList os) = eraseAttrsList os :=
  Obj.both (fun m ws => by rw [Obj.erase_defn, Obj.stripAttrs_defn, Obj.eraseAttrs_defn]; rfl)
    (fun m os ih => by rw [Obj.erase_scope, Obj.stripAttrs_scope, Obj.eraseAttrs_scope, ih]; rfl) rfl
    (fun x xs ihx ihxs => by rw [eraseList_cons, stripAttrsList_cons, eraseAttrsList_cons, ihx, ihxs])

theorem stripAttrsList_eraseList_ert (os : List Obj) :
    stripAttrsList (eraseList os) = eraseAttrsList os :=
  stripAttrs_erase_ert.2 os

theorem eraseAttrs_stripAttrs_ert : (∀ x : Obj, x.stripAttrs.eraseAttrs = x.eraseAttrs) ∧
    ∀ os, eraseAttrsList (stripAttrsList os) = eraseAttrsList os :=
  Obj.both (fun m ws => by rw [Obj.stripAttrs_defn, Obj.eraseAttrs_defn, Obj.eraseAttrs_defn]; rfl)
    (fun m os ih => by rw [Obj.stripAttrs_scope, Obj.eraseAttrs_scope, Obj.eraseAttrs_scope, ih]; rfl)
    rfl
    (fun x xs ihx ihxs => by
      rw [stripAttrsList_cons, eraseAttrsList_cons, eraseAttrsList_cons, ihx, ihxs])

theorem eraseAttrsList_stripAttrsList_ert (os : List Obj) :
    eraseAttrsList (stripAttrsList os) = eraseAttrsList os :=
  eraseAttrs_stripAttrs_ert.2 os

theorem eraseAttrsList_of_eraseList_ert {a b : List Obj} (h : eraseList a = eraseList b) :
    eraseAttrsList a = eraseAttrsList b := by
  rw [← stripAttrsList_eraseList_ert a, ← stripAttrsList_eraseList_ert b, h]

theorem eraseAttrsList_of_eq_ert {a X : List Obj} (h : eraseList a = eraseAttrsList X) :
    eraseAttrsList a = eraseAttrsList X := by
  rw [← stripAttrsList_eraseList_ert a, h, ← eraseList_stripAttrsList_ert X,
    stripAttrsList_eraseList_ert, eraseAttrsList_stripAttrsList_ert, eraseList_stripAttrsList_ert]

theorem stripAttrs_meta_ert (x : Obj) : x.stripAttrs.meta = x.meta.stripAttrs := by
  cases x with
  | defn m ws => rw [Obj.stripAttrs_defn]; rfl
  | scope m os => rw [Obj.stripAttrs_scope]; rfl

theorem firstMerges_stripAttrsList_ert (os : List Obj) :
    firstMerges (stripAttrsList os) = firstMerges os := by
  cases os with
  | nil => rfl
  | cons x xs => rw [stripAttrsList_cons, firstMerges, firstMerges, stripAttrs_meta_ert]; rfl

/-! ### the `deprecated` gate -/

/-- the definition carries a truthy `deprecated` attribute (`definition.show` hides it below
    attributes level 3) -/
def depSet (m : Meta) : Bool := (m.attrs.get "deprecated").truthy

mutual
/-- no DEFINITION of the tree carries a truthy `deprecated` attribute (`scope.show` has no such gate:
    `deprecated` is not a scope attribute) -/
def Obj.noDeprecated : Obj → Bool
  | .defn m _ => !depSet m
  | .scope _ os => noDeprecatedList os
def noDeprecatedList : List Obj → Bool
  | [] => true
  | x :: xs => x.noDeprecated && noDeprecatedList xs
end

theorem noDeprecated_defn_ert (m : Meta) (ws : List Word) :
    (Obj.defn m ws).noDeprecated = !depSet m := by simp [Obj.noDeprecated]
theorem noDeprecated_scope_ert (m : Meta) (os : List Obj) :
    (Obj.scope m os).noDeprecated = noDeprecatedList os := by simp [Obj.noDeprecated]
theorem noDeprecatedList_cons_ert (x : Obj) (xs : List Obj) :
    noDeprecatedList (x :: xs) = (x.noDeprecated && noDeprecatedList xs) := by simp [noDeprecatedList]

theorem noDeprecatedList_iff_ert (os : List Obj) :
    noDeprecatedList os = true ↔ ∀ x ∈ os, x.noDeprecated = true := by
  induction os with
  | nil => simp [noDeprecatedList]
  | cons x xs ih => simp [noDeprecatedList_cons_ert, ih]

/-! ### the root scope under a prefix -/

theorem asStr_root_pre_ert (o : ShowOpts) (objs : List Obj) (pre : Str) :
    asStr o (rootOf objs) pre = (showObjs o objs [] pre).map unlines := by
  have h0 : ¬ ((0 : Int) < 0) := by omega
  rw [asStr, rootOf, showObj_scope_eq]
  simp only [h0, decide_false, Bool.false_and, Bool.false_eq_true, ↓reduceIte, attrs_get_nil,
    expertHidden, expertGate_false, showScopeBody, List.isEmpty_nil]

end Phil
