/-
  Helper lemmas for Phil/HeapExtract.lean: frames of value mutation, freshness of reified values and of what
  converters return (from `fromWords_in_domain`).
-/
import Phil.HeapExtract
import Phil.Proofs.HeapLemmas
import Phil.Proofs.ConvDomain
namespace Phil.Heap

/-! ### what converters return -/

/-- a value a converter builds afresh: not the word list of a definition, not a scope_extract, not a
    scope_extract_list -/
def _root_.Phil.PVal.fresh : PVal → Bool
  | .words _ => false
  | .record _ => false
  | .multi _ _ => false
  | _ => true

theorem inDomain_fresh (c : Conv) (v : PVal) (h : InDomain c v = true) : v.fresh = true ∨ c = .words := by
  cases v with
  | words _ | record _ | multi _ _ =>
    cases c <;> first | exact .inr rfl | cases h | (rename_i b; cases b <;> cases h)
  | _ => exact .inl rfl

theorem fromWords_fresh (c : Conv) (env : EvalEnv) (opt : AttrVal) (ws : List Word) (v : PVal)
    (h : fromWords c env opt ws = .ok v) : v.fresh = true ∨ v = .words ws ∧ c = .words := by
  rcases inDomain_fresh c v (fromWords_in_domain c env opt ws v h) with hf | rfl
  · exact .inl hf
  · simp only [fromWords] at h
    split at h
    · cases h; exact .inl rfl
    · split at h <;> cases h
      · exact .inl rfl
      · exact .inr ⟨rfl, rfl⟩

/-! ### mutation -/

theorem mutate_phil_of_not_alias (s : Store) (i : Nat) (op : MutOp)
    (hs : ∀ d, s.vals[i]? ≠ some (.wordsOf d)) : (mutate s i op).phil = s.phil := by
  unfold mutate
  cases hc : s.vals[i]? with
  | none => rfl
  | some c =>
    cases c with
    | list o items => rfl
    | record fs => cases op <;> rfl
    | wordsOf d => exact absurd hc (hs d)

theorem mutate_vals_length (s : Store) (i : Nat) (op : MutOp) : (mutate s i op).vals.length = s.vals.length := by
  unfold mutate
  cases hc : s.vals[i]? with
  | none => rfl
  | some c =>
    cases c with
    | list o items => simp
    | record fs => cases op <;> simp
    | wordsOf d =>
      simp only
      split <;> rfl

theorem all_set_of {α : Type} (p : α → Bool) (l : List α) (i : Nat) (a : α)
    (hl : l.all p = true) (ha : p a = true) : (l.set i a).all p = true :=
  List.all_eq_true.mpr fun _ hx => (List.mem_or_eq_of_mem_set hx).elim (List.all_eq_true.mp hl _) (· ▸ ha)

theorem noAlias_get {vh : VHeap} (hn : noAliasB vh = true) (i d : Nat) : vh[i]? ≠ some (.wordsOf d) := by
  intro hd
  unfold noAliasB at hn
  rw [List.all_eq_true] at hn
  have := hn _ (List.mem_of_getElem? hd)
  simp at this

theorem mutate_noAlias (s : Store) (i : Nat) (op : MutOp) (hn : noAliasB s.vals = true) :
    noAliasB (mutate s i op).vals = true := by
  unfold mutate
  cases hc : s.vals[i]? with
  | none => exact hn
  | some c =>
    cases c with
    | list o items => exact all_set_of _ _ _ _ hn rfl
    | record fs =>
      cases op with
      | setField k r => exact all_set_of _ _ _ _ hn rfl
      | _ => exact hn
    | wordsOf d => exact absurd hc (noAlias_get hn i d)

theorem safe_of_noAlias : ∀ (ops : List (Nat × MutOp)) (s : Store), noAliasB s.vals = true → SafeHist s ops
  | [], _, _ => trivial
  | (i, op) :: rest, s, hn => ⟨noAlias_get hn i, safe_of_noAlias rest _ (mutate_noAlias s i op hn)⟩

/-! ### reified values are made of new objects only -/

mutual
theorem reify_noAlias : ∀ (t : TVal) (b : Nat), t.noHandout = true → noAliasB (reify t b).1 = true
  | .pure v, b, _ => by
    cases v <;> simp [reify, noAliasB]
  | .handout d ws, b, h => by simp [TVal.noHandout] at h
  | .record fs, b, h => by
    rw [TVal.noHandout] at h
    have := reifyFields_noAlias fs (b + 1) h
    simp only [reify, noAliasB, List.all_cons, Bool.true_and] at this ⊢
    exact this
  | .multi o l, b, h => by
    rw [TVal.noHandout] at h
    have := reifyList_noAlias l (b + 1) h
    simp only [reify, noAliasB, List.all_cons, Bool.true_and] at this ⊢
    exact this
theorem reifyFields_noAlias : ∀ (fs : List (Str × TVal)) (b : Nat), noHandoutFields fs = true →
    noAliasB (reifyFields fs b).1 = true
  | [], _, _ => by simp [reifyFields, noAliasB]
  | (k, v) :: rest, b, h => by
    rw [noHandoutFields, Bool.and_eq_true] at h
    have h1 := reify_noAlias v b h.1
    have h2 := reifyFields_noAlias rest (b + (reify v b).1.length) h.2
    simp only [reifyFields, noAliasB, List.all_append, Bool.and_eq_true] at h1 h2 ⊢
    exact ⟨h1, h2⟩
theorem reifyList_noAlias : ∀ (l : List TVal) (b : Nat), noHandoutList l = true →
    noAliasB (reifyList l b).1 = true
  | [], _, _ => by simp [reifyList, noAliasB]
  | v :: rest, b, h => by
    rw [noHandoutList, Bool.and_eq_true] at h
    have h1 := reify_noAlias v b h.1
    have h2 := reifyList_noAlias rest (b + (reify v b).1.length) h.2
    simp only [reifyList, noAliasB, List.all_append, Bool.and_eq_true] at h1 h2 ⊢
    exact ⟨h1, h2⟩
end

theorem noAlias_append (a b : VHeap) (ha : noAliasB a = true) (hb : noAliasB b = true) :
    noAliasB (a ++ b) = true := by
  simp only [noAliasB, List.all_append, Bool.and_eq_true] at ha hb ⊢
  exact ⟨ha, hb⟩

end Phil.Heap
