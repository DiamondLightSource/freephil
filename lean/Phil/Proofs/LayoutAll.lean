/-
  ONE layout grammar for whole documents (C02 / C15): nesting + continuations + switched-off regions +
  attributes.

  `DocItem` is a definition (with `!`, dotted name, Layout3 gaps — backslash and quoted continuation
  lines —, attribute items `[!].name = words` behind it) or a scope (with `!`, dotted header name,
  header attribute items, body = list of items, to any depth); Layout3 filler (`Pre3`: filler lines
  and `#phil __OFF__ … #phil __ON__` regions) stands wherever the parser's main loop reads filler
  (in front of every item, every attribute item of a definition, every `}` and at the end), and the
  document may be cut by `#phil __END__` (`DocEnd`).

  The vocabulary is that of the earlier grammar files (`Gap` … of PrintParse, `Pre3`, `OffRegion`, `DocEnd` of
  Layout3, `AttrIt`, `hdrText_ls` of LayoutAttrs / LayoutAttrsScope).
  At the end, the documents of every other layout grammar as documents of this one, each with its parser
  theorem: the flat documents of Layout3 (`render3`), the nested documents of Layout2 (`renderN`), the
  scopes with header attributes of LayoutAttrsScope (`renderH`), the flat documents with attribute items
  (`renderA` of Layout, grouped `ADef` of LayoutAttrs) and through `renderA` those with `!` flags
  (`renderB_l2`), and through `render3` the plain documents (`render`).
-/
import Phil.Proofs.LayoutAttrsScope
namespace Phil

/-! ### positions: "as good as at the start of a filler" -/

/-- the structure tokenizer in state `ci` reads what it would read at the start of the filler `p`
    (which starts on line `l`) followed by the text `X` -/
def AtPre (ci : CI) (p : Pre3) (X : Str) (l : Nat) : Prop :=
  nextWord structSettings ci = nextWord structSettings ⟨p.text ++ X, l⟩

/-- no `#phil` directive at the start of `p` (nor, if `c`, directly behind `p`) stands on line
    `prevLine` — the parser ignores a `#phil` on the line of the previous name -/
def FreshPre (prevLine : Nat) (p : Pre3) (c : Bool) (l : Nat) : Prop :=
  (p.segs ≠ [] ∨ c = true) → prevLine < l + (hLines3 p.segs p.lines).length

theorem pre3_text_split_all (p : Pre3) (X : Str) :
    p.text ++ X = linesStr (hLines3 p.segs p.lines) ++ (hInd3 p.segs p.ind ++ hRest3 p.segs p.lines p.ind X) := by
  rw [← pre3_split]
  simp [Pre3.text]

theorem atPre_iff_all (ci : CI) (p : Pre3) (X : Str) (l : Nat) (hp : p.wf = true) :
    AtPre ci p X l ↔ nextWord structSettings ci
      = nextWordAux structSettings false (hInd3 p.segs p.ind ++ hRest3 p.segs p.lines p.ind X)
          (l + (hLines3 p.segs p.lines).length) := by
  obtain ⟨h1, h2, _⟩ := Pre3.wf_facts hp
  unfold AtPre nextWord
  simp only []
  rw [pre3_text_split_all, struct_skip_lines _ (hLines3_wf h1 h2)]

/-- **the switched-off regions of a filler are skipped**, one turn each, for any stop token -/
theorem skipPre_all (p : Pre3) (X : Str) (hp : p.wf = true) (st : PState) (stop : Option Word)
    (prevLine : Nat) (acc : List Obj) (pending : Option Obj) (l : Nat)
    (hfresh : FreshPre prevLine p false l) (hat : AtPre st.ci p X l) :
    ∃ st', (∀ r, Runs st' stop prevLine acc pending r → Runs st stop prevLine acc pending r) ∧
      st'.nextId = st.nextId ∧
      nextWord structSettings st'.ci = nextWordAux structSettings false (p.ind ++ X) (l + p.nl) := by
  obtain ⟨h1, h2, _⟩ := Pre3.wf_facts hp
  obtain ⟨st', e1, e2, e3⟩ := collectObjects_segs_all p.lines p.ind X h2 stop prevLine acc pending p.segs h1
    st l (fun hne => hfresh (Or.inl hne)) ((atPre_iff_all _ p X l hp).mp hat)
  refine ⟨st', e1, e2, ?_⟩
  rw [e3, Pre3.nl, Nat.add_assoc]

/-! ### one turn of `collect_objects`: a definition, an attribute item (Layout3 gaps) -/

/-- the text of `head sp1 = g1 w1 … term` -/
def entryText_all (head : Str) (ws : List Word) (L : DefLayout3) : Str :=
  head ++ (L.sp1 ++ '=' :: (wordsLay3 L.gaps ws ++ L.term.text))

/-- what the entry turns need of the value `ws` under the layout `L`, the filler `next` behind it and
    the text `X` behind that; `eof`: the terminator "nothing" stands in front of blanks and `}` or
    the end of the text -/
structure EntryOK (ws : List Word) (L : DefLayout3) (next : Pre3) (X : Str) : Prop where
  ne : ws ≠ []
  good : ∀ w ∈ ws, goodWord w = true
  sp1 : inlineB L.sp1 = true
  gaps : gapsOK3 true true L.gaps ws = true
  term : L.term.wf = true
  nextWf : next.wf = true
  stop : StopHead X
  eof : L.term.isEof = true →
    hLines3 next.segs next.lines = [] ∧ EofHead_l2 (hRest3 next.segs next.lines next.ind X)

/-- **The value of an entry** whose head word `lead` stands on line `l0`: behind the head the
    structure tokenizer reads `=`, `collect_assigned_words` returns the words with their lines, and
    the tokenizer is then at the filler `next`. -/
theorem entry_value_all {ws : List Word} {L : DefLayout3} {next : Pre3} {X : Str} (h : EntryOK ws L next X)
    (l0 : Nat) (lead : Word) (hlead : lead.line = some l0) (hbs : isUnq lead "\\" = false) (head : Str) :
    ∃ T, entryText_all head ws L ++ (next.text ++ X) = head ++ (L.sp1 ++ '=' :: T) ∧
      stopsAt structSettings (L.sp1 ++ '=' :: T) = true ∧
      nextWord structSettings ⟨L.sp1 ++ '=' :: T, l0⟩
        = .ok (some ({ value := ['='], quote := none, line := some l0 }, ⟨T, l0⟩)) ∧
      ∃ ci4, collectAssigned ⟨T, l0⟩ lead = .ok (relineG l0 L.gaps ws, ci4) ∧
        AtPre ci4 next X (endLineG l0 L.gaps ws + nlCount L.term.text) := by
  obtain ⟨h1, h2, h3⟩ := Pre3.wf_facts h.nextWf
  have h2' := nextWord_struct_eq L.sp1 (wordsLay3 L.gaps ws ++ (L.term.text ++ (next.text ++ X))) l0
    (inlineB_space h.sp1)
  rw [inlineB_nl h.sp1, Nat.add_zero] at h2'
  refine ⟨_, by simp [entryText_all], stopsAt_space_append _ _ _ (inlineB_space h.sp1) (by rfl), h2', ?_⟩
  simp only [atPre_iff_all _ next X _ h.nextWf]
  rw [pre3_text_split_all]
  exact collectAssigned_layout3 ws L.gaps L.term _ _ _ l0 lead h.ne h.good h.gaps h.term (hLines3_wf h1 h2)
    (hInd3_wf h1 h3) (hRest3_stopHead _ _ _ h.stop) h.eof hlead hbs

/-- **One turn of `collect_objects` for a definition** with or without `!`, possibly dotted name,
    value under the Layout3 gaps -/
theorem defn_turn_all (nm : Str) {ws : List Word} {L : DefLayout3} (b : Bool) (ind : Str) {next : Pre3}
    {X : Str} (hit : ItemName nm) (hind : inlineB ind = true) (h : EntryOK ws L next X)
    (st : PState) (stop : Option Word) (prevLine : Nat) (acc : List Obj)
    (pending : Option Obj) (l0 : Nat)
    (hci : nextWord structSettings st.ci
      = nextWordAux structSettings false
          (ind ++ (bangText_l2 b ++ (entryText_all nm ws L ++ (next.text ++ X)))) l0) :
    ∃ ci4, (∀ fuel, collectObjects (fuel + 1) st stop prevLine acc pending
        = collectObjects fuel { ci := ci4, nextId := st.nextId + 1 } stop l0 (flush acc pending)
            (some (.defn { name := nm, id := some st.nextId, disabled := b, line := some l0 }
              (relineG l0 L.gaps ws)))) ∧
      AtPre ci4 next X (endLineG l0 L.gaps ws + nlCount L.term.text) := by
  obtain ⟨c, w, e, hs, hall⟩ := hit.chars
  obtain ⟨_, _, _, _, _, _, _, h8, _⟩ := idCont_facts (idStart_cont hs)
  obtain ⟨T, hT, hstop, h2, ci4, h3, h4⟩ := entry_value_all h l0 { value := nm, quote := none, line := some l0 }
    rfl (by rw [isUnq_backslash, e]; simp [h8]) nm
  rw [hT, nextWordAux_skip structSettings _ _ (inlineB_space hind), inlineB_nl hind, Nat.add_zero,
    nextWordAux_bang_name_gen_l2 b nm _ l0 hit hstop] at hci
  refine ⟨ci4, fun fuel => ?_, h4⟩
  exact collectObjects_defn_step_any fuel st stop prevLine acc pending _ _ nm b _ _ ci4 _ hci rfl
    (by cases b <;> rfl) hit.defName h2 rfl rfl h3

/-- an attribute assignment of a definition the theorems are stated for: a known attribute name, a
    non-empty value of good words, and — unless commented out by `!` — a value the converter accepts -/
def goodAttr3 (n : String) (ws : List Word) (b : Bool) : Bool :=
  defAttrNames.contains n && !ws.isEmpty && ws.all goodWord && (b || (attrValOf n ws).isSome)

theorem defAttrValue_relineG_all (n : String) (ws : List Word) (gaps : List Gap) (l : Nat) (v : AttrVal)
    (hlen : gaps.length = ws.length) (h : attrValOf n ws = some v) :
    defAttrValue n (relineG l gaps ws) = .ok v := by
  apply toOption_some_la
  rw [← defAttrValue_erase_la, relineG_erase ws gaps l hlen]
  exact h

/-- **One turn of `collect_objects` for an attribute assignment** `[!].n = words` (Layout3 gaps) while
    a definition is active -/
theorem attr_turn_all (n : String) {ws : List Word} {L : DefLayout3} (b : Bool) (ind : Str) {next : Pre3}
    {X : Str} (hn : defAttrNames.contains n = true) (hval : b = true ∨ (attrValOf n ws).isSome = true)
    (hind : inlineB ind = true) (h : EntryOK ws L next X)
    (st : PState) (stop : Option Word) (prevLine : Nat) (acc : List Obj) (d : Obj) (l0 : Nat)
    (hci : nextWord structSettings st.ci
      = nextWordAux structSettings false
          (ind ++ (bangText_l2 b ++ (entryText_all (attrLead n) ws L ++ (next.text ++ X)))) l0) :
    ∃ ci4, (∀ fuel, collectObjects (fuel + 1) st stop prevLine acc (some d)
        = collectObjects fuel { ci := ci4, nextId := st.nextId } stop l0 acc (applyAttr (some d) n ws b)) ∧
      AtPre ci4 next X (endLineG l0 L.gaps ws + nlCount L.term.text) := by
  obtain ⟨T, hT, hstop, h2, ci4, h3, h4⟩ := entry_value_all h l0
    { value := attrLead n, quote := none, line := some l0 } rfl (by rw [isUnq_backslash]; simp [attrLead])
    (attrLead n)
  rw [hT, nextWordAux_skip structSettings _ _ (inlineB_space hind), inlineB_nl hind, Nat.add_zero,
    nextWordAux_bang_attr_la b n _ l0 hn hstop] at hci
  refine ⟨ci4, fun fuel => ?_, h4⟩
  have hv : b = false → defAttrValue n (relineG l0 L.gaps ws) = .ok ((attrValOf n ws).getD .none) := by
    intro hb
    rcases hval with hval | hval
    · rw [hb] at hval; cases hval
    · obtain ⟨v, hv⟩ := Option.isSome_iff_exists.mp hval
      rw [hv]
      exact defAttrValue_relineG_all n ws L.gaps l0 v (gapsOK3_length ws L.gaps true true h.gaps) hv
  rw [collectObjects_attr_step_la fuel st stop prevLine acc d _ _ _ _ ci4 (relineG l0 L.gaps ws) n b
    ((attrValOf n ws).getD .none) hci rfl rfl hn h2 rfl rfl h3 hv]
  cases b <;> rfl

/-! ### after an entry: the next filler is fresh -/

theorem lineFree_fresh_all {p : Pre3} {c : Bool} (h : p.lineFree c = true) {pl L : Nat} (hle : pl ≤ L) :
    FreshPre pl p c L := by
  intro hd
  unfold Pre3.lineFree at h
  cases hs : p.segs with
  | nil =>
    rw [hs] at h hd
    have hl : p.lines ≠ [] := by
      rcases hd with hd | rfl
      · exact absurd rfl hd
      · simpa using h
    have := List.length_pos_iff.mpr hl
    simp only [hLines3]; omega
  | cons x more =>
    rw [hs] at h
    have : 0 < x.1.length := List.length_pos_iff.mpr (by simpa using h)
    simp only [hLines3]; omega

/-- after an entry (definition or attribute item) whose name stood on line `l0`, the filler `next`
    is fresh: a newline terminator moves to a new line, `;` is followed by a line-free filler, the
    terminator "nothing" by no directive at all -/
theorem entry_fresh_all (t : Terminator) (next : Pre3) (last cut : Bool)
    (hok : termOK3 t next last cut = true) (l0 e : Nat) (hle : l0 ≤ e) :
    FreshPre l0 next (last && cut) (e + nlCount t.text) := by
  cases t with
  | nl tb =>
    have := term_nl_pos (Or.inl ⟨tb, rfl⟩)
    intro _; omega
  | comment sb cm =>
    have := term_nl_pos (Or.inr ⟨sb, cm, rfl⟩)
    intro _; omega
  | semi sb =>
    simp only [termOK3] at hok
    exact lineFree_fresh_all hok (by omega)
  | eof =>
    simp only [termOK3, Bool.and_eq_true, List.isEmpty_iff, Bool.not_eq_true'] at hok
    obtain ⟨⟨⟨_, hsg⟩, _⟩, hcut⟩ := hok
    intro hd
    rcases hd with hd | hd
    · exact absurd hsg hd
    · rw [hcut] at hd; simp at hd

theorem eof_next_all {t : Terminator} {next : Pre3} {last cut : Bool} {X : Str}
    (hok : termOK3 t next last cut = true) (hX : last = true → cut = false → EofHead_l2 X)
    (he : t.isEof = true) :
    hLines3 next.segs next.lines = [] ∧ EofHead_l2 (hRest3 next.segs next.lines next.ind X) := by
  cases t with
  | eof =>
    simp only [termOK3, Bool.and_eq_true, List.isEmpty_iff, Bool.not_eq_true'] at hok
    obtain ⟨⟨⟨h1, h3⟩, h4⟩, h2⟩ := hok
    rw [h3, h4]
    exact ⟨rfl, hX h1 h2⟩
  | nl _ => cases he
  | semi _ => cases he
  | comment _ _ => cases he

/-! ### the grammar -/

/-- an attribute item behind a definition: `pre [!].n sp1 = g1 w1 … term` (Layout3 filler and gaps) -/
structure AttrIt3 where
  n : String
  ws : List Word
  L : DefLayout3
  b : Bool := false
  deriving Repr, DecidableEq

/-- **One item of a document.**
    * `defn path d L bang attrs` — the definition `d = (name, words)` spelt `[!]p1.….pk.name = words`
      under the Layout3 layout `L` (filler with switched-off regions in front, blanks around `=`,
      gaps with backslash / quoted continuation lines, terminator), followed by its attribute items;
    * `scope path nm bang pre hattrs gap kids close` — the scope `[!]p1.….pk.nm`, header attribute
      items `hattrs`, the gap in front of `{`, the body (items, to any depth), the filler in front of
      `}`.  What follows `}` belongs to the filler of the next item. -/
inductive DocItem
  | defn (path : List Str) (d : DefSpec) (L : DefLayout3) (bang : Bool) (attrs : List AttrIt3)
  | scope (path : List Str) (nm : Str) (bang : Bool) (pre : Pre3) (hattrs : List AttrIt) (gap : Pre)
      (kids : List DocItem) (close : Pre3)

/-- the filler in front of the item's name -/
def DocItem.pre : DocItem → Pre3
  | .defn _ _ L _ _ => L.pre
  | .scope _ _ _ pre _ _ _ _ => pre

def AttrIt3.body (t : AttrIt3) : Str := bangText_l2 t.b ++ entryText_all (attrLead t.n) t.ws t.L

def attrsText3 : List AttrIt3 → Str
  | [] => []
  | t :: ts => t.L.pre.text ++ (t.body ++ attrsText3 ts)

mutual
/-- the text of an item from its name (or `!`) on -/
def DocItem.body : DocItem → Str
  | .defn p d L b attrs => bangText_l2 b ++ (entryText_all (dottedName p d.1) d.2 L ++ attrsText3 attrs)
  | .scope p nm b _ hattrs gap kids close =>
    bangText_l2 b ++ (dottedName p nm ++ hdrText_ls hattrs gap (itemsText kids ++ (close.text ++ ['}'])))
/-- the text of a list of items -/
def itemsText : List DocItem → Str
  | [] => []
  | x :: xs => (x.pre.text ++ x.body) ++ itemsText xs
end

/-- **the text of a document**: the items, the filler `post` after the last one, and the end (the end
    of the text, or `#phil __END__` and an arbitrary tail) -/
def renderAll (xs : List DocItem) (post : Pre3) (e : DocEnd) : Str := itemsText xs ++ (post.text ++ e.text)

def firstAttrPre : List AttrIt3 → Pre3 → Pre3
  | [], next => next
  | t :: _, _ => t.L.pre

def afterAttrs : List AttrIt3 → Pre3 → Str → Str
  | [], _, X => X
  | t :: ts, next, X => t.body ++ ((firstAttrPre ts next).text ++ afterAttrs ts next X)

/-- the filler in front of the first item of a block (or, for the empty block, the filler after it) -/
def firstPreAll : List DocItem → Pre3 → Pre3
  | [], tp => tp
  | x :: _, _ => x.pre

/-- the text of a block, its trailing filler and the following text, from the first name on -/
def afterPreAll : List DocItem → Pre3 → Str → Str
  | [], _, X => X
  | x :: xs, tp, X => x.body ++ (itemsText xs ++ (tp.text ++ X))

/-- well-formed attribute items behind a definition; `next` is the filler that follows the last one -/
def wfAttrs3 : List AttrIt3 → Pre3 → Bool → Bool → Bool
  | [], _, _, _ => true
  | t :: ts, next, last, cut =>
    goodAttr3 t.n t.ws t.b && t.L.pre.wf && inlineB t.L.sp1 && gapsOK3 true true t.L.gaps t.ws && t.L.term.wf &&
      termOK3 t.L.term (firstAttrPre ts next) (ts.isEmpty && last) cut && wfAttrs3 ts next last cut

mutual
/-- well-formedness of an item.  `next` is the filler that follows the item, `last`: the item is the
    last one of its block, `cut`: the block is followed by `#phil __END__`.  (The terminator "nothing"
    needs `}` or the end of the text behind blanks; after `;` and after `}` a `#phil` directive must
    not follow on the same line; what stands behind a scope name separates it from the first header
    word or `{`, `hdrGapOK_ls`.) -/
def DocItem.wf : DocItem → Pre3 → Bool → Bool → Bool
  | .defn p d L _ attrs, next, last, cut =>
    goodPathName_l2 p d.1 && goodDef3 d && L.pre.wf && inlineB L.sp1 && gapsOK3 true true L.gaps d.2 &&
      L.term.wf && termOK3 L.term (firstAttrPre attrs next) (attrs.isEmpty && last) cut &&
      wfAttrs3 attrs next last cut
  | .scope p nm _ pre hattrs gap kids close, next, last, cut =>
    goodPathName_l2 p nm && pre.wf && hattrs.all AttrIt.swf && gap.wf && hdrGapOK_ls hattrs gap &&
      close.wf && wfItemsAll kids close false && next.lineFree (last && cut)
/-- well-formedness of a block of items followed by the filler `tp` -/
def wfItemsAll : List DocItem → Pre3 → Bool → Bool
  | [], _, _ => true
  | x :: xs, tp, cut => x.wf (firstPreAll xs tp) xs.isEmpty cut && wfItemsAll xs tp cut
end

/-- **the decidable input class**: every item well formed, the trailing filler well formed, the end
    well formed (`#phil __END__` not on the line of the last name) -/
def wfDocAll (xs : List DocItem) (post : Pre3) (e : DocEnd) : Bool :=
  wfItemsAll xs post e.isCut && post.wf && e.wf

/-- the attribute list the items leave on the definition -/
def attrsOf3 : List AttrIt3 → Attrs
  | [] => []
  | t :: ts => (if t.b then [] else [(t.n, (attrValOf t.n t.ws).getD .none)]) ++ attrsOf3 ts

/-- the line on which the filler after the attribute items starts -/
def attrsEnd3 : Nat → List AttrIt3 → Nat
  | l, [] => l
  | l, t :: ts => attrsEnd3 (endLineG (l + t.L.pre.nl) t.L.gaps t.ws + nlCount t.L.term.text) ts

mutual
/-- ids handed out: one per definition and per scope header -/
def DocItem.count : DocItem → Nat
  | .defn _ _ _ _ _ => 1
  | .scope _ _ _ _ _ _ kids _ => 1 + countAll kids
def countAll : List DocItem → Nat
  | [] => 0
  | x :: xs => x.count + countAll xs
end

mutual
/-- the line on which the filler after the item starts, when the item's filler starts on line `l` -/
def DocItem.endLn : DocItem → Nat → Nat
  | .defn _ d L _ attrs, l => attrsEnd3 (endLineG (l + L.pre.nl) L.gaps d.2 + nlCount L.term.text) attrs
  | .scope _ _ _ pre hattrs gap kids close, l =>
    itemsEndLn kids (attrsEnd (l + pre.nl) hattrs + gap.lines.length) + close.nl
def itemsEndLn : List DocItem → Nat → Nat
  | [], l => l
  | x :: xs, l => itemsEndLn xs (x.endLn l)
end

mutual
/-- **what the parser builds** for an item whose filler starts on line `l`, the next id being `i` -/
def DocItem.obj : DocItem → Nat → Nat → Obj
  | .defn p d L b attrs, l, i =>
    nestIn (some i) false p
      (.defn { name := d.1, id := some i, disabled := b, line := some (l + L.pre.nl),
               mergeNames := !p.isEmpty, attrs := attrsOf3 attrs }
        (relineG (l + L.pre.nl) L.gaps d.2))
  | .scope p nm b pre hattrs gap kids _, l, i =>
    nestIn (some i) false p
      (.scope { name := nm, id := some i, disabled := b, line := some (l + pre.nl),
                mergeNames := !p.isEmpty, attrs := sattrsOf hattrs }
        (objsAll kids (attrsEnd (l + pre.nl) hattrs + gap.lines.length) (i + 1)))
def objsAll : List DocItem → Nat → Nat → List Obj
  | [], _, _ => []
  | x :: xs, l, i => x.obj l i :: objsAll xs (x.endLn l) (i + x.count)
end

theorem DocItem.induct {P : DocItem → Prop} {Q : List DocItem → Prop}
    (defn : ∀ p d L b attrs, P (.defn p d L b attrs))
    (scope : ∀ p nm b pre hattrs gap kids close, Q kids → P (.scope p nm b pre hattrs gap kids close))
    (nil : Q []) (cons : ∀ x xs, P x → Q xs → Q (x :: xs)) : (∀ x, P x) ∧ ∀ xs, Q xs :=
  ⟨fun x => DocItem.rec defn scope nil cons x, fun xs => DocItem.rec_1 defn scope nil cons xs⟩

/-! ### text identities, well-formedness of parts -/

theorem attrsText_split_all (ts : List AttrIt3) (next : Pre3) (X : Str) :
    attrsText3 ts ++ (next.text ++ X) = (firstAttrPre ts next).text ++ afterAttrs ts next X := by
  induction ts with
  | nil => rfl
  | cons t ts ih => simp [attrsText3, firstAttrPre, afterAttrs, ih, List.append_assoc]

theorem itemsText_split_all (xs : List DocItem) (tp : Pre3) (X : Str) :
    itemsText xs ++ (tp.text ++ X) = (firstPreAll xs tp).text ++ afterPreAll xs tp X := by
  cases xs with
  | nil => rfl
  | cons x rest => simp [itemsText, firstPreAll, afterPreAll, List.append_assoc]

theorem firstAttrPre_wf_all {ts : List AttrIt3} {next : Pre3} {last cut : Bool}
    (h : wfAttrs3 ts next last cut = true) (hn : next.wf = true) : (firstAttrPre ts next).wf = true := by
  cases ts with
  | nil => exact hn
  | cons t ts =>
    simp only [wfAttrs3, Bool.and_eq_true] at h
    exact h.1.1.1.1.1.2

theorem DocItem.pre_wf_all (x : DocItem) (next : Pre3) (last cut : Bool) (h : x.wf next last cut = true) :
    x.pre.wf = true := by
  cases x with
  | defn p d L b attrs =>
    simp only [DocItem.wf, Bool.and_eq_true] at h
    exact h.1.1.1.1.1.2
  | scope p nm b pre hattrs gap kids close =>
    simp only [DocItem.wf, Bool.and_eq_true] at h
    exact h.1.1.1.1.1.1.2

theorem firstPreAll_wf_all {xs : List DocItem} {tp : Pre3} {cut : Bool}
    (h : wfItemsAll xs tp cut = true) (htp : tp.wf = true) : (firstPreAll xs tp).wf = true := by
  cases xs with
  | nil => exact htp
  | cons x rest =>
    simp only [wfItemsAll, Bool.and_eq_true] at h
    exact x.pre_wf_all _ _ _ h.1

theorem attr_nextOK_all (b : Bool) (n : String) (rest : Str) :
    NextOK (bangText_l2 b ++ (attrLead n ++ rest)) := by
  cases b <;> exact NextOK_cons _ rfl ⟨rfl, by decide, by decide⟩

theorem afterAttrs_stopHead_all (ts : List AttrIt3) (next : Pre3) {X : Str} (hX : StopHead X) :
    StopHead (afterAttrs ts next X) := by
  cases ts with
  | nil => exact hX
  | cons t ts =>
    simp only [afterAttrs, AttrIt3.body, entryText_all, List.append_assoc]
    exact StopHead.of_nextOK (attr_nextOK_all t.b t.n _)

theorem DocItem.body_stopHead_all (x : DocItem) (next : Pre3) (last cut : Bool)
    (h : x.wf next last cut = true) (rest : Str) : StopHead (x.body ++ rest) := by
  cases x with
  | defn p d L b attrs =>
    simp only [DocItem.wf, Bool.and_eq_true] at h
    obtain ⟨_, _, _, hit⟩ := goodPathName_facts_l2 h.1.1.1.1.1.1.1
    simp only [DocItem.body, entryText_all, List.append_assoc]
    exact StopHead.of_nextOK (bang_name_nextOK_l2 b hit _)
  | scope p nm b pre hattrs gap kids close =>
    simp only [DocItem.wf, Bool.and_eq_true] at h
    obtain ⟨_, _, _, hit⟩ := goodPathName_facts_l2 h.1.1.1.1.1.1.1
    simp only [DocItem.body, List.append_assoc]
    exact StopHead.of_nextOK (bang_name_nextOK_l2 b hit _)

theorem afterPreAll_stopHead_all {xs : List DocItem} {tp : Pre3} {cut : Bool}
    (h : wfItemsAll xs tp cut = true) {X : Str} (hX : StopHead X) : StopHead (afterPreAll xs tp X) := by
  cases xs with
  | nil => exact hX
  | cons x rest =>
    simp only [wfItemsAll, Bool.and_eq_true] at h
    exact x.body_stopHead_all _ _ _ h.1 _

theorem attrsEnd_ge_all (ts : List AttrIt) : ∀ l, l ≤ attrsEnd l ts := by
  induction ts with
  | nil => intro l; exact Nat.le_refl _
  | cons t ts ih =>
    intro l
    have := ih (endLine (l + t.L.pre.lines.length) t.ws + nlCount t.L.term.text)
    rw [endLine_eq] at this
    simp only [attrsEnd, endLine_eq]; omega

/-! ### the attribute items behind a definition -/

theorem entryOK_attrs_all {ws : List Word} {L : DefLayout3} {ts : List AttrIt3} {next : Pre3} {X : Str}
    {last cut : Bool} (hne : ws ≠ []) (hgood : ∀ w ∈ ws, goodWord w = true) (hsp1 : inlineB L.sp1 = true)
    (hgaps : gapsOK3 true true L.gaps ws = true) (hterm : L.term.wf = true)
    (hok : termOK3 L.term (firstAttrPre ts next) (ts.isEmpty && last) cut = true)
    (hts : wfAttrs3 ts next last cut = true) (hnext : next.wf = true) (hX : StopHead X)
    (hEof : last = true → cut = false → EofHead_l2 X) :
    EntryOK ws L (firstAttrPre ts next) (afterAttrs ts next X) where
  ne := hne
  good := hgood
  sp1 := hsp1
  gaps := hgaps
  term := hterm
  nextWf := firstAttrPre_wf_all hts hnext
  stop := afterAttrs_stopHead_all ts next hX
  eof := eof_next_all hok (by
    intro h1 h2
    simp only [Bool.and_eq_true, List.isEmpty_iff] at h1
    obtain ⟨rfl, hl⟩ := h1
    exact hEof hl h2)

/-- the turns of `collect_objects` over the attribute items `ts` behind the pending definition `d`
    (regions in front of each included): `d` gets the attributes `attrsOf3 ts`, no id is used, and the
    tokenizer is at the filler `next` -/
theorem attrsRun_all : ∀ (ts : List AttrIt3) (st : PState) (l prevLine : Nat) (acc : List Obj)
    (d : Obj) (stop : Option Word) (next : Pre3) (X : Str) (last cut : Bool),
    wfAttrs3 ts next last cut = true → next.wf = true → StopHead X →
    (last = true → cut = false → EofHead_l2 X) →
    FreshPre prevLine (firstAttrPre ts next) (ts.isEmpty && last && cut) l →
    AtPre st.ci (firstAttrPre ts next) (afterAttrs ts next X) l →
    ∃ st1 prevLine1,
      (∀ r, Runs st1 stop prevLine1 acc (some (d.addAttrs (attrsOf3 ts))) r →
        Runs st stop prevLine acc (some d) r) ∧
      st1.nextId = st.nextId ∧ AtPre st1.ci next X (attrsEnd3 l ts) ∧ l ≤ attrsEnd3 l ts ∧
      FreshPre prevLine1 next (last && cut) (attrsEnd3 l ts) := by
  intro ts
  induction ts with
  | nil =>
    intro st l prevLine acc d stop next X last cut _ _ _ _ hfresh hat
    refine ⟨st, prevLine, ?_, rfl, hat, Nat.le_refl _, ?_⟩
    · rw [attrsOf3, addAttrs_nil_la]; exact fun _ h => h
    · simpa [firstAttrPre, attrsEnd3] using hfresh
  | cons t ts ih =>
    intro st l prevLine acc d stop next X last cut hwf hnext hX hEof hfresh hat
    simp only [wfAttrs3, Bool.and_eq_true] at hwf
    obtain ⟨⟨⟨⟨⟨⟨hga, hpre⟩, hsp1⟩, hgaps⟩, hterm⟩, hok⟩, hrest⟩ := hwf
    simp only [goodAttr3, Bool.and_eq_true, Bool.not_eq_true', List.isEmpty_eq_false_iff,
      List.all_eq_true, Bool.or_eq_true] at hga
    obtain ⟨⟨⟨hn, hne⟩, hgood⟩, hval⟩ := hga
    obtain ⟨st', hs1, hs2, hs3⟩ := skipPre_all t.L.pre (afterAttrs (t :: ts) next X) hpre
      st stop prevLine acc (some d) l
      (fun h => hfresh (h.elim Or.inl (fun h => by cases h))) hat
    obtain ⟨ci4, he1, he2⟩ := attr_turn_all t.n t.b t.L.pre.ind hn hval (Pre3.wf_facts hpre).2.2
      (entryOK_attrs_all hne hgood hsp1 hgaps hterm hok hrest hnext hX hEof)
      st' stop prevLine acc d (l + t.L.pre.nl)
      (by rw [hs3]; simp [afterAttrs, AttrIt3.body, List.append_assoc])
    have hge := endLineG_ge t.ws t.L.gaps (l + t.L.pre.nl)
    have hfr := entry_fresh_all t.L.term (firstAttrPre ts next) (ts.isEmpty && last) cut hok
      (l + t.L.pre.nl) (endLineG (l + t.L.pre.nl) t.L.gaps t.ws) hge
    -- the active definition after this item
    have hd : applyAttr (some d) t.n t.ws t.b
        = some (d.addAttrs (if t.b then [] else [(t.n, (attrValOf t.n t.ws).getD .none)])) := by
      cases t.b
      · rfl
      · exact congrArg some (addAttrs_nil_la d).symm
    obtain ⟨st1, pl1, hi1, hi2, hi3, hi4, hi5⟩ := ih { ci := ci4, nextId := st'.nextId }
      (endLineG (l + t.L.pre.nl) t.L.gaps t.ws + nlCount t.L.term.text) (l + t.L.pre.nl) acc _ stop next X
      last cut hrest hnext hX hEof hfr he2
    refine ⟨st1, pl1, fun r h => hs1 r (Runs.step 1 he1 ?_), by rw [hi2]; exact hs2, hi3, ?_, hi5⟩
    · rw [hd]
      apply hi1
      rw [addAttrs_addAttrs_la]
      exact h
    · simp only [attrsEnd3] at hi4 ⊢; omega

/-! ### `collect_objects` over items and blocks -/

/-- how a block ends: with `#phil __END__` (`cut`), or with the end of the text (outermost level) or
    `}` (inside a scope) -/
def TailAll (stop : Option Word) (cut : Bool) (X : Str) : Prop :=
  (cut = true ∧ ∃ b1 tail, (DocEnd.cut b1 tail).wf = true ∧ X = (DocEnd.cut b1 tail).text) ∨
  (cut = false ∧ stop = none ∧ X = []) ∨
  (cut = false ∧ ∃ sw after, stop = some sw ∧ X = '}' :: after)

theorem TailAll.stopHead {stop : Option Word} {cut : Bool} {X : Str} (h : TailAll stop cut X) : StopHead X := by
  rcases h with ⟨_, b1, tail, hw, rfl⟩ | ⟨_, _, rfl⟩ | ⟨_, _, after, _, rfl⟩
  · exact DocEnd.stopHead _
  · exact .of_nextOK NextOK_nil
  · exact .of_nextOK (NextOK_cons after rfl ⟨rfl, by decide, by decide⟩)

theorem TailAll.eofHead {stop : Option Word} {X : Str} (h : TailAll stop false X) : EofHead_l2 X := by
  rcases h with ⟨hc, _⟩ | ⟨_, _, rfl⟩ | ⟨_, _, after, _, rfl⟩
  · cases hc
  · exact Or.inl rfl
  · exact Or.inr ⟨after, rfl⟩

/-- the turns of `collect_objects` over one item (regions in front, the item, its attribute items or
    — for a scope — the recursive call): the object `x.obj l i` is added to the objects of the
    enclosing scope, `x.count` ids are used, and the tokenizer is at the filler `next`.
    `0 < l`: a scope body is entered with `prevLine = 0`, which must be no line of the text.
    (`ItemTurn_all` / `BlockRun_all` are for laid-out documents what `StepAtC` / `BlockAtC` of
    Phil/Proofs/AttrTrees.lean are for printed trees: the same induction over items and blocks, stated over `Runs`.) -/
def ItemTurn_all (x : DocItem) : Prop :=
  ∀ (last cut : Bool) (st : PState) (l prevLine : Nat) (acc : List Obj)
    (pending : Option Obj) (stop : Option Word) (next : Pre3) (X : Str),
    x.wf next last cut = true → next.wf = true → StopHead X →
    (last = true → cut = false → EofHead_l2 X) →
    0 < l →
    FreshPre prevLine x.pre false l →
    AtPre st.ci x.pre (x.body ++ (next.text ++ X)) l →
    ∃ st1 acc1 pending1 prevLine1,
      (∀ r, Runs st1 stop prevLine1 acc1 pending1 r → Runs st stop prevLine acc pending r) ∧
      flush acc1 pending1 = flush acc pending ++ [x.obj l st.nextId] ∧
      st1.nextId = st.nextId + x.count ∧
      AtPre st1.ci next X (x.endLn l) ∧ l ≤ x.endLn l ∧
      FreshPre prevLine1 next (last && cut) (x.endLn l)

/-- `collect_objects` over a block of items up to its end -/
def BlockRun_all (xs : List DocItem) : Prop :=
  ∀ (st : PState) (l prevLine : Nat) (acc : List Obj) (pending : Option Obj)
    (stop : Option Word) (tp : Pre3) (X : Str) (cut : Bool),
    wfItemsAll xs tp cut = true → tp.wf = true → TailAll stop cut X → 0 < l →
    FreshPre prevLine (firstPreAll xs tp) (xs.isEmpty && cut) l →
    AtPre st.ci (firstPreAll xs tp) (afterPreAll xs tp X) l →
    ∃ st', Runs st stop prevLine acc pending
        (blockResult stop cut (flush acc pending ++ objsAll xs l st.nextId, st')) ∧
      st'.nextId = st.nextId + countAll xs ∧ l ≤ itemsEndLn xs l ∧
      (∀ after, X = '}' :: after → st'.ci = ⟨after, itemsEndLn xs l + tp.nl⟩)

theorem blockResult_runs {st : PState} {stop : Option Word} {prev : Nat} {acc : List Obj} {pending : Option Obj}
    {cut : Bool} {v : List Obj × PState} (fuel : Nat)
    (h : collectObjects fuel st stop prev acc pending = blockResult stop cut v) :
    Runs st stop prev acc pending (blockResult stop cut v) :=
  ⟨by unfold blockResult; split <;> simp, fuel, h⟩

theorem itemTurn_defn_all (p : List Str) (d : DefSpec) (L : DefLayout3) (b : Bool) (attrs : List AttrIt3) :
    ItemTurn_all (.defn p d L b attrs) := by
  intro last cut st l prevLine acc pending stop next X hwf hnext hX hEof hl hfresh hat
  simp only [DocItem.wf, Bool.and_eq_true] at hwf
  obtain ⟨⟨⟨⟨⟨⟨⟨hpn, hgd⟩, hpre⟩, hsp1⟩, hgaps⟩, hterm⟩, hok⟩, hattrs⟩ := hwf
  obtain ⟨hp, hn, _, hit⟩ := goodPathName_facts_l2 hpn
  obtain ⟨_, hne, hgood⟩ := goodDef3_facts hgd
  obtain ⟨_, _, hpi⟩ := Pre3.wf_facts hpre
  obtain ⟨st', hs1, hs2, hs3⟩ := skipPre_all L.pre _ hpre st stop prevLine acc pending l hfresh hat
  obtain ⟨ci4, he1, he2⟩ := defn_turn_all (dottedName p d.1) b L.pre.ind hit hpi
    (entryOK_attrs_all hne hgood hsp1 hgaps hterm hok hattrs hnext hX hEof)
    st' stop prevLine acc pending (l + L.pre.nl)
    (by
      rw [hs3]
      simp [DocItem.body, List.append_assoc, attrsText_split_all])
  have hge := endLineG_ge d.2 L.gaps (l + L.pre.nl)
  have hfr := entry_fresh_all L.term (firstAttrPre attrs next) (attrs.isEmpty && last) cut hok
    (l + L.pre.nl) (endLineG (l + L.pre.nl) L.gaps d.2) hge
  obtain ⟨st1, pl1, hi1, hi2, hi3, hi4, hi5⟩ := attrsRun_all attrs { ci := ci4, nextId := st'.nextId + 1 }
    (endLineG (l + L.pre.nl) L.gaps d.2 + nlCount L.term.text) (l + L.pre.nl) (flush acc pending)
    (.defn { name := dottedName p d.1, id := some st'.nextId, disabled := b, line := some (l + L.pre.nl) }
      (relineG (l + L.pre.nl) L.gaps d.2)) stop next X last cut hattrs hnext hX hEof hfr he2
  refine ⟨st1, flush acc pending,
    some ((Obj.defn { name := dottedName p d.1, id := some st'.nextId, disabled := b, line := some (l + L.pre.nl) }
      (relineG (l + L.pre.nl) L.gaps d.2)).addAttrs (attrsOf3 attrs)), pl1,
    fun r h => hs1 r (Runs.step 1 he1 (hi1 r h)), ?_, ?_, hi3, ?_, hi5⟩
  · simp only [flush, adopt, DocItem.obj]
    rw [wrapDotted_dotted _ p d.1 rfl (fun n hn' => (hp.snoc hn).noDots n hn') rfl, hs2]
    rfl
  · rw [hi2]; simp only [DocItem.count]; omega
  · simp only [DocItem.endLn] at hi4 ⊢; omega

theorem itemTurn_scope_all (p : List Str) (nm : Str) (b : Bool) (pre : Pre3) (hattrs : List AttrIt)
    (gap : Pre) (kids : List DocItem) (close : Pre3) (ih : BlockRun_all kids) :
    ItemTurn_all (.scope p nm b pre hattrs gap kids close) := by
  intro last cut st l prevLine acc pending stop next X hwf hnext hX _ hl hfresh hat
  simp only [DocItem.wf, Bool.and_eq_true, List.all_eq_true] at hwf
  obtain ⟨⟨⟨⟨⟨⟨⟨hpn, hpre⟩, hts⟩, hgap⟩, hgok⟩, hclose⟩, hkids⟩, hlf⟩ := hwf
  obtain ⟨hp, hn, _, hit⟩ := goodPathName_facts_l2 hpn
  obtain ⟨_, _, hpi⟩ := Pre3.wf_facts hpre
  obtain ⟨st', hs1, hs2, hs3⟩ := skipPre_all pre _ hpre st stop prevLine acc pending l hfresh hat
  -- the header
  have hhead := fun fuel => scope_hdr_turn_ls (dottedName p nm) b pre.ind hattrs gap
    (itemsText kids ++ (close.text ++ ('}' :: (next.text ++ X))))
    hit hpi hts hgap hgok fuel st' stop prevLine acc pending (l + pre.nl)
    (by
      rw [hs3]
      simp [DocItem.body, hdrText_append_ls, List.append_assoc])
  -- the body
  have hage := attrsEnd_ge_all hattrs (l + pre.nl)
  obtain ⟨st'', hrun, hnid, hmono, hci'⟩ := ih
    { ci := ⟨itemsText kids ++ (close.text ++ ('}' :: (next.text ++ X))),
             attrsEnd (l + pre.nl) hattrs + gap.lines.length⟩, nextId := st'.nextId + 1 }
    (attrsEnd (l + pre.nl) hattrs + gap.lines.length) 0 [] none
    (some { value := ['{'], quote := none, line := some (attrsEnd (l + pre.nl) hattrs + gap.lines.length) })
    close ('}' :: (next.text ++ X)) false hkids hclose (Or.inr (Or.inr ⟨rfl, _, _, rfl, rfl⟩)) (by omega)
    (by intro _; omega)
    (congrArg _ (congrArg (CI.mk · _) (itemsText_split_all kids close _)))
  have hci'' := hci' _ rfl
  refine ⟨st'', adopt (flush acc pending)
      (.scope { name := dottedName p nm, id := some st'.nextId, disabled := b,
                line := some (l + pre.nl), attrs := sattrsOf hattrs }
        (objsAll kids (attrsEnd (l + pre.nl) hattrs + gap.lines.length) (st'.nextId + 1))),
    none, l + pre.nl, fun r h => hs1 r (Runs.scope hhead hrun h), ?_, ?_, ?_, ?_, ?_⟩
  · simp only [flush, adopt, DocItem.obj]
    rw [wrapDotted_dotted _ p nm rfl (fun n hn' => (hp.snoc hn).noDots n hn') rfl, hs2]
    rfl
  · rw [hnid, hs2]; simp only [DocItem.count]; omega
  · exact congrArg _ hci''
  · simp only [DocItem.endLn]; omega
  · apply lineFree_fresh_all hlf
    simp only [DocItem.endLn]; omega

theorem blockRun_nil_all : BlockRun_all [] := by
  intro st l prevLine acc pending stop tp X cut _ htp htail hl hfresh hat
  obtain ⟨_, _, hind⟩ := Pre3.wf_facts htp
  simp only [firstPreAll, afterPreAll] at hat hfresh
  obtain ⟨st1, h1, h2, h3⟩ := skipPre_all tp X htp st stop prevLine acc pending l
    (fun h => hfresh (h.elim Or.inl (fun h => by cases h))) hat
  rcases htail with ⟨rfl, b1, tail, he, rfl⟩ | ⟨rfl, rfl, rfl⟩ | ⟨rfl, sw, after, rfl, rfl⟩
  · simp only [DocEnd.wf, Bool.and_eq_true, Bool.not_eq_true', List.isEmpty_eq_false_iff] at he
    obtain ⟨⟨hb1, hb1n⟩, htl⟩ := he
    obtain ⟨hw1, hw2⟩ := nextWord_directive tp.ind b1 "__END__".toList tail '_'
      "_END__".toList rfl hind hb1 hb1n (by decide) (by rfl) (by rfl) htl (l + tp.nl)
    simp only [DocEnd.text] at h3
    rw [hw1] at h3
    have hlt := hfresh (Or.inr (by simp))
    have hle := hLines3_le tp.segs tp.lines
    refine ⟨{ st1 with ci := ⟨tail, l + tp.nl⟩ }, h1 _ (blockResult_runs 1 ?_), by simp [countAll, h2],
      Nat.le_refl _, ?_⟩
    · rw [collectObjects_cut_step 0 st1 stop prevLine acc pending _ _ _ _ h3 rfl rfl
        (by intro e'; simp only [Option.some.injEq, Pre3.nl] at e'; omega) hw2 rfl rfl]
      simp [objsAll]
    · intro after e
      simp [DocEnd.text, philWord] at e
  · refine ⟨st1, h1 _ (blockResult_runs 1 ?_), by simp [countAll, h2], Nat.le_refl _, by intro after e; cases e⟩
    rw [collectObjects_end 0 st1 prevLine acc pending (by
      rw [h3, List.append_nil]
      exact nextWordAux_blank_eof structSettings _ _ (inlineB_space hind))]
    simp [objsAll, blockResult]
  · have h1' : nextWord structSettings st1.ci
        = .ok (some ({ value := ['}'], quote := none, line := some (l + tp.nl) }, ⟨after, l + tp.nl⟩)) := by
      rw [h3]
      have := nextWord_struct_close tp.ind after (l + tp.nl) (inlineB_space hind)
      rw [inlineB_nl hind, Nat.add_zero] at this
      exact this
    refine ⟨{ st1 with ci := ⟨after, l + tp.nl⟩ }, h1 _ (blockResult_runs 1 ?_), by simp [countAll, h2],
      Nat.le_refl _, ?_⟩
    · rw [collectObjects_close_l2 0 st1 sw _ _ prevLine acc pending h1' rfl rfl]
      simp [objsAll, blockResult]
    · intro after' e
      simp only [List.cons.injEq, true_and] at e
      subst e
      simp [itemsEndLn]

theorem blockRun_cons_all (x : DocItem) (xs : List DocItem) (hx : ItemTurn_all x) (hxs : BlockRun_all xs) :
    BlockRun_all (x :: xs) := by
  intro st l prevLine acc pending stop tp X cut hwf htp htail hl hfresh hat
  simp only [wfItemsAll, Bool.and_eq_true] at hwf
  obtain ⟨hwx, hwxs⟩ := hwf
  have hfp := firstPreAll_wf_all hwxs htp
  obtain ⟨st1, acc1, pending1, prevLine1, hstep, hflush, hnid, hnext, hmono, hfr⟩ :=
    hx xs.isEmpty cut st l prevLine acc pending stop (firstPreAll xs tp) (afterPreAll xs tp X) hwx hfp
      (afterPreAll_stopHead_all hwxs htail.stopHead)
      (by
        intro he hc
        simp only [List.isEmpty_iff] at he
        subst he; subst hc
        exact htail.eofHead)
      hl
      (fun h => hfresh (h.elim Or.inl (fun h => by cases h)))
      (by
        rw [← itemsText_split_all]
        exact hat)
  obtain ⟨st', hrun, hnid', hmono', hci'⟩ := hxs st1 (x.endLn l) prevLine1 acc1 pending1 stop tp X cut hwxs htp
    htail (by omega) hfr hnext
  refine ⟨st', ?_, ?_, ?_, ?_⟩
  · have := hstep _ hrun
    rw [hflush, hnid] at this
    simpa [objsAll] using this
  · rw [hnid', hnid]; simp only [countAll]; omega
  · simp only [itemsEndLn]; omega
  · intro after e
    rw [hci' after e]
    simp [itemsEndLn]

theorem turns_all : (∀ x, ItemTurn_all x) ∧ ∀ xs, BlockRun_all xs :=
  DocItem.induct itemTurn_defn_all itemTurn_scope_all blockRun_nil_all blockRun_cons_all

/-! ### the whole document -/
theorem wfDocAll_facts {xs : List DocItem} {post : Pre3} {e : DocEnd} (h : wfDocAll xs post e = true) :
    wfItemsAll xs post e.isCut = true ∧ post.wf = true ∧ e.wf = true := by
  simp only [wfDocAll, Bool.and_eq_true] at h
  exact ⟨h.1.1, h.1.2, h.2⟩

theorem tailAll_docEnd_all {e : DocEnd} (h : e.wf = true) : TailAll none e.isCut e.text := by
  cases e with
  | eof => exact Or.inr (Or.inl ⟨rfl, rfl, rfl⟩)
  | cut b1 tail => exact Or.inl ⟨rfl, b1, tail, h, rfl⟩

/-- **`parse` of a whole document under the one layout grammar** -/
theorem parseObjs_renderAll (xs : List DocItem) (post : Pre3) (e : DocEnd) (h : wfDocAll xs post e = true) :
    parseObjs (renderAll xs post e) = .ok (objsAll xs 1 1) := by
  obtain ⟨hwf, hpost, he⟩ := wfDocAll_facts h
  obtain ⟨st', hrun, _, _, _⟩ := turns_all.2 xs { ci := ⟨renderAll xs post e, 1⟩, nextId := 1 } 1 0 []
    none none post e.text e.isCut hwf hpost (tailAll_docEnd_all he) (by omega) (by intro _; omega)
    (congrArg _ (congrArg (CI.mk · _) (itemsText_split_all xs post _)))
  exact Runs.parseObjs_ok (by simpa [flush, blockResult] using hrun)

/-! ### the abstract tree: a function of the contents only -/

mutual
/-- the abstract tree of an item: names, dotted-chain structure, `!` flags, words without lines,
    attribute values — nothing of the layout, no ids, no lines -/
def DocItem.tree : DocItem → Obj
  | .defn p d _ b attrs =>
    nestIn none false p
      (.defn { name := d.1, disabled := b, mergeNames := !p.isEmpty, attrs := attrsOf3 attrs }
        (d.2.map Word.erase))
  | .scope p nm b _ hattrs _ kids _ =>
    nestIn none false p
      (.scope { name := nm, disabled := b, mergeNames := !p.isEmpty, attrs := sattrsOf hattrs } (docTree kids))
/-- **the abstract tree of a document** -/
def docTree : List DocItem → List Obj
  | [] => []
  | x :: xs => x.tree :: docTree xs
end

theorem objsAll_erase_all : ∀ (xs : List DocItem) (tp : Pre3) (cut : Bool) (l i : Nat),
    wfItemsAll xs tp cut = true → eraseList (objsAll xs l i) = docTree xs := by
  refine (DocItem.induct (P := fun x => ∀ (next : Pre3) (last cut : Bool) (l i : Nat),
    x.wf next last cut = true → (x.obj l i).erase = x.tree) ?_ ?_ ?_ ?_).2
  · intro p d L b attrs next last cut l i hwf
    simp only [DocItem.wf, Bool.and_eq_true] at hwf
    have hlen := gapsOK3_length d.2 L.gaps true true hwf.1.1.1.2
    rw [DocItem.obj, DocItem.tree, nestIn_erase]
    simp [Obj.erase, Meta.erase, relineG_erase d.2 L.gaps _ hlen]
  · intro p nm b pre hattrs gap kids close ih next last cut l i hwf
    simp only [DocItem.wf, Bool.and_eq_true] at hwf
    rw [DocItem.obj, DocItem.tree, nestIn_erase, Obj.erase_scope, ih close false _ _ hwf.1.2]
    rfl
  · intro _ _ _ _ _; rfl
  · intro x xs ihx ihxs tp cut l i hwf
    simp only [wfItemsAll, Bool.and_eq_true] at hwf
    rw [objsAll, docTree, eraseList_cons, ihx _ _ _ l i hwf.1, ihxs tp cut _ _ hwf.2]

/-! ### `!` on items -/

mutual
/-- the item without any `!` on definitions and scopes (attribute items keep theirs) -/
def DocItem.unbang : DocItem → DocItem
  | .defn p d L _ attrs => .defn p d L false attrs
  | .scope p nm _ pre hattrs gap kids close => .scope p nm false pre hattrs gap (docUnbang kids) close
def docUnbang : List DocItem → List DocItem
  | [] => []
  | x :: xs => x.unbang :: docUnbang xs
end

mutual
/-- the `!` flags of an item, one per object of its tree in document order (a scope before its items);
    the scopes built for the leading components of a dotted name are never disabled -/
def DocItem.flags : DocItem → List Bool
  | .defn p _ _ b _ => List.replicate p.length false ++ [b]
  | .scope p _ b _ _ _ kids _ => List.replicate p.length false ++ b :: docFlags kids
def docFlags : List DocItem → List Bool
  | [] => []
  | x :: xs => x.flags ++ docFlags xs
end

theorem docTree_unbang_all : ∀ (xs : List DocItem),
    docTree (docUnbang xs) = enableAllList (docTree xs) ∧ disabledFlagsList (docTree xs) = docFlags xs := by
  refine (DocItem.induct
    (P := fun x => x.unbang.tree = x.tree.enableAll ∧ x.tree.disabledFlags = x.flags) ?_ ?_ ?_ ?_).2
  · intro p d L b attrs
    constructor
    · rw [DocItem.unbang, DocItem.tree, DocItem.tree, enableAll_nestIn_l2]; rfl
    · rw [DocItem.tree, disabledFlags_nestIn_l2, DocItem.flags]; rfl
  · intro p nm b pre hattrs gap kids close ih
    constructor
    · rw [DocItem.unbang, DocItem.tree, DocItem.tree, enableAll_nestIn_l2, ih.1]; rfl
    · rw [DocItem.tree, disabledFlags_nestIn_l2, DocItem.flags, Obj.disabledFlags, ih.2]
  · exact ⟨rfl, rfl⟩
  · intro x xs ihx ihxs
    constructor
    · rw [docUnbang, docTree, docTree, enableAllList, ihx.1, ihxs.1]
    · rw [docTree, disabledFlagsList, docFlags, ihx.2, ihxs.2]

theorem wfDocAll_unbang_all (xs : List DocItem) (post : Pre3) (e : DocEnd) :
    wfDocAll (docUnbang xs) post e = wfDocAll xs post e := by
  have key : ∀ (xs : List DocItem), (∀ tp, firstPreAll (docUnbang xs) tp = firstPreAll xs tp) ∧
      (docUnbang xs).isEmpty = xs.isEmpty ∧
      ∀ tp cut, wfItemsAll (docUnbang xs) tp cut = wfItemsAll xs tp cut := by
    refine (DocItem.induct (P := fun x => x.unbang.pre = x.pre ∧
      ∀ next last cut, x.unbang.wf next last cut = x.wf next last cut) ?_ ?_ ?_ ?_).2
    · exact fun _ _ _ _ _ => ⟨rfl, fun _ _ _ => rfl⟩
    · intro p nm b pre hattrs gap kids close ih
      refine ⟨rfl, fun next last cut => ?_⟩
      simp only [DocItem.unbang, DocItem.wf, ih.2.2]
    · exact ⟨fun _ => rfl, rfl, fun _ _ => rfl⟩
    · intro x xs ihx ihxs
      refine ⟨fun tp => ?_, rfl, fun tp cut => ?_⟩
      · simp only [docUnbang, firstPreAll, ihx.1]
      · simp only [docUnbang, wfItemsAll, ihx.2, ihxs.1, ihxs.2.1, ihxs.2.2]
  simp only [wfDocAll, (key xs).2.2]

theorem attrsOf3_append_all (ts1 ts2 : List AttrIt3) : attrsOf3 (ts1 ++ ts2) = attrsOf3 ts1 ++ attrsOf3 ts2 := by
  induction ts1 with
  | nil => rfl
  | cons t ts ih => rw [List.cons_append, attrsOf3, attrsOf3, ih, List.append_assoc]

/-! ### a document cut inside a scope body (unclosed braces at the cut) -/

/-- items followed by more of the same block: none of them is the last one -/
def wfPrefixAll : List DocItem → Pre3 → Bool
  | [], _ => true
  | x :: xs, next => x.wf (firstPreAll xs next) false false && wfPrefixAll xs next

theorem firstPreAll_wfPrefix_all {xs : List DocItem} {next : Pre3}
    (h : wfPrefixAll xs next = true) (hn : next.wf = true) : (firstPreAll xs next).wf = true := by
  cases xs with
  | nil => exact hn
  | cons x rest =>
    simp only [wfPrefixAll, Bool.and_eq_true] at h
    exact x.pre_wf_all _ _ _ h.1

theorem afterPreAll_stopHead_prefix_all {xs : List DocItem} {next : Pre3}
    (h : wfPrefixAll xs next = true) {X : Str} (hX : StopHead X) : StopHead (afterPreAll xs next X) := by
  cases xs with
  | nil => exact hX
  | cons x rest =>
    simp only [wfPrefixAll, Bool.and_eq_true] at h
    exact x.body_stopHead_all _ _ _ h.1 _

theorem itemsRun_all : ∀ (xs : List DocItem) (st : PState) (l prevLine : Nat) (acc : List Obj)
    (pending : Option Obj) (stop : Option Word) (next : Pre3) (X : Str),
    wfPrefixAll xs next = true → next.wf = true → StopHead X → 0 < l →
    FreshPre prevLine (firstPreAll xs next) false l →
    AtPre st.ci (firstPreAll xs next) (afterPreAll xs next X) l →
    ∃ st1 acc1 pending1 prevLine1,
      (∀ r, Runs st1 stop prevLine1 acc1 pending1 r → Runs st stop prevLine acc pending r) ∧
      AtPre st1.ci next X (itemsEndLn xs l) ∧ l ≤ itemsEndLn xs l ∧
      FreshPre prevLine1 next false (itemsEndLn xs l) := by
  intro xs
  induction xs with
  | nil =>
    intro st l prevLine acc pending stop next X _ _ _ _ hfresh hat
    exact ⟨st, acc, pending, prevLine, fun _ h => h, hat, Nat.le_refl _, hfresh⟩
  | cons x xs ih =>
    intro st l prevLine acc pending stop next X hwf hnext hX hl hfresh hat
    simp only [wfPrefixAll, Bool.and_eq_true] at hwf
    obtain ⟨hwx, hwxs⟩ := hwf
    obtain ⟨st1, acc1, pending1, prevLine1, hstep, _, _, hnext', hmono, hfr⟩ :=
      turns_all.1 x false false st l prevLine acc pending stop (firstPreAll xs next)
        (afterPreAll xs next X) hwx (firstPreAll_wfPrefix_all hwxs hnext)
        (afterPreAll_stopHead_prefix_all hwxs hX) (by intro h; cases h) hl hfresh
        (by rw [← itemsText_split_all]; exact hat)
    obtain ⟨st2, acc2, pending2, prevLine2, hrun, hat2, hmono2, hfr2⟩ :=
      ih st1 (x.endLn l) prevLine1 acc1 pending1 stop next X hwxs hnext hX (by omega) hfr hnext'
    refine ⟨st2, acc2, pending2, prevLine2, fun r h => hstep r (hrun r h), hat2, ?_, hfr2⟩
    simp only [itemsEndLn]; omega

/-- **A document cut inside a scope body.**  `here xs tp b1 tail`: the items `xs`, the filler `tp` and
    `#phil __END__` + tail; `deeper xs … inner`: the items `xs`, then the header of a scope that is
    never closed, whose body is `inner`. -/
inductive CutDoc
  | here (xs : List DocItem) (tp : Pre3) (b1 tail : Str)
  | deeper (xs : List DocItem) (p : List Str) (nm : Str) (b : Bool) (pre : Pre3) (hattrs : List AttrIt)
      (gap : Pre) (inner : CutDoc)

def CutDoc.text : CutDoc → Str
  | .here xs tp b1 tail => itemsText xs ++ (tp.text ++ (DocEnd.cut b1 tail).text)
  | .deeper xs p nm b pre hattrs gap inner =>
    itemsText xs ++ (pre.text ++ (bangText_l2 b ++ (dottedName p nm ++ hdrText_ls hattrs gap inner.text)))

def CutDoc.firstPre : CutDoc → Pre3
  | .here xs tp _ _ => firstPreAll xs tp
  | .deeper xs _ _ _ pre _ _ _ => firstPreAll xs pre

def CutDoc.after : CutDoc → Str
  | .here xs tp b1 tail => afterPreAll xs tp (DocEnd.cut b1 tail).text
  | .deeper xs p nm b pre hattrs gap inner =>
    afterPreAll xs pre (bangText_l2 b ++ (dottedName p nm ++ hdrText_ls hattrs gap inner.text))

def CutDoc.wf : CutDoc → Bool
  | .here xs tp b1 tail => wfItemsAll xs tp true && tp.wf && (DocEnd.cut b1 tail).wf
  | .deeper xs p nm _ pre hattrs gap inner =>
    wfPrefixAll xs pre && goodPathName_l2 p nm && pre.wf && hattrs.all AttrIt.swf && gap.wf &&
      hdrGapOK_ls hattrs gap && inner.wf

def CutDoc.isHere : CutDoc → Bool
  | .here .. => true
  | .deeper .. => false

/-- the cut stands directly behind the first filler -/
def CutDoc.firstCut : CutDoc → Bool
  | .here xs _ _ _ => xs.isEmpty
  | .deeper .. => false

/-- the line cited by the error: the line of the innermost `{` that is open at the cut (`enc`: the
    line of the brace that encloses the whole piece); `l` is the line on which the piece starts -/
def CutDoc.errLine : CutDoc → Nat → Option Nat → Option Nat
  | .here .., _, enc => enc
  | .deeper xs _ _ _ pre hattrs gap inner, l, _ =>
    inner.errLine (attrsEnd (itemsEndLn xs l + pre.nl) hattrs + gap.lines.length)
      (some (attrsEnd (itemsEndLn xs l + pre.nl) hattrs + gap.lines.length))

theorem CutDoc.text_split_all (c : CutDoc) : c.text = c.firstPre.text ++ c.after := by
  cases c with
  | here xs tp b1 tail => exact itemsText_split_all xs tp _
  | deeper xs p nm b pre hattrs gap inner => exact itemsText_split_all xs pre _

theorem cutRun_all : ∀ (c : CutDoc) (st : PState) (l prevLine : Nat) (acc : List Obj)
    (pending : Option Obj) (stop : Option Word) (enc : Option Nat),
    c.wf = true → 0 < l → (∀ sw, stop = some sw → sw.line = enc) →
    (c.isHere = true → stop.isSome = true) →
    FreshPre prevLine c.firstPre c.firstCut l → AtPre st.ci c.firstPre c.after l →
    Runs st stop prevLine acc pending (.error (.runtime "no_matching_brace" (c.errLine l enc))) := by
  intro c
  induction c with
  | here xs tp b1 tail =>
    intro st l prevLine acc pending stop enc hwf hl henc hstop hfresh hat
    simp only [CutDoc.wf, Bool.and_eq_true] at hwf
    obtain ⟨sw, rfl⟩ : ∃ sw, stop = some sw := Option.isSome_iff_exists.mp (hstop rfl)
    obtain ⟨st', hrun, _⟩ := turns_all.2 xs st l prevLine acc pending (some sw) tp
      (DocEnd.cut b1 tail).text true hwf.1.1 hwf.1.2 (Or.inl ⟨rfl, b1, tail, hwf.2, rfl⟩)
      hl (by simpa [CutDoc.firstPre, CutDoc.firstCut] using hfresh) hat
    simpa [blockResult, CutDoc.errLine, henc sw rfl] using hrun
  | deeper xs p nm b pre hattrs gap inner ih =>
    intro st l prevLine acc pending stop enc hwf hl _ _ hfresh hat
    simp only [CutDoc.wf, Bool.and_eq_true, List.all_eq_true] at hwf
    obtain ⟨⟨⟨⟨⟨⟨hxs, hpn⟩, hpre⟩, hts⟩, hgap⟩, hgok⟩, hin⟩ := hwf
    obtain ⟨_, _, _, hit⟩ := goodPathName_facts_l2 hpn
    obtain ⟨_, _, hpi⟩ := Pre3.wf_facts hpre
    obtain ⟨st1, acc1, pending1, prevLine1, hrun1, hat1, hmono1, hfr1⟩ :=
      itemsRun_all xs st l prevLine acc pending stop pre
        (bangText_l2 b ++ (dottedName p nm ++ hdrText_ls hattrs gap inner.text)) hxs hpre
        (StopHead.of_nextOK (bang_name_nextOK_l2 b hit _)) hl hfresh hat
    obtain ⟨st2, hs1, hs2, hs3⟩ := skipPre_all pre _ hpre st1 stop prevLine1 acc1 pending1
      (itemsEndLn xs l) hfr1 hat1
    have hhead := fun f => scope_hdr_turn_ls (dottedName p nm) b pre.ind hattrs gap inner.text
      hit hpi hts hgap hgok f st2 stop prevLine1 acc1 pending1 (itemsEndLn xs l + pre.nl) hs3
    have hage := attrsEnd_ge_all hattrs (itemsEndLn xs l + pre.nl)
    have hinner := ih
      { ci := ⟨inner.text, attrsEnd (itemsEndLn xs l + pre.nl) hattrs + gap.lines.length⟩, nextId := st2.nextId + 1 }
      (attrsEnd (itemsEndLn xs l + pre.nl) hattrs + gap.lines.length) 0 [] none
      (some { value := ['{'], quote := none,
              line := some (attrsEnd (itemsEndLn xs l + pre.nl) hattrs + gap.lines.length) })
      (some (attrsEnd (itemsEndLn xs l + pre.nl) hattrs + gap.lines.length))
      hin (by omega) (by intro sw h; cases h; rfl) (fun _ => rfl) (by intro _; omega)
      (congrArg _ (congrArg (CI.mk · _) inner.text_split_all))
    exact hrun1 _ (hs1 _ (Runs.scope_error hhead hinner))

/-- **`#phil __END__` inside a scope body**: `parse` fails with "no matching `}`" citing the line of
    the innermost brace that is open at the cut -/
theorem parseObjs_cut_in_scope_all (c : CutDoc) (h : c.wf = true) (hd : c.isHere = false) :
    parseObjs c.text = .error (.runtime "no_matching_brace" (c.errLine 1 none)) :=
  Runs.parseObjs_error (cutRun_all c { ci := ⟨c.text, 1⟩, nextId := 1 } 1 0 [] none none none h
    (by omega) (by intro sw e; cases e)
    (by intro e; rw [hd] at e; cases e) (by intro _; omega)
    (congrArg _ (congrArg (CI.mk · _) c.text_split_all)))

/-! ### source lines in terms of the text in front (C15) -/

mutual
/-- the object the parser builds for an item, every line computed from the text in front: `before` is
    the text in front of the item's filler -/
def DocItem.lined : DocItem → Str → Nat → Obj
  | .defn p d L b attrs, before, i =>
    nestIn (some i) false p
      (.defn { name := d.1, id := some i, disabled := b,
               line := some (1 + nlCount (before ++ L.pre.text)), mergeNames := !p.isEmpty,
               attrs := attrsOf3 attrs }
        (linedWords3 (before ++ L.pre.text ++ bangText_l2 b ++ dottedName p d.1 ++ L.sp1 ++ ['=']) L.gaps d.2))
  | .scope p nm b pre hattrs gap kids _, before, i =>
    nestIn (some i) false p
      (.scope { name := nm, id := some i, disabled := b,
                line := some (1 + nlCount (before ++ pre.text)), mergeNames := !p.isEmpty,
                attrs := sattrsOf hattrs }
        (linedAll kids (before ++ pre.text ++ bangText_l2 b ++ dottedName p nm ++ hdrText_ls hattrs gap [])
          (i + 1)))
def linedAll : List DocItem → Str → Nat → List Obj
  | [], _, _ => []
  | x :: xs, before, i => x.lined before i :: linedAll xs (before ++ (x.pre.text ++ x.body)) (i + x.count)
end

theorem entry_endLine_all (head : Str) (ws : List Word) (L : DefLayout3) (b : Bool) (l : Nat)
    (hhead : nlCount head = 0) (hpre : L.pre.wf = true) (hsp1 : inlineB L.sp1 = true)
    (hlen : L.gaps.length = ws.length) :
    endLineG (l + L.pre.nl) L.gaps ws + nlCount L.term.text
      = l + nlCount (L.pre.text ++ (bangText_l2 b ++ entryText_all head ws L)) := by
  have heq : '=' ≠ '\n' := by decide
  rw [endLineG_eq ws L.gaps _ hlen, entryText_all]
  simp only [nlCount_append, nlCount_cons_ne '=' _ heq]
  rw [hhead, inlineB_nl hsp1, nlCount_pre3 _ hpre, nlCount_bang_l2]
  omega

theorem attrsEnd3_eq_all (ts : List AttrIt3) (next : Pre3) (last cut : Bool)
    (h : wfAttrs3 ts next last cut = true) : ∀ l, attrsEnd3 l ts = l + nlCount (attrsText3 ts) := by
  induction ts with
  | nil => intro l; rfl
  | cons t ts ih =>
    intro l
    simp only [wfAttrs3, Bool.and_eq_true] at h
    obtain ⟨⟨⟨⟨⟨⟨hga, hpre⟩, hsp1⟩, hgaps⟩, _⟩, _⟩, hrest⟩ := h
    simp only [goodAttr3, Bool.and_eq_true] at hga
    have := entry_endLine_all (attrLead t.n) t.ws t.L t.b l (attrLead_nlCount_la hga.1.1.1) hpre hsp1
      (gapsOK3_length t.ws t.L.gaps true true hgaps)
    rw [attrsEnd3, this, ih hrest, attrsText3, AttrIt3.body]
    simp only [nlCount_append]
    omega

theorem sattrLead_nlCount_all {n : String} (hn : scopeAttrNames.contains n = true) : nlCount (attrLead n) = 0 := by
  have hch := scopeAttrNames_chars_ls n (by simpa using hn)
  apply nlCount_of_no_nl
  intro d hd
  rcases List.mem_cons.mp hd with rfl | hd
  · decide
  · exact ne_nl_of_not_space (idCont_not_space (hch d hd))

theorem sattr_endLine_all (t : AttrIt) (ht : t.swf = true) (l : Nat) :
    endLine (l + t.L.pre.lines.length) t.ws + nlCount t.L.term.text
      = l + nlCount (t.L.pre.text ++ t.item.body) := by
  simp only [AttrIt.swf, goodSAttr, Bool.and_eq_true] at ht
  exact body_endLine_la (sattrLead_nlCount_all ht.1.1.1.1.1.1) ht.1.2 t.b l

theorem hdr_nl_all (gap : Pre) (hgap : gap.wf = true) (ts : List AttrIt) (hts : ∀ t ∈ ts, t.swf = true) :
    ∀ l, attrsEnd l ts + gap.lines.length = l + nlCount (hdrText_ls ts gap []) := by
  induction ts with
  | nil =>
    intro l
    simp only [attrsEnd, hdrText_ls, hdrFirstPre_ls, hdrAfter_ls, nlCount_append, nlCount_pre _ hgap]
    have : nlCount ['{'] = 0 := by decide
    omega
  | cons t ts ih =>
    intro l
    have ht := hts t (by simp)
    have e : hdrText_ls (t :: ts) gap [] = t.L.pre.text ++ (t.item.body ++ hdrText_ls ts gap []) := by
      simp [hdrText_ls, hdrFirstPre_ls, hdrAfter_ls]
    have := sattr_endLine_all t ht l
    rw [attrsEnd, this, ih (fun u hu => hts u (by simp [hu])), e]
    simp only [nlCount_append]
    omega

/-- **The lines the parser counts along the layout are the newlines of the text in front**: started on line
    `1 + nlCount before`, the closed form `obj` / `objsAll` is `lined` / `linedAll` with that text in front, and the
    line reached behind an item (a block) is `1 +` the newlines of the text up to there.  The second conjunct is what
    carries the induction: it hands the next item its `before`. -/
theorem lined_eq_all :
    (∀ (x : DocItem) (before : Str) (i : Nat) (next : Pre3) (last cut : Bool), x.wf next last cut = true →
      x.obj (1 + nlCount before) i = x.lined before i ∧
      x.endLn (1 + nlCount before) = 1 + nlCount (before ++ (x.pre.text ++ x.body))) ∧
    ∀ (xs : List DocItem) (before : Str) (i : Nat) (tp : Pre3) (cut : Bool), wfItemsAll xs tp cut = true →
      objsAll xs (1 + nlCount before) i = linedAll xs before i ∧
      itemsEndLn xs (1 + nlCount before) = 1 + nlCount (before ++ itemsText xs) := by
  refine DocItem.induct ?_ ?_ ?_ ?_
  · intro p d L b attrs before i next last cut hwf
    simp only [DocItem.wf, Bool.and_eq_true] at hwf
    obtain ⟨⟨⟨⟨⟨⟨⟨hpn, hgd⟩, hpre⟩, hsp1⟩, hgaps⟩, hterm⟩, hok⟩, hattrs⟩ := hwf
    obtain ⟨_, _, _, hit⟩ := goodPathName_facts_l2 hpn
    have hnm := itemName_nlCount_l2 hit
    have hl : 1 + nlCount before + L.pre.nl = 1 + nlCount (before ++ L.pre.text) := by
      rw [nlCount_append, nlCount_pre3 _ hpre]; omega
    -- `!`, the name, the blanks and `=` hold no newline: the value starts on the line of the name
    have hb : 1 + nlCount (before ++ L.pre.text)
        = 1 + nlCount (before ++ L.pre.text ++ bangText_l2 b ++ dottedName p d.1 ++ L.sp1 ++ ['=']) := by
      rw [nlCount_append _ ['='], nlCount_append _ L.sp1, nlCount_append _ (dottedName p d.1),
        nlCount_append _ (bangText_l2 b), hnm, inlineB_nl hsp1, nlCount_eq, nlCount_bang_l2]
      omega
    constructor
    · rw [DocItem.obj, DocItem.lined, hl]
      congr 2
      rw [hb]
      exact relineG_eq_linedWords3 d.2 L.gaps _
    · have := entry_endLine_all (dottedName p d.1) d.2 L b (1 + nlCount before) hnm hpre hsp1
        (gapsOK3_length d.2 L.gaps true true hgaps)
      rw [DocItem.endLn, this, attrsEnd3_eq_all attrs next last cut hattrs, DocItem.pre, DocItem.body]
      simp only [nlCount_append]
      omega
  · intro p nm b pre hattrs gap kids close ih before i next last cut hwf
    simp only [DocItem.wf, Bool.and_eq_true, List.all_eq_true] at hwf
    obtain ⟨⟨⟨⟨⟨⟨⟨hpn, hpre⟩, hts⟩, hgap⟩, hgok⟩, hclose⟩, hkids⟩, _⟩ := hwf
    obtain ⟨_, _, _, hit⟩ := goodPathName_facts_l2 hpn
    have hnm := itemName_nlCount_l2 hit
    have hl : 1 + nlCount before + pre.nl = 1 + nlCount (before ++ pre.text) := by
      rw [nlCount_append, nlCount_pre3 _ hpre]; omega
    -- the line of `{`, on which the body starts: the newlines of the header up to and including `{`
    have hbody : attrsEnd (1 + nlCount before + pre.nl) hattrs + gap.lines.length
        = 1 + nlCount (before ++ pre.text ++ bangText_l2 b ++ dottedName p nm ++ hdrText_ls hattrs gap []) := by
      rw [hdr_nl_all gap hgap hattrs hts, hl]
      simp only [nlCount_append, hnm, nlCount_bang_l2]
      omega
    obtain ⟨k1, k2⟩ := ih (before ++ pre.text ++ bangText_l2 b ++ dottedName p nm ++ hdrText_ls hattrs gap [])
      (i + 1) close false hkids
    constructor
    · rw [DocItem.obj, DocItem.lined, hbody, k1, hl]
    · have e : hdrText_ls hattrs gap (itemsText kids ++ (close.text ++ ['}']))
          = hdrText_ls hattrs gap [] ++ (itemsText kids ++ (close.text ++ ['}'])) := by
        rw [hdrText_append_ls]; rfl
      rw [DocItem.endLn, hbody, k2, DocItem.pre, DocItem.body, e]
      simp only [nlCount_append, nlCount_pre3 _ hclose, nlCount_closeB_l2]
      omega
  · intro before i tp cut _
    exact ⟨rfl, by simp [itemsEndLn, itemsText]⟩
  · intro x xs ihx ihxs before i tp cut hwf
    simp only [wfItemsAll, Bool.and_eq_true] at hwf
    obtain ⟨a1, a2⟩ := ihx before i _ _ _ hwf.1
    obtain ⟨b1, b2⟩ := ihxs (before ++ (x.pre.text ++ x.body)) (i + x.count) tp cut hwf.2
    constructor
    · rw [objsAll, linedAll, a1, a2, b1]
    · rw [itemsEndLn, a2, b2, itemsText]
      simp only [List.append_assoc]

theorem parseObjs_renderAll_lined (xs : List DocItem) (post : Pre3) (e : DocEnd)
    (h : wfDocAll xs post e = true) : parseObjs (renderAll xs post e) = .ok (linedAll xs [] 1) := by
  rw [parseObjs_renderAll xs post e h]
  exact congrArg _ (lined_eq_all.2 xs [] 1 post e.isCut (wfDocAll_facts h).1).1

/-! ### the positions of all names and words, and the lines the tree reports -/

/-- a position in the text: the text in front, and what is written there -/
abbrev Mark := Option (Str × Str)

/-- the line a position stands for: `1 +` the number of newlines in front of its first character;
    `none` for the position-less scopes built for the leading components of a dotted name -/
def Mark.line : Mark → Option Nat
  | none => none
  | some (before, _) => some (1 + nlCount before)

/-- where the words of a value stand -/
def wordMarks (before : Str) : List Gap → List Word → List Mark
  | g :: gs, w :: ws => some (before ++ g.text, w.str) :: wordMarks (before ++ (g.text ++ w.str)) gs ws
  | _, _ => []

mutual
/-- for every object of the item's tree in document order (a scope before its items, a definition
    before its words): where its first character stands (`!` included) and what is written there -/
def DocItem.marks : DocItem → Str → List Mark
  | .defn p d L b _, before =>
    p.map (fun _ => none) ++ some (before ++ L.pre.text, bangText_l2 b ++ dottedName p d.1) ::
      wordMarks (before ++ L.pre.text ++ bangText_l2 b ++ dottedName p d.1 ++ L.sp1 ++ ['=']) L.gaps d.2
  | .scope p nm b pre hattrs gap kids _, before =>
    p.map (fun _ => none) ++ some (before ++ pre.text, bangText_l2 b ++ dottedName p nm) ::
      marksAll kids (before ++ pre.text ++ bangText_l2 b ++ dottedName p nm ++ hdrText_ls hattrs gap [])
def marksAll : List DocItem → Str → List Mark
  | [], _ => []
  | x :: xs, before => x.marks before ++ marksAll xs (before ++ (x.pre.text ++ x.body))
end

mutual
/-- the source lines a tree reports, in document order: a scope, then its objects; a definition, then
    its words -/
def Obj.allLines : Obj → List (Option Nat)
  | .defn m ws => m.line :: ws.map (·.line)
  | .scope m os => m.line :: allLinesList os
def allLinesList : List Obj → List (Option Nat)
  | [] => []
  | x :: xs => x.allLines ++ allLinesList xs
end

theorem allLines_nestIn_all (id : Option Nat) (p : List Str) (y : Obj) : ∀ b,
    (nestIn id b p y).allLines = p.map (fun _ => none) ++ y.allLines := by
  induction p with
  | nil => intro b; rfl
  | cons n ns ih =>
    intro b
    rw [nestIn, Obj.allLines, allLinesList, allLinesList, ih]
    simp

theorem linedWords3_lines_all (ws : List Word) : ∀ (gaps : List Gap) (b : Str),
    (linedWords3 b gaps ws).map (·.line) = (wordMarks b gaps ws).map Mark.line := by
  induction ws with
  | nil => intro gaps b; cases gaps <;> rfl
  | cons w ws ih =>
    intro gaps b
    cases gaps with
    | nil => rfl
    | cons g gs => simp only [linedWords3, wordMarks, List.map_cons, ih gs, Mark.line]

theorem map_none_line_all (p : List Str) :
    (p.map (fun _ => (none : Mark))).map Mark.line = p.map (fun _ => (none : Option Nat)) := by
  induction p with
  | nil => rfl
  | cons n ns ih => simp [Mark.line]

theorem linedAll_allLines_all : ∀ (xs : List DocItem) (before : Str) (i : Nat),
    allLinesList (linedAll xs before i) = (marksAll xs before).map Mark.line := by
  refine (DocItem.induct (P := fun x => ∀ (before : Str) (i : Nat),
    (x.lined before i).allLines = (x.marks before).map Mark.line) ?_ ?_ ?_ ?_).2
  · intro p d L b attrs before i
    rw [DocItem.lined, DocItem.marks, allLines_nestIn_all, Obj.allLines, linedWords3_lines_all]
    simp [Mark.line]
  · intro p nm b pre hattrs gap kids close ih before i
    rw [DocItem.lined, DocItem.marks, allLines_nestIn_all, Obj.allLines, ih]
    simp [Mark.line]
  · intro _ _; rfl
  · intro x xs ihx ihxs before i
    rw [linedAll, marksAll, allLinesList, ihx, ihxs, List.map_append]

theorem wordMarks_prefix_all (ws : List Word) : ∀ (gaps : List Gap) (b pre written : Str),
    some (pre, written) ∈ wordMarks b gaps ws → ∃ tail, b ++ wordsLay3 gaps ws = pre ++ (written ++ tail) := by
  induction ws with
  | nil => intro gaps b pre written h; cases gaps <;> simp [wordMarks] at h
  | cons w ws ih =>
    intro gaps b pre written h
    cases gaps with
    | nil => simp [wordMarks] at h
    | cons g gs =>
      simp only [wordMarks, List.mem_cons, Option.some.injEq, Prod.mk.injEq] at h
      rcases h with ⟨rfl, rfl⟩ | h
      · exact ⟨wordsLay3 gs ws, by simp [wordsLay3]⟩
      · obtain ⟨tail, ht⟩ := ih gs _ pre written h
        exact ⟨tail, by rw [← ht]; simp [wordsLay3]⟩

theorem not_mem_map_none_all (p : List Str) (m : Str × Str) : some m ∉ p.map (fun _ => (none : Mark)) := by
  induction p with
  | nil => simp
  | cons n ns ih => simp

/-- **every mark is a position in the text**: the text in front ends exactly where the written name
    or word begins -/
theorem marks_prefix_all :
    (∀ (x : DocItem) (before pre written : Str), some (pre, written) ∈ x.marks before →
      ∃ tail, before ++ (x.pre.text ++ x.body) = pre ++ (written ++ tail)) ∧
    ∀ (xs : List DocItem) (before pre written : Str), some (pre, written) ∈ marksAll xs before →
      ∃ tail, before ++ itemsText xs = pre ++ (written ++ tail) := by
  refine DocItem.induct ?_ ?_ ?_ ?_
  · intro p d L b attrs before pre written h
    simp only [DocItem.marks, List.mem_append, List.mem_cons, Option.some.injEq, Prod.mk.injEq] at h
    rcases h with h | ⟨rfl, rfl⟩ | h
    · exact absurd h (not_mem_map_none_all p _)
    · exact ⟨(L.sp1 ++ '=' :: (wordsLay3 L.gaps d.2 ++ L.term.text)) ++ attrsText3 attrs,
        by simp [DocItem.pre, DocItem.body, entryText_all, List.append_assoc]⟩
    · obtain ⟨tail, ht⟩ := wordMarks_prefix_all d.2 L.gaps _ pre written h
      exact ⟨tail ++ (L.term.text ++ attrsText3 attrs), by
        simpa [DocItem.pre, DocItem.body, entryText_all, List.append_assoc] using
          congrArg (· ++ (L.term.text ++ attrsText3 attrs)) ht⟩
  · intro p nm b pre0 hattrs gap kids close ih before pre written h
    simp only [DocItem.marks, List.mem_append, List.mem_cons, Option.some.injEq, Prod.mk.injEq] at h
    have e : hdrText_ls hattrs gap (itemsText kids ++ (close.text ++ ['}']))
        = hdrText_ls hattrs gap [] ++ (itemsText kids ++ (close.text ++ ['}'])) := by
      rw [hdrText_append_ls]; rfl
    rcases h with h | ⟨rfl, rfl⟩ | h
    · exact absurd h (not_mem_map_none_all p _)
    · exact ⟨hdrText_ls hattrs gap (itemsText kids ++ (close.text ++ ['}'])),
        by simp [DocItem.pre, DocItem.body, List.append_assoc]⟩
    · obtain ⟨tail, ht⟩ := ih _ pre written h
      exact ⟨tail ++ (close.text ++ ['}']), by
        simpa [DocItem.pre, DocItem.body, e, List.append_assoc] using
          congrArg (· ++ (close.text ++ ['}'])) ht⟩
  · intro before pre written h; simp [marksAll] at h
  · intro x xs ihx ihxs before pre written h
    simp only [marksAll, List.mem_append] at h
    rcases h with h | h
    · obtain ⟨tail, ht⟩ := ihx before pre written h
      refine ⟨tail ++ itemsText xs, ?_⟩
      rw [itemsText, ← List.append_assoc before, ht]
      simp [List.append_assoc]
    · obtain ⟨tail, ht⟩ := ihxs _ pre written h
      exact ⟨tail, by rw [← ht, itemsText]; simp [List.append_assoc]⟩

/-! ### the line cited for a cut inside a scope body, from the text -/

theorem itemsEndLn_prefix_all (xs : List DocItem) : ∀ (before : Str) (next : Pre3),
    wfPrefixAll xs next = true →
    itemsEndLn xs (1 + nlCount before) = 1 + nlCount (before ++ itemsText xs) := by
  induction xs with
  | nil => intro before next _; simp [itemsEndLn, itemsText]
  | cons x xs ih =>
    intro before next h
    simp only [wfPrefixAll, Bool.and_eq_true] at h
    obtain ⟨_, a2⟩ := lined_eq_all.1 x before 0 _ _ _ h.1
    rw [itemsEndLn, a2, ih _ next h.2, itemsText]
    simp only [List.append_assoc]

/-- the text up to and including the innermost `{` that is open at the cut (`encText`: the text up to
    and including the brace that encloses the whole piece) -/
def CutDoc.openText : CutDoc → Str → Str → Str
  | .here .., _, encText => encText
  | .deeper xs p nm b pre hattrs gap inner, before, _ =>
    inner.openText
      (before ++ itemsText xs ++ pre.text ++ bangText_l2 b ++ dottedName p nm ++ hdrText_ls hattrs gap [])
      (before ++ itemsText xs ++ pre.text ++ bangText_l2 b ++ dottedName p nm ++ hdrText_ls hattrs gap [])

theorem errLine_eq_all : ∀ (c : CutDoc) (before encText : Str), c.wf = true →
    c.errLine (1 + nlCount before) (some (1 + nlCount encText))
      = some (1 + nlCount (c.openText before encText)) := by
  intro c
  induction c with
  | here xs tp b1 tail => intro before encText _; rfl
  | deeper xs p nm b pre hattrs gap inner ih =>
    intro before encText hwf
    simp only [CutDoc.wf, Bool.and_eq_true, List.all_eq_true] at hwf
    obtain ⟨⟨⟨⟨⟨⟨hxs, hpn⟩, hpre⟩, hts⟩, hgap⟩, _⟩, hin⟩ := hwf
    obtain ⟨_, _, _, hit⟩ := goodPathName_facts_l2 hpn
    have hnm := itemName_nlCount_l2 hit
    have hlb : attrsEnd (itemsEndLn xs (1 + nlCount before) + pre.nl) hattrs + gap.lines.length
        = 1 + nlCount (before ++ itemsText xs ++ pre.text ++ bangText_l2 b ++ dottedName p nm
            ++ hdrText_ls hattrs gap []) := by
      rw [hdr_nl_all gap hgap hattrs hts, itemsEndLn_prefix_all xs before pre hxs]
      simp only [nlCount_append, hnm, nlCount_bang_l2, nlCount_pre3 _ hpre]
      omega
    rw [CutDoc.errLine, hlb, ih _ _ hin, CutDoc.openText]

theorem openText_prefix_all : ∀ (c : CutDoc) (before encText : Str), c.isHere = false →
    ∃ tail, before ++ c.text = c.openText before encText ++ tail := by
  intro c
  induction c with
  | here xs tp b1 tail => intro _ _ h; cases h
  | deeper xs p nm b pre hattrs gap inner ih =>
    intro before encText _
    have e : hdrText_ls hattrs gap inner.text = hdrText_ls hattrs gap [] ++ inner.text := by
      rw [hdrText_append_ls]; rfl
    have ht : before ++ (CutDoc.deeper xs p nm b pre hattrs gap inner).text
        = (before ++ itemsText xs ++ pre.text ++ bangText_l2 b ++ dottedName p nm ++ hdrText_ls hattrs gap [])
          ++ inner.text := by
      simp [CutDoc.text, e, List.append_assoc]
    rw [ht, CutDoc.openText]
    cases hin : inner.isHere with
    | true =>
      cases inner with
      | here xs' tp' b1' tail' => exact ⟨_, rfl⟩
      | deeper => cases hin
    | false => exact ih _ _ hin

/-! ### flat documents (`render3`, `wfDoc3` of Phil/Proofs/Layout3.lean) are documents of this grammar -/

/-- a flat document as a list of items: plain definitions without `!`, dots and attribute items -/
def flatItems (ds : List (DefSpec × DefLayout3)) : List DocItem :=
  ds.map (fun x => .defn [] x.1 x.2 false [])

theorem renderAll_flat (ds : List (DefSpec × DefLayout3)) (post : Pre3) (e : DocEnd) :
    renderAll (flatItems ds) post e = render3 ds post e := by
  induction ds with
  | nil => rfl
  | cons x rest ih =>
    simp only [renderAll, flatItems] at ih
    simp [renderAll, flatItems, itemsText, DocItem.pre, DocItem.body, bangText_l2, dottedName, joinWith,
      entryText_all, attrsText3, render3, defText3, ih]

theorem wfDocAll_flat {ds : List (DefSpec × DefLayout3)} {post : Pre3} {e : DocEnd}
    (h : wfDoc3 ds post e = true) : wfDocAll (flatItems ds) post e = true := by
  induction ds with
  | nil => simpa [wfDocAll, flatItems, wfItemsAll, wfDoc3] using h
  | cons x rest ih =>
    obtain ⟨hgd, hwd, hok, hrest⟩ := wfDoc3_cons h
    have ih := wfDocAll_facts (ih hrest)
    have hfp : firstPreAll (flatItems rest) post = firstPre3 rest post := by cases rest <;> rfl
    have hemp : (flatItems rest).isEmpty = rest.isEmpty := by cases rest <;> rfl
    simp only [wfDef3, Bool.and_eq_true] at hwd
    show wfDocAll (.defn [] x.1 x.2 false [] :: flatItems rest) post e = true
    simp [wfDocAll, wfItemsAll, DocItem.wf, goodPathName_l2, dottedName, joinWith,
      goodName_not_reserved (goodDef3_facts hgd).1, (goodDef3_facts hgd).1, hgd, hwd, firstAttrPre, wfAttrs3,
      hfp, hemp, hok, ih]

theorem objsAll_flat (ds : List (DefSpec × DefLayout3)) : ∀ l i, objsAll (flatItems ds) l i = parsedLay3 l i ds := by
  induction ds with
  | nil => intro l i; rfl
  | cons x rest ih => intro l i; exact congrArg _ (ih _ _)

theorem linedAll_flat (ds : List (DefSpec × DefLayout3)) :
    ∀ before i, linedAll (flatItems ds) before i = linedObjs3 before i ds := by
  induction ds with
  | nil => intro before i; rfl
  | cons x rest ih =>
    intro before i
    show DocItem.lined _ before i :: linedAll (flatItems rest) _ _ = _
    rw [ih]
    simp [DocItem.lined, linedObjs3, nestIn, attrsOf3, DocItem.pre, DocItem.body, bangText_l2, dottedName,
      joinWith, entryText_all, attrsText3, defText3, DocItem.count]

theorem parseObjs_render3 (ds : List (DefSpec × DefLayout3)) (post : Pre3) (e : DocEnd)
    (h : wfDoc3 ds post e = true) :
    parseObjs (render3 ds post e) = .ok (parsedLay3 1 1 ds) := by
  rw [← renderAll_flat, parseObjs_renderAll _ post e (wfDocAll_flat h), objsAll_flat]

theorem parseObjs_render3_lined (ds : List (DefSpec × DefLayout3)) (post : Pre3) (e : DocEnd)
    (h : wfDoc3 ds post e = true) : parseObjs (render3 ds post e) = .ok (linedObjs3 [] 1 ds) := by
  rw [← renderAll_flat, parseObjs_renderAll_lined _ post e (wfDocAll_flat h), linedAll_flat]

/-! ### nested documents (`LayItem`, `renderN` of Phil/Proofs/Layout2.lean) are documents of this grammar -/

mutual
/-- a nested item as an item of this grammar: no regions, no continuation lines, no attribute items -/
def LayItem.toAll : LayItem → DocItem
  | .defn p d L b => .defn p d (liftLayout L) b []
  | .scope p nm b pre gap kids close => .scope p nm b (liftPre pre) [] gap (layToAll kids) (liftPre close)
def layToAll : List LayItem → List DocItem
  | [] => []
  | x :: xs => x.toAll :: layToAll xs
end

theorem LayItem.induct {P : LayItem → Prop} {Q : List LayItem → Prop}
    (defn : ∀ p d L b, P (.defn p d L b))
    (scope : ∀ p nm b pre gap kids close, Q kids → P (.scope p nm b pre gap kids close))
    (nil : Q []) (cons : ∀ x xs, P x → Q xs → Q (x :: xs)) : (∀ x, P x) ∧ ∀ xs, Q xs :=
  ⟨fun x => LayItem.rec defn scope nil cons x, fun xs => LayItem.rec_1 defn scope nil cons xs⟩

theorem toAll_pre_all (x : LayItem) : x.toAll.pre = liftPre x.pre := by
  cases x <;> rfl

theorem toAll_text_all :
    (∀ x : LayItem, x.toAll.body = x.body ∧ x.toAll.count = x.count) ∧
      ∀ xs : List LayItem, itemsText (layToAll xs) = layItemsText xs ∧ countAll (layToAll xs) = layCount xs := by
  refine LayItem.induct ?_ ?_ ⟨rfl, rfl⟩ ?_
  · intro p d L b
    simp [LayItem.toAll, DocItem.body, LayItem.body, entryText_all, defText, attrsText3, liftLayout,
      wordsLay3_lift, DocItem.count, LayItem.count]
  · intro p nm b pre gap kids close ih
    simp [LayItem.toAll, DocItem.body, LayItem.body, hdrText_ls, hdrFirstPre_ls, hdrAfter_ls, liftPre_text,
      DocItem.count, LayItem.count, ih]
  · intro x xs hx hxs
    simp [layToAll, itemsText, layItemsText, countAll, layCount, toAll_pre_all, liftPre_text, hx, hxs]

theorem toAll_wf_all :
    (∀ (x : LayItem) (np : Pre) (last : Bool), x.wf (last && np.lines.isEmpty) = true →
        x.toAll.wf (liftPre np) last false = true) ∧
      ∀ (xs : List LayItem) (tp : Pre), wfLayItems xs tp.lines.isEmpty = true →
        wfItemsAll (layToAll xs) (liftPre tp) false = true := by
  refine LayItem.induct ?_ ?_ (fun _ _ => rfl) ?_
  · intro p d L b np last h
    simp only [LayItem.wf, Bool.and_eq_true, Bool.or_eq_true, Bool.not_eq_true', List.isEmpty_iff] at h
    obtain ⟨⟨⟨hp, hgd⟩, hwd⟩, heof⟩ := h
    obtain ⟨h1, hc⟩ := goodDef3_of_goodDef hgd
    have h2 := wfDef3_lift hc hwd
    simp only [wfDef3, Bool.and_eq_true] at h2
    simp only [LayItem.toAll, DocItem.wf, firstAttrPre, wfAttrs3, List.isEmpty_nil, Bool.true_and, Bool.and_true,
      Bool.and_eq_true]
    refine ⟨⟨⟨⟨⟨⟨hp, h1⟩, h2.1.1.1⟩, h2.1.1.2⟩, h2.1.2⟩, h2.2⟩, termOK3_plain L.term (liftPre np) last rfl ?_⟩
    intro he
    rcases heof with h | h
    · rw [he] at h; cases h
    · exact h
  · intro p nm b pre gap kids close ih np last h
    simp only [LayItem.wf, Bool.and_eq_true] at h
    obtain ⟨⟨⟨⟨⟨hp, hpre⟩, hgap⟩, hgok⟩, hclose⟩, hkids⟩ := h
    have hlf : (liftPre np).lineFree false = true := rfl
    simp [LayItem.toAll, DocItem.wf, hp, liftPre_wf hpre, hgap, hdrGapOK_ls, hdrFirstPre_ls, hgok,
      liftPre_wf hclose, ih close hkids, hlf]
  · intro x xs hx hxs tp h
    simp only [wfLayItems, Bool.and_eq_true] at h
    simp only [layToAll, wfItemsAll, Bool.and_eq_true]
    refine ⟨?_, hxs tp h.2⟩
    cases xs with
    | nil => exact hx tp true h.1
    | cons y ys =>
      rw [layToAll, firstPreAll, toAll_pre_all]
      exact hx y.pre false h.1

theorem toAll_obj_all :
    (∀ (x : LayItem) (e : Bool), x.wf e = true →
        (∀ l, x.toAll.endLn l = x.endLn l) ∧ ∀ l i, x.toAll.obj l i = x.obj l i) ∧
      ∀ (xs : List LayItem) (e : Bool), wfLayItems xs e = true →
        (∀ l, itemsEndLn (layToAll xs) l = layEndLn xs l) ∧ ∀ l i, objsAll (layToAll xs) l i = layObjs xs l i := by
  refine LayItem.induct ?_ ?_ (fun _ _ => ⟨fun _ => rfl, fun _ _ => rfl⟩) ?_
  · intro p d L b e h
    simp only [LayItem.wf, wfDef, Bool.and_eq_true] at h
    have hr := fun l => relineG_lift d.2 L.gaps true (l + L.pre.lines.length) h.1.2.1.2
    simp [LayItem.toAll, DocItem.obj, LayItem.obj, DocItem.endLn, LayItem.endLn, liftLayout, liftPre_nl,
      attrsOf3, attrsEnd3, hr]
  · intro p nm b pre gap kids close ih e h
    simp only [LayItem.wf, Bool.and_eq_true] at h
    simp [LayItem.toAll, DocItem.obj, LayItem.obj, DocItem.endLn, LayItem.endLn, liftPre_nl, sattrsOf, attrsEnd,
      ih _ h.2]
  · intro x xs hx hxs e h
    simp only [wfLayItems, Bool.and_eq_true] at h
    simp [layToAll, objsAll, layObjs, itemsEndLn, layEndLn, hx _ h.1, hxs _ h.2, toAll_text_all.1 x]

theorem toAll_lined_all :
    (∀ (x : LayItem) (before : Str) (i : Nat), x.toAll.lined before i = x.lined before i) ∧
      ∀ (xs : List LayItem) (before : Str) (i : Nat), linedAll (layToAll xs) before i = layLined xs before i := by
  refine LayItem.induct ?_ ?_ (fun _ _ => rfl) ?_
  · intro p d L b before i
    simp [LayItem.toAll, DocItem.lined, LayItem.lined, liftLayout, liftPre_text, attrsOf3, linedWords3_lift]
  · intro p nm b pre gap kids close ih before i
    simp [LayItem.toAll, DocItem.lined, LayItem.lined, liftPre_text, sattrsOf, hdrText_ls, hdrFirstPre_ls,
      hdrAfter_ls, ih]
  · intro x xs hx hxs before i
    simp [layToAll, linedAll, layLined, hx, hxs, toAll_pre_all, liftPre_text, toAll_text_all.1 x]

theorem wfDocAll_toAll {xs : List LayItem} {post : Pre} (h : wfDocN xs post = true) :
    wfDocAll (layToAll xs) (liftPre post) .eof = true := by
  simp only [wfDocN, Bool.and_eq_true] at h
  simp [wfDocAll, DocEnd.isCut, DocEnd.wf, toAll_wf_all.2 xs post h.1, liftPre_wf h.2]

theorem renderAll_toAll (xs : List LayItem) (post : Pre) :
    renderAll (layToAll xs) (liftPre post) .eof = renderN xs post := by
  simp [renderAll, renderN, (toAll_text_all.2 xs).1, liftPre_text, DocEnd.text]

theorem parseObjs_renderN_l2 (xs : List LayItem) (post : Pre) (h : wfDocN xs post = true) :
    parseObjs (renderN xs post) = .ok (layObjs xs 1 1) := by
  rw [← renderAll_toAll, parseObjs_renderAll _ _ _ (wfDocAll_toAll h),
    (toAll_obj_all.2 xs _ (Bool.and_eq_true_iff.mp h).1).2]

/-! ### top-level scopes with header attributes (`HScope`, `renderH` of Phil/Proofs/LayoutAttrsScope.lean) -/

def HScope.toAll (x : HScope) : DocItem :=
  .scope [] x.nm x.b (liftPre x.pre) x.ts x.gap (layToAll x.kids) (liftPre x.close)

theorem renderAll_hscopes (xs : List HScope) (post : Pre) :
    renderAll (xs.map HScope.toAll) (liftPre post) .eof = renderH xs post := by
  induction xs with
  | nil => simp [renderAll, itemsText, renderH, liftPre_text, DocEnd.text]
  | cons x rest ih =>
    simp only [renderAll, liftPre_text] at ih
    simp [renderAll, itemsText, renderH, HScope.toAll, DocItem.pre, DocItem.body, HScope.body, dottedName, joinWith,
      liftPre_text, (toAll_text_all.2 x.kids).1, ih]

theorem wfDocAll_hscopes {xs : List HScope} {post : Pre} (h : wfDocH xs post = true) :
    wfDocAll (xs.map HScope.toAll) (liftPre post) .eof = true := by
  simp only [wfDocH, Bool.and_eq_true] at h
  obtain ⟨hxs, hpost⟩ := h
  suffices wfItemsAll (xs.map HScope.toAll) (liftPre post) false = true by
    simp [wfDocAll, DocEnd.isCut, DocEnd.wf, this, liftPre_wf hpost]
  induction xs with
  | nil => rfl
  | cons x rest ih =>
    simp only [List.all_cons, Bool.and_eq_true, HScope.wf] at hxs
    obtain ⟨⟨⟨⟨⟨⟨⟨hnm, hpre⟩, hts⟩, hgap⟩, hgok⟩, hclose⟩, hkids⟩, hrest⟩ := hxs
    have hnext : (firstPreAll (rest.map HScope.toAll) (liftPre post)).lineFree false = true := by
      cases rest <;> rfl
    simp [wfItemsAll, HScope.toAll, DocItem.wf, goodPathName_l2, dottedName, joinWith, hnm,
      goodName_not_reserved hnm, liftPre_wf hpre, hts, hgap, hgok, liftPre_wf hclose,
      toAll_wf_all.2 x.kids x.close hkids, ih hrest]
    exact hnext

theorem objsAll_hscopes (xs : List HScope) (h : xs.all HScope.wf = true) :
    ∀ l i, objsAll (xs.map HScope.toAll) l i = hObjs xs l i := by
  induction xs with
  | nil => intro l i; rfl
  | cons x rest ih =>
    intro l i
    simp only [List.all_cons, Bool.and_eq_true, HScope.wf] at h
    obtain ⟨hkids, hrest⟩ := h
    obtain ⟨h1, h2⟩ := toAll_obj_all.2 x.kids _ hkids.2
    simp [objsAll, hObjs, HScope.toAll, DocItem.obj, DocItem.endLn, DocItem.count, HScope.obj, HScope.endLn,
      HScope.bodyLn, HScope.count, nestIn, liftPre_nl, h1, h2, (toAll_text_all.2 x.kids).2, ih hrest]

theorem parseObjs_renderH_ls (xs : List HScope) (post : Pre) (h : wfDocH xs post = true) :
    parseObjs (renderH xs post) = .ok (hObjs xs 1 1) := by
  rw [← renderAll_hscopes, parseObjs_renderAll _ _ _ (wfDocAll_hscopes h),
    objsAll_hscopes xs (Bool.and_eq_true_iff.mp h).1]

/-! ### flat documents with attribute items (`AItem`, `renderA` of Phil/Proofs/Layout.lean; grouped: `ADef`) -/

def AttrIt.lift3 (t : AttrIt) : AttrIt3 := { n := t.n, ws := t.ws, L := liftLayout t.L, b := t.b }

def ADef.toAll (a : ADef) : DocItem := .defn [] a.d (liftLayout a.L) a.b (a.attrs.map AttrIt.lift3)

theorem attrsText3_lift (ts : List AttrIt) : attrsText3 (ts.map AttrIt.lift3) = attrsText ts := by
  induction ts with
  | nil => rfl
  | cons t ts ih =>
    rw [List.map_cons, attrsText3, ih]
    simp [attrsText, AttrIt.lift3, AttrIt3.body, AttrIt.item, AItem.body, AItem.bang, AItem.spec, AItem.lay,
      entryText_all, defText, liftLayout, liftPre_text, wordsLay3_lift]

theorem renderAll_adefs (ds : List ADef) (post : Pre) :
    renderAll (ds.map ADef.toAll) (liftPre post) .eof = renderA (flattenA ds) post := by
  induction ds with
  | nil => simp [renderAll, itemsText, flattenA, renderA, liftPre_text, DocEnd.text]
  | cons a rest ih =>
    simp only [renderAll, liftPre_text] at ih
    rw [renderA_flatten_cons_la, ← ih]
    simp [renderAll, itemsText, ADef.toAll, DocItem.pre, DocItem.body, ADef.text, dottedName, joinWith,
      entryText_all, defText, liftLayout, liftPre_text, wordsLay3_lift, attrsText3_lift]

theorem flattenA_eq_nil {ds : List ADef} (h : flattenA ds = []) : ds = [] := by
  cases ds with
  | nil => rfl
  | cons a rest => cases h

theorem wfAttrs3_lift (post : Pre) (ds : List ADef) : ∀ ts : List AttrIt,
    wfItems (ts.map AttrIt.item ++ flattenA ds) post = true →
      wfAttrs3 (ts.map AttrIt.lift3) (firstPreAll (ds.map ADef.toAll) (liftPre post))
          (ds.map ADef.toAll).isEmpty false = true ∧
        wfItems (flattenA ds) post = true := by
  intro ts
  induction ts with
  | nil => exact fun h => ⟨rfl, h⟩
  | cons t ts ih =>
    intro h
    obtain ⟨ht, heof, hrest⟩ := wfItems_cons_la h
    obtain ⟨h1, h2⟩ := ih hrest
    simp only [AttrIt.item, AItem.wf, goodAttr, Bool.and_eq_true] at ht
    obtain ⟨⟨⟨⟨⟨hn, hne⟩, hgood⟩, hchain⟩, hval⟩, hwd⟩ := ht
    have hwd3 := wfDef3_lift (d := (attrLead t.n, t.ws)) hchain hwd
    simp only [wfDef3, Bool.and_eq_true] at hwd3
    refine ⟨?_, h2⟩
    simp only [List.map_cons, wfAttrs3, Bool.and_eq_true]
    refine ⟨⟨⟨⟨⟨⟨?_, hwd3.1.1.1⟩, hwd3.1.1.2⟩, hwd3.1.2⟩, hwd3.2⟩, termOK3_plain _ _ _ ?_ ?_⟩, h1⟩
    · simpa [goodAttr3, AttrIt.lift3, hne, hgood, hval] using hn
    · cases ts <;> cases ds <;> rfl
    · intro he
      obtain ⟨hnil, hp⟩ := heof he
      obtain ⟨h3, h4⟩ := List.append_eq_nil_iff.mp hnil
      obtain rfl := List.map_eq_nil_iff.mp h3
      obtain rfl := flattenA_eq_nil h4
      exact ⟨rfl, hp⟩

theorem wfItemsAll_adefs (post : Pre) : ∀ ds : List ADef, wfItems (flattenA ds) post = true →
    wfItemsAll (ds.map ADef.toAll) (liftPre post) false = true ∧ post.wf = true := by
  intro ds
  induction ds with
  | nil => exact fun h => ⟨rfl, h⟩
  | cons a rest ih =>
    intro h
    obtain ⟨d, L, b, attrs⟩ := a
    rw [flattenA_cons_la] at h
    obtain ⟨hx, heof, hr⟩ := wfItems_cons_la h
    obtain ⟨hattrs, hrest⟩ := wfAttrs3_lift post rest attrs hr
    simp only [AItem.wf, Bool.and_eq_true] at hx
    obtain ⟨hgd3, hc⟩ := goodDef3_of_goodDef hx.1
    have hname := (goodDef_good hx.1).1
    have hwd3 := wfDef3_lift hc hx.2
    simp only [wfDef3, Bool.and_eq_true] at hwd3
    refine ⟨?_, (ih hrest).2⟩
    simp only [List.map_cons, wfItemsAll, ADef.toAll, DocItem.wf, Bool.and_eq_true]
    refine ⟨⟨⟨⟨⟨⟨⟨⟨?_, hgd3⟩, hwd3.1.1.1⟩, hwd3.1.1.2⟩, hwd3.1.2⟩, hwd3.2⟩, termOK3_plain _ _ _ ?_ ?_⟩, hattrs⟩,
      (ih hrest).1⟩
    · simp [goodPathName_l2, dottedName, joinWith, hname, goodName_not_reserved hname]
    · cases attrs <;> cases rest <;> rfl
    · intro he
      obtain ⟨hnil, hp⟩ := heof he
      obtain ⟨h3, h4⟩ := List.append_eq_nil_iff.mp hnil
      obtain rfl := List.map_eq_nil_iff.mp h3
      obtain rfl := flattenA_eq_nil h4
      exact ⟨rfl, hp⟩

theorem attrsOf3_lift (ts : List AttrIt) : attrsOf3 (ts.map AttrIt.lift3) = attrsOf ts := by
  induction ts with
  | nil => rfl
  | cons t ts ih => rw [List.map_cons, attrsOf3, ih]; rfl

theorem attrsEnd3_lift (ts : List AttrIt) (h : ∀ t ∈ ts, t.item.wf = true) :
    ∀ l, attrsEnd3 l (ts.map AttrIt.lift3) = attrsEnd l ts := by
  induction ts with
  | nil => exact fun _ => rfl
  | cons t ts ih =>
    obtain ⟨ht, hts⟩ := List.forall_mem_cons.mp h
    simp only [AttrIt.item, AItem.wf, wfDef, Bool.and_eq_true] at ht
    intro l
    rw [List.map_cons, attrsEnd3, ih hts, attrsEnd]
    show attrsEnd (endLineG (l + (liftPre t.L.pre).nl) (liftGaps t.L.gaps) t.ws + nlCount t.L.term.text) ts = _
    rw [(relineG_lift t.ws t.L.gaps true _ ht.2.1.2).2, liftPre_nl]

theorem objsAll_adefs (post : Pre) : ∀ (ds : List ADef), wfDocG ds post = true → ∀ l i,
    objsAll (ds.map ADef.toAll) l i = groupedObjs l i ds := by
  intro ds
  induction ds with
  | nil => intro _ l i; rfl
  | cons a rest ih =>
    intro h l i
    obtain ⟨_, hwd, hat, hr⟩ := wfDocG_cons_la h
    have h1 := attrsOf3_lift a.attrs
    have h2 := attrsEnd3_lift a.attrs hat
    simp only [wfDef, Bool.and_eq_true] at hwd
    obtain ⟨h3, h4⟩ := relineG_lift a.d.2 a.L.gaps true (l + a.L.pre.lines.length) hwd.1.2
    simp [objsAll, groupedObjs, ADef.toAll, DocItem.obj, DocItem.endLn, DocItem.count, nestIn, liftLayout,
      liftPre_nl, h1, h2, h3, h4, ih hr]

theorem parseObjs_renderG_la (ds : List ADef) (post : Pre) (h : wfDocG ds post = true) :
    parseObjs (renderA (flattenA ds) post) = .ok (groupedObjs 1 1 ds) := by
  obtain ⟨h1, h2⟩ := wfItemsAll_adefs post ds h
  rw [← renderAll_adefs, parseObjs_renderAll _ _ .eof (by simp [wfDocAll, DocEnd.isCut, DocEnd.wf, h1, liftPre_wf h2]),
    objsAll_adefs post ds h]

theorem linedAll_adefs (ds : List ADef) :
    ∀ before i, linedAll (ds.map ADef.toAll) before i = linedG before i ds := by
  induction ds with
  | nil => intro _ _; rfl
  | cons a rest ih =>
    intro before i
    rw [List.map_cons, linedAll, ih]
    simp [linedG, ADef.toAll, DocItem.lined, DocItem.pre, DocItem.body, DocItem.count, nestIn, attrsOf3_lift,
      ADef.text, dottedName, joinWith, entryText_all, defText, liftLayout, liftPre_text, wordsLay3_lift,
      linedWords3_lift, attrsText3_lift]

theorem parseObjs_renderG_lined_la (ds : List ADef) (post : Pre) (h : wfDocG ds post = true) :
    parseObjs (renderA (flattenA ds) post) = .ok (linedG [] 1 ds) := by
  obtain ⟨h1, h2⟩ := wfItemsAll_adefs post ds h
  rw [← renderAll_adefs, parseObjs_renderAll_lined _ _ .eof (by
    simp [wfDocAll, DocEnd.isCut, DocEnd.wf, h1, liftPre_wf h2]), linedAll_adefs]

theorem groupedObjs_eq_lined_la (post : Pre) (ds : List ADef) (h : wfDocG ds post = true) :
    groupedObjs 1 1 ds = linedG [] 1 ds :=
  Except.ok.inj ((parseObjs_renderG_la ds post h).symm.trans (parseObjs_renderG_lined_la ds post h))

/-- the attribute items in front of the first definition, and the definitions each with the
    attribute items behind it -/
def groupA : List AItem → List AttrIt × List ADef
  | [] => ([], [])
  | .attr n ws L b :: rest => (⟨n, ws, L, b⟩ :: (groupA rest).1, (groupA rest).2)
  | .defn d L b :: rest => ([], ⟨d, L, b, (groupA rest).1⟩ :: (groupA rest).2)

theorem groupA_flatten (xs : List AItem) : (groupA xs).1.map AttrIt.item ++ flattenA (groupA xs).2 = xs := by
  induction xs with
  | nil => rfl
  | cons x rest ih =>
    cases x with
    | defn d L b =>
      show AItem.defn d L b :: ((groupA rest).1.map AttrIt.item ++ flattenA (groupA rest).2) = _
      rw [ih]
    | attr n ws L b =>
      show AItem.attr n ws L b :: ((groupA rest).1.map AttrIt.item ++ flattenA (groupA rest).2) = _
      rw [ih]

theorem parseObjs_renderA_la (xs : List AItem) (post : Pre) (h : wfDocA xs post = true) :
    parseObjs (renderA xs post) = .ok (parsedA 1 1 none xs) := by
  simp only [wfDocA, Bool.and_eq_true] at h
  obtain ⟨ds, rfl⟩ : ∃ ds, xs = flattenA ds := by
    refine ⟨(groupA xs).2, ?_⟩
    cases xs with
    | nil => rfl
    | cons x rest =>
      cases x with
      | defn d L b => exact (groupA_flatten _).symm
      | attr n ws L b => cases h.2
  rw [parseObjs_renderG_la ds post h.1, parsedA_flatten_la]
  rfl

theorem parseObjs_render (ds : List (DefSpec × DefLayout)) (post : Pre) (h : wfDoc ds post = true) :
    parseObjs (render ds post) = .ok (parsedLay 1 1 ds) := by
  rw [← render3_lift, parseObjs_render3 _ _ _ (wfDoc3_lift ds post h), parsedLay3_lift post ds h]

/-- the closed form of `parse` on a laid-out flat document, with the source lines read off the text in
    front, where `parseObjs_render` counts the lines along the layout (`parsedLay`) -/
theorem parseObjs_render_lined (ds : List (DefSpec × DefLayout)) (post : Pre)
    (h : wfDoc ds post = true) : parseObjs (render ds post) = .ok (linedObjs [] 1 ds) := by
  rw [← render3_lift, parseObjs_render3_lined _ _ _ (wfDoc3_lift ds post h), linedObjs3_lift]

theorem parseObjs_renderB_l2 (ds : List (DefSpec × DefLayout × Bool)) (post : Pre)
    (h : wfDoc (unbang_l2 ds) post = true) :
    parseObjs (renderB_l2 ds post) = .ok (setFlags_l2 (bangs_l2 ds) (parsedLay 1 1 (unbang_l2 ds))) := by
  rw [← renderA_flags_l2, parseObjs_renderA_la _ post (by
    rw [wfDocA, wfItems_flags_l2, h]
    cases ds <;> rfl), parsedA_flags_l2]
  rfl

end Phil
