/-
  The path index of the GUI index (C20) on nested masters.  A working tree is WELL GROUPED (`wellGroupedB`,
  executable) when sibling names are non-empty and dot-free and two siblings of one name are both `.multiple`,
  recursively below every scope that is not `.multiple`.  On such a tree every path that is not inside a live
  `.multiple` scope is uniform: all live objects at it are `.multiple`, or there is exactly one and it is not
  (`uniform_of_wu_it2`).  Fetch results are well grouped: `msResult` on an `MSMaster` whose `.multiple` attributes
  are booleans (`multBoolL`); a `treeMultiResult` on a `TreeMultiMaster` is such a result (`msResult_eq_tm_it2`) and
  has no `.multiple` scope at all (`noMSList`).
-/
import Phil.Proofs.IndexTreeLemmas
import Phil.Proofs.IndexPathsLemmas
import Phil.Proofs.FetchTreeMS
namespace Phil

/-! ## 1. paths -/

/-- the path `p` is the path of the sibling called `n` (below the prefix `pfx`) or lies below it -/
def Owns (pfx n p : Str) : Prop := p = joinPath pfx n ∨ startsWith (joinPath pfx n ++ ['.']) p = true

theorem owns_disjoint_it2 {pfx n n' p : Str} (hn : '.' ∉ n) (hn' : '.' ∉ n') (h : Owns pfx n p)
    (h' : Owns pfx n' p) : n = n' := by
  -- with a dot at its end, a path owned by `n` is `pathPre pfx ++ n ++ "." ++ …` in either case
  have tail : ∀ {n}, Owns pfx n p → ∃ r, p ++ ['.'] = pathPre pfx ++ (n ++ '.' :: r) := by
    intro n h
    unfold Owns at h
    rw [joinPath_eq_it2, startsWith_iff] at h
    rcases h with h | ⟨r, h⟩
    · exact ⟨[], by rw [h]; simp⟩
    · exact ⟨r ++ ['.'], by rw [h]; simp⟩
  obtain ⟨r, hr⟩ := tail h
  obtain ⟨r', hr'⟩ := tail h'
  exact (dotfree_prefix_unique n n' r r' hn hn' (List.append_cancel_left (hr ▸ hr'))).1

theorem startsWith_dot_ne_self_it2 (q : Str) : startsWith (q ++ ['.']) q = false := by
  cases h : startsWith (q ++ ['.']) q with
  | false => rfl
  | true =>
    obtain ⟨r, hr⟩ := (startsWith_iff _ _).mp h
    have := congrArg List.length hr
    simp at this

theorem startsWith_trans_dot_it2 (pfx n x : Str) (h : startsWith ((pfx ++ '.' :: n) ++ ['.']) x = true) :
    startsWith (pfx ++ ['.']) x = true := by
  obtain ⟨r, hr⟩ := (startsWith_iff _ _).mp h
  exact (startsWith_iff _ _).mpr ⟨n ++ '.' :: r, by rw [hr]; simp⟩

mutual
theorem visitObj_prefix_it2 (skip : Int → Bool) : ∀ (o : Obj) (pfx : Str) (pos : Nat), pfx ≠ [] →
    ∀ v ∈ visitObj skip pfx pos o, startsWith (pfx ++ ['.']) v.path = true
  | .defn m ws, pfx, pos, hp, v, hv => by
    rw [visitObj] at hv
    split at hv
    · cases hv
    · rw [List.mem_singleton] at hv
      subst hv
      show startsWith (pfx ++ ['.']) (joinPath pfx m.name) = true
      rw [joinPath_of_ne_nil_it2 pfx _ hp]
      exact startsWith_self_dot _ _
  | .scope m kids, pfx, pos, hp, v, hv => by
    rw [visitObj] at hv
    split at hv
    · cases hv
    · rw [List.mem_cons] at hv
      rcases hv with rfl | hv
      · show startsWith (pfx ++ ['.']) (joinPath pfx m.name) = true
        rw [joinPath_of_ne_nil_it2 pfx _ hp]
        exact startsWith_self_dot _ _
      · have hq : joinPath pfx m.name ≠ [] := by
          rw [joinPath_of_ne_nil_it2 pfx _ hp]; simp
        have := visitList_prefix_it2 skip kids _ (pos + 1) hq v hv
        rw [joinPath_of_ne_nil_it2 pfx _ hp] at this
        exact startsWith_trans_dot_it2 pfx m.name v.path this
theorem visitList_prefix_it2 (skip : Int → Bool) : ∀ (l : List Obj) (pfx : Str) (pos : Nat), pfx ≠ [] →
    ∀ v ∈ visitList skip pfx pos l, startsWith (pfx ++ ['.']) v.path = true
  | [], pfx, pos, hp, v, hv => by rw [visitList] at hv; cases hv
  | o :: os, pfx, pos, hp, v, hv => by
    rw [visitList, List.mem_append] at hv
    rcases hv with hv | hv
    · exact visitObj_prefix_it2 skip o pfx pos hp v hv
    · exact visitList_prefix_it2 skip os pfx _ hp v hv
end

theorem visitObj_owns_it2 (skip : Int → Bool) (o : Obj) (pfx : Str) (pos : Nat) (hn : o.name ≠ []) :
    ∀ v ∈ visitObj skip pfx pos o, Owns pfx o.name v.path := by
  intro v hv
  cases o with
  | defn m ws =>
    rw [visitObj] at hv
    split at hv
    · cases hv
    · rw [List.mem_singleton] at hv
      subst hv
      exact .inl rfl
  | scope m kids =>
    rw [visitObj] at hv
    split at hv
    · cases hv
    · rw [List.mem_cons] at hv
      rcases hv with rfl | hv
      · exact .inl rfl
      · exact .inr (visitList_prefix_it2 skip kids _ (pos + 1) (joinPath_ne_nil_it2 pfx m.name hn) v hv)

theorem visitList_mem_it2 (skip : Int → Bool) : ∀ (l : List Obj) (pfx : Str) (pos : Nat),
    ∀ v ∈ visitList skip pfx pos l, ∃ o ∈ l, ∃ pos', v ∈ visitObj skip pfx pos' o ∧
      ∀ v' ∈ visitObj skip pfx pos' o, v' ∈ visitList skip pfx pos l
  | [], pfx, pos, v, hv => by rw [visitList] at hv; cases hv
  | o :: os, pfx, pos, v, hv => by
    rw [visitList, List.mem_append] at hv
    rcases hv with hv | hv
    · exact ⟨o, List.mem_cons_self, pos, hv, fun v' hv' => by
        rw [visitList]; exact List.mem_append_left _ hv'⟩
    · obtain ⟨o', ho', pos', h, hsub⟩ := visitList_mem_it2 skip os pfx _ v hv
      exact ⟨o', List.mem_cons_of_mem _ ho', pos', h, fun v' hv' => by
        rw [visitList]; exact List.mem_append_right _ (hsub v' hv')⟩

theorem visitList_append_it2 (skip : Int → Bool) : ∀ (a b : List Obj) (pfx : Str) (pos : Nat),
    visitList skip pfx pos (a ++ b) = visitList skip pfx pos a ++ visitList skip pfx (pos + nodeCountL a) b
  | [], b, pfx, pos => by rw [visitList, nodeCountL]; rfl
  | o :: os, b, pfx, pos => by
    rw [List.cons_append, visitList, visitList, visitList_append_it2 skip os b, nodeCountL,
      List.append_assoc, Nat.add_assoc]

/-! ## 2. well-grouped working trees -/

/-- the template test of `reindex_phil_objects` -/
def skipNegI : Int → Bool := fun t => decide (t < 0)


/-- two siblings of one name are both `.multiple` -/
def pairOK : List Obj → Bool
  | [] => true
  | o :: os => os.all (fun o' => o'.name != o.name || (multipleIsTrue o && multipleIsTrue o')) && pairOK os

mutual
def wuObj : Obj → Bool
  | .defn _ _ => true
  | .scope m kids => multipleIsTrue (.scope m kids) || (wuList kids && pairOK kids)
/-- sibling names are non-empty and dot-free, and below every scope that is not `.multiple` the same
    holds together with `pairOK` -/
def wuList : List Obj → Bool
  | [] => true
  | o :: os => !o.name.isEmpty && !o.name.contains '.' && wuObj o && wuList os
end

/-- **well-grouped working tree** (executable) -/
def wellGroupedB (w : List Obj) : Bool := wuList w && pairOK w

theorem pairOK_iff_it2 : ∀ (l : List Obj), pairOK l = true ↔
    l.Pairwise (fun a b => a.name = b.name → multipleIsTrue a = true ∧ multipleIsTrue b = true)
  | [] => by simp [pairOK]
  | o :: os => by
    rw [pairOK, Bool.and_eq_true, pairOK_iff_it2 os, List.pairwise_cons, List.all_eq_true]
    constructor
    · rintro ⟨h1, h2⟩
      refine ⟨?_, h2⟩
      intro o' ho' hname
      have := h1 o' ho'
      simp only [Bool.or_eq_true, bne_iff_ne, ne_eq, Bool.and_eq_true] at this
      rcases this with h | h
      · exact absurd hname.symm h
      · exact h
    · rintro ⟨h1, h2⟩
      refine ⟨?_, h2⟩
      intro o' ho'
      simp only [Bool.or_eq_true, bne_iff_ne, ne_eq, Bool.and_eq_true]
      by_cases hname : o'.name = o.name
      · exact .inr (h1 o' ho' hname.symm)
      · exact .inl hname

theorem wuList_iff_it2 : ∀ (l : List Obj),
    wuList l = true ↔ ∀ o ∈ l, o.name ≠ [] ∧ '.' ∉ o.name ∧ wuObj o = true
  | [] => by simp [wuList]
  | a :: os => by
    rw [wuList, List.forall_mem_cons, ← wuList_iff_it2 os]
    simp only [Bool.and_eq_true, Bool.not_eq_eq_eq_not, Bool.not_true, List.isEmpty_eq_false_iff,
      List.contains_eq_mem, decide_eq_false_iff_not, ne_eq, and_assoc]

/-- the visits at `p`: a visit that is not `.multiple` is alone -/
def Uni (F : List Visit) : Prop := ∀ x ∈ F, multipleIsTrue x.obj = false → F = [x]

/-- no live `.multiple` scope among the visits has `p` strictly below it -/
def NotBelowMulti (vs : List Visit) (p : Str) : Prop :=
  ∀ v ∈ vs, v.obj.isDefn = false → multipleIsTrue v.obj = true → startsWith (v.path ++ ['.']) p = false

theorem uni_nil_it2 : Uni [] := fun x hx => by cases hx
theorem uni_single_it2 (v : Visit) : Uni [v] := fun x hx _ => by
  rw [List.mem_singleton] at hx; rw [hx]

theorem uni_of_all_it2 {F : List Visit} (h : ∀ x ∈ F, multipleIsTrue x.obj = true) : Uni F :=
  fun x hx hxm => by rw [h x hx] at hxm; cases hxm

theorem uni_append_it2 {A B : List Visit} (hA : Uni A) (hB : Uni B)
    (h : ∀ x ∈ A, ∀ y ∈ B, multipleIsTrue x.obj = true ∧ multipleIsTrue y.obj = true) : Uni (A ++ B) := by
  intro z hz hzm
  rcases List.mem_append.mp hz with hz' | hz'
  · cases B with
    | nil => rw [List.append_nil]; exact hA z hz' hzm
    | cons y ys => rw [(h z hz' y List.mem_cons_self).1] at hzm; cases hzm
  · cases A with
    | nil => exact hB z hz' hzm
    | cons x xs => rw [(h x List.mem_cons_self z hz').2] at hzm; cases hzm

theorem below_ne_it2 (skip : Int → Bool) {q p : Str} (hq : q ≠ []) (hp : startsWith (q ++ ['.']) p = false)
    (kids : List Obj) (pos : Nat) : ∀ x ∈ visitList skip q pos kids, x.path ≠ p := fun x hx hxp => by
  have := visitList_prefix_it2 skip kids q pos hq x hx
  rw [hxp, hp] at this
  cases this

/-- the visits at `p` of a `.multiple` object are `.multiple`, when `p` is not below a live `.multiple`
    scope: only the object itself can be at `p` -/
theorem multi_at_it2 {o : Obj} {pfx : Str} {pos : Nat} {p : Str} (hn : o.name ≠ [])
    (hm : multipleIsTrue o = true) (hex : NotBelowMulti (visitObj skipNegI pfx pos o) p) :
    ∀ x ∈ visitObj skipNegI pfx pos o, x.path = p → multipleIsTrue x.obj = true := by
  intro x hx hxp
  cases o with
  | defn m ws =>
    rw [visitObj] at hx
    split at hx
    · cases hx
    · rw [List.mem_singleton] at hx
      subst hx
      exact hm
  | scope m kids =>
    rw [visitObj] at hx hex
    split at hx
    · cases hx
    · rename_i hsk
      simp only [hsk] at hex
      rw [List.mem_cons] at hx
      rcases hx with rfl | hx
      · exact hm
      · exact absurd hxp (below_ne_it2 skipNegI (joinPath_ne_nil_it2 pfx m.name hn)
          (hex _ List.mem_cons_self rfl hm) kids _ x hx)

mutual
theorem uniObj_it2 : ∀ (o : Obj) (pfx : Str) (pos : Nat) (p : Str), o.name ≠ [] → wuObj o = true →
    NotBelowMulti (visitObj skipNegI pfx pos o) p →
    Uni ((visitObj skipNegI pfx pos o).filter (fun v => v.path == p))
  | .defn m ws, pfx, pos, p, hn, hwu, hex => by
    rw [visitObj]
    split
    · exact uni_nil_it2
    · rw [List.filter_cons]
      split
      · exact uni_single_it2 _
      · exact uni_nil_it2
  | .scope m kids, pfx, pos, p, hn, hwu, hex => by
    by_cases hmul : multipleIsTrue (.scope m kids) = true
    · exact uni_of_all_it2 fun x hx => by
        rw [List.mem_filter, beq_iff_eq] at hx
        exact multi_at_it2 hn hmul hex x hx.1 hx.2
    · rw [wuObj, Bool.or_eq_true, Bool.and_eq_true] at hwu
      rw [visitObj] at hex ⊢
      split
      · exact uni_nil_it2
      · rename_i hsk
        simp only [hsk] at hex
        rw [List.filter_cons]
        split
        · -- the scope itself is at `p`: nothing below it is
          rename_i hpq
          rw [List.filter_eq_nil_iff.mpr fun x hx hxp => below_ne_it2 skipNegI (joinPath_ne_nil_it2 pfx m.name hn)
            (eq_of_beq hpq ▸ startsWith_dot_ne_self_it2 _) kids _ x hx (eq_of_beq hxp)]
          exact uni_single_it2 _
        · exact uniList_it2 kids _ (pos + 1) p (hwu.resolve_left hmul).1 (hwu.resolve_left hmul).2
            (fun v hv => hex v (List.mem_cons_of_mem _ hv))
theorem uniList_it2 : ∀ (l : List Obj) (pfx : Str) (pos : Nat) (p : Str), wuList l = true → pairOK l = true →
    NotBelowMulti (visitList skipNegI pfx pos l) p →
    Uni ((visitList skipNegI pfx pos l).filter (fun v => v.path == p))
  | [], pfx, pos, p, _, _, _ => by rw [visitList]; exact uni_nil_it2
  | o :: os, pfx, pos, p, hwu, hpair, hex => by
    have hmem := (wuList_iff_it2 (o :: os)).mp hwu
    obtain ⟨hon, hod, hou⟩ := hmem o List.mem_cons_self
    rw [wuList, Bool.and_eq_true] at hwu
    have hp := List.pairwise_cons.mp ((pairOK_iff_it2 _).mp hpair)
    rw [visitList] at hex ⊢
    rw [List.filter_append]
    have hexo : NotBelowMulti (visitObj skipNegI pfx pos o) p :=
      fun v hv => hex v (List.mem_append_left _ hv)
    have hexs : NotBelowMulti (visitList skipNegI pfx (pos + o.nodeCount) os) p :=
      fun v hv => hex v (List.mem_append_right _ hv)
    refine uni_append_it2 (uniObj_it2 o pfx pos p hon hou hexo)
      (uniList_it2 os pfx _ p hwu.2 ((pairOK_iff_it2 os).mpr hp.2) hexs) ?_
    -- a visit `x` of `o` and a visit `y` of a later sibling `o'` at `p`: same name, so `o`, `o'` are `.multiple`
    intro x hx y hy
    rw [List.mem_filter, beq_iff_eq] at hx hy
    obtain ⟨o', ho', pos', hyo', hsub⟩ := visitList_mem_it2 skipNegI os pfx _ y hy.1
    obtain ⟨hn', hd', _⟩ := hmem o' (List.mem_cons_of_mem _ ho')
    have hb := hp.1 o' ho' (owns_disjoint_it2 hod hd'
      (hx.2 ▸ visitObj_owns_it2 skipNegI o pfx pos hon x hx.1)
      (hy.2 ▸ visitObj_owns_it2 skipNegI o' pfx pos' hn' y hyo'))
    exact ⟨multi_at_it2 hon hb.1 hexo x hx.1 hx.2,
      multi_at_it2 hn' hb.2 (fun v hv => hexs v (hsub v hv)) y hyo' hy.2⟩
end

/-! ## 3. fetch results are well grouped -/

theorem multipleIsTrue_congr_it2 {o o' : Obj} (h : o.meta.attrs = o'.meta.attrs) :
    multipleIsTrue o = multipleIsTrue o' := by
  unfold multipleIsTrue Obj.attr
  rw [h]

theorem multipleIsTrue_of_not_truthy_it2 {o : Obj} (h : isMultiple o = false) : multipleIsTrue o = false := by
  unfold isMultiple at h
  unfold multipleIsTrue
  split
  · rename_i heq; rw [heq] at h; cases h
  · rfl

mutual
/-- `.multiple` attributes are booleans (what `assign_attribute` stores): truthy ⇒ `is True` -/
def multBoolObj : Obj → Bool
  | .defn mm ws => !isMultiple (.defn mm ws) || multipleIsTrue (.defn mm ws)
  | .scope mm kids => (!isMultiple (.scope mm kids) || multipleIsTrue (.scope mm kids)) && multBoolL kids
def multBoolL : List Obj → Bool
  | [] => true
  | o :: os => multBoolObj o && multBoolL os
end

theorem multBoolObj_here_it2 : ∀ (o : Obj), multBoolObj o = true → isMultiple o = true → multipleIsTrue o = true
  | .defn mm ws, h, hm => by
    rw [multBoolObj, hm] at h
    simpa using h
  | .scope mm kids, h, hm => by
    rw [multBoolObj, hm] at h
    simp only [Bool.not_true, Bool.false_or, Bool.and_eq_true] at h
    exact h.1

theorem msBlock_pair_it2 (e : Envs) (mo : Obj) (srcs : List Obj) (hb : multBoolObj mo = true) :
    (msBlock e mo srcs).Pairwise
      (fun a b => a.name = b.name → multipleIsTrue a = true ∧ multipleIsTrue b = true) := by
  cases hm : isMultiple mo with
  | false =>
    have hl := msBlock_plain_length e mo srcs hm
    match hB : msBlock e mo srcs, hl with
    | [x], _ => exact List.pairwise_singleton _ _
  | true =>
    have hmt := multBoolObj_here_it2 mo hb hm
    apply List.pairwise_of_forall_mem_list
    intro a ha b hb' _
    exact ⟨by rw [multipleIsTrue_congr_it2 (msBlock_member_ms e mo srcs a ha).2.2.2]; exact hmt,
      by rw [multipleIsTrue_congr_it2 (msBlock_member_ms e mo srcs b hb').2.2.2]; exact hmt⟩

mutual
theorem wuBlock_ms_it2 (e : Envs) : ∀ (mo : Obj) (srcs : List Obj), MSObj mo → multBoolObj mo = true →
    ∀ o ∈ msBlock e mo srcs, wuObj o = true
  | .defn mm mws, srcs, hms, hb, o, ho => by
    have := (msBlock_member_ms e _ srcs o ho).2.2.1
    cases o with
    | defn m ws => rfl
    | scope m k => cases this
  | .scope mm kids, srcs, hms, hb, o, ho => by
    have hattr := (msBlock_member_ms e _ srcs o ho).2.2.2
    cases hm : isMultiple (.scope mm kids) with
    | true =>
      have hmt := multBoolObj_here_it2 _ hb hm
      cases o with
      | defn m ws => rfl
      | scope m k =>
        rw [wuObj, multipleIsTrue_congr_it2 hattr, hmt]
        rfl
    | false =>
      have hm' : (mm.attrs.get "multiple").truthy = false := hm
      rw [msBlock] at ho
      simp only [hm', Bool.false_eq_true, if_false, List.mem_singleton] at ho
      subst ho
      rw [MSObj] at hms
      rw [multBoolObj, Bool.and_eq_true] at hb
      have := wuRes_ms_it2 e kids (srcStep srcs mm.name) hms.2.2.2.1 hms.2.2.2.2 hb.2
      rw [wuObj, this.1, this.2]
      simp
theorem wuRes_ms_it2 (e : Envs) : ∀ (l : List Obj) (srcs : List Obj), MSKids l →
    (l.map Obj.name).Pairwise (· ≠ ·) → multBoolL l = true →
    wuList (msResult e l srcs) = true ∧ pairOK (msResult e l srcs) = true
  | [], srcs, _, _, _ => by rw [msResult]; exact ⟨rfl, rfl⟩
  | mo :: rest, srcs, hk, hd, hb => by
    rw [MSKids] at hk
    rw [multBoolL, Bool.and_eq_true] at hb
    rw [List.map_cons, List.pairwise_cons] at hd
    have ih := wuRes_ms_it2 e rest srcs hk.2 hd.2 hb.2
    have hblk := wuBlock_ms_it2 e mo srcs hk.1 hb.1
    rw [msResult]
    constructor
    · rw [wuList_iff_it2]
      intro o ho
      rw [List.mem_append] at ho
      rcases ho with ho | ho
      · have hn := (msBlock_member_ms e mo srcs o ho).1
        exact ⟨by rw [hn]; exact hk.1.name_ne, by rw [hn]; exact hk.1.dotfree, hblk o ho⟩
      · exact (wuList_iff_it2 _).mp ih.1 o ho
    · rw [pairOK_iff_it2, List.pairwise_append]
      refine ⟨msBlock_pair_it2 e mo srcs hb.1, (pairOK_iff_it2 _).mp ih.2, ?_⟩
      intro a ha b hb' hname
      exfalso
      rw [msResult_eq_flatMap, List.mem_flatMap] at hb'
      obtain ⟨mo', hmo', hb''⟩ := hb'
      have h1 := (msBlock_member_ms e mo srcs a ha).1
      have h2 := (msBlock_member_ms e mo' srcs b hb'').1
      exact hd.1 mo'.name (List.mem_map.mpr ⟨mo', hmo', rfl⟩) (by rw [← h1, ← h2, hname])
end

/-! ### no `.multiple` scope at all (results of a `TreeMultiMaster`) -/

mutual
def noMSObj : Obj → Bool
  | .defn _ _ => true
  | .scope m kids => !multipleIsTrue (.scope m kids) && noMSList kids
/-- no scope of the tree is `.multiple` -/
def noMSList : List Obj → Bool
  | [] => true
  | o :: os => noMSObj o && noMSList os
end

theorem noMSList_append_it2 : ∀ (a b : List Obj), noMSList (a ++ b) = (noMSList a && noMSList b)
  | [], b => by rw [noMSList]; rfl
  | o :: os, b => by rw [List.cons_append, noMSList, noMSList, noMSList_append_it2 os b, Bool.and_assoc]

mutual
theorem noMS_visitObj_it2 (skip : Int → Bool) : ∀ (o : Obj) (pfx : Str) (pos : Nat), noMSObj o = true →
    ∀ v ∈ visitObj skip pfx pos o, v.obj.isDefn = false → multipleIsTrue v.obj = false
  | .defn m ws, pfx, pos, _, v, hv, hd => by
    rw [visitObj] at hv
    split at hv
    · cases hv
    · rw [List.mem_singleton] at hv; subst hv; cases hd
  | .scope m kids, pfx, pos, h, v, hv, hd => by
    rw [noMSObj, Bool.and_eq_true] at h
    rw [visitObj] at hv
    split at hv
    · cases hv
    · rw [List.mem_cons] at hv
      rcases hv with rfl | hv
      · simpa using h.1
      · exact noMS_visitList_it2 skip kids _ _ h.2 v hv hd
theorem noMS_visitList_it2 (skip : Int → Bool) : ∀ (l : List Obj) (pfx : Str) (pos : Nat), noMSList l = true →
    ∀ v ∈ visitList skip pfx pos l, v.obj.isDefn = false → multipleIsTrue v.obj = false
  | [], pfx, pos, _, v, hv, _ => by rw [visitList] at hv; cases hv
  | o :: os, pfx, pos, h, v, hv, hd => by
    rw [noMSList, Bool.and_eq_true] at h
    rw [visitList, List.mem_append] at hv
    rcases hv with hv | hv
    · exact noMS_visitObj_it2 skip o pfx pos h.1 v hv hd
    · exact noMS_visitList_it2 skip os pfx _ h.2 v hv hd
end

mutual
theorem noMS_tmBlock_it2 (e : Envs) : ∀ (mo : Obj) (srcs : List Obj), TMObj mo →
    noMSList (tmBlock e mo srcs) = true
  | .defn mm mws, srcs, h => by
    have hall : ∀ (B : List Obj), (∀ o ∈ B, o.isDefn = true) → noMSList B = true := by
      intro B
      induction B with
      | nil => intro _; rfl
      | cons o os ih =>
        intro hB
        rw [noMSList, ih (fun o ho => hB o (List.mem_cons_of_mem _ ho)), Bool.and_true]
        have := hB o List.mem_cons_self
        cases o with
        | defn m ws => rfl
        | scope m k => cases this
    exact hall _ (fun o ho => (tmBlock_member_tm e _ srcs o ho).2.2)
  | .scope mm kids, srcs, h => by
    rw [TMObj] at h
    rw [tmBlock, noMSList, noMSList, noMSObj, noMS_treeMultiResult_it2 e kids _ h.2.2.2.2.1,
      multipleIsTrue_of_not_truthy_it2 (o := .scope { mm with tmpl := 0 } _) h.1]
    rfl
theorem noMS_treeMultiResult_it2 (e : Envs) : ∀ (l : List Obj) (srcs : List Obj), TMKids l →
    noMSList (treeMultiResult e l srcs) = true
  | [], srcs, _ => by rw [treeMultiResult]; rfl
  | mo :: rest, srcs, h => by
    rw [TMKids] at h
    rw [treeMultiResult, noMSList_append_it2, noMS_tmBlock_it2 e mo srcs h.1,
      noMS_treeMultiResult_it2 e rest srcs h.2]; rfl
end

/-! ### from `Uni` to the statement used in Phil/Props/C20Paths.lean -/

theorem uni_cases_it2 (F : List Visit) (h : Uni F) :
    (∀ x ∈ F, multipleIsTrue x.obj = true) ∨ (∃ v, F = [v] ∧ multipleIsTrue v.obj = false) := by
  by_cases hex : ∃ x ∈ F, multipleIsTrue x.obj = false
  · obtain ⟨x, hx, hm⟩ := hex
    exact .inr ⟨x, h x hx hm, hm⟩
  · refine .inl fun x hx => ?_
    cases hm : multipleIsTrue x.obj with
    | true => rfl
    | false => exact absurd ⟨x, hx, hm⟩ hex

theorem multipleIsTrue_rootOf_it2 (w : List Obj) : multipleIsTrue (rootOf w) = false := rfl

theorem uniform_of_wu_it2 (w : List Obj) (hw : wellGroupedB w = true) (p : Str)
    (hex : NotBelowMulti (visitList skipNegI [] 1 w) p) :
    (∀ x ∈ visitsAt p (visitsOf skipNegI w), multipleIsTrue x.obj = true) ∨
      (∃ v, visitsAt p (visitsOf skipNegI w) = [v] ∧ multipleIsTrue v.obj = false) := by
  unfold wellGroupedB at hw
  rw [Bool.and_eq_true] at hw
  have hU := uniList_it2 w [] 1 p hw.1 hw.2 hex
  unfold visitsAt visitsOf
  rw [List.filter_cons]
  by_cases hp : p = []
  · subst hp
    have hnil : (visitList skipNegI [] 1 w).filter (fun v => v.path == []) = [] := by
      rw [List.filter_eq_nil_iff]
      intro v hv hvp
      have hvp' : v.path = [] := by simpa using hvp
      obtain ⟨o, ho, pos', hvo, _⟩ := visitList_mem_it2 skipNegI w [] 1 v hv
      have hn := ((wuList_iff_it2 w).mp hw.1 o ho).1
      have := visitObj_owns_it2 skipNegI o [] pos' hn v hvo
      rw [hvp'] at this
      rcases this with h | h
      · exact joinPath_ne_nil_it2 [] o.name hn h.symm
      · obtain ⟨r, hr⟩ := (startsWith_iff _ _).mp h
        have := congrArg List.length hr
        simp at this
    simp only [hnil]
    right
    exact ⟨_, rfl, rfl⟩
  · have : ((([] : Str) == p) = false) := by
      cases p with
      | nil => exact absurd rfl hp
      | cons c r => rfl
    simp only [this]
    exact uni_cases_it2 _ hU

end Phil
