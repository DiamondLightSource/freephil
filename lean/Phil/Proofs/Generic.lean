/-
  Phil.Proofs.Generic — facts about `Except`, monadic folds over `Except`, lists and `Str` that mention
  no notion of the model beyond `Str`, `R` and the string functions of `Phil.Basic`, and the induction
  principles of `Obj`.  Every proof file may import it; it imports nothing above `Phil.Basic`.
-/
import Phil.Basic
namespace Phil

/-! ## 1. `Except.map` -/

theorem Except.map_eq_ok {ε α β : Type} {f : α → β} {x : Except ε α} {b : β} :
    Except.map f x = .ok b ↔ ∃ a, x = .ok a ∧ f a = b := by
  cases x with
  | error e => exact ⟨nofun, nofun⟩
  | ok a => exact ⟨fun h => ⟨a, rfl, Except.ok.inj h⟩, fun ⟨_, h, hb⟩ => by cases h; exact congrArg _ hb⟩

theorem Except.map_eq_error {ε α β : Type} {f : α → β} {x : Except ε α} {e : ε} :
    Except.map f x = .error e ↔ x = .error e := by
  cases x with
  | error e' => exact ⟨fun h => congrArg _ (Except.error.inj h), fun h => congrArg _ (Except.error.inj h)⟩
  | ok a => exact ⟨nofun, nofun⟩

/-! ## 2. reading a total closed form backwards -/

/-- a computation with the closed form "the pair, or the error" that came out as a success: the condition
    holds and the pair is that one -/
theorem ok_of_total {ε α β : Type} {x : Except ε (α × β)} {c : Bool} {a : α} {b : β} {E : ε}
    (ht : x = if c then .ok (a, b) else .error E) {a' : α} {b' : β} (h : x = .ok (a', b')) :
    c = true ∧ a' = a ∧ b' = b := by
  rw [ht] at h
  cases c with
  | false => cases h
  | true => cases h; exact ⟨rfl, rfl, rfl⟩

/-- a result that is the error `c` carries, if any, else `v` -/
theorem ok_of_optError {α : Type} {c : Option Err} {v r : α}
    (h : (match c with | some E => (.error E : R α) | none => .ok v) = .ok r) : c = none ∧ v = r := by
  cases c with
  | some E => cases h
  | none => cases h; exact ⟨rfl, rfl⟩

/-! ## 3. `foldlM` and `mapM` over `Except` -/

/-- the one induction behind the loop invariants -/
theorem foldlM_inv_err {α β ε : Type} (Inv : β → Prop) (Q : ε → Prop) (f : β → α → Except ε β) :
    ∀ (l : List α),
      (∀ b a, a ∈ l → Inv b → (∀ e, f b a = .error e → Q e) ∧ ∀ b', f b a = .ok b' → Inv b') →
      ∀ b, Inv b → (∀ e, l.foldlM f b = .error e → Q e) ∧ ∀ b', l.foldlM f b = .ok b' → Inv b' := by
  intro l
  induction l with
  | nil => exact fun _ b hb => ⟨nofun, fun b' h => by cases h; exact hb⟩
  | cons a as ih =>
    intro hf b hb
    rw [List.foldlM_cons]
    obtain ⟨h1, h2⟩ := hf b a List.mem_cons_self hb
    cases hc : f b a with
    | error e => exact ⟨fun e' h => by cases h; exact h1 e hc, nofun⟩
    | ok b1 => exact ih (fun b a' ha' => hf b a' (List.mem_cons_of_mem _ ha')) b1 (h2 b1 hc)

theorem foldlM_inv {α β ε : Type} (Inv : β → Prop) (f : β → α → Except ε β) (l : List α)
    (hstep : ∀ b a b', a ∈ l → Inv b → f b a = .ok b' → Inv b') (init r : β) (hi : Inv init)
    (h : l.foldlM f init = .ok r) : Inv r :=
  (foldlM_inv_err Inv (fun _ => True) f l
    (fun b a ha hb => ⟨fun _ _ => trivial, fun b' => hstep b a b' ha hb⟩) init hi).2 r h

theorem foldlM_error_of_step {α β ε : Type} {P : ε → Prop} {f : β → α → Except ε β}
    (h : ∀ acc x e, f acc x = .error e → P e) {l : List α} {init : β} {e : ε}
    (h' : l.foldlM f init = .error e) : P e :=
  (foldlM_inv_err (fun _ => True) P f l (fun b a _ _ => ⟨h b a, fun _ _ => trivial⟩) init trivial).1 e h'

theorem foldlM_ok_each {α β ε : Type} (f : β → α → Except ε β) :
    ∀ (l : List α) (init r : β), l.foldlM f init = .ok r → ∀ a ∈ l, ∃ b b', f b a = .ok b' := by
  intro l
  induction l with
  | nil => intro _ _ _ a ha; cases ha
  | cons x l ih =>
    intro init r h a ha
    rw [List.foldlM_cons] at h
    cases hf : f init x with
    | error err => rw [hf] at h; cases h
    | ok b' =>
      rw [hf] at h
      rcases List.mem_cons.mp ha with rfl | ha
      · exact ⟨init, b', hf⟩
      · exact ih b' r h a ha

theorem foldlM_first_error {α β ε : Type} (f : β → α → Except ε β) (c : α → Option ε) :
    ∀ (l : List α),
      (∀ a ∈ l, ∀ b, (c a = none → ∃ b', f b a = .ok b') ∧ (∀ E, c a = some E → f b a = .error E)) →
      ∀ E, l.findSome? c = some E → ∀ init, l.foldlM f init = .error E := by
  intro l
  induction l with
  | nil => intro _ E h; simp at h
  | cons a l ih =>
    intro hstep E hE init
    rw [List.foldlM_cons]
    rw [List.findSome?_cons] at hE
    cases hc : c a with
    | some E' =>
      rw [hc] at hE
      cases hE
      rw [(hstep a List.mem_cons_self init).2 E hc]
      rfl
    | none =>
      rw [hc] at hE
      obtain ⟨b', hb⟩ := (hstep a List.mem_cons_self init).1 hc
      rw [hb]
      exact ih (fun a' ha' => hstep a' (List.mem_cons_of_mem _ ha')) E hE b'

theorem foldlM_append_or_fail {α β γ : Type} (f : (List γ × List β) → α → R (List γ × List β))
    (c : α → Option Err) (g : α → List γ) (u : α → List β) :
    ∀ (l : List α),
      (∀ st a, a ∈ l → f st a =
        match c a with
        | some E => .error E
        | none => .ok (st.1 ++ g a, st.2 ++ u a)) →
      ∀ (init : List γ × List β),
        l.foldlM f init =
          match l.findSome? c with
          | some E => .error E
          | none => .ok (init.1 ++ l.flatMap g, init.2 ++ l.flatMap u) := by
  intro l
  induction l with
  | nil => intro _ init; simp; rfl
  | cons a l ih =>
    intro hstep init
    rw [List.foldlM_cons, hstep init a List.mem_cons_self, List.findSome?_cons]
    cases hc : c a with
    | some E => rfl
    | none =>
      show l.foldlM f _ = _
      rw [ih (fun st a' ha' => hstep st a' (List.mem_cons_of_mem _ ha'))]
      cases l.findSome? c with
      | some E => rfl
      | none => simp

theorem foldlM_congr_mem {α β ε : Type} (f g : β → α → Except ε β) :
    ∀ (l : List α), (∀ a ∈ l, ∀ b, f b a = g b a) → ∀ init, l.foldlM f init = l.foldlM g init := by
  intro l
  induction l with
  | nil => intro _ _; rfl
  | cons a l ih =>
    intro h init
    rw [List.foldlM_cons, List.foldlM_cons, h a List.mem_cons_self init]
    cases g init a with
    | error err => rfl
    | ok b => exact ih (fun a' ha' => h a' (List.mem_cons_of_mem _ ha')) b

theorem mapM_nil_R {α β : Type} (f : α → R β) : ([] : List α).mapM f = .ok [] := by
  simp [pure, Except.pure]

theorem mapM_cons_R {α β : Type} (f : α → R β) (a : α) (l : List α) :
    (a :: l).mapM f =
      match f a with
      | .error e => .error e
      | .ok b =>
        match l.mapM f with
        | .error e => .error e
        | .ok bs => .ok (b :: bs) := by
  rw [List.mapM_cons]
  cases f a with
  | error e => rfl
  | ok b =>
    cases l.mapM f with
    | error e => rfl
    | ok bs => rfl

/-- every member of a successful `mapM` is the value at some element -/
theorem mapM_ok_mem_R {α β : Type} {f : α → R β} :
    ∀ {l : List α} {bs : List β}, l.mapM f = .ok bs → ∀ b ∈ bs, ∃ a ∈ l, f a = .ok b
  | [], _, h, b, hb => by rw [mapM_nil_R] at h; cases h; cases hb
  | a :: l, _, h, b, hb => by
    rw [mapM_cons_R] at h
    split at h
    · cases h
    · rename_i b0 ha
      split at h
      · cases h
      · rename_i bs0 hl
        cases h
        rcases List.mem_cons.mp hb with rfl | hb
        · exact ⟨a, List.mem_cons_self, ha⟩
        · obtain ⟨a', ha', h'⟩ := mapM_ok_mem_R hl b hb
          exact ⟨a', List.mem_cons_of_mem _ ha', h'⟩

theorem mapM_error_vs {α β : Type} {f : α → R β} {e : Err} :
    ∀ {l : List α}, l.mapM f = .error e → ∃ a ∈ l, f a = .error e
  | [], h => by rw [mapM_nil_R] at h; cases h
  | a :: l, h => by
    rw [mapM_cons_R] at h
    split at h
    · rename_i hfa; cases h; exact ⟨a, List.mem_cons_self, hfa⟩
    · split at h
      · rename_i hl
        cases h
        obtain ⟨a', ha', hf'⟩ := mapM_error_vs hl
        exact ⟨a', List.mem_cons_of_mem _ ha', hf'⟩
      · cases h

theorem mapM_single_vs {α β : Type} (f : α → R β) (a : α) :
    [a].mapM f = (f a).map (fun b => [b]) := by
  rw [mapM_cons_R, mapM_nil_R]
  cases f a <;> rfl

theorem mapM_congr_vs {α β : Type} {f g : α → R β} :
    ∀ (l : List α), (∀ a ∈ l, f a = g a) → l.mapM f = l.mapM g
  | [], _ => by rw [mapM_nil_R, mapM_nil_R]
  | a :: l, h => by
    rw [mapM_cons_R, mapM_cons_R, h a (by simp), mapM_congr_vs l (fun x hx => h x (by simp [hx]))]

theorem foldlM_append_vs {α β γ : Type} {step : List γ → α → R (List γ)} {f : α → R β} (g : β → List γ)
    (h : ∀ acc a, step acc a = (f a).map (acc ++ g ·)) :
    ∀ (l : List α) (acc : List γ), l.foldlM step acc = (l.mapM f).map (fun bs => acc ++ bs.flatMap g) := by
  intro l
  induction l with
  | nil => intro acc; simp [Except.map, pure, Except.pure]
  | cons a l ih =>
    intro acc
    rw [List.foldlM_cons, mapM_cons_R, h]
    cases f a with
    | error e => rfl
    | ok b =>
      simp only [Except.map]
      show l.foldlM _ (acc ++ g b) = _
      rw [ih]
      cases l.mapM f with
      | error e => rfl
      | ok bs => simp [Except.map]

/-- a success stays the same success -/
def OkLe {α : Type} (a b : R α) : Prop := ∀ r, a = .ok r → b = .ok r

theorem OkLe.map {α β : Type} {a b : R α} (h : OkLe a b) (g : α → β) : OkLe (a.map g) (b.map g) := by
  intro r hr
  cases ha : a with
  | error e => rw [ha] at hr; cases hr
  | ok x => rw [ha] at hr; rw [h x ha]; exact hr

theorem mapM_okLe_vs {α β : Type} {f1 f2 : α → R β} :
    ∀ (l : List α), (∀ x ∈ l, OkLe (f1 x) (f2 x)) → OkLe (l.mapM f1) (l.mapM f2)
  | [], _ => fun _ h => by rw [mapM_nil_R] at h ⊢; exact h
  | x :: xs, h => by
    intro r hr
    rw [mapM_cons_R] at hr ⊢
    cases h1 : f1 x with
    | error e => rw [h1] at hr; cases hr
    | ok b =>
      rw [h1] at hr
      rw [h x (by simp) b h1]
      cases h2 : xs.mapM f1 with
      | error e => simp only [h2] at hr; cases hr
      | ok bs =>
        simp only [h2] at hr
        simp only [mapM_okLe_vs xs (fun y hy => h y (by simp [hy])) bs h2]
        exact hr

/-! ## 4. lists -/

theorem flatMap_congr_mem {α β : Type} (f g : α → List β) (l : List α) (h : ∀ a ∈ l, f a = g a) :
    l.flatMap f = l.flatMap g := by
  rw [List.flatMap_def, List.flatMap_def, List.map_congr_left h]

theorem findSome?_ite {α ε : Type} (c : α → Bool) (E : ε) : ∀ (l : List α),
    l.findSome? (fun a => if c a then none else some E) = if l.all c then none else some E
  | [] => rfl
  | a :: l => by
    rw [List.findSome?_cons, List.all_cons, findSome?_ite c E l]
    cases c a <;> rfl

theorem char_ne_of_toNat (c d : Char) (h : c.toNat ≠ d.toNat) : c ≠ d := fun e => h (e ▸ rfl)

/-! ## 5. prefixes, suffixes and `splitOn` -/

/-- `startsWith` is the prefix relation of Lean core, whose lemmas (`List.IsPrefix.length_le`, `.trans`,
    `.subset`, `List.prefix_append` …) then apply -/
theorem startsWith_iff_prefix {p s : Str} : startsWith p s = true ↔ p <+: s := by
  rw [startsWith, beq_iff_eq, eq_comm, List.prefix_iff_eq_take]

theorem startsWith_iff (p s : Str) : startsWith p s = true ↔ ∃ b, s = p ++ b :=
  startsWith_iff_prefix.trans List.prefix_iff_exists_eq_append

theorem startsWith_self_dot (a b : Str) : startsWith (a ++ ['.']) (a ++ '.' :: b) = true :=
  (startsWith_iff _ _).2 ⟨b, by rw [List.append_assoc]; rfl⟩

theorem endsWith_iff (p s : Str) : endsWith p s = true ↔ ∃ a, s = a ++ p := by
  unfold endsWith
  constructor
  · intro h
    simp only [Bool.and_eq_true, decide_eq_true_eq, beq_iff_eq] at h
    refine ⟨s.take (s.length - p.length), ?_⟩
    conv => lhs; rw [← List.take_append_drop (s.length - p.length) s]
    rw [h.2]
  · rintro ⟨a, rfl⟩; simp

theorem splitOn_ne_nil (sep : Char) (s : Str) : splitOn sep s ≠ [] := by
  induction s with
  | nil => simp [splitOn]
  | cons c cs ih =>
    unfold splitOn
    split
    · simp
    · split <;> simp

theorem splitOn_of_not_mem (sep : Char) (s : Str) (h : sep ∉ s) : splitOn sep s = [s] := by
  induction s with
  | nil => rfl
  | cons c cs ih =>
    have hc : (c == sep) = false := by
      simp only [beq_eq_false_iff_ne, ne_eq]; intro e; exact h (by simp [e])
    unfold splitOn
    rw [ih (fun hm => h (by simp [hm]))]
    simp [hc]

theorem splitOn_cons_ne (sep c : Char) (b : Str) (p : Str) (ps : List Str) (hc : c ≠ sep)
    (hs : splitOn sep b = p :: ps) : splitOn sep (c :: b) = (c :: p) :: ps := by
  rw [splitOn, hs]; simp [hc]

theorem splitOn_append_sep (sep : Char) (a b : Str) (h : sep ∉ a) :
    splitOn sep (a ++ sep :: b) = a :: splitOn sep b := by
  induction a with
  | nil =>
    cases hs : splitOn sep b with
    | nil => exact absurd hs (splitOn_ne_nil sep b)
    | cons p ps => rw [List.nil_append, splitOn, hs]; simp
  | cons c cs ih =>
    have hc : c ≠ sep := by intro e; exact h (by simp [e])
    exact splitOn_cons_ne sep c _ _ _ hc (ih (fun hm => h (by simp [hm])))

theorem mem_joinWith (sep : Str) (parts : List Str) (c : Char) (hc : c ∈ joinWith sep parts) :
    c ∈ sep ∨ ∃ p ∈ parts, c ∈ p := by
  induction parts with
  | nil => simp [joinWith] at hc
  | cons p ps ih =>
    cases ps with
    | nil => right; exact ⟨p, by simp, by simpa [joinWith] using hc⟩
    | cons q rest =>
      simp only [joinWith, List.mem_append] at hc
      rcases hc with (hc | hc) | hc
      · right; exact ⟨p, by simp, hc⟩
      · left; exact hc
      · rcases ih hc with h | ⟨p', hp', hcp⟩
        · left; exact h
        · right; exact ⟨p', List.mem_cons_of_mem _ hp', hcp⟩

/-! ## 6. the first dot of a string -/

theorem path_decomp (path : Str) : '.' ∉ path ∨ ∃ c rest, path = c ++ '.' :: rest ∧ '.' ∉ c :=
  (Classical.em ('.' ∈ path)).symm.imp_right List.eq_append_cons_of_mem

theorem dotfree_prefix_unique (a b r r' : Str) (ha : '.' ∉ a) (hb : '.' ∉ b)
    (h : a ++ '.' :: r = b ++ '.' :: r') : a = b ∧ r = r' := by
  have h1 := splitOn_append_sep '.' a r ha
  rw [h, splitOn_append_sep '.' b r' hb] at h1
  cases (List.cons.inj h1).1
  exact ⟨rfl, (List.cons.inj (List.append_cancel_left h)).2⟩

/-! ## 7. induction over a tree and its child list at once -/

/-- simultaneous induction over a tree and the lists of its subtrees -/
theorem Obj.both {P : Obj → Prop} {Q : List Obj → Prop}
    (defn : ∀ m ws, P (.defn m ws)) (scope : ∀ m os, Q os → P (.scope m os))
    (nil : Q []) (cons : ∀ x xs, P x → Q xs → Q (x :: xs)) : (∀ t, P t) ∧ ∀ ts, Q ts :=
  ⟨fun t => Obj.rec (motive_2 := Q) defn scope nil cons t,
   fun ts => Obj.rec_1 (motive_1 := P) defn scope nil cons ts⟩

/-- induction over a tree, the hypothesis for the children by membership -/
theorem Obj.ind_mem {P : Obj → Prop} (defn : ∀ m ws, P (.defn m ws))
    (scope : ∀ m os, (∀ c ∈ os, P c) → P (.scope m os)) (t : Obj) : P t :=
  (Obj.both (Q := fun os => ∀ c ∈ os, P c) defn scope nofun
    fun _ _ hx hxs => List.forall_mem_cons.mpr ⟨hx, hxs⟩).1 t

end Phil
