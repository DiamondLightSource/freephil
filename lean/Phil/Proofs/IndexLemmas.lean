/-
  Lemmas about the parameter-index state machine (Phil/Index.lean), for C20: cache coherence, the stack of saved
  states, refused and repeated edits, invariants of the working sets.  Everything is stated for an arbitrary
  `Kernel W P E`, an arbitrary state and an arbitrary history (induction over the operation list); the concrete
  kernels instantiate `Inv` / `step_inv` / `run_inv`.
-/
import Phil.Index
namespace Phil.Index

variable {W P E : Type}

/-! ### 0. generic facts about `run` -/

@[simp] theorem run_nil (k : Kernel W P E) (s : State W P) : run k s [] = s := rfl

@[simp] theorem run_cons (k : Kernel W P E) (s : State W P) (op : Op P E) (ops : List (Op P E)) :
    run k s (op :: ops) = run k (step k s op).1 ops := rfl

theorem run_append (k : Kernel W P E) (s : State W P) (a b : List (Op P E)) :
    run k s (a ++ b) = run k (run k s a) b := by
  induction a generalizing s with
  | nil => rfl
  | cons op a ih => simp [ih]

/-- the outputs of a history: what each operation returns (only `.getPython` returns anything) -/
def outputs (k : Kernel W P E) (s : State W P) : List (Op P E) → List (Option P)
  | [] => []
  | op :: ops => (step k s op).2 :: outputs k (step k s op).1 ops

/-! ### 1. cache coherence -/

/-- The cache invariant: either the index knows its cache is out of date (`dirty`), or nothing is cached,
    or the cached object is exactly a fresh extraction of the current working parameters. -/
def Coherent (k : Kernel W P E) (s : State W P) : Prop :=
  s.dirty = true ∨ s.params = none ∨ (∃ v, s.params = some v ∧ k.extract s.working = some v)

/-- the C09 round-trip law for one object: formatting it and extracting again gives it back -/
def RoundTrip (k : Kernel W P E) (p : P) : Prop := k.extract (k.format p) = some p

/-- round-trip law for every object the *program* passes to `update_from_python` in a history -/
def RoundTripOps (k : Kernel W P E) (ops : List (Op P E)) : Prop :=
  ∀ p, Op.updateFromPython (some p) ∈ ops → RoundTrip k p

/-- round-trip law for every object the machine itself can have cached: the values that are the
    extraction of *some* working set (`update_from_python(None)` re-formats the cached object) -/
def RoundTripExtracted (k : Kernel W P E) : Prop :=
  ∀ w v, k.extract w = some v → RoundTrip k v

/-- round-trip law for all objects (the strongest, simplest hypothesis) -/
def RoundTripAll (k : Kernel W P E) : Prop := ∀ p, RoundTrip k p

theorem RoundTripAll.ops {k : Kernel W P E} (h : RoundTripAll k) (ops : List (Op P E)) :
    RoundTripOps k ops := fun p _ => h p

theorem RoundTripAll.extracted {k : Kernel W P E} (h : RoundTripAll k) : RoundTripExtracted k :=
  fun _ v _ => h v

theorem RoundTripOps.tail {k : Kernel W P E} {op : Op P E} {ops : List (Op P E)}
    (h : RoundTripOps k (op :: ops)) : RoundTripOps k ops :=
  fun p hp => h p (List.mem_cons_of_mem _ hp)

theorem RoundTripOps.head {k : Kernel W P E} {op : Op P E} {ops : List (Op P E)}
    (h : RoundTripOps k (op :: ops)) : ∀ p, op = .updateFromPython (some p) → RoundTrip k p :=
  fun p hp => h p (by rw [hp]; exact List.mem_cons_self)

theorem init_coherent (k : Kernel W P E) (w : W) : Coherent k (init k w) := by
  unfold Coherent init
  cases h : k.extract w with
  | none => exact Or.inr (Or.inl rfl)
  | some v => exact Or.inr (Or.inr ⟨v, rfl, rfl⟩)

/-- One step preserves the invariant.  Two hypotheses, each used by exactly one operation:
    `hp` — the object the program passes (only for `op = updateFromPython (some p)`);
    `hx` — the law on extracted values (only for `op = updateFromPython none`, which re-formats the
    cached object; in a clean coherent state the cached object *is* an extracted value). -/
theorem step_coherent {k : Kernel W P E} {s : State W P} {op : Op P E}
    (hc : Coherent k s)
    (hp : ∀ p, op = .updateFromPython (some p) → RoundTrip k p)
    (hx : op = .updateFromPython none → RoundTripExtracted k) :
    Coherent k (step k s op).1 := by
  cases op with
  | update e | pop | setState i =>
    -- refused: nothing changes; accepted: the cache is marked out of date
    simp only [step]
    split
    · exact hc
    · exact Or.inl rfl
  | updateFromPython p =>
    cases p with
    | some x =>
      simp only [step]
      cases hd : s.dirty with
      | true => exact Or.inl rfl
      | false => exact Or.inr (Or.inr ⟨x, rfl, hp x rfl⟩)
    | none =>
      simp only [step]
      cases hpar : s.params with
      | none => simpa using hc
      | some x =>
        cases hd : s.dirty with
        | true => exact Or.inl rfl
        | false =>
          refine Or.inr (Or.inr ⟨x, rfl, ?_⟩)
          rcases hc with h | h | ⟨v, hv, hev⟩
          · rw [hd] at h; cases h
          · rw [hpar] at h; cases h
          · rw [hpar] at hv; cases hv
            exact hx rfl _ _ hev
  | push => exact hc
  | getPython =>
    simp only [step]
    split
    · split
      · next v hv => exact Or.inr (Or.inr ⟨v, rfl, hv⟩)
      · exact hc
    · exact hc

theorem step_coherent_all {k : Kernel W P E} {s : State W P} {op : Op P E}
    (hc : Coherent k s) (h : RoundTripAll k) : Coherent k (step k s op).1 :=
  step_coherent hc (fun p _ => h p) (fun _ => h.extracted)

theorem run_coherent {k : Kernel W P E} {s : State W P} {ops : List (Op P E)}
    (hc : Coherent k s) (hp : RoundTripOps k ops) (hx : RoundTripExtracted k) :
    Coherent k (run k s ops) := by
  induction ops generalizing s with
  | nil => exact hc
  | cons op ops ih => exact ih (step_coherent hc hp.head (fun _ => hx)) hp.tail

theorem run_coherent_all {k : Kernel W P E} {s : State W P} {ops : List (Op P E)}
    (hc : Coherent k s) (h : RoundTripAll k) : Coherent k (run k s ops) :=
  run_coherent hc (h.ops ops) h.extracted

/-- histories without `update_from_python` need no law at all -/
def NoFromPython : List (Op P E) → Prop
  | [] => True
  | .updateFromPython _ :: _ => False
  | _ :: ops => NoFromPython ops

theorem run_coherent_noFromPython {k : Kernel W P E} {s : State W P} {ops : List (Op P E)}
    (hc : Coherent k s) (hn : NoFromPython ops) : Coherent k (run k s ops) := by
  induction ops generalizing s with
  | nil => exact hc
  | cons op ops ih =>
    have hne : ∀ p, op ≠ .updateFromPython p := by
      rintro p rfl
      exact hn
    refine ih (step_coherent hc (fun p h => (hne _ h).elim) (fun h => (hne _ h).elim)) ?_
    cases op with
    | updateFromPython p => exact hn.elim
    | _ => exact hn

/-! #### `getPython` -/

theorem getPython_working (k : Kernel W P E) (s : State W P) :
    (step k s .getPython).1.working = s.working := by
  simp only [step]; split
  · split <;> rfl
  · rfl

theorem getPython_states (k : Kernel W P E) (s : State W P) :
    (step k s .getPython).1.states = s.states := by
  simp only [step]; split
  · split <;> rfl
  · rfl

theorem get_python_eq_extract {k : Kernel W P E} {s : State W P} (hc : Coherent k s) :
    (step k s .getPython).2 = k.extract s.working := by
  simp only [step]
  split
  · split
    · next v hv => exact hv.symm
    · next hv => exact hv.symm
  · next hnd =>
    simp only [Bool.or_eq_true, Option.isNone_iff_eq_none, not_or] at hnd
    rcases hc with hd | hn | ⟨v, hv, hev⟩
    · exact absurd hd hnd.1
    · exact absurd hn hnd.2
    · rw [hev]; exact hv

theorem get_python_is_fresh' {k : Kernel W P E} {s : State W P} {v : P}
    (hc : Coherent k s) (h : (step k s .getPython).2 = some v) :
    k.extract s.working = some v := by
  rw [← get_python_eq_extract hc]; exact h

theorem get_python_is_fresh {k : Kernel W P E} {s : State W P} {v : P}
    (hc : Coherent k s) (h : (step k s .getPython).2 = some v) :
    k.extract (step k s .getPython).1.working = some v := by
  rw [getPython_working]; exact get_python_is_fresh' hc h

theorem reachable_get_python_is_fresh {k : Kernel W P E} {w : W} {ops : List (Op P E)} {v : P}
    (hp : RoundTripOps k ops) (hx : RoundTripExtracted k)
    (h : (step k (run k (init k w) ops) .getPython).2 = some v) :
    k.extract (run k (init k w) ops).working = some v :=
  get_python_is_fresh' (run_coherent (init_coherent k w) hp hx) h

theorem reachable_get_python_is_fresh_mid {k : Kernel W P E} {w : W} {pre post : List (Op P E)} {v : P}
    (hp : RoundTripOps k (pre ++ .getPython :: post)) (hx : RoundTripExtracted k)
    (h : (step k (run k (init k w) pre) .getPython).2 = some v) :
    k.extract (run k (init k w) pre).working = some v :=
  reachable_get_python_is_fresh (fun p hm => hp p (List.mem_append_left _ hm)) hx h

/-! #### the index whose `pop_state` keeps the cache (finding D2) -/

/-- the index with the `pop_state` of before /repo commit c9ba568 (finding D2: `push_state(); update("a = 2"); pop_state();
    get_python_object().a == 2`): `step`, except that `.pop` restores the working set but keeps the cached
    Python object and the dirty flag, so the next `get_python_object` hands out the object of the discarded
    working set -/
def stepBuggy (k : Kernel W P E) (s : State W P) : Op P E → State W P × Option P
  | .pop =>
    match s.states.reverse with
    | [] => (s, none)
    | w :: restRev => ({ s with working := w, states := restRev.reverse }, none)
  | op => step k s op

def outputsBuggy (k : Kernel W P E) (s : State W P) : List (Op P E) → List (Option P)
  | [] => []
  | op :: ops => (stepBuggy k s op).2 :: outputsBuggy k (stepBuggy k s op).1 ops

def runBuggy (k : Kernel W P E) (s : State W P) : List (Op P E) → State W P
  | [] => s
  | op :: ops => runBuggy k (stepBuggy k s op).1 ops

/-! ### 2. the stack of saved states -/

theorem step_states_cases (k : Kernel W P E) (s : State W P) (op : Op P E) :
    (step k s op).1.states = s.states ∨
    (step k s op).1.states = s.states ++ [k.refetch s.working] ∨
    (step k s op).1.states = s.states.dropLast := by
  cases op with
  | update e => left; simp only [step]; split <;> rfl
  | updateFromPython p =>
    cases p with
    | some x => right; left; rfl
    | none =>
      simp only [step]
      cases s.params with
      | none => left; rfl
      | some x => right; left; rfl
  | push => right; left; rfl
  | pop =>
    simp only [step]
    split
    · left; rfl
    · next w restRev h =>
      right; right
      have : s.states = restRev.reverse ++ [w] := by
        have := congrArg List.reverse h; simpa using this
      simp [this]
  | setState i => left; simp only [step]; split <;> rfl
  | getPython => left; exact getPython_states k s

theorem step_pop_snoc (k : Kernel W P E) (s : State W P) (st : List W) (w : W)
    (h : s.states = st ++ [w]) :
    (step k s .pop).1 = { working := w, params := none, dirty := true, states := st } := by
  simp [step, h]

theorem step_pop_empty (k : Kernel W P E) (s : State W P) (h : s.states = []) :
    step k s .pop = (s, none) := by
  simp [step, h]

theorem step_update_states (k : Kernel W P E) (s : State W P) (e : E) :
    (step k s (.update e)).1.states = s.states := by
  simp only [step]; split <;> rfl

theorem step_setState_states (k : Kernel W P E) (s : State W P) (i : Nat) :
    (step k s (.setState i)).1.states = s.states := by
  simp only [step]; split <;> rfl

/-- Well-bracketed histories.  `update`, `getPython`, `setState` do not touch the stack; `push` and
    `updateFromPython (some p)` (which always pushes the pre-edit working set) open a bracket that the
    matching `pop` closes.  `updateFromPython none` is *not* allowed inside: whether it pushes depends
    on the state (it is a no-op when nothing is cached), so it has no state-independent bracket
    structure; `step_states_cases` covers it. -/
inductive Balanced : List (Op P E) → Prop
  | nil : Balanced []
  | update (e : E) {rest} : Balanced rest → Balanced (.update e :: rest)
  | getPython {rest} : Balanced rest → Balanced (.getPython :: rest)
  | setState (i : Nat) {rest} : Balanced rest → Balanced (.setState i :: rest)
  | push {inner rest} : Balanced inner → Balanced rest → Balanced (.push :: (inner ++ .pop :: rest))
  | fromPython (p : P) {inner rest} : Balanced inner → Balanced rest →
      Balanced (.updateFromPython (some p) :: (inner ++ .pop :: rest))

theorem run_balanced_states {k : Kernel W P E} {ops : List (Op P E)} (hb : Balanced ops)
    (s : State W P) : (run k s ops).states = s.states := by
  induction hb generalizing s with
  | nil => rfl
  | update e _ ih => rw [run_cons, ih, step_update_states]
  | getPython _ ih => rw [run_cons, ih, getPython_states]
  | setState i _ ih => rw [run_cons, ih, step_setState_states]
  | push _ _ ihi ihr | fromPython p _ _ ihi ihr =>
    rw [run_cons, run_append, run_cons, ihr]
    rw [step_pop_snoc k _ s.states (k.refetch s.working) (by rw [ihi]; rfl)]

theorem pushing_pop_restores {k : Kernel W P E} {inner : List (Op P E)} (hb : Balanced inner)
    {s : State W P} {op : Op P E}
    (h : (step k s op).1.states = s.states ++ [k.refetch s.working]) :
    run k s (op :: (inner ++ [.pop])) =
      { working := k.refetch s.working, params := none, dirty := true, states := s.states } := by
  rw [run_cons, run_append, run_cons, run_nil]
  exact step_pop_snoc k _ s.states (k.refetch s.working) (by rw [run_balanced_states hb, h])

theorem push_pop_restores_state {k : Kernel W P E} {inner : List (Op P E)} (hb : Balanced inner)
    (s : State W P) :
    run k s (.push :: (inner ++ [.pop])) =
      { working := k.refetch s.working, params := none, dirty := true, states := s.states } :=
  pushing_pop_restores hb rfl

theorem fromCache_pop_restores_state {k : Kernel W P E} {inner : List (Op P E)} (hb : Balanced inner)
    (s : State W P) (x : P) (hx : s.params = some x) :
    run k s (.updateFromPython none :: (inner ++ [.pop])) =
      { working := k.refetch s.working, params := none, dirty := true, states := s.states } :=
  pushing_pop_restores hb (by simp [step, hx])

theorem fromCache_none (k : Kernel W P E) (s : State W P) (h : s.params = none) :
    step k s (.updateFromPython none) = (s, none) := by
  simp [step, h]

theorem step_setState_some (k : Kernel W P E) (s : State W P) (i : Nat) (w : W)
    (h : s.states[i]? = some w) :
    (step k s (.setState i)).1 =
      { working := k.refetch w, params := none, dirty := true, states := s.states } := by
  simp [step, h]

theorem step_setState_none (k : Kernel W P E) (s : State W P) (i : Nat)
    (h : s.states[i]? = none) : step k s (.setState i) = (s, none) := by
  simp [step, h]

/-! ### 3. refused edits -/

theorem update_refused {k : Kernel W P E} {s : State W P} {e : E}
    (h : k.merge s.working e = none) : (step k s (.update e)).1 = s := by
  simp [step, h]

theorem update_accepted {k : Kernel W P E} {s : State W P} {e : E} {w : W}
    (h : k.merge s.working e = some w) :
    (step k s (.update e)).1 = { s with working := w, dirty := true, params := none } := by
  simp [step, h]

/-! ### 4. edit idempotence -/

/-- the kernel law: merging the same edit into its own result changes nothing -/
def IdemKernel (k : Kernel W P E) (e : E) : Prop :=
  ∀ w w', k.merge w e = some w' → k.merge w' e = some w'

theorem update_twice_state {k : Kernel W P E} {e : E} {s : State W P}
    (hk : ∀ w', k.merge s.working e = some w' → k.merge w' e = some w') :
    run k s [.update e, .update e] = run k s [.update e] := by
  simp only [run_cons, run_nil]
  cases h : k.merge s.working e with
  | none => rw [update_refused h, update_refused h]
  | some w' =>
    rw [update_accepted h]
    rw [update_accepted (w := w') (hk _ h)]

/-! ### 5. `getPython` is idempotent -/

theorem getPython_idempotent (k : Kernel W P E) (s : State W P) :
    step k (step k s .getPython).1 .getPython = step k s .getPython := by
  cases hd : s.dirty <;> cases hp : s.params <;> cases he : k.extract s.working <;>
    simp [step, hd, hp, he]

/-! ### 6. invariants of the working sets -/

/-- an invariant of the WORKING SETS: the machine holds working sets in two places, the current one and the stack
    of saved states, and `Q` holds of all of them (the concrete kernels take `Q` = "is a fetch result of good
    sources"); cache and dirty flag are not constrained -/
def Inv (Q : W → Prop) (s : State W P) : Prop := Q s.working ∧ ∀ w ∈ s.states, Q w

/-- the operations an invariant of the working sets survives: edits from `good`, and no
    `update_from_python` (its working set `format p` is whatever the kernel formats) -/
def EditsIn (good : E → Prop) : Op P E → Prop
  | .update e => good e
  | .updateFromPython _ => False
  | _ => True

variable {k : Kernel W P E} {Q : W → Prop} {good : E → Prop}

/-- every working set the machine ever holds is the old one, a re-fetched saved one, or the result of
    an accepted edit: a property that re-fetching and accepted `good` edits preserve is an invariant -/
theorem step_inv (hr : ∀ w, Q w → Q (k.refetch w))
    (hm : ∀ e w w', good e → Q w → k.merge w e = some w' → Q w')
    {s : State W P} (hs : Inv Q s) {op : Op P E} (hop : EditsIn good op) : Inv Q (step k s op).1 := by
  cases op with
  | update e =>
    cases hmg : k.merge s.working e with
    | none => rw [update_refused hmg]; exact hs
    | some w' => rw [update_accepted hmg]; exact ⟨hm e _ _ hop hs.1 hmg, hs.2⟩
  | updateFromPython p => exact hop.elim
  | push =>
    refine ⟨hs.1, fun w hw => ?_⟩
    rcases List.mem_append.mp hw with h | h
    · exact hs.2 w h
    · rw [List.mem_singleton.mp h]; exact hr _ hs.1
  | pop =>
    rcases List.eq_nil_or_concat s.states with h | ⟨st, w, h⟩
    · rw [step_pop_empty k s h]; exact hs
    · rw [List.concat_eq_append] at h
      rw [step_pop_snoc k s st w h]
      have hall : ∀ w' ∈ st ++ [w], Q w' := h ▸ hs.2
      exact ⟨hall w (by simp), fun w' hw' => hall w' (List.mem_append_left _ hw')⟩
  | setState i =>
    cases hi : s.states[i]? with
    | none => rw [step_setState_none k s i hi]; exact hs
    | some w => rw [step_setState_some k s i w hi]; exact ⟨hr w (hs.2 w (List.mem_of_getElem? hi)), hs.2⟩
  | getPython =>
    unfold Inv
    rw [getPython_working, getPython_states]
    exact hs

/-- … over histories; `G` is any predicate on histories that unfolds operation by operation -/
theorem run_inv (hr : ∀ w, Q w → Q (k.refetch w))
    (hm : ∀ e w w', good e → Q w → k.merge w e = some w' → Q w')
    {G : List (Op P E) → Prop} (hG : ∀ op ops, G (op :: ops) → EditsIn good op ∧ G ops) :
    ∀ (ops : List (Op P E)) (s : State W P), G ops → Inv Q s → Inv Q (run k s ops)
  | [], _, _, hs => hs
  | op :: ops, _, hg, hs => run_inv hr hm hG ops _ (hG op ops hg).2 (step_inv hr hm hs (hG op ops hg).1)

theorem init_inv {w : W} (h : Q w) : Inv Q (init k w) :=
  ⟨h, fun _ hw => by cases hw⟩

end Phil.Index
