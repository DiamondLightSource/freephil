/-
  Simulation of the heap-level fetch by the pure model: whenever `fetchH` (Phil/HeapFetch2.lean) or `fetchDiffH`
  (Phil/HeapFetchDiff.lean) returns, the pure `fetchScope` (Phil/Fetch.lean, `diff = false` / `true`) returns on the
  abstractions of master and sources, and the result object denotes the pure result.  Proved once, for `fetchF`
  (Phil/Proofs/HeapFetchLemmas.lean) against the named loop bodies of `fetchScope` (Phil/Proofs/FetchLoop.lean).
  Helper lemmas for Phil/Props/C17FetchHeap.lean and Phil/Props/C17FetchDiffAbs.lean.
-/
import Phil.Proofs.HeapFetchLemmas
import Phil.Proofs.FetchLoop
namespace Phil.Heap
open Phil

/-! ### lists related element by element -/

theorem Rel2.filterMap_id {α β : Type} {R : α → β → Prop} :
    ∀ {l : List (Option α)} {l' : List (Option β)}, Rel2 (OptRel R) l l' →
      Rel2 R (l.filterMap (fun x => x)) (l'.filterMap (fun x => x))
  | [], [], _ => trivial
  | none :: _, none :: _, ⟨_, h2⟩ => by
    simp only [List.filterMap_cons]
    exact Rel2.filterMap_id h2
  | some _ :: _, some _ :: _, ⟨h1, h2⟩ => by
    simp only [List.filterMap_cons]
    exact ⟨h1, Rel2.filterMap_id h2⟩
  | none :: _, some _ :: _, ⟨h1, _⟩ => h1.elim
  | some _ :: _, none :: _, ⟨h1, _⟩ => h1.elim
  | [], _ :: _, hr => hr.elim
  | _ :: _, [], hr => hr.elim

theorem Rel2.ite {α β : Type} {R : α → β → Prop} {c : Prop} [Decidable c] {l m : List α} {l' m' : List β}
    (ht : c → Rel2 R l l') (he : ¬ c → Rel2 R m m') : Rel2 R (if c then l else m) (if c then l' else m') := by
  split
  · exact ht ‹c›
  · exact he ‹¬ c›

/-! ### abstraction -/

abbrev AbsL (h : Heap) : List Nat → List Obj → Prop := Rel2 (Abs h)

theorem Abs.append {h : Heap} {x : Nat} {o : Obj} (a : Abs h x o) (ext : Heap) : Abs (h ++ ext) x o :=
  a.imp fun _ => absF_mono (fun _ _ => getElem?_append_some ext) (Nat.le_refl _)

theorem Abs.grows {h h' : Heap} {x : Nat} {o : Obj} (a : Abs h x o) (g : Grows h h') : Abs h' x o := by
  obtain ⟨ext, rfl⟩ := g
  exact a.append ext

theorem AbsL.grows {h h' : Heap} {l : List Nat} {os : List Obj} (a : AbsL h l os) (g : Grows h h') : AbsL h' l os :=
  Rel2.imp (fun _ _ hh => Abs.grows hh g) a

theorem AbsL_of_mapOpt {h : Heap} {f : Nat} {ks : List Nat} {os : List Obj}
    (hm : mapOpt (absF f h) ks = some os) : AbsL h ks os :=
  Rel2.imp (fun _ _ hk => ⟨f, hk⟩) (mapOpt_eq_some.mp hm)

theorem mapOpt_of_AbsL {h : Heap} {ks : List Nat} {os : List Obj} (hk : AbsL h ks os) :
    ∃ f, mapOpt (absF f h) ks = some os := by
  induction hk using Rel2.induction with
  | nil => exact ⟨0, rfl⟩
  | @cons k o _ _ h1 _ ih =>
    obtain ⟨f1, h1⟩ := h1
    obtain ⟨f2, h2⟩ := ih
    refine ⟨max f1 f2, ?_⟩
    simp only [mapOpt]
    rw [absF_mono (fun _ _ => id) (Nat.le_max_left f1 f2) h1,
      mapOpt_imp (fun _ _ => absF_mono (fun _ _ => id) (Nat.le_max_right f1 f2)) h2]

theorem Abs_scope_intro {h : Heap} {x : Nat} {m : Meta} {ks : List Nat} {p : Option Nat} {os : List Obj}
    (hx : h[x]? = some (.scope m ks p)) (hk : AbsL h ks os) : Abs h x (.scope m os) := by
  obtain ⟨f, hf⟩ := mapOpt_of_AbsL hk
  exact ⟨f + 1, by simp only [absF, hx, hf, Option.map_some]⟩

theorem Abs_defn_intro {h : Heap} {x : Nat} {m : Meta} {ws : List Word} {p : Option Nat}
    (hx : h[x]? = some (.defn m ws p)) : Abs h x (.defn m ws) :=
  ⟨1, by simp only [absF, hx]⟩

theorem Abs_cell {h : Heap} {x : Nat} {o : Obj} (a : Abs h x o) :
    (∃ m ws p, h[x]? = some (.defn m ws p) ∧ o = .defn m ws) ∨
    (∃ m ks p os, h[x]? = some (.scope m ks p) ∧ o = .scope m os ∧ AbsL h ks os) := by
  obtain ⟨f, hf⟩ := a
  cases f with
  | zero => simp [absF] at hf
  | succ f =>
    rcases absF_succ.mp hf with hd | ⟨m, ks, p, os, hx, hm, rfl⟩
    · exact .inl hd
    · exact .inr ⟨m, ks, p, os, hx, rfl, AbsL_of_mapOpt hm⟩

theorem Abs_liveB {h : Heap} {x : Nat} {o : Obj} (a : Abs h x o) : liveB h x = !o.meta.disabled := by
  rcases Abs_cell a with ⟨m, ws, p, hx, rfl⟩ | ⟨m, ks, p, os, hx, rfl, _⟩ <;> simp [liveB, hx, Node.meta, Obj.meta]

theorem Abs_isDefnAt {h : Heap} {x : Nat} {o : Obj} (a : Abs h x o) : isDefnAt h x = o.isDefn := by
  rcases Abs_cell a with ⟨m, ws, p, hx, rfl⟩ | ⟨m, ks, p, os, hx, rfl, _⟩ <;>
    simp [isDefnAt, hx, Node.isScope, Obj.isDefn]

theorem Abs_nameAt {h : Heap} {x : Nat} {o : Obj} (a : Abs h x o) : nameAt h x = o.name := by
  rcases Abs_cell a with ⟨m, ws, p, hx, rfl⟩ | ⟨m, ks, p, os, hx, rfl, _⟩ <;>
    simp [nameAt, hx, Node.meta, Obj.name, Obj.meta]

theorem Abs_kidsOf {h : Heap} {x : Nat} {o : Obj} (a : Abs h x o) : AbsL h (kidsOf h x) o.children := by
  rcases Abs_cell a with ⟨m, ws, p, hx, rfl⟩ | ⟨m, ks, p, os, hx, rfl, hk⟩
  · simp only [kidsOf, hx, Node.kids, Obj.children]; trivial
  · simp only [kidsOf, hx, Node.kids, Obj.children]; exact hk

/-- `obj = object.copy(); obj.is_template = t` denotes the master object with `is_template = t` -/
theorem fetchTemplate_abs {h h1 : Heap} {mid c : Nat} {o : Obj} {t : Int} (a : Abs h mid o)
    (hf : fetchTemplate h mid t = some (h1, c)) : Grows h h1 ∧ Abs h1 c (withTmpl o t) := by
  obtain ⟨n, hn, rfl, rfl⟩ := fetchTemplate_eq' hf
  refine ⟨Grows.alloc _ _, ?_⟩
  rcases Abs_cell a with ⟨m, ws, p, hx, rfl⟩ | ⟨m, ks, p, os, hx, rfl, hk⟩
  · rw [hx] at hn
    cases hn
    exact Abs_defn_intro (p := p) List.getElem?_concat_length
  · rw [hx] at hn
    cases hn
    exact Abs_scope_intro (p := p) List.getElem?_concat_length (hk.grows (Grows.alloc _ _))

theorem objMeta_scope (m : Meta) (os : List Obj) : (Obj.scope m os).meta = m := rfl
theorem objMeta_defn (m : Meta) (ws : List Word) : (Obj.defn m ws).meta = m := rfl
theorem nodeMeta_scope (m : Meta) (ks : List Nat) (p : Option Nat) : (Node.scope m ks p).meta = m := rfl
theorem nodeMeta_defn (m : Meta) (ws : List Word) (p : Option Nat) : (Node.defn m ws p).meta = m := rfl

theorem getWS_abs : ∀ (f : Nat) (h : Heap) (x : Nat) (o : Obj) (path : Str), Abs h x o →
    AbsL h (getWS f h x path) (getWithoutSubst f o path)
  | 0, _, _, _, _, _ => trivial
  | f + 1, h, x, o, path, a => by
    rcases Abs_cell a with ⟨m, ws, p, hx, rfl⟩ | ⟨m, ks, p, os, hx, rfl, hk⟩
    · simp only [getWS, hx, nodeMeta_defn, getWithoutSubst, objMeta_defn]
      exact Rel2.ite (fun _ => trivial) fun _ => Rel2.ite (fun _ => ⟨a, trivial⟩) fun _ => trivial
    · simp only [getWS, hx, nodeMeta_scope, getWithoutSubst, objMeta_scope]
      have hfm : ∀ pth, AbsL h ((ks.filter (liveB h)).flatMap (fun k => getWS f h k pth))
          ((os.filter (fun k => !k.meta.disabled)).flatMap (fun k => getWithoutSubst f k pth)) := fun pth =>
        Rel2.flatMap _ _ (fun k ko hko => getWS_abs f h k ko pth hko)
          (Rel2.filter _ _ (fun k ko hko => Abs_liveB hko) hk)
      exact Rel2.ite (fun _ => trivial) fun _ =>
        Rel2.ite (fun _ => Rel2.ite (fun _ => hk) fun _ => hfm _) fun _ =>
          Rel2.ite (fun _ => ⟨a, trivial⟩) fun _ => Rel2.ite (fun _ => hfm _) fun _ => trivial

/-! ### simulation: pieces -/

abbrev OptAbs (h : Heap) : Option Nat → Option Obj → Prop := OptRel (Abs h)

theorem Rel2.dropAt {α β : Type} {R : α → β → Prop} {l : List (Option α)} {l' : List (Option β)} (i : Int)
    (h : Rel2 (OptRel R) l l') : Rel2 (OptRel R) (dropAt l i) (dropAt l' i) := by
  refine Rel2.map _ _ ?_ (Rel2.zipIdx h 0)
  intro a b ⟨h1, h2⟩
  rw [h2]
  split
  · trivial
  · exact h1

theorem OptAbs.grows {h h' : Heap} {l : List (Option Nat)} {l' : List (Option Obj)}
    (a : Rel2 (OptAbs h) l l') (g : Grows h h') : Rel2 (OptAbs h') l l' :=
  Rel2.imp (fun a b hab => by
    cases a <;> cases b
    · trivial
    · exact hab
    · exact hab
    · exact Abs.grows hab g) a

theorem AbsL_isEmpty {h : Heap} : ∀ {l : List Nat} {l' : List Obj}, AbsL h l l' → l.isEmpty = l'.isEmpty
  | [], [], _ => rfl
  | _ :: _, _ :: _, _ => rfl
  | [], _ :: _, hr => hr.elim
  | _ :: _, [], hr => hr.elim

theorem AbsL_unique {h : Heap} : ∀ {ks : List Nat} {a b : List Obj}, AbsL h ks a → AbsL h ks b → a = b
  | [], [], [], _, _ => rfl
  | [], [], _ :: _, _, hb => hb.elim
  | [], _ :: _, _, ha, _ => ha.elim
  | _ :: _, [], _, ha, _ => ha.elim
  | _ :: _, _ :: _, [], _, hb => hb.elim
  | _ :: _, _ :: _, _ :: _, ha, hb => by rw [Abs_unique ha.1 hb.1, AbsL_unique ha.2 hb.2]

theorem find_isDefn_none {h : Heap} : ∀ {l : List Nat} {l' : List Obj}, AbsL h l l' →
    l.any (isDefnAt h) = false → l'.find? (·.isDefn) = none
  | [], [], _, _ => rfl
  | a :: as, b :: bs, ⟨h1, h2⟩, hany => by
    simp only [List.any_cons, Bool.or_eq_false_iff] at hany
    rw [Abs_isDefnAt h1] at hany
    simp only [List.find?_cons, hany.1]
    exact find_isDefn_none h2 hany.2
  | [], _ :: _, hr, _ => hr.elim
  | _ :: _, [], hr, _ => hr.elim

/-- two loops that go in lockstep over related lists keep their states related -/
theorem foldSim {α β σ τ : Type} (stepA : σ → α → R σ) (stepB : τ → β → R τ) (Rel : σ → τ → Prop)
    (RelE : α → β → Prop)
    (hstep : ∀ st st' a b st2, Rel st st' → RelE a b → stepA st a = .ok st2 →
      ∃ st2', stepB st' b = .ok st2' ∧ Rel st2 st2') :
    ∀ (l : List α) (l' : List β) (st : σ) (st' : τ) (t : σ), Rel2 RelE l l' → Rel st st' →
      foldH stepA st l = .ok t → ∃ t', l'.foldlM stepB st' = .ok t' ∧ Rel t t'
  | [], [], st, st', t, _, hr, hf => by
    cases hf
    exact ⟨st', rfl, hr⟩
  | a :: as, b :: bs, st, st', t, ⟨h1, h2⟩, hr, hf => by
    simp only [foldH] at hf
    split at hf
    · cases hf
    · rename_i s1 hs
      obtain ⟨s1', hb, hr1⟩ := hstep st st' a b s1 hr h1 hs
      obtain ⟨t', ht, hrt⟩ := foldSim stepA stepB Rel RelE hstep as bs s1 s1' t h2 hr1 hf
      refine ⟨t', ?_, hrt⟩
      simp only [List.foldlM_cons, hb, bind, Except.bind]
      exact ht
  | [], _ :: _, _, _, _, hr, _, _ => hr.elim
  | _ :: _, [], _, _, _, hr, _, _ => hr.elim

/-! ### simulation: the bookkeeping -/

theorem book_rel {α β : Type} {R : α → β → Prop} (mark : Bool) (processed : List (Str × Int)) (cs : Str)
    {robjs : List (Option α)} {probjs : List (Option β)} {c : α} {pc : β}
    (hr : Rel2 (OptRel R) robjs probjs) (hc : R c pc) :
    Rel2 (OptRel R) (book mark robjs processed cs c).1 (book mark probjs processed cs pc).1 ∧
      (book mark robjs processed cs c).2 = (book mark probjs processed cs pc).2 := by
  have hkeep : ∀ {l : List (Option α)} {l' : List (Option β)} (pr : List (Str × Int)), Rel2 (OptRel R) l l' →
      Rel2 (OptRel R) (bookKeep mark pr cs c l).1 (bookKeep mark pr cs pc l').1 ∧
        (bookKeep mark pr cs c l).2 = (bookKeep mark pr cs pc l').2 := by
    intro l l' pr h
    unfold bookKeep
    cases mark
    · exact ⟨Rel2.append h ⟨hc, trivial⟩, by simp [Rel2.length h]⟩
    · exact ⟨h, rfl⟩
  unfold book
  split
  · split
    · exact ⟨hr, rfl⟩
    · exact hkeep _ (Rel2.dropAt _ hr)
  · exact hkeep _ hr


/-! ### simulation: `definition.fetch` -/

theorem fetchValueH_sim {mid sid : Nat} {s s' : HS} {ro : Option Nat} {mo ms : Obj}
    (hm : Abs s.heap mid mo) (hs : Abs s.heap sid ms) (hf : fetchValueH mid sid s = .ok (s', ro)) :
    ∃ po, fetchValue mo ms = .ok po ∧ OptAbs s'.heap ro po := by
  obtain ⟨mm, mws, mp, sm, sws, sp, po, ext, hcm, hcs, hpo, rfl, hro⟩ := fetchValueH_eq hf
  cases Abs_unique hm (Abs_defn_intro hcm)
  cases Abs_unique hs (Abs_defn_intro hcs)
  refine ⟨po, hpo, ?_⟩
  cases ro <;> cases po
  · trivial
  · exact hro
  · exact hro
  · obtain ⟨_, _, ws, hmo, rfl⟩ := Phil.fetchValue_shape _ _ _ hpo
    cases hmo
    exact Abs_defn_intro hro.2

section
variable {e : Envs} {fuel : Nat} {d : Bool} {recN recD : FetchH}

theorem fetchValueF_sim {mid sid : Nat} {s s' : HS} {ro : Option Nat} {mo ms : Obj}
    (hm : Abs s.heap mid mo) (hs : Abs s.heap sid ms) (hf : fetchValueF e fuel d mid sid s = .ok (s', ro)) :
    Grows s.heap s'.heap ∧ ∃ po, fetchDefn e fuel d mo ms = .ok po ∧ OptAbs s'.heap ro po := by
  refine ⟨(fetchValueF_spec (n0 := 0) (Nat.zero_le _) hf).1.grows, ?_⟩
  cases d
  · rw [fetchDefn_nodiff]
    exact fetchValueH_sim hm hs hf
  · unfold fetchValueF fetchDiffValueH at hf
    simp only [if_true] at hf
    split at hf
    · cases hf
    · rename_i s1 ro1 hv
      obtain ⟨po1, hpo1, habs1⟩ := fetchValueH_sim hm hs hv
      split at hf
      · cases hf
      · rename_i mo' ha
        cases Abs_unique ⟨_, ha⟩ hm
        -- the object the result is compared with the master through: the result, or the master itself
        have hco : ∀ co, (match ro1 with | some r => abs s1.heap r | none => some mo) = some co → co = po1.getD mo := by
          intro co hc
          cases ro1 <;> cases po1
          · exact (Option.some.inj hc).symm
          · exact habs1.elim
          · exact habs1.elim
          · exact Abs_unique ⟨_, hc⟩ habs1
        split at hf
        · cases hf
        · rename_i co hcoeq
          cases hco co hcoeq
          unfold fetchDefn
          simp only [hpo1, Bool.not_true, Bool.false_eq_true, ↓reduceIte]
          unfold diffSame at hf
          cases h1 : extractFormatStr e fuel mo (po1.getD mo) with
          | error err => simp only [h1] at hf; cases hf
          | ok a =>
            cases h2 : extractFormatStr e fuel mo mo with
            | error err => simp only [h1, h2] at hf; cases hf
            | ok b =>
              simp only [h1, h2] at hf ⊢
              cases hab : (a == b) <;> simp only [hab] at hf <;> cases hf
              · exact ⟨po1, by simp only [Bool.false_eq_true, ↓reduceIte], habs1⟩
              · exact ⟨none, by simp only [↓reduceIte], trivial⟩

/-- the loop over the matching sources of a non-`.multiple` definition -/
theorem oneFold_sim {mid : Nat} {mo : Obj} {s0 : HS} (hm : Abs s0.heap mid mo)
    {matching : List Nat} {pms : List Obj} (hl : AbsL s0.heap matching pms) (used : List Nat) {s1 : HS} {ro1 : Option Nat}
    (hf : foldH (fun (acc : HS × Option Nat) (ms : Nat) => fetchValueF e fuel d mid ms acc.1) (s0, none) matching =
      .ok (s1, ro1)) :
    ∃ po1 used1, pms.foldlM (defnOne e fuel d mo) ((none : Option Obj), used) = .ok (po1, used1) ∧
      OptAbs s1.heap ro1 po1 ∧ Grows s0.heap s1.heap := by
  obtain ⟨⟨po1, used1⟩, h1, h2, h3⟩ := foldSim _ (defnOne e fuel d mo)
    (fun (acc : HS × Option Nat) acc' => Grows s0.heap acc.1.heap ∧ OptAbs acc.1.heap acc.2 acc'.1)
    (fun a b => Abs s0.heap a b)
    (by
      intro st st' a b st2 ⟨hx, _⟩ hab hs
      obtain ⟨h1, po, hpo, habs⟩ := fetchValueF_sim (hm.grows hx) (hab.grows hx) hs
      exact ⟨(po, st'.2 ++ idOf b ++ srcRefs b), by simp only [defnOne, hpo, Except.map], hx.trans h1, habs⟩)
    matching pms (s0, none) (none, used) (s1, ro1) hl ⟨Grows.refl _, trivial⟩ hf
  exact ⟨po1, used1, h1, h3, h2⟩

/-! ### simulation: the candidate loop -/

/-- what the callee one level down guarantees: it only allocates, and its result denotes the pure result -/
def RecSim (e : Envs) (fuel : Nat) (d : Bool) (rec : Nat → List Nat → HS → R (HS × Nat)) : Prop :=
  ∀ self combined s s' r sm mk sp mobjs cobjs,
    s.heap[self]? = some (.scope sm mk sp) → AbsL s.heap mk mobjs → AbsL s.heap combined cobjs →
    rec self combined s = .ok (s', r) →
    Grows s.heap s'.heap ∧ ∃ ro used, fetchScope e fuel d sm mobjs cobjs = .ok (ro, used) ∧ Abs s'.heap r ro

/-- invariant of the candidate loop: the heap has grown, the kept candidates denote the pure ones, same keys -/
def RelC (s1 : HS) (acc : HS × List (Option Nat) × List (Str × Int))
    (acc' : List (Option Obj) × List (Str × Int) × List Nat) : Prop :=
  Grows s1.heap acc.1.heap ∧ Rel2 (OptAbs acc.1.heap) acc.2.1 acc'.1 ∧ acc.2.2 = acc'.2.1

theorem candF_sim (hsim : RecSim e fuel d recD) {mid ms : Nat} {s s2 : HS} {co : Option Nat} {mo fo : Obj}
    (fromM : Bool) (hmo : Abs s.heap mid mo) (hfo : Abs s.heap ms fo)
    (hc : candF e fuel d recD mid ms s = .ok (s2, co)) :
    Grows s.heap s2.heap ∧ ∃ po u, candOf (fetchScope e fuel) e fuel d mo fromM fo = .ok (po, u) ∧
      OptAbs s2.heap co po := by
  unfold candF at hc
  rcases Abs_cell hmo with ⟨mm, mws, mp, hcm, rfl⟩ | ⟨mm, mks, mp, mos, hcm, rfl, hmk⟩
  · simp only [hcm] at hc
    obtain ⟨g, po, hpo, habs⟩ := fetchValueF_sim hmo hfo hc
    exact ⟨g, po, _, by simp only [candOf, hpo, Except.map]; rfl, habs⟩
  · simp only [hcm] at hc
    rcases Abs_cell hfo with ⟨sm', sws, sp', hcf, rfl⟩ | ⟨sm', sk, sp', skids, hcf, rfl, hsk⟩
    · simp only [hcf] at hc
      cases hc
    · simp only [hcf] at hc
      split at hc
      · cases hc
      · rename_i s3 r3 hr
        obtain ⟨g, ro, u, hfs, habs⟩ := hsim mid sk s s3 r3 mm mks mp mos skids hcm hmk hsk hr
        rw [AbsL_isEmpty (Abs_kidsOf habs)] at hc
        refine ⟨by split at hc <;> cases hc <;> exact g, ?_⟩
        simp only [candOf, hfs, Except.map]
        split at hc <;> rename_i hE <;> cases hc <;> simp only [hE, Bool.false_eq_true, ↓reduceIte]
        · exact ⟨none, _, rfl, trivial⟩
        · exact ⟨some ro, _, rfl, habs⟩

theorem cstepF_sim (hsim : RecSim e fuel d recD) {mo : Obj} {mid : Nat} {masterStr : Str} {s1 : HS}
    (hmo : Abs s1.heap mid mo)
    (acc acc2 : HS × List (Option Nat) × List (Str × Int)) (acc' : List (Option Obj) × List (Str × Int) × List Nat)
    (fm : Bool × Nat) (fm' : Bool × Obj)
    (hq : RelC s1 acc acc') (hfm : fm.1 = fm'.1 ∧ Abs s1.heap fm.2 fm'.2)
    (hf : cstepF e d recD fuel mo mid masterStr acc fm = .ok acc2) :
    ∃ acc2', cstepG (fetchScope e fuel) e fuel d mo masterStr acc' fm' = .ok acc2' ∧ RelC s1 acc2 acc2' := by
  obtain ⟨hext, hrl, hpr⟩ := hq
  obtain ⟨s, robjs, processed⟩ := acc
  obtain ⟨probjs, pprocessed, pused⟩ := acc'
  obtain ⟨fb, fid⟩ := fm
  obtain ⟨fb', fo⟩ := fm'
  obtain ⟨rfl, hfo⟩ := hfm
  cases hpr
  unfold cstepF at hf
  unfold cstepG
  split at hf
  · cases hf
  all_goals
    rename_i hc
    obtain ⟨h12, po, u, hpo, habs⟩ := candF_sim hsim fb (hmo.grows hext) (hfo.grows hext) hc
  · cases hf
    cases po with
    | some _ => exact habs.elim
    | none =>
      simp only [hpo]
      -- `cases d`: `cstepG` has `if diff then X else X` here, as `fetchScope` has
      exact ⟨(probjs, processed, pused ++ u), by cases d <;> rfl, hext.trans h12, OptAbs.grows hrl h12, rfl⟩
  · rename_i s2 c _
    cases po with
    | none => exact habs.elim
    | some pc =>
      simp only [hpo]
      split at hf
      · cases hf
      · rename_i co ha
        cases Abs_unique ⟨_, ha⟩ habs
        split at hf
        · cases hf
        · rename_i cs hx
          cases hf
          simp only [hx, bookF_eq, cAccept_eq]
          split
          · exact ⟨_, rfl, hext.trans h12, OptAbs.grows hrl h12, rfl⟩
          · obtain ⟨hb1, hb2⟩ := book_rel (d && fb) processed cs (OptAbs.grows hrl h12) habs
            exact ⟨_, rfl, hext.trans h12, hb1, hb2⟩

/-! ### simulation: the `.multiple` branch -/

theorem fetchScope_tmpl0 {sm : Meta} {mk c : List Obj} {ro : Obj} {u : List Nat}
    (h : fetchScope e fuel false sm mk c = .ok (ro, u)) : withTmpl ro 0 = ro := by
  obtain ⟨out, rfl⟩ := fetchScope_rootShape e fuel _ _ _ _ _ _ h
  rfl

theorem multiTailF_sim (hsimN : RecSim e fuel false recN) (hsimD : RecSim e fuel d recD) {mk : List Nat}
    {mobjs : List Obj} {idx : Nat} {mo : Obj} {mid : Nat} {masterStr : Str} {s1 : HS}
    (hmo : Abs s1.heap mid mo) (hmk : AbsL s1.heap mk mobjs) {mH : List Nat} {mP : List Obj} (hmat : AbsL s1.heap mH mP)
    {out : List Nat} {pout : List Obj} (hout : AbsL s1.heap out pout) (pused : List Nat) {st2 : HS × List Nat}
    (hf : multiTailF e d recN recD fuel mk idx mo mid masterStr mH s1 out = .ok st2) :
    ∃ robjs processed used,
      (fromMasterOf mobjs idx mo ++ mP.map (fun (o : Obj) => (false, o))).foldlM
        (cstepG (fetchScope e fuel) e fuel d mo masterStr) (([] : List (Option Obj)), ([] : List (Str × Int)), pused) =
        .ok (robjs, processed, used) ∧
      Grows s1.heap st2.1.heap ∧
      AbsL st2.1.heap st2.2
        (pout ++ tmplObjsOf d mo processed (selfFetchOf (fetchScope e fuel) mo) ++ robjs.filterMap (fun x => x)) := by
  unfold multiTailF at hf
  dsimp only at hf
  split at hf
  · cases hf
  · rename_i s2 robjs processed hfold
    obtain ⟨⟨probjs, pprocessed, pused2⟩, hp, hext2, hrl, hpr⟩ := foldSim _
      (cstepG (fetchScope e fuel) e fuel d mo masterStr) (RelC s1)
      (fun (a : Bool × Nat) (b : Bool × Obj) => a.1 = b.1 ∧ Abs s1.heap a.2 b.2)
      (fun acc acc' fm fm' acc2 => cstepF_sim hsimD hmo acc acc2 acc' fm fm')
      _ (fromMasterOf mobjs idx mo ++ mP.map (fun (o : Obj) => (false, o)))
      _ (([] : List (Option Obj)), ([] : List (Str × Int)), pused) _
      (Rel2.append
        (by
          rw [List.map_map]
          exact Rel2.map _ _ (fun a b hab => ⟨rfl, hab.1⟩)
            (Rel2.filter _ _ (fun a b hab => by rw [Abs_liveB hab.1, Abs_nameAt hab.1, hab.2])
              (Rel2.zipIdx hmk 0)))
        (Rel2.map _ _ (fun a b hab => ⟨rfl, hab⟩) hmat))
      (show RelC s1 (s1, [], []) ([], [], pused) from ⟨Grows.refl _, trivial, rfl⟩) hfold
    cases hpr
    refine ⟨probjs, processed, pused2, hp, ?_⟩
    have hinsts : AbsL s2.heap (robjs.filterMap (fun (x : Option Nat) => x)) (probjs.filterMap (fun (x : Option Obj) => x)) :=
      Rel2.filterMap_id hrl
    have hmo2 := hmo.grows hext2
    cases d with
    | true =>
      cases hf
      exact ⟨hext2, by simpa [tmplObjsOf] using Rel2.append (hout.grows hext2) hinsts⟩
    | false =>
      simp only [Bool.false_eq_true, ↓reduceIte] at hf
      split at hf
      · cases hf
      · rename_i h3 c hft
        obtain ⟨h23, hcp⟩ := fetchTemplate_abs hmo2 hft
        split at hf
        · rename_i hcond
          obtain ⟨hman, hnd⟩ := (Bool.and_eq_true _ _).mp hcond
          rw [Abs_isDefnAt hmo2] at hnd
          split at hf
          · cases hf
          · rename_i s4 r hr
            cases hf
            rcases Abs_cell (hmo2.grows h23) with ⟨mm, mws, mp, hcm, rfl⟩ | ⟨mm, mks, mp, mos, hcm, rfl, hmks⟩
            · simp [Obj.isDefn] at hnd
            · obtain ⟨h34, ro, u, hfs, habs⟩ := hsimN mid [] _ s4 r mm mks mp mos [] hcm hmks trivial hr
              refine ⟨(hext2.trans h23).trans h34, ?_⟩
              simp only [tmplObjsOf, hman, Bool.false_eq_true, ↓reduceIte, selfFetchOf, hfs, defaultInstOf,
                fetchScope_tmpl0 hfs]
              exact Rel2.append (Rel2.append ((hout.grows (hext2.trans h23)).grows h34) ⟨habs, trivial⟩)
                ((hinsts.grows h23).grows h34)
        · rename_i hcond
          cases hf
          -- the template copy / the default instance of a definition
          have hone : tmplObjsOf false mo processed (selfFetchOf (fetchScope e fuel) mo) =
              [withTmpl mo (if (mo.attr "optional").mandatory then 0 else if processed.isEmpty then 1 else -1)] := by
            cases mo with
            | defn mm mws => exact tmplObjsOf_defn false mm mws processed _
            | scope mm mos =>
              rw [Abs_isDefnAt hmo2] at hcond
              have hman : ((Obj.scope mm mos).attr "optional").mandatory = false := by
                simpa [Obj.isDefn] using hcond
              simp only [tmplObjsOf, hman, Bool.false_eq_true, ↓reduceIte]
          rw [hone]
          exact ⟨hext2.trans h23, Rel2.append
            (Rel2.append ((hout.grows hext2).grows h23) ⟨hcp, trivial⟩) (hinsts.grows h23)⟩

/-! ### simulation: the loop over the active master objects, and `scope.fetch` -/

/-- invariant of the loop over the active master objects: the heap has grown, the result ids so far denote
    the pure results so far (nothing is said about the consumed ids `st'.2` of the pure side) -/
def RelS (s0 : HS) (st : HS × List Nat) (st' : List Obj × List Nat) : Prop :=
  Grows s0.heap st.1.heap ∧ AbsL st.1.heap st.2 st'.1

theorem stepF_sim (hsimN : RecSim e fuel false recN) (hsimD : RecSim e fuel d recD) {sm : Meta} {mk : List Nat}
    {src : Nat} {mobjs cobjs : List Obj} {s0 : HS} (hmobjs : AbsL s0.heap mk mobjs)
    (hsrc : Abs s0.heap src (.scope { sm with tmpl := 0 } cobjs))
    (st st2 : HS × List Nat) (st' : List Obj × List Nat) (io : Nat × Obj)
    (hq : RelS s0 st st') (hio : mobjs[io.1]? = some io.2)
    (hf : stepF e d recN recD fuel sm mk src st io = .ok st2) :
    ∃ st2', stepG (fetchScope e fuel) e fuel d sm mobjs cobjs st' io = .ok st2' ∧ RelS s0 st2 st2' := by
  obtain ⟨hext, hout⟩ := hq
  obtain ⟨s, out⟩ := st
  obtain ⟨pout, pused⟩ := st'
  obtain ⟨idx, mo⟩ := io
  unfold stepF at hf
  dsimp only at hf
  split at hf
  · cases hf
  · rename_i mid hmidEq
    have hmo : Abs s.heap mid mo := (Rel2.get hmobjs hmidEq hio).grows hext
    -- `pathOf` (Phil/HeapFetch2.lean) and the `fetchPath` inside `fetchMatching` are the same term
    have hmat : AbsL s.heap ((getWS (fuel + 64) s.heap src (pathOf sm mo)).filter (liveB s.heap))
        (fetchMatching fuel sm cobjs mo) :=
      Rel2.filter _ _ (fun _ _ h => Abs_liveB h) (getWS_abs _ _ _ _ _ (hsrc.grows hext))
    generalize (getWS (fuel + 64) s.heap src (pathOf sm mo)).filter (liveB s.heap) = mH at hf hmat
    unfold stepG
    dsimp only
    generalize fetchMatching fuel sm cobjs mo = mP at hmat
    split at hf
    · rename_i hmu
      simp only [hmu, ↓reduceIte]
      rcases Abs_cell hmo with ⟨mm, mws, mp, hcm, rfl⟩ | ⟨mm, mks, mp, mos, hcm, rfl, hmks⟩
      · -- a definition
        simp only [hcm] at hf
        split at hf
        · cases hf
        all_goals
          rename_i hfold
          obtain ⟨po1, used1, hp1, habs, h01⟩ := oneFold_sim hmo hmat pused hfold
          simp only [hp1, defnFinish]
        · cases hf
          cases po1 with
          | none => exact habs.elim
          | some o => exact ⟨_, rfl, hext.trans h01, Rel2.append (hout.grows h01) ⟨habs, trivial⟩⟩
        · cases po1 with
          | some _ => exact habs.elim
          | none =>
            dsimp only
            split at hf
            · rename_i hd
              simp only [hd, ↓reduceIte]
              split at hf
              · cases hf
              · rename_i h2 c hcp
                cases hf
                obtain ⟨n, hn, rfl, rfl⟩ := copy_eq hcp
                rw [h01.get hcm] at hn
                cases hn
                exact ⟨(pout ++ [Obj.defn mm mws], used1), rfl, (hext.trans h01).trans (Grows.alloc _ _),
                  Rel2.append ((hout.grows h01).grows (Grows.alloc _ _))
                    ⟨Abs_defn_intro (p := mp) List.getElem?_concat_length, trivial⟩⟩
            · rename_i hd
              cases hf
              simp only [hd, Bool.false_eq_true, ↓reduceIte]
              exact ⟨_, rfl, hext.trans h01, hout.grows h01⟩
      · -- a scope
        simp only [hcm] at hf
        split at hf
        · cases hf
        · rename_i hany
          simp only [scopeBranch, find_isDefn_none hmat (by simpa using hany)]
          split at hf
          · cases hf
          · rename_i s1 r hr
            obtain ⟨h01, ro, u, hfs, habs⟩ := hsimD mid _ s s1 r mm mks mp mos (mP.flatMap Obj.children) hcm hmks
              (Rel2.flatMap _ _ (fun _ _ h => Abs_kidsOf h) hmat) hr
            rw [AbsL_isEmpty (Abs_kidsOf habs)] at hf
            simp only [hfs]
            split at hf <;> rename_i hE <;> cases hf <;> simp only [hE, Bool.false_eq_true, ↓reduceIte]
            · exact ⟨_, rfl, hext.trans h01, hout.grows h01⟩
            · exact ⟨_, rfl, hext.trans h01, Rel2.append (hout.grows h01) ⟨habs, trivial⟩⟩
    · -- .multiple
      rename_i hmu
      simp only [hmu, Bool.false_eq_true, ↓reduceIte, multiBranch, masterKeyG]
      split at hf
      · cases hf
      · rename_i s1 selfId hself
        -- `master_object.fetch()` allocates, and the master key is the pure one
        have hkey : Grows s.heap s1.heap ∧ ∀ masterStr, masterKeyOf e fuel mo
            (match selfId with
              | some r => (match abs s1.heap r with | some o => .ok (o, []) | none => .error .outOfFuel)
              | none => .error .outOfFuel) = .ok masterStr →
            masterKeyOf e fuel mo (selfFetchOf (fetchScope e fuel) mo) = .ok masterStr := by
          unfold selfFetchH at hself
          rcases Abs_cell hmo with ⟨mm, mws, mp, hcm, rfl⟩ | ⟨mm, mks, mp, mos, hcm, rfl, hmks⟩
          · cases hself
            exact ⟨Grows.refl _, fun _ hk => hk⟩
          · dsimp only at hself
            split at hself
            · cases hself
            · rename_i s3 r3 hr
              cases hself
              obtain ⟨g, ro, u, hfs, habs⟩ := hsimN mid [] s _ _ mm mks mp mos [] hcm hmks trivial hr
              refine ⟨g, fun masterStr hk => ?_⟩
              dsimp only at hk
              split at hk
              · rename_i o ha
                obtain rfl := Abs_unique habs ⟨_, ha⟩
                simpa only [selfFetchOf, hfs, masterKeyOf] using hk
              · cases hk
        obtain ⟨h01, hkey⟩ := hkey
        split at hf
        · cases hf
        · rename_i masterStr hk
          simp only [hkey masterStr hk]
          obtain ⟨robjs, processed, used, hp, h2, h3⟩ := multiTailF_sim hsimN hsimD (hmo.grows h01)
            ((hmobjs.grows hext).grows h01) (hmat.grows h01) (hout.grows h01) pused hf
          exact ⟨(pout ++ tmplObjsOf d mo processed (selfFetchOf (fetchScope e fuel) mo) ++
            robjs.filterMap (fun x => x), used), by simp only [hp], (hext.trans h01).trans h2, h3⟩

end

/-- whenever `fetchF` returns, `fetchScope` returns on the abstractions and the result object denotes the
    pure result.  Both loops run over the same list `actives`, so the element relation of `foldSim` is the
    diagonal; it also carries `mobjs[a.1]? = some a.2` (`masterActive_sound`), the `hio` of `stepF_sim`. -/
theorem fetchF_sim (e : Envs) : ∀ (fuel : Nat) (d : Bool), RecSim e fuel d (fetchF e d fuel)
  | 0, _ => fun _ _ _ _ _ _ _ _ _ _ _ _ _ hf => nomatch hf
  | fuel + 1, d => by
    intro self combined s s' r sm mk sp mobjs cobjs hcell hmobjs hcobjs hf
    simp only [fetchF, hcell] at hf
    split at hf
    · cases hf
    · rename_i h1 src hcc
      obtain ⟨n, hn, rfl, rfl⟩ := customizedCopy_eq hcc
      rw [hcell] at hn
      cases hn
      have hA := Grows.alloc s.heap [ccNode (Node.scope sm mk sp) none none (some combined)]
      split at hf
      · cases hf
      · rename_i mobjs' hmo
        cases AbsL_unique (AbsL_of_mapOpt hmo) (hmobjs.grows hA)
        split at hf
        · cases hf
        · rename_i actives hact
          split at hf
          · cases hf
          · rename_i s2 out hfold
            -- `tmpl := 0`: the sources are wrapped in `self.customized_copy(objects=…)`, which resets
            -- `is_template` (common.py:1361); `fetchMatching` wraps them in the same way
            have hsrc : Abs (s.heap ++ [ccNode (Node.scope sm mk sp) none none (some combined)]) s.heap.length
                (.scope { sm with tmpl := 0 } cobjs) :=
              Abs_scope_intro (p := sp) List.getElem?_concat_length (hcobjs.grows hA)
            obtain ⟨⟨pout, pused⟩, hp, hext2, hout⟩ := foldSim _
              (stepG (fetchScope e fuel) e fuel d sm mobjs cobjs)
              (RelS { s with heap := s.heap ++ [ccNode (Node.scope sm mk sp) none none (some combined)] })
              (fun (a b : Nat × Obj) => a = b ∧ mobjs[a.1]? = some a.2)
              (fun st st' a b st2 hq hab hs => by
                obtain ⟨rfl, hio⟩ := hab
                exact stepF_sim (fetchF_false e fuel ▸ fetchF_sim e fuel false) (fetchF_sim e fuel d)
                  (hmobjs.grows hA) hsrc st st2 st' a hq hio hs)
              actives actives _ (([] : List Obj), ([] : List Nat)) _
              (Rel2.diag (fun a ha => ⟨rfl, ((masterActive_sound _ _ hact).1 a.1 a.2 ha).1⟩))
              (show RelS _ (_, []) ([], []) from ⟨Grows.refl _, trivial⟩) hfold
            split at hf
            · cases hf
            · rename_i h3 r' hres
              cases hf
              obtain ⟨n', hn', rfl, rfl⟩ := customizedCopy_eq hres
              have h02 := hA.trans hext2
              rw [h02.get hcell] at hn'
              cases hn'
              refine ⟨h02.trans (Grows.alloc _ _), .scope { sm with tmpl := 0 } pout, pused, ?_, ?_⟩
              · simp only [fetchScope_succ, hact, hp, fetchFinish]
              · exact Abs_scope_intro (p := sp) List.getElem?_concat_length (hout.grows (Grows.alloc _ _))

end Phil.Heap
