/-
  Attribute assignments between the name of a scope and its `{` (C02, C15): the loop
  `scopeAttrsLoop` of `collect_objects` over header items given as data, one turn of `collect_objects`
  for a scope with header attributes.  Vocabulary of Phil/Proofs/LayoutAttrs.lean (`AttrIt`,
  `attrsText`, `attrsEnd`) and Phil/Proofs/Layout2.lean (`LayItem` for the body).
-/
import Phil.Proofs.LayoutAttrs
import Phil.Proofs.Layout3
namespace Phil

/-! ### values of scope attributes -/

/-- the value `scope.assign_attribute` gives, from the words without their lines -/
def sattrValOf (n : String) (ws : List Word) : Option AttrVal :=
  (scopeAttrValue n (ws.map Word.erase)).toOption

theorem scopeAttrValue_erase_ls (n : String) (ws : List Word) :
    (scopeAttrValue n (ws.map Word.erase)).toOption = (scopeAttrValue n ws).toOption := by
  unfold scopeAttrValue
  split
  · exact boolFromWords_erase_la ws
  · split
    · exact intFromWordsLit_erase_la ws
    · rw [isPlainNone_erase_la, isPlainAuto_erase_la, strFromWords_erase_la]

theorem scopeAttrValue_reline_ls (n : String) (ws : List Word) (l : Nat)
    (h : (sattrValOf n ws).isSome = true) :
    scopeAttrValue n (reline l ws) = .ok ((sattrValOf n ws).getD .none) := by
  obtain ⟨v, hv⟩ := Option.isSome_iff_exists.mp h
  rw [hv]
  apply toOption_some_la
  rw [← scopeAttrValue_erase_ls, reline_erase]
  exact hv

/-- a header attribute assignment the theorems are stated for -/
def goodSAttr (n : String) (ws : List Word) (b : Bool) : Bool :=
  scopeAttrNames.contains n && !ws.isEmpty && ws.all goodWord && chainOK true ws &&
    (b || (sattrValOf n ws).isSome)

/-- well-formed header item: as for definitions, but the assignment must be ended by a newline, `;`
    or a trailing comment (not by nothing: `{` on the same line would be … fine for the parser, but
    is outside the four terminators) -/
def AttrIt.swf (t : AttrIt) : Bool :=
  goodSAttr t.n t.ws t.b && wfDef (attrLead t.n, t.ws) t.L && !t.L.term.isEof

/-- the attribute list the header assignments leave on the scope -/
def sattrsOf : List AttrIt → Attrs
  | [] => []
  | t :: ts => (if t.b then [] else [(t.n, (sattrValOf t.n t.ws).getD .none)]) ++ sattrsOf ts

theorem scopeAttrNames_chars_ls : ∀ n ∈ scopeAttrNames, ∀ d ∈ n.toList, isIdCont d = true := by
  decide +kernel

/-! ### the header loop -/

/-- read the next structural word and go on with the header loop -/
def popLoop_ls (fuel : Nat) (ci0 : CI) (attrs : Attrs) : R (Attrs × Word × CI) :=
  match popUnquoted structSettings ci0 with
  | .error e => .error e
  | .ok (w, ci) => scopeAttrsLoop fuel ci w attrs

/-- the filler in front of the first header item (or, without items, the gap in front of `{`) -/
def hdrFirstPre_ls : List AttrIt → Pre → Pre
  | [], gap => gap
  | t :: _, _ => t.L.pre

/-- the header from the first head word (or `{`) on; `V` is the text after `{` -/
def hdrAfter_ls : List AttrIt → Pre → Str → Str
  | [], _, V => '{' :: V
  | t :: ts, gap, V => t.item.body ++ ((hdrFirstPre_ls ts gap).text ++ hdrAfter_ls ts gap V)

/-- the whole header after the scope name -/
def hdrText_ls (ts : List AttrIt) (gap : Pre) (V : Str) : Str :=
  (hdrFirstPre_ls ts gap).text ++ hdrAfter_ls ts gap V

theorem hdrFirstPre_wf_ls (ts : List AttrIt) (gap : Pre) (hts : ∀ t ∈ ts, t.swf = true)
    (hgap : gap.wf = true) : (hdrFirstPre_ls ts gap).wf = true := by
  cases ts with
  | nil => exact hgap
  | cons t ts =>
    have := hts t (by simp)
    simp only [AttrIt.swf, wfDef, Bool.and_eq_true] at this
    exact this.1.2.1.1.1

theorem hdrAfter_safe_ls (ts : List AttrIt) (gap : Pre) (V : Str) : NextOK (hdrAfter_ls ts gap V) := by
  cases ts with
  | nil => exact NextOK_cons V rfl ⟨rfl, by decide, by decide⟩
  | cons t ts =>
    obtain ⟨n, ws, L, b⟩ := t
    cases b
    · exact NextOK_cons (c := '.') _ rfl ⟨rfl, by decide, by decide⟩
    · exact NextOK_cons (c := '!') _ rfl ⟨rfl, by decide, by decide⟩

/-- **one header item** `[!].n = words term`, followed by the filler `p` and the next construct `X`:
    behind the blanks in front of it the structure tokenizer reads the head word `[!].n`; from there
    one iteration of the header loop adds the attribute (unless under `!`) and leaves the tokenizer
    (as good as) at `X` -/
theorem hdr_item_ls (t : AttrIt) (ht : t.swf = true) (p : Pre) (X : Str) (hp : p.wf = true)
    (hX : NextOK X) (l : Nat) :
    ∃ rest, nextWordAux structSettings false (t.L.pre.ind ++ (t.item.body ++ (p.text ++ X))) l
        = .ok (some ({ value := bangText_l2 t.b ++ attrLead t.n, quote := none, line := some l },
            ⟨rest, l⟩)) ∧
      X.length ≤ rest.length ∧
      ∀ fuel attrs, ∃ ci4,
        scopeAttrsLoop (fuel + 1) ⟨rest, l⟩
            { value := bangText_l2 t.b ++ attrLead t.n, quote := none, line := some l } attrs
          = popLoop_ls fuel ci4
              (attrs ++ (if t.b then [] else [(t.n, (sattrValOf t.n t.ws).getD .none)])) ∧
        nextWord structSettings ci4
          = nextWordAux structSettings false (p.ind ++ X)
              (endLine l t.ws + nlCount t.L.term.text + p.lines.length) := by
  obtain ⟨n, ws, L, b⟩ := t
  simp only [Pre.wf, Bool.and_eq_true] at hp
  simp only [AttrIt.swf, goodSAttr, wfDef, Pre.wf, Bool.and_eq_true, Bool.not_eq_true',
    List.isEmpty_eq_false_iff, List.all_eq_true, Bool.or_eq_true, List.contains_eq_mem, decide_eq_true_eq] at ht
  obtain ⟨⟨⟨⟨⟨⟨hn, hne⟩, hgood⟩, hchain⟩, hval⟩, ⟨⟨⟨⟨_, hpi⟩, hsp1⟩, hgaps⟩, hterm⟩⟩, hneof⟩ := ht
  refine ⟨L.sp1 ++ '=' :: (wordsLay L.gaps ws ++ (L.term.text ++ (linesStr p.lines ++ (p.ind ++ X)))),
    ?_, ?_, ?_⟩
  · rw [nextWordAux_skip structSettings _ _ (inlineB_space hpi), inlineB_nl hpi, Nat.add_zero]
    simp only [AItem.body, AttrIt.item, AItem.bang, AItem.spec, AItem.lay, defText, Pre.text, attrLead,
      List.append_assoc, List.cons_append]
    exact nextWordAux_bang_dot_l2 b n.toList _ l (scopeAttrNames_chars_ls n hn)
      (stopsAt_space_append _ _ _ (inlineB_space hsp1) (by rfl))
  · simp only [List.length_append, List.length_cons]
    omega
  · intro fuel attrs
    obtain ⟨ci4, h3, h4⟩ := collectAssigned_layout ws L.gaps L.term p.lines p.ind X l
      { value := attrLead n, quote := none, line := some l }
      hne hgood hchain hgaps hterm hp.1 hp.2 (StopHead.of_nextOK hX)
      (by intro he; rw [he] at hneof; cases hneof) rfl
      (by rw [isUnq_backslash]; simp [attrLead])
    refine ⟨ci4, ?_, h4⟩
    have hv := fun hb => scopeAttrValue_reline_ls n ws l (hval.resolve_left hb)
    simp only [attrLead] at h3
    cases b <;>
      simp [scopeAttrsLoop, bangText_l2, attrLead, stripBang, hn, h3, hv, popLoop_ls, Except.map, inlineB_nl hsp1,
        popUnquoted_of_next (nextWord_struct_eq L.sp1 _ l (inlineB_space hsp1)) rfl] <;>
      cases popUnquoted structSettings ci4 <;> rfl

/-- **the header loop over the header items**: the attributes are collected in order (the ones
    under `!` dropped) and the loop ends at `{`, whose line is the line after the items plus the
    filler lines of the gap -/
theorem scopeAttrs_hdr_ls (gap : Pre) (V : Str) (hgap : gap.wf = true) :
    ∀ (ts : List AttrIt) (fuel : Nat) (ci0 : CI) (attrs : Attrs) (l : Nat),
      (∀ t ∈ ts, t.swf = true) → ts.length ≤ fuel →
      nextWord structSettings ci0
        = nextWordAux structSettings false ((hdrFirstPre_ls ts gap).ind ++ hdrAfter_ls ts gap V)
            (l + (hdrFirstPre_ls ts gap).lines.length) →
      popLoop_ls (fuel + 1) ci0 attrs
        = .ok (attrs ++ sattrsOf ts,
            { value := ['{'], quote := none, line := some (attrsEnd l ts + gap.lines.length) },
            ⟨V, attrsEnd l ts + gap.lines.length⟩) := by
  intro ts
  induction ts with
  | nil =>
    intro fuel ci0 attrs l _ _ hci
    simp only [Pre.wf, Bool.and_eq_true] at hgap
    have h1 := nextWord_struct_open gap.ind V (l + gap.lines.length) (inlineB_space hgap.2)
    rw [inlineB_nl hgap.2, Nat.add_zero] at h1
    simp [popLoop_ls, popUnquoted_of_next (hci.trans h1) rfl, scopeAttrsLoop, sattrsOf, attrsEnd]
  | cons t ts ih =>
    intro fuel ci0 attrs l hts hf hci
    obtain _ | f := fuel
    · cases hf
    have hts' : ∀ u ∈ ts, u.swf = true := fun u hu => hts u (by simp [hu])
    obtain ⟨rest, h1, _, hstep⟩ := hdr_item_ls t (hts t (by simp)) _ _ (hdrFirstPre_wf_ls ts gap hts' hgap)
      (hdrAfter_safe_ls ts gap V) (l + t.L.pre.lines.length)
    obtain ⟨ci4, hstep, hnext⟩ := hstep (f + 1) attrs
    rw [popLoop_ls, popUnquoted_of_next (hci.trans h1) rfl]
    simp only []
    rw [hstep, ih f ci4 _ _ hts' (Nat.le_of_succ_le_succ hf) hnext]
    simp [sattrsOf, attrsEnd, List.append_assoc]


/-! ### one turn of `collect_objects` for a scope with header attributes -/

theorem hdrAfter_length_ls (ts : List AttrIt) (gap : Pre) (V : Str) :
    ts.length + 1 ≤ (hdrAfter_ls ts gap V).length := by
  induction ts with
  | nil => simp [hdrAfter_ls]
  | cons t ts ih =>
    simp only [hdrAfter_ls, AItem.body, defText, List.length_append, List.length_cons]
    omega

/-- what stands between the scope name and the first header word (or `{`) separates them: not
    nothing, and a `#` is not glued to the name -/
def hdrGapOK_ls (ts : List AttrIt) (gap : Pre) : Bool :=
  gapOK_l2 (hdrFirstPre_ls ts gap) &&
    (ts.isEmpty || !((hdrFirstPre_ls ts gap).lines.isEmpty && (hdrFirstPre_ls ts gap).ind.isEmpty))

/-- **One turn of `collect_objects` for a scope header with attribute assignments under a layout**:
    the scope gets the next id, `disabled` iff `b`, the line of its name and the attributes
    `sattrsOf ts`; its body is read by the recursive call from the text `V`
    after `{`, whose line is the line after the header items plus the filler lines of the gap. -/
theorem scope_hdr_turn_ls (nm : Str) (b : Bool) (ind : Str) (ts : List AttrIt) (gap : Pre) (V : Str)
    (hit : ItemName nm) (hind : inlineB ind = true) (hts : ∀ t ∈ ts, t.swf = true)
    (hgap : gap.wf = true) (hgok : hdrGapOK_ls ts gap = true)
    (fuel : Nat) (st : PState) (stop : Option Word) (prevLine : Nat) (acc : List Obj)
    (pending : Option Obj) (l0 : Nat)
    (hci : nextWord structSettings st.ci
      = nextWordAux structSettings false (ind ++ (bangText_l2 b ++ (nm ++ hdrText_ls ts gap V))) l0) :
    collectObjects (fuel + 1) st stop prevLine acc pending
      = scopeCont fuel stop l0 acc pending
          { name := nm, id := some st.nextId, disabled := b, line := some l0, attrs := sattrsOf ts }
          (collectObjects fuel
            { ci := ⟨V, attrsEnd l0 ts + gap.lines.length⟩, nextId := st.nextId + 1 }
            (some { value := ['{'], quote := none, line := some (attrsEnd l0 ts + gap.lines.length) })
            0 [] none) := by
  have hpre := hdrFirstPre_wf_ls ts gap hts hgap
  have hg : gapOK_l2 (hdrFirstPre_ls ts gap) = true ∧
      (ts = [] ∨ ¬ (hdrFirstPre_ls ts gap).lines = [] ∨ ¬ (hdrFirstPre_ls ts gap).ind = []) := by
    simpa [hdrGapOK_ls] using hgok
  rw [nextWordAux_skip structSettings _ _ (inlineB_space hind), inlineB_nl hind, Nat.add_zero] at hci
  -- the name: what follows it ends the word (a filler that is not empty, or `{` itself)
  have h1 := hci.trans (nextWordAux_bang_name_gen_l2 b nm _ l0 hit
    (hdr_stops_ls _ (hdrAfter_ls ts gap V) hpre hg.1 (hg.2.elim (fun e => Or.inr (by subst e; rfl)) (fun h => Or.inl (not_and_of_not_or_not h)))))
  simp only [Pre.wf, Bool.and_eq_true] at hpre
  have hnext : nextWord structSettings ⟨hdrText_ls ts gap V, l0⟩
      = nextWordAux structSettings false ((hdrFirstPre_ls ts gap).ind ++ hdrAfter_ls ts gap V)
          (l0 + (hdrFirstPre_ls ts gap).lines.length) := by
    unfold nextWord
    simp only [hdrText_ls, Pre.text, List.append_assoc]
    rw [struct_skip_lines _ hpre.1]
  -- the first word of the header: `{`, or the head word of the first attribute item
  obtain ⟨w, rest, h2, hwq, hwv, hlen⟩ : ∃ w rest,
      nextWordAux structSettings false ((hdrFirstPre_ls ts gap).ind ++ hdrAfter_ls ts gap V)
          (l0 + (hdrFirstPre_ls ts gap).lines.length)
        = .ok (some (w, ⟨rest, l0 + (hdrFirstPre_ls ts gap).lines.length⟩)) ∧ w.quote = none ∧
      (w.value == ['{'] || w.value.take 1 == ['.'] || w.value.take 2 == ['!', '.']) = true ∧
      ts.length ≤ rest.length + 1 := by
    cases ts with
    | nil =>
      have hi : inlineB gap.ind = true := hpre.2
      have := nextWord_struct_open gap.ind V (l0 + gap.lines.length) (inlineB_space hi)
      rw [inlineB_nl hi, Nat.add_zero] at this
      exact ⟨_, V, this, rfl, rfl, Nat.zero_le _⟩
    | cons t ts =>
      obtain ⟨rest, h2, hlen, _⟩ := hdr_item_ls t (hts t (by simp)) _ _
        (hdrFirstPre_wf_ls ts gap (fun u hu => hts u (by simp [hu])) hgap) (hdrAfter_safe_ls ts gap V)
        (l0 + t.L.pre.lines.length)
      exact ⟨_, rest, h2, rfl, by cases t.b <;> rfl,
        Nat.le_succ_of_le (Nat.le_trans (hdrAfter_length_ls ts gap V) hlen)⟩
  have h2 := hnext.trans h2
  have hloop := scopeAttrs_hdr_ls gap V hgap ts (rest.length + 1) _ [] l0 hts hlen hnext
  rw [popLoop_ls, popUnquoted_of_next h2 hwq] at hloop
  exact collectObjects_scope_attrs_step_ls fuel st stop prevLine acc pending _ _ _ _ _ _ nm b _ h1 rfl rfl
    hit.defName hit.stdIdent hit.notReserved h2 hwq hwv hloop


/-! ### documents: top-level scopes with header attributes, nested attribute-free bodies -/

theorem hdrAfter_append_ls (ts : List AttrIt) (gap : Pre) (V R : Str) :
    hdrAfter_ls ts gap V ++ R = hdrAfter_ls ts gap (V ++ R) := by
  induction ts with
  | nil => simp [hdrAfter_ls]
  | cons t ts ih => simp [hdrAfter_ls, ih]

theorem hdrText_append_ls (ts : List AttrIt) (gap : Pre) (V R : Str) :
    hdrText_ls ts gap V ++ R = hdrText_ls ts gap (V ++ R) := by
  simp [hdrText_ls, hdrAfter_append_ls]

/-- a top-level scope `[!]nm`, header attribute assignments `ts`, the gap in front of `{`, a body of
    nested items (`LayItem` of Phil/Proofs/Layout2.lean: definitions and scopes in any layout, with
    `!`, dotted names), the filler in front of `}` -/
structure HScope where
  nm : Str
  b : Bool := false
  pre : Pre := {}
  ts : List AttrIt := []
  gap : Pre := { ind := [' '] }
  kids : List LayItem := []
  close : Pre := {}

def HScope.body (x : HScope) : Str :=
  bangText_l2 x.b ++ (x.nm ++ hdrText_ls x.ts x.gap (layItemsText x.kids ++ (x.close.text ++ ['}'])))

def renderH : List HScope → Pre → Str
  | [], post => post.text
  | x :: xs, post => x.pre.text ++ (x.body ++ renderH xs post)

def HScope.wf (x : HScope) : Bool :=
  goodName x.nm && x.pre.wf && x.ts.all AttrIt.swf && x.gap.wf && hdrGapOK_ls x.ts x.gap && x.close.wf &&
    wfLayItems x.kids x.close.lines.isEmpty

def wfDocH (xs : List HScope) (post : Pre) : Bool := xs.all HScope.wf && post.wf

/-- the line of `{` -/
def HScope.bodyLn (x : HScope) (l : Nat) : Nat := attrsEnd (l + x.pre.lines.length) x.ts + x.gap.lines.length
def HScope.endLn (x : HScope) (l : Nat) : Nat := layEndLn x.kids (x.bodyLn l) + x.close.lines.length
def HScope.count (x : HScope) : Nat := 1 + layCount x.kids

def HScope.obj (x : HScope) (l i : Nat) : Obj :=
  .scope { name := x.nm, id := some i, disabled := x.b, line := some (l + x.pre.lines.length),
           attrs := sattrsOf x.ts } (layObjs x.kids (x.bodyLn l) (i + 1))

/-- **what the parser builds** -/
def hObjs : List HScope → Nat → Nat → List Obj
  | [], _, _ => []
  | x :: xs, l, i => x.obj l i :: hObjs xs (x.endLn l) (i + x.count)

/-! ### abstract tree, `!` on scope headers -/

/-- the scope without ids and lines: name, flag, header attributes, abstract trees of the body -/
def HScope.tree (x : HScope) : Obj :=
  .scope { name := x.nm, disabled := x.b, attrs := sattrsOf x.ts } (layTrees x.kids)

theorem hObjs_erase_ls (xs : List HScope) : ∀ l i,
    eraseList (hObjs xs l i) = eraseList (xs.map HScope.tree) := by
  induction xs with
  | nil => intro l i; rfl
  | cons x rest ih =>
    intro l i
    simp only [hObjs, List.map_cons, eraseList_cons, ih]
    congr 1
    simp only [HScope.obj, HScope.tree, Obj.erase, Meta.erase, layObjs_erase_l2]

/-- what a header assignment says, without layout and source lines -/
def AttrIt.content (t : AttrIt) : String × List Word × Bool := (t.n, t.ws.map Word.erase, t.b)

theorem sattrValOf_erase_ls (n : String) (ws : List Word) : sattrValOf n (ws.map Word.erase) = sattrValOf n ws := by
  simp only [sattrValOf, word_erase_erase_l2]

theorem sattrsOf_eq_ls (ts : List AttrIt) :
    sattrsOf ts = (ts.map AttrIt.content).flatMap
      (fun c => if c.2.2 then [] else [(c.1, (sattrValOf c.1 c.2.1).getD .none)]) := by
  induction ts with
  | nil => rfl
  | cons t ts ih => simp [sattrsOf, ih, AttrIt.content, sattrValOf_erase_ls]

def HScope.unbang (x : HScope) : HScope := { x with b := false }
def HScope.unbangAttrs (x : HScope) : HScope := { x with ts := x.ts.map AttrIt.unbang }

theorem hObjs_flags_ls (xs : List HScope) : ∀ l i,
    hObjs xs l i = setFlags_l2 (xs.map (·.b)) (hObjs (xs.map HScope.unbang) l i) := by
  induction xs with
  | nil => intro l i; rfl
  | cons x rest ih =>
    intro l i
    simp only [List.map_cons, hObjs, setFlags_l2]
    rw [show (HScope.unbang x).endLn l = x.endLn l from rfl, show (HScope.unbang x).count = x.count from rfl,
      ← ih]
    rfl

theorem hObjs_noAttrs_ls (xs : List HScope) : ∀ l i,
    (hObjs xs l i).map Obj.noAttrs = (hObjs (xs.map HScope.unbangAttrs) l i).map Obj.noAttrs := by
  induction xs with
  | nil => intro l i; rfl
  | cons x rest ih =>
    intro l i
    have e0 : (HScope.unbangAttrs x).bodyLn l = x.bodyLn l := by
      simp [HScope.bodyLn, HScope.unbangAttrs, attrsEnd_unbang_la]
    simp only [List.map_cons, hObjs, HScope.endLn, HScope.obj, e0, ih]
    rfl

theorem wfDocH_unbang_ls (xs : List HScope) (post : Pre) :
    wfDocH (xs.map HScope.unbang) post = wfDocH xs post := by
  simp only [wfDocH, List.all_map]
  congr 1

theorem hObjs_length_ls (xs : List HScope) : ∀ l i, (hObjs xs l i).length = xs.length := by
  induction xs with
  | nil => intro l i; rfl
  | cons x rest ih => intro l i; simp [hObjs, ih]

theorem sattrsOf_append_ls (ts1 ts2 : List AttrIt) : sattrsOf (ts1 ++ ts2) = sattrsOf ts1 ++ sattrsOf ts2 := by
  induction ts1 with
  | nil => rfl
  | cons t ts ih => simp [sattrsOf, ih]

end Phil
