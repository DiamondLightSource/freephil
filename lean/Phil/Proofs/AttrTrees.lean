/-
  Trees with attributes: the printed text and what `collect_objects` reads back from it — THE induction over
  printed trees of the development.  Definitions and proper scopes may be disabled (`!name`), definitions may
  be deprecated (a `# WARNING` line in front, from attributes level 3; the value collector of the line before
  consumes it).  The induction is for `treeTextC` (`!` for disabled definitions and scopes) under the exact
  condition on wrapped values (`WrapsOKC`); the smaller classes are instances — `treeTextB`, `treeTextA`, the
  attribute-free trees of Proofs/PrintParseNested.lean (Proofs/NestedRoundTrip.lean) and attributes level 0
  (Proofs/AttrRoundTrip.lean).
-/
import Phil.Proofs.AttrLines
import Phil.Proofs.StripAttrs
import Phil.Proofs.ParseRuns
namespace Phil

/-! ## Part 1: `collect_objects` on attribute lines -/

/-- every character of the name continues an unquoted word in structure context -/
def attrNameOK (n : String) : Bool := n.toList.all (fun d => !endsUnquoted structSettings d)

theorem attrNames_ok_art : ∀ n ∈ defAttrNames ++ scopeAttrNames, attrNameOK n = true := by decide +kernel

theorem nextWord_attr_name_art (sp rest : Str) (n : String) (l : Nat) (hsp : ∀ d ∈ sp, isSpace d = true)
    (hn : attrNameOK n = true) :
    nextWord structSettings ⟨sp ++ '.' :: n.toList ++ ' ' :: rest, l⟩
      = .ok (some ({ value := '.' :: n.toList, quote := none, line := some (l + nlCount sp) },
                   ⟨' ' :: rest, l + nlCount sp⟩)) := by
  exact nextWord_plain structSettings sp '.' n.toList _ l hsp rfl
    (List.forall_mem_cons.mpr ⟨by decide, fun d hd => by simpa using List.all_eq_true.mp hn d hd⟩)
    (by decide) (by decide) (ends_of_isSpace _ (by rfl : isSpace ' ' = true))

theorem collectObjects_attr_line_art (fuel : Nat) (stop : Option Word) (prevLine : Nat) (acc : List Obj)
    (d : Obj) (sp : Str) (n : String) (T : Str) (l i : Nat) (ws : List Word) (ci4 : CI) (v : AttrVal)
    (hsp : ∀ c ∈ sp, isSpace c = true) (hn : n ∈ defAttrNames)
    (h3 : collectAssigned ⟨T, l + nlCount sp⟩
      { value := '.' :: n.toList, quote := none, line := some (l + nlCount sp) } = .ok (ws, ci4))
    (hv : defAttrValue n ws = .ok v) :
    collectObjects (fuel + 1) { ci := ⟨sp ++ '.' :: n.toList ++ ' ' :: '=' :: T, l⟩, nextId := i } stop prevLine
        acc (some d)
      = collectObjects fuel { ci := ci4, nextId := i } stop (l + nlCount sp) acc
          (some (d.withMeta (fun m => { m with attrs := m.attrs ++ [(n, v)] }))) := by
  have h1 := nextWord_attr_name_art sp ('=' :: T) n l hsp (attrNames_ok_art n (List.mem_append_left _ hn))
  have h2 := nextWord_struct_eq [' '] T (l + nlCount sp) space_blank
  rw [nlCount_blank, Nat.add_zero] at h2
  exact collectObjects_attr_step_la fuel
    { ci := ⟨sp ++ '.' :: n.toList ++ ' ' :: '=' :: T, l⟩, nextId := i } stop prevLine
    acc d _ _ _ _ _ ws n false v h1 rfl rfl (by simpa using hn) h2 rfl rfl h3 (fun _ => hv)

/-! ### the `# WARNING` line of a deprecated definition directly after a definition -/

/-- the text of the warning comment after its `#` -/
def warnBody : Str := " WARNING: deprecated parameter".toList

theorem warnBody_ok_ar2 : commentOk false true warnBody = true := by decide +kernel

/-- the text after the newline that ends a value / attribute line when a deprecated definition follows:
    the indentation, the warning comment, the rest `Y` -/
def warnRest (ind Y : Str) : Str := ind ++ '#' :: (warnBody ++ '\n' :: Y)

theorem warnRest_eq_ar3 (ind Y : Str) :
    ind ++ ("# WARNING: deprecated parameter\n".toList ++ Y) = warnRest ind Y := by
  have ew : "# WARNING: deprecated parameter\n".toList = '#' :: (warnBody ++ ['\n']) := by decide +kernel
  rw [ew]
  simp [warnRest]

/-- **the collector at the newline in front of the warning line**: whatever the last word was, the `#`
    (on the NEXT line) switches to comment mode, the words of the warning are dropped, and the collector
    stops in front of the newline that ends the warning line (possibly leaving blanks `tb`) -/
theorem cAA_warn_end_ar3 (ind Y : Str) (hind : Blank ind)
    (hnext : ∀ c, firstNonSpace Y = some c → isQuoteChar c = false)
    (fuel l : Nat) (last : Word) (acc : List Word) (hf : warnBody.length + 3 ≤ fuel) :
    ∃ tb, InlineSpace tb ∧
      collectAssignedAux fuel ⟨'\n' :: warnRest ind Y, l⟩ last false acc
        = .ok (acc.reverse, ⟨tb ++ '\n' :: Y, l + 1⟩) := by
  have h := cAA_comment_line ('\n' :: ind) warnBody Y l (allSpace_append space_nl hind.isSpace) (by rfl)
    warnBody_ok_ar2 hnext fuel last acc (by omega)
  rwa [nlCount_cons_nl, hind.nlCount] at h

theorem endsVal_warn (ind Y : Str) (hind : Blank ind)
    (hnext : ∀ c, firstNonSpace Y = some c → isQuoteChar c = false) :
    EndsVal ('\n' :: warnRest ind Y) (fun l ci => ∃ tb, InlineSpace tb ∧ ci = ⟨tb ++ '\n' :: Y, l + 1⟩) := by
  refine ⟨rfl, fun fuel l l0 last acc hf _ _ _ => ?_⟩
  obtain ⟨tb, htb, h⟩ := cAA_warn_end_ar3 ind Y hind hnext fuel l last acc
    (by simp only [warnRest, List.length_cons, List.length_append] at hf; omega)
  exact ⟨_, ⟨tb, htb, rfl⟩, h⟩

theorem warn_skip_art (rest : Str) (l : Nat) :
    nextWordAux structSettings false ("# WARNING: deprecated parameter\n".toList ++ rest) l
      = nextWordAux structSettings false rest (l + 1) := by
  rfl

/-- `collect_objects` looks at its position only through the next structural word -/
theorem collectObjects_congr_ci_ar2 (fuel : Nat) (a b : CI) (n : Nat) (stop : Option Word) (prevLine : Nat)
    (acc : List Obj) (pending : Option Obj)
    (h : nextWord structSettings a = nextWord structSettings b)
    (hs : ∃ r, nextWord structSettings b = .ok (some r)) :
    collectObjects fuel { ci := a, nextId := n } stop prevLine acc pending
      = collectObjects fuel { ci := b, nextId := n } stop prevLine acc pending := by
  cases fuel with
  | zero => rfl
  | succ f =>
    obtain ⟨⟨w, ci'⟩, hb⟩ := hs
    have ha := h.trans hb
    have ta : tryPopUnquoted structSettings a = tryPopUnquoted structSettings b := by
      simp [tryPopUnquoted, tryPop, ha, hb]
    cases hq : w.quote with
    | some q =>
      have tb : tryPopUnquoted structSettings b = .error (unquotedErr w) := by
        simp [tryPopUnquoted, tryPop, hb, hq]
      unfold collectObjects
      simp only [ta, tb]
    | none =>
      have tb : tryPopUnquoted structSettings b = .ok (some (w, ci')) := by
        simp [tryPopUnquoted, tryPop, hb, hq]
      unfold collectObjects
      simp only [ta, tb]

theorem collectObjects_after_warn_ar2 (fuel : Nat) (tb ind Y : Str) (l i : Nat) (stop : Option Word)
    (prevLine : Nat) (acc : List Obj) (pending : Option Obj) (htb : InlineSpace tb) (hind : Blank ind)
    (hs : ∃ r, nextWordAux structSettings false Y (l + 2) = .ok (some r)) :
    collectObjects fuel { ci := ⟨tb ++ '\n' :: Y, l + 1⟩, nextId := i } stop prevLine acc pending
      = collectObjects fuel
          { ci := ⟨'\n' :: (ind ++ ("# WARNING: deprecated parameter\n".toList ++ Y)), l⟩, nextId := i }
          stop prevLine acc pending := by
  have e1 : nextWord structSettings ⟨tb ++ '\n' :: Y, l + 1⟩ = nextWordAux structSettings false Y (l + 2) := by
    rw [nextWord_inline_space structSettings tb _ _ htb, nextWord_newline]
  have e2 : nextWord structSettings ⟨'\n' :: (ind ++ ("# WARNING: deprecated parameter\n".toList ++ Y)), l⟩
      = nextWordAux structSettings false Y (l + 2) := by
    rw [nextWord_newline, nextWordAux_skip structSettings ind _ hind.isSpace, hind.nlCount, warn_skip_art]
  exact collectObjects_congr_ci_ar2 fuel _ _ i stop prevLine acc pending (e1.trans e2.symm) (by rw [e2]; exact hs)

/-- what follows a definition when a deprecated definition comes next: the warning line, then text `Y`
    that starts (after white space) with an unquoted structural word -/
def WarnNext (more : Str) : Prop :=
  ∃ ind Y, Blank ind ∧ more = warnRest ind Y ∧
    (∀ c, firstNonSpace Y = some c → isQuoteChar c = false) ∧
    ∀ l, ∃ r, nextWordAux structSettings false Y l = .ok (some r)

/-- what may follow a definition: ordinary text (`NextOK`) or, from level 3 on, the warning line -/
def FollowOK (L : Int) (more : Str) : Prop := NextOK more ∨ (3 ≤ L ∧ WarnNext more)

/-- `collect_objects`, its position being `ci`, goes on as if it stood at the head of `F` (on some line) -/
def GoesOnAt (F : Str) (ci : CI) : Prop :=
  ∃ l', ∀ (fuel i : Nat) (stop : Option Word) (prevLine : Nat) (acc : List Obj) (pending : Option Obj),
    collectObjects fuel { ci := ci, nextId := i } stop prevLine acc pending
      = collectObjects fuel { ci := ⟨F, l'⟩, nextId := i } stop prevLine acc pending

/-- what may follow a definition ends the value of its last line, and `collect_objects` goes on in front
    of it: a warning line is consumed by the value collector, and skipped by the structural tokenizer -/
theorem endsVal_follow {L : Int} {more : Str} (h : FollowOK L more) :
    EndsVal ('\n' :: more) (fun _ ci => GoesOnAt ('\n' :: more) ci) := by
  rcases h with h | ⟨_, ind, Y, hind, rfl, hq, hs⟩
  · obtain ⟨h1, h2⟩ := endsVal_next more h
    refine ⟨h1, fun fuel l l0 last acc hf hl hle hbs => ?_⟩
    obtain ⟨ci', rfl, hrun⟩ := h2 fuel l l0 last acc hf hl hle hbs
    exact ⟨_, ⟨l, fun _ _ _ _ _ _ => rfl⟩, hrun⟩
  · obtain ⟨h1, h2⟩ := endsVal_warn ind Y hind hq
    refine ⟨h1, fun fuel l l0 last acc hf hl hle hbs => ?_⟩
    obtain ⟨ci', ⟨tb, htb, rfl⟩, hrun⟩ := h2 fuel l l0 last acc hf hl hle hbs
    refine ⟨_, ⟨l, fun fuel i stop prevLine acc pending => ?_⟩, hrun⟩
    rw [← warnRest_eq_ar3]
    exact collectObjects_after_warn_ar2 fuel tb ind Y l i stop prevLine acc pending htb hind (hs _)

theorem collectObjects_defn_attr_art (stop : Option Word) (prevLine : Nat) (acc : List Obj)
    (d : Obj) (sp : Str) (n : String) (T more : Str) (l i : Nat) (v : AttrVal) (L : Int)
    (hsp : ∀ c ∈ sp, isSpace c = true) (hn : n ∈ defAttrNames)
    (hr : Reads T (defAttrValue n) v) (hnext : FollowOK L more) :
    ∃ l', ∀ fuel, collectObjects (fuel + 1)
        { ci := ⟨sp ++ '.' :: n.toList ++ ' ' :: '=' :: (T ++ '\n' :: more), l⟩, nextId := i } stop prevLine
        acc (some d)
      = collectObjects fuel { ci := ⟨'\n' :: more, l'⟩, nextId := i } stop (l + nlCount sp) acc
          (some (d.withMeta (fun m => { m with attrs := m.attrs ++ [(n, v)] }))) := by
  obtain ⟨ws, _, ci', ⟨l', hgo⟩, h3, hv⟩ := hr _ _ (endsVal_follow hnext) (l + nlCount sp)
    { value := '.' :: n.toList, quote := none, line := some (l + nlCount sp) } rfl (by simp [isUnq])
  exact ⟨l', fun fuel => by
    rw [collectObjects_attr_line_art fuel stop prevLine acc d sp n _ l i ws ci' v hsp hn h3 hv, hgo]⟩

/-! ### the attribute block -/

/-- the attributes printed at `level` (> 0) among `names`, with their values, in printing order -/
def shownList (level : Int) (attrs : Attrs) (names : List String) : Attrs :=
  names.filterMap (fun n => if attrShown level n (attrs.get n) then some (n, attrs.get n) else none)

/-- the printed text of the attribute lines for `names` (level > 0) -/
def attrsTextRT (pre : Str) (level width : Int) (attrs : Attrs) : List String → Str
  | [] => []
  | n :: ns =>
    (if attrShown level n (attrs.get n) then attrLineText pre width n (attrs.get n) else []) ++
      attrsTextRT pre level width attrs ns

/-- every attribute printed at `level` among `names` satisfies `attrOK` -/
def attrsOKList (isDef : Bool) (pre : Str) (level width : Int) (attrs : Attrs) (names : List String) : Bool :=
  names.all (fun n => !attrShown level n (attrs.get n) || attrOK isDef pre width n (attrs.get n))

theorem shownList_cons_art (level : Int) (attrs : Attrs) (n : String) (ns : List String) :
    shownList level attrs (n :: ns) =
      (if attrShown level n (attrs.get n) then [(n, attrs.get n)] else []) ++ shownList level attrs ns := by
  unfold shownList
  rw [List.filterMap_cons]
  split <;> simp_all

theorem attrsOKList_cons_art {isDef : Bool} {pre : Str} {level width : Int} {attrs : Attrs} {n : String}
    {ns : List String} (h : attrsOKList isDef pre level width attrs (n :: ns) = true) :
    (attrShown level n (attrs.get n) = true → attrOK isDef pre width n (attrs.get n) = true) ∧
    attrsOKList isDef pre level width attrs ns = true := by
  simp only [attrsOKList, List.all_cons, Bool.and_eq_true, Bool.or_eq_true, Bool.not_eq_true'] at h
  exact ⟨fun hsh => h.1.resolve_left (by rw [hsh]; simp), h.2⟩

theorem attrAll_text_art (isDef : Bool) (pre : Str) (hb : Blank pre) (level width : Int) (attrs : Attrs) :
    ∀ (ns : List String), attrsOKList isDef pre level width attrs ns = true →
      ∃ ls, attrAll attrs pre level width ns = .ok ls ∧ unlines ls = attrsTextRT pre level width attrs ns ∧
        (ls.isEmpty = (shownList level attrs ns).isEmpty) := by
  intro ns
  induction ns with
  | nil => intro _; exact ⟨[], rfl, rfl, rfl⟩
  | cons n ns ih =>
    intro h
    obtain ⟨hok, h2⟩ := attrsOKList_cons_art h
    obtain ⟨ls2, e2, t2, m2⟩ := ih h2
    by_cases hsh : attrShown level n (attrs.get n) = true
    · obtain ⟨⟨ls1, e1, t1⟩, _⟩ := attr_line_art isDef pre hb width n _ (hok hsh)
      refine ⟨ls1 ++ ls2, ?_, ?_, ?_⟩
      · simp only [attrAll, attrOne, hsh, ↓reduceIte, e1, e2]
      · rw [unlines_append, t1, t2, attrsTextRT, if_pos hsh]
      · rw [shownList_cons_art, if_pos hsh]
        cases ls1 with
        | nil => simp [unlines, attrLineText] at t1
        | cons a b => rfl
    · refine ⟨ls2, ?_, ?_, ?_⟩
      · simp only [attrAll, attrOne, hsh, Bool.false_eq_true, ↓reduceIte, e2, List.nil_append]
      · rw [t2, attrsTextRT, if_neg hsh, List.nil_append]
      · rw [shownList_cons_art, if_neg hsh, List.nil_append]; exact m2

theorem attrLineText_shape_art (pre : Str) (width : Int) (n : String) (v : AttrVal) :
    attrLineText pre width n v
      = (pre ++ [' ', ' ']) ++ '.' :: n.toList ++ ' ' :: '=' :: (attrTail pre width n v ++ ['\n']) := by
  simp [attrLineText]

/-- the printed lines of a list of attributes -/
def attrLinesText (pre : Str) (width : Int) : Attrs → Str
  | [] => []
  | a :: as => attrLineText pre width a.1 a.2 ++ attrLinesText pre width as

/-- the attribute lines are the lines of the shown attributes: what reads them back is proved by induction
    over that list, not over all attribute names -/
theorem attrsTextRT_eq (pre : Str) (level width : Int) (attrs : Attrs) (ns : List String) :
    attrsTextRT pre level width attrs ns = attrLinesText pre width (shownList level attrs ns) := by
  induction ns with
  | nil => rfl
  | cons n ns ih => rw [attrsTextRT, shownList_cons_art, ih]; split <;> rfl

theorem shownList_ok {isDef : Bool} {pre : Str} {level width : Int} {attrs : Attrs} {ns names : List String}
    (hmem : ∀ n ∈ ns, n ∈ names) (hok : attrsOKList isDef pre level width attrs ns = true) :
    ∀ a ∈ shownList level attrs ns, a.1 ∈ names ∧ attrOK isDef pre width a.1 a.2 = true := by
  intro a ha
  obtain ⟨n, hn, he⟩ := List.mem_filterMap.mp ha
  split at he
  · cases he
    rename_i hsh
    simp only [attrsOKList, List.all_eq_true, Bool.or_eq_true, Bool.not_eq_true'] at hok
    exact ⟨hmem n hn, (hok n hn).resolve_left (by simp [hsh])⟩
  · cases he

theorem attrLinesText_length (pre : Str) (width : Int) :
    ∀ as : Attrs, as.length ≤ (attrLinesText pre width as).length
  | [] => Nat.le_refl 0
  | a :: as => by
    have := attrLinesText_length pre width as
    simp only [attrLinesText, attrLineText, List.length_append, List.length_cons, List.length_nil]
    omega

theorem NextOK_attrLines (pre : Str) (hb : Blank pre) (width : Int) (tail : Str) :
    ∀ as : Attrs, (as = [] → NextOK tail) → NextOK (attrLinesText pre width as ++ tail)
  | [], ht => ht rfl
  | a :: as, _ => by
    rw [attrLinesText, attrLineText_shape_art]
    simpa using NextOK_head (pre ++ [' ', ' ']) (a.1.toList ++ ' ' :: '=' ::
      (attrTail pre width a.1 a.2 ++ ['\n']) ++ (attrLinesText pre width as ++ tail)) '.'
      hb.deeper.isSpace rfl ⟨rfl, by decide, by decide⟩

theorem followOK_attrLines (pre : Str) (hb : Blank pre) (width L : Int) (more : Str) (h : FollowOK L more) :
    ∀ as : Attrs, FollowOK L (attrLinesText pre width as ++ more)
  | [] => h
  | a :: as => Or.inl (NextOK_attrLines pre hb width more (a :: as) nofun)

theorem withMeta_attrs_nil_art (d : Obj) : d.withMeta (fun m => { m with attrs := m.attrs ++ [] }) = d := by
  cases d <;> simp [Obj.withMeta]

theorem withMeta_attrs_append_art (d : Obj) (a b : Attrs) :
    (d.withMeta (fun m => { m with attrs := m.attrs ++ a })).withMeta (fun m => { m with attrs := m.attrs ++ b })
      = d.withMeta (fun m => { m with attrs := m.attrs ++ (a ++ b) }) := by
  cases d <;> simp [Obj.withMeta, List.append_assoc]

/-- **the attribute lines after a definition**: each line is one turn of `collect_objects`; the
    values are assigned to the pending definition in printing order; a warning line after the last
    attribute line is swallowed with it, and the parser continues in front of it -/
theorem defn_attr_lines (pre : Str) (hb : Blank pre) (width L : Int) :
    ∀ (as : Attrs), (∀ a ∈ as, a.1 ∈ defAttrNames ∧ attrOK true pre width a.1 a.2 = true) →
      ∀ (more : Str) (l i : Nat) (stop : Option Word) (prevLine : Nat) (acc : List Obj)
        (d : Obj), FollowOK L more →
        ∃ l' prevLine', ∀ fuel,
          collectObjects (fuel + as.length)
              { ci := ⟨'\n' :: (attrLinesText pre width as ++ more), l⟩, nextId := i } stop prevLine acc (some d)
            = collectObjects fuel { ci := ⟨'\n' :: more, l'⟩, nextId := i } stop prevLine' acc
                (some (d.withMeta (fun m => { m with attrs := m.attrs ++ as }))) := by
  intro as
  induction as with
  | nil =>
    intro _ more l i stop prevLine acc d _
    exact ⟨l, prevLine, fun fuel => by rw [withMeta_attrs_nil_art]; rfl⟩
  | cons a as ih =>
    intro hok more l i stop prevLine acc d hnext
    obtain ⟨⟨hn, haok⟩, hok'⟩ := List.forall_mem_cons.mp hok
    obtain ⟨l1, hstep⟩ := collectObjects_defn_attr_art stop prevLine acc
      d ('\n' :: (pre ++ [' ', ' '])) a.1 (attrTail pre width a.1 a.2)
      (attrLinesText pre width as ++ more) l i a.2 L (allSpace_append space_nl hb.deeper.isSpace) hn
      (attr_line_art true pre hb width a.1 _ haok).2 (followOK_attrLines pre hb width L more hnext as)
    obtain ⟨l', prevLine', hrec⟩ := ih hok' more l1 i stop
      (l + nlCount ('\n' :: (pre ++ [' ', ' ']))) acc
      (d.withMeta (fun m => { m with attrs := m.attrs ++ [(a.1, a.2)] })) hnext
    refine ⟨l', prevLine', fun fuel => ?_⟩
    have htext : '\n' :: (attrLinesText pre width (a :: as) ++ more)
        = ('\n' :: (pre ++ [' ', ' '])) ++ '.' :: a.1.toList ++ ' ' :: '=' ::
            (attrTail pre width a.1 a.2 ++ '\n' :: (attrLinesText pre width as ++ more)) := by
      rw [attrLinesText, attrLineText_shape_art]
      simp
    rw [List.length_cons, ← Nat.add_assoc, htext, hstep, hrec, withMeta_attrs_append_art]
    rfl

/-! ### the attribute lines between a scope name and `{` -/

theorem scopeAttrsLoop_step_art (fuel : Nat) (ci : CI) (w : Word) (as : Attrs) (n : String) (eq : Word)
    (ci1 ci2 : CI) (ws : List Word) (v : AttrVal)
    (n0 : w.value ≠ ['{']) (hsb : stripBang w = (w, false)) (n5 : w.value.take 1 = ['.'])
    (han : String.ofList (List.tail w.value) = n) (hcont : n ∈ scopeAttrNames)
    (h2 : nextWord structSettings ci = .ok (some (eq, ci1))) (heq : eq.quote = none)
    (heqv : eq.value = ['='])
    (h3 : collectAssigned ci1 w = .ok (ws, ci2)) (hv : scopeAttrValue n ws = .ok v) :
    scopeAttrsLoop (fuel + 1) ci w as =
      match popUnquoted structSettings ci2 with
      | .error e => .error e
      | .ok (w', ci3) => scopeAttrsLoop fuel ci3 w' (as ++ [(n, v)]) := by
  have e3 := popUnquoted_of_next h2 heq
  simp [scopeAttrsLoop, n0, hsb, n5, han, hcont, e3, heqv, h3, hv, Except.map]
  cases popUnquoted structSettings ci2 with
  | error e => rfl
  | ok p => rfl

/-- the header loop over the printed attribute lines of a scope: induction over the list of shown attributes; each line is one
    round of `scopeAttrsLoop` (`.name`, `=`, the value read back by `attr_line_art`, the next word popped), and behind the
    last line the loop meets `{` -/
theorem scope_attr_lines (pre pre' V : Str) (hb : Blank pre) (hb' : Blank pre') (width : Int) :
    ∀ (as : Attrs), (∀ a ∈ as, a.1 ∈ scopeAttrNames ∧ attrOK false pre width a.1 a.2 = true) →
      ∀ (sp : Str) (l : Nat), (∀ c ∈ sp, isSpace c = true) →
        ∃ w ci2 l',
          nextWord structSettings ⟨sp ++ attrLinesText pre width as ++ pre' ++ '{' :: V, l⟩
            = .ok (some (w, ci2)) ∧
          w.quote = none ∧ (w.value = ['{'] ∨ w.value.take 1 = ['.']) ∧
          as.length ≤ ci2.rest.length + 1 ∧
          ∀ (fuel : Nat) (as0 : Attrs), as.length + 1 ≤ fuel →
            scopeAttrsLoop fuel ci2 w as0
              = .ok (as0 ++ as, { value := ['{'], quote := none, line := some l' }, ⟨V, l'⟩) := by
  intro as
  induction as with
  | nil =>
    intro _ sp l hsp
    have hsp' := allSpace_append hsp hb'.isSpace
    refine ⟨{ value := ['{'], quote := none, line := some (l + nlCount (sp ++ pre')) },
      ⟨V, l + nlCount (sp ++ pre')⟩, l + nlCount (sp ++ pre'), ?_, rfl, Or.inl rfl, Nat.zero_le _, ?_⟩
    · simp only [attrLinesText, List.append_nil]
      exact nextWord_struct_open (sp ++ pre') V l hsp'
    · intro fuel as0 hf
      obtain ⟨f, rfl⟩ : ∃ f, fuel = f + 1 := ⟨fuel - 1, by omega⟩
      simp [scopeAttrsLoop]
  | cons a as ih =>
    intro hok sp l hsp
    obtain ⟨⟨hn, haok⟩, hok'⟩ := List.forall_mem_cons.mp hok
    have hreads := (attr_line_art false pre hb width a.1 _ haok).2.readsAs
    have hsp2 := allSpace_append hsp hb.deeper.isSpace
    let rest := attrLinesText pre width as ++ pre' ++ '{' :: V
    have hrest : NextOK rest := by
      have := NextOK_attrLines pre hb width (pre' ++ '{' :: V) as
        (fun _ => NextOK_head pre' V '{' hb'.isSpace rfl ⟨rfl, by decide, by decide⟩)
      simpa [rest, List.append_assoc] using this
    have htext : sp ++ attrLinesText pre width (a :: as) ++ pre' ++ '{' :: V
        = (sp ++ (pre ++ [' ', ' '])) ++ '.' :: a.1.toList ++ ' ' :: ('=' ::
            (attrTail pre width a.1 a.2 ++ '\n' :: rest)) := by
      rw [attrLinesText, attrLineText_shape_art]
      simp [rest]
    have h1 := nextWord_attr_name_art (sp ++ (pre ++ [' ', ' ']))
      ('=' :: (attrTail pre width a.1 a.2 ++ '\n' :: rest)) a.1 l hsp2
      (attrNames_ok_art a.1 (List.mem_append_right _ hn))
    obtain ⟨L, hL⟩ : ∃ L, L = l + nlCount (sp ++ (pre ++ [' ', ' '])) := ⟨_, rfl⟩
    rw [← hL] at h1
    have h2 : nextWord structSettings ⟨' ' :: '=' :: (attrTail pre width a.1 a.2 ++ '\n' :: rest), L⟩
        = .ok (some ({ value := ['='], quote := none, line := some L },
                     ⟨attrTail pre width a.1 a.2 ++ '\n' :: rest, L⟩)) := by
      have := nextWord_struct_eq [' '] (attrTail pre width a.1 a.2 ++ '\n' :: rest) L space_blank
      rwa [nlCount_blank, Nat.add_zero] at this
    obtain ⟨ws, l1, h3, hv⟩ := hreads rest L
      { value := '.' :: a.1.toList, quote := none, line := some L } rfl (by simp [isUnq]) hrest
    obtain ⟨w', ci3, l', hn', hq', _, _, hloop⟩ := ih hok' ['\n'] l1 space_nl
    refine ⟨_, _, l', by rw [htext]; exact h1, rfl, Or.inr (by simp), ?_, ?_⟩
    · have := attrLinesText_length pre width as
      simp only [List.length_cons, List.length_append, rest]
      omega
    · intro fuel as0 hf
      obtain ⟨f, rfl⟩ : ∃ f, fuel = f + 1 := ⟨fuel - 1, by omega⟩
      have hpop : popUnquoted structSettings ⟨'\n' :: rest, l1⟩ = .ok (w', ci3) := by
        have : (['\n'] ++ attrLinesText pre width as ++ pre' ++ '{' :: V) = '\n' :: rest := by
          simp [rest]
        rw [this] at hn'
        exact popUnquoted_of_next hn' hq'
      rw [scopeAttrsLoop_step_art f _ _ as0 a.1 _ _ _ ws a.2 (by simp)
        (stripBang_of_not_bang _ (by simp)) (by simp) (by simp [String.ofList_toList])
        hn h2 rfl rfl h3 (by simpa [attrValueOf] using hv)]
      simp only [hpop]
      rw [hloop f _ (by simp only [List.length_cons] at hf; omega)]
      simp

/-! ## Part 2: trees with attributes -/

/-- the printed attribute block of an object at `level` -/
def attrBlock (isDef : Bool) (pre : Str) (level width : Int) (attrs : Attrs) : Str :=
  if level ≤ 0 then [] else attrsTextRT pre level width attrs (attrNamesOf isDef)

/-- **the attributes the parser reads back** from the text printed at `level`: the attributes shown at
    that level, in printing order, each with its value -/
def shownAttrs (isDef : Bool) (level : Int) (attrs : Attrs) : Attrs :=
  if level ≤ 0 then [] else shownList level attrs (attrNamesOf isDef)

/-- every attribute printed at `level` satisfies `attrOK` -/
def attrsOK (isDef : Bool) (pre : Str) (level width : Int) (attrs : Attrs) : Bool :=
  decide (level ≤ 0) || attrsOKList isDef pre level width attrs (attrNamesOf isDef)

theorem attrsOKList_of_attrsOK_art {isDef : Bool} {pre : Str} {level width : Int} {attrs : Attrs}
    (h : attrsOK isDef pre level width attrs = true) (hl : ¬ level ≤ 0) :
    attrsOKList isDef pre level width attrs (attrNamesOf isDef) = true := by
  simpa [attrsOK, hl] using h

theorem attrBlock_eq (isDef : Bool) (pre : Str) (level width : Int) (attrs : Attrs) :
    attrBlock isDef pre level width attrs = attrLinesText pre width (shownAttrs isDef level attrs) := by
  unfold attrBlock shownAttrs
  split
  · rfl
  · exact attrsTextRT_eq pre level width attrs _

theorem shownAttrs_ok {isDef : Bool} {pre : Str} {level width : Int} {attrs : Attrs}
    (h : attrsOK isDef pre level width attrs = true) :
    ∀ a ∈ shownAttrs isDef level attrs, a.1 ∈ attrNamesOf isDef ∧ attrOK isDef pre width a.1 a.2 = true := by
  unfold shownAttrs
  split
  · intro a ha; cases ha
  · rename_i hl
    exact shownList_ok (names := attrNamesOf isDef) (fun n hn => hn) (attrsOKList_of_attrsOK_art h hl)

theorem showAttributes_block_art (isDef : Bool) (pre : Str) (hb : Blank pre) (level width : Int) (attrs : Attrs)
    (h : attrsOK isDef pre level width attrs = true) :
    ∃ ls, showAttributes (attrNamesOf isDef) attrs pre level width = .ok ls ∧
      unlines ls = attrBlock isDef pre level width attrs ∧
      ls.isEmpty = (shownAttrs isDef level attrs).isEmpty := by
  rw [showAttributes_all]
  unfold attrBlock shownAttrs
  by_cases hl : level ≤ 0
  · simp only [hl, ↓reduceIte]; exact ⟨[], rfl, rfl, rfl⟩
  · simp only [hl, ↓reduceIte]
    exact attrAll_text_art isDef pre hb level width attrs _ (attrsOKList_of_attrsOK_art h hl)

/-- the warning line printed in front of a deprecated definition (attributes level 3) -/
def warnText (m : Meta) (ind : Str) : Str :=
  if depSet m then ind ++ "# WARNING: deprecated parameter\n".toList else []

mutual
/-- the text printed for one object at attributes level `L` and print width `w`, with pending merged
    names `ms`, at indentation `ind`:  `treeText` plus the attribute lines — after the value lines of a
    definition; between the name and a `{` on a line of its own for a scope (if any is printed) -/
def treeTextA (L w : Int) : Obj → List Str → Str → Str
  | .defn m ws, ms, ind =>
    warnText m ind ++ (ind ++ dottedName ms m.name ++ [' ', '='] ++
      wrapTail w (ind ++ defIndent (dottedName ms m.name)) ws (ind ++ defHead (dottedName ms m.name)) ++ ['\n']) ++
      attrBlock true ind L w m.attrs
  | .scope m os, ms, ind =>
    if firstMerges os then kidsTextA L w os (ms ++ [m.name]) ind
    else if (shownAttrs false L m.attrs).isEmpty then
      ind ++ dottedName ms m.name ++ [' ', '{', '\n'] ++ kidsTextA L w os [] (deeper ind) ++ ind ++ ['}', '\n']
    else
      ind ++ dottedName ms m.name ++ ['\n'] ++ attrBlock false ind L w m.attrs ++ ind ++ ['{', '\n'] ++
        kidsTextA L w os [] (deeper ind) ++ ind ++ ['}', '\n']
def kidsTextA (L w : Int) : List Obj → List Str → Str → Str
  | [], _, _ => []
  | x :: xs, ms, ind => treeTextA L w x ms ind ++ kidsTextA L w xs ms ind
end

mutual
/-- the tree as the parser returns it from the text printed at level `L` (up to ids and positions):
    every object carries exactly the attributes shown at that level; a scope that is only the dotted
    prefix of its child carries none -/
def Obj.normA (L : Int) : Obj → Obj
  | .defn m ws => .defn { m with attrs := shownAttrs true L m.attrs } ws
  | .scope m os =>
    .scope { m with attrs := if firstMerges os then [] else shownAttrs false L m.attrs } (normAList L os)
def normAList (L : Int) : List Obj → List Obj
  | [] => []
  | x :: xs => x.normA L :: normAList L xs
end

mutual
/-- the attribute conditions of a tree printed at indentation `ind`: `attrsOK` for every object that
    prints attributes, at its indentation; a deprecated definition only at level ≥ 3 -/
def Obj.attrsOKAt (L w : Int) : Obj → Str → Bool
  | .defn m _, ind => attrsOK true ind L w m.attrs && (!depSet m || decide (3 ≤ L))
  | .scope m os, ind =>
    if firstMerges os then attrsOKsAt L w os ind
    else attrsOK false ind L w m.attrs && attrsOKsAt L w os (deeper ind)
def attrsOKsAt (L w : Int) : List Obj → Str → Bool
  | [], _ => true
  | x :: xs, ind => x.attrsOKAt L w ind && attrsOKsAt L w xs ind
end

theorem attrsOKAt_defn_art {L w : Int} {m : Meta} {ws : List Word} {ind : Str} :
    (Obj.defn m ws).attrsOKAt L w ind = true ↔
      attrsOK true ind L w m.attrs = true ∧ (depSet m = true → 3 ≤ L) := by
  cases hd : depSet m <;> simp [Obj.attrsOKAt, hd]

theorem attrsOKAt_proper_art {L w : Int} {m : Meta} {os : List Obj} {ind : Str} (hfm : firstMerges os = false) :
    (Obj.scope m os).attrsOKAt L w ind = true ↔
      attrsOK false ind L w m.attrs = true ∧ attrsOKsAt L w os (deeper ind) = true := by
  simp [Obj.attrsOKAt, hfm]

theorem attrsOKAt_merging_art {L w : Int} {m : Meta} {os : List Obj} {ind : Str} (hfm : firstMerges os = true) :
    (Obj.scope m os).attrsOKAt L w ind = attrsOKsAt L w os ind := by
  simp [Obj.attrsOKAt, hfm]

theorem attrsOKsAt_cons_art {L w : Int} {x : Obj} {xs : List Obj} {ind : Str} :
    attrsOKsAt L w (x :: xs) ind = true ↔ x.attrsOKAt L w ind = true ∧ attrsOKsAt L w xs ind = true := by
  simp [attrsOKsAt]

theorem attrsOKsAt_iff_art (L w : Int) (os : List Obj) (ind : Str) :
    attrsOKsAt L w os ind = true ↔ ∀ x ∈ os, x.attrsOKAt L w ind = true := by
  induction os with
  | nil => simp [attrsOKsAt]
  | cons x xs ih => simp [attrsOKsAt, ih]

/-! ### disabled definitions and scopes -/

/-- the `!` printed in front of the name of a disabled object -/
def bangOf (m : Meta) : Str := if m.disabled then ['!'] else []

mutual
/-- the tree with the disabled flag of every DEFINITION cleared -/
def Obj.enableD : Obj → Obj
  | .defn m ws => .defn { m with disabled := false } ws
  | .scope m os => .scope m (enableDList os)
def enableDList : List Obj → List Obj
  | [] => []
  | x :: xs => x.enableD :: enableDList xs
end

mutual
/-- `treeTextA` with `!` in front of the (dotted) name of every disabled definition -/
def treeTextB (L w : Int) : Obj → List Str → Str → Str
  | .defn m ws, ms, ind =>
    warnText m ind ++ (ind ++ (bangOf m ++ dottedName ms m.name) ++ [' ', '='] ++
      wrapTail w (ind ++ defIndent (bangOf m ++ dottedName ms m.name)) ws
        (ind ++ defHead (bangOf m ++ dottedName ms m.name)) ++ ['\n']) ++
      attrBlock true ind L w m.attrs
  | .scope m os, ms, ind =>
    if firstMerges os then kidsTextB L w os (ms ++ [m.name]) ind
    else if (shownAttrs false L m.attrs).isEmpty then
      ind ++ dottedName ms m.name ++ [' ', '{', '\n'] ++ kidsTextB L w os [] (deeper ind) ++ ind ++ ['}', '\n']
    else
      ind ++ dottedName ms m.name ++ ['\n'] ++ attrBlock false ind L w m.attrs ++ ind ++ ['{', '\n'] ++
        kidsTextB L w os [] (deeper ind) ++ ind ++ ['}', '\n']
def kidsTextB (L w : Int) : List Obj → List Str → Str → Str
  | [], _, _ => []
  | x :: xs, ms, ind => treeTextB L w x ms ind ++ kidsTextB L w xs ms ind
end

mutual
/-- the tree with every disabled flag cleared (definitions and scopes) -/
def Obj.enableS : Obj → Obj
  | .defn m ws => .defn { m with disabled := false } ws
  | .scope m os => .scope { m with disabled := false } (enableSList os)
def enableSList : List Obj → List Obj
  | [] => []
  | x :: xs => x.enableS :: enableSList xs
end

mutual
/-- every scope that is only a dotted prefix (it merges its name into its only child) is enabled -/
def Obj.prefixEnabled : Obj → Bool
  | .defn _ _ => true
  | .scope m os => (!(firstMerges os) || !m.disabled) && prefixEnabledList os
def prefixEnabledList : List Obj → Bool
  | [] => true
  | x :: xs => x.prefixEnabled && prefixEnabledList xs
end

mutual
/-- `treeTextB` with `!` also in front of the (dotted) name of every disabled proper scope -/
def treeTextC (L w : Int) : Obj → List Str → Str → Str
  | .defn m ws, ms, ind =>
    warnText m ind ++ (ind ++ (bangOf m ++ dottedName ms m.name) ++ [' ', '='] ++
      wrapTail w (ind ++ defIndent (bangOf m ++ dottedName ms m.name)) ws
        (ind ++ defHead (bangOf m ++ dottedName ms m.name)) ++ ['\n']) ++
      attrBlock true ind L w m.attrs
  | .scope m os, ms, ind =>
    if firstMerges os then kidsTextC L w os (ms ++ [m.name]) ind
    else if (shownAttrs false L m.attrs).isEmpty then
      ind ++ (bangOf m ++ dottedName ms m.name) ++ [' ', '{', '\n'] ++ kidsTextC L w os [] (deeper ind) ++ ind ++ ['}', '\n']
    else
      ind ++ (bangOf m ++ dottedName ms m.name) ++ ['\n'] ++ attrBlock false ind L w m.attrs ++ ind ++ ['{', '\n'] ++
        kidsTextC L w os [] (deeper ind) ++ ind ++ ['}', '\n']
def kidsTextC (L w : Int) : List Obj → List Str → Str → Str
  | [], _, _ => []
  | x :: xs, ms, ind => treeTextC L w x ms ind ++ kidsTextC L w xs ms ind
end

theorem prefixEnabledList_iff_ar4 (os : List Obj) :
    prefixEnabledList os = true ↔ ∀ y ∈ os, y.prefixEnabled = true := by
  induction os with
  | nil => simp [prefixEnabledList]
  | cons x xs ih => simp [prefixEnabledList, ih]

mutual
/-- `WrapsOK` for `treeTextC`: the `!` of a disabled definition is part of the printed name, so it moves
    the indentation of the continuation lines -/
def WrapsOKC (w : Int) : Obj → List Str → Str → Prop
  | .defn m ws, ms, ind =>
    wrapOK w (ind ++ defIndent (bangOf m ++ dottedName ms m.name)) ws
      (ind ++ defHead (bangOf m ++ dottedName ms m.name)) true = true
  | .scope m os, ms, ind =>
    if firstMerges os then WrapsOKsC w os (ms ++ [m.name]) ind else WrapsOKsC w os [] (deeper ind)
def WrapsOKsC (w : Int) : List Obj → List Str → Str → Prop
  | [], _, _ => True
  | x :: xs, ms, ind => WrapsOKC w x ms ind ∧ WrapsOKsC w xs ms ind
end

theorem WrapsOKsC_iff (w : Int) (os : List Obj) (ms : List Str) (ind : Str) :
    WrapsOKsC w os ms ind ↔ ∀ y ∈ os, WrapsOKC w y ms ind := by
  induction os with
  | nil => simp [WrapsOKsC]
  | cons x xs ih => simp [WrapsOKsC, ih]

mutual
theorem wrapsOKC_of_nlOnlyLast (w : Int) : ∀ (x : Obj) (ms : List Str) (ind : Str),
    x.allDefns NlOnlyLast → WrapsOKC w x ms ind
  | .defn m ws, ms, ind, h => by
    unfold Obj.allDefns at h
    unfold WrapsOKC
    exact wrapOK_of_noNl w _ ws _ true (fun _ => rfl) (fun v hv => nlCount_of_not_mem (h v hv))
  | .scope m os, ms, ind, h => by
    unfold Obj.allDefns at h
    unfold WrapsOKC
    split <;> exact wrapsOKsC_of_nlOnlyLast w os _ _ h
theorem wrapsOKsC_of_nlOnlyLast (w : Int) : ∀ (os : List Obj) (ms : List Str) (ind : Str),
    allDefnsList NlOnlyLast os → WrapsOKsC w os ms ind
  | [], _, _, _ => by unfold WrapsOKsC; trivial
  | x :: xs, ms, ind, h => by
    unfold allDefnsList at h
    unfold WrapsOKsC
    exact ⟨wrapsOKC_of_nlOnlyLast w x ms ind h.1, wrapsOKsC_of_nlOnlyLast w xs ms ind h.2⟩
end

/-! ### the three classes

  The round-trip class is `RTNode ms x.enableS.stripAttrs` with `x.prefixEnabled`: the tree without its
  attributes and disabled flags is a tree of the nested round-trip class.  With `enableD` in place of
  `enableS` all scopes are enabled, with `x.stripAttrs` alone all objects are; there the three texts agree. -/

theorem meta_eq_of_plainD_ar3d {mg : Bool} {m : Meta}
    (h : PlainMetaPP mg ({ m with disabled := false } : Meta).stripAttrs) :
    m = { name := m.name, id := m.id, line := m.line, mergeNames := mg, attrs := m.attrs, disabled := m.disabled } := by
  unfold PlainMetaPP Meta.stripAttrs at h
  cases m
  simp_all

theorem meta_eq_of_plain_art {mg : Bool} {m : Meta} (h : PlainMetaPP mg m.stripAttrs) :
    m = { name := m.name, id := m.id, line := m.line, mergeNames := mg, attrs := m.attrs } := by
  unfold PlainMetaPP Meta.stripAttrs at h
  cases m
  simp_all

theorem meta_enabled_eq_ar3d (m : Meta) (h : m.disabled = false) : ({ m with disabled := false } : Meta) = m := by
  cases m; simp_all

theorem firstMerges_rt_ar4 (os : List Obj) :
    firstMerges (stripAttrsList (enableSList os)) = firstMerges os := by
  rw [firstMerges_stripAttrsList_ert]
  cases os with
  | nil => rfl
  | cons x xs => cases x <;> rfl

theorem rtAllC_iff (os : List Obj) :
    RTAll (stripAttrsList (enableSList os)) ↔ ∀ y ∈ os, RTNode [] y.enableS.stripAttrs := by
  induction os with
  | nil => simp [enableSList, stripAttrsList_nil, RTAll]
  | cons x xs ih => simp [enableSList, stripAttrsList_cons, RTAll, ih]

theorem rtC_scope_art {ms : List Str} {m : Meta} {os : List Obj}
    (h : RTNode ms (Obj.scope m os).enableS.stripAttrs) :
    PlainMetaPP (!ms.isEmpty) ({ m with disabled := false } : Meta).stripAttrs ∧ goodName m.name = true ∧
    ((firstMerges os = false ∧ isReserved (dottedName ms m.name) = false ∧
        RTAll (stripAttrsList (enableSList os))) ∨
     (∃ c, os = [c] ∧ firstMerges os = true ∧ RTNode (ms ++ [m.name]) c.enableS.stripAttrs)) := by
  rw [Obj.enableS, Obj.stripAttrs_scope] at h
  unfold RTNode at h
  obtain ⟨hm, hn, hk⟩ := h
  refine ⟨hm, hn, hk.imp (fun hk => ⟨by rw [← firstMerges_rt_ar4]; exact hk.2.firstMerges, hk⟩) (fun hk => ?_)⟩
  have hfm : firstMerges os = true := by rw [← firstMerges_rt_ar4]; exact hk.firstMerges
  match os, hk with
  | [], hk => rw [enableSList, stripAttrsList_nil] at hk; unfold RTOne at hk; exact hk.elim
  | [c], hk =>
    rw [enableSList, stripAttrsList_cons] at hk
    unfold RTOne at hk
    exact ⟨c, rfl, hfm, hk.1⟩
  | _ :: _ :: _, hk =>
    rw [enableSList, stripAttrsList_cons, enableSList, stripAttrsList_cons] at hk
    unfold RTOne at hk
    cases hk.2

mutual
theorem enableS_enableD_art : ∀ x : Obj, x.enableD.enableS = x.enableS
  | .defn m ws => by rw [Obj.enableD, Obj.enableS, Obj.enableS]
  | .scope m os => by rw [Obj.enableD, Obj.enableS, Obj.enableS, enableSList_enableDList_art os]
theorem enableSList_enableDList_art : ∀ os : List Obj, enableSList (enableDList os) = enableSList os
  | [] => rfl
  | x :: xs => by
    rw [enableDList, enableSList, enableSList, enableS_enableD_art x, enableSList_enableDList_art xs]
end

theorem rt_kids_art {ms : List Str} {m : Meta} {os : List Obj} (h : RTNode ms (Obj.scope m os).stripAttrs) :
    ∀ c ∈ os, ∃ ms', RTNode ms' c.stripAttrs := fun c hc => by
  rw [Obj.stripAttrs_scope] at h
  exact h.kids _ (by rw [stripAttrsList_eq_map]; exact List.mem_map_of_mem hc)

mutual
theorem enabled_of_rt_art : ∀ x : Obj, (∃ ms, RTNode ms x.stripAttrs) → x.enableS = x ∧ x.enableD = x
  | .defn m ws, ⟨ms, h⟩ => by
    rw [Obj.stripAttrs_defn] at h
    unfold RTNode at h
    have hd : m.disabled = false := by rw [meta_eq_of_plain_art h.1]
    rw [Obj.enableS, Obj.enableD, meta_enabled_eq_ar3d m hd]
    exact ⟨rfl, rfl⟩
  | .scope m os, ⟨ms, h⟩ => by
    obtain ⟨e1, e2⟩ := enabledList_of_rt_art os (rt_kids_art h)
    rw [Obj.stripAttrs_scope] at h
    unfold RTNode at h
    have hd : m.disabled = false := by rw [meta_eq_of_plain_art h.1]
    rw [Obj.enableS, Obj.enableD, e1, e2, meta_enabled_eq_ar3d m hd]
    exact ⟨rfl, rfl⟩
theorem enabledList_of_rt_art : ∀ os : List Obj, (∀ y ∈ os, ∃ ms, RTNode ms y.stripAttrs) →
    enableSList os = os ∧ enableDList os = os
  | [], _ => ⟨rfl, rfl⟩
  | x :: xs, h => by
    obtain ⟨a1, a2⟩ := enabled_of_rt_art x (h x (by simp))
    obtain ⟨b1, b2⟩ := enabledList_of_rt_art xs (fun y hy => h y (by simp [hy]))
    rw [enableSList, enableDList, a1, a2, b1, b2]
    exact ⟨rfl, rfl⟩
end

theorem enabledList_of_rtAll_art {os : List Obj} (h : RTAll (stripAttrsList os)) :
    enableSList os = os ∧ enableDList os = os :=
  enabledList_of_rt_art os (fun y hy => ⟨[], (RTAll_iff _).mp h _ (by
    rw [stripAttrsList_eq_map]; exact List.mem_map_of_mem hy)⟩)

mutual
theorem treeTextC_eq_B_art (L w : Int) : ∀ x : Obj, x.enableS = x.enableD →
    x.prefixEnabled = true ∧ ∀ ms ind, treeTextC L w x ms ind = treeTextB L w x ms ind
  | .defn m ws, _ => ⟨rfl, fun ms ind => by rw [treeTextC, treeTextB]⟩
  | .scope m os, h => by
    rw [Obj.enableS, Obj.enableD] at h
    injection h with h1 h2
    have hd : m.disabled = false := by rw [← h1]
    obtain ⟨p, t⟩ := kidsTextC_eq_B_art L w os h2
    refine ⟨by simp [Obj.prefixEnabled, hd, p], fun ms ind => ?_⟩
    rw [treeTextC, treeTextB]
    simp only [bangOf, hd, t, Bool.false_eq_true, ↓reduceIte, List.nil_append]
theorem kidsTextC_eq_B_art (L w : Int) : ∀ os : List Obj, enableSList os = enableDList os →
    prefixEnabledList os = true ∧ ∀ ms ind, kidsTextC L w os ms ind = kidsTextB L w os ms ind
  | [], _ => ⟨rfl, fun _ _ => rfl⟩
  | x :: xs, h => by
    rw [enableSList, enableDList] at h
    injection h with h1 h2
    obtain ⟨p1, t1⟩ := treeTextC_eq_B_art L w x h1
    obtain ⟨p2, t2⟩ := kidsTextC_eq_B_art L w xs h2
    exact ⟨by rw [prefixEnabledList, p1, p2]; rfl, fun ms ind => by rw [kidsTextC, kidsTextB, t1, t2]⟩
end

mutual
theorem treeTextB_eq_A_art (L w : Int) : ∀ x : Obj, x.enableD = x →
    ∀ ms ind, treeTextB L w x ms ind = treeTextA L w x ms ind
  | .defn m ws, h, ms, ind => by
    rw [Obj.enableD] at h
    injection h with h1
    have hd : m.disabled = false := by rw [← h1]
    simp [treeTextB, treeTextA, bangOf, hd]
  | .scope m os, h, ms, ind => by
    rw [Obj.enableD] at h
    injection h with _ h2
    rw [treeTextB, treeTextA]
    simp only [kidsTextB_eq_A_art L w os h2]
theorem kidsTextB_eq_A_art (L w : Int) : ∀ os : List Obj, enableDList os = os →
    ∀ ms ind, kidsTextB L w os ms ind = kidsTextA L w os ms ind
  | [], _, _, _ => rfl
  | x :: xs, h, ms, ind => by
    rw [enableDList] at h
    injection h with h1 h2
    rw [kidsTextB, kidsTextA, treeTextB_eq_A_art L w x h1, kidsTextB_eq_A_art L w xs h2]
end

theorem enableS_of_enableD_ar4 (x : Obj) :
    ∀ ms, RTNode ms x.enableD.stripAttrs → x.enableS = x.enableD ∧ x.prefixEnabled = true := by
  intro ms h
  have e : x.enableS = x.enableD := by
    rw [← enableS_enableD_art, (enabled_of_rt_art x.enableD ⟨ms, h⟩).1]
  exact ⟨e, (treeTextC_eq_B_art 0 0 x e).1⟩

theorem rtAllB_toC {os : List Obj} (h : RTAll (stripAttrsList (enableDList os))) :
    RTAll (stripAttrsList (enableSList os)) ∧ prefixEnabledList os = true ∧
    ∀ L w ms ind, kidsTextC L w os ms ind = kidsTextB L w os ms ind := by
  have e : enableSList os = enableDList os := by
    rw [← enableSList_enableDList_art, (enabledList_of_rtAll_art h).1]
  exact ⟨e ▸ h, (kidsTextC_eq_B_art 0 0 os e).1, fun L w => (kidsTextC_eq_B_art L w os e).2⟩

theorem rtAllA_toC {os : List Obj} (h : RTAll (stripAttrsList os)) :
    RTAll (stripAttrsList (enableSList os)) ∧ prefixEnabledList os = true ∧
    ∀ L w ms ind, kidsTextC L w os ms ind = kidsTextA L w os ms ind := by
  obtain ⟨_, e⟩ := enabledList_of_rtAll_art h
  obtain ⟨h', hpe, t⟩ := rtAllB_toC (os := os) (e.symm ▸ h)
  exact ⟨h', hpe, fun L w ms ind => by rw [t, kidsTextB_eq_A_art L w os e]⟩


/-! ### the printer -/

theorem showDefn_genB_ar3d (o : ShowOpts) (he : o.expert = none) (m : Meta) (mg : Bool)
    (hm : PlainMetaPP mg ({ m with disabled := false } : Meta).stripAttrs) (ws : List Word) (ms : List Str)
    (ind : Str) (hb : Blank ind) (hinc : m.name ≠ "include".toList)
    (hok : attrsOK true ind o.level o.width m.attrs = true) (hdep : depSet m = true → 3 ≤ o.level) :
    ∃ lines, showDefn o m ws ms ind = .ok lines ∧
      unlines lines = treeTextC o.level o.width (.defn m ws) ms ind := by
  obtain ⟨als, ea, ta, _⟩ := showAttributes_block_art true ind hb o.level o.width m.attrs hok
  have hm' := meta_eq_of_plainD_ar3d hm
  have hline : defnLine m ms ind = ind ++ (bangOf m ++ dottedName ms m.name) ++ [' ', '='] := by
    simp only [defnLine, bangOf, bne_iff_ne, ne_eq, hinc, not_false_eq_true, ↓reduceIte, dottedName]
    simp
  have htmpl : m.tmpl = 0 := by rw [hm']
  have hgate : ((m.attrs.get "deprecated").truthy && decide (o.level < 3)) = false := by
    cases hd : (m.attrs.get "deprecated").truthy with
    | false => rfl
    | true =>
      have := hdep hd
      simp; omega
  have h0 : ¬ ((0 : Int) < 0) := by omega
  have ea' : showAttributes defAttrNames m.attrs ind o.level o.width = .ok als := ea
  refine ⟨(if (m.attrs.get "deprecated").truthy then
      [ind ++ "# WARNING: deprecated parameter".toList] else []) ++
    showWords o.width (ind ++ spaces ((ind ++ (bangOf m ++ dottedName ms m.name) ++ [' ', '=']).length - ind.length)) ws
      (ind ++ (bangOf m ++ dottedName ms m.name) ++ [' ', '=']) [] ++ als, ?_, ?_⟩
  · rw [showDefn_eq, htmpl, hgate, he, expertHidden_none]
    simp only [h0, decide_false, Bool.false_and, Bool.false_eq_true, ↓reduceIte, expertGate_false,
      showDefnBody, hline, ea']
  · rw [unlines_append, unlines_append, unlines_showWords, ta, treeTextC]
    have e : List.length (ind ++ (bangOf m ++ dottedName ms m.name) ++ [' ', '=']) - List.length ind
        = List.length (bangOf m ++ dottedName ms m.name) + 2 := by
      simp only [List.length_append, List.length_cons, List.length_nil]; omega
    rw [e]
    simp only [warnText, depSet]
    by_cases hd : (m.attrs.get "deprecated").truthy = true <;>
      simp [hd, unlines, defHead, defIndent, List.append_assoc]

theorem showScope_properC_ar4 (o : ShowOpts) (he : o.expert = none) (m : Meta) (mg : Bool)
    (hm : PlainMetaPP mg ({ m with disabled := false } : Meta).stripAttrs) (os : List Obj) (ms : List Str)
    (ind : Str) (hb : Blank ind)
    (hne : m.name ≠ [])
    (hfm : firstMerges os = false) (hok : attrsOK false ind o.level o.width m.attrs = true)
    (body : List Str) (hbody : showObjs o os [] (deeper ind) = .ok body)
    (hbt : unlines body = kidsTextC o.level o.width os [] (deeper ind)) :
    ∃ lines, showObj o (.scope m os) ms ind = .ok lines ∧
      unlines lines = treeTextC o.level o.width (.scope m os) ms ind := by
  obtain ⟨als, ea, ta, hemp⟩ := showAttributes_block_art false ind hb o.level o.width m.attrs hok
  have ea' : showAttributes scopeAttrNames m.attrs ind o.level o.width = .ok als := ea
  have htmpl : m.tmpl = 0 := by rw [meta_eq_of_plainD_ar3d hm]
  have h0 : ¬ ((0 : Int) < 0) := by omega
  have hemp' : m.name.isEmpty = false := by
    cases hn : m.name with
    | nil => exact absurd hn hne
    | cons _ _ => rfl
  have hb2 : showObjs o os [] (ind ++ "  ".toList) = .ok body := hbody
  refine ⟨(if als.isEmpty then [ind ++ bangOf m ++ dottedName ms m.name ++ " {".toList]
            else [ind ++ bangOf m ++ dottedName ms m.name] ++ als ++ [ind ++ ['{']]) ++ body ++ [ind ++ ['}']], ?_, ?_⟩
  · rw [showObj_scope_eq, hfm, htmpl, he, expertHidden_none]
    simp only [h0, decide_false, Bool.false_and, Bool.false_eq_true, ↓reduceIte, expertGate_false,
      showScopeBody, hemp', ea', bangOf, hb2, dottedName]
  · rw [treeTextC, hfm, ← hemp]
    simp only [Bool.false_eq_true, ↓reduceIte]
    by_cases hae : als.isEmpty = true
    · simp only [hae, ↓reduceIte, unlines_append, hbt]
      simp [unlines, List.append_assoc]
    · simp only [hae, Bool.false_eq_true, ↓reduceIte, unlines_append, hbt, ta]
      simp [unlines, List.append_assoc]

theorem showScope_mergingA_art (o : ShowOpts) (he : o.expert = none) (m : Meta) (mg : Bool)
    (hm : PlainMetaPP mg ({ m with disabled := false } : Meta).stripAttrs) (os : List Obj) (ms : List Str)
    (ind : Str) (hne : m.name ≠ []) (hfm : firstMerges os = true) :
    showObj o (.scope m os) ms ind = showObjs o os (ms ++ [m.name]) ind := by
  have htmpl : m.tmpl = 0 := by rw [meta_eq_of_plainD_ar3d hm]
  have h0 : ¬ ((0 : Int) < 0) := by omega
  have hemp : m.name.isEmpty = false := by
    cases hn : m.name with
    | nil => exact absurd hn hne
    | cons _ _ => rfl
  rw [showObj_scope_eq, hfm, htmpl, he, expertHidden_none]
  simp only [h0, decide_false, Bool.false_and, Bool.false_eq_true, ↓reduceIte, expertGate_false,
    showScopeBody, hemp]

theorem showObjs_kidsC_art (o : ShowOpts) (ms : List Str) (ind : Str) : ∀ (os : List Obj),
    (∀ y ∈ os, ∃ lines, showObj o y ms ind = .ok lines ∧
      unlines lines = treeTextC o.level o.width y ms ind) →
    ∃ lines, showObjs o os ms ind = .ok lines ∧ unlines lines = kidsTextC o.level o.width os ms ind
  | [], _ => ⟨[], rfl, rfl⟩
  | x :: xs, h => by
    obtain ⟨l1, e1, t1⟩ := h x (by simp)
    obtain ⟨l2, e2, t2⟩ := showObjs_kidsC_art o ms ind xs (fun y hy => h y (by simp [hy]))
    exact ⟨l1 ++ l2, by rw [showObjs_cons, e1, e2]; rfl, by rw [unlines_append, t1, t2, kidsTextC]⟩

theorem showObj_treeC_ar4 (o : ShowOpts) (he : o.expert = none) (x : Obj) :
    ∀ (ms : List Str) (ind : Str), Blank ind → RTNode ms x.enableS.stripAttrs →
      x.prefixEnabled = true → x.attrsOKAt o.level o.width ind = true →
      ∃ lines, showObj o x ms ind = .ok lines ∧ unlines lines = treeTextC o.level o.width x ms ind := by
  induction x using Obj.ind_mem with
  | defn m ws =>
    intro ms ind hbl h _ hok
    rw [Obj.enableS, Obj.stripAttrs_defn] at h
    unfold RTNode at h
    obtain ⟨hok1, hok2⟩ := attrsOKAt_defn_art.mp hok
    rw [showObj_defn_eq]
    exact showDefn_genB_ar3d o he m _ h.1 ws ms ind hbl (goodName_not_include h.2.1) hok1 hok2
  | scope m os ih =>
    intro ms ind hbl h hpe hok
    obtain ⟨hm, hn, hk⟩ := rtC_scope_art h
    simp only [Obj.prefixEnabled, Bool.and_eq_true] at hpe
    have hpe' := (prefixEnabledList_iff_ar4 os).mp hpe.2
    rcases hk with ⟨hfm, _, hk⟩ | ⟨c, rfl, hfm, hc⟩
    · obtain ⟨hok1, hok2⟩ := (attrsOKAt_proper_art hfm).mp hok
      obtain ⟨body, hb, hbt⟩ := showObjs_kidsC_art o [] (deeper ind) os (fun y hy =>
        ih y hy [] (deeper ind) hbl.deeper ((rtAllC_iff os).mp hk y hy) (hpe' y hy)
          ((attrsOKsAt_iff_art _ _ os _).mp hok2 y hy))
      exact showScope_properC_ar4 o he m _ hm os ms ind hbl (goodName_ne_nil hn) hfm hok1 body hb hbt
    · rw [attrsOKAt_merging_art hfm] at hok
      obtain ⟨lines, hb, hbt⟩ := showObjs_kidsC_art o (ms ++ [m.name]) ind [c] (fun y hy =>
        ih y hy _ ind hbl (by rw [List.mem_singleton.mp hy]; exact hc) (hpe' y hy)
          ((attrsOKsAt_iff_art _ _ [c] _).mp hok y hy))
      exact ⟨lines, by rw [showScope_mergingA_art o he m _ hm [c] ms ind (goodName_ne_nil hn) hfm, hb],
        by rw [treeTextC, hfm, hbt]; rfl⟩

theorem asStr_treesC_ar4 (o : ShowOpts) (he : o.expert = none) (objs : List Obj) (ind : Str)
    (hbl : Blank ind) (h : RTAll (stripAttrsList (enableSList objs))) (hpe : prefixEnabledList objs = true)
    (hok : attrsOKsAt o.level o.width objs ind = true) :
    asStr o (rootOf objs) ind = .ok (kidsTextC o.level o.width objs [] ind) := by
  obtain ⟨lines, e, t⟩ := showObjs_kidsC_art o [] ind objs (fun y hy =>
    showObj_treeC_ar4 o he y [] ind hbl ((rtAllC_iff objs).mp h y hy) ((prefixEnabledList_iff_ar4 objs).mp hpe y hy)
      ((attrsOKsAt_iff_art _ _ objs ind).mp hok y hy))
  rw [asStr_root_pre_ert, e]
  simp only [Except.map, t]

theorem asStr_treesA_art (o : ShowOpts) (he : o.expert = none) (objs : List Obj) (ind : Str)
    (hbl : Blank ind) (h : RTAll (stripAttrsList objs)) (hok : attrsOKsAt o.level o.width objs ind = true) :
    asStr o (rootOf objs) ind = .ok (kidsTextA o.level o.width objs [] ind) := by
  obtain ⟨h', hpe, t⟩ := rtAllA_toC h
  rw [← t]
  exact asStr_treesC_ar4 o he objs ind hbl h' hpe hok


/-! ## Part 3: the parser on the printed tree -/

theorem defn_attrs_block2_W_ar3 (pre : Str) (hb : Blank pre) (level width : Int) (attrs : Attrs)
    (hok : attrsOK true pre level width attrs = true)
    (more : Str) (l i : Nat) (stop : Option Word) (prevLine : Nat) (acc : List Obj)
    (d : Obj) (hnext : FollowOK level more) :
    ∃ l' prevLine', ∀ fuel,
      collectObjects (fuel + (shownAttrs true level attrs).length)
          { ci := ⟨'\n' :: (attrBlock true pre level width attrs ++ more), l⟩, nextId := i } stop prevLine
          acc (some d)
        = collectObjects fuel { ci := ⟨'\n' :: more, l'⟩, nextId := i } stop prevLine' acc
            (some (d.withMeta (fun m => { m with attrs := m.attrs ++ shownAttrs true level attrs }))) := by
  rw [attrBlock_eq]
  exact defn_attr_lines pre hb width level _ (shownAttrs_ok hok) more l i stop prevLine acc d hnext

/-! ### the name at the head of a printed item -/

theorem NextOK_lead_ar3d (ind nm rest : Str) (hb : Blank ind) (hn : ItemName nm) (b : Bool) :
    NextOK (ind ++ ((if b then ['!'] else []) ++ nm) ++ rest) := by
  cases b with
  | true => simpa using NextOK_head ind (nm ++ rest) '!' hb.isSpace rfl ⟨rfl, by decide, by decide⟩
  | false =>
    obtain ⟨c0, w, rfl, hs, _⟩ := hn.chars
    have hcont := idStart_cont hs
    obtain ⟨_, _, _, h4, h5, _⟩ := idCont_facts hcont
    simpa using NextOK_head ind (w ++ rest) c0 hb.isSpace (idCont_not_space hcont) ⟨idCont_not_quote hcont, h4, h5⟩

theorem warnNext_lead_ar3d (ind nm V : Str) (hb : Blank ind) (hn : ItemName nm) (b : Bool) :
    WarnNext (ind ++ ("# WARNING: deprecated parameter\n".toList ++
      (ind ++ ((if b then ['!'] else []) ++ nm) ++ ' ' :: V))) :=
  ⟨ind, ind ++ ((if b then ['!'] else []) ++ nm) ++ ' ' :: V, hb, warnRest_eq_ar3 _ _,
    fun c hc => (NextOK_lead_ar3d ind nm _ hb hn b c hc).1,
    fun l => ⟨_, nextWordAux_lead ind nm V ' ' b l hb.isSpace rfl hn⟩⟩

/-! ### one turn of `collect_objects` for a definition or a scope header, enabled or disabled -/

/-- what follows the name in a scope header: ` {` when no attribute is printed, else the attribute
    lines and a `{` on a line of its own -/
def headTail (ind : Str) (L w : Int) (attrs : Attrs) (V : Str) : Str :=
  if (shownAttrs false L attrs).isEmpty then ' ' :: '{' :: V
  else '\n' :: (attrBlock false ind L w attrs ++ ind ++ '{' :: V)

/-- the turn at a printed scope header `[!]name`, its attribute lines, `{`: the scope gets the attributes shown at the level;
    its body is read from `V` on line `l'`, behind the brace, which stood on line `bl` -/
theorem collectObjects_open_scope_any_ar4 (stop : Option Word) (prevLine : Nat)
    (acc : List Obj) (pending : Option Obj) (pre nm V ind : Str) (l i : Nat) (L w : Int) (attrs : Attrs) (b : Bool)
    (hpre : ∀ d ∈ pre, isSpace d = true) (hn : ItemName nm) (hb : Blank ind)
    (hok : attrsOK false ind L w attrs = true) :
    ∃ l' bl, ∀ fuel, collectObjects (fuel + 1)
        { ci := ⟨pre ++ ((if b then ['!'] else []) ++ nm) ++ headTail ind L w attrs V, l⟩, nextId := i } stop
        prevLine acc pending
      = scopeCont fuel stop (l + nlCount pre) acc pending
          { name := nm, id := some i, disabled := b, line := some (l + nlCount pre), attrs := shownAttrs false L attrs }
          (collectObjects fuel { ci := ⟨V, l'⟩, nextId := i + 1 }
            (some { value := ['{'], quote := none, line := some bl }) 0 [] none) := by
  -- ` {` on the line of the name, or the attribute lines and `{` on a line of its own
  obtain ⟨d, pre', hd, hb', htext⟩ :
      ∃ (d : Char) (pre' : Str), isSpace d = true ∧ Blank pre' ∧
        headTail ind L w attrs V = d :: (attrLinesText ind w (shownAttrs false L attrs) ++ pre' ++ '{' :: V) := by
    unfold headTail
    split
    · rename_i hemp
      rw [List.isEmpty_iff.mp hemp]
      exact ⟨' ', [], rfl, nofun, rfl⟩
    · exact ⟨'\n', ind, rfl, hb, by rw [attrBlock_eq]⟩
  obtain ⟨w0, ci2, l', h2, hq, hv, hbound, hloop⟩ :=
    scope_attr_lines ind pre' V hb hb' w _ (shownAttrs_ok hok) [d] (l + nlCount pre)
      (fun c hc => by rw [List.mem_singleton.mp hc]; exact hd)
  have h1 : nextWord structSettings ⟨pre ++ ((if b then ['!'] else []) ++ nm) ++ headTail ind L w attrs V, l⟩
      = .ok (some ({ value := (if b then ['!'] else []) ++ nm, quote := none, line := some (l + nlCount pre) },
            ⟨[d] ++ attrLinesText ind w (shownAttrs false L attrs) ++ pre' ++ '{' :: V, l + nlCount pre⟩)) := by
    rw [htext]
    exact nextWordAux_lead pre nm _ d b l hpre hd hn
  refine ⟨l', l', fun fuel => ?_⟩
  rw [collectObjects_scope_attrs_step_ls fuel
    { ci := ⟨pre ++ ((if b then ['!'] else []) ++ nm) ++ headTail ind L w attrs V, l⟩, nextId := i } stop prevLine
    acc pending _ w0 { value := ['{'], quote := none, line := some l' } _ ci2 ⟨V, l'⟩ nm b (shownAttrs false L attrs)
    h1 rfl (by rw [bangText_eq]) hn.defName hn.stdIdent hn.notReserved h2 hq (by rcases hv with h | h <;> simp [h])
    (by rw [hloop (ci2.rest.length + 2) [] (by omega)]; simp)]
  rfl

/-! ### the printed text of a definition and of a proper scope, as the parser meets it -/

theorem treeTextC_defn_shape_ar4 (L w : Int) (m : Meta) (ws : List Word) (ms : List Str) (ind more : Str) :
    treeTextC L w (.defn m ws) ms ind ++ more
      = warnText m ind ++ (ind ++ ((if m.disabled then ['!'] else []) ++ dottedName ms m.name) ++ ' ' :: ('=' ::
          (wrapTail w (ind ++ defIndent (bangOf m ++ dottedName ms m.name)) ws
            (ind ++ defHead (bangOf m ++ dottedName ms m.name)) ++ '\n' :: (attrBlock true ind L w m.attrs ++ more)))) := by
  rw [treeTextC, bangOf]
  simp [List.append_assoc]

theorem treeTextC_scope_proper_ar4 (L w : Int) (m : Meta) (os : List Obj) (ms : List Str) (ind more : Str)
    (hfm : firstMerges os = false) :
    treeTextC L w (.scope m os) ms ind ++ more
      = ind ++ ((if m.disabled then ['!'] else []) ++ dottedName ms m.name) ++ headTail ind L w m.attrs
          (['\n'] ++ kidsTextC L w os [] (deeper ind) ++ (ind ++ '}' :: '\n' :: more)) := by
  rw [treeTextC, hfm, bangOf]
  by_cases hemp : (shownAttrs false L m.attrs).isEmpty = true <;> simp [headTail, hemp, List.append_assoc]

/-! ### blocks and steps -/

/-- the printed text of the tree `x` may follow a definition (it starts with an item name or, from level 3 on,
    with the warning line of a deprecated definition), and the turns of `collect_objects` over it (its own turn,
    the turns for attribute lines, the run over the body of a scope): whatever the run ends with from behind the
    text, it ends with from in front of it, one object `x'` having been added -/
def StepAtC (L w : Int) (x : Obj) (ms : List Str) (ind : Str) : Prop :=
  (∀ more, FollowOK L (treeTextC L w x ms ind ++ more)) ∧
  ∀ (pre more : Str) (l i : Nat) (stop : Option Word) (prevLine : Nat) (acc : List Obj)
    (pending : Option Obj),
    (∀ c ∈ pre, isSpace c = true) → FollowOK L more →
    ∃ x' acc' pending' l' prevLine',
      (∀ r, Runs { ci := ⟨'\n' :: more, l'⟩, nextId := i + x.items } stop prevLine' acc' pending' r →
        Runs { ci := ⟨pre ++ treeTextC L w x ms ind ++ more, l⟩, nextId := i } stop prevLine acc pending r) ∧
      flush acc' pending' = flush acc pending ++ [x'] ∧
      x'.erase = (nestIn none false ms (x.normA L)).erase ∧
      x'.ids = (List.replicate ms.length i ++ expIds i x).map some

/-- `StepAtC` for every tree of the class.  The six hypotheses ARE the class: the pending names are good, the indentation is
    blanks, the tree without flags and attributes is of the nested class, dotted-prefix scopes are enabled, every value is
    read back as it is wrapped here, every printed attribute is read back -/
def StepC (L w : Int) (x : Obj) : Prop :=
  ∀ (ms : List Str) (ind : Str), GoodPath ms → Blank ind → RTNode ms x.enableS.stripAttrs →
    x.prefixEnabled = true → WrapsOKC w x ms ind → x.attrsOKAt L w ind = true → StepAtC L w x ms ind

/-- `collect_objects` over the printed text of a block of trees up to its end -/
def BlockAtC (L w : Int) (os : List Obj) (ind : Str) : Prop :=
  ∀ (pre tail after : Str) (l i : Nat) (stop : Option Word) (prevLine : Nat)
    (acc : List Obj) (pending : Option Obj),
    (∀ c ∈ pre, isSpace c = true) → Closes stop tail after →
    ∃ objs' st',
      Runs { ci := ⟨pre ++ kidsTextC L w os [] ind ++ tail, l⟩, nextId := i } stop prevLine acc pending
        (.ok (flush acc pending ++ objs', st')) ∧
      st'.nextId = i + itemsList os ∧ (stop.isSome = true → ∃ l', st'.ci = ⟨after, l'⟩) ∧
      eraseList objs' = eraseList (normAList L os) ∧ idsList objs' = (expIdsSeq i os).map some

theorem block_nil (L w : Int) (ind : Str) : BlockAtC L w [] ind := by
  intro pre tail after l i stop prevLine acc pending hpre hc
  rw [kidsTextC, List.append_nil]
  rcases hc with ⟨rfl, rfl⟩ | ⟨sw, ind', rfl, hb, rfl⟩
  · refine ⟨[], { ci := ⟨pre ++ [], l⟩, nextId := i }, Runs.ok 1 ?_, by simp [itemsList], by simp, rfl, rfl⟩
    rw [collectObjects_end 0 _ prevLine acc pending
      (by simpa [nextWord] using nextWordAux_blank_eof structSettings pre l hpre)]
    simp
  · have hsp := allSpace_append hpre hb.isSpace
    refine ⟨[], { ci := ⟨after, l + nlCount (pre ++ ind')⟩, nextId := i }, Runs.ok 1 ?_, by simp [itemsList],
      fun _ => ⟨_, rfl⟩, rfl, rfl⟩
    rw [← List.append_assoc, collectObjects_close_l2 0 { ci := ⟨pre ++ ind' ++ '}' :: after, l⟩, nextId := i } sw _ _
      prevLine acc pending (nextWord_struct_close _ after l hsp) rfl rfl]
    simp

theorem block_of_stepsC_ar4 (L w : Int) (os : List Obj) (ind : Str) :
    (∀ x ∈ os, StepAtC L w x [] ind) → BlockAtC L w os ind := by
  induction os with
  | nil => intro _; exact block_nil L w ind
  | cons x xs ih =>
    intro hs pre tail after l i stop prevLine acc pending hpre hc
    -- what follows `x`: the text of the next tree, or the end of the block
    have hnext : FollowOK L (kidsTextC L w xs [] ind ++ tail) := by
      cases xs with
      | nil => exact Or.inl hc.nextOK
      | cons y ys => rw [kidsTextC, List.append_assoc]; exact (hs y (by simp)).1 _
    obtain ⟨x', acc', pending', l', prevLine', hstep, hflush, her, hid⟩ :=
      (hs x (by simp)).2 pre (kidsTextC L w xs [] ind ++ tail) l i stop prevLine acc pending hpre hnext
    obtain ⟨objs', st', hrest, hnid, hci, her', hid'⟩ :=
      ih (fun y hy => hs y (by simp [hy])) ['\n'] tail after l' (i + x.items) stop
        prevLine' acc' pending' space_nl hc
    refine ⟨x' :: objs', st', ?_, ?_, hci, ?_, ?_⟩
    · have e : pre ++ kidsTextC L w (x :: xs) [] ind ++ tail
          = pre ++ treeTextC L w x [] ind ++ (kidsTextC L w xs [] ind ++ tail) := by
        rw [kidsTextC]; simp
      have e2 : '\n' :: (kidsTextC L w xs [] ind ++ tail) = ['\n'] ++ kidsTextC L w xs [] ind ++ tail := rfl
      rw [e]
      have := hstep _ (e2 ▸ hrest)
      rw [hflush] at this
      simpa using this
    · rw [hnid, itemsList]; omega
    · rw [eraseList_cons, normAList, eraseList_cons, her', her]; rfl
    · rw [idsList, hid, hid', expIdsSeq]; simp

theorem withMeta_defn_art (m : Meta) (ws : List Word) (f : Meta → Meta) :
    (Obj.defn m ws).withMeta f = .defn (f m) ws := rfl

theorem nextWordAux_warnText_art (m : Meta) (pre ind : Str) (l : Nat) (hpre : ∀ d ∈ pre, isSpace d = true)
    (hb : Blank ind) :
    ∃ l', ∀ X, nextWordAux structSettings false (pre ++ (warnText m ind ++ X)) l
      = nextWordAux structSettings false X l' := by
  unfold warnText
  by_cases hd : depSet m = true
  · refine ⟨l + nlCount (pre ++ ind) + 1, fun X => ?_⟩
    rw [if_pos hd, List.append_assoc, ← List.append_assoc,
      nextWordAux_skip structSettings (pre ++ ind) _ (allSpace_append hpre hb.isSpace), warn_skip_art]
  · refine ⟨l + nlCount pre, fun X => ?_⟩
    rw [if_neg hd, List.nil_append, nextWordAux_skip structSettings pre _ hpre]

/-- the turn for a definition — enabled or disabled — and its attribute lines; the warning line of a
    deprecated definition in front is skipped by the structural tokenizer -/
theorem step_defnC_ar4 (L w : Int) (m : Meta) (ws : List Word) : StepC L w (.defn m ws) := by
  intro ms ind hp hb h _ hnl hok
  unfold WrapsOKC at hnl
  rw [Obj.enableS, Obj.stripAttrs_defn] at h
  unfold RTNode at h
  obtain ⟨hm, hn, hres, hne, hgw⟩ := h
  have hname : ({ m with disabled := false } : Meta).stripAttrs.name = m.name := rfl
  rw [hname] at hn hres
  have hm' := meta_eq_of_plainD_ar3d hm
  have hit := itemName_dotted hp hn hres
  refine ⟨fun more => ?_, fun pre more l i stop prevLine acc pending hpre hnext => ?_⟩
  · rw [treeTextC_defn_shape_ar4, warnText]
    by_cases hd : depSet m = true
    · rw [if_pos hd, List.append_assoc]
      exact Or.inr ⟨(attrsOKAt_defn_art.mp hok).2 hd, warnNext_lead_ar3d ind _ _ hb hit m.disabled⟩
    · rw [if_neg hd, List.nil_append]
      exact Or.inl (NextOK_lead_ar3d ind _ _ hb hit m.disabled)
  obtain ⟨c, wd, e, hs, hall⟩ := hit.chars
  obtain ⟨_, _, _, _, _, _, _, h8, _⟩ := idCont_facts (idStart_cont hs)
  have hindent : ∀ d ∈ ind ++ defIndent (bangOf m ++ dottedName ms m.name), d = ' ' := by
    intro d hd
    rcases List.mem_append.mp hd with h | h
    · exact hb d h
    · exact defIndent_blank _ d h
  -- the lead word `name` / `!name`, on some line `L0`
  obtain ⟨L0, hhead⟩ : ∃ L0, ∀ V : Str,
      nextWord structSettings
          ⟨pre ++ (warnText m ind ++ (ind ++ ((if m.disabled then ['!'] else []) ++ dottedName ms m.name) ++ ' ' :: V)), l⟩
        = .ok (some
            ({ value := (if m.disabled then ['!'] else []) ++ dottedName ms m.name, quote := none, line := some L0 },
             ⟨' ' :: V, L0⟩)) := by
    obtain ⟨l', hskip⟩ := nextWordAux_warnText_art m pre ind l hpre hb
    exact ⟨_, fun V => (hskip _).trans (nextWordAux_lead ind _ V ' ' m.disabled l' hb.isSpace rfl hit)⟩
  -- the value lines; a warning line directly behind them (no attribute line printed) is consumed with them
  obtain ⟨ci3, ⟨l3, hgo⟩, h3⟩ := collectAssigned_gaps
    (endsVal_follow (L := L) (more := attrBlock true ind L w m.attrs ++ more)
      (by rw [attrBlock_eq]; exact followOK_attrLines ind hb w L more hnext _)) ws _
    (L0 + nlCount [' ']) { value := c :: wd, quote := none, line := some L0 } hne hgw
    (wrapOK_gaps w _ hindent ws (ind ++ defHead (bangOf m ++ dottedName ms m.name)) true true hnl)
    (by rw [nlCount_blank]; rfl) (by rw [isUnq_backslash]; simp [h8])
  rw [← wrapTail_eq] at h3
  obtain ⟨ws', hws'⟩ : ∃ ws', ws' = relineG (L0 + nlCount [' '])
      (wrapGaps w (ind ++ defIndent (bangOf m ++ dottedName ms m.name)) ws
        (ind ++ defHead (bangOf m ++ dottedName ms m.name))) ws := ⟨_, rfl⟩
  rw [← hws'] at h3
  have hstep := fun fuel => collectObjects_defn_step_any fuel
    { ci := ⟨pre ++ (treeTextC L w (.defn m ws) ms ind ++ more), l⟩, nextId := i } stop prevLine acc pending
    { value := (if m.disabled then ['!'] else []) ++ dottedName ms m.name, quote := none, line := some L0 }
    { value := ['='], quote := none, line := some (L0 + nlCount [' ']) } (c :: wd) m.disabled _ _ _ _
    (by rw [treeTextC_defn_shape_ar4]; exact hhead _) rfl (by rw [e]) (by rw [← e]; exact hit.defName)
    (nextWord_struct_eq [' '] _ L0 space_blank) rfl rfl h3
  obtain ⟨l', prevLine', hblock⟩ := defn_attrs_block2_W_ar3 ind hb L w m.attrs (attrsOKAt_defn_art.mp hok).1 more
    l3 (i + 1) stop L0 (flush acc pending)
    (.defn { name := c :: wd, id := some i, disabled := m.disabled, line := some L0 } ws') hnext
  refine ⟨wrapDotted (.defn { name := c :: wd, id := some i, disabled := m.disabled, line := some L0, attrs := shownAttrs true L m.attrs } ws'),
    flush acc pending,
    some (.defn { name := c :: wd, id := some i, disabled := m.disabled, line := some L0, attrs := shownAttrs true L m.attrs } ws'),
    l', prevLine', fun r hr => ?_, by simp [flush, adopt], ?_, ?_⟩
  · rw [List.append_assoc]
    refine Runs.step 1 (fun fuel => (hstep fuel).trans (hgo ..)) (Runs.step _ hblock ?_)
    simpa [withMeta_defn_art, Obj.items] using hr
  · rw [wrapDotted_dotted _ ms m.name (by rw [← e]; rfl)
      (fun n hn' => (hp.snoc hn).noDots n hn') rfl, nestIn_erase, nestIn_erase]
    rw [hm', hws']
    simp only [Obj.withMeta, Obj.normA, Obj.erase_defn,
      relineG_erase ws _ _ (gapsOK3_length ws _ true true (wrapOK_gaps w _ hindent ws _ true true hnl))]
    rfl
  · rw [wrapDotted_dotted _ ms m.name (by rw [← e]; rfl)
      (fun n hn' => (hp.snoc hn).noDots n hn') rfl, nestIn_ids]
    simp [Obj.withMeta, Obj.ids, expIds, Obj.meta]

theorem step_scope_properC_ar4 (L w : Int) (m : Meta) (os : List Obj) (ms : List Str) (ind : Str)
    (hp : GoodPath ms) (hb : Blank ind)
    (hm : PlainMetaPP (!ms.isEmpty) ({ m with disabled := false } : Meta).stripAttrs)
    (hn : goodName m.name = true) (hres : isReserved (dottedName ms m.name) = false)
    (hfm : firstMerges os = false) (hok : attrsOK false ind L w m.attrs = true)
    (hbody : BlockAtC L w os (deeper ind)) : StepAtC L w (.scope m os) ms ind := by
  have hit := itemName_dotted hp hn hres
  refine ⟨fun more => ?_, fun pre more l i stop prevLine acc pending hpre hnext => ?_⟩
  · rw [treeTextC_scope_proper_ar4 L w m os ms ind more hfm]
    exact Or.inl (NextOK_lead_ar3d ind _ _ hb hit m.disabled)
  have hm' := meta_eq_of_plainD_ar3d hm
  have hpre' := allSpace_append hpre hb.isSpace
  obtain ⟨l0, bl, hopen⟩ := collectObjects_open_scope_any_ar4 stop prevLine acc pending (pre ++ ind)
    (dottedName ms m.name)
    (['\n'] ++ kidsTextC L w os [] (deeper ind) ++ (ind ++ '}' :: ('\n' :: more))) ind l i L w m.attrs m.disabled
    hpre' hit hb hok
  obtain ⟨objs', st', hrun, hnid, hci, her, hid⟩ :=
    hbody ['\n'] (ind ++ '}' :: ('\n' :: more)) ('\n' :: more) l0 (i + 1)
      (some { value := ['{'], quote := none, line := some bl }) 0 [] none
      space_nl (Or.inr ⟨_, ind, rfl, hb, rfl⟩)
  obtain ⟨l', hci'⟩ := hci rfl
  have hitems : (Obj.scope m os).items = 1 + itemsList os := by
    rw [Obj.items, hfm]; simp
  have hst : st' = { ci := ⟨'\n' :: more, l'⟩, nextId := i + (Obj.scope m os).items } := by
    cases st' with
    | mk ci nid =>
      simp only at hci' hnid
      rw [hci', hnid, hitems]
      congr 1
      omega
  refine ⟨wrapDotted (.scope { name := dottedName ms m.name, id := some i, disabled := m.disabled, line := some (l + nlCount (pre ++ ind)), attrs := shownAttrs false L m.attrs } objs'),
    _, none, l', l + nlCount (pre ++ ind), fun r hr => ?_, rfl, ?_, ?_⟩
  · rw [List.append_assoc, treeTextC_scope_proper_ar4 L w m os ms ind more hfm, ← List.append_assoc,
      ← List.append_assoc]
    exact Runs.scope hopen (by simpa [flush] using hrun) (hst ▸ hr)
  · rw [wrapDotted_dotted _ ms m.name rfl (fun n hn' => (hp.snoc hn).noDots n hn') rfl, nestIn_erase,
      nestIn_erase]
    rw [hm']
    simp only [Obj.withMeta, Obj.normA, hfm, Obj.erase_scope, her, Bool.false_eq_true, ↓reduceIte]
    rfl
  · rw [wrapDotted_dotted _ ms m.name rfl (fun n hn' => (hp.snoc hn).noDots n hn') rfl, nestIn_ids]
    simp [Obj.withMeta, Obj.ids, expIds, Obj.meta, hid, hfm]

theorem step_scope_chainC_ar4 (L w : Int) (m : Meta) (c : Obj) (ms : List Str) (ind : Str)
    (hm : PlainMetaPP (!ms.isEmpty) ({ m with disabled := false } : Meta).stripAttrs) (hdis : m.disabled = false)
    (hfm : firstMerges [c] = true)
    (hc : StepAtC L w c (ms ++ [m.name]) ind) : StepAtC L w (.scope m [c]) ms ind := by
  have htext : treeTextC L w (.scope m [c]) ms ind = treeTextC L w c (ms ++ [m.name]) ind := by
    rw [treeTextC, hfm]; simp [kidsTextC]
  refine ⟨fun more => htext ▸ hc.1 more, fun pre more l i stop prevLine acc pending hpre hnext => ?_⟩
  have hm' := meta_eq_of_plainD_ar3d hm
  rw [hdis] at hm'
  obtain ⟨x', acc', pending', l', prevLine', hstep, hflush, her, hid⟩ :=
    hc.2 pre more l i stop prevLine acc pending hpre hnext
  have hitems : (Obj.scope m [c]).items = c.items := by
    rw [Obj.items, hfm]; simp [itemsList]
  refine ⟨x', acc', pending', l', prevLine', by rw [htext, hitems]; exact hstep, hflush, ?_, ?_⟩
  · rw [her, nestIn_snoc, nestIn_erase, nestIn_erase]
    rw [hm']
    simp only [Obj.normA, hfm, normAList, Obj.erase_scope, eraseList_cons, eraseList_nil, ↓reduceIte,
      Bool.false_or]
    rfl
  · rw [hid, expIds, hfm]
    simp [expIdsSame, List.replicate_succ']

theorem step_allC_ar4 (L w : Int) (x : Obj) : StepC L w x := by
  induction x using Obj.ind_mem with
  | defn m ws => exact step_defnC_ar4 L w m ws
  | scope m os ih =>
    intro ms ind hp hb h hpe hnl hok
    obtain ⟨hm, hn, hk⟩ := rtC_scope_art h
    unfold WrapsOKC at hnl
    simp only [Obj.prefixEnabled, Bool.and_eq_true] at hpe
    have hpe' := (prefixEnabledList_iff_ar4 os).mp hpe.2
    rcases hk with ⟨hfm, hres, hk⟩ | ⟨c, rfl, hfm, hc⟩
    · obtain ⟨hok1, hok2⟩ := (attrsOKAt_proper_art hfm).mp hok
      rw [hfm, if_neg Bool.false_ne_true] at hnl
      have hnl' := (WrapsOKsC_iff w os _ _).mp hnl
      exact step_scope_properC_ar4 L w m os ms ind hp hb hm hn hres hfm hok1
        (block_of_stepsC_ar4 L w os (deeper ind) fun y hy =>
          ih y hy [] (deeper ind) (by intro n hn; simp at hn) hb.deeper ((rtAllC_iff os).mp hk y hy) (hpe' y hy)
            (hnl' y hy) ((attrsOKsAt_iff_art L w os _).mp hok2 y hy))
    · rw [attrsOKAt_merging_art hfm, attrsOKsAt_cons_art] at hok
      rw [hfm, if_pos rfl] at hnl
      exact step_scope_chainC_ar4 L w m c ms ind hm (by simpa [hfm] using hpe.1) hfm
        (ih c (by simp) (ms ++ [m.name]) ind (hp.snoc hn) hb hc (hpe' c (by simp)) hnl.1 hok.1)

/-! ### the whole document -/

/-- **`parse` of the printed text of a document of trees with attributes, disabled definitions and disabled
    scopes** (printed at attributes level `L`, width `w`, under a prefix `ind` of blanks), deprecated
    definitions anywhere: the parser returns the trees, every object carrying exactly the attributes shown
    at level `L` with their values -/
theorem parseObjs_treesC_exact (L w : Int) (objs : List Obj) (ind : Str) (hb : Blank ind)
    (h : RTAll (stripAttrsList (enableSList objs))) (hpe : prefixEnabledList objs = true)
    (hnl : WrapsOKsC w objs [] ind)
    (hok : attrsOKsAt L w objs ind = true) :
    ∃ objs', parseObjs (kidsTextC L w objs [] ind) = .ok objs' ∧
      eraseList objs' = eraseList (normAList L objs) ∧
      idsList objs' = (expIdsSeq 1 objs).map some := by
  have hsteps : ∀ y ∈ objs, StepAtC L w y [] ind := fun y hy =>
    step_allC_ar4 L w y [] ind (by intro n hn; simp at hn) hb ((rtAllC_iff objs).mp h y hy)
      ((prefixEnabledList_iff_ar4 objs).mp hpe y hy)
      ((WrapsOKsC_iff w objs [] ind).mp hnl y hy)
      ((attrsOKsAt_iff_art L w objs ind).mp hok y hy)
  obtain ⟨objs', st', hrun, _, _, her, hid⟩ :=
    block_of_stepsC_ar4 L w objs ind hsteps [] [] [] 1 1 none 0 [] none nofun (Or.inl ⟨rfl, rfl⟩)
  exact ⟨objs', Runs.parseObjs_ok (st' := st') (by simpa [flush] using hrun), her, hid⟩

/-- `parseObjs_treesC_exact` under the width-independent condition: newlines only in the last word of a definition -/
theorem parseObjs_treesC_ar4 (L w : Int) (objs : List Obj) (ind : Str) (hb : Blank ind)
    (h : RTAll (stripAttrsList (enableSList objs))) (hpe : prefixEnabledList objs = true)
    (hnl : allDefnsList NlOnlyLast objs)
    (hok : attrsOKsAt L w objs ind = true) :
    ∃ objs', parseObjs (kidsTextC L w objs [] ind) = .ok objs' ∧
      eraseList objs' = eraseList (normAList L objs) ∧
      idsList objs' = (expIdsSeq 1 objs).map some :=
  parseObjs_treesC_exact L w objs ind hb h hpe (wrapsOKsC_of_nlOnlyLast w objs [] ind hnl) hok

/-- … for enabled trees, whose text is `kidsTextA` -/
theorem parseObjs_treesW_ar3 (L w : Int) (objs : List Obj) (ind : Str) (hb : Blank ind)
    (h : RTAll (stripAttrsList objs)) (hnl : allDefnsList NlOnlyLast objs)
    (hok : attrsOKsAt L w objs ind = true) :
    ∃ objs', parseObjs (kidsTextA L w objs [] ind) = .ok objs' ∧
      eraseList objs' = eraseList (normAList L objs) ∧
      idsList objs' = (expIdsSeq 1 objs).map some := by
  obtain ⟨h', hpe, t⟩ := rtAllA_toC h
  rw [← t]
  exact parseObjs_treesC_ar4 L w objs ind hb h' hpe hnl hok

/-! ### attributes level ≤ 0: no attribute line is printed -/

theorem attrs_level0 {L : Int} (hL : L ≤ 0) (isDef : Bool) (pre : Str) (w : Int) (a : Attrs) :
    shownAttrs isDef L a = [] ∧ attrBlock isDef pre L w a = [] ∧ attrsOK isDef pre L w a = true := by
  simp [shownAttrs, attrBlock, attrsOK, hL]

mutual
theorem level0_tree (L w : Int) (hL : L ≤ 0) : ∀ x : Obj, x.noDeprecated = true →
    x.normA L = x.stripAttrs ∧ (∀ ind, x.attrsOKAt L w ind = true) ∧
    (∀ ms ind, treeTextA L w x ms ind = treeText w x ms ind)
  | .defn m ws, h => by
    have hdep : depSet m = false := by simpa [Obj.noDeprecated] using h
    refine ⟨?_, fun ind => ?_, fun ms ind => ?_⟩
    · rw [Obj.normA, (attrs_level0 hL true [] 0 _).1]; rfl
    · rw [attrsOKAt_defn_art, (attrs_level0 hL true ind w _).2.2]
      exact ⟨rfl, fun h => by rw [hdep] at h; cases h⟩
    · rw [treeTextA, treeText, warnText, hdep, (attrs_level0 hL true ind w _).2.1]
      simp
  | .scope m os, h => by
    obtain ⟨n, ok, t⟩ := level0_kids L w hL os (by simpa [Obj.noDeprecated] using h)
    refine ⟨?_, fun ind => ?_, fun ms ind => ?_⟩
    · rw [Obj.normA, n, (attrs_level0 hL false [] 0 _).1, ite_self]; rfl
    · rw [Obj.attrsOKAt, ok, ok, (attrs_level0 hL false ind w _).2.2]; simp
    · rw [treeTextA, treeText, (attrs_level0 hL false ind w _).1, t, t]
      simp
theorem level0_kids (L w : Int) (hL : L ≤ 0) : ∀ os : List Obj, noDeprecatedList os = true →
    normAList L os = stripAttrsList os ∧ (∀ ind, attrsOKsAt L w os ind = true) ∧
    (∀ ms ind, kidsTextA L w os ms ind = kidsText w os ms ind)
  | [], _ => ⟨by simp [normAList, stripAttrsList], fun _ => rfl, fun _ _ => by rw [kidsTextA, kidsText]⟩
  | x :: xs, h => by
    rw [noDeprecatedList_cons_ert, Bool.and_eq_true] at h
    obtain ⟨n1, ok1, t1⟩ := level0_tree L w hL x h.1
    obtain ⟨n2, ok2, t2⟩ := level0_kids L w hL xs h.2
    exact ⟨by rw [normAList, stripAttrsList_cons, n1, n2], fun ind => by rw [attrsOKsAt, ok1, ok2]; rfl,
      fun ms ind => by rw [kidsTextA, kidsText, t1, t2]⟩
end

end Phil
