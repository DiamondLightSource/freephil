/-
  Phil.Proofs.FetchTreeMS — closed form of scope.fetch for NESTED masters WITH `.multiple` SCOPES (`MSMaster`,
  specification in Phil/Proofs/FetchTreeMSBase.lean), as the case without further master occurrences of
  Phil/Proofs/FetchTreeMS3.lean: with one occurrence per name the specifications with further occurrences are
  `msResult`, `msNoClash`, `msUsed`, `KeysDefinedMS` (`ms2_eq_ms`), and no further occurrence has to be read as a
  source.  C07 and C06 for `MSMaster` follow from the `MSMaster2` versions.
-/
import Phil.Proofs.FetchTreeMS3
namespace Phil

/-! ## 1. one occurrence per name -/

mutual
theorem ms2Obj_eq_ms (e : Envs) : ∀ (mo : Obj) (c : List Obj), MSObj mo →
    ms2Block e mo c = msBlock e mo c ∧ ms2NoClashObj mo c = msNoClashObj mo c ∧ ms2UsedObj mo c = msUsedObj mo c ∧
      (KeysDefinedMS2Obj e mo c ↔ KeysDefinedMSObj e mo c)
  | .defn mm mws, c, _ => by
    rw [ms2Block, msBlock, ms2NoClashObj, msNoClashObj, ms2UsedObj, msUsedObj, KeysDefinedMS2Obj, KeysDefinedMSObj]
    exact ⟨rfl, rfl, rfl, Iff.rfl⟩
  | .scope mm kids, c, ht => by
    have hk := MSMaster.of_scope ht
    have ih := fun S => ms2_eq_ms e kids [] S hk.kids hk.distinct (fun _ _ => rfl)
    rw [ms2Block, msBlock, ms2NoClashObj, msNoClashObj, ms2UsedObj, msUsedObj, KeysDefinedMS2Obj, KeysDefinedMSObj]
    simp only [fun S => (ih S).1, fun S => (ih S).2.1, fun S => (ih S).2.2.1, fun S => (ih S).2.2.2,
      msNoClash_nil_src, Bool.true_and]
    exact ⟨trivial, trivial, trivial, trivial⟩
/-- **conservative extension**: on an `MSMaster` (one occurrence per name) the result, the clash test, the consumed
    ids and the key hypothesis of the specification with further occurrences are those of the specification without -/
theorem ms2_eq_ms (e : Envs) : ∀ (l : List Obj) (seen : List Str) (srcs : List Obj),
    MSKids l → (l.map Obj.name).Pairwise (· ≠ ·) → (∀ o ∈ l, seen.contains o.name = false) →
    ms2Result e seen l srcs = msResult e l srcs ∧ ms2NoClash seen l srcs = msNoClash l srcs ∧
      ms2Used seen l srcs = msUsed l srcs ∧ (KeysDefinedMS2 e seen l srcs ↔ KeysDefinedMS e l srcs)
  | [], seen, srcs, _, _, _ => by
    rw [ms2Result, msResult, ms2NoClash, msNoClash, ms2Used, msUsed, KeysDefinedMS2, KeysDefinedMS]
    exact ⟨rfl, rfl, rfl, Iff.rfl⟩
  | mo :: rest, seen, srcs, ht, hd, hs => by
    rw [MSKids] at ht
    obtain ⟨h1, h2, h3⟩ := firsts_step_ms2 ht.1.enabled hd hs
    have ho := ms2Obj_eq_ms e mo srcs ht.1
    have hl := ms2_eq_ms e rest (mo.name :: seen) srcs ht.2 (List.pairwise_cons.mp hd).2 h3
    rw [ms2Result, msResult, ms2NoClash, msNoClash, ms2Used, msUsed, KeysDefinedMS2, KeysDefinedMS, h1, h2,
      List.nil_append, ho.1, ho.2.1, ho.2.2.1, ho.2.2.2, hl.1, hl.2.1, hl.2.2.1, hl.2.2.2]
    exact ⟨rfl, rfl, rfl, Iff.rfl⟩
end

theorem ms2Block_eq_msBlock (e : Envs) : ∀ (mo : Obj) (cands : List Obj), MSObj mo →
    ms2Block e mo cands = msBlock e mo cands :=
  fun mo cands ht => (ms2Obj_eq_ms e mo cands ht).1

theorem ms2Result_eq_msResult (e : Envs) (mkids srcs : List Obj) (hf : MSMaster mkids) :
    ms2Result e [] mkids srcs = msResult e mkids srcs :=
  (ms2_eq_ms e mkids [] srcs hf.kids hf.distinct (fun _ _ => rfl)).1

theorem FurtherSrc.of_ms {mkids : List Obj} (hf : MSMaster mkids) : FurtherSrc mkids := by
  intro l hl p hp
  have hl' : MSMaster l := by
    rcases hl with rfl | ⟨m, hl⟩
    · exact hf
    · exact MSMaster.of_scope (msObj_pathClass.of_activeIn hl hf.obj)
  -- the first occurrence followed by its further occurrences is the one object of that name
  have h := view_self_ms3 l p hp
  rw [view_self_ms l hl' p.1 (mem_firstsT_ms3 l p hp).1] at h
  rw [← (List.cons.inj h).2]
  exact srcTree_nil

/-! ## 2. the whole fetch -/

/-- **closed form of the fetch of a nested master with `.multiple` scopes** (non-diff mode): with fuel
    beyond the nesting depth and defined keys, the fetch succeeds exactly when there is no clash of
    kinds (`msNoClash`); its result is `msResult`, the consumed ids are `msUsed`; a clash makes it
    fail with RuntimeError ("incompatible"). -/
theorem fetch_ms_total (e : Envs) : ∀ (fuel : Nat) (sm : Meta) (mkids srcs : List Obj),
    MSMaster mkids → depthL mkids < fuel → sm.disabled = false → SrcTree srcs →
    KeysDefinedMS e mkids srcs →
    fetchScope e fuel false sm mkids srcs =
      if msNoClash mkids srcs then
        .ok (.scope { sm with tmpl := 0 } (msResult e mkids srcs), msUsed mkids srcs)
      else .error incompatibleErr := by
  intro fuel sm mkids srcs hf hd hsd hsrc hk
  have heq := ms2_eq_ms e mkids [] srcs hf.kids hf.distinct (fun _ _ => rfl)
  rw [fetch_ms2_of_furtherSrc e fuel sm mkids srcs hf.toMS2 hd hsd hsrc (.of_ms hf) (heq.2.2.2.mpr hk),
    heq.2.1, heq.2.2.1, heq.1]


/-! ## 3. C07: the master itself as a source; re-fetching the result -/

/-- **the master's own body as a source changes nothing** (`M.fetch(M) = M.fetch()`) -/
theorem msResult_self (e : Envs) (mkids : List Obj) (hf : MSMaster mkids) (hr : RefetchTree mkids) :
    msResult e mkids mkids = msResult e mkids [] := by
  rw [← ms2Result_eq_msResult e mkids mkids hf, ← ms2Result_eq_msResult e mkids [] hf]
  exact ms2Result_self e mkids hf.toMS2 hr

/-- **the specification is idempotent**: the result, taken as the only source, is reproduced -/
theorem msResult_idem (e : Envs) (mkids srcs : List Obj) (hf : MSMaster mkids) (hr : RefetchTree mkids) :
    msResult e mkids (msResult e mkids srcs) = msResult e mkids srcs := by
  rw [← ms2Result_eq_msResult e mkids srcs hf, ← ms2Result_eq_msResult e mkids _ hf]
  exact ms2Result_idem e mkids srcs hf.toMS2 hr

theorem ms_body_re_ok_ms (e : Envs) {mo : Obj} (ht : MSObj mo) (hr : RefetchTree [mo]) :
    ∀ mm kids, mo = .scope mm kids → ReOK_ms3 e kids := by
  intro mm kids hmo
  subst hmo
  exact ms2_re_ok_ms3 e kids (MSMaster.of_scope ht).toMS2 (hr.kids ht.enabled)

theorem msBlock_view_idem_ms (e : Envs) : ∀ (mo : Obj) (srcs R : List Obj), MSObj mo → RefetchTree [mo] →
    activeNamed mo.name R = msBlock e mo srcs → msBlock e mo R = msBlock e mo srcs := by
  intro mo srcs R ht hr hv
  have h := (ms2Obj_refetch_ms3 e mo [] srcs R ht.toMS2 ht.enabled hr (fun _ => rfl) (ms_body_re_ok_ms e ht hr)
    (by rw [List.nil_append, ms2Block_eq_msBlock e mo srcs ht]; exact hv)).1
  rwa [List.nil_append, List.nil_append, ms2Block_eq_msBlock e mo R ht, ms2Block_eq_msBlock e mo srcs ht] at h

/-! ### the side conditions of the re-fetch hold on the result -/

theorem ms2NoClashObj_nil_ms (e : Envs) {mo : Obj} (ht : MSObj mo) : ms2NoClashObj mo ([] ++ []) = true := by
  have h := msNoClash_nil_src [mo]
  rw [msNoClash, msNoClash, Bool.and_true] at h
  rw [List.append_nil, (ms2Obj_eq_ms e mo [] ht).2.1, h]

theorem msSide_self_obj (e : Envs) : ∀ (mo : Obj) (R : List Obj), MSObj mo → RefetchTree [mo] →
    activeNamed mo.name R = [mo] →
    msNoClashObj mo R = true ∧ (KeysDefinedMSObj e mo [] → KeysDefinedMSObj e mo R) := by
  intro mo R ht hr hv
  have h := (ms2Obj_self_ms3 e mo [] R ht.toMS2 ht.enabled hr (fun _ hx => nomatch hx) (fun _ => rfl)
    (ms_body_re_ok_ms e ht hr) hv).2 (ms2NoClashObj_nil_ms e ht)
  rwa [List.nil_append, List.nil_append, (ms2Obj_eq_ms e mo R ht).2.1, (ms2Obj_eq_ms e mo R ht).2.2.2,
    (ms2Obj_eq_ms e mo [] ht).2.2.2] at h

theorem msSide_view_obj (e : Envs) : ∀ (mo : Obj) (srcs R : List Obj), MSObj mo → RefetchTree [mo] →
    KeysDefinedMSObj e mo srcs → activeNamed mo.name R = msBlock e mo srcs →
    msNoClashObj mo R = true ∧ KeysDefinedMSObj e mo R := by
  intro mo srcs R ht hr hk hv
  have h := (ms2Obj_refetch_ms3 e mo [] srcs R ht.toMS2 ht.enabled hr (fun _ => rfl) (ms_body_re_ok_ms e ht hr)
    (by rw [List.nil_append, ms2Block_eq_msBlock e mo srcs ht]; exact hv)).2
    (ms2NoClashObj_nil_ms e ht) ((ms2Obj_eq_ms e mo srcs ht).2.2.2.mpr hk)
  rwa [List.nil_append, (ms2Obj_eq_ms e mo R ht).2.1, (ms2Obj_eq_ms e mo R ht).2.2.2] at h

theorem msSide_result (e : Envs) (mkids srcs : List Obj) (hf : MSMaster mkids) (hr : RefetchTree mkids)
    (hk : KeysDefinedMS e mkids srcs) :
    msNoClash mkids (msResult e mkids srcs) = true ∧ KeysDefinedMS e mkids (msResult e mkids srcs) := by
  have heq := fun S => ms2_eq_ms e mkids [] S hf.kids hf.distinct (fun _ _ => rfl)
  have h := (ms2_re_ok_ms3 e mkids hf.toMS2 hr).side srcs
    (by rw [(heq []).2.1]; exact msNoClash_nil_src mkids) ((heq srcs).2.2.2.mpr hk)
  rwa [(heq srcs).1, (heq _).2.1, (heq _).2.2.2] at h

/-! ### the result is a well-formed source tree -/

theorem good_msBlock (e : Envs) : ∀ (mo : Obj) (srcs : List Obj), MSObj mo → RefetchTree [mo] →
    SrcNoDollar srcs → allActive srcGoodB (msBlock e mo srcs) = true := by
  intro mo srcs ht hr hdol
  have hm : MSMaster [mo] := ⟨by rw [MSKids, MSKids]; exact ⟨ht, trivial⟩, List.pairwise_singleton _ _⟩
  have h := good_ms2Result_ms3 e [mo] hm.toMS2 hr srcs hdol
  rwa [ms2Result_eq_msResult e [mo] srcs hm, msResult, msResult, List.append_nil] at h

theorem srcTree_msResult (e : Envs) (mkids srcs : List Obj) (hf : MSMaster mkids)
    (hr : RefetchTree mkids) (hdol : SrcNoDollar srcs) : SrcTree (msResult e mkids srcs) :=
  by rw [← ms2Result_eq_msResult e mkids srcs hf]; exact srcTree_ms2Result e mkids srcs hf.toMS2 hr hdol

/-- **C07.**  Fetching the result again, as the only source, returns the same result (and cannot
    fail). -/
theorem ms_refetch_idempotent (e : Envs) (fuel : Nat) (sm : Meta) (mkids srcs : List Obj)
    (hf : MSMaster mkids) (hfuel : depthL mkids + 1 ≤ fuel) (hsd : sm.disabled = false)
    (hr : RefetchTree mkids) (hdol : SrcNoDollar srcs) (hkeys : KeysDefinedMS e mkids srcs) :
    fetchScope e fuel false sm mkids (msResult e mkids srcs) =
      .ok (.scope { sm with tmpl := 0 } (msResult e mkids srcs), msUsed mkids (msResult e mkids srcs)) := by
  have hside := msSide_result e mkids srcs hf hr hkeys
  rw [fetch_ms_total e fuel sm mkids _ hf hfuel hsd (srcTree_msResult e mkids srcs hf hr hdol) hside.2,
    hside.1, msResult_idem e mkids srcs hf hr]
  rfl

/-! ## 4. C06: the unused list -/

/-- **C06 (unused list, exactly).** -/
theorem ms_unused_exact (e : Envs) (fuel : Nat) (sm : Meta) (mkids srcs : List Obj)
    (hf : MSMaster mkids) (hfuel : depthL mkids + 1 ≤ fuel) (hsd : sm.disabled = false)
    (hinc : NoIncludeTree mkids) (hsrc : SrcTree srcs) (hs : SrcPlain srcs)
    (hkeys : KeysDefinedMS e mkids srcs)
    (hsome : ∀ x ∈ allDefinitions srcs, x.2.1.id ≠ none)
    (hids : ((allDefinitions srcs).map (fun x => x.2.1.id)).Nodup)
    (ro : Obj) (used : List Nat)
    (h : fetchScope e fuel false sm mkids srcs = .ok (ro, used)) :
    (allDefinitions srcs).filter (notConsumed used) =
      (allDefinitions srcs).filter (fun x => !(defPaths mkids []).contains x.1) := by
  obtain ⟨_, _, rfl⟩ := ok_of_total (fetch_ms_total e fuel sm mkids srcs hf hfuel hsd hsrc hkeys) h
  exact unused_filter_exact_tree _ srcs _ hsome hids (ms_used_exact mkids srcs hf hinc hs)

end Phil
