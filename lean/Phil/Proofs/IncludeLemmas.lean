/-
  Lemmas about include processing (Phil/Include.lean) for property C13.  `processIncludes` is read one
  object at a time (`includeHere`, `includeScope`, `selectSub`, `splice`); every error of a processed list
  has a source among the statements it follows (`processIncludes_error_source`), every success means the
  followed statements succeeded (`processIncludes_ok_source`).  From these: adequacy of the fuel
  `(fs.length + 1) * (imports.length + 1) + 1` when imported scopes are ranked (`ImportsRanked`), soundness
  and completeness of the cycle error with respect to the include graph (`ReachFile`, `Includes`,
  `IncWalk`).  Besides: include-free lists are kept, path resolution.
-/
import Phil.Include
import Phil.Proofs.Generic
namespace Phil

/-! ### one-step unfolding -/

/-- the optional sub-path selection of `include scope p q` on the expanded imported scope -/
def selectSub (expanded : List Obj) : Option Str → Option Nat → R (List Obj)
  | none, _ => .ok expanded
  | some q, line =>
    let sel := selectPath expanded q
    if sel.isEmpty then .error (.runtime "include_scope_not_found" line)
    else if sel.any (anyDollar 1000) then .error (.unsupported "variable in included selection")
    else .ok sel

/-- what a well-formed `include scope p [sub]` statement contributes: the imported text is parsed, its
    own includes are processed first (one unit of fuel, reference directory `env.cwd`, the same stack),
    then the optional sub-path is selected -/
def includeScope (env : IncEnv) (fuel : Nat) (stack : List Path) (p : Str) (sub : Option Str)
    (line : Option Nat) : R (List Obj) :=
  match env.imported p with
  | none => .error (.unsupported "python import")
  | some text =>
    match parseObjs text with
    | .error e => .error e
    | .ok src =>
      match fuel with
      | 0 => .error .outOfFuel
      | f + 1 =>
        match processIncludes env f env.cwd stack src with
        | .error e => .error e
        | .ok expanded => selectSub expanded sub line

/-- what a single object contributes to the processed list (the `here` of `processIncludes`) -/
def includeHere (env : IncEnv) (fuel : Nat) (refdir : Path) (stack : List Path) (o : Obj) : R (List Obj) :=
  if o.meta.disabled then .ok [o] else
  match o with
  | .defn m ws =>
    if m.name != "include".toList then .ok [o]
    else if containsDollar ws then .error (.unsupported "variable in include")
    else if ws.length < 2 then .error (.runtime "include_two_arguments" m.line)
    else
      let ty := lower (ws.headD default).value
      if ty == "file".toList then
        if ws.length != 2 then .error (.runtime "include_file_one_argument" m.line)
        else
          match fuel with
          | 0 => .error .outOfFuel
          | f + 1 => expandFile env (f + 1) (resolvePath refdir (ws.getD 1 default).value) stack
      else if ty == "scope".toList then
        if ws.length > 3 then .error (.runtime "include_scope_arguments" m.line)
        else includeScope env fuel stack (ws.getD 1 default).value
              (if ws.length == 2 then none else some (ws.getD 2 default).value) m.line
      else .error (.runtime "unknown_include_type" m.line)
  | .scope m kids =>
    (processIncludes env fuel refdir stack kids).map (fun ks => [Obj.scope { m with tmpl := 0 } ks])

def splice (a b : R (List Obj)) : R (List Obj) :=
  match a with
  | .error e => .error e
  | .ok l => b.map (fun r => l ++ r)

@[simp] theorem splice_ok_ok (l r : List Obj) : splice (.ok l) (.ok r) = .ok (l ++ r) := rfl
@[simp] theorem splice_error (e : Err) (b : R (List Obj)) : splice (.error e) b = .error e := rfl
@[simp] theorem splice_ok_error (l : List Obj) (e : Err) : splice (.ok l) (.error e) = .error e := rfl

theorem splice_eq_ok_iff (a b : R (List Obj)) (res : List Obj) :
    splice a b = .ok res ↔ ∃ l r, a = .ok l ∧ b = .ok r ∧ res = l ++ r := by
  cases a with
  | error e => simp
  | ok l =>
    cases b with
    | error e => simp
    | ok r =>
      simp only [splice_ok_ok, Except.ok.injEq]
      constructor
      · intro h; exact ⟨l, r, rfl, rfl, h.symm⟩
      · rintro ⟨l', r', hl, hr, h⟩; cases hl; cases hr; exact h.symm

theorem splice_eq_error_iff (a b : R (List Obj)) (e : Err) :
    splice a b = .error e ↔ a = .error e ∨ ∃ l, a = .ok l ∧ b = .error e := by
  cases a with
  | error e' => simp
  | ok l =>
    cases b with
    | error e' => simp
    | ok r => simp

theorem processIncludes_nil (env : IncEnv) (fuel : Nat) (refdir : Path) (stack : List Path) :
    processIncludes env fuel refdir stack [] = .ok [] := by
  rw [processIncludes.eq_def]

theorem processIncludes_cons (env : IncEnv) (fuel : Nat) (refdir : Path) (stack : List Path)
    (o : Obj) (rest : List Obj) :
    processIncludes env fuel refdir stack (o :: rest) =
      splice (includeHere env fuel refdir stack o) (processIncludes env fuel refdir stack rest) := by
  rw [processIncludes.eq_def]
  cases o with
  | scope m kids => rfl
  | defn m ws =>
    by_cases h2 : (ws.length == 2) = true
    · simp only [includeHere, includeScope, h2, selectSub]
      rfl
    · simp only [includeHere, includeScope, h2, selectSub]
      rfl

theorem expandFile_zero (env : IncEnv) (path : Path) (stack : List Path) :
    expandFile env 0 path stack = .error .outOfFuel := by
  rw [expandFile.eq_def]

theorem expandFile_succ (env : IncEnv) (fuel : Nat) (path : Path) (stack : List Path) :
    expandFile env (fuel + 1) path stack =
      match env.fs.read path with
      | none => .error (.stray "FileNotFoundError" "open")
      | some text =>
        match parseObjs text with
        | .error e => .error e
        | .ok objs =>
          if stack.contains path then .error (.runtime "include_cycle" none)
          else processIncludes env fuel path.dropLast (stack ++ [path]) objs :=
  expandFile.eq_2 env path stack fuel

/-! ### 1. a file already being expanded is refused -/

theorem cycle_refused (env : IncEnv) (fuel : Nat) (path : Path) (stack : List Path) (text : Str)
    (objs : List Obj) (hin : path ∈ stack) (hread : env.fs.read path = some text)
    (hparse : parseObjs text = .ok objs) :
    expandFile env (fuel + 1) path stack = .error (.runtime "include_cycle" none) := by
  have hc : stack.contains path = true := List.contains_iff_mem.mpr hin
  rw [expandFile_succ]
  simp only [hread, hparse, hc, ↓reduceIte]

theorem expandFile_fresh (env : IncEnv) (fuel : Nat) (path : Path) (stack : List Path) (text : Str)
    (objs : List Obj) (hin : path ∉ stack) (hread : env.fs.read path = some text)
    (hparse : parseObjs text = .ok objs) :
    expandFile env (fuel + 1) path stack
      = processIncludes env fuel path.dropLast (stack ++ [path]) objs := by
  rw [expandFile_succ]
  simp [hread, hparse, hin]

/-! ### 2. fuel adequacy -/

def FS.keys (fs : FS) : List Path := fs.map (·.1)

theorem find_fst_some {α β : Type} [BEq α] [LawfulBEq α] {l : List (α × β)} {p : α} {t : β}
    (h : (l.find? (·.1 == p)).map (·.2) = some t) : (p, t) ∈ l := by
  cases hf : l.find? (·.1 == p) with
  | none => rw [hf] at h; cases h
  | some pt =>
    rw [hf] at h
    have h1 : pt.1 = p := by simpa using List.find?_some hf
    have h2 : pt.2 = t := by simpa using h
    rw [← h1, ← h2]
    exact List.mem_of_find?_eq_some hf

theorem FS.read_some_mem {fs : FS} {p : Path} {t : Str} (h : fs.read p = some t) : (p, t) ∈ fs :=
  find_fst_some h

theorem FS.read_some_key {fs : FS} {p : Path} {t : Str} (h : fs.read p = some t) : p ∈ fs.keys := by
  have := FS.read_some_mem h
  exact List.mem_map.mpr ⟨(p, t), this, rfl⟩

/-- no file of `fs` exhausts the fuel of the *parser* (`parseObjs` uses its own fuel) -/
def ParseFuelOK (fs : FS) : Prop := ∀ pt ∈ fs, parseObjs pt.2 ≠ .error .outOfFuel

/-! #### the statements `processIncludes` follows -/

/-- the file name of a well-formed enabled `include file <name>` statement -/
def includeTarget : Obj → Option Str
  | .defn m [w1, w2] =>
    if !m.disabled && m.name == "include".toList && !containsDollar [w1, w2]
        && lower w1.value == "file".toList then some w2.value else none
  | _ => none

/-- the python path and the optional sub-path of a well-formed enabled
    `include scope <python path> [<phil path>]` statement -/
def scopeTarget : Obj → Option (Str × Option Str)
  | .defn m (w1 :: w2 :: tl) =>
    if !m.disabled && m.name == "include".toList && !containsDollar (w1 :: w2 :: tl)
        && lower w1.value == "scope".toList && tl.length ≤ 1 then
      some (w2.value, tl.head?.map (·.value)) else none
  | _ => none

mutual
/-- the names of the include statements that `processIncludes` follows: well-formed enabled
    `include file` statements at top level or inside enabled scopes -/
def includeTargetsObj : Obj → List Str
  | .defn m ws => (includeTarget (.defn m ws)).toList
  | .scope m kids => if m.disabled then [] else includeTargets kids
def includeTargets : List Obj → List Str
  | [] => []
  | o :: os => includeTargetsObj o ++ includeTargets os
end

mutual
/-- the python paths of the `include scope` statements that `processIncludes` follows (well-formed,
    enabled, at top level or inside enabled scopes) -/
def scopeTargetsObj : Obj → List Str
  | .defn m ws => ((scopeTarget (.defn m ws)).map (·.1)).toList
  | .scope m kids => if m.disabled then [] else scopeTargets kids
def scopeTargets : List Obj → List Str
  | [] => []
  | o :: os => scopeTargetsObj o ++ scopeTargets os
end

theorem includeTarget_eq_some {o : Obj} {name : Str} (h : includeTarget o = some name) :
    ∃ m w1 w2, o = .defn m [w1, w2] ∧ m.disabled = false ∧ m.name = "include".toList ∧
      containsDollar [w1, w2] = false ∧ lower w1.value = "file".toList ∧ w2.value = name := by
  unfold includeTarget at h
  split at h
  · next m w1 w2 =>
    split at h
    · next hc =>
      simp only [Bool.and_eq_true, Bool.not_eq_true', beq_iff_eq] at hc
      exact ⟨m, w1, w2, rfl, hc.1.1.1, hc.1.1.2, hc.1.2, hc.2, Option.some.inj h⟩
    · cases h
  · cases h

theorem scopeTarget_eq_some {o : Obj} {p : Str} {sub : Option Str} (h : scopeTarget o = some (p, sub)) :
    ∃ m w1 w2 tl, o = .defn m (w1 :: w2 :: tl) ∧ m.disabled = false ∧ m.name = "include".toList ∧
      containsDollar (w1 :: w2 :: tl) = false ∧ lower w1.value = "scope".toList ∧ tl.length ≤ 1 ∧
      w2.value = p ∧ tl.head?.map (·.value) = sub := by
  unfold scopeTarget at h
  split at h
  · next m w1 w2 tl =>
    split at h
    · next hc =>
      simp only [Bool.and_eq_true, Bool.not_eq_true', beq_iff_eq, decide_eq_true_eq] at hc
      simp only [Option.some.injEq, Prod.mk.injEq] at h
      exact ⟨m, w1, w2, tl, rfl, hc.1.1.1.1, hc.1.1.1.2, hc.1.1.2, hc.1.2, hc.2, h.1, h.2⟩
    · cases h
  · cases h

theorem includeHere_include' (env : IncEnv) (fuel : Nat) (refdir : Path) (stack : List Path) (o : Obj)
    (name : Str) (h : includeTarget o = some name) :
    includeHere env fuel refdir stack o = expandFile env fuel (resolvePath refdir name) stack := by
  obtain ⟨m, w1, w2, rfl, hd, hn, hdol, hty, rfl⟩ := includeTarget_eq_some h
  cases fuel with
  | zero => rw [expandFile_zero]; simp [includeHere, Obj.meta, hd, hn, hdol, hty]
  | succ f => simp [includeHere, Obj.meta, hd, hn, hdol, hty]

theorem scope_ne_file : ("scope".toList == "file".toList) = false := by decide

theorem includeHere_scope (env : IncEnv) (fuel : Nat) (refdir : Path) (stack : List Path) (o : Obj)
    (p : Str) (sub : Option Str) (h : scopeTarget o = some (p, sub)) :
    includeHere env fuel refdir stack o = includeScope env fuel stack p sub o.meta.line := by
  obtain ⟨m, w1, w2, tl, rfl, hd, hn, hdol, hty, hlen, rfl, rfl⟩ := scopeTarget_eq_some h
  match tl, hlen, hdol with
  | [], _, hdol => simp [includeHere, Obj.meta, hd, hn, hdol, hty]
  | [w3], _, hdol => simp [includeHere, Obj.meta, hd, hn, hdol, hty]
  | _ :: _ :: _, hlen, _ => simp at hlen

abbrev cycleErr : Err := .runtime "include_cycle" none

/-- an error raised on the spot, by a malformed include statement, an unknown import or a selection:
    a RuntimeError other than the cycle error, or outside the model -/
def SpotErr (e : Err) : Prop := ((∃ s l, e = .runtime s l) ∨ ∃ w, e = .unsupported w) ∧ e ≠ cycleErr

theorem SpotErr.ne_outOfFuel {e : Err} (h : SpotErr e) : e ≠ .outOfFuel := by
  rintro rfl
  rcases h.1 with ⟨_, _, h⟩ | ⟨_, h⟩ <;> cases h

theorem includeTarget_of_checks (m : Meta) (ws : List Word) (hd : ¬ m.disabled = true)
    (hn : ¬ (m.name != "include".toList) = true) (h1 : ¬ containsDollar ws = true)
    (h3 : (lower (ws.headD default).value == "file".toList) = true) (h4 : ¬ (ws.length != 2) = true) :
    ∃ name, includeTarget (.defn m ws) = some name := by
  have hl : ws.length = 2 := by simpa using h4
  match ws, hl with
  | [w1, w2], _ =>
    refine ⟨w2.value, ?_⟩
    simp only [List.headD_cons, beq_iff_eq] at h3
    simp only [bne_iff_ne, ne_eq, Decidable.not_not] at hn
    simp only [Bool.not_eq_true] at hd h1
    simp [includeTarget, hd, hn, h1, h3]

theorem scopeTarget_of_checks (m : Meta) (ws : List Word) (hd : ¬ m.disabled = true)
    (hn : ¬ (m.name != "include".toList) = true) (h1 : ¬ containsDollar ws = true)
    (h2 : ¬ ws.length < 2) (h5 : (lower (ws.headD default).value == "scope".toList) = true)
    (h6 : ¬ ws.length > 3) : ∃ ps, scopeTarget (.defn m ws) = some ps := by
  match ws, h2, h6 with
  | [], h2, _ => simp at h2
  | [_], h2, _ => simp at h2
  | w1 :: w2 :: tl, _, h6 =>
    refine ⟨(w2.value, tl.head?.map (·.value)), ?_⟩
    simp only [List.headD_cons, beq_iff_eq] at h5
    simp only [bne_iff_ne, ne_eq, Decidable.not_not] at hn
    simp only [Bool.not_eq_true] at hd h1
    have hl : tl.length ≤ 1 := by simp only [List.length_cons] at h6; omega
    simp [scopeTarget, hd, hn, h1, h5, hl]

theorem includeHere_defn_error {env : IncEnv} {fuel : Nat} {refdir : Path} {stack : List Path}
    {m : Meta} {ws : List Word} {e : Err} (ht : includeTarget (.defn m ws) = none)
    (hs : scopeTarget (.defn m ws) = none)
    (h : includeHere env fuel refdir stack (.defn m ws) = .error e) : SpotErr e := by
  unfold includeHere at h
  simp only [Obj.meta] at h
  split at h
  · cases h
  next hd =>
  split at h
  · cases h
  next hn =>
  split at h
  · cases h; simp [SpotErr, cycleErr]
  next h1 =>
  split at h
  · cases h; simp [SpotErr, cycleErr]
  next h2 =>
  split at h
  · next h3 =>
    split at h
    · cases h; simp [SpotErr, cycleErr]
    · next h4 =>
      obtain ⟨n, hn'⟩ := includeTarget_of_checks m ws hd hn h1 h3 h4
      rw [hn'] at ht; cases ht
  split at h
  · next h5 =>
    split at h
    · cases h; simp [SpotErr, cycleErr]
    · next h6 =>
      obtain ⟨ps, hps⟩ := scopeTarget_of_checks m ws hd hn h1 h2 h5 h6
      rw [hps] at hs; cases hs
  · cases h; simp [SpotErr, cycleErr]

/-! #### fuel -/

theorem IncEnv.imported_some_mem {env : IncEnv} {p : Str} {t : Str} (h : env.imported p = some t) :
    (p, t) ∈ env.imports :=
  find_fst_some h

/-- no imported scope exhausts the fuel of the *parser* -/
def ImportsParseFuelOK (imports : List (Str × Str)) : Prop :=
  ∀ pt ∈ imports, parseObjs pt.2 ≠ .error .outOfFuel

/-- **imported scopes are ranked**: there is a ranking of the python paths, bounded by the number of
    imports, that strictly increases along every followed `include scope` statement of an imported
    scope's text (statements naming an unknown import are not constrained: they end the expansion
    with `unsupported`).  Without such a ranking imported scopes include each other cyclically and
    Python itself recurses without bound (there is no cycle detection for scopes).
    Any strict ranking of the (at most `imports.length`) known names can be compressed below
    `imports.length`; the position in `env.imports` is one such ranking, see `importsRankedB`. -/
def ImportsRanked (env : IncEnv) : Prop :=
  ∃ rank : Str → Nat,
    (∀ p text, env.imported p = some text → rank p < env.imports.length) ∧
    (∀ p text src, env.imported p = some text → parseObjs text = .ok src →
      ∀ q ∈ scopeTargets src, ∀ text', env.imported q = some text' → rank p < rank q)

/-- decidable sufficient condition: every followed `include scope q` in the text of an import names
    an unknown import or one whose (first) position in `env.imports` is larger -/
def importsRankedB (env : IncEnv) : Bool :=
  env.imports.all fun pt =>
    match parseObjs pt.2 with
    | .error _ => true
    | .ok src => (scopeTargets src).all fun q =>
        !(env.imports.any (·.1 == q)) ||
          decide (env.imports.findIdx (·.1 == pt.1) < env.imports.findIdx (·.1 == q))

theorem IncEnv.imported_some_any {env : IncEnv} {p : Str} {t : Str} (h : env.imported p = some t) :
    env.imports.any (·.1 == p) = true := by
  have := IncEnv.imported_some_mem h
  exact List.any_eq_true.mpr ⟨(p, t), this, by simp⟩

theorem importsRanked_nil (env : IncEnv) (h : env.imports = []) : ImportsRanked env := by
  refine ⟨fun _ => 0, ?_, ?_⟩
  · intro p text hp
    have := IncEnv.imported_some_mem hp
    rw [h] at this; cases this
  · intro p text src hp
    have := IncEnv.imported_some_mem hp
    rw [h] at this; cases this

theorem selectSub_error {expanded : List Obj} {sub : Option Str} {line : Option Nat} {e : Err}
    (h : selectSub expanded sub line = .error e) : SpotErr e := by
  cases sub with
  | none => cases h
  | some q =>
    simp only [selectSub] at h
    split at h
    · cases h; simp [SpotErr, cycleErr]
    · split at h
      · cases h; simp [SpotErr, cycleErr]
      · cases h

/-- the imported scope `q` is where the error `e` comes from: its text fails to parse with that very
    error, or processing its includes (one unit of fuel less, reference directory `env.cwd`, the same
    stack) ends with it -/
def ScopeErrSrc (env : IncEnv) (fuel : Nat) (stack : List Path) (e : Err) (q : Str) : Prop :=
  ∃ text, env.imported q = some text ∧
    (parseObjs text = .error e ∨
      ∃ src f, parseObjs text = .ok src ∧ fuel = f + 1 ∧
        processIncludes env f env.cwd stack src = .error e)

theorem includeScope_error {env : IncEnv} {fuel : Nat} {stack : List Path} {p : Str} {sub : Option Str}
    {line : Option Nat} {e : Err} (h : includeScope env fuel stack p sub line = .error e) :
    SpotErr e ∨ (fuel = 0 ∧ e = .outOfFuel) ∨ ScopeErrSrc env fuel stack e p := by
  unfold includeScope at h
  split at h
  · cases h; exact .inl (by simp [SpotErr, cycleErr])
  · next text hi =>
    split at h
    · next hp => cases h; exact .inr (.inr ⟨text, hi, .inl hp⟩)
    · next src hp =>
      split at h
      · cases h; exact .inr (.inl ⟨rfl, rfl⟩)
      · next f =>
        split at h
        · next hx => cases h; exact .inr (.inr ⟨text, hi, .inr ⟨src, f, hp, rfl, hx⟩⟩)
        · exact .inl (selectSub_error h)

/-- where an error of a processed list can come from: raised on the spot by a malformed include
    statement or a selection; the fuel running out at this very level; the expansion of a followed
    `include file` statement; a followed `include scope` statement (`ScopeErrSrc`) -/
def ErrSrc (env : IncEnv) (fuel : Nat) (refdir : Path) (stack : List Path) (e : Err)
    (files scopes : List Str) : Prop :=
  SpotErr e ∨ (fuel = 0 ∧ e = .outOfFuel) ∨
  (∃ n ∈ files, expandFile env fuel (resolvePath refdir n) stack = .error e) ∨
  (∃ q ∈ scopes, ScopeErrSrc env fuel stack e q)

theorem ErrSrc.mono {env : IncEnv} {fuel : Nat} {refdir : Path} {stack : List Path} {e : Err}
    {fs fs' ss ss' : List Str} (h : ErrSrc env fuel refdir stack e fs ss)
    (hf : ∀ n ∈ fs, n ∈ fs') (hs : ∀ q ∈ ss, q ∈ ss') : ErrSrc env fuel refdir stack e fs' ss' := by
  rcases h with h | h | ⟨n, hn, h⟩ | ⟨q, hq, h⟩
  · exact .inl h
  · exact .inr (.inl h)
  · exact .inr (.inr (.inl ⟨n, hf n hn, h⟩))
  · exact .inr (.inr (.inr ⟨q, hs q hq, h⟩))

/-- **every error of a processed list has a source** among the statements `processIncludes` follows -/
theorem processIncludes_error_source (env : IncEnv) (fuel : Nat) (refdir : Path) (stack : List Path)
    (objs : List Obj) {e : Err} :
    processIncludes env fuel refdir stack objs = .error e →
      ErrSrc env fuel refdir stack e (includeTargets objs) (scopeTargets objs) := by
  induction objs using Obj.rec_1
    (motive_1 := fun o => includeHere env fuel refdir stack o = .error e →
      ErrSrc env fuel refdir stack e (includeTargetsObj o) (scopeTargetsObj o)) with
  | defn m ws =>
    rename_i h
    cases ht : includeTarget (.defn m ws) with
    | some n =>
      rw [includeHere_include' env fuel refdir stack _ n ht] at h
      exact .inr (.inr (.inl ⟨n, by simp [includeTargetsObj, ht], h⟩))
    | none =>
      cases hst : scopeTarget (.defn m ws) with
      | none =>
        exact .inl (includeHere_defn_error ht hst h)
      | some ps =>
        rw [includeHere_scope env fuel refdir stack _ ps.1 ps.2 hst] at h
        rcases includeScope_error h with h | h | h
        · exact .inl h
        · exact .inr (.inl h)
        · exact .inr (.inr (.inr ⟨ps.1, by simp [scopeTargetsObj, hst], h⟩))
  | scope m kids ih =>
    rename_i h
    unfold includeHere at h
    simp only [Obj.meta] at h
    by_cases hd : m.disabled = true
    · simp [hd] at h
    · simp only [hd] at h
      simpa [includeTargetsObj, scopeTargetsObj, hd] using ih (Except.map_eq_error.mp h)
  | nil => intro h; rw [processIncludes_nil] at h; cases h
  | cons o rest iho ihr =>
    intro h
    rw [processIncludes_cons, splice_eq_error_iff] at h
    rcases h with h | ⟨_, _, h⟩
    · exact (iho h).mono (fun n hn => by simp [includeTargets, hn]) (fun q hq => by simp [scopeTargets, hq])
    · exact (ihr h).mono (fun n hn => by simp [includeTargets, hn]) (fun q hq => by simp [scopeTargets, hq])

theorem expandFile_error {env : IncEnv} {f : Nat} {path : Path} {stack : List Path} {e : Err}
    (h : expandFile env (f + 1) path stack = .error e) :
    (env.fs.read path = none ∧ e = .stray "FileNotFoundError" "open") ∨
    ∃ text, env.fs.read path = some text ∧
      (parseObjs text = .error e ∨ ∃ objs, parseObjs text = .ok objs ∧
        ((path ∈ stack ∧ e = cycleErr) ∨
         (path ∉ stack ∧ processIncludes env f path.dropLast (stack ++ [path]) objs = .error e))) := by
  rw [expandFile_succ] at h
  split at h
  · next hr => cases h; exact .inl ⟨hr, rfl⟩
  · next text hr =>
    refine .inr ⟨text, hr, ?_⟩
    split at h
    · next hp => cases h; exact .inl hp
    · next objs hp =>
      refine .inr ⟨objs, hp, ?_⟩
      split at h
      · next hc => cases h; exact .inl ⟨List.contains_iff_mem.mp hc, rfl⟩
      · next hc => exact .inr ⟨fun hm => hc (List.contains_iff_mem.mpr hm), h⟩

/-- the recursion of `expandFile`/`processIncludes` as an induction principle: a file at fuel `f + 1`
    calls the list function at `f`; a list at `fuel` calls the file function at the same fuel
    (`include file`) and the list function one unit below (`include scope`) -/
theorem include_fuel_induct {PF PL : Nat → Prop} (h0 : PF 0) (hF : ∀ f, PL f → PF (f + 1))
    (hL : ∀ fuel, PF fuel → (∀ f, fuel = f + 1 → PL f) → PL fuel) : ∀ fuel, PF fuel ∧ PL fuel := by
  intro fuel
  induction fuel with
  | zero => exact ⟨h0, hL 0 h0 (fun f hf => nomatch hf)⟩
  | succ f ih =>
    exact ⟨hF f ih.2, hL (f + 1) (hF f ih.2) (fun f' hf => by cases hf; exact ih.2)⟩

/-- **fuel adequacy**, both functions at once.  `M = imports.length + 1`; entering a file costs one
    unit of fuel, pushes one file on the (duplicate-free) stack and resets the rank bound `k` to 0;
    entering an imported scope of rank `r ≥ k` costs one unit and raises the bound to `r + 1`; so
    `fuel + |stack| * M + k` never decreases, and at fuel 0 it would exceed its maximum.
    `N` is any bound on the duplicate-free stacks of existing files: the number of distinct file
    names for the sharp statements of C13, `fs.length` for `expand`. -/
theorem fuel_adequate (env : IncEnv) (hpf : ParseFuelOK env.fs) (hpi : ImportsParseFuelOK env.imports)
    (rank : Str → Nat)
    (hr1 : ∀ p text, env.imported p = some text → rank p < env.imports.length)
    (hr2 : ∀ p text src, env.imported p = some text → parseObjs text = .ok src →
      ∀ q ∈ scopeTargets src, ∀ text', env.imported q = some text' → rank p < rank q)
    (N : Nat)
    (hN : ∀ stack : List Path, stack.Nodup → (∀ p ∈ stack, p ∈ env.fs.keys) → stack.length ≤ N) :
    ∀ (fuel : Nat),
      (∀ (path : Path) (stack : List Path), stack.Nodup → (∀ p ∈ stack, p ∈ env.fs.keys) →
        N * (env.imports.length + 1) + 1 ≤ fuel + stack.length * (env.imports.length + 1) →
        expandFile env fuel path stack ≠ .error .outOfFuel) ∧
      (∀ (refdir : Path) (stack : List Path) (objs : List Obj) (k : Nat), stack.Nodup →
        (∀ p ∈ stack, p ∈ env.fs.keys) → k ≤ env.imports.length →
        (∀ p ∈ scopeTargets objs, ∀ text, env.imported p = some text → k ≤ rank p) →
        N * (env.imports.length + 1) + env.imports.length + 1
          ≤ fuel + stack.length * (env.imports.length + 1) + k →
        processIncludes env fuel refdir stack objs ≠ .error .outOfFuel) := by
  refine include_fuel_induct ?_ ?_ ?_
  · intro path stack hnd hsub hb
    have h2 := Nat.mul_le_mul_right (env.imports.length + 1) (hN stack hnd hsub)
    omega
  · intro f ih path stack hnd hsub hb h
    rcases expandFile_error h with ⟨_, he⟩ | ⟨text, hr, hp | ⟨objs, _, ⟨_, he⟩ | ⟨hnin, hx⟩⟩⟩
    · cases he
    · exact hpf _ (FS.read_some_mem hr) hp
    · cases he
    · refine ih _ _ objs 0 ?_ ?_ (Nat.zero_le _) (fun _ _ _ _ => Nat.zero_le _) ?_ hx
      · rw [List.nodup_append]
        refine ⟨hnd, by simp, ?_⟩
        intro a ha b hb' e
        simp at hb'
        subst hb'
        exact hnin (e ▸ ha)
      · intro q hq
        rcases List.mem_append.mp hq with h | h
        · exact hsub q h
        · simp at h; subst h; exact FS.read_some_key hr
      · simp only [List.length_append, List.length_cons, List.length_nil, Nat.add_mul]
        omega
  · intro fuel hE hS refdir stack objs k hnd hsub hk hA hb h
    rcases processIncludes_error_source env fuel refdir stack objs h with
      hl | ⟨h0, _⟩ | ⟨n, _, hx⟩ | ⟨q, hq, text, hi, hp | ⟨src, f, hp, hf, hx⟩⟩
    · exact hl.ne_outOfFuel rfl
    · have h2 := Nat.mul_le_mul_right (env.imports.length + 1) (hN stack hnd hsub)
      omega
    · exact hE _ stack hnd hsub (by omega) hx
    · exact hpi _ (IncEnv.imported_some_mem hi) hp
    · have hkp := hA q hq text hi
      have hrp := hr1 q text hi
      refine hS f hf env.cwd stack src (rank q + 1) hnd hsub (by omega) ?_ (by omega) hx
      intro q' hq' text' hq''
      have := hr2 q text src hi hp q' hq' text' hq''
      omega

/-- `expand` never runs out of include fuel: a duplicate-free stack of existing files is no longer
    than `fs` -/
theorem expand_ne_outOfFuel (env : IncEnv) (hpf : ParseFuelOK env.fs)
    (hpi : ImportsParseFuelOK env.imports) (hrk : ImportsRanked env) (root : Path) :
    expand env root ≠ .error .outOfFuel := by
  obtain ⟨rank, hr1, hr2⟩ := hrk
  unfold expand
  refine (fuel_adequate env hpf hpi rank hr1 hr2 env.fs.length (fun stack hnd hsub => ?_) _).1
    root [] List.nodup_nil nofun ?_
  · have := hnd.length_le_of_subset hsub
    simpa [FS.keys] using this
  · simp only [List.length_nil, Nat.add_mul]
    omega

/-! #### the file-only case (`env.imports = []`) -/

theorem importsParseFuelOK_nil : ImportsParseFuelOK [] := by
  intro pt h; cases h

/-! ### 3. include-free object lists are kept (up to `tmpl` of enabled scopes) -/

mutual
/-- the object is not an enabled definition named `include` and contains none inside enabled
    scopes (a disabled object is kept verbatim by `processIncludes`, so it counts as include-free) -/
def NoIncludeObj : Obj → Bool
  | .defn m _ => m.disabled || m.name != "include".toList
  | .scope m kids => m.disabled || NoInclude kids
def NoInclude : List Obj → Bool
  | [] => true
  | o :: os => NoIncludeObj o && NoInclude os
end

mutual
/-- what `processIncludes` does to an include-free object: every enabled scope is rebuilt with
    `tmpl = 0` (Python: `self.customized_copy(objects=…)` resets `is_template`), disabled objects
    and definitions are kept verbatim -/
def resetTmplObj : Obj → Obj
  | .defn m ws => .defn m ws
  | .scope m kids => if m.disabled then .scope m kids else .scope { m with tmpl := 0 } (resetTmpl kids)
def resetTmpl : List Obj → List Obj
  | [] => []
  | o :: os => resetTmplObj o :: resetTmpl os
end

mutual
/-- every enabled scope reachable through enabled scopes has `tmpl = 0` (true of parser output) -/
def TmplZeroObj : Obj → Bool
  | .defn _ _ => true
  | .scope m kids => m.disabled || (m.tmpl == 0 && AllTmplZero kids)
def AllTmplZero : List Obj → Bool
  | [] => true
  | o :: os => TmplZeroObj o && AllTmplZero os
end

theorem resetTmpl_id (objs : List Obj) : AllTmplZero objs = true → resetTmpl objs = objs := by
  induction objs using Obj.rec_1
    (motive_1 := fun o => TmplZeroObj o = true → resetTmplObj o = o) with
  | defn m ws => simp [resetTmplObj]
  | scope m kids ih =>
    rename_i h
    simp only [TmplZeroObj, Bool.or_eq_true, Bool.and_eq_true, beq_iff_eq] at h
    simp only [resetTmplObj]
    split
    · rfl
    · rename_i hd
      rcases h with h | ⟨h0, hk⟩
      · exact absurd h hd
      · rw [ih hk]
        cases m
        simp_all
  | nil => intro _; simp [resetTmpl]
  | cons o rest iho ihr =>
    intro h
    simp only [AllTmplZero, Bool.and_eq_true] at h
    simp [resetTmpl, iho h.1, ihr h.2]

mutual
theorem includeHere_noInclude (env : IncEnv) (fuel : Nat) (refdir : Path) (stack : List Path) (o : Obj)
    (h : NoIncludeObj o = true) : includeHere env fuel refdir stack o = .ok [resetTmplObj o] := by
  cases o with
  | defn m ws =>
    simp only [NoIncludeObj, Bool.or_eq_true] at h
    unfold includeHere
    simp only [Obj.meta, resetTmplObj]
    rcases h with h | h
    · simp [h]
    · simp only [h, ↓reduceIte, ite_self]
  | scope m kids =>
    simp only [NoIncludeObj, Bool.or_eq_true] at h
    unfold includeHere
    simp only [Obj.meta, resetTmplObj]
    by_cases hd : m.disabled = true
    · simp only [hd, ↓reduceIte]
    · simp only [hd]
      rw [no_include_identity env fuel refdir stack kids (h.resolve_left hd)]; rfl
theorem no_include_identity (env : IncEnv) (fuel : Nat) (refdir : Path) (stack : List Path)
    (objs : List Obj) (h : NoInclude objs = true) :
    processIncludes env fuel refdir stack objs = .ok (resetTmpl objs) := by
  cases objs with
  | nil => rw [processIncludes_nil]; rfl
  | cons o rest =>
    simp only [NoInclude, Bool.and_eq_true] at h
    rw [processIncludes_cons, includeHere_noInclude env fuel refdir stack o h.1,
      no_include_identity env fuel refdir stack rest h.2]
    rfl
end

theorem processIncludes_append (env : IncEnv) (fuel : Nat) (refdir : Path) (stack : List Path)
    (a b : List Obj) :
    processIncludes env fuel refdir stack (a ++ b) =
      splice (processIncludes env fuel refdir stack a) (processIncludes env fuel refdir stack b) := by
  induction a with
  | nil =>
    rw [processIncludes_nil, List.nil_append]
    cases processIncludes env fuel refdir stack b <;> simp [splice, Except.map]
  | cons o rest ih =>
    rw [List.cons_append, processIncludes_cons, processIncludes_cons, ih]
    cases includeHere env fuel refdir stack o with
    | error e => rfl
    | ok l =>
      cases processIncludes env fuel refdir stack rest with
      | error e => rfl
      | ok l2 =>
        cases processIncludes env fuel refdir stack b with
        | error e => rfl
        | ok l3 => simp [splice, Except.map]

/-! ### 4. path resolution -/

theorem normComponents_dot (cs : List Str) (acc : Path) :
    normComponents (".".toList :: cs) acc = normComponents cs acc := by
  have : ".".toList = ['.'] := rfl
  rw [this]
  simp [normComponents]

theorem normComponents_empty (cs : List Str) (acc : Path) :
    normComponents ([] :: cs) acc = normComponents cs acc := by
  simp [normComponents]

theorem normComponents_append (a b : List Str) (acc : Path) :
    normComponents (a ++ b) acc = normComponents b (normComponents a acc) := by
  induction a generalizing acc with
  | nil => rfl
  | cons c cs ih =>
    simp only [List.cons_append, normComponents]
    split
    · exact ih _
    · split
      · exact ih _
      · exact ih _

def plainComp (c : Str) : Bool := !c.isEmpty && c != ['.'] && c != ['.', '.']

theorem normComponents_plain (cs : List Str) (acc : Path) (h : cs.all plainComp = true) :
    normComponents cs acc = acc ++ cs := by
  induction cs generalizing acc with
  | nil => simp [normComponents]
  | cons c cs ih =>
    simp only [List.all_cons, Bool.and_eq_true] at h
    obtain ⟨hc, hcs⟩ := h
    simp only [plainComp, Bool.and_eq_true, Bool.not_eq_true', bne_iff_ne, ne_eq] at hc
    obtain ⟨⟨h1, h2⟩, h3⟩ := hc
    simp only [normComponents, h1, Bool.false_or]
    have e2 : (c == ['.']) = false := by simpa using h2
    have e3 : (c == ['.', '.']) = false := by simpa using h3
    simp only [e2, e3, Bool.false_eq_true, ↓reduceIte]
    rw [ih _ hcs]
    simp

theorem splitOn_cons_sep (sep : Char) (cs : Str) : splitOn sep (sep :: cs) = [] :: splitOn sep cs :=
  splitOn_append_sep sep [] cs List.not_mem_nil

theorem resolvePath_rel_norm (refdir : Path) (name : Str) (h : name.take 1 ≠ ['/']) :
    resolvePath refdir name = normComponents (splitOn '/' name) refdir := by
  unfold resolvePath
  have : (name.take 1 == ['/']) = false := by simpa using h
  simp [this]

/-! ### 5. the cycle error and the include graph -/

theorem includeScope_ok (env : IncEnv) (fuel : Nat) (stack : List Path) (p : Str) (sub : Option Str)
    (line : Option Nat) (res : List Obj) (h : includeScope env fuel stack p sub line = .ok res) :
    ∃ text src f expanded, env.imported p = some text ∧ parseObjs text = .ok src ∧ fuel = f + 1 ∧
      processIncludes env f env.cwd stack src = .ok expanded ∧ selectSub expanded sub line = .ok res := by
  unfold includeScope at h
  split at h
  · cases h
  · next text hi =>
    split at h
    · cases h
    · next src hp =>
      split at h
      · cases h
      · next f =>
        split at h
        · cases h
        · next expanded hx => exact ⟨text, src, f, expanded, hi, hp, rfl, hx, h⟩

theorem processIncludes_ok_source (env : IncEnv) (fuel : Nat) (refdir : Path) (stack : List Path)
    (objs : List Obj) :
    ∀ res, processIncludes env fuel refdir stack objs = .ok res →
      (∀ n ∈ includeTargets objs, ∃ res', expandFile env fuel (resolvePath refdir n) stack = .ok res') ∧
      ∀ q ∈ scopeTargets objs, ∃ text src f expanded, env.imported q = some text ∧
        parseObjs text = .ok src ∧ fuel = f + 1 ∧
        processIncludes env f env.cwd stack src = .ok expanded := by
  induction objs using Obj.rec_1
    (motive_1 := fun o => ∀ res, includeHere env fuel refdir stack o = .ok res →
      (∀ n ∈ includeTargetsObj o, ∃ res', expandFile env fuel (resolvePath refdir n) stack = .ok res') ∧
      ∀ q ∈ scopeTargetsObj o, ∃ text src f expanded, env.imported q = some text ∧
        parseObjs text = .ok src ∧ fuel = f + 1 ∧
        processIncludes env f env.cwd stack src = .ok expanded) with
  | defn m ws =>
    rename_i res h
    constructor
    · intro n hn
      cases ht : includeTarget (.defn m ws) with
      | none => simp [includeTargetsObj, ht] at hn
      | some n' =>
        simp [includeTargetsObj, ht] at hn
        subst hn
        rw [includeHere_include' env fuel refdir stack _ n ht] at h
        exact ⟨res, h⟩
    · intro q hq
      cases hst : scopeTarget (.defn m ws) with
      | none => simp [scopeTargetsObj, hst] at hq
      | some ps =>
        obtain ⟨p, sub⟩ := ps
        simp [scopeTargetsObj, hst] at hq
        subst hq
        rw [includeHere_scope env fuel refdir stack _ q sub hst] at h
        obtain ⟨text, src, f, expanded, h1, h2, h3, h4, _⟩ := includeScope_ok _ _ _ _ _ _ _ h
        exact ⟨text, src, f, expanded, h1, h2, h3, h4⟩
  | scope m kids ih =>
    rename_i res h
    unfold includeHere at h
    simp only [Obj.meta] at h
    by_cases hd : m.disabled = true
    · simp [includeTargetsObj, scopeTargetsObj, hd]
    · simp only [hd] at h
      obtain ⟨ks, hks, _⟩ := Except.map_eq_ok.mp h
      simpa [includeTargetsObj, scopeTargetsObj, hd] using ih ks hks
  | nil => intro res _; simp [includeTargets, scopeTargets]
  | cons o rest iho ihr =>
    intro res h
    rw [processIncludes_cons, splice_eq_ok_iff] at h
    obtain ⟨l, r, hh, hr, _⟩ := h
    constructor
    · intro n hn
      simp only [includeTargets, List.mem_append] at hn
      rcases hn with hn | hn
      · exact (iho l hh).1 n hn
      · exact (ihr r hr).1 n hn
    · intro q hq
      simp only [scopeTargets, List.mem_append] at hq
      rcases hq with hq | hq
      · exact (iho l hh).2 q hq
      · exact (ihr r hr).2 q hq

/-- `ReachFile env refdir objs b`: processing `objs` with reference directory `refdir` leads to the
    expansion of the file `b` without entering another file first — through a followed `include file`
    statement of `objs`, or through a chain of followed `include scope` statements ending in an
    `include file` statement, whose name is resolved against `env.cwd` -/
inductive ReachFile (env : IncEnv) : Path → List Obj → Path → Prop
  | file {refdir : Path} {objs : List Obj} {b : Path} (n : Str) :
      n ∈ includeTargets objs → resolvePath refdir n = b → ReachFile env refdir objs b
  | scope {refdir : Path} {objs : List Obj} {b : Path} (q : Str) (text : Str) (src : List Obj) :
      q ∈ scopeTargets objs → env.imported q = some text → parseObjs text = .ok src →
      ReachFile env env.cwd src b → ReachFile env refdir objs b

/-- `a` includes `b`: the text of `a` parses, and its objects lead to the expansion of `b`
    (`ReachFile`, relative to the directory of `a`) -/
def Includes (env : IncEnv) (a b : Path) : Prop :=
  ∃ t objs, env.fs.read a = some t ∧ parseObjs t = .ok objs ∧ ReachFile env a.dropLast objs b

theorem Includes.direct {env : IncEnv} {a b : Path} (t : Str) (objs : List Obj) (n : Str)
    (hr : env.fs.read a = some t) (hp : parseObjs t = .ok objs) (hn : n ∈ includeTargets objs)
    (hres : resolvePath a.dropLast n = b) : Includes env a b :=
  ⟨t, objs, hr, hp, .file n hn hres⟩

/-- `IncWalk env a st p st'`: starting the expansion of `a` with stack `st`, a chain of include
    statements leads to the expansion of `p` with stack `st'` (= `st` followed by the files of the
    chain before `p`; imported scopes are not pushed) -/
inductive IncWalk (env : IncEnv) : Path → List Path → Path → List Path → Prop
  | here (p : Path) (st : List Path) : IncWalk env p st p st
  | step {a b : Path} {st : List Path} {p : Path} {st' : List Path} :
      Includes env a b → IncWalk env b (st ++ [a]) p st' → IncWalk env a st p st'

theorem IncWalk.prefix {env : IncEnv} {a : Path} {st : List Path} {p : Path} {st' : List Path}
    (h : IncWalk env a st p st') : st <+: st' := by
  induction h with
  | here p st => exact List.prefix_refl _
  | step _ _ ih => exact List.IsPrefix.trans (List.prefix_append _ _) ih

/-- no file's *parser* outcome is the include-cycle error (the parser has no such error site) -/
def ParseNoCycleErr (fs : FS) : Prop := ∀ pt ∈ fs, parseObjs pt.2 ≠ .error cycleErr

/-- … and no imported scope's -/
def ImportsParseNoCycleErr (imports : List (Str × Str)) : Prop :=
  ∀ pt ∈ imports, parseObjs pt.2 ≠ .error cycleErr

/-- where a cycle error can come from: a chain of include statements from `path` reaches a file `p`
    that is on its own stack, or a file whose parser outcome is the cycle error -/
def CycleWitness (env : IncEnv) (path : Path) (stack : List Path) : Prop :=
  ∃ p st, IncWalk env path stack p st ∧
    (p ∈ st ∨ ∃ t, env.fs.read p = some t ∧ parseObjs t = .error cycleErr)

/-- the cycle error of `expandFile` at this fuel is explained: a cycle witness — or the *parser* outcome
    of an imported scope is that very error -/
def FileCycleSound (env : IncEnv) (fuel : Nat) : Prop :=
  ∀ (path : Path) (stack : List Path), expandFile env fuel path stack = .error cycleErr →
    (∃ pt ∈ env.imports, parseObjs pt.2 = .error cycleErr) ∨ CycleWitness env path stack

/-- … and that of `processIncludes`: the list leads to a file with a cycle witness -/
def ListCycleSound (env : IncEnv) (fuel : Nat) : Prop :=
  ∀ (refdir : Path) (stack : List Path) (objs : List Obj),
    processIncludes env fuel refdir stack objs = .error cycleErr →
    (∃ pt ∈ env.imports, parseObjs pt.2 = .error cycleErr) ∨
    ∃ b, ReachFile env refdir objs b ∧ CycleWitness env b stack

theorem cycle_error_sound_both (env : IncEnv) :
    ∀ (fuel : Nat), FileCycleSound env fuel ∧ ListCycleSound env fuel := by
  refine include_fuel_induct ?_ ?_ ?_
  · intro path stack h; rw [expandFile_zero] at h; cases h
  · intro f ih path stack h
    rcases expandFile_error h with ⟨_, he⟩ | ⟨text, hr, hp | ⟨objs, hp, ⟨hin, _⟩ | ⟨_, hx⟩⟩⟩
    · cases he
    · exact .inr ⟨path, stack, .here _ _, .inr ⟨text, hr, hp⟩⟩
    · exact .inr ⟨path, stack, .here _ _, .inl hin⟩
    · rcases ih _ _ objs hx with hx | ⟨b, hb, p, st, hw, hm⟩
      · exact .inl hx
      · exact .inr ⟨p, st, .step ⟨text, objs, hr, hp, hb⟩ hw, hm⟩
  · intro fuel hE hS refdir stack objs h
    rcases processIncludes_error_source env fuel refdir stack objs h with
      hl | ⟨_, he⟩ | ⟨n, hn, hx⟩ | ⟨q, hq, text, hi, hp | ⟨src, f, hp, hf, hx⟩⟩
    · exact absurd rfl hl.2
    · cases he
    · rcases hE _ _ hx with hx | hw
      · exact .inl hx
      · exact .inr ⟨_, .file n hn rfl, hw⟩
    · exact .inl ⟨(q, text), IncEnv.imported_some_mem hi, hp⟩
    · rcases hS f hf _ _ src hx with hx | ⟨b, hb, hw⟩
      · exact .inl hx
      · exact .inr ⟨b, .scope q text src hq hi hp hb, hw⟩

theorem cycle_error_sound (env : IncEnv) (hpc : ParseNoCycleErr env.fs)
    (hpi : ImportsParseNoCycleErr env.imports) (fuel : Nat) (path : Path)
    (stack : List Path) (h : expandFile env fuel path stack = .error cycleErr) :
    ∃ p st, IncWalk env path stack p st ∧ p ∈ st := by
  rcases (cycle_error_sound_both env fuel).1 path stack h with ⟨pt, hm, hp⟩ | ⟨p, st, hw, hm⟩
  · exact absurd hp (hpi pt hm)
  · rcases hm with hm | ⟨t, hr, hp⟩
    · exact ⟨p, st, hw, hm⟩
    · exact absurd hp (hpc _ (FS.read_some_mem hr))

theorem reachFile_ok (env : IncEnv) (stack : List Path) {refdir : Path} {objs : List Obj} {b : Path}
    (hreach : ReachFile env refdir objs b) :
    ∀ (fuel : Nat) (res : List Obj), processIncludes env fuel refdir stack objs = .ok res →
      ∃ fuel' res', expandFile env fuel' b stack = .ok res' := by
  induction hreach with
  | file n hn hres =>
    intro fuel res h
    obtain ⟨res', hres'⟩ := (processIncludes_ok_source env fuel _ _ _ res h).1 n hn
    rw [hres] at hres'
    exact ⟨fuel, res', hres'⟩
  | scope q text src hq hi hp _ ih =>
    intro fuel res h
    obtain ⟨text', src', f, expanded, h1, h2, h3, h4⟩ :=
      (processIncludes_ok_source env fuel _ _ _ res h).2 q hq
    rw [hi] at h1
    cases h1
    rw [hp] at h2
    cases h2
    exact ih f expanded h4

theorem expandFile_ok {env : IncEnv} {fuel : Nat} {path : Path} {stack : List Path} {res : List Obj}
    (h : expandFile env fuel path stack = .ok res) :
    ∃ f text objs, fuel = f + 1 ∧ env.fs.read path = some text ∧ parseObjs text = .ok objs ∧
      path ∉ stack ∧ processIncludes env f path.dropLast (stack ++ [path]) objs = .ok res := by
  cases fuel with
  | zero => rw [expandFile_zero] at h; cases h
  | succ f =>
    rw [expandFile_succ] at h
    split at h
    · cases h
    · next text hr =>
      split at h
      · cases h
      · next objs hp =>
        split at h
        · cases h
        · next hc => exact ⟨f, text, objs, rfl, hr, hp, fun hm => hc (List.contains_iff_mem.mpr hm), h⟩

theorem ok_no_cycle (env : IncEnv) {a : Path} {st : List Path} {p : Path} {st' : List Path}
    (hw : IncWalk env a st p st') :
    ∀ (fuel : Nat) (res : List Obj), expandFile env fuel a st = .ok res → p ∉ st' := by
  induction hw with
  | here p st =>
    intro fuel res h
    obtain ⟨_, _, _, _, _, _, hnin, _⟩ := expandFile_ok h
    exact hnin
  | @step a b st p st' hinc _ ih =>
    intro fuel res h
    obtain ⟨t, objs, hr, hp, hreach⟩ := hinc
    obtain ⟨f, t', objs', _, hr', hp', _, hx⟩ := expandFile_ok h
    rw [hr] at hr'; cases hr'
    rw [hp] at hp'; cases hp'
    obtain ⟨fuel', res', hres'⟩ := reachFile_ok env _ hreach f res hx
    exact ih fuel' res' hres'

/-- a reachable include cycle never ends in a result (that the error is not the model's `outOfFuel`
    when imported scopes are ranked is added in `C13.cycle_detected`) -/
theorem cycle_detected (env : IncEnv) (root p : Path) (st : List Path) (hw : IncWalk env root [] p st)
    (hp : p ∈ st) : ∃ e, expand env root = .error e := by
  cases h : expand env root with
  | error e => exact ⟨e, rfl⟩
  | ok res => exact absurd hp (ok_no_cycle env hw _ res h)

/-! ### 6. `include scope`: splicing an imported scope -/

theorem processIncludes_scope_known (env : IncEnv) (f : Nat) (refdir : Path) (stack : List Path) (o : Obj)
    (rest : List Obj) (p : Str) (sub : Option Str) (text : Str) (src : List Obj)
    (ho : scopeTarget o = some (p, sub)) (hi : env.imported p = some text) (hp : parseObjs text = .ok src) :
    processIncludes env (f + 1) refdir stack (o :: rest) =
      splice ((processIncludes env f env.cwd stack src).bind (fun expanded => selectSub expanded sub o.meta.line))
        (processIncludes env (f + 1) refdir stack rest) := by
  rw [processIncludes_cons, includeHere_scope env (f + 1) refdir stack o p sub ho]
  unfold includeScope
  simp only [hi, hp]
  cases processIncludes env f env.cwd stack src <;> rfl

end Phil
