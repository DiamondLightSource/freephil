/-
  `textwrap.wrap` as `show_attributes` uses it (break_long_words=False, break_on_hyphens=False, tab-free text).

  Part 1: on ARBITRARY chunk lists the lines are concatenations of consecutive chunks, white-space chunks being
          dropped at line ends only (`SegW`); hence the lines have the words of the text (`wordsOf`).
  Part 2: on single-spaced text the lines are the words, regrouped (`twWrap_singleSpaced_art`).
-/
import Phil.Show
namespace Phil

/-! ## Part 1: any text; white-space runs -/

/-- the maximal blank-free runs of a text, in order (`str.split()` for text whose only white space is
    the blank) -/
def wordsOf : Str → List Str
  | [] => []
  | c :: cs =>
    if c == ' ' then wordsOf cs
    else match cs with
      | [] => [[c]]
      | d :: _ =>
        if d == ' ' then [c] :: wordsOf cs
        else match wordsOf cs with
          | w :: ws => (c :: w) :: ws
          | [] => [[c]]

/-- **collapse runs of blanks to one blank and strip both ends** -/
def wsNorm (s : Str) : Str := joinWith [' '] (wordsOf s)

theorem wordsOf_blank_cons_ar2 (x : Str) : wordsOf (' ' :: x) = wordsOf x := by
  simp [wordsOf]

theorem wordsOf_blanks_ar2 (b x : Str) (hb : ∀ d ∈ b, d = ' ') : wordsOf (b ++ x) = wordsOf x := by
  induction b with
  | nil => rfl
  | cons d b ih =>
    have : d = ' ' := hb d (by simp)
    subst this
    rw [List.cons_append, wordsOf_blank_cons_ar2]
    exact ih (fun d hd => hb d (by simp [hd]))

theorem wordsOf_ne_nil_ar2 (c : Char) (x : Str) (hc : (c == ' ') = false) : wordsOf (c :: x) ≠ [] := by
  cases x with
  | nil => simp [wordsOf, hc]
  | cons d x =>
    rw [wordsOf]
    simp only [hc, Bool.false_eq_true, ↓reduceIte]
    split
    · simp
    · split <;> simp

theorem wordsOf_cons_blank_ar2 (c : Char) (y : Str) (hc : (c == ' ') = false) :
    wordsOf (c :: ' ' :: y) = [c] :: wordsOf (' ' :: y) := by
  simp [wordsOf, hc]

theorem wordsOf_cons_cons_ar2 (c d : Char) (y : Str) (hc : (c == ' ') = false) (hd : (d == ' ') = false) :
    wordsOf (c :: d :: y)
      = (match wordsOf (d :: y) with | w :: ws => (c :: w) :: ws | [] => [[c]]) := by
  rw [wordsOf]
  simp only [hc, hd, Bool.false_eq_true, ↓reduceIte]

theorem wordsOf_append_blank_ar2 (a b : Str) : wordsOf (a ++ ' ' :: b) = wordsOf a ++ wordsOf b := by
  induction a with
  | nil => simp [wordsOf_blank_cons_ar2, wordsOf]
  | cons c a ih =>
    by_cases hc : (c == ' ') = true
    · have : c = ' ' := by simpa using hc
      subst this
      rw [List.cons_append, wordsOf_blank_cons_ar2, wordsOf_blank_cons_ar2, ih]
    · have hc' : (c == ' ') = false := by simpa using hc
      cases a with
      | nil =>
        simp [wordsOf, hc']
      | cons d a =>
        by_cases hd : (d == ' ') = true
        · have : d = ' ' := by simpa using hd
          subst this
          rw [List.cons_append, List.cons_append, wordsOf_cons_blank_ar2 c _ hc',
            wordsOf_cons_blank_ar2 c _ hc', ← List.cons_append, ih]
          rfl
        · have hd' : (d == ' ') = false := by simpa using hd
          have hne := wordsOf_ne_nil_ar2 d a hd'
          obtain ⟨w, ws, hw⟩ : ∃ w ws, wordsOf (d :: a) = w :: ws := by
            cases h : wordsOf (d :: a) with
            | nil => exact absurd h hne
            | cons w ws => exact ⟨w, ws, rfl⟩
          rw [List.cons_append, List.cons_append, wordsOf_cons_cons_ar2 c d _ hc' hd',
            wordsOf_cons_cons_ar2 c d _ hc' hd', ← List.cons_append, ih, hw]
          rfl

theorem wordsOf_joinWith_ar2 : ∀ (ps : List Str), wordsOf (joinWith [' '] ps) = ps.flatMap wordsOf := by
  intro ps
  induction ps with
  | nil => rfl
  | cons p ps ih =>
    cases ps with
    | nil => simp [joinWith]
    | cons p2 ps =>
      have e : joinWith [' '] (p :: p2 :: ps) = p ++ ' ' :: joinWith [' '] (p2 :: ps) := by simp [joinWith]
      rw [e, wordsOf_append_blank_ar2, ih]
      simp

/-- the concatenation of chunks (as `_wrap_chunks` joins the chunks of a line) -/
def concatS (cs : List Str) : Str := cs.foldr (· ++ ·) []

theorem concatS_cons_ar2 (c : Str) (cs : List Str) : concatS (c :: cs) = c ++ concatS cs := rfl

theorem concatS_append_ar2 (a b : List Str) : concatS (a ++ b) = concatS a ++ concatS b := by
  induction a with
  | nil => rfl
  | cons c a ih => simp [concatS_cons_ar2, ih]

/-- **how `textwrap.wrap` cuts a list of chunks into lines**: a line is the concatenation of
    consecutive chunks; between lines (and at both ends) white-space chunks are dropped; after a line
    comes a white-space chunk or the end. -/
inductive SegW : List Str → List Str → Prop
  | nil : SegW [] []
  | skip (c : Str) (cs ps : List Str) : isWsChunk c = true → SegW cs ps → SegW (c :: cs) ps
  | group (g cs ps : List Str) : g ≠ [] → SegW cs ps →
      (cs = [] ∨ ∃ c r, cs = c :: r ∧ isWsChunk c = true ∧ c ≠ []) → SegW (g ++ cs) (concatS g :: ps)

theorem isWsChunk_blank_ar2 {c : Str} (h : isWsChunk c = true) : ∀ d ∈ c, d = ' ' := by
  intro d hd
  have := (List.all_eq_true.mp h) d hd
  simpa using this

theorem SegW.words_ar2 {cs ps : List Str} (h : SegW cs ps) : ps.flatMap wordsOf = wordsOf (concatS cs) := by
  induction h with
  | nil => rfl
  | skip c cs ps hc _ ih =>
    rw [concatS_cons_ar2, wordsOf_blanks_ar2 c _ (isWsChunk_blank_ar2 hc), ih]
  | group g cs ps _ _ hb ih =>
    rw [List.flatMap_cons, ih, concatS_append_ar2]
    rcases hb with rfl | ⟨c, r, rfl, hc, hne⟩
    · simp [concatS]
      rfl
    · cases c with
      | nil => exact absurd rfl hne
      | cons d ds =>
        have hd : d = ' ' := isWsChunk_blank_ar2 hc d (by simp)
        subst hd
        rw [concatS_cons_ar2, List.cons_append, wordsOf_append_blank_ar2, wordsOf_blank_cons_ar2]

/-! ### `_wrap_chunks` on an arbitrary chunk list -/

/-- no chunk is empty; of two consecutive chunks one is white space (true of `twChunks s`) -/
def sepOK : List Str → Bool
  | [] => true
  | [c] => !c.isEmpty
  | a :: b :: r => !a.isEmpty && (isWsChunk a || isWsChunk b) && sepOK (b :: r)

theorem sepOK_tail_ar2 (a : Str) (r : List Str) (h : sepOK (a :: r) = true) : sepOK r = true := by
  cases r with
  | nil => rfl
  | cons b r => simp only [sepOK, Bool.and_eq_true] at h; exact h.2

theorem sepOK_suffix_ar2 : ∀ (x y : List Str), sepOK (x ++ y) = true → sepOK y = true := by
  intro x
  induction x with
  | nil => intro y h; exact h
  | cons a x ih => intro y h; exact ih y (sepOK_tail_ar2 a _ h)

theorem sepOK_ne_nil_ar2 : ∀ (cs : List Str), sepOK cs = true → ∀ c ∈ cs, c ≠ [] := by
  intro cs
  induction cs with
  | nil => intro _ c hc; cases hc
  | cons a r ih =>
    intro h c hc
    have ha : a ≠ [] := by
      cases r with
      | nil => simp only [sepOK, Bool.not_eq_true'] at h; intro e; subst e; simp at h
      | cons b r =>
        simp only [sepOK, Bool.and_eq_true, Bool.not_eq_true'] at h
        intro e; subst e; simp at h
    rcases List.mem_cons.mp hc with rfl | hc
    · exact ha
    · exact ih (sepOK_tail_ar2 a r h) c hc

theorem sepOK_boundary_ar2 : ∀ (x : List Str) (a b : Str) (r : List Str),
    sepOK (x ++ a :: b :: r) = true → (isWsChunk a || isWsChunk b) = true := by
  intro x
  induction x with
  | nil =>
    intro a b r h
    simp only [List.nil_append, sepOK, Bool.and_eq_true] at h
    exact h.1.2
  | cons c x ih =>
    intro a b r h
    exact ih a b r (sepOK_tail_ar2 c _ h)

theorem twFill_split_ar2 (W : Nat) : ∀ (cs : List Str) (len : Nat) (cur : List Str),
    ∃ X Y, twFill W cs len cur = (cur.reverse ++ X, Y) ∧ cs = X ++ Y ∧
      (X = [] → ∀ ch r, cs = ch :: r → ¬ (len + ch.length ≤ W)) := by
  intro cs
  induction cs with
  | nil => intro len cur; exact ⟨[], [], by simp [twFill], rfl, fun _ ch r h => by cases h⟩
  | cons ch rest ih =>
    intro len cur
    by_cases hfit : len + ch.length ≤ W
    · obtain ⟨X, Y, h1, h2, _⟩ := ih (len + ch.length) (ch :: cur)
      refine ⟨ch :: X, Y, ?_, by rw [h2]; rfl, fun h => by cases h⟩
      simp only [twFill, hfit, ↓reduceIte, h1]
      simp
    · refine ⟨[], ch :: rest, ?_, rfl, ?_⟩
      · simp only [twFill, hfit, ↓reduceIte, List.append_nil]
      · intro _ ch' r e; cases e; exact hfit

/-- a chunk longer than the width goes on a line of its own -/
def adjLong (W : Nat) (cur rest : List Str) : List Str × List Str :=
  match rest with
  | ch :: rest' => if ch.length > W && cur.isEmpty then ([ch], rest') else (cur, rest)
  | [] => (cur, rest)

/-- a trailing white-space chunk of a line is dropped -/
def dropTrail (cur : List Str) : List Str :=
  match cur.reverse with
  | last :: initRev => if isWsChunk last then initRev.reverse else cur
  | [] => cur

theorem twWrapChunks_step_ar2 (W fuel : Nat) (c : Str) (cs lines : List Str) :
    twWrapChunks W (fuel + 1) (c :: cs) lines =
      twWrapChunks W fuel
        (adjLong W (twFill W (if isWsChunk c && !lines.isEmpty then cs else c :: cs) 0 []).1
          (twFill W (if isWsChunk c && !lines.isEmpty then cs else c :: cs) 0 []).2).2
        (if (dropTrail (adjLong W (twFill W (if isWsChunk c && !lines.isEmpty then cs else c :: cs) 0 []).1
              (twFill W (if isWsChunk c && !lines.isEmpty then cs else c :: cs) 0 []).2).1).isEmpty then lines
         else concatS (dropTrail (adjLong W (twFill W (if isWsChunk c && !lines.isEmpty then cs else c :: cs) 0 []).1
              (twFill W (if isWsChunk c && !lines.isEmpty then cs else c :: cs) 0 []).2).1) :: lines) := by
  rfl

theorem dropTrail_cases_ar2 (cur : List Str) :
    ∃ cur3, dropTrail cur = cur3 ∧
      ((cur3 = cur ∧ ∀ init last, cur = init ++ [last] → isWsChunk last = false) ∨
       (∃ last, isWsChunk last = true ∧ cur = cur3 ++ [last])) := by
  unfold dropTrail
  cases h : cur.reverse with
  | nil =>
    have : cur = [] := by simpa using h
    subst this
    exact ⟨[], rfl, Or.inl ⟨rfl, fun init last e => by simp at e⟩⟩
  | cons last ir =>
    have hc : cur = ir.reverse ++ [last] := by
      have := congrArg List.reverse h
      simpa using this
    by_cases hw : isWsChunk last = true
    · exact ⟨ir.reverse, by simp [hw], Or.inr ⟨last, hw, hc⟩⟩
    · refine ⟨cur, by simp [hw], Or.inl ⟨rfl, fun init l e => ?_⟩⟩
      rw [hc] at e
      have := List.append_inj' e rfl
      have hl : last = l := by simpa using this.2
      subst hl
      simpa using hw

/-- **the loop of `_wrap_chunks` as an induction rule**: what holds of the lines when no chunk is left, and is
    carried back over one turn, holds of the result.  One turn on `c :: cs`: a leading white-space chunk is dropped
    unless the line is the first; of the chunks `chunks'` left, a non-empty prefix `cur` makes the line — less a
    trailing white-space chunk — and the loop goes on with the others.  (The fuel is met here only.) -/
theorem wrap_loop (W : Nat) {P : List Str → List Str → List Str → Prop}
    (hend : ∀ lines, P [] lines lines.reverse)
    (hturn : ∀ c cs lines chunks' cur rest out,
      ((chunks' = cs ∧ isWsChunk c = true ∧ lines ≠ []) ∨
        (chunks' = c :: cs ∧ ¬ (isWsChunk c = true ∧ lines ≠ []))) →
      chunks' = cur ++ rest → (chunks' ≠ [] → cur ≠ []) →
      P rest (if (dropTrail cur).isEmpty then lines else concatS (dropTrail cur) :: lines) out →
      P (c :: cs) lines out) :
    ∀ (fuel : Nat) (chunks lines : List Str), chunks.length + 1 ≤ fuel →
      P chunks lines (twWrapChunks W fuel chunks lines) := by
  intro fuel
  induction fuel with
  | zero => intro chunks lines hf; omega
  | succ fuel ih =>
    intro chunks lines hf
    cases chunks with
    | nil => exact hend lines
    | cons c cs =>
      obtain ⟨chunks', hch', hdrop⟩ : ∃ chunks', (if isWsChunk c && !lines.isEmpty then cs else c :: cs) = chunks' ∧
          ((chunks' = cs ∧ isWsChunk c = true ∧ lines ≠ []) ∨
            (chunks' = c :: cs ∧ ¬ (isWsChunk c = true ∧ lines ≠ []))) := by
        by_cases hd : (isWsChunk c && !lines.isEmpty) = true
        · refine ⟨cs, by rw [if_pos hd], Or.inl ⟨rfl, ?_⟩⟩
          cases lines <;> simp_all
        · refine ⟨c :: cs, by rw [if_neg hd], Or.inr ⟨rfl, fun h => hd ?_⟩⟩
          cases lines <;> simp_all
      obtain ⟨X, Y, hfill, hsplit, hX⟩ := twFill_split_ar2 W chunks' 0 []
      simp only [List.reverse_nil, List.nil_append] at hfill
      -- a chunk longer than the width goes on a line of its own
      obtain ⟨cur, rest, hadj, hcr, hprog⟩ : ∃ cur rest,
          adjLong W X Y = (cur, rest) ∧ chunks' = cur ++ rest ∧ (chunks' ≠ [] → cur ≠ []) := by
        cases Y with
        | nil =>
          refine ⟨X, [], rfl, hsplit, fun hne e => ?_⟩
          subst e; exact hne (by simpa using hsplit)
        | cons ch rest' =>
          by_cases hl : (decide (ch.length > W) && X.isEmpty) = true
          · have hXe : X = [] := by
              simp only [Bool.and_eq_true] at hl
              cases X with
              | nil => rfl
              | cons _ _ => simp at hl
            subst hXe
            exact ⟨[ch], rest', by simp only [adjLong, hl, ↓reduceIte], by simpa using hsplit, fun _ => by simp⟩
          · refine ⟨X, ch :: rest', by simp only [adjLong, hl, Bool.false_eq_true, ↓reduceIte], hsplit, fun _ e => ?_⟩
            subst e
            have := hX rfl ch rest' (by simpa using hsplit)
            apply hl
            simp only [Bool.and_eq_true, decide_eq_true_eq, List.isEmpty_nil, and_true]
            omega
      -- the other chunks are fewer than `c :: cs`
      have hlen : rest.length + 1 ≤ fuel := by
        have h1 : chunks'.length ≤ cs.length + 1 := by
          rcases hdrop with ⟨rfl, _⟩ | ⟨rfl, _⟩ <;> simp
        have h2 := congrArg List.length hcr
        simp only [List.length_append, List.length_cons] at h2 hf
        by_cases hne : chunks' = []
        · rw [hne] at h2; simp at h2; omega
        · have : cur.length ≥ 1 := by
            have := hprog hne
            cases cur <;> simp_all
          omega
      rw [twWrapChunks_step_ar2, hch', hfill]
      simp only [hadj]
      exact hturn c cs lines chunks' cur rest _ hdrop hcr hprog (ih rest _ hlen)

theorem wrapChunks_seg_ar2 (W fuel : Nat) (chunks lines : List Str) (hf : chunks.length + 1 ≤ fuel)
    (hsep : sepOK chunks = true) :
    ∃ ps, SegW chunks ps ∧ twWrapChunks W fuel chunks lines = lines.reverse ++ ps := by
  refine wrap_loop W (P := fun chunks lines out => sepOK chunks = true →
    ∃ ps, SegW chunks ps ∧ out = lines.reverse ++ ps) ?_ ?_ fuel chunks lines hf hsep
  · intro lines _
    exact ⟨[], SegW.nil, (List.append_nil _).symm⟩
  · intro c cs lines chunks' cur2 rest2 out hdrop hcr hprog ih hsep
    have hsep' : sepOK chunks' = true := by
      rcases hdrop with ⟨rfl, _⟩ | ⟨rfl, _⟩
      · exact sepOK_tail_ar2 c _ hsep
      · exact hsep
    obtain ⟨cur3, htrim, hcases⟩ := dropTrail_cases_ar2 cur2
    have hrestsep : sepOK rest2 = true := sepOK_suffix_ar2 cur2 rest2 (by rw [← hcr]; exact hsep')
    obtain ⟨ps', hseg', hrun'⟩ := ih hrestsep
    rw [htrim] at hrun'
    -- the segmentation of chunks'
    have hsegc : ∃ ps, SegW chunks' ps ∧
        (if cur3.isEmpty then lines else concatS cur3 :: lines).reverse ++ ps' = lines.reverse ++ ps := by
      rcases hcases with ⟨rfl, hlast⟩ | ⟨last, hlw, hcl⟩
      · by_cases he : cur3 = []
        · subst he
          refine ⟨ps', ?_, by simp⟩
          rw [hcr]; exact hseg'
        · refine ⟨concatS cur3 :: ps', ?_, ?_⟩
          · rw [hcr]
            refine SegW.group cur3 rest2 ps' he hseg' ?_
            cases rest2 with
            | nil => exact Or.inl rfl
            | cons y r =>
              refine Or.inr ⟨y, r, rfl, ?_, ?_⟩
              · obtain ⟨init, l, e⟩ : ∃ init l, cur3 = init ++ [l] := by
                  rcases List.eq_nil_or_concat cur3 with h | ⟨i, l, h⟩
                  · exact absurd h he
                  · exact ⟨i, l, by simpa using h⟩
                have hb := sepOK_boundary_ar2 init l y r (by rw [hcr, e] at hsep'; simpa using hsep')
                rw [hlast init l e] at hb
                simpa using hb
              · exact sepOK_ne_nil_ar2 _ hrestsep y (by simp)
          · have : cur3.isEmpty = false := by cases cur3 <;> simp_all
            simp [this]
      · have hskip : SegW (last :: rest2) ps' := SegW.skip last rest2 ps' hlw hseg'
        have hcr' : chunks' = cur3 ++ (last :: rest2) := by rw [hcr, hcl]; simp
        by_cases he : cur3 = []
        · subst he
          refine ⟨ps', ?_, by simp⟩
          rw [hcr']; exact hskip
        · refine ⟨concatS cur3 :: ps', ?_, ?_⟩
          · rw [hcr']
            refine SegW.group cur3 _ ps' he hskip (Or.inr ⟨last, rest2, rfl, hlw, ?_⟩)
            exact sepOK_ne_nil_ar2 _ hsep' last (by rw [hcr']; simp)
          · have : cur3.isEmpty = false := by cases cur3 <;> simp_all
            simp [this]
    obtain ⟨ps, hsegps, hlines⟩ := hsegc
    refine ⟨ps, ?_, by rw [hrun', hlines]⟩
    rcases hdrop with ⟨rfl, hcw, _⟩ | ⟨rfl, _⟩
    · exact SegW.skip c _ ps hcw hsegps
    · exact hsegps

/-! ### the chunks of a text -/

/-- `twChunks` puts one character in front of the chunks of the rest -/
def twCons (c' : Char) : List Str → List Str
  | [] => [[c']]
  | (d :: ds) :: more => if (d == ' ') == (c' == ' ') then (c' :: d :: ds) :: more else [c'] :: (d :: ds) :: more
  | [] :: more => [c'] :: more

theorem twChunks_cons_ar2 (c : Char) (cs : Str) :
    twChunks (c :: cs) = twCons (if isTwWs c then ' ' else c) (twChunks cs) := by
  rw [twChunks]
  cases twChunks cs with
  | nil => rfl
  | cons a more => cases a <;> rfl

/-- a chunk of one kind: non-empty, all blanks or no blank -/
def homog : Str → Bool
  | [] => false
  | d :: ds => ds.all (fun y => (y == ' ') == (d == ' '))

theorem isWsChunk_homog_ar2 (d : Char) (ds : Str) (h : homog (d :: ds) = true) :
    isWsChunk (d :: ds) = (d == ' ') := by
  simp only [homog, List.all_eq_true, beq_iff_eq] at h
  simp only [isWsChunk, List.all_cons]
  cases hd : d == ' ' with
  | false => rfl
  | true =>
    simp only [Bool.true_and, List.all_eq_true]
    intro y hy
    rw [h y hy, hd]

theorem twCons_inv_ar2 (c' : Char) (L : List Str) (hL : ∀ ch ∈ L, homog ch = true) (hs : sepOK L = true) :
    (∀ ch ∈ twCons c' L, homog ch = true) ∧ sepOK (twCons c' L) = true := by
  cases L with
  | nil => simp [twCons, homog, sepOK]
  | cons a more =>
    cases a with
    | nil => have := hL [] (by simp); simp [homog] at this
    | cons d ds =>
      have ha := hL (d :: ds) (by simp)
      have hwa := isWsChunk_homog_ar2 d ds ha
      by_cases hsame : ((d == ' ') == (c' == ' ')) = true
      · have hcls : (d == ' ') = (c' == ' ') := by simpa using hsame
        have hA : homog (c' :: d :: ds) = true := by
          simp only [homog, List.all_cons, Bool.and_eq_true, List.all_eq_true, beq_iff_eq] at ha ⊢
          exact ⟨hcls, fun y hy => by rw [ha y hy, hcls]⟩
        have hwA := isWsChunk_homog_ar2 c' (d :: ds) hA
        simp only [twCons, hsame, ↓reduceIte]
        refine ⟨?_, ?_⟩
        · intro ch hch
          rcases List.mem_cons.mp hch with rfl | hch
          · exact hA
          · exact hL ch (by simp [hch])
        · cases more with
          | nil => simp [sepOK]
          | cons b r =>
            simp only [sepOK, Bool.and_eq_true] at hs ⊢
            refine ⟨⟨by simp, ?_⟩, hs.2⟩
            rw [hwA, ← hcls, ← hwa]; exact hs.1.2
      · have hdiff : ((d == ' ') == (c' == ' ')) = false := by simpa using hsame
        simp only [twCons, hdiff, Bool.false_eq_true, ↓reduceIte]
        refine ⟨?_, ?_⟩
        · intro ch hch
          rcases List.mem_cons.mp hch with rfl | hch
          · simp [homog]
          · exact hL ch hch
        · have h1 : isWsChunk [c'] = (c' == ' ') := by simp [isWsChunk]
          have : (isWsChunk [c'] || isWsChunk (d :: ds)) = true := by
            rw [h1, hwa]
            cases h2 : c' == ' ' <;> cases h3 : d == ' ' <;> simp_all
          have e : sepOK ([c'] :: (d :: ds) :: more)
              = (![c'].isEmpty && (isWsChunk [c'] || isWsChunk (d :: ds)) && sepOK ((d :: ds) :: more)) := rfl
          rw [e, this, hs]; rfl

theorem concatS_twCons_ar2 (c' : Char) (L : List Str) : concatS (twCons c' L) = c' :: concatS L := by
  cases L with
  | nil => rfl
  | cons a more =>
    cases a with
    | nil => rfl
    | cons d ds =>
      simp only [twCons]
      split <;> rfl

/-- the only `textwrap` white space in the text is the blank (no tab, newline, `\r`, `\x0b`, `\x0c`) -/
def noOddWs (s : Str) : Bool := s.all (fun c => !isTwWs c || c == ' ')

theorem twChunks_inv_ar2 : ∀ (s : Str), (∀ ch ∈ twChunks s, homog ch = true) ∧ sepOK (twChunks s) = true := by
  intro s
  induction s with
  | nil => simp [twChunks, sepOK]
  | cons c cs ih =>
    rw [twChunks_cons_ar2]
    exact twCons_inv_ar2 _ _ ih.1 ih.2

theorem concatS_twChunks_ar2 : ∀ (s : Str), noOddWs s = true → concatS (twChunks s) = s := by
  intro s
  induction s with
  | nil => intro _; rfl
  | cons c cs ih =>
    intro h
    simp only [noOddWs, List.all_cons, Bool.and_eq_true, Bool.or_eq_true, Bool.not_eq_true', beq_iff_eq] at h
    rw [twChunks_cons_ar2, concatS_twCons_ar2, ih (by simpa [noOddWs] using h.2)]
    rcases h.1 with h1 | h1
    · simp [h1]
    · subst h1; simp

theorem twWrap_words_ar2 (s : Str) (hs : noOddWs s = true) (W : Nat) :
    (twWrap s W).flatMap wordsOf = wordsOf s ∧ ∀ b ∈ twWrap s W, ∀ d ∈ b, d ∈ s := by
  obtain ⟨_, hsep⟩ := twChunks_inv_ar2 s
  obtain ⟨ps, hseg, hrun⟩ := wrapChunks_seg_ar2 W _ (twChunks s) [] (Nat.le_refl _) hsep
  have hw : twWrap s W = ps := by unfold twWrap; simpa using hrun
  rw [hw]
  refine ⟨by rw [hseg.words_ar2, concatS_twChunks_ar2 s hs], ?_⟩
  have hmem : ∀ {cs ps : List Str}, SegW cs ps → ∀ b ∈ ps, ∀ d ∈ b, d ∈ concatS cs := by
    intro cs ps h
    induction h with
    | nil => intro b hb; cases hb
    | skip c cs ps _ _ ih =>
      intro b hb d hd
      rw [concatS_cons_ar2]; exact List.mem_append_right _ (ih b hb d hd)
    | group g cs ps _ _ _ ih =>
      intro b hb d hd
      rw [concatS_append_ar2]
      rcases List.mem_cons.mp hb with rfl | hb
      · exact List.mem_append_left _ hd
      · exact List.mem_append_right _ (ih b hb d hd)
  intro b hb d hd
  have := hmem hseg b hb d hd
  rwa [concatS_twChunks_ar2 s hs] at this

/-! ## Part 2: single-spaced text -/

/-- a word of a single-spaced text: non-empty, no `textwrap` white space -/
def twWord (w : Str) : Bool := !w.isEmpty && w.all (fun c => !isTwWs c)

/-- non-empty words without white space, separated by single blanks -/
def singleSpaced (s : Str) : Bool := (splitOn ' ' s).all twWord

/-- the chunks of a single-spaced text: the words with one-blank chunks in between -/
def altChunks : List Str → List Str
  | [] => []
  | [w] => [w]
  | w :: w2 :: ws => w :: [' '] :: altChunks (w2 :: ws)

theorem twWord_cases_art {w : Str} (h : twWord w = true) :
    ∃ c t, w = c :: t ∧ ∀ d ∈ c :: t, isTwWs d = false := by
  cases w with
  | nil => simp [twWord] at h
  | cons c t =>
    simp only [twWord, List.isEmpty_cons, Bool.not_false, Bool.true_and, List.all_eq_true,
      Bool.not_eq_true'] at h
    exact ⟨c, t, rfl, h⟩

theorem notWs_ne_blank_art {c : Char} (h : isTwWs c = false) : (c == ' ') = false := by
  cases hc : c == ' ' with
  | false => rfl
  | true =>
    have : c = ' ' := by simpa using hc
    subst this
    simp [isTwWs] at h

theorem twChunks_word_art (R : List Str) (hR : R = [] ∨ ∃ ds more, R = (' ' :: ds) :: more) :
    ∀ (w : Str) (c : Char) (rest : Str), (∀ d ∈ c :: w, isTwWs d = false) → twChunks rest = R →
      twChunks (c :: w ++ rest) = (c :: w) :: R := by
  intro w
  induction w with
  | nil =>
    intro c rest hc hrest
    have hcw := hc c (by simp)
    have hcb := notWs_ne_blank_art hcw
    simp only [List.cons_append, List.nil_append, twChunks, hcw, Bool.false_eq_true, ↓reduceIte, hrest]
    rcases hR with rfl | ⟨ds, more, rfl⟩
    · rfl
    · simp [hcb]
  | cons c2 w ih =>
    intro c rest hc hrest
    have hcw := hc c (by simp)
    have hcb := notWs_ne_blank_art hcw
    have hc2b := notWs_ne_blank_art (hc c2 (by simp))
    have := ih c2 rest (fun d hd => hc d (by simp at hd ⊢; exact Or.inr hd)) hrest
    rw [List.cons_append, twChunks]
    simp only [hcw, Bool.false_eq_true, ↓reduceIte]
    have this' : twChunks (c2 :: w ++ rest) = (c2 :: w) :: R := this
    rw [this']
    simp [hcb, hc2b]

theorem twChunks_blank_art (rest : Str) (d : Char) (ds : Str) (more : List Str)
    (hd : (d == ' ') = false) (h : twChunks rest = (d :: ds) :: more) :
    twChunks (' ' :: rest) = [' '] :: (d :: ds) :: more := by
  have hb : isTwWs ' ' = true := by decide
  rw [twChunks]
  simp [hb, h, hd]

theorem altChunks_cons2_art (w w2 : Str) (ws : List Str) :
    altChunks (w :: w2 :: ws) = w :: [' '] :: altChunks (w2 :: ws) := rfl

theorem altChunks_head_art (w : Str) (ws : List Str) : ∃ more, altChunks (w :: ws) = w :: more := by
  cases ws with
  | nil => exact ⟨[], rfl⟩
  | cons w2 ws => exact ⟨_, rfl⟩

theorem twChunks_joinWith_art : ∀ (ws : List Str), (∀ w ∈ ws, twWord w = true) →
    twChunks (joinWith [' '] ws) = altChunks ws := by
  intro ws
  induction ws with
  | nil => intro _; rfl
  | cons w ws ih =>
    intro h
    obtain ⟨c, t, rfl, hct⟩ := twWord_cases_art (h w (by simp))
    cases ws with
    | nil =>
      have := twChunks_word_art [] (Or.inl rfl) t c [] hct rfl
      simpa [joinWith, altChunks] using this
    | cons w2 ws =>
      have ih' := ih (fun x hx => h x (by simp [hx]))
      obtain ⟨c2, t2, e2, hct2⟩ := twWord_cases_art (h w2 (by simp))
      obtain ⟨more, hmore⟩ := altChunks_head_art w2 ws
      rw [hmore, e2] at ih'
      have hb := twChunks_blank_art _ c2 t2 more (notWs_ne_blank_art (hct2 c2 (by simp))) ih'
      have := twChunks_word_art _ (Or.inr ⟨[], _, rfl⟩) t c _ hct hb
      rw [altChunks_cons2_art, hmore, e2]
      simpa [joinWith] using this


/-- the chunks left when a line ends after a word: a blank chunk and the remaining words -/
def restOf : List Str → List Str
  | [] => []
  | w :: ws => [' '] :: altChunks (w :: ws)

theorem altChunks_cons_ne_art (w : Str) (g : List Str) (hg : g ≠ []) :
    altChunks (w :: g) = w :: [' '] :: altChunks g := by
  cases g with
  | nil => exact absurd rfl hg
  | cons a b => rfl

theorem altChunks_split_art : ∀ (ws X Y : List Str), altChunks ws = X ++ Y → X ≠ [] →
    ∃ g r, ws = g ++ r ∧ g ≠ [] ∧
      ((X = altChunks g ∧ Y = restOf r) ∨ (r ≠ [] ∧ X = altChunks g ++ [[' ']] ∧ Y = altChunks r)) := by
  intro ws
  induction ws with
  | nil => intro X Y h hX; cases X <;> simp_all [altChunks]
  | cons w ws ih =>
    intro X Y h hX
    match ws, X, h, ih with
    | _, [], _, _ => exact absurd rfl hX
    | [], [x], h, _ =>
      simp only [altChunks, List.cons_append, List.nil_append, List.cons.injEq] at h
      exact ⟨[w], [], rfl, by simp, Or.inl ⟨by rw [h.1]; rfl, by rw [← h.2]; rfl⟩⟩
    | [], _ :: _ :: _, h, _ => simp [altChunks] at h
    | w2 :: ws', [x], h, _ =>
      simp only [altChunks_cons2_art, List.cons_append, List.nil_append, List.cons.injEq] at h
      exact ⟨[w], w2 :: ws', rfl, by simp, Or.inl ⟨by rw [h.1]; rfl, by rw [← h.2]; rfl⟩⟩
    | w2 :: ws', [x, y], h, _ =>
      simp only [altChunks_cons2_art, List.cons_append, List.nil_append, List.cons.injEq] at h
      exact ⟨[w], w2 :: ws', rfl, by simp, Or.inr ⟨by simp, by rw [h.1, h.2.1]; rfl, h.2.2.symm⟩⟩
    | w2 :: ws', x :: y :: z :: X', h, ih =>
      simp only [altChunks_cons2_art, List.cons_append, List.cons.injEq] at h
      obtain ⟨rfl, rfl, h3⟩ := h
      obtain ⟨g, r, e, hg, hs⟩ := ih (z :: X') Y h3 (by simp)
      refine ⟨w :: g, r, by rw [e]; rfl, by simp, ?_⟩
      rw [altChunks_cons_ne_art w g hg]
      rcases hs with ⟨h1, h2⟩ | ⟨hr, h1, h2⟩
      · exact Or.inl ⟨by rw [h1], h2⟩
      · exact Or.inr ⟨hr, by rw [h1]; rfl, h2⟩

theorem isWsChunk_word_art {w : Str} (h : twWord w = true) : isWsChunk w = false := by
  obtain ⟨c, t, rfl, hct⟩ := twWord_cases_art h
  have := notWs_ne_blank_art (hct c (by simp))
  simp [isWsChunk, this]

theorem concat_altChunks_art : ∀ (g : List Str), concatS (altChunks g) = joinWith [' '] g := by
  intro g
  induction g with
  | nil => rfl
  | cons w g ih =>
    cases g with
    | nil => simp [altChunks, joinWith, concatS]
    | cons w2 g =>
      rw [altChunks_cons2_art, concatS_cons_ar2, concatS_cons_ar2, ih]
      simp [joinWith]

theorem altChunks_last_art : ∀ (g : List Str), g ≠ [] → (∀ w ∈ g, twWord w = true) →
    ∃ init lastw, altChunks g = init ++ [lastw] ∧ twWord lastw = true := by
  intro g
  induction g with
  | nil => intro h; exact absurd rfl h
  | cons w g ih =>
    intro _ hw
    cases g with
    | nil => exact ⟨[], w, rfl, hw w (by simp)⟩
    | cons w2 g =>
      obtain ⟨init, lastw, e, hl⟩ := ih (by simp) (fun x hx => hw x (by simp [hx]))
      exact ⟨w :: [' '] :: init, lastw, by rw [altChunks_cons2_art, e]; rfl, hl⟩

theorem dropTrail_word_art (g : List Str) (hg : g ≠ []) (hw : ∀ w ∈ g, twWord w = true) :
    dropTrail (altChunks g) = altChunks g := by
  obtain ⟨init, lastw, e, hl⟩ := altChunks_last_art g hg hw
  rw [e]
  simp [dropTrail, isWsChunk_word_art hl]

theorem dropTrail_blank_art (X : List Str) : dropTrail (X ++ [[' ']]) = X := by
  simp [dropTrail, isWsChunk]

theorem altChunks_ne_nil_art (g : List Str) (hg : g ≠ []) : altChunks g ≠ [] := by
  cases g with
  | nil => exact absurd rfl hg
  | cons w g => obtain ⟨more, hm⟩ := altChunks_head_art w g; rw [hm]; simp

/-- **`textwrap.wrap` on single-spaced words**: the lines are the words, grouped, each group joined by
    single blanks.  In front of every line the chunks left are those of the remaining words, after the first line
    behind a blank chunk; some first words `g` make the line. -/
theorem wrap_alt_art (W fuel : Nat) (chunks lines : List Str) (hf : chunks.length + 1 ≤ fuel) (ws : List Str)
    (hw : ∀ w ∈ ws, twWord w = true)
    (hch : chunks = altChunks ws ∨ (lines ≠ [] ∧ ws ≠ [] ∧ chunks = [' '] :: altChunks ws)) :
    ∃ groups : List (List Str), groups.flatten = ws ∧ (∀ g ∈ groups, g ≠ []) ∧
      twWrapChunks W fuel chunks lines = lines.reverse ++ groups.map (joinWith [' ']) := by
  refine wrap_loop W (P := fun chunks lines out => ∀ ws : List Str, (∀ w ∈ ws, twWord w = true) →
    (chunks = altChunks ws ∨ (lines ≠ [] ∧ ws ≠ [] ∧ chunks = [' '] :: altChunks ws)) →
    ∃ groups : List (List Str), groups.flatten = ws ∧ (∀ g ∈ groups, g ≠ []) ∧
      out = lines.reverse ++ groups.map (joinWith [' '])) ?_ ?_ fuel chunks lines hf ws hw hch
  · intro lines ws _ hch
    have : ws = [] := by
      rcases hch with h | ⟨_, _, h⟩
      · cases ws with
        | nil => rfl
        | cons w ws => exact absurd h.symm (altChunks_ne_nil_art _ (by simp))
      · cases h
    subst this
    exact ⟨[], rfl, by simp, by simp⟩
  · intro c cs lines chunks' cur rest out hdrop hcr hprog ih ws hw hch
    obtain ⟨w, ws', rfl⟩ : ∃ w ws', ws = w :: ws' := by
      cases ws with
      | nil => rcases hch with h | ⟨_, h, _⟩ <;> simp [altChunks] at h
      | cons w ws' => exact ⟨w, ws', rfl⟩
    obtain ⟨more, hmore⟩ := altChunks_head_art w ws'
    have hww := isWsChunk_word_art (hw w (by simp))
    -- after the optional removal of the leading blank chunk the chunks are those of the words
    have hch' : chunks' = altChunks (w :: ws') := by
      rcases hch with hc | ⟨hl, _, hc⟩
      · rcases hdrop with ⟨_, hcw, _⟩ | ⟨rfl, _⟩
        · rw [hmore] at hc; cases hc; rw [hww] at hcw; cases hcw
        · exact hc
      · cases hc
        rcases hdrop with ⟨rfl, _⟩ | ⟨_, hn⟩
        · rfl
        · exact absurd ⟨by decide, hl⟩ hn
    obtain ⟨g, r, e, hg, hsplit⟩ := altChunks_split_art (w :: ws') cur rest (by rw [← hch', hcr])
      (hprog (by rw [hch', hmore]; simp))
    have hdt : dropTrail cur = altChunks g := by
      rcases hsplit with ⟨rfl, _⟩ | ⟨_, rfl, _⟩
      · exact dropTrail_word_art g hg (fun x hx => hw x (by rw [e]; simp [hx]))
      · exact dropTrail_blank_art _
    have hemp : (altChunks g).isEmpty = false := by
      have := altChunks_ne_nil_art g hg
      cases h : altChunks g <;> simp_all
    rw [hdt, hemp, concat_altChunks_art] at ih
    obtain ⟨groups, hfl, hgs, hrun⟩ := ih r (fun x hx => hw x (by rw [e]; simp [hx])) (by
      rcases hsplit with ⟨_, rfl⟩ | ⟨_, _, rfl⟩
      · cases r with
        | nil => exact Or.inl rfl
        | cons a b => exact Or.inr ⟨by simp, by simp, rfl⟩
      · exact Or.inl rfl)
    refine ⟨g :: groups, by rw [List.flatten_cons, hfl, e], ?_, by rw [hrun]; simp⟩
    intro x hx
    rcases List.mem_cons.mp hx with rfl | hx
    · exact hg
    · exact hgs x hx

theorem twWrap_singleSpaced_art (ws : List Str) (hw : ∀ w ∈ ws, twWord w = true) (W : Nat) :
    ∃ groups : List (List Str), groups.flatten = ws ∧ (∀ g ∈ groups, g ≠ []) ∧
      twWrap (joinWith [' '] ws) W = groups.map (joinWith [' ']) := by
  unfold twWrap
  simp only [twChunks_joinWith_art ws hw]
  simpa using wrap_alt_art W _ (altChunks ws) [] (Nat.le_refl _) ws hw (Or.inl rfl)

end Phil
