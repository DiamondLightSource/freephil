/-
  Lemmas behind C12 (variable substitution): fragments, named-step forms of `resolveWords` and
  `lexicalGet`, the frame property of lexical lookup, fuel adequacy.
-/
import Phil.Vars
import Phil.Proofs.Generic
namespace Phil

/-! ## 1. fragments of a value without '$' -/

theorem fragmentsAux_no_dollar : ∀ (fuel : Nat) (cs cur : Str) (acc : List Fragment),
    '$' ∉ cs → cs.length < fuel →
    fragmentsAux fuel cs cur acc
      = .ok (if (cur ++ cs).isEmpty then acc else acc ++ [.lit (cur ++ cs)], false) := by
  intro fuel
  induction fuel with
  | zero => intro cs cur acc _ h; omega
  | succ fuel ih =>
    intro cs cur acc hd hl
    cases cs with
    | nil => simp [fragmentsAux]
    | cons c rest =>
      have hc : c ≠ '$' := fun h => hd (by simp [h])
      have hr : '$' ∉ rest := fun h => hd (by simp [h])
      simp only [fragmentsAux, bne_iff_ne, ne_eq, hc, not_false_eq_true, ↓reduceIte]
      split
      · exact absurd (by simp) hr
      · rw [ih rest (cur ++ [c]) acc hr (by simp at hl; omega)]
        simp

theorem no_dollar_no_vars (value : Str) (h : '$' ∉ value) :
    fragments value = .ok (if value.isEmpty then [] else [.lit value], false) := by
  unfold fragments
  rw [fragmentsAux_no_dollar _ _ _ _ h (by omega)]
  cases value <;> simp

/-! ### the errors of the fragment scanner -/

theorem fragmentsAux_error_sites {fuel : Nat} {cs cur : Str} {acc : List Fragment} {e : String}
    (h : fragmentsAux fuel cs cur acc = .error e) :
    e ∈ ["dollar_identifier", "missing_paren", "improper_variable_name"] ∨ (e = "fuel" ∧ fuel ≤ cs.length) := by
  fun_induction fragmentsAux fuel cs cur acc
  · cases h; exact .inr ⟨rfl, Nat.zero_le _⟩
  · cases h
  -- a syntax error found in this round
  any_goals (cases h; exact .inl (by simp))
  -- the next round starts on a shorter text
  · rename_i ih
    exact (ih h).imp_right (.imp_right fun _ => by simp only [List.length_cons]; omega)
  · rename_i ih
    exact (ih h).imp_right (.imp_right fun _ => by simp only [List.length_cons]; omega)
  · rename_i rest' _ _ after _ _ ih
    refine (ih (Except.map_eq_error.mp h)).imp_right (.imp_right fun h2 => ?_)
    have := (List.dropWhile_sublist (· != ')') (l := rest')).length_le
    simp only [after, List.length_cons, List.length_drop] at h2 ⊢
    omega
  · rename_i after ih
    refine (ih (Except.map_eq_error.mp h)).imp_right (.imp_right fun h2 => ?_)
    simp only [after, List.length_cons, List.length_drop] at h2 ⊢
    omega

theorem fragments_error_sites {v : Str} {e : String} (h : fragments v = .error e) :
    e ∈ ["dollar_identifier", "missing_paren", "improper_variable_name"] := by
  unfold fragments at h
  split at h
  · rename_i e' he
    cases h
    rcases fragmentsAux_error_sites he with h1 | ⟨_, h2⟩
    · exact h1
    · omega
  · cases h

/-! ## 2. named-step form of `resolveWords` -/

/-- what a lookup result means for a `$name` fragment (`found` in the model) -/
def foundOf (env : Env) (fuel : Nat) (w : Word) : Option (Obj × Chain) → R (Option (List Word))
  | some (.defn m ws, ch) =>
    (match m.id with
     | some sid => (resolveWords env fuel ch sid ws false).map some
     | none => .error (.unsupported "referenced definition without id"))
  | some (.scope _ _, _) => .error (.runtime "not_a_definition" w.line)
  | none => .ok none

/-- what a `$name` fragment contributes (the `found` / `ev` part of the model) -/
def resolveVar (env : Env) (fuel : Nat) (chain : Chain) (id : Nat) (diff : Bool) (w : Word)
    (forceString : Bool) (rs : List (List Word)) (name : Str) : R (List (List Word)) :=
  let found : R (Option (List Word)) :=
    foundOf env fuel w (lexicalGet (2 * name.length + chain.length + 1) chain name id true)
  match found with
  | .error e => .error e
  | .ok (some vws) => .ok (rs ++ [if forceString then [wordDq (joinWith [' '] (vws.map (·.value)))] else vws])
  | .ok none =>
    let ev : Option Str := if diff then some ('$' :: name) else env name
    match ev with
    | some v =>
      let vws := [wordDq v]
      .ok (rs ++ [if forceString then [wordDq (joinWith [' '] (vws.map (·.value)))] else vws])
    | none => .error (.runtime "undefined_variable" w.line)

def resolveFrag (env : Env) (fuel : Nat) (chain : Chain) (id : Nat) (diff : Bool) (w : Word)
    (forceString : Bool) (rs : List (List Word)) (f : Fragment) : R (List (List Word)) :=
  match f with
  | .lit s => .ok (rs ++ [[wordDq s]])
  | .var name => resolveVar env fuel chain id diff w forceString rs name

/-- resolution of one word whose fragments are known to contain a variable -/
def resolveMix (env : Env) (fuel : Nat) (chain : Chain) (id : Nat) (diff : Bool) (w : Word)
    (frags : List Fragment) (acc : List Word) : R (List Word) :=
  let forceString := w.quote.isSome || frags.length > 1
  match frags.foldlM (init := ([] : List (List Word))) (resolveFrag env fuel chain id diff w forceString) with
  | .error e => .error e
  | .ok rs =>
    if !forceString then .ok (acc ++ (rs.headD []))
    else .ok (acc ++ [wordDq (rs.foldl (fun s r => s ++ (r.headD (wordDq [])).value) [])])

def resolveStep (env : Env) (fuel : Nat) (chain : Chain) (id : Nat) (diff : Bool)
    (acc : List Word) (w : Word) : R (List Word) :=
  if w.quote == some .s1 then .ok (acc ++ [w]) else
  match fragments w.value with
  | .error site => .error (.runtime site w.line)
  | .ok (frags, haveVars) =>
    if !haveVars then .ok (acc ++ [w]) else resolveMix env fuel chain id diff w frags acc

theorem resolveWords_succ (env : Env) (fuel : Nat) (chain : Chain) (id : Nat) (words : List Word)
    (diff : Bool) :
    resolveWords env (fuel + 1) chain id words diff
      = words.foldlM (resolveStep env fuel chain id diff) [] := by
  rw [resolveWords]
  rfl

theorem resolveVar_none (env : Env) (fuel : Nat) (chain : Chain) (id : Nat) (diff : Bool) (w : Word)
    (force : Bool) (rs : List (List Word)) (name : Str)
    (hl : lexicalGet (2 * name.length + chain.length + 1) chain name id true = none) :
    resolveVar env fuel chain id diff w force rs name =
      match (if diff then some ('$' :: name) else env name) with
      | some v => .ok (rs ++ [if force then [wordDq (joinWith [' '] ([wordDq v].map (·.value)))] else [wordDq v]])
      | none => .error (.runtime "undefined_variable" w.line) := by
  unfold resolveVar
  simp only [hl, foundOf]
  rfl

/-! ## 3. named-step form of `lexicalGet` -/

/-- an object is visible from a definition with primary id `stopId` if it has no id or a smaller one -/
def vis (stopId : Nat) (o : Obj) : Bool :=
  match o.meta.id with
  | some i => decide (i < stopId)
  | none => true

/-- the objects of one level that a lookup with `stopId` can see -/
def visiblePrefix (stopId : Nat) (objs : List Obj) : List Obj := objs.takeWhile (vis stopId)

def isCand (path : Str) (o : Obj) : Bool :=
  if o.isDefn then o.name == path else o.name == path || (stripPrefixDot o.name path).isSome

def lastLevel (chain : Chain) : Chain :=
  match chain.reverse with
  | r :: _ => [r]
  | [] => []

/-- a leading '.' re-roots the lookup at the outermost level -/
def reroot (chain : Chain) (path : Str) : Chain × Str :=
  if path.take 1 == ['.'] then (lastLevel chain, path.drop 1) else (chain, path)

def tryOne (fuel stopId : Nat) (path : Str) (objs : List Obj) (outer : Chain) (o : Obj) :
    Option (Obj × Chain) :=
  if o.name == path then some (o, objs :: outer)
  else
    match stripPrefixDot o.name path with
    | none => none
    | some sub => lexicalGet fuel (o.children :: objs :: outer) sub stopId false

def lookupIn (fuel stopId : Nat) (up : Bool) (chain : Chain) (path : Str) : Option (Obj × Chain) :=
  match chain with
  | [] => none
  | objs :: outer =>
    match ((visiblePrefix stopId objs).filter (isCand path)).reverse.findSome?
        (tryOne fuel stopId path objs outer) with
    | some r => some r
    | none =>
      if !up then none
      else match outer with
        | [] => none
        | _ => lexicalGet fuel outer path stopId true

theorem lexicalGet_succ (fuel : Nat) (chain : Chain) (path : Str) (stopId : Nat) (up : Bool) :
    lexicalGet (fuel + 1) chain path stopId up
      = lookupIn fuel stopId up (reroot chain path).1 (reroot chain path).2 := by
  rw [lexicalGet]
  rfl

/-! ## 4. the measure `2*|path| + |chain|` of a lookup -/

theorem lastLevel_length_le (c : Chain) : (lastLevel c).length ≤ c.length := by
  unfold lastLevel
  cases h : c.reverse with
  | nil => simp
  | cons r rs =>
    have := congrArg List.length h
    simp at this ⊢
    omega

theorem reroot_measure (c : Chain) (p : Str) :
    2 * (reroot c p).2.length + (reroot c p).1.length ≤ 2 * p.length + c.length := by
  unfold reroot
  split
  · have := lastLevel_length_le c
    simp only [List.length_drop]
    omega
  · exact Nat.le_refl _

theorem stripPrefixDot_length {name p sub : Str} (h : stripPrefixDot name p = some sub) :
    sub.length + 1 ≤ p.length := by
  unfold stripPrefixDot startsWith at h
  split at h
  · rename_i hs
    cases h
    have := congrArg List.length (eq_of_beq hs)
    simp only [List.length_take, List.length_append, List.length_cons, List.length_nil,
      List.length_drop] at this ⊢
    omega
  · cases h

/-! ## 5. the frame property of lexical lookup, generic in a projection `P` of levels and `f` of objects

`P = visiblePrefix n`, `f = id` gives the shallow frame property (equal visible prefixes),
`P = pruneBeforeList n`, `f = pruneBeforeObj n` the deep one (equal after removing, at every depth, everything
from the first object with id ≥ n onwards), `P = id`, `f = id` on one chain with two fuels fuel adequacy. -/

section Frame
variable (n : Nat) (P : List Obj → List Obj) (f : Obj → Obj)

def projRes (r : Obj × Chain) : Obj × Chain := (f r.1, r.2.map P)

/-- what the generic frame proof needs from the projections: `P` of a level fixes its visible objects up
    to `f`, and `f` of a scope fixes `P` of its children -/
structure FrameMap : Prop where
  hmeta : ∀ o, (f o).meta = o.meta
  hdefn : ∀ o, (f o).isDefn = o.isDefn
  hlevel : ∀ l1 l2, P l1 = P l2 → (visiblePrefix n l1).map f = (visiblePrefix n l2).map f
  hkids : ∀ o1 o2, f o1 = f o2 → P o1.children = P o2.children

theorem lastLevel_map (c : Chain) : lastLevel (c.map P) = (lastLevel c).map P := by
  unfold lastLevel
  rw [← List.map_reverse]
  cases c.reverse <;> simp

theorem reroot_proj (c1 c2 : Chain) (p : Str) (h : c1.map P = c2.map P) :
    (reroot c1 p).1.map P = (reroot c2 p).1.map P ∧ (reroot c1 p).2 = (reroot c2 p).2 := by
  unfold reroot
  split
  · exact ⟨by rw [← lastLevel_map, ← lastLevel_map, h], rfl⟩
  · exact ⟨h, rfl⟩

variable {n P f}

theorem FrameMap.name (hf : FrameMap n P f) (o : Obj) : (f o).name = o.name := by
  unfold Obj.name; rw [hf.hmeta]

theorem FrameMap.name_eq (hf : FrameMap n P f) {o1 o2 : Obj} (h : f o1 = f o2) : o1.name = o2.name := by
  rw [← hf.name o1, ← hf.name o2, h]

theorem FrameMap.isCand (hf : FrameMap n P f) (p : Str) : isCand p ∘ f = isCand p := by
  funext o
  simp only [Function.comp, Phil.isCand, hf.hdefn, hf.name]

theorem cands_proj (hf : FrameMap n P f) (p : Str) (objs1 objs2 : List Obj) (h : P objs1 = P objs2) :
    (((visiblePrefix n objs1).filter (isCand p)).reverse).map f
      = (((visiblePrefix n objs2).filter (isCand p)).reverse).map f := by
  have e : ∀ l : List Obj, ((l.filter (isCand p)).reverse).map f = ((l.map f).filter (isCand p)).reverse := by
    intro l
    rw [List.filter_map, hf.isCand, List.map_reverse]
  rw [e, e, hf.hlevel _ _ h]

theorem findSome_proj {β : Type} (g : β → β) (t1 t2 : Obj → Option β) :
    ∀ (l1 l2 : List Obj), l1.map f = l2.map f →
      (∀ o1 o2, f o1 = f o2 → (t1 o1).map g = (t2 o2).map g) →
      (l1.findSome? t1).map g = (l2.findSome? t2).map g := by
  intro l1
  induction l1 with
  | nil =>
    intro l2 h _
    cases l2 with
    | nil => rfl
    | cons _ _ => simp at h
  | cons a l1 ih =>
    intro l2 h ht
    cases l2 with
    | nil => simp at h
    | cons b l2 =>
      simp only [List.map_cons, List.cons.injEq] at h
      have hab := ht a b h.1
      simp only [List.findSome?_cons]
      cases h1 : t1 a <;> cases h2 : t2 b <;> simp only [h1, h2, Option.map_none, Option.map_some] at hab ⊢
      · exact ih l2 h.2 ht
      · cases hab
      · cases hab
      · exact hab

theorem tryOne_proj (hf : FrameMap n P f) (fuel fuel' : Nat) (p : Str) (objs1 objs2 : List Obj)
    (outer1 outer2 : Chain)
    (ih : ∀ (c1 c2 : Chain) (path : Str) (up : Bool),
      2 * path.length + c1.length < 2 * p.length + (objs1 :: outer1).length → c1.map P = c2.map P →
      (lexicalGet fuel c1 path n up).map (projRes P f) = (lexicalGet fuel' c2 path n up).map (projRes P f))
    (hc : (objs1 :: outer1).map P = (objs2 :: outer2).map P) (o1 o2 : Obj) (h : f o1 = f o2) :
    (tryOne fuel n p objs1 outer1 o1).map (projRes P f)
      = (tryOne fuel' n p objs2 outer2 o2).map (projRes P f) := by
  unfold tryOne
  rw [hf.name_eq h]
  split
  · simp only [Option.map_some, projRes, h, hc]
  · cases hs : stripPrefixDot o2.name p with
    | none => rfl
    | some sub =>
      have := stripPrefixDot_length hs
      apply ih
      · simp only [List.length_cons]; omega
      · simp only [List.map_cons, hf.hkids _ _ h, hc]

/-- Generic frame property: chains that agree after projection give lookups that agree after
    projection (same found object up to `f`, same enclosing chain up to `P`).  Of the fuel only what
    lies below the measure counts: every recursive call has a smaller one. -/
theorem lexicalGet_frame_gen (hf : FrameMap n P f) :
    ∀ (fuel fuel' : Nat) (c1 c2 : Chain) (path : Str) (up : Bool),
      min fuel (2 * path.length + c1.length + 1) = min fuel' (2 * path.length + c1.length + 1) →
      c1.map P = c2.map P →
      (lexicalGet fuel c1 path n up).map (projRes P f)
        = (lexicalGet fuel' c2 path n up).map (projRes P f) := by
  intro fuel
  induction fuel with
  | zero =>
    intro fuel' c1 c2 path up hm _
    obtain rfl : fuel' = 0 := by omega
    rfl
  | succ fuel ih =>
    intro fuel' c1 c2 path up hm h
    obtain ⟨g, rfl⟩ : ∃ k, fuel' = k + 1 := ⟨fuel' - 1, by omega⟩
    rw [lexicalGet_succ, lexicalGet_succ]
    obtain ⟨hc, hp⟩ := reroot_proj P c1 c2 path h
    have hr := reroot_measure c1 path
    rw [hp] at hr ⊢
    generalize (reroot c1 path).1 = d1 at hc hr ⊢
    generalize (reroot c2 path).1 = d2 at hc ⊢
    generalize (reroot c2 path).2 = p at hr ⊢
    cases d1 with
    | nil =>
      cases d2 with
      | nil => rfl
      | cons _ _ => simp at hc
    | cons objs1 outer1 =>
      cases d2 with
      | nil => simp at hc
      | cons objs2 outer2 =>
        have ih' : ∀ (c1' c2' : Chain) (path' : Str) (up' : Bool),
            2 * path'.length + c1'.length < 2 * p.length + (objs1 :: outer1).length → c1'.map P = c2'.map P →
            (lexicalGet fuel c1' path' n up').map (projRes P f)
              = (lexicalGet g c2' path' n up').map (projRes P f) :=
          fun c1' c2' path' up' hlt => ih g c1' c2' path' up' (by omega)
        obtain ⟨hl, ho⟩ := List.cons.inj hc
        have hfs := findSome_proj (f := f) (projRes P f) (tryOne fuel n p objs1 outer1)
          (tryOne g n p objs2 outer2) _ _ (cands_proj hf p objs1 objs2 hl)
          (tryOne_proj hf fuel g p objs1 objs2 outer1 outer2 ih' hc)
        simp only [lookupIn]
        cases r1 : ((visiblePrefix n objs1).filter (isCand p)).reverse.findSome?
            (tryOne fuel n p objs1 outer1) <;>
          cases r2 : ((visiblePrefix n objs2).filter (isCand p)).reverse.findSome?
            (tryOne g n p objs2 outer2) <;>
          simp only [r1, r2, Option.map_none, Option.map_some] at hfs ⊢
        · cases up
          · rfl
          · simp only [Bool.not_true, Bool.false_eq_true, ↓reduceIte]
            cases outer1 with
            | nil =>
              cases outer2 with
              | nil => rfl
              | cons _ _ => simp at ho
            | cons a1 b1 =>
              cases outer2 with
              | nil => simp at ho
              | cons a2 b2 => exact ih' _ _ p true (by simp only [List.length_cons]; omega) ho
        · cases hfs
        · cases hfs
        · exact hfs

end Frame

/-! ## 6. instances: shallow frame, deep frame, fuel adequacy -/

mutual
/-- remove, at every depth below `o`, everything from the first object with id ≥ `n` onwards -/
def pruneBeforeObj (n : Nat) : Obj → Obj
  | .defn m ws => .defn m ws
  | .scope m k => .scope m (pruneBeforeList n k)
/-- the visible prefix of a level, pruned recursively: all a lookup with `stopId = n` can ever see -/
def pruneBeforeList (n : Nat) : List Obj → List Obj
  | [] => []
  | o :: r => if vis n o then pruneBeforeObj n o :: pruneBeforeList n r else []
end

theorem pruneList_eq (n : Nat) (l : List Obj) :
    pruneBeforeList n l = (visiblePrefix n l).map (pruneBeforeObj n) := by
  induction l with
  | nil => simp [pruneBeforeList, visiblePrefix]
  | cons o r ih =>
    unfold visiblePrefix at ih ⊢
    by_cases h : vis n o = true
    · simp [pruneBeforeList, h, ih]
    · simp [pruneBeforeList, h]

theorem pruneObj_meta (n : Nat) (o : Obj) : (pruneBeforeObj n o).meta = o.meta := by
  cases o <;> simp [pruneBeforeObj, Obj.meta]

theorem pruneObj_isDefn (n : Nat) (o : Obj) : (pruneBeforeObj n o).isDefn = o.isDefn := by
  cases o <;> simp [pruneBeforeObj, Obj.isDefn]

theorem pruneObj_children (n : Nat) (o : Obj) : (pruneBeforeObj n o).children = pruneBeforeList n o.children := by
  cases o <;> simp [pruneBeforeObj, Obj.children, pruneBeforeList]

theorem frameMap_id (n : Nat) {P : List Obj → List Obj}
    (hP : ∀ l1 l2, P l1 = P l2 → visiblePrefix n l1 = visiblePrefix n l2) : FrameMap n P id :=
  ⟨fun _ => rfl, fun _ => rfl, fun l1 l2 h => by rw [hP l1 l2 h], fun _ _ h => by cases h; rfl⟩

theorem frameMap_prune (n : Nat) : FrameMap n (pruneBeforeList n) (pruneBeforeObj n) := by
  refine ⟨pruneObj_meta n, pruneObj_isDefn n, fun l1 l2 h => ?_, fun o1 o2 h => ?_⟩
  · rwa [pruneList_eq, pruneList_eq] at h
  · have := congrArg Obj.children h
    rwa [pruneObj_children, pruneObj_children] at this

/-- **Shallow frame property.**  Two chains of equal length whose levels have the same visible prefix
    (objects before the first one with id ≥ `stopId`) give the same lookup result: the same object,
    and enclosing chains that again agree on visible prefixes. -/
theorem lexicalGet_frame (fuel : Nat) (c1 c2 : Chain) (path : Str) (stopId : Nat) (up : Bool)
    (h : c1.map (visiblePrefix stopId) = c2.map (visiblePrefix stopId)) :
    (lexicalGet fuel c1 path stopId up).map (fun r => (r.1, r.2.map (visiblePrefix stopId)))
      = (lexicalGet fuel c2 path stopId up).map (fun r => (r.1, r.2.map (visiblePrefix stopId))) :=
  lexicalGet_frame_gen (frameMap_id stopId fun _ _ h => h) fuel fuel c1 c2 path up rfl h

/-- **Deep frame property.**  Chains that agree after pruning (at every depth) everything from the
    first object with id ≥ `stopId` onwards give the same lookup result up to pruning. -/
theorem lexicalGet_frame_deep (fuel : Nat) (c1 c2 : Chain) (path : Str) (stopId : Nat) (up : Bool)
    (h : c1.map (pruneBeforeList stopId) = c2.map (pruneBeforeList stopId)) :
    (lexicalGet fuel c1 path stopId up).map (fun r => (pruneBeforeObj stopId r.1, r.2.map (pruneBeforeList stopId)))
      = (lexicalGet fuel c2 path stopId up).map (fun r => (pruneBeforeObj stopId r.1, r.2.map (pruneBeforeList stopId))) :=
  lexicalGet_frame_gen (frameMap_prune stopId) fuel fuel c1 c2 path up rfl h

theorem lexicalGet_fuel_irrelevant (f f' : Nat) (c : Chain) (path : Str) (stopId : Nat) (up : Bool)
    (h : 2 * path.length + c.length < f) (h' : 2 * path.length + c.length < f') :
    lexicalGet f c path stopId up = lexicalGet f' c path stopId up := by
  have := lexicalGet_frame_gen (frameMap_id stopId (P := id) fun _ _ h => congrArg _ h) f f' c c path up (by omega) rfl
  simpa [show projRes id id = id from funext fun _ => by simp [projRes]] using this

/-- **Fuel adequacy.**  `2*|path| + |chain| + 1` (what `resolveWords` passes) is enough: any larger
    fuel gives the same lookup result. -/
theorem lexicalGet_fuel_adequate (f : Nat) (c : Chain) (path : Str) (stopId : Nat) (up : Bool)
    (h : 2 * path.length + c.length + 1 ≤ f) :
    lexicalGet f c path stopId up = lexicalGet (2 * path.length + c.length + 1) c path stopId up :=
  lexicalGet_fuel_irrelevant _ _ _ _ _ _ (by omega) (by omega)

/-! ## 7. backwards only: whatever a lookup finds is visible (id < stopId, or no id) -/

theorem mem_visiblePrefix_vis {n : Nat} {l : List Obj} {o : Obj} (h : o ∈ visiblePrefix n l) :
    vis n o = true := by
  have := List.all_takeWhile (l := l) (p := vis n)
  rw [List.all_eq_true] at this
  exact this o h

theorem lexicalGet_visible : ∀ (fuel : Nat) (c : Chain) (path : Str) (stopId : Nat) (up : Bool)
    (o : Obj) (ch : Chain), lexicalGet fuel c path stopId up = some (o, ch) → vis stopId o = true := by
  intro fuel
  induction fuel with
  | zero => intro c path stopId up o ch h; simp [lexicalGet] at h
  | succ fuel ih =>
    intro c path stopId up o ch h
    rw [lexicalGet_succ] at h
    generalize (reroot c path).1 = d at h
    generalize (reroot c path).2 = p at h
    cases d with
    | nil => simp [lookupIn] at h
    | cons objs outer =>
      simp only [lookupIn] at h
      split at h
      · rename_i r hr
        cases h
        obtain ⟨a, ha, hta⟩ := List.exists_of_findSome?_eq_some hr
        simp only [List.mem_reverse, List.mem_filter] at ha
        unfold tryOne at hta
        split at hta
        · cases hta; exact mem_visiblePrefix_vis ha.1
        · split at hta
          · cases hta
          · exact ih _ _ _ _ _ _ hta
      · split at h
        · cases h
        · split at h
          · cases h
          · exact ih _ _ _ _ _ _ h

theorem lexicalGet_id_lt (fuel : Nat) (c : Chain) (path : Str) (stopId : Nat) (up : Bool)
    (o : Obj) (ch : Chain) (i : Nat) (h : lexicalGet fuel c path stopId up = some (o, ch))
    (hi : o.meta.id = some i) : i < stopId := by
  have := lexicalGet_visible fuel c path stopId up o ch h
  simpa [vis, hi] using this

/-! ## 8. pruning is monotone: what is invisible at `b` is invisible at every `a ≤ b` -/

theorem vis_mono {a b : Nat} (h : a ≤ b) (o : Obj) (hv : vis a o = true) : vis b o = true := by
  unfold vis at hv ⊢
  cases hid : o.meta.id with
  | none => rfl
  | some i => simp [hid] at hv ⊢; omega

mutual
theorem pruneObj_pruneObj {a b : Nat} (h : a ≤ b) : ∀ o : Obj, pruneBeforeObj a (pruneBeforeObj b o) = pruneBeforeObj a o
  | .defn m ws => by simp [pruneBeforeObj]
  | .scope m k => by simp [pruneBeforeObj, pruneList_pruneList h k]
theorem pruneList_pruneList {a b : Nat} (h : a ≤ b) : ∀ l : List Obj, pruneBeforeList a (pruneBeforeList b l) = pruneBeforeList a l
  | [] => by simp [pruneBeforeList]
  | o :: r => by
    by_cases hb : vis b o = true
    · have hv : vis a (pruneBeforeObj b o) = vis a o := by
        unfold vis; rw [pruneObj_meta]
      by_cases ha : vis a o = true
      · simp [pruneBeforeList, hb, ha, hv, pruneObj_pruneObj h o, pruneList_pruneList h r]
      · simp [pruneBeforeList, hb, ha, hv]
    · have ha : ¬ vis a o = true := fun ha => hb (vis_mono h o ha)
      simp [pruneBeforeList, hb, ha]
end

theorem pruneChain_mono {a b : Nat} (h : a ≤ b) (c1 c2 : Chain)
    (hc : c1.map (pruneBeforeList b) = c2.map (pruneBeforeList b)) :
    c1.map (pruneBeforeList a) = c2.map (pruneBeforeList a) := by
  have := congrArg (List.map (pruneBeforeList a)) hc
  simpa [List.map_map, Function.comp_def, pruneList_pruneList h] using this

/-! ## 9. appending later objects -/

theorem visiblePrefix_append_later (n : Nat) (l extra : List Obj)
    (hx : ∀ o ∈ extra, vis n o = false) : visiblePrefix n (l ++ extra) = visiblePrefix n l := by
  unfold visiblePrefix
  induction l with
  | nil =>
    cases extra with
    | nil => rfl
    | cons e es => simp [hx e (by simp)]
  | cons o r ih =>
    by_cases h : vis n o = true
    · simp [h, ih]
    · simp [h]

theorem pruneList_append_later (n : Nat) (l extra : List Obj)
    (hx : ∀ o ∈ extra, vis n o = false) : pruneBeforeList n (l ++ extra) = pruneBeforeList n l := by
  rw [pruneList_eq, pruneList_eq, visiblePrefix_append_later n l extra hx]

theorem zipWith_append_later {n : Nat} {P : List Obj → List Obj}
    (hP : ∀ l extra, (∀ o ∈ extra, vis n o = false) → P (l ++ extra) = P l) :
    ∀ (c : Chain) (extras : List (List Obj)), (∀ e ∈ extras, ∀ o ∈ e, vis n o = false) →
      (List.zipWith (· ++ ·) c extras).map P = (c.take extras.length).map P := by
  intro c
  induction c with
  | nil => intro extras _; simp
  | cons l c ih =>
    intro extras hx
    cases extras with
    | nil => simp
    | cons e es =>
      simp only [List.zipWith_cons_cons, List.map_cons, List.length_cons, List.take_succ_cons]
      rw [hP l e (hx e (by simp)), ih es (fun e' he' => hx e' (by simp [he']))]

/-! ## 10. `$name` for a simple identifier is exactly one variable fragment -/

theorem isIdStart_ne_paren {d : Char} (h : isIdStart d = true) : d ≠ '(' := by
  intro e; subst e; revert h; decide
theorem simple_ne_dot {x : Char} (h : (isIdStart x || isDigit x) = true) : x ≠ '.' := by
  intro e; subst e; revert h; decide

theorem takeWhile_simple (rest : Str) (h : rest.all (fun d => isIdStart d || isDigit d) = true) :
    rest.takeWhile (fun x => x != '.' && isIdCont x) = rest := by
  induction rest with
  | nil => rfl
  | cons x xs ih =>
    simp only [List.all_cons, Bool.and_eq_true] at h
    have h1 := simple_ne_dot h.1
    have h2 : isIdCont x = true := by
      unfold isIdCont
      cases hs : isIdStart x
      · simp [hs] at h; simp [h.1]
      · simp
    rw [List.takeWhile_cons_of_pos (by simp [h1, h2]), ih h.2]

theorem fragmentsAux_dollar_ident (fuel : Nat) (d : Char) (rest : Str) (h1 : isIdStart d = true)
    (h2 : rest.all (fun d => isIdStart d || isDigit d) = true) :
    fragmentsAux (fuel + 2) ('$' :: d :: rest) [] [] = .ok ([.var (d :: rest)], true) := by
  have hp := isIdStart_ne_paren h1
  rw [fragmentsAux]
  simp only [bne_self_eq_false, Bool.false_eq_true, ↓reduceIte, List.isEmpty_nil]
  · simp only [h1, Bool.not_true, Bool.false_eq_true, ↓reduceIte, takeWhile_simple _ h2,
      List.drop_length, List.nil_append]
    rw [fragmentsAux]
    rfl
  · intro _ h; exact absurd h (by decide)

end Phil
