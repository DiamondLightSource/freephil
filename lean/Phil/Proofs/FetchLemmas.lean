/-
  Phil.Proofs.FetchLemmas — facts about scope.fetch on top of Proofs/FetchLoop.lean: the inputs of findings D8
  and D9 in the observable form their witnesses are stated in, the loop over the matching sources of one master
  definition in either mode (`defnOne_fold`) with "last value wins", and the parts of C04, C06, C07, C08 that
  hold of flat masters or of every fetch.
-/
import Phil.Proofs.FetchLoop
import Phil.Parse
import Phil.CmdLine
set_option linter.unusedVariables false
namespace Phil

/-! ## 6. the inputs of findings D8 and D9 and their observable forms (C07, C04) -/

/-! The instances the witnesses of Props/C04.lean and Props/C07.lean are stated on; apart from `errOf` and the
    two environments nothing below uses them. -/

/-- the error of a result, if any (decidable equality is available on `Option Err`) -/
def errOf {α : Type} : R α → Option Err
  | .error e => some e
  | .ok _ => none

theorem eq_error_of_errOf {α : Type} {r : R α} {e : Err} (h : errOf r = some e) : r = .error e := by
  cases r with
  | error e' => simp only [errOf, Option.some.injEq] at h; rw [h]
  | ok a => cases h

/-- an environment that answers nothing (`eval`/`"%.10g"` are not needed for bool/str values) -/
def envNone : Envs := { eval := fun _ => none, fmt := fun _ => none }

/-- an environment that knows the integers 1 and 2 -/
def env12 : Envs :=
  { eval := fun s => match s with
      | ['1'] => some (.num (.int 1)) | ['2'] => some (.num (.int 2)) | _ => none,
    fmt := fun n => match n with | .int 1 => some ['1'] | .int 2 => some ['2'] | _ => none }

/-- number of non-template children called `name` -/
def countInst (name : Str) (o : Obj) : Nat :=
  (o.children.filter (fun k => k.name == name && k.meta.tmpl == 0)).length

/-- `s .multiple=True { d = yes .type=bool .multiple=True }` as `parseObjs` returns it -/
def w1Master : List Obj :=
  [.scope { name := ['s'], id := some 1, line := some 1, attrs := [("multiple", .bool true)] }
    [.defn { name := ['d'], id := some 2, line := some 4,
             attrs := [("type", .conv .bool), ("multiple", .bool true)] }
       [{ value := ['y', 'e', 's'], line := some 4 }]]]

/-- `s { d = no }` as `parseObjs` returns it -/
def w1Source : List Obj :=
  [.scope { name := ['s'], id := some 1, line := some 1 }
    [.defn { name := ['d'], id := some 2, line := some 2 } [{ value := ['n', 'o'], line := some 2 }]]]

/-- fetch, fetch again from the children of the result, and compare the numbers of `s` instances -/
def refetchCounts (e : Envs) (master source : List Obj) : Option (Nat × Nat) :=
  match fetchRoot e false master [source] with
  | .ok (r1, _) =>
    (match fetchRoot e false master [r1.children] with
     | .ok (r2, _) => some (countInst ['s'] r1, countInst ['s'] r2)
     | .error _ => none)
  | .error _ => none

/-- the master key of a `.multiple` scope is rendered from the scope's own fetch, so the non-canonical
    default `yes` does not make the second fetch duplicate the instance (finding D8, repaired in
    freephil by bcaa855 together with D9: before the repair the counts were `(1, 2)`) -/
theorem refetch_stable_nested : refetchCounts envNone w1Master w1Source = some (1, 1) := by
  decide +kernel

def w1MasterText : String := "s\n.multiple=True\n{\n  d = yes\n  .type=bool\n  .multiple=True\n}\n"
def w1SourceText : String := "s {\n d = no\n}\n"

/-- the same witness stated on the parser's output for the texts -/
def refetchCountsText (e : Envs) (mt st : String) : Option (Nat × Nat) :=
  match parseObjs mt.toList, parseObjs st.toList with
  | .ok m, .ok s => refetchCounts e m s
  | _, _ => none

/-- The kernel reads a string literal as `String.ofList` of its characters; through this lemma the
    texts are parsed without evaluating `String.toList`, which in the kernel is quadratic in the
    length. -/
theorem refetchCountsText_ofList (e : Envs) (lm ls : List Char) :
    refetchCountsText e (String.ofList lm) (String.ofList ls) =
      match parseObjs lm, parseObjs ls with
      | .ok m, .ok s => refetchCounts e m s
      | _, _ => none := by
  rw [refetchCountsText, String.toList_ofList, String.toList_ofList]

/-- `s .multiple=True { d = 1 .multiple=True .type=int ; d = 2 }` as `parseObjs` returns it -/
def w2Master : List Obj :=
  [.scope { name := ['s'], id := some 1, line := some 1, attrs := [("multiple", .bool true)] }
    [.defn { name := ['d'], id := some 2, line := some 4,
             attrs := [("multiple", .bool true), ("type", .conv (.int {}))] }
       [{ value := ['1'], line := some 4 }],
     .defn { name := ['d'], id := some 3, line := some 7 } [{ value := ['2'], line := some 7 }]]]

/-- compact observable form of an object tree: for every object (depth first) its dotted path (a
    disabled object's name is preceded by `!`), its template mark and the values of its words (none
    for a scope) -/
def obsObj : Nat → Str → Obj → List (Str × Int × List Str)
  | 0, _, _ => []
  | _ + 1, pre, .defn m ws =>
    [(pre ++ (if m.disabled then '!' :: m.name else m.name), m.tmpl, ws.map (fun (w : Word) => w.value))]
  | f + 1, pre, .scope m kids =>
    (pre ++ (if m.disabled then '!' :: m.name else m.name), m.tmpl, []) ::
      kids.flatMap (obsObj f (pre ++ m.name ++ ['.']))

/-- the observable form of the children of a fetch result; `none` when the fetch fails -/
def obsFetch (e : Envs) (diff : Bool) (master : List Obj) (sources : List (List Obj)) :
    Option (List (Str × Int × List Str)) :=
  match fetchRoot e diff master sources with
  | .ok (r, _) => some (r.children.flatMap (obsObj 8 []))
  | .error _ => none

/-- the same on the parser's output for texts -/
def obsFetchText (e : Envs) (diff : Bool) (mt : String) (sts : List String) :
    Option (List (Str × Int × List Str)) :=
  match parseObjs mt.toList, sts.mapM (fun (s : String) => parseObjs s.toList) with
  | .ok m, .ok ss => obsFetch e diff m ss
  | _, _ => none

/-- the master text given by its characters (see `refetchCountsText_ofList`) -/
theorem obsFetchText_ofList (e : Envs) (diff : Bool) (l : List Char) (sts : List String) :
    obsFetchText e diff (String.ofList l) sts =
      match parseObjs l, sts.mapM (fun (s : String) => parseObjs s.toList) with
      | .ok m, .ok ss => obsFetch e diff m ss
      | _, _ => none := by
  rw [obsFetchText, String.toList_ofList]

def w2MasterText : String :=
  "s\n.multiple=True\n{\n  d = 1\n  .multiple=True\n  .type=int\n  d = 2\n}\n"

/-! ## 7. the loop over the matching sources of one master definition; last value wins (C05.6) -/

def Obj.words : Obj → List Word
  | .defn _ ws => ws
  | .scope _ _ => []

/-- the words a source definition contributes: the resolved words recorded by
    `resolve_variables` (`Meta.varRes = some (.ok rws refs)`), else its own words -/
def Obj.srcWords (o : Obj) : List Word :=
  match o.meta.varRes with
  | some (.ok rws _) => rws
  | _ => o.words

/-- a source object whose variable resolution succeeds in the model: a successful resolution is
    recorded, or nothing is recorded and the words contain no live `$` -/
def SrcOK (o : Obj) : Prop :=
  (∃ rws refs, o.meta.varRes = some (.ok rws refs)) ∨ (o.meta.varRes = none ∧ hasDollar o.words = false)

theorem srcWords_of_varRes_none (o : Obj) (h : o.meta.varRes = none) : o.srcWords = o.words := by
  unfold Obj.srcWords; rw [h]

theorem SrcOK.of_none {o : Obj} (h : o.meta.varRes = none) (hd : hasDollar o.words = false) : SrcOK o :=
  .inr ⟨h, hd⟩

theorem srcWordsR_ok (sm : Meta) (sws : List Word) (h : SrcOK (.defn sm sws)) :
    srcWordsR sm sws = .ok (Obj.defn sm sws).srcWords := by
  unfold srcWordsR Obj.srcWords
  rcases h with ⟨rws, refs, h⟩ | ⟨h, hd⟩
  · simp only [Obj.meta] at h ⊢; rw [h]
  · simp only [Obj.meta, Obj.words] at h hd ⊢; rw [h]; simp only [hd, Bool.false_eq_true, if_false]

/-- the master definition `mo` with the words of the last element of `l`; `mo` itself if `l = []` -/
def lastWins (mo : Obj) (l : List Obj) : Obj :=
  match l.getLast? with
  | some d => .defn { mo.meta with tmpl := 0 } d.srcWords
  | none => mo

/-- a plain master definition: not `.multiple`, not `.deprecated`, not a choice -/
structure PlainMeta (mm : Meta) : Prop where
  notMultiple : (mm.attrs.get "multiple").truthy = false
  notDeprecated : (mm.attrs.get "deprecated").truthy = false
  notChoice : ∀ b, mm.attrs.get "type" ≠ .conv (.choice b)

/-- a master definition that takes the words of its source (`.multiple` or not): not `.deprecated`, not a
    choice -/
structure DefnMeta (mm : Meta) : Prop where
  notDeprecated : (mm.attrs.get "deprecated").truthy = false
  notChoice : ∀ b, mm.attrs.get "type" ≠ .conv (.choice b)

theorem DefnMeta.plain {mm : Meta} (h : DefnMeta mm) (hm : (mm.attrs.get "multiple").truthy = false) :
    PlainMeta mm := ⟨hm, h.notDeprecated, h.notChoice⟩

theorem fetchValueW_ok (mm : Meta) (mws sws : List Word) (hp : DefnMeta mm) :
    fetchValueW mm mws sws = .ok (some (.defn { mm with tmpl := 0 } sws)) := by
  -- `hch` discharges the side condition of the fall-through case of the `match` on the type
  have hch := hp.notChoice
  simp only [fetchValueW, hp.notDeprecated, Bool.false_and, Bool.false_eq_true, if_false]

theorem fetchValue_defnMeta (mm : Meta) (mws : List Word) (sm : Meta) (sws : List Word)
    (hp : DefnMeta mm) (hok : SrcOK (.defn sm sws)) :
    fetchValue (.defn mm mws) (.defn sm sws) =
      .ok (some (.defn { mm with tmpl := 0 } (Obj.defn sm sws).srcWords)) := by
  rw [fetchValue_defn, srcWordsR_ok sm sws hok]
  exact fetchValueW_ok mm mws _ hp

def incompatibleErr : Err := .runtime "incompatible" none

/-- what `definition.fetch_value` raises for one matching source object before it looks at the
    master's type: a source scope is "incompatible"; a source definition raises what its
    `resolve_variables` raised (recorded in `Meta.varRes`) -/
def srcErrOf : Obj → Option Err
  | .scope _ _ => some incompatibleErr
  | .defn m ws =>
    match srcWordsR m ws with
    | .error e => some e
    | .ok _ => none

theorem srcWordsR_of_srcErrOf {dm : Meta} {dws : List Word} {E : Err}
    (h : srcErrOf (.defn dm dws) = some E) : srcWordsR dm dws = .error E := by
  simp only [srcErrOf] at h
  split at h
  · cases h; assumption
  · cases h

theorem srcOK_of_srcErrOf_none (dm : Meta) (dws : List Word) (h : srcErrOf (.defn dm dws) = none) :
    SrcOK (.defn dm dws) := by
  simp only [srcErrOf, srcWordsR] at h
  unfold SrcOK
  simp only [Obj.meta, Obj.words]
  cases hv : dm.varRes with
  | none =>
    rw [hv] at h
    simp only at h
    right
    refine ⟨rfl, ?_⟩
    cases hd : hasDollar dws with
    | false => rfl
    | true => rw [hd] at h; simp at h
  | some r =>
    cases r with
    | ok rws refs => exact .inl ⟨rws, refs, rfl⟩
    | err site line => rw [hv] at h; simp at h

theorem findSome_srcErrOf_ok : ∀ (l : List Obj), (∀ o ∈ l, o.isDefn = true → SrcOK o) →
    l.findSome? srcErrOf = if l.all Obj.isDefn then none else some incompatibleErr
  | [], _ => rfl
  | o :: os, h => by
    rw [List.findSome?_cons, List.all_cons]
    cases o with
    | scope m k => rfl
    | defn m ws =>
      have h1 : srcErrOf (.defn m ws) = none := by
        simp only [srcErrOf, srcWordsR_ok m ws (h (.defn m ws) List.mem_cons_self rfl)]
      rw [h1, findSome_srcErrOf_ok os (fun o ho => h o (List.mem_cons_of_mem _ ho))]
      rfl

/-- the value a result carries, if any -/
def valOfC : R (Option Obj) → Option Obj
  | .ok v => v
  | .error _ => none

theorem eq_errOf_valOfC (r : R (Option Obj)) :
    r = match errOf r with
      | some E => .error E
      | none => .ok (valOfC r) := by
  cases r <;> rfl

/-- **the loop over the matching sources of ONE non-multiple master definition**, in either mode, given what
    `definition.fetch` raises (`c`) or else yields (`val`) on each of them: it stops at the first source that
    fails, else carries out the value of the last source; every source is marked -/
theorem defnOne_fold (e : Envs) (fuel : Nat) (diff : Bool) (mo : Obj) (c : Obj → Option Err)
    (val : Obj → Option Obj) :
    ∀ (l : List Obj) (init : Option Obj) (used : List Nat),
      (∀ d ∈ l, fetchDefn e fuel diff mo d = match c d with
        | some E => .error E
        | none => .ok (val d)) →
      l.foldlM (defnOne e fuel diff mo) (init, used) =
        match l.findSome? c with
        | some E => .error E
        | none => .ok (l.getLast?.elim init val, used ++ l.flatMap marksOf) := by
  intro l
  induction l with
  | nil => intro init used _; simp; rfl
  | cons d l ih =>
    intro init used hV
    rw [List.foldlM_cons, List.findSome?_cons, defnOne, hV d List.mem_cons_self]
    cases c d with
    | some E => rfl
    | none =>
      show l.foldlM _ (val d, used ++ idOf d ++ srcRefs d) = _
      rw [ih _ _ (fun d' hd' => hV d' (List.mem_cons_of_mem _ hd')), List.getLast?_cons]
      cases l.findSome? c with
      | some E => rfl
      | none => cases l.getLast? <;> simp [marksOf]

theorem fetchDefn_nodiff_plain (e : Envs) (fuel : Nat) (mm : Meta) (mws : List Word) (hp : DefnMeta mm) (d : Obj) :
    fetchDefn e fuel false (.defn mm mws) d =
      match srcErrOf d with
      | some E => .error E
      | none => .ok (some (.defn { mm with tmpl := 0 } d.srcWords)) := by
  rw [fetchDefn_nodiff]
  cases d with
  | scope m k => rfl
  | defn dm dws =>
    cases hE : srcErrOf (.defn dm dws) with
    | some E => rw [fetchValue_defn, srcWordsR_of_srcErrOf hE]
    | none => exact fetchValue_defnMeta mm mws dm dws hp (srcOK_of_srcErrOf_none dm dws hE)

theorem fetchMatching_flat (fuel : Nat) (sm : Meta) (combined : List Obj) (mo : Obj)
    (hsd : sm.disabled = false) (hname : mo.name ≠ [])
    (hdef : ∀ o ∈ combined, o.isDefn = true) :
    fetchMatching fuel sm combined mo = activeNamed mo.name combined := by
  refine fetchMatching_eq fuel sm combined mo hsd hname (fun k hk hd => ?_)
  cases k with
  | scope m kids => cases hdef _ hk
  | defn m ws =>
    rw [getWithoutSubst_defn, show m.disabled = false from hd]
    rfl

theorem fetchMatching_tree (fuel : Nat) (sm : Meta) (combined : List Obj) (mo : Obj)
    (hsd : sm.disabled = false) (hname : mo.name ≠ []) (hdot : '.' ∉ mo.name)
    (hsc : ∀ m kids, Obj.scope m kids ∈ combined → m.disabled = false → m.name ≠ []) :
    fetchMatching fuel sm combined mo = activeNamed mo.name combined := by
  refine fetchMatching_eq fuel sm combined mo hsd hname (fun k hk hd => ?_)
  cases k with
  | scope m kids => exact getWithoutSubst_scope_dotfree _ m kids _ hd (hsc m kids hk hd) hdot
  | defn m ws =>
    rw [getWithoutSubst_defn, show m.disabled = false from hd]
    rfl

theorem stepG_plain_of_matching (F : FetchFn) (e : Envs) (fuel : Nat) (sm : Meta)
    (mkids combined M : List Obj) (st : List Obj × List Nat) (idx : Nat) (mm : Meta) (mws : List Word)
    (hp : PlainMeta mm) (hmatch : fetchMatching fuel sm combined (.defn mm mws) = M) :
    stepG F e fuel false sm mkids combined st (idx, .defn mm mws) =
      match M.findSome? srcErrOf with
      | some E => .error E
      | none => .ok (st.1 ++ [lastWins (.defn mm mws) M], st.2 ++ M.flatMap marksOf) := by
  rw [stepG_defn _ _ _ _ _ _ _ _ _ _ _ hp.notMultiple, hmatch,
    defnOne_fold e fuel false _ _ _ M none st.2
      (fun d _ => fetchDefn_nodiff_plain e fuel mm mws ⟨hp.notDeprecated, hp.notChoice⟩ d)]
  cases M.findSome? srcErrOf with
  | some E => rfl
  | none =>
    unfold lastWins
    cases M.getLast? with
    | none => simp [defnFinish, hp.notDeprecated]
    | some d => simp [defnFinish, Obj.meta]

/-- **C05.6 (one master child).**  In non-diff mode, with definition-only sources whose
    variable resolution succeeds (`SrcOK`), the step of the master loop for a plain master
    definition appends the master definition carrying the (resolved) words of the last enabled
    source definition of that name (the master definition itself if there is none), and marks all
    those source definitions as used together with the ids consulted for them (`marksOf`). -/
theorem last_wins_step (F : FetchFn) (e : Envs) (fuel : Nat) (sm : Meta) (mkids combined : List Obj)
    (st : List Obj × List Nat) (idx : Nat) (mm : Meta) (mws : List Word)
    (hsd : sm.disabled = false) (hname : mm.name ≠ []) (hp : PlainMeta mm)
    (hdef : ∀ o ∈ combined, o.isDefn = true) (hsrc : ∀ o ∈ combined, SrcOK o) :
    stepG F e fuel false sm mkids combined st (idx, .defn mm mws) =
      .ok (st.1 ++ [lastWins (.defn mm mws) (activeNamed mm.name combined)],
           st.2 ++ (activeNamed mm.name combined).flatMap marksOf) := by
  have hm : fetchMatching fuel sm combined (.defn mm mws) = activeNamed mm.name combined :=
    fetchMatching_flat fuel sm combined (.defn mm mws) hsd hname hdef
  have hD : ∀ o ∈ activeNamed mm.name combined, o ∈ combined := fun o ho => (List.mem_filter.mp ho).1
  rw [stepG_plain_of_matching F e fuel sm mkids combined _ st idx mm mws hp hm,
    findSome_srcErrOf_ok _ (fun o ho _ => hsrc o (hD o ho)),
    if_pos (List.all_eq_true.mpr (fun o ho => hdef o (hD o ho)))]

/-! ## 8. the result is a sequence of blocks, one per active master child, in master order (C04.3) -/

/-- pointwise relation between two lists of the same length -/
inductive Forall2 {α β : Type} (Q : α → β → Prop) : List α → List β → Prop
  | nil : Forall2 Q [] []
  | cons {a : α} {b : β} {l : List α} {bs : List β} : Q a b → Forall2 Q l bs → Forall2 Q (a :: l) (b :: bs)

theorem Forall2.imp {α β : Type} {Q Q' : α → β → Prop} (himp : ∀ a b, Q a b → Q' a b)
    {l : List α} {bs : List β} (h : Forall2 Q l bs) : Forall2 Q' l bs := by
  induction h with
  | nil => exact .nil
  | cons hq _ ih => exact .cons (himp _ _ hq) ih

theorem Forall2.map {α β α' β' : Type} {Q : α → β → Prop} (f : α → α') (g : β → β')
    {l : List α} {bs : List β} (h : Forall2 Q l bs) (Q' : α' → β' → Prop)
    (himp : ∀ a b, Q a b → Q' (f a) (g b)) : Forall2 Q' (l.map f) (bs.map g) := by
  induction h with
  | nil => exact .nil
  | cons hq _ ih => exact .cons (himp _ _ hq) ih

theorem Forall2.length_eq {α β : Type} {Q : α → β → Prop} {l : List α} {bs : List β}
    (h : Forall2 Q l bs) : l.length = bs.length := by
  induction h with
  | nil => rfl
  | cons _ _ ih => simp [ih]

theorem foldlM_blocks {α β γ : Type} (f : (List γ × β) → α → R (List γ × β)) (Q : α → List γ → Prop) :
    ∀ (l : List α),
      (∀ st a st', a ∈ l → f st a = .ok st' → ∃ new, st'.1 = st.1 ++ new ∧ Q a new) →
      ∀ (init r : List γ × β), l.foldlM f init = .ok r →
        ∃ blocks, r.1 = init.1 ++ blocks.flatten ∧ Forall2 Q l blocks := by
  intro l
  induction l with
  | nil =>
    intro _ init r h
    simp only [List.foldlM_nil] at h
    cases h
    exact ⟨[], by simp, .nil⟩
  | cons a l ih =>
    intro hstep init r h
    rw [List.foldlM_cons] at h
    cases hf : f init a with
    | error err => rw [hf] at h; cases h
    | ok st' =>
      rw [hf] at h
      obtain ⟨new, hnew, hq⟩ := hstep init a st' List.mem_cons_self hf
      obtain ⟨blocks, hb, hall⟩ := ih (fun st a' st'' ha' => hstep st a' st'' (List.mem_cons_of_mem _ ha')) st' r h
      refine ⟨new :: blocks, ?_, .cons hq hall⟩
      rw [hb, hnew]
      simp

theorem forall₂_mem_split {α β : Type} {Q : α → β → Prop} {l : List α} {bs : List β}
    (h : Forall2 Q l bs) {a : α} (ha : a ∈ l) :
    ∃ bs1 b bs2, bs = bs1 ++ b :: bs2 ∧ Q a b := by
  induction h with
  | nil => cases ha
  | @cons a' b' l' bs' hq _ ih =>
    rw [List.mem_cons] at ha
    rcases ha with ha | ha
    · subst ha
      exact ⟨[], b', bs', rfl, hq⟩
    · obtain ⟨bs1, b, bs2, hbs, hqb⟩ := ih ha
      exact ⟨b' :: bs1, b, bs2, by rw [hbs]; rfl, hqb⟩

theorem fetch_blocks_of (e : Envs) (fuel : Nat) (diff : Bool) (sm : Meta) (mkids combined : List Obj)
    (Q : Nat × Obj → List Obj → Prop)
    (hstep : ∀ fuel' st a st', stepG (fetchScope e fuel') e fuel' diff sm mkids combined st a = .ok st' →
      ∃ new, st'.1 = st.1 ++ new ∧ Q a new)
    (rm : Meta) (out : List Obj) (used : List Nat)
    (h : fetchScope e fuel diff sm mkids combined = .ok (.scope rm out, used)) :
    ∃ actives blocks, masterActiveObjects mkids = .ok actives ∧ out = blocks.flatten ∧
      Forall2 Q actives blocks := by
  cases fuel with
  | zero => cases h
  | succ fuel =>
    rw [fetchScope_succ] at h
    split at h
    · cases h
    · rename_i actives hact
      obtain ⟨out', hfold, hro⟩ := fetchFinish_ok h
      cases hro
      obtain ⟨blocks, hb, hall⟩ := foldlM_blocks _ Q actives
        (fun st a st' _ hf => hstep fuel st a st' hf) _ _ hfold
      exact ⟨actives, blocks, hact, by simpa using hb, hall⟩

/-- **C04.3 (block form).**  The children of a fetch result are the concatenation of one block per
    active master child, in the order of `masterActiveObjects`; every object of a block carries the
    declaration of its master child. -/
theorem fetch_blocks (e : Envs) (fuel : Nat) (diff : Bool) (sm : Meta) (mkids combined : List Obj)
    (rm : Meta) (out : List Obj) (used : List Nat)
    (h : fetchScope e fuel diff sm mkids combined = .ok (.scope rm out, used)) :
    ∃ actives blocks, masterActiveObjects mkids = .ok actives ∧ out = blocks.flatten ∧
      Forall2 (fun (io : Nat × Obj) (block : List Obj) => ∀ o ∈ block, SameDecl io.2 o)
        actives blocks :=
  fetch_blocks_of e fuel diff sm mkids combined _
    (fun fuel' st a st' hf =>
      stepG_shape e fuel' diff sm mkids combined st a st' hf)
    rm out used h

/-- remove consecutive duplicates -/
def dedupAdj : List Str → List Str
  | [] => []
  | [a] => [a]
  | a :: b :: rest => if a == b then dedupAdj (b :: rest) else a :: dedupAdj (b :: rest)

theorem dedupAdj_cons (a : Str) (l : List Str) :
    dedupAdj (a :: l) = if l.head? = some a then dedupAdj l else a :: dedupAdj l := by
  cases l with
  | nil => simp [dedupAdj]
  | cons b rest =>
    simp only [dedupAdj, List.head?_cons, Option.some.injEq]
    by_cases hab : a = b
    · subst hab; simp
    · have : (a == b) = false := by simpa using hab
      simp [this, Ne.symm hab]

/-- a block of copies of `n` in front of `X` contributes `n` at most once; if it does, it starts
    with `n` (which is what the induction needs) -/
theorem dedupAdj_block (n : Str) : ∀ (b : List Str), (∀ x ∈ b, x = n) → ∀ (X : List Str),
    dedupAdj (b ++ X) = dedupAdj X ∨
      (dedupAdj (b ++ X) = n :: dedupAdj X ∧ (b ++ X).head? = some n) := by
  intro b
  induction b with
  | nil => intro _ X; exact .inl rfl
  | cons a b ih =>
    intro hb X
    obtain rfl : a = n := hb a List.mem_cons_self
    rw [List.cons_append, dedupAdj_cons]
    rcases ih (fun x hx => hb x (List.mem_cons_of_mem _ hx)) X with h' | ⟨h', hh⟩
    · split
      · exact .inl h'
      · exact .inr ⟨by rw [h'], rfl⟩
    · rw [if_pos hh]
      exact .inr ⟨h', rfl⟩

theorem dedupAdj_blocks_sublist : ∀ (ns : List Str) (blocks : List (List Str)),
    Forall2 (fun n (b : List Str) => ∀ x ∈ b, x = n) ns blocks →
    (dedupAdj blocks.flatten).Sublist ns := by
  intro ns blocks h
  induction h with
  | nil => simp [dedupAdj]
  | @cons n b ns' bs' hq _ ih =>
    rw [List.flatten_cons]
    rcases dedupAdj_block n b hq bs'.flatten with h' | ⟨h', _⟩
    · rw [h']; exact ih.cons _
    · rw [h']; exact ih.cons_cons _

/-- **C04.3** the names of the result's children, consecutive duplicates removed, form a sublist of
    the names of the active master children in master order -/
theorem fetch_order (e : Envs) (fuel : Nat) (diff : Bool) (sm : Meta) (mkids combined : List Obj)
    (rm : Meta) (out : List Obj) (used : List Nat)
    (h : fetchScope e fuel diff sm mkids combined = .ok (.scope rm out, used)) :
    ∃ actives, masterActiveObjects mkids = .ok actives ∧
      (dedupAdj (out.map Obj.name)).Sublist (actives.map (fun io => io.2.name)) := by
  obtain ⟨actives, blocks, hact, hout, hall⟩ := fetch_blocks e fuel diff sm mkids combined rm out used h
  refine ⟨actives, hact, ?_⟩
  subst hout
  rw [List.map_flatten]
  apply dedupAdj_blocks_sublist
  refine hall.map (fun io => io.2.name) (List.map Obj.name) _ ?_
  intro io block hb x hx
  rw [List.mem_map] at hx
  obtain ⟨o, ho, hox⟩ := hx
  rw [← hox]
  exact (hb o ho).name

/-! ## 9. last value wins at the level of `fetchScope`; flat masters; partial idempotence (C05.6, C07.8) -/

/-- **C05.6** (any master).  Under the hypotheses of `last_wins_step`, the result of a non-diff root-level
    fetch contains, for every active plain master definition, the master definition with the words
    of the last enabled source definition of that name (or the master definition itself). -/
theorem last_wins (e : Envs) (fuel : Nat) (sm : Meta) (mkids combined : List Obj)
    (rm : Meta) (out : List Obj) (used : List Nat)
    (hsm : sm.name = []) (hsd : sm.disabled = false)
    (hdef : ∀ o ∈ combined, o.isDefn = true) (hsrc : ∀ o ∈ combined, SrcOK o)
    (h : fetchScope e fuel false sm mkids combined = .ok (.scope rm out, used))
    (actives : List (Nat × Obj)) (hact : masterActiveObjects mkids = .ok actives)
    (idx : Nat) (mm : Meta) (mws : List Word) (hmem : (idx, Obj.defn mm mws) ∈ actives)
    (hname : mm.name ≠ []) (hp : PlainMeta mm) :
    ∃ pre post, out = pre ++ lastWins (.defn mm mws) (activeNamed mm.name combined) :: post := by
  obtain ⟨actives', blocks, hact', hout, hall⟩ := fetch_blocks_of e fuel false sm mkids combined
    (fun io block => io = (idx, .defn mm mws) → block = [lastWins (.defn mm mws) (activeNamed mm.name combined)])
    (by
      intro fuel' st a st' hf
      obtain ⟨new, hnew, _⟩ := stepG_shape e fuel' false sm mkids combined st a st' hf
      refine ⟨new, hnew, ?_⟩
      rintro rfl
      rw [last_wins_step _ e fuel' sm mkids combined st idx mm mws hsd hname hp hdef hsrc] at hf
      cases hf
      exact (List.append_cancel_left hnew).symm)
    rm out used h
  rw [hact] at hact'
  cases hact'
  obtain ⟨bs1, b, bs2, hbs, hq⟩ := forall₂_mem_split hall hmem
  refine ⟨bs1.flatten, bs2.flatten, ?_⟩
  rw [hout, hbs, hq rfl]
  simp

/-- a flat master: enabled plain definitions with non-empty, pairwise distinct names -/
structure FlatMaster (mkids : List Obj) : Prop where
  plain : ∀ mo ∈ mkids, ∃ mm mws, mo = .defn mm mws ∧ PlainMeta mm ∧ mm.name ≠ [] ∧ mm.disabled = false
  distinct : (mkids.map Obj.name).Pairwise (· ≠ ·)

theorem masterActive_flat (mkids : List Obj) (hf : FlatMaster mkids) :
    masterActiveObjects mkids = .ok (indexed mkids) :=
  masterActive_of_distinct mkids (fun o ho => by obtain ⟨mm, mws, rfl, _, _, hd⟩ := hf.plain o ho; exact hd)
    hf.distinct

/-- the children of the result of a flat fetch -/
def flatResult (mkids combined : List Obj) : List Obj :=
  mkids.map (fun mo => lastWins mo (activeNamed mo.name combined))

def flatUsed (mkids combined : List Obj) : List Nat :=
  mkids.flatMap (fun mo => (activeNamed mo.name combined).flatMap marksOf)

/-- **flat masters: complete description of the result** (in particular the fetch cannot fail) -/
theorem fetch_flat (e : Envs) (fuel : Nat) (sm : Meta) (mkids combined : List Obj)
    (hf : FlatMaster mkids) (hsm : sm.name = []) (hsd : sm.disabled = false)
    (hdef : ∀ o ∈ combined, o.isDefn = true) (hsrc : ∀ o ∈ combined, SrcOK o) :
    fetchScope e (fuel + 1) false sm mkids combined =
      .ok (.scope { sm with tmpl := 0 } (flatResult mkids combined), flatUsed mkids combined) := by
  unfold flatResult
  rw [List.map_eq_flatMap]
  refine fetchScope_of_steps_ok e fuel false sm mkids combined _ _ (masterActive_flat mkids hf) ?_
  intro st i mo hmem
  obtain ⟨mm, mws, rfl, hp, hname, _⟩ := hf.plain mo (snd_mem_of_mem_indexed hmem)
  exact last_wins_step _ e fuel sm mkids combined st i mm mws hsd hname hp hdef hsrc

theorem lastWins_name (mo : Obj) (l : List Obj) : (lastWins mo l).name = mo.name := by
  unfold lastWins; cases l.getLast? <;> rfl

theorem lastWins_disabled (mo : Obj) (l : List Obj) :
    (lastWins mo l).meta.disabled = mo.meta.disabled := by
  unfold lastWins; cases l.getLast? <;> rfl

theorem lastWins_isDefn (mo : Obj) (l : List Obj) (h : mo.isDefn = true) : (lastWins mo l).isDefn = true := by
  unfold lastWins; cases l.getLast? <;> first | rfl | exact h

theorem activeNamed_append (n : Str) (a b : List Obj) :
    activeNamed n (a ++ b) = activeNamed n a ++ activeNamed n b := by
  unfold activeNamed; rw [List.filter_append]

theorem activeNamed_block {n m : Str} {B : List Obj}
    (hB : ∀ o ∈ B, o.name = m ∧ o.meta.disabled = false) :
    activeNamed n B = if m = n then B else [] := by
  unfold activeNamed
  split
  · rw [List.filter_eq_self]
    intro o ho
    simp [hB o ho, *]
  · rw [List.filter_eq_nil_iff]
    intro o ho
    simp [hB o ho, *]

theorem activeNamed_flatMap_of_distinct {α : Type} (nm : α → Str) (f : α → List Obj) :
    ∀ (l : List α), (l.map nm).Pairwise (· ≠ ·) →
      (∀ a ∈ l, ∀ o ∈ f a, o.name = nm a ∧ o.meta.disabled = false) →
      ∀ a ∈ l, activeNamed (nm a) (l.flatMap f) = f a := by
  intro l
  induction l with
  | nil => intro _ _ a ha; cases ha
  | cons b l ih =>
    intro hpw hB a ha
    rw [List.map_cons, List.pairwise_cons] at hpw
    have hpw1 : ∀ c ∈ l, nm b ≠ nm c := fun c hc => hpw.1 _ (List.mem_map.mpr ⟨c, hc, rfl⟩)
    have hBl : ∀ c ∈ l, ∀ o ∈ f c, o.name = nm c ∧ o.meta.disabled = false :=
      fun c hc => hB c (List.mem_cons_of_mem _ hc)
    rw [List.flatMap_cons, activeNamed_append, activeNamed_block (hB b List.mem_cons_self)]
    rcases List.mem_cons.mp ha with rfl | ha
    · have h2 : activeNamed (nm a) (l.flatMap f) = [] := by
        unfold activeNamed
        rw [List.filter_eq_nil_iff]
        intro o ho
        obtain ⟨c, hc, ho'⟩ := List.mem_flatMap.mp ho
        simp [(hBl c hc o ho').1, (hpw1 c hc).symm]
      rw [if_pos rfl, h2, List.append_nil]
    · rw [if_neg (hpw1 a ha), List.nil_append]
      exact ih hpw.2 hBl a ha

theorem activeNamed_flatMap_distinct (B : Obj → List Obj) (l : List Obj) :
    (l.map Obj.name).Pairwise (· ≠ ·) →
      (∀ mo ∈ l, ∀ o ∈ B mo, o.name = mo.name ∧ o.meta.disabled = false) →
      ∀ mo ∈ l, activeNamed mo.name (l.flatMap B) = B mo :=
  activeNamed_flatMap_of_distinct Obj.name B l

theorem activeNamed_map_distinct (f : Obj → Obj) (hname : ∀ o, (f o).name = o.name)
    (hdis : ∀ o, (f o).meta.disabled = o.meta.disabled) :
    ∀ (l : List Obj), (l.map Obj.name).Pairwise (· ≠ ·) → (∀ o ∈ l, o.meta.disabled = false) →
      ∀ mo ∈ l, activeNamed mo.name (l.map f) = [f mo] := by
  intro l hpw hen mo hmo
  rw [List.map_eq_flatMap]
  exact activeNamed_flatMap_distinct (fun o => [f o]) l hpw
    (fun mo hmo o ho => by
      rw [List.mem_singleton.mp ho, hname, hdis]
      exact ⟨rfl, hen mo hmo⟩) mo hmo

theorem meta_tmpl0 (mm : Meta) (h : mm.tmpl = 0) : { mm with tmpl := 0 } = mm := by
  cases mm; simp only at h; subst h; rfl

/-- master definitions fit for re-fetching in the model: not template-marked, no recorded variable
    resolution (the result objects carry the master's meta data and are the sources of the second
    fetch), variable-free default -/
def RefetchOK (mkids : List Obj) : Prop :=
  ∀ mo ∈ mkids, mo.meta.tmpl = 0 ∧ mo.meta.varRes = none ∧ hasDollar mo.words = false

theorem lastWins_varRes (mo : Obj) (l : List Obj) : (lastWins mo l).meta.varRes = mo.meta.varRes := by
  unfold lastWins; cases l.getLast? <;> rfl

theorem lastWins_idem (mm : Meta) (mws : List Word) (l : List Obj) (ht : mm.tmpl = 0)
    (hv : mm.varRes = none) :
    lastWins (.defn mm mws) [lastWins (.defn mm mws) l] = lastWins (.defn mm mws) l := by
  have hsw : (lastWins (.defn mm mws) l).srcWords = (lastWins (.defn mm mws) l).words :=
    srcWords_of_varRes_none _ (by rw [lastWins_varRes]; exact hv)
  have h1 : lastWins (.defn mm mws) [lastWins (.defn mm mws) l] =
      .defn { mm with tmpl := 0 } (lastWins (.defn mm mws) l).words := by
    rw [← hsw]; rfl
  rw [h1]
  unfold lastWins
  cases l.getLast? with
  | none => simp only [Obj.words]; rw [meta_tmpl0 mm ht]
  | some d => rfl

/-! ## 10. disabled source objects are ignored (C04.4) -/

mutual
/-- remove every disabled object below `o` -/
def stripObj : Obj → Obj
  | .defn m ws => .defn m ws
  | .scope m kids => .scope m (stripList kids)
/-- remove every disabled object of the list, at every depth -/
def stripList : List Obj → List Obj
  | [] => []
  | o :: os => if o.meta.disabled then stripList os else stripObj o :: stripList os
end

abbrev stripDisabled : List Obj → List Obj := stripList

theorem stripObj_meta (o : Obj) : (stripObj o).meta = o.meta := by
  cases o <;> simp [stripObj, Obj.meta]

theorem stripObj_isDefn (o : Obj) : (stripObj o).isDefn = o.isDefn := by
  cases o <;> simp [stripObj, Obj.isDefn]

theorem stripObj_children (o : Obj) : (stripObj o).children = stripList o.children := by
  cases o <;> simp [stripObj, stripList, Obj.children]

theorem stripObj_defn_eq (o : Obj) (h : o.isDefn = true) : stripObj o = o := by
  cases o with
  | defn m ws => simp [stripObj]
  | scope m k => cases h

def enabledB (o : Obj) : Bool := !o.meta.disabled

theorem stripList_eq : ∀ (l : List Obj), stripList l = (l.filter enabledB).map stripObj := by
  intro l
  induction l with
  | nil => simp [stripList]
  | cons o os ih =>
    rw [stripList, ih, List.filter_cons]
    cases hd : o.meta.disabled <;> simp [enabledB, hd]

theorem stripList_flatMap {α : Type} (f : α → List Obj) (l : List α) :
    stripList (l.flatMap f) = l.flatMap (fun x => stripList (f x)) := by
  simp only [stripList_eq, List.filter_flatMap, List.map_flatMap]

theorem filter_enabled_stripList (l : List Obj) : (stripList l).filter enabledB = stripList l := by
  rw [stripList_eq, List.filter_eq_self]
  intro x hx
  rw [List.mem_map] at hx
  obtain ⟨o, ho, rfl⟩ := hx
  have := (List.mem_filter.mp ho).2
  simpa [enabledB, stripObj_meta] using this

theorem stripList_filter_enabled (l : List Obj) : stripList (l.filter enabledB) = stripList l := by
  rw [stripList_eq, stripList_eq, List.filter_filter]
  simp

theorem stripList_of_enabled (l : List Obj) (h : ∀ o ∈ l, o.meta.disabled = false) :
    stripList l = l.map stripObj := by
  rw [stripList_eq, List.filter_eq_self.mpr]
  intro o ho
  simp [enabledB, h o ho]

theorem enabledB_eq : (fun (k : Obj) => !k.meta.disabled) = enabledB := rfl

theorem getWithoutSubst_strip : ∀ (fuel : Nat) (o : Obj) (path : Str),
    getWithoutSubst fuel (stripObj o) path = stripList (getWithoutSubst fuel o path) := by
  intro fuel
  induction fuel with
  | zero => intro o path; simp [getWithoutSubst, stripList]
  | succ fuel ih =>
    intro o path
    cases o with
    | defn m ws =>
      rw [stripObj, getWithoutSubst_defn]
      cases hd : m.disabled with
      | true => simp [stripList]
      | false =>
        simp only [Bool.false_eq_true, if_false]
        split
        · rw [stripList, stripList]; simp [Obj.meta, hd, stripObj]
        · simp [stripList]
    | scope m kids =>
      have hflat : ∀ p, ((stripList kids).filter enabledB).flatMap (fun k => getWithoutSubst fuel k p) =
          stripList ((kids.filter enabledB).flatMap (fun k => getWithoutSubst fuel k p)) := by
        intro p
        rw [filter_enabled_stripList, stripList_flatMap, stripList_eq, List.flatMap_map]
        congr 1
        funext k
        exact ih k p
      rw [stripObj, getWithoutSubst_scope, getWithoutSubst_scope, enabledB_eq]
      cases hd : m.disabled with
      | true => simp [stripList]
      | false =>
        simp only [Bool.false_eq_true, if_false]
        split
        · split
          · rfl
          · exact hflat _
        · split
          · rw [stripList, stripList]; simp [Obj.meta, hd, stripObj]
          · split
            · exact hflat _
            · simp [stripList]

theorem fetchMatching_strip (fuel : Nat) (sm : Meta) (combined : List Obj) (mo : Obj) :
    fetchMatching fuel sm (stripList combined) mo = (fetchMatching fuel sm combined mo).map stripObj := by
  rw [← stripList_of_enabled _ (fun o ho => (fetchMatching_activeIn fuel sm combined mo o ho).enabled)]
  unfold fetchMatching
  rw [enabledB_eq, ← stripObj.eq_2, getWithoutSubst_strip, filter_enabled_stripList,
    stripList_filter_enabled]

theorem fetchDefn_strip (e : Envs) (fuel : Nat) (diff : Bool) (mo ms : Obj) :
    fetchDefn e fuel diff mo (stripObj ms) = fetchDefn e fuel diff mo ms := by
  cases ms with
  | defn m ws => rw [stripObj]
  | scope m k => rw [stripObj]; cases mo <;> rfl

theorem idOf_strip (ms : Obj) : idOf (stripObj ms) = idOf ms := by
  unfold idOf; rw [stripObj_meta]

theorem srcRefs_strip (ms : Obj) : srcRefs (stripObj ms) = srcRefs ms := by
  unfold srcRefs; rw [stripObj_meta]

def StripInv (F : FetchFn) : Prop :=
  ∀ diff mm kids src, F diff mm kids (stripList src) = F diff mm kids src

theorem defnOne_strip (e : Envs) (fuel : Nat) (diff : Bool) (mo : Obj) (acc : Option Obj × List Nat)
    (ms : Obj) : defnOne e fuel diff mo acc (stripObj ms) = defnOne e fuel diff mo acc ms := by
  unfold defnOne; rw [fetchDefn_strip, idOf_strip, srcRefs_strip]

section
variable {F : FetchFn} (hF : StripInv F) (e : Envs) (fuel : Nat) (diff : Bool)
include hF

theorem candOf_strip (mo : Obj) (fromM : Bool) (ms : Obj) :
    candOf F e fuel diff mo fromM (stripObj ms) = candOf F e fuel diff mo fromM ms := by
  cases mo with
  | defn mm mws =>
    unfold candOf
    simp only [fetchDefn_strip, stripObj_meta, srcRefs_strip]
  | scope mm kids =>
    cases ms with
    | defn m ws => rw [stripObj]
    | scope m skids =>
      rw [stripObj]
      unfold candOf
      simp only [hF diff mm kids skids]

theorem cstepG_strip (mo : Obj) (masterStr : Str) (acc : CAcc) (b : Bool) (ms : Obj) :
    cstepG F e fuel diff mo masterStr acc (b, stripObj ms) = cstepG F e fuel diff mo masterStr acc (b, ms) := by
  unfold cstepG
  simp only [candOf_strip hF]

theorem scopeBranch_strip (mm : Meta) (kids M out : List Obj) (used : List Nat) :
    scopeBranch F diff mm kids (M.map stripObj) out used = scopeBranch F diff mm kids M out used := by
  unfold scopeBranch
  have h1 : (M.map stripObj).flatMap Obj.children = stripList (M.flatMap Obj.children) := by
    rw [stripList_flatMap, List.flatMap_map]
    congr 1
    funext o
    exact stripObj_children o
  have h2 : (M.map stripObj).find? (·.isDefn) = (M.find? (·.isDefn)).map stripObj := by
    rw [List.find?_map]
    congr 2
    funext o
    exact stripObj_isDefn o
  rw [h1, h2, hF]
  cases M.find? (·.isDefn) <;> rfl

theorem multiBranch_strip (mkids : List Obj) (idx : Nat) (mo : Obj) (M out : List Obj) (used : List Nat) :
    multiBranch F e fuel diff mkids idx mo (M.map stripObj) out used =
      multiBranch F e fuel diff mkids idx mo M out used := by
  unfold multiBranch
  have key : ∀ masterStr init,
      (fromMasterOf mkids idx mo ++ (M.map stripObj).map (fun (o : Obj) => (false, o))).foldlM
        (cstepG F e fuel diff mo masterStr) init =
      (fromMasterOf mkids idx mo ++ M.map (fun (o : Obj) => (false, o))).foldlM
        (cstepG F e fuel diff mo masterStr) init := by
    intro masterStr init
    rw [List.foldlM_append, List.foldlM_append, List.map_map]
    congr 1
    funext acc0
    rw [List.foldlM_map, List.foldlM_map]
    congr 1
    funext acc ms
    exact cstepG_strip hF e fuel diff mo masterStr acc false ms
  cases masterKeyG F e fuel mo with
  | error err => rfl
  | ok masterStr => simp only [key]

theorem stepG_strip (sm : Meta) (mkids combined : List Obj) (st : List Obj × List Nat) (io : Nat × Obj) :
    stepG F e fuel diff sm mkids (stripList combined) st io = stepG F e fuel diff sm mkids combined st io := by
  unfold stepG
  rw [fetchMatching_strip]
  split
  · split
    · rw [List.foldlM_map]
      congr 2
      funext acc ms
      exact defnOne_strip e fuel diff _ acc ms
    · exact scopeBranch_strip hF diff _ _ _ _ _
  · exact multiBranch_strip hF e fuel diff mkids _ _ _ _ _

end

theorem fetchScope_stripInv (e : Envs) : ∀ (fuel : Nat), StripInv (fetchScope e fuel) := by
  intro fuel
  induction fuel with
  | zero => intro diff mm kids src; rfl
  | succ fuel ih =>
    intro diff sm mkids combined
    rw [fetchScope_succ, fetchScope_succ]
    cases masterActiveObjects mkids with
    | error err => rfl
    | ok actives =>
      simp only
      congr 2
      funext st io
      exact stepG_strip ih e fuel diff sm mkids combined st io

/-- **C04.4** disabled source objects, at any depth, have no influence on the result of a fetch nor
    on the set of consumed definitions -/
theorem fetch_ignores_disabled (e : Envs) (fuel : Nat) (diff : Bool) (sm : Meta) (mkids combined : List Obj) :
    fetchScope e fuel diff sm mkids (stripDisabled combined) = fetchScope e fuel diff sm mkids combined :=
  fetchScope_stripInv e fuel diff sm mkids combined

/-! ## 11. diff mode drops empty scopes (C08) -/

/-- no scope without children occurs in `o`, at any depth -/
inductive NoEmptyScope : Obj → Prop
  | defn (m : Meta) (ws : List Word) : NoEmptyScope (.defn m ws)
  | scope (m : Meta) (kids : List Obj) : kids ≠ [] → (∀ k ∈ kids, NoEmptyScope k) →
      NoEmptyScope (.scope m kids)

/-- **C08** a diff result contains no empty scope and no template, at any depth: every child of the
    result is a definition or a scope with at least one child (recursively) -/
theorem diff_no_empty_scopes (e : Envs) : ∀ (fuel : Nat) (sm : Meta) (mkids combined : List Obj)
    (ro : Obj) (used : List Nat), fetchScope e fuel true sm mkids combined = .ok (ro, used) →
    ∀ k ∈ ro.children, NoEmptyScope k := by
  intro fuel
  induction fuel with
  | zero => intro sm mkids combined ro used h; cases h
  | succ fuel ih =>
    intro sm mkids combined ro used h
    have hP : ShapePred (fetchScope e fuel) true (fun _ o => NoEmptyScope o) :=
      { self := fun h => by cases h
        tmpl := fun h => by cases h
        defn := fun mm _ ws => NoEmptyScope.defn _ ws
        recur := by
          intro mm kids src ro u h hne
          obtain ⟨out, rfl⟩ := fetchScope_rootShape e fuel _ _ _ _ _ _ h
          refine NoEmptyScope.scope _ out ?_ (ih mm kids src _ u h)
          intro hout
          subst hout
          simp [Obj.children] at hne
        inst := fun h => by cases h }
    obtain ⟨out, rfl, hall⟩ := fetch_shape_pred e fuel _ true hP sm mkids combined ro used h
    intro k hk
    obtain ⟨_, _, _, _, hk'⟩ := hall k hk
    exact hk'

/-! ## 12. tracking is transparent (C06) -/

/-- the result object of `fetchRoot` is a function of the inputs alone: whether the caller looks at
    the list of consumed ids or not cannot change it (both come out of the same call) -/
theorem tracking_transparent (e : Envs) (diff : Bool) (master : List Obj) (ss : List (List Obj)) :
    (fetchRoot e diff master ss).map (·.1) =
      (fetchScope e ((master.foldl (fun a k => Nat.max a (depthObj 1000 k)) 0) + 3) diff
        { name := [], id := some 0 } master ss.flatten).map (·.1) := rfl

/-! ### consumed ids occur in `all_definitions` -/

theorem allDefsList_eq (p : Str) : ∀ (l : List Obj),
    allDefsObj.allDefsList l p = (l.filter enabledB).flatMap (fun o => allDefsObj o p)
  | [] => rfl
  | o :: os => by
    rw [allDefsObj.allDefsList, allDefsList_eq p os, List.filter_cons]
    cases hd : o.meta.disabled <;> simp [enabledB, hd]

theorem mem_allDefsList {x : Str × Meta × List Word} {l : List Obj} {p : Str} :
    x ∈ allDefsObj.allDefsList l p ↔ ∃ o ∈ l, o.meta.disabled = false ∧ x ∈ allDefsObj o p := by
  simp [allDefsList_eq, List.mem_flatMap, List.mem_filter, enabledB, and_assoc]

theorem activeIn_allDefs {m : Meta} {ws : List Word} {l : List Obj} (h : ActiveIn (.defn m ws) l)
    (hinc : (m.name == "include".toList) = false) :
    ∀ p, ∃ path, (path, m, ws) ∈ allDefsObj.allDefsList l p := by
  induction h with
  | here hm hd =>
    intro p
    refine ⟨p ++ m.name, mem_allDefsList.mpr ⟨_, hm, hd, ?_⟩⟩
    rw [allDefsObj, hinc]
    simp
  | @deeper l' m' kids hm hd _ ih =>
    intro p
    obtain ⟨path, hp⟩ := ih (p ++ m'.name ++ ['.'])
    refine ⟨path, mem_allDefsList.mpr ⟨_, hm, hd, ?_⟩⟩
    rw [allDefsObj]
    exact hp

/-- a consumed id is the id of an entry of `all_definitions` of the sources (or of an enabled
    definition called `include`, which `all_definitions` skips) -/
theorem defnIdActive_allDefinitions {i : Nat} {l : List Obj} (h : DefnIdActive i l) :
    (∃ d ∈ allDefinitions l, d.2.1.id = some i) ∨
    (∃ m ws, ActiveIn (.defn m ws) l ∧ m.name = "include".toList ∧ m.id = some i) := by
  obtain ⟨d, hd, hdef, hid⟩ := h
  cases d with
  | scope m k => cases hdef
  | defn m ws =>
    cases hinc : m.name == "include".toList with
    | true => right; exact ⟨m, ws, hd, by simpa using hinc, hid⟩
    | false =>
      left
      obtain ⟨path, hp⟩ := activeIn_allDefs hd hinc []
      exact ⟨(path, m, ws), hp, hid⟩

theorem usedIdActive_allDefinitions {i : Nat} {l : List Obj} (h : UsedIdActive i l) :
    (∃ d ∈ allDefinitions l, d.2.1.id = some i) ∨
    (∃ m ws, ActiveIn (.defn m ws) l ∧ m.name = "include".toList ∧ m.id = some i) ∨
    RefIdActive i l := by
  rcases (usedIdActive_iff i l).mp h with h | h
  · rcases defnIdActive_allDefinitions h with h | h
    · exact .inl h
    · exact .inr (.inl h)
  · exact .inr (.inr h)

theorem usedIdActive_of_no_varRes {i : Nat} {l : List Obj}
    (hno : ∀ d, ActiveIn d l → d.isDefn = true → d.meta.varRes = none) (h : UsedIdActive i l) :
    DefnIdActive i l := by
  obtain ⟨d, ha, hd, hi | hi⟩ := h
  · exact ⟨d, ha, hd, hi⟩
  · rw [srcRefs_of_varRes_none d (hno d ha hd)] at hi; cases hi

end Phil
