/-
  The parser on the printed text of a nested document (attribute-free trees, the class `RTNode` of
  Proofs/PrintParseNested.lean): the instance "attributes level 0, no attributes, nothing disabled" of the
  induction over trees with attributes (Proofs/AttrTrees.lean).
-/
import Phil.Proofs.AttrTrees
namespace Phil

theorem PlainMetaPP.bare {mg : Bool} {m : Meta} (h : PlainMetaPP mg m) :
    m.stripAttrs = m ∧ depSet m = false ∧ bangOf m = [] := by
  rw [h]; exact ⟨rfl, rfl, rfl⟩

/-- a tree of the nested class carries no attributes, so no definition is deprecated, and nothing is disabled,
    so its exact wrap condition is that of the text with `!` marks -/
theorem bare_of_rt (w : Int) :
    (∀ (x : Obj) (ms : List Str), RTNode ms x → x.stripAttrs = x ∧ x.noDeprecated = true ∧
      ∀ ms' ind, WrapsOK w x ms' ind → WrapsOKC w x ms' ind) ∧
    ∀ os : List Obj, (∀ c ∈ os, ∃ ms, RTNode ms c) → stripAttrsList os = os ∧ noDeprecatedList os = true ∧
      ∀ ms ind, WrapsOKs w os ms ind → WrapsOKsC w os ms ind := by
  refine Obj.both ?_ ?_ (fun _ => ⟨rfl, rfl, fun _ _ _ => by unfold WrapsOKsC; trivial⟩) ?_
  · intro m ws ms h
    unfold RTNode at h
    obtain ⟨hs, hd, hb⟩ := h.1.bare
    refine ⟨by rw [Obj.stripAttrs_defn, hs], by rw [noDeprecated_defn_ert, hd]; rfl, fun ms' ind hw => ?_⟩
    unfold WrapsOK at hw
    unfold WrapsOKC
    rw [hb]
    exact hw
  · intro m os ih ms h
    obtain ⟨hs, hnd, hwr⟩ := ih h.kids
    unfold RTNode at h
    refine ⟨by rw [Obj.stripAttrs_scope, h.1.bare.1, hs], by rw [noDeprecated_scope_ert, hnd], fun ms' ind hw => ?_⟩
    unfold WrapsOK at hw
    unfold WrapsOKC
    split <;> rename_i hfm <;> simp only [hfm, if_true, if_false, Bool.false_eq_true] at hw <;> exact hwr _ _ hw
  · intro x xs ihx ihxs h
    obtain ⟨ms, hx⟩ := h x (by simp)
    obtain ⟨s1, d1, w1⟩ := ihx ms hx
    obtain ⟨s2, d2, w2⟩ := ihxs (fun c hc => h c (by simp [hc]))
    refine ⟨by rw [stripAttrsList_cons, s1, s2], by rw [noDeprecatedList_cons_ert, d1, d2]; rfl, fun ms' ind hw => ?_⟩
    unfold WrapsOKs at hw
    unfold WrapsOKsC
    exact ⟨w1 _ _ hw.1, w2 _ _ hw.2⟩

/-- a document of attribute-free trees printed under an indentation `ind` parses to the same trees, up to ids and source
    positions; the ids are one per printed item, in document order -/
theorem parseObjs_trees_ind (w : Int) (objs : List Obj) (ind : Str) (hb : Blank ind)
    (h : RTAll objs) (hw : WrapsOKs w objs [] ind) :
    ∃ objs', parseObjs (kidsText w objs [] ind) = .ok objs' ∧ eraseList objs' = eraseList objs ∧
      idsList objs' = (expIdsSeq 1 objs).map some := by
  obtain ⟨hs, hnd, hwr⟩ := (bare_of_rt w).2 objs (fun c hc => ⟨[], (RTAll_iff objs).mp h c hc⟩)
  obtain ⟨hrt, hpe, tCA⟩ := rtAllA_toC (os := objs) (hs.symm ▸ h)
  obtain ⟨n, ok, tA⟩ := level0_kids 0 w (Int.le_refl 0) objs hnd
  have := parseObjs_treesC_exact 0 w objs ind hb hrt hpe (hwr _ _ hw) (ok ind)
  rwa [tCA, tA, n, hs] at this

/-- … at the left margin: the text `scope.as_str()` prints for the root scope -/
theorem parseObjs_trees (w : Int) (objs : List Obj) (h : RTAll objs) (hw : WrapsOKs w objs [] []) :
    ∃ objs', parseObjs (kidsText w objs [] []) = .ok objs' ∧ eraseList objs' = eraseList objs ∧
      idsList objs' = (expIdsSeq 1 objs).map some :=
  parseObjs_trees_ind w objs [] nofun h hw

/-- the expert gate does not see a tree without attributes (no `expert_level` to compare with) -/
theorem show_bare_expert (o : ShowOpts) (e : Option Int) :
    (∀ (x : Obj) (ms : List Str) (pre : Str), x.stripAttrs = x →
      showObj { o with expert := e } x ms pre = showObj { o with expert := none } x ms pre) ∧
    ∀ (os : List Obj) (ms : List Str) (pre : Str), stripAttrsList os = os →
      showObjs { o with expert := e } os ms pre = showObjs { o with expert := none } os ms pre := by
  refine Obj.both ?_ ?_ (fun _ _ _ => rfl) ?_
  · intro m ws ms pre h
    rw [Obj.stripAttrs_defn] at h
    injection h with h _
    rw [showObj_defn_eq, showObj_defn_eq, showDefn_eq, showDefn_eq, ← h]
    rfl
  · intro m os ih ms pre h
    rw [Obj.stripAttrs_scope] at h
    injection h with h hk
    rw [showObj_scope_eq, showObj_scope_eq, showScopeBody_expert o e none,
      showScopeBody_congr _ m _ _ _ (fun ms pre => ih ms pre hk), ← h]
    rfl
  · intro x xs ihx ihxs ms pre h
    rw [stripAttrsList_cons] at h
    injection h with h1 h2
    rw [showObjs_cons, showObjs_cons, ihx ms pre h1, ihxs ms pre h2]

/-- what `as_str()` prints for the root scope of a document of attribute-free trees, at attributes level 0, under every
    expert setting: `kidsText` -/
theorem asStr_trees (o : ShowOpts) (hl : o.level ≤ 0) (objs : List Obj) (h : RTAll objs) :
    asStr o (rootOf objs) = .ok (kidsText o.width objs [] []) := by
  obtain ⟨hs, hnd, _⟩ := (bare_of_rt 0).2 objs (fun c hc => ⟨[], (RTAll_iff objs).mp h c hc⟩)
  obtain ⟨_, ok, tA⟩ := level0_kids o.level o.width hl objs hnd
  have := asStr_treesA_art { o with expert := none } rfl objs [] nofun (by rw [hs]; exact h) (ok [])
  rw [tA] at this
  rw [← this, asStr, asStr, ← (show_bare_expert o o.expert).1 (rootOf objs) [] []
    (by rw [rootOf, Obj.stripAttrs_scope, hs]; rfl)]

end Phil
