/-
  Parser-level lemmas (C02 building blocks, document clause of C03): what one step of the word iterator
  does, what `collect_assigned_words` does with the word it has just read, with one printed word and with a
  comment, and what one turn of `collect_objects` does — for a definition, `}`, a scope header and an
  attribute assignment, with or without `!` in front, as the layout grammars and the printer round trips
  both need them.
-/
import Phil.Parse
import Phil.Proofs.Quote
import Phil.Proofs.Lines
import Phil.Props.C03
namespace Phil

/-! ### word iterator: blanks, plain words, single-character words -/

/-- look-ahead test: the unquoted scanner stops in front of `rest` -/
def stopsAt (st : Settings) : Str → Bool
  | [] => true
  | d :: _ => endsUnquoted st d

def isQuoteChar (c : Char) : Bool := c == '"' || c == '\''

theorem nextWordAux_skip (st : Settings) (sp rest : Str) (h : ∀ c ∈ sp, isSpace c = true) :
    ∀ l, nextWordAux st false (sp ++ rest) l = nextWordAux st false rest (l + nlCount sp) := by
  induction sp with
  | nil => intro l; simp
  | cons c cs ih =>
    intro l
    obtain ⟨hc, hcs⟩ := List.forall_mem_cons.mp h
    rw [List.cons_append, nextWordAux, if_pos hc, ih hcs, bump_eq, nlCount_cons c cs, Nat.add_assoc]

theorem nextWord_skip (st : Settings) (sp rest : Str) (l : Nat) (h : ∀ c ∈ sp, isSpace c = true) :
    nextWord st ⟨sp ++ rest, l⟩ = nextWordAux st false rest (l + nlCount sp) :=
  nextWordAux_skip st sp rest h l

theorem nextWordAux_blank_eof (st : Settings) (sp : Str) (l : Nat) (hsp : ∀ d ∈ sp, isSpace d = true) :
    nextWordAux st false sp l = .ok none := by
  have := nextWordAux_skip st sp [] hsp l
  rwa [List.append_nil] at this

theorem scanU_plain (st : Settings) (w rest : Str) (hw : ∀ c ∈ w, endsUnquoted st c = false)
    (hr : stopsAt st rest = true) :
    ∀ acc, scanU st (w ++ rest) acc = (acc.reverse ++ w, rest) := by
  induction w with
  | nil =>
    intro acc
    cases rest with
    | nil => simp [scanU]
    | cons d r =>
      have : endsUnquoted st d = true := hr
      simp [scanU, this]
  | cons c cs ih =>
    intro acc
    obtain ⟨hc, hcs⟩ := List.forall_mem_cons.mp hw
    rw [List.cons_append, scanU, hc, if_neg Bool.false_ne_true, ih hcs]
    simp

theorem startsLong_of_not_ends {st : Settings} {c : Char} (hcontig : st.contig = [])
    (h : endsUnquoted st c = false) : startsLong st c = true := by
  unfold endsUnquoted at h
  unfold startsLong
  cases hs : st.single.contains c
  · simp [hcontig]
  · rw [hs] at h; simp at h

theorem nextWordAux_plain (st : Settings) (c : Char) (w rest : Str) (l : Nat)
    (hc : endsUnquoted st c = false) (hq : isQuoteChar c = false)
    (hcm : isCommentStart st c (w ++ rest) = false) (hl : startsLong st c = true)
    (hw : ∀ d ∈ w, endsUnquoted st d = false) (hr : stopsAt st rest = true) :
    nextWordAux st false (c :: w ++ rest) l
      = .ok (some ({ value := c :: w, quote := none, line := some l }, ⟨rest, l⟩)) := by
  have hsp := isSpace_false_of_not_ends hc
  have hq' : (c == '"' || c == '\'') = false := hq
  rw [List.cons_append, nextWordAux_word st c _ l hsp hcm]
  unfold wordAt
  simp only [hq', Bool.false_eq_true, ↓reduceIte, hl, scanU_plain st w rest hw hr]
  simp [Except.map]

theorem nextWordAux_single (st : Settings) (c : Char) (rest : Str) (l : Nat)
    (hsp : isSpace c = false) (hq : isQuoteChar c = false)
    (hcm : st.commentChars.contains c = false) (hl : startsLong st c = false) :
    nextWordAux st false (c :: rest) l
      = .ok (some ({ value := [c], quote := none, line := some l }, ⟨rest, l⟩)) := by
  have hq' : (c == '"' || c == '\'') = false := hq
  rw [nextWordAux_word st c _ l hsp (by unfold isCommentStart; rw [hcm]; rfl)]
  unfold wordAt
  simp only [hq', Bool.false_eq_true, ↓reduceIte, hl]
  simp [Except.map]

theorem wordAt_unquoted (st : Settings) (c : Char) (cs : Str) (line : Nat)
    (hq : isQuoteChar c = false) :
    ∃ v rest, wordAt st c cs line
      = .ok ({ value := c :: v, quote := none, line := some line }, ⟨rest, line⟩) := by
  have hq' : (c == '"' || c == '\'') = false := hq
  unfold wordAt
  simp only [hq', Bool.false_eq_true, ↓reduceIte]
  split
  · generalize hu : scanU st cs [c] = p
    obtain ⟨v, r⟩ := p
    obtain ⟨k, _, _, hv⟩ := scanU_line st _ _ _ _ hu
    exact ⟨k, r, by rw [hv]; rfl⟩
  · exact ⟨[], cs, rfl⟩

def firstNonSpace : Str → Option Char
  | [] => none
  | c :: cs => if isSpace c then firstNonSpace cs else some c

theorem firstNonSpace_none {rest : Str} (h : firstNonSpace rest = none) :
    ∀ d ∈ rest, isSpace d = true := by
  induction rest with
  | nil => nofun
  | cons c cs ih =>
    rw [firstNonSpace] at h
    split at h
    · next hc => exact List.forall_mem_cons.mpr ⟨hc, ih h⟩
    · cases h

theorem firstNonSpace_some {rest : Str} {c : Char} (h : firstNonSpace rest = some c) :
    ∃ sp r, rest = sp ++ c :: r ∧ (∀ d ∈ sp, isSpace d = true) ∧ isSpace c = false := by
  induction rest with
  | nil => cases h
  | cons d ds ih =>
    rw [firstNonSpace] at h
    split at h
    · next hd =>
      obtain ⟨sp, r, e, hsp, hc⟩ := ih h
      exact ⟨d :: sp, r, by rw [e]; rfl, List.forall_mem_cons.mpr ⟨hd, hsp⟩, hc⟩
    · next hd =>
      cases h
      exact ⟨[], ds, rfl, nofun, by simpa using hd⟩

theorem nextWordAux_firstNonSpace (st : Settings) (hcm : st.commentChars = []) (rest : Str) (L : Nat) :
    nextWordAux st false rest L = .ok none ∨
    ∃ c v k rest', firstNonSpace rest = some c ∧ (isQuoteChar c = false →
      nextWordAux st false rest L
        = .ok (some ({ value := c :: v, quote := none, line := some (L + k) }, ⟨rest', L + k⟩))) := by
  cases h : firstNonSpace rest with
  | none => exact Or.inl (nextWordAux_blank_eof st rest L (firstNonSpace_none h))
  | some c =>
    obtain ⟨sp, r, e, hsp, hc⟩ := firstNonSpace_some h
    by_cases hq : isQuoteChar c = false
    · obtain ⟨v, rest', hw⟩ := wordAt_unquoted st c r (L + nlCount sp) hq
      refine Or.inr ⟨c, v, nlCount sp, rest', rfl, fun _ => ?_⟩
      rw [e, nextWordAux_skip st sp _ hsp,
        nextWordAux_word st c r _ hc (by unfold isCommentStart; rw [hcm]; rfl), hw]
      rfl
    · exact Or.inr ⟨c, [], 0, [], rfl, fun h' => absurd h' hq⟩


/-! White space has six spellings, from the weakest: `∀ d ∈ sp, isSpace d = true` — any `str.isspace()` characters, newlines
  included: the hypothesis of the tokenizer lemmas (`allSpace sp`, PrintParse, is its Boolean form, for the decidable
  well-formedness of layouts); `InlineSpace sp` — no newline among them (`inlineB sp`, PrintParse, its Boolean form);
  `Blanks sp` — blanks and tabs only; `Blank ind` (PrintParseNested) — blanks only, the printer's indentation.  Used
  implications: `allSpace_space`, `InlineSpace.isSpace`, `inlineB_inline`, `inlineB_allSpace` (Layout3), `Blanks.inline`,
  `Blank.isSpace`. -/

def InlineSpace (sp : Str) : Prop := ∀ d ∈ sp, isSpace d = true ∧ d ≠ '\n'

theorem InlineSpace.isSpace {sp : Str} (h : InlineSpace sp) : ∀ d ∈ sp, isSpace d = true :=
  fun d hd => (h d hd).1

theorem InlineSpace.nlCount {sp : Str} (h : InlineSpace sp) : nlCount sp = 0 :=
  nlCount_of_no_nl sp fun c hc => (h c hc).2

def Blanks (sp : Str) : Prop := ∀ d ∈ sp, d = ' ' ∨ d = '\t'

theorem Blanks.inline {sp : Str} (h : Blanks sp) : InlineSpace sp := by
  intro d hd
  rcases h d hd with e | e <;> subst e <;> exact ⟨by rfl, by decide⟩

theorem Blanks.isSpace {sp : Str} (h : Blanks sp) : ∀ d ∈ sp, isSpace d = true := h.inline.isSpace

theorem Blanks.nlCount {sp : Str} (h : Blanks sp) : nlCount sp = 0 := h.inline.nlCount

/-! ### pop / try_pop in terms of the word iterator -/

theorem tryPop_of_next {st : Settings} {ci : CI} {r : Option (Word × CI)}
    (h : nextWord st ci = .ok r) : tryPop st ci = .ok r := by
  simp [tryPop, h]

theorem pop_of_next {st : Settings} {ci ci' : CI} {w : Word}
    (h : nextWord st ci = .ok (some (w, ci'))) : pop st ci = .ok (w, ci') := by
  simp [pop, tryPop, h]

theorem popUnquoted_of_next {st : Settings} {ci ci' : CI} {w : Word}
    (h : nextWord st ci = .ok (some (w, ci'))) (hq : w.quote = none) :
    popUnquoted st ci = .ok (w, ci') := by
  simp [popUnquoted, pop, tryPop, h, hq]

theorem tryPopUnquoted_of_next {st : Settings} {ci ci' : CI} {w : Word}
    (h : nextWord st ci = .ok (some (w, ci'))) (hq : w.quote = none) :
    tryPopUnquoted st ci = .ok (some (w, ci')) := by
  simp [tryPopUnquoted, tryPop, h, hq]

theorem tryPopUnquoted_of_next_none {st : Settings} {ci : CI}
    (h : nextWord st ci = .ok none) : tryPopUnquoted st ci = .ok none := by
  simp [tryPopUnquoted, tryPop, h]

/-! ### collect_assigned_words, one word at a time

  `cAA` in the names is `collectAssignedAux`, the loop of `collect_assigned_words`. -/

/-- the four unquoted words that end a value (or start a comment) -/
def isSpecialValue (v : Str) : Bool := v == ['{'] || v == ['}'] || v == [';'] || v == ['#']

theorem cAA_end (fuel : Nat) (ci : CI) (last : Word) (hc : Bool) (acc : List Word)
    (h : nextWord valueSettings ci = .ok none) :
    collectAssignedAux (fuel + 1) ci last hc acc = .ok (acc.reverse, ci) := by
  simp [collectAssignedAux, tryPop, h]

theorem cAA_quoted (fuel : Nat) (ci ci' : CI) (last w : Word) (acc : List Word) (q : Quote)
    (h : nextWord valueSettings ci = .ok (some (w, ci'))) (hq : w.quote = some q) :
    collectAssignedAux (fuel + 1) ci last false acc
      = collectAssignedAux fuel ci' w false (w :: acc) := by
  simp [collectAssignedAux, tryPop, h, hq]

theorem cAA_backup (fuel : Nat) (ci ci' : CI) (last w : Word) (acc : List Word)
    (h : nextWord valueSettings ci = .ok (some (w, ci'))) (hq : w.quote = none)
    (hv1 : w.value ≠ [';']) (hv2 : w.value ≠ ['#'])
    (hlast : isUnq last "\\" = false) (hline : w.line ≠ last.line) :
    collectAssignedAux (fuel + 1) ci last false acc = .ok (acc.reverse, ci) := by
  simp [collectAssignedAux, tryPop, h, hq, hv1, hv2, hlast, hline]

theorem cAA_take (fuel : Nat) (ci ci' : CI) (last w : Word) (acc : List Word)
    (h : nextWord valueSettings ci = .ok (some (w, ci'))) (hq : w.quote = none)
    (hv : isSpecialValue w.value = false) (hb : w.value ≠ ['\\'])
    (hline : isUnq last "\\" = true ∨ w.line = last.line) :
    collectAssignedAux (fuel + 1) ci last false acc
      = collectAssignedAux fuel ci' w false (w :: acc) := by
  have hv' : (w.value == ['{'] || w.value == ['}'] || w.value == [';'] || w.value == ['#']) = false := hv
  by_cases hlast : isUnq last "\\" = true
  · simp [collectAssignedAux, tryPop, h, hq, hv', hlast]
  · simp [collectAssignedAux, tryPop, h, hq, hv', hb, hlast, hline.resolve_left hlast]

theorem cAA_semicolon (fuel : Nat) (ci ci' : CI) (last w : Word) (acc : List Word)
    (h : nextWord valueSettings ci = .ok (some (w, ci'))) (hq : w.quote = none)
    (hv : w.value = [';']) :
    collectAssignedAux (fuel + 1) ci last false acc = .ok (acc.reverse, ci') := by
  simp [collectAssignedAux, tryPop, h, hq, hv]

theorem cAA_hash (fuel : Nat) (ci ci' : CI) (last w : Word) (acc : List Word)
    (h : nextWord valueSettings ci = .ok (some (w, ci'))) (hq : w.quote = none)
    (hv : w.value = ['#']) :
    collectAssignedAux (fuel + 1) ci last false acc = collectAssignedAux fuel ci' w true acc := by
  simp [collectAssignedAux, tryPop, h, hq, hv]

theorem cAA_comment_word (fuel : Nat) (ci ci' : CI) (last w : Word) (acc : List Word)
    (h : nextWord valueSettings ci = .ok (some (w, ci'))) (hq : w.quote = none)
    (hline : w.line = last.line) :
    collectAssignedAux (fuel + 1) ci last true acc = collectAssignedAux fuel ci' w true acc := by
  simp only [collectAssignedAux, tryPop, h, hq, hline]
  by_cases h1 : isUnq last "\\" = true <;> by_cases h2 : w.value = ['\\'] <;> simp [h1, h2]

theorem cAA_comment_backup (fuel : Nat) (ci ci' : CI) (last w : Word) (acc : List Word)
    (h : nextWord valueSettings ci = .ok (some (w, ci'))) (hq : w.quote = none)
    (hlast : isUnq last "\\" = false) (hline : w.line ≠ last.line) :
    collectAssignedAux (fuel + 1) ci last true acc = .ok (acc.reverse, ci) := by
  simp [collectAssignedAux, tryPop, h, hq, hlast, hline]

/-! "What may follow a value" is said in several vocabularies:
  * `EndsValue ci l` (below) speaks of a POSITION: the value tokenizer finds nothing more, or an unquoted word other than
    `;` / `#` on another line than `l`; the collector stops there (`cAA_stop`).
  * `NextOK s` (PrintParseNested) speaks of a TEXT: its first non-blank character is no quote, `;` or `#`; behind white space
    with a newline such a text gives `EndsValue` (`EndsValue_next`).
  * `EndsVal F E` (PrintParse) is the general form the walk of the collector over a word list (`cAA_gaps`) is stated with: an
    unquoted word stops in front of the text `F`, and the collector arriving at `F` returns what it has, at a position
    satisfying `E`.  Instances: `'\n' :: rest` with `NextOK rest` (`endsVal_next`), the fillers and terminators of the
    layouts (`cAA_fill`, `cAA_term`, Layout), the warning line of a deprecated definition (`endsVal_warn`, AttrTrees).
  * `StopHead X` (Layout): `EndsValue` behind ANY white space with a newline in front of `X`, and no quote first; it follows
    from `NextOK X` (`StopHead.of_nextOK`).  `EofHead_l2 X` (Layout): `X` is the end of the text or starts with `}` — what
    may follow the last item of a block.
  * AttrTrees: `WarnNext more` — `more` is the `# WARNING` line of a deprecated definition and then an item;
    `FollowOK L more := NextOK more ∨ (3 ≤ L ∧ WarnNext more)` — what may follow a printed definition; `GoesOnAt F ci` is not
    a condition on a text but the `E` of `endsVal_follow`: from `ci`, `collect_objects` goes on as from the head of `F`. -/

/-- What may follow a complete value whose last word is on line `l`: the end of the input, or an
    unquoted word other than `;` / `#` that sits on another line. -/
def EndsValue (ci : CI) (l : Nat) : Prop :=
  nextWord valueSettings ci = .ok none ∨
  ∃ w' ci', nextWord valueSettings ci = .ok (some (w', ci')) ∧ w'.quote = none ∧
    w'.value ≠ [';'] ∧ w'.value ≠ ['#'] ∧ w'.line ≠ some l

theorem EndsValue_eof (sp : Str) (L l : Nat) (hsp : ∀ d ∈ sp, isSpace d = true) :
    EndsValue ⟨sp, L⟩ l :=
  Or.inl (nextWordAux_blank_eof valueSettings sp L hsp)

theorem nextWord_newline (st : Settings) (rest : Str) (l : Nat) :
    nextWord st ⟨'\n' :: rest, l⟩ = nextWordAux st false rest (l + 1) :=
  nextWord_skip st ['\n'] rest l fun _ hd => List.mem_singleton.mp hd ▸ isSpace_nl

theorem space_nl : ∀ d ∈ ['\n'], isSpace d = true := by
  intro d hd; simp at hd; subst hd; rfl

theorem EndsValue_next (sp rest : Str) (L l0 : Nat) (hsp : ∀ d ∈ sp, isSpace d = true)
    (hl : l0 < L + nlCount sp)
    (hnext : ∀ c, firstNonSpace rest = some c → isQuoteChar c = false ∧ c ≠ ';' ∧ c ≠ '#') :
    EndsValue ⟨sp ++ rest, L⟩ l0 := by
  unfold EndsValue
  rw [nextWord_skip _ sp rest L hsp]
  rcases nextWordAux_firstNonSpace valueSettings rfl rest (L + nlCount sp) with h | ⟨c, v, k, rest', hf, h⟩
  · exact Or.inl h
  · obtain ⟨hq, h1, h2⟩ := hnext c hf
    exact Or.inr ⟨_, _, h hq, rfl, fun e => h1 (List.cons.inj e).1, fun e => h2 (List.cons.inj e).1,
      fun e => by cases e; omega⟩

theorem cAA_stop (fuel : Nat) (ci : CI) (last : Word) (acc : List Word) (l : Nat)
    (hend : EndsValue ci l) (hl : last.line = some l) (hlast : isUnq last "\\" = false) :
    collectAssignedAux (fuel + 1) ci last false acc = .ok (acc.reverse, ci) := by
  rcases hend with h | ⟨w', ci', h, hq, hv1, hv2, hline⟩
  · exact cAA_end fuel ci last false acc h
  · exact cAA_backup fuel ci ci' last w' acc h hq hv1 hv2 hlast (by rw [hl]; exact hline)

/-- A plain unquoted value word: non-empty, no character that ends an unquoted word in value context
    (white space, `{`, `}`, `;`), not starting with a quote character, and neither the continuation
    backslash nor the comment word `#`. -/
def plainWord (w : Str) : Bool :=
  !w.isEmpty && w.all (fun c => !endsUnquoted valueSettings c) && !(w.head?.any isQuoteChar) &&
  w != ['\\'] && w != ['#']

theorem plainWord_cases {w : Str} (h : plainWord w = true) :
    ∃ c t, w = c :: t ∧ (∀ d ∈ c :: t, endsUnquoted valueSettings d = false) ∧
      isQuoteChar c = false ∧ c :: t ≠ ['\\'] ∧ c :: t ≠ ['#'] := by
  cases w with
  | nil => simp [plainWord] at h
  | cons c t =>
    refine ⟨c, t, rfl, ?_⟩
    simp only [plainWord, Bool.and_eq_true, bne_iff_ne, ne_eq, Bool.not_eq_true',
      List.all_eq_true, List.head?_cons, Option.any_some] at h
    obtain ⟨⟨⟨⟨_, h2⟩, h3⟩, h4⟩, h5⟩ := h
    exact ⟨h2, h3, h4, h5⟩

theorem not_special_of_plain {c : Char} {t : Str}
    (hall : ∀ d ∈ c :: t, endsUnquoted valueSettings d = false) (hh : c :: t ≠ ['#']) :
    isSpecialValue (c :: t) = false := by
  have hc := hall c (by simp)
  have e1 : endsUnquoted valueSettings '{' = true := by rfl
  have e2 : endsUnquoted valueSettings '}' = true := by rfl
  have e3 : endsUnquoted valueSettings ';' = true := by rfl
  have n1 : c ≠ '{' := fun e => by rw [e, e1] at hc; cases hc
  have n2 : c ≠ '}' := fun e => by rw [e, e2] at hc; cases hc
  have n3 : c ≠ ';' := fun e => by rw [e, e3] at hc; cases hc
  simp only [isSpecialValue, Bool.or_eq_false_iff, beq_eq_false_iff_ne, ne_eq, List.cons.injEq,
    not_and]
  exact ⟨⟨⟨fun e => absurd e n1, fun e => absurd e n2⟩, fun e => absurd e n3⟩, fun e1 e2 => hh (by rw [e1, e2])⟩

theorem nextWord_plain (st : Settings) (sp : Str) (c : Char) (w rest : Str) (l : Nat)
    (hsp : ∀ d ∈ sp, isSpace d = true) (hcontig : st.contig = [])
    (hw : ∀ d ∈ c :: w, endsUnquoted st d = false) (hq : isQuoteChar c = false)
    (hcm : st.commentChars.contains c = false) (hr : stopsAt st rest = true) :
    nextWord st ⟨sp ++ (c :: w) ++ rest, l⟩
      = .ok (some ({ value := c :: w, quote := none, line := some (l + nlCount sp) },
                   ⟨rest, l + nlCount sp⟩)) := by
  obtain ⟨hc, hall⟩ := List.forall_mem_cons.mp hw
  rw [List.append_assoc, nextWord_skip st sp _ l hsp]
  exact nextWordAux_plain st c w rest _ hc hq (by unfold isCommentStart; rw [hcm]; rfl)
    (startsLong_of_not_ends hcontig hc) hall hr

theorem nextWord_value_plain (sp w rest : Str) (l : Nat) (hsp : ∀ d ∈ sp, isSpace d = true)
    (hw : plainWord w = true) (hr : stopsAt valueSettings rest = true) :
    nextWord valueSettings ⟨sp ++ w ++ rest, l⟩
      = .ok (some ({ value := w, quote := none, line := some (l + nlCount sp) },
                   ⟨rest, l + nlCount sp⟩)) := by
  obtain ⟨c, t, rfl, hall, hq, _, _⟩ := plainWord_cases hw
  exact nextWord_plain valueSettings sp c t rest l hsp rfl hall hq rfl hr

theorem nextWord_single (st : Settings) (sp : Str) (c : Char) (rest : Str) (l : Nat)
    (hsp : ∀ d ∈ sp, isSpace d = true) (hc : isSpace c = false) (hq : isQuoteChar c = false)
    (hcm : st.commentChars.contains c = false) (hl : startsLong st c = false) :
    nextWord st ⟨sp ++ c :: rest, l⟩
      = .ok (some ({ value := [c], quote := none, line := some (l + nlCount sp) },
                   ⟨rest, l + nlCount sp⟩)) := by
  rw [nextWord_skip st sp _ l hsp]
  exact nextWordAux_single st c rest _ hc hq hcm hl

theorem nextWord_value_semicolon (sp rest : Str) (l : Nat) (hsp : ∀ d ∈ sp, isSpace d = true) :
    nextWord valueSettings ⟨sp ++ ';' :: rest, l⟩
      = .ok (some ({ value := [';'], quote := none, line := some (l + nlCount sp) },
                   ⟨rest, l + nlCount sp⟩)) :=
  nextWord_single valueSettings sp ';' rest l hsp rfl rfl rfl rfl

theorem stopsAt_space_append (st : Settings) (sp rest : Str) (hsp : ∀ d ∈ sp, isSpace d = true)
    (hr : stopsAt st rest = true) : stopsAt st (sp ++ rest) = true := by
  cases sp with
  | nil => exact hr
  | cons d ds =>
    have : isSpace d = true := hsp d (by simp)
    simp [stopsAt, endsUnquoted, this]

theorem isUnq_backslash (v : Str) (l : Option Nat) :
    isUnq { value := v, quote := none, line := l } "\\" = (v == ['\\']) := by rfl

/-! ### collect_assigned_words: one printed word -/

/-- a word the round trip is stated for: a quoted word of any content, or a plain unquoted word -/
def goodWord (w : Word) : Bool := w.quote.isSome || plainWord w.value

theorem plainWord_nlCount {w : Str} (h : plainWord w = true) : nlCount w = 0 := by
  obtain ⟨c, t, rfl, hall, _, _, _⟩ := plainWord_cases h
  exact nlCount_of_no_nl _ (fun d hd => not_nl_of_not_endsUnquoted (hall d hd))

theorem not_quote_of_stopsAt {tail : Str} (h : stopsAt valueSettings tail = true) (q : Quote) :
    ∀ r, tail ≠ q.char :: r := by
  intro r e
  subst e
  have : endsUnquoted valueSettings q.char = false := by cases q <;> rfl
  exact Bool.false_ne_true (this.symm.trans h)

theorem str_length_pos {w : Word} (h : goodWord w = true) : 1 ≤ w.str.length := by
  cases hq : w.quote with
  | some q => simp only [Word.str, hq]; exact quoteStr_length_pos q w.value
  | none =>
    have hpw : plainWord w.value = true := by simpa [goodWord, hq] using h
    obtain ⟨c, t, e, _⟩ := plainWord_cases hpw
    simp [Word.str, hq, e]

theorem cAA_good_word (sp : Str) (hsp : ∀ d ∈ sp, isSpace d = true) (w : Word)
    (hg : goodWord w = true) (tail : Str)
    (htail : stopsAt valueSettings tail = true ∨ ∃ q, w.quote = some q ∧ ∀ r, tail ≠ q.char :: r)
    (fuel l : Nat) (last : Word) (acc : List Word)
    (hcond : w.quote = none → isUnq last "\\" = true ∨ last.line = some (l + nlCount sp)) :
    collectAssignedAux (fuel + 1) ⟨sp ++ w.str ++ tail, l⟩ last false acc
      = collectAssignedAux fuel ⟨tail, l + nlCount sp + nlCount w.value⟩
          { w with line := some (l + nlCount sp) } false ({ w with line := some (l + nlCount sp) } :: acc)
    ∧ isUnq { w with line := some (l + nlCount sp) } "\\" = false := by
  cases hq : w.quote with
  | some q =>
    have hrest : ∀ r, tail ≠ q.char :: r :=
      htail.elim (not_quote_of_stopsAt · q) fun ⟨q', e, h⟩ => Option.some.inj (hq.symm.trans e) ▸ h
    have hw : nextWord valueSettings ⟨sp ++ w.str ++ tail, l⟩
        = .ok (some ({ value := w.value, quote := some q, line := some (l + nlCount sp) },
                     ⟨tail, l + nlCount sp + nlCount w.value⟩)) := by
      rw [List.append_assoc, nextWord_skip _ sp _ l hsp, Word.str, hq,
        Phil.C03.next_word_of_quoted valueSettings q w.value _ _ rfl hrest]
    exact ⟨cAA_quoted fuel _ _ last _ acc q hw rfl, by simp [isUnq]⟩
  | none =>
    have hpw : plainWord w.value = true := by simpa [goodWord, hq] using hg
    have hw := nextWord_value_plain sp w.value tail l hsp hpw
      (htail.resolve_right fun ⟨q, e, _⟩ => nomatch hq.symm.trans e)
    obtain ⟨c, t', e', hall, _, hb, hh⟩ := plainWord_cases hpw
    rw [Word.str, hq, plainWord_nlCount hpw, Nat.add_zero]
    rw [e'] at hw ⊢
    exact ⟨cAA_take fuel _ _ last _ acc hw rfl (not_special_of_plain hall hh) hb
      ((hcond hq).imp_right Eq.symm), by rw [isUnq_backslash]; simpa using hb⟩

theorem collectAssigned_of_aux {ci ci' : CI} {lead : Word} {ws : List Word} (hne : ws ≠ [])
    (h : collectAssignedAux (ci.rest.length + 1) ci lead false [] = .ok (ws, ci')) :
    collectAssigned ci lead = .ok (ws, ci') := by
  unfold collectAssigned
  rw [h]
  cases ws with
  | nil => exact absurd rfl hne
  | cons w ws => rfl

/-- **One word of a value.**  White space, a word as it is printed (a plain one on the line of the lead
    word), then text `tail`: if the loop of `collect_assigned_words`, holding that word in front of
    `tail`, returns what it has at a position `E`, then `collect_assigned_words` returns exactly that
    word, at such a position.  What `tail` is — the end of the text, a word on a later line, `;`, a
    comment — is the caller's `hF`. -/
theorem collectAssigned_word {E : CI → Prop} (sp : Str) (w : Word) (tail : Str) (l : Nat) (lead : Word)
    (hsp : ∀ d ∈ sp, isSpace d = true) (hg : goodWord w = true)
    (htail : stopsAt valueSettings tail = true ∨ ∃ q, w.quote = some q ∧ ∀ r, tail ≠ q.char :: r)
    (hlead : w.quote = none → lead.line = some (l + nlCount sp))
    (hF : ∀ fuel acc, tail.length ≤ fuel → isUnq { w with line := some (l + nlCount sp) } "\\" = false →
      ∃ ci', E ci' ∧ collectAssignedAux (fuel + 1) ⟨tail, l + nlCount sp + nlCount w.value⟩
        { w with line := some (l + nlCount sp) } false acc = .ok (acc.reverse, ci')) :
    ∃ ci', E ci' ∧ collectAssigned ⟨sp ++ w.str ++ tail, l⟩ lead
      = .ok ([{ w with line := some (l + nlCount sp) }], ci') := by
  have hwl := str_length_pos hg
  obtain ⟨n, hn, hle⟩ : ∃ n, (sp ++ w.str ++ tail).length = n + 1 ∧ tail.length ≤ n := by
    refine ⟨(sp ++ w.str ++ tail).length - 1, ?_, ?_⟩ <;> simp only [List.length_append] <;> omega
  obtain ⟨hstep, hbs⟩ := cAA_good_word sp hsp w hg tail htail (n + 1) l lead [] fun hq => .inr (hlead hq)
  obtain ⟨ci', hE, h⟩ := hF n [_] hle hbs
  refine ⟨ci', hE, collectAssigned_of_aux (List.cons_ne_nil _ _) ?_⟩
  show collectAssignedAux ((sp ++ w.str ++ tail).length + 1) _ _ _ _ = _
  rw [hn, hstep, h]
  rfl

/-! ### a trailing comment -/

/-- Reader for the text of a comment in value context, from the character after the `#` up to (not
    including) the newline.  It accepts the text iff it contains no newline, no word of it *starts*
    with a quote character (a quote inside a word is harmless), and its last word is not a lone
    backslash.  Words are delimited the way the value-context tokenizer delimits them: by white
    space and by the single-character words `{ } ;`.
    `bs`: the last complete word read so far is a lone `\`; `atStart`: the next character would
    start a new word. -/
def commentOk : Bool → Bool → Str → Bool
  | bs, _, [] => !bs
  | bs, atStart, c :: cs =>
    if c == '\n' then false
    else if isSpace c then commentOk bs true cs
    else if endsUnquoted valueSettings c then commentOk false true cs
    else if atStart then !isQuoteChar c && commentOk (c == '\\') false cs
    else commentOk false false cs

theorem ends_value_cases {c : Char} (h : endsUnquoted valueSettings c = true) :
    isSpace c = true ∨ c = '{' ∨ c = '}' ∨ c = ';' := by
  simp [endsUnquoted, valueSettings, Gen.valueSingle] at h
  rcases h with h | h | h | h
  · exact Or.inl h
  · exact Or.inr (Or.inl h)
  · exact Or.inr (Or.inr (Or.inl h))
  · exact Or.inr (Or.inr (Or.inr h))

theorem ends_of_isSpace (st : Settings) {c : Char} (h : isSpace c = true) : endsUnquoted st c = true := by
  simp [endsUnquoted, h]

theorem commentOk_scan (rest : Str) : ∀ (r : Str) (bs : Bool), commentOk bs false r = true →
    ∃ a1 a2, r = a1 ++ a2 ∧ (∀ d ∈ a1, endsUnquoted valueSettings d = false) ∧
      stopsAt valueSettings (a2 ++ '\n' :: rest) = true ∧
      commentOk (bs && a1.isEmpty) true a2 = true := by
  intro r
  induction r with
  | nil =>
    intro bs h
    refine ⟨[], [], rfl, by intro d hd; simp at hd, by rfl, ?_⟩
    simpa [commentOk] using h
  | cons d r' ih =>
    intro bs h
    rw [commentOk] at h
    split at h
    · cases h
    · split at h
      · rename_i _ hsp
        refine ⟨[], d :: r', rfl, by intro x hx; simp at hx, ends_of_isSpace _ hsp, ?_⟩
        rw [commentOk]
        simp [*]
      · split at h
        · rename_i hnl hsp he
          refine ⟨[], d :: r', rfl, by intro x hx; simp at hx, he, ?_⟩
          rw [commentOk]
          simp [*]
        · rename_i hnl hsp he
          simp only [Bool.false_eq_true, ↓reduceIte] at h
          obtain ⟨a1, a2, e, hall, hst, hok⟩ := ih false h
          refine ⟨d :: a1, a2, by rw [e]; rfl, ?_, hst, ?_⟩
          · intro x hx
            simp only [List.mem_cons] at hx
            rcases hx with e | e
            · rw [e]; simpa using he
            · exact hall x e
          · simpa using hok

theorem commentOk_skip : ∀ (sp x : Str) (bs : Bool), (∀ d ∈ sp, isSpace d = true) →
    commentOk bs true (sp ++ x) = true → InlineSpace sp ∧ commentOk bs true x = true := by
  intro sp
  induction sp with
  | nil => intro x bs _ h; exact ⟨by intro d hd; simp at hd, h⟩
  | cons c cs ih =>
    intro x bs hsp h
    have hc : isSpace c = true := hsp c (by simp)
    rw [List.cons_append, commentOk] at h
    split at h
    · cases h
    · rename_i hnl
      obtain ⟨h1, h2⟩ := ih x bs (fun d hd => hsp d (by simp [hd])) h
      refine ⟨?_, h2⟩
      intro d hd
      simp only [List.mem_cons] at hd
      rcases hd with e | e
      · rw [e]; exact ⟨hc, by simpa using hnl⟩
      · exact h1 d e

theorem nextWord_inline_space (st : Settings) (tb rest : Str) (l : Nat) (htb : InlineSpace tb) :
    nextWord st ⟨tb ++ rest, l⟩ = nextWord st ⟨rest, l⟩ := by
  rw [nextWord_skip st tb _ l htb.isSpace, htb.nlCount]; rfl

theorem cAA_comment_newline (tb rest : Str) (l : Nat) (htb : InlineSpace tb)
    (hnext : ∀ c, firstNonSpace rest = some c → isQuoteChar c = false)
    (fuel : Nat) (last : Word) (acc : List Word) (hl : last.line = some l)
    (hlast : isUnq last "\\" = false) :
    collectAssignedAux (fuel + 1) ⟨tb ++ '\n' :: rest, l⟩ last true acc
      = .ok (acc.reverse, ⟨tb ++ '\n' :: rest, l⟩) := by
  have e : nextWord valueSettings ⟨tb ++ '\n' :: rest, l⟩ = nextWordAux valueSettings false rest (l + 1) := by
    rw [nextWord_inline_space _ tb _ l htb, nextWord_newline]
  rcases nextWordAux_firstNonSpace valueSettings rfl rest (l + 1) with h | ⟨c, v, k, rest', hf, h⟩
  · exact cAA_end fuel _ last true acc (e.trans h)
  · exact cAA_comment_backup fuel _ _ last _ acc (e.trans (h (hnext c hf))) rfl hlast
      (by rw [hl]; intro e; have := Option.some.inj e; omega)

theorem cAA_comment_body (rest : Str) (l : Nat)
    (hnext : ∀ c, firstNonSpace rest = some c → isQuoteChar c = false) :
    ∀ (fuel : Nat) (a : Str) (last : Word) (acc : List Word),
      a.length + 1 ≤ fuel → last.line = some l → commentOk (isUnq last "\\") true a = true →
      ∃ tb, InlineSpace tb ∧
        collectAssignedAux fuel ⟨a ++ '\n' :: rest, l⟩ last true acc
          = .ok (acc.reverse, ⟨tb ++ '\n' :: rest, l⟩) := by
  intro fuel
  induction fuel with
  | zero => intro a last acc hf; omega
  | succ f ih =>
    intro a last acc hf hl hok
    cases hfs : firstNonSpace a with
    | none =>
      -- only blanks are left in the comment
      have hsp := firstNonSpace_none hfs
      have hok' : commentOk (isUnq last "\\") true (a ++ []) = true := by simpa using hok
      obtain ⟨hin, hnil⟩ := commentOk_skip a [] _ hsp hok'
      have hbs : isUnq last "\\" = false := by simpa [commentOk] using hnil
      exact ⟨a, hin, cAA_comment_newline a rest l hin hnext f last acc hl hbs⟩
    | some c =>
      obtain ⟨sp, r, e, hsp, hc⟩ := firstNonSpace_some hfs
      subst e
      obtain ⟨hin, hok2⟩ := commentOk_skip sp (c :: r) _ hsp hok
      have hflen : r.length + 1 ≤ f := by
        simp only [List.length_append, List.length_cons] at hf; omega
      rw [commentOk] at hok2
      split at hok2
      · cases hok2
      · simp only [hc, Bool.false_eq_true, ↓reduceIte] at hok2
        split at hok2
        · -- a single-character word `{`, `}` or `;`
          rename_i hnl he
          have hfacts : isQuoteChar c = false ∧ startsLong valueSettings c = false ∧ c ≠ '\\' := by
            rcases ends_value_cases he with h | h | h | h
            · rw [h] at hc; cases hc
            · subst h; exact ⟨by rfl, by rfl, by decide⟩
            · subst h; exact ⟨by rfl, by rfl, by decide⟩
            · subst h; exact ⟨by rfl, by rfl, by decide⟩
          have hw := nextWord_single valueSettings sp c (r ++ '\n' :: rest) l hsp hc hfacts.1 rfl
            hfacts.2.1
          rw [hin.nlCount, Nat.add_zero] at hw
          rw [List.append_assoc, List.cons_append, cAA_comment_word f _ _ last _ acc hw rfl (by rw [hl])]
          have hb : isUnq { value := [c], quote := none, line := some l } "\\" = false := by
            rw [isUnq_backslash]; simp [hfacts.2.2]
          exact ih r _ acc hflen rfl (by rw [hb]; exact hok2)
        · -- a plain word
          rename_i hnl he
          simp only [Bool.and_eq_true, Bool.not_eq_true'] at hok2
          obtain ⟨hq, hok3⟩ := hok2
          have he' : endsUnquoted valueSettings c = false := by simpa using he
          obtain ⟨a1, a2, e, hall, hst, hok4⟩ := commentOk_scan rest r _ hok3
          subst e
          have hw := nextWord_plain valueSettings sp c a1 (a2 ++ '\n' :: rest) l hsp rfl
            (List.forall_mem_cons.mpr ⟨he', hall⟩) hq rfl hst
          rw [hin.nlCount, Nat.add_zero] at hw
          have e : sp ++ c :: (a1 ++ a2) ++ '\n' :: rest = sp ++ (c :: a1) ++ (a2 ++ '\n' :: rest) := by
            simp
          rw [e, cAA_comment_word f _ _ last _ acc hw rfl (by rw [hl])]
          have hb : isUnq { value := c :: a1, quote := none, line := some l } "\\"
              = (c == '\\' && a1.isEmpty) := by
            rw [isUnq_backslash]
            cases a1 <;> simp
          have hflen2 : a2.length + 1 ≤ f := by
            simp only [List.length_append] at hflen; omega
          exact ih a2 _ acc hflen2 rfl (by rw [hb]; exact hok4)

theorem cAA_comment_line (sb cmt R : Str) (L : Nat) (hsb : ∀ d ∈ sb, isSpace d = true)
    (hstop : stopsAt valueSettings cmt = true) (hok : commentOk false true cmt = true)
    (hR : ∀ c, firstNonSpace R = some c → isQuoteChar c = false)
    (fuel : Nat) (last : Word) (acc : List Word) (hf : cmt.length + 2 ≤ fuel) :
    ∃ tb, InlineSpace tb ∧
      collectAssignedAux fuel ⟨sb ++ '#' :: (cmt ++ '\n' :: R), L⟩ last false acc
        = .ok (acc.reverse, ⟨tb ++ '\n' :: R, L + nlCount sb⟩) := by
  obtain ⟨f, rfl⟩ : ∃ f, fuel = f + 1 := ⟨fuel - 1, by omega⟩
  have hhash := nextWord_plain valueSettings sb '#' [] (cmt ++ '\n' :: R) L hsb rfl (by decide) rfl rfl
    (by cases cmt with
        | nil => rfl
        | cons d r => exact hstop)
  rw [List.append_assoc, List.singleton_append] at hhash
  obtain ⟨tb, htb, hbody⟩ := cAA_comment_body R (L + nlCount sb) hR f cmt
    { value := ['#'], quote := none, line := some (L + nlCount sb) } acc (by omega) rfl
    (by rw [isUnq_backslash]; exact hok)
  exact ⟨tb, htb, by rw [cAA_hash f _ _ last _ acc hhash rfl rfl, hbody]⟩

/-! ### collect_objects: one plain definition -/

/-- a name that `collect_objects` treats as the name of an ordinary definition -/
def plainDefName (nm : Str) : Bool :=
  nm != "#phil".toList && nm != ['}'] && nm != ['{'] && nm.head? != some '!' &&
  nm.take 1 != ['.'] && isStdIdent nm && nm != "include".toList && !reservedName true nm

theorem stripBang_of_not_bang (w : Word) (h : w.value.head? ≠ some '!') : stripBang w = (w, false) := by
  unfold stripBang
  split
  · rename_i r hv; rw [hv] at h; simp at h
  · rfl

def bangText_l2 : Bool → Str
  | true => ['!']
  | false => []

theorem stripBang_bang_l2 (w : Word) (nm : Str) (h : w.value = '!' :: nm) :
    stripBang w = ({ w with value := nm }, true) := by
  unfold stripBang
  split
  · rename_i r hv
    rw [h] at hv
    simp only [List.cons.injEq, true_and] at hv
    rw [hv]
  · rename_i hn
    exact absurd h (hn nm)

theorem stripBang_bangText_l2 (w : Word) (b : Bool) (nm : Str) (hv : w.value = bangText_l2 b ++ nm)
    (hnb : nm.head? ≠ some '!') : stripBang w = ({ w with value := nm }, b) := by
  cases b with
  | true => exact stripBang_bang_l2 w nm hv
  | false =>
    obtain ⟨v, q, l⟩ := w
    obtain rfl : v = nm := hv
    exact stripBang_of_not_bang _ hnb

theorem stripBang_lead {lead : Word} {nm : Str} {b : Bool}
    (hv : lead.value = bangText_l2 b ++ nm) (hname : plainDefName nm = true) :
    stripBang lead = ({ lead with value := nm }, b) ∧
      ¬ lead.value = ['#', 'p', 'h', 'i', 'l'] ∧ ¬ lead.value = ['}'] ∧ ¬ lead.value = ['{'] := by
  simp only [plainDefName, Bool.and_eq_true, bne_iff_ne, ne_eq, Bool.not_eq_true'] at hname
  obtain ⟨⟨⟨⟨⟨⟨⟨n1, n2⟩, n3⟩, n4⟩, _⟩, _⟩, _⟩, _⟩ := hname
  have n1' : ¬ nm = ['#', 'p', 'h', 'i', 'l'] := by simpa using n1
  refine ⟨stripBang_bangText_l2 lead b nm hv n4, ?_⟩
  rw [hv]
  cases b <;> simp [bangText_l2, n1', n2, n3]

/-- the turn at `[!]name = value…`: the pending definition is flushed, the new one — disabled under `!` — becomes pending
    with the next id -/
theorem collectObjects_defn_step_any (fuel : Nat) (st : PState) (stop : Option Word) (prevLine : Nat)
    (acc : List Obj) (pending : Option Obj) (lead eq : Word) (nm : Str) (b : Bool) (ci1 ci2 ci4 : CI)
    (ws : List Word)
    (h1 : nextWord structSettings st.ci = .ok (some (lead, ci1)))
    (hlq : lead.quote = none) (hv : lead.value = (if b then ['!'] else []) ++ nm)
    (hname : plainDefName nm = true)
    (h2 : nextWord structSettings ci1 = .ok (some (eq, ci2)))
    (heq : eq.quote = none) (heqv : eq.value = ['='])
    (h3 : collectAssigned ci2 { lead with value := nm } = .ok (ws, ci4)) :
    collectObjects (fuel + 1) st stop prevLine acc pending
      = collectObjects fuel { ci := ci4, nextId := st.nextId + 1 } stop (lead.line.getD 0)
          (flush acc pending)
          (some (.defn { name := nm, id := some st.nextId, disabled := b, line := lead.line } ws)) := by
  obtain ⟨hsb, m1, m2, m3⟩ := stripBang_lead (b := b) (by cases b <;> exact hv) hname
  simp only [plainDefName, Bool.and_eq_true, bne_iff_ne, ne_eq, Bool.not_eq_true'] at hname
  obtain ⟨⟨⟨⟨_, n5⟩, n6⟩, n7⟩, n8⟩ := hname
  have n7' : ¬ nm = ['i', 'n', 'c', 'l', 'u', 'd', 'e'] := by simpa using n7
  have e1 := tryPopUnquoted_of_next h1 hlq
  have e2 := pop_of_next h2
  have e3 := popUnquoted_of_next h2 heq
  cases stop <;>
    simp [collectObjects, e1, e2, e3, m1, m2, m3, hsb, n5, n6, n7', n8, heq, heqv, h3]

theorem collectObjects_defn_step (fuel : Nat) (st : PState) (stop : Option Word) (prevLine : Nat)
    (acc : List Obj) (pending : Option Obj) (lead eq : Word) (ci1 ci2 ci4 : CI) (ws : List Word)
    (h1 : nextWord structSettings st.ci = .ok (some (lead, ci1)))
    (hlq : lead.quote = none)
    (hname : plainDefName lead.value = true)
    (h2 : nextWord structSettings ci1 = .ok (some (eq, ci2)))
    (heq : eq.quote = none) (heqv : eq.value = ['='])
    (h3 : collectAssigned ci2 lead = .ok (ws, ci4)) :
    collectObjects (fuel + 1) st stop prevLine acc pending
      = collectObjects fuel { ci := ci4, nextId := st.nextId + 1 } stop (lead.line.getD 0)
          (flush acc pending)
          (some (.defn { name := lead.value, id := some st.nextId, disabled := false,
                         line := lead.line } ws)) :=
  collectObjects_defn_step_any fuel st stop prevLine acc pending lead eq lead.value false ci1 ci2 ci4 ws
    h1 hlq rfl hname h2 heq heqv h3

/-- the turn at the end of the text (outermost level): the pending definition is flushed, the run ends -/
theorem collectObjects_end (fuel : Nat) (st : PState) (prevLine : Nat) (acc : List Obj)
    (pending : Option Obj) (h : nextWord structSettings st.ci = .ok none) :
    collectObjects (fuel + 1) st none prevLine acc pending = .ok (flush acc pending, st) := by
  simp [collectObjects, tryPopUnquoted_of_next_none h]

theorem nextWord_struct_eq (sp rest : Str) (l : Nat) (hsp : ∀ d ∈ sp, isSpace d = true) :
    nextWord structSettings ⟨sp ++ '=' :: rest, l⟩
      = .ok (some ({ value := ['='], quote := none, line := some (l + nlCount sp) },
                   ⟨rest, l + nlCount sp⟩)) :=
  nextWord_single structSettings sp '=' rest l hsp rfl rfl rfl rfl

theorem collectObjects_simple_defn (fuel : Nat) (st : PState) (stop : Option Word) (prevLine : Nat)
    (acc : List Obj) (pending : Option Obj) (pre : Str) (c : Char) (w sp1 V : Str) (l : Nat)
    (ws : List Word) (ci4 : CI)
    (hci : st.ci = ⟨pre ++ (c :: w) ++ (sp1 ++ '=' :: V), l⟩)
    (hpre : ∀ d ∈ pre, isSpace d = true) (hsp1 : ∀ d ∈ sp1, isSpace d = true)
    (hnm : ∀ d ∈ c :: w, endsUnquoted structSettings d = false)
    (hq : isQuoteChar c = false) (hhash : c ≠ '#')
    (hname : plainDefName (c :: w) = true)
    (h3 : collectAssigned ⟨V, l + nlCount pre + nlCount sp1⟩
            { value := c :: w, quote := none, line := some (l + nlCount pre) } = .ok (ws, ci4)) :
    collectObjects (fuel + 1) st stop prevLine acc pending
      = collectObjects fuel { ci := ci4, nextId := st.nextId + 1 } stop (l + nlCount pre)
          (flush acc pending)
          (some (.defn { name := c :: w, id := some st.nextId, line := some (l + nlCount pre) } ws)) := by
  have hcm : structSettings.commentChars.contains c = false := by
    simp [structSettings, Gen.structComment, hhash]
  have hr : stopsAt structSettings (sp1 ++ '=' :: V) = true :=
    stopsAt_space_append _ _ _ hsp1 (by rfl)
  have h1 := nextWord_plain structSettings pre c w (sp1 ++ '=' :: V) l hpre rfl hnm hq hcm hr
  rw [← hci] at h1
  exact collectObjects_defn_step fuel st stop prevLine acc pending _ _ _ _ ci4 ws h1 rfl hname
    (nextWord_struct_eq sp1 V (l + nlCount pre) hsp1) rfl rfl h3

/-! ### the turns of `collect_objects` that layouts and round trips share: `}`, a scope header, an attribute -/

/-- what `collect_objects` does with the result of the recursive call for the body of a scope -/
def scopeCont (fuel : Nat) (stop : Option Word) (prevLine : Nat) (acc : List Obj) (pending : Option Obj)
    (m : Meta) : R (List Obj × PState) → R (List Obj × PState)
  | .error e => .error e
  | .ok (children, st') =>
    collectObjects fuel st' stop prevLine (adopt (flush acc pending) (.scope m children)) none

theorem ends_bang_l2 : endsUnquoted structSettings '!' = false := by rfl

theorem nextWordAux_bang_word_l2 (b : Bool) (c : Char) (w rest : Str) (l : Nat)
    (hc : endsUnquoted structSettings c = false) (hq : isQuoteChar c = false)
    (hcm : structSettings.commentChars.contains c = false)
    (hw : ∀ d ∈ w, endsUnquoted structSettings d = false) (hstop : stopsAt structSettings rest = true) :
    nextWordAux structSettings false (bangText_l2 b ++ (c :: w ++ rest)) l
      = .ok (some ({ value := bangText_l2 b ++ c :: w, quote := none, line := some l }, ⟨rest, l⟩)) := by
  cases b with
  | false =>
    exact nextWordAux_plain structSettings c w rest l hc hq (by unfold isCommentStart; rw [hcm]; rfl)
      (startsLong_of_not_ends rfl hc) hw hstop
  | true =>
    exact nextWordAux_plain structSettings '!' (c :: w) rest l ends_bang_l2 (by rfl) (by rfl) (by rfl)
      (fun x hx => (List.mem_cons.mp hx).elim (fun e => e ▸ hc) (hw x)) hstop

def attrLead (n : String) : Str := '.' :: n.toList

def Obj.addAttr (o : Obj) (n : String) (v : AttrVal) : Obj :=
  o.withMeta (fun m => { m with attrs := m.attrs ++ [(n, v)] })

/-- the turn at `}`: the pending definition is flushed, the run over the body of the scope ends -/
theorem collectObjects_close_l2 (fuel : Nat) (st : PState) (sw w : Word) (ci1 : CI) (prevLine : Nat)
    (acc : List Obj) (pending : Option Obj)
    (h1 : nextWord structSettings st.ci = .ok (some (w, ci1))) (hq : w.quote = none)
    (hv : w.value = ['}']) :
    collectObjects (fuel + 1) st (some sw) prevLine acc pending
      = .ok (flush acc pending, { st with ci := ci1 }) := by
  have e1 := tryPopUnquoted_of_next h1 hq
  simp [collectObjects, e1, hv]

/-- the turn at a scope header `[!]name [.attr = …]* {`: the header loop has read the attributes, the body is read by the
    recursive call and the scope is adopted (`scopeCont`) -/
theorem collectObjects_scope_attrs_step_ls (fuel : Nat) (st : PState) (stop : Option Word)
    (prevLine : Nat) (acc : List Obj) (pending : Option Obj) (lead w brace : Word) (ci1 ci2 ci3 : CI)
    (nm : Str) (b : Bool) (attrs : Attrs)
    (h1 : nextWord structSettings st.ci = .ok (some (lead, ci1)))
    (hlq : lead.quote = none) (hv : lead.value = bangText_l2 b ++ nm)
    (hname : plainDefName nm = true) (hstd : isStdIdent nm = true) (hres : reservedName false nm = false)
    (h2 : nextWord structSettings ci1 = .ok (some (w, ci2)))
    (hwq : w.quote = none)
    (hwv : (w.value == ['{'] || w.value.take 1 == ['.'] || w.value.take 2 == ['!', '.']) = true)
    (hloop : scopeAttrsLoop (ci2.rest.length + 2) ci2 w [] = .ok (attrs, brace, ci3)) :
    collectObjects (fuel + 1) st stop prevLine acc pending
      = scopeCont fuel stop (lead.line.getD 0) acc pending
          { name := nm, id := some st.nextId, disabled := b, line := lead.line, attrs := attrs }
          (collectObjects fuel { ci := ci3, nextId := st.nextId + 1 } (some brace) 0 [] none) := by
  obtain ⟨hsb, m1, m2, m3⟩ := stripBang_lead hv hname
  have e1 := tryPopUnquoted_of_next h1 hlq
  have e2 := pop_of_next h2
  cases stop <;>
    simp [collectObjects, e1, e2, m1, m2, m3, hsb, hstd, hres, hwq, hwv, hloop, scopeCont] <;>
    rfl

/-- the turn at `[!].attr = value…` behind a definition: the value goes to the pending definition (under `!` nothing
    changes) -/
theorem collectObjects_attr_step_la (fuel : Nat) (st : PState) (stop : Option Word) (prevLine : Nat)
    (acc : List Obj) (d : Obj) (lead eq : Word) (ci1 ci2 ci4 : CI) (ws : List Word)
    (n : String) (b : Bool) (v : AttrVal)
    (h1 : nextWord structSettings st.ci = .ok (some (lead, ci1)))
    (hlq : lead.quote = none) (hv : lead.value = bangText_l2 b ++ attrLead n)
    (hn : defAttrNames.contains n = true)
    (h2 : nextWord structSettings ci1 = .ok (some (eq, ci2)))
    (heq : eq.quote = none) (heqv : eq.value = ['='])
    (h3 : collectAssigned ci2 { lead with value := attrLead n } = .ok (ws, ci4))
    (hval : b = false → defAttrValue n ws = .ok v) :
    collectObjects (fuel + 1) st stop prevLine acc (some d)
      = collectObjects fuel { st with ci := ci4 } stop (lead.line.getD 0) acc
          (if b then some d else some (d.addAttr n v)) := by
  have e1 := tryPopUnquoted_of_next h1 hlq
  have e2 := pop_of_next h2
  have e3 := popUnquoted_of_next h2 heq
  have hofl : String.ofList n.toList = n := by simp
  have hn' : n ∈ defAttrNames := by simpa using hn
  have hsb := stripBang_bangText_l2 lead b (attrLead n) hv (by simp [attrLead])
  have hb : ¬ lead.value = ['#', 'p', 'h', 'i', 'l'] ∧ ¬ lead.value = ['}'] ∧ ¬ lead.value = ['{'] := by
    rw [hv]
    cases b <;> simp [bangText_l2, attrLead]
  simp only [attrLead] at h3 hsb
  cases b with
  | true =>
    cases stop <;>
      simp [collectObjects, e1, e2, e3, hb.1, hb.2.1, hb.2.2, hsb, heq, heqv, h3, hn', hofl]
  | false =>
    have hval' := hval rfl
    cases stop <;>
      simp [collectObjects, e1, e2, e3, hb.1, hb.2.1, hb.2.2, hsb, heq, heqv, h3, hn', hofl, hval',
        Obj.addAttr]

/-! ### scope.adopt for undotted names -/

theorem wrapDotted_undotted (o : Obj) (h : '.' ∉ o.name) : wrapDotted o = o := by
  unfold wrapDotted
  simp [splitOn_of_not_mem '.' o.name h]

theorem flush_some_undotted (acc : List Obj) (o : Obj) (h : '.' ∉ o.name) :
    flush acc (some o) = acc ++ [o] := by
  simp [flush, adopt, wrapDotted_undotted o h]

end Phil
