/-
  Totality of `deepcopy` (Phil/Heap.lean): `visitFuel` is enough fuel for `visit` on every heap without
  dangling reference.

  Measure of a traversal state (todo, seen):
      todo.length + Σ_{i not yet seen} (succs(h[i]).length + 1) + 1.
  Popping an already seen id lowers it by 1; entering a new object `x` replaces one stack entry by
  `succs(x).length` entries and removes `succs(x).length + 1` from the sum (net −2).  At the start
  (todo = [x], seen = []) the measure is `visitFuel h`.
-/
import Phil.Proofs.HeapLemmas
import Phil.Proofs.HeapBuild
namespace Phil.Heap

/-- Σ over the cells of `rest` (ids `b, b+1, …`) not in `S` of `succs.length + 1` -/
def costFrom (S : List Nat) : Nat → List Node → Nat
  | _, [] => 0
  | b, n :: rest => (if b ∈ S then 0 else n.succs.length + 1) + costFrom S (b + 1) rest

theorem costFrom_nil : ∀ (b : Nat) (h : List Node),
    costFrom [] b h = (h.map fun n => n.succs.length).sum + h.length
  | _, [] => rfl
  | b, n :: rest => by
    simp only [costFrom, List.not_mem_nil, if_false, List.map_cons, List.sum_cons, List.length_cons]
    rw [costFrom_nil (b + 1) rest]; omega

theorem costFrom_mono (S : List Nat) (x : Nat) : ∀ (b : Nat) (h : List Node),
    costFrom (S ++ [x]) b h ≤ costFrom S b h
  | _, [] => Nat.le_refl _
  | b, n :: rest => by
    simp only [costFrom]
    have ih := costFrom_mono S x (b + 1) rest
    by_cases hb : b ∈ S
    · have : b ∈ S ++ [x] := List.mem_append_left _ hb
      rw [if_pos hb, if_pos this]; omega
    · by_cases hb' : b ∈ S ++ [x]
      · rw [if_pos hb', if_neg hb]; omega
      · rw [if_neg hb', if_neg hb]; omega

theorem costFrom_enter (S : List Nat) (x : Nat) (n : Node) (hx : x ∉ S) : ∀ (b : Nat) (h : List Node),
    b ≤ x → h[x - b]? = some n → costFrom (S ++ [x]) b h + (n.succs.length + 1) ≤ costFrom S b h
  | _, [], _, hg => by simp at hg
  | b, m :: rest, hb, hg => by
    simp only [costFrom]
    by_cases hxb : x = b
    · subst hxb
      rw [Nat.sub_self] at hg
      simp only [List.getElem?_cons_zero, Option.some.injEq] at hg
      subst hg
      have h1 : x ∈ S ++ [x] := by simp
      rw [if_pos h1, if_neg hx]
      have := costFrom_mono S x (x + 1) rest
      omega
    · have hlt : b + 1 ≤ x := by omega
      have hidx : x - b = (x - (b + 1)) + 1 := by omega
      rw [hidx, List.getElem?_cons_succ] at hg
      have ih := costFrom_enter S x n hx (b + 1) rest hlt hg
      by_cases hbS : b ∈ S
      · have : b ∈ S ++ [x] := List.mem_append_left _ hbS
        rw [if_pos hbS, if_pos this]; omega
      · have : b ∉ S ++ [x] := by
          intro hm
          rcases List.mem_append.mp hm with hm | hm
          · exact hbS hm
          · simp only [List.mem_singleton] at hm; exact hxb hm.symm
        rw [if_neg hbS, if_neg this]; omega

theorem visit_total : ∀ (f : Nat) (h : Heap) (todo : List Nat) (seen : List (Nat × Node)),
    Closed h → (∀ y ∈ todo, y < h.length) →
    todo.length + costFrom (seen.map (·.1)) 0 h + 1 ≤ f → ∃ comp, visit f h todo seen = some comp
  | 0, _, _, _, _, _, hf => by omega
  | f + 1, h, [], seen, _, _, _ => ⟨seen, by simp [visit]⟩
  | f + 1, h, x :: todo, seen, hc, ht, hf => by
    simp only [visit]
    by_cases hx : x ∈ seen.map (·.1)
    · rw [if_pos hx]
      refine visit_total f h todo seen hc (fun y hy => ht y (List.mem_cons_of_mem _ hy)) ?_
      simp only [List.length_cons] at hf; omega
    · rw [if_neg hx]
      have hxl : x < h.length := ht x (by simp)
      have hg : h[x]? = some h[x] := List.getElem?_eq_getElem hxl
      rw [hg]
      simp only
      refine visit_total f h (h[x].succs ++ todo) (seen ++ [(x, h[x])]) hc ?_ ?_
      · intro y hy
        rcases List.mem_append.mp hy with hy | hy
        · exact hc x _ hg y hy
        · exact ht y (List.mem_cons_of_mem _ hy)
      · have := costFrom_enter (seen.map (·.1)) x h[x] hx 0 h (Nat.zero_le _) (by simp)
        simp only [List.length_cons, List.length_append, List.map_append, List.map_cons, List.map_nil] at hf ⊢
        omega

theorem visit_visitFuel (h : Heap) (x : Nat) (hc : Closed h) (hx : x < h.length) :
    ∃ comp, visit (visitFuel h) h [x] [] = some comp := by
  refine visit_total (visitFuel h) h [x] [] hc (fun y hy => by simp at hy; omega) ?_
  simp only [List.map_nil, List.length_cons, List.length_nil]
  rw [costFrom_nil]
  unfold visitFuel; omega

theorem deepcopy_total (h : Heap) (x : Nat) (hc : closedB h = true) (hx : x < h.length) :
    ∃ c, deepcopy h x = some c := by
  obtain ⟨comp, hv⟩ := visit_visitFuel h x (closedB_sound hc) hx
  unfold deepcopy
  rw [hv]
  exact ⟨_, rfl⟩

/-! ### every built heap is well-formed

  The cells `cells o p b` at offset `b` of a heap form a tree relative to the id range `[b, b + size o)`:
  children have greater ids inside the range and point back; every non-root has a parent with a smaller id
  inside the range, a scope that lists it; child lists have no duplicate. -/

/-- what is required of the cell `n` of object `i` relative to the id range `[b, e)`, whose roots are
    `roots` (parent `rp`) -/
structure CellOK (H : Heap) (b e : Nat) (roots : List Nat) (rp : Option Nat) (i : Nat) (n : Node) : Prop where
  nodup : n.kids.Nodup
  kids : ∀ k ∈ n.kids, i < k ∧ k < e ∧ ∃ nk, H[k]? = some nk ∧ nk.parent = some i
  par : (i ∈ roots ∧ n.parent = rp) ∨
    (∃ q nq, n.parent = some q ∧ b ≤ q ∧ q < i ∧ H[q]? = some nq ∧ nq.isScope = true ∧ i ∈ nq.kids)

def RangeOK (H : Heap) (b e : Nat) (roots : List Nat) (rp : Option Nat) : Prop :=
  ∀ i n, b ≤ i → i < e → H[i]? = some n → CellOK H b e roots rp i n

theorem CellOK.widen {H : Heap} {b e : Nat} {roots : List Nat} {rp : Option Nat} {i : Nat} {n : Node}
    (c : CellOK H b e roots rp i n) {b' e' : Nat} {roots' : List Nat} (hb : b' ≤ b) (he : e ≤ e')
    (hr : ∀ r ∈ roots, r ∈ roots') : CellOK H b' e' roots' rp i n := by
  refine ⟨c.nodup, ?_, ?_⟩
  · intro k hk
    obtain ⟨a, b1, c1⟩ := c.kids k hk
    exact ⟨a, by omega, c1⟩
  · rcases c.par with ⟨h1, h2⟩ | ⟨q, nq, h1, h2, h3, h4⟩
    · exact Or.inl ⟨hr i h1, h2⟩
    · exact Or.inr ⟨q, nq, h1, by omega, h3, h4⟩

theorem CellOK.succs_lt {H : Heap} {b e : Nat} {roots : List Nat} {rp : Option Nat} {i : Nat} {n : Node}
    (c : CellOK H b e roots rp i n) {L : Nat} (he : e ≤ L) (hi : i < L) (hrp : ∀ q, rp = some q → q < L) :
    ∀ k ∈ n.succs, k < L := by
  intro k hk
  rcases List.mem_append.mp hk with hk | hk
  · have := (c.kids k hk).2.1
    omega
  · rw [Option.mem_toList] at hk
    rcases c.par with ⟨_, h2⟩ | ⟨q, nq, h1, _, h3, _⟩
    · exact hrp k (h2.symm.trans hk)
    · have : q = k := Option.some.inj (h1.symm.trans hk)
      omega

theorem size_pos : ∀ (o : Obj), 1 ≤ size o
  | .defn _ _ => by simp [size]
  | .scope _ _ => by rw [size]; omega

theorem kidIds_bounds : ∀ (os : List Obj) (b : Nat), ∀ k ∈ kidIds os b, b ≤ k ∧ k < b + sizeKids os
  | [], _, k, hk => by simp [kidIds] at hk
  | o :: os, b, k, hk => by
    simp only [kidIds, List.mem_cons] at hk
    have := size_pos o
    rw [sizeKids]
    rcases hk with rfl | hk
    · omega
    · have := kidIds_bounds os (b + size o) k hk
      omega

theorem kidIds_nodup : ∀ (os : List Obj) (b : Nat), (kidIds os b).Nodup
  | [], _ => by simp [kidIds]
  | o :: os, b => by
    simp only [kidIds, List.nodup_cons]
    refine ⟨?_, kidIds_nodup os _⟩
    intro hm
    have := kidIds_bounds os (b + size o) b hm
    have := size_pos o
    omega

theorem cells_head : ∀ (o : Obj) (p : Option Nat) (b : Nat),
    ∃ n rest, cells o p b = n :: rest ∧ n.parent = p
  | .defn m ws, p, b => ⟨.defn m ws p, [], by simp only [cells], rfl⟩
  | .scope m os, p, b => ⟨.scope m (kidIds os (b + 1)) p, kidCells os b (b + 1), by simp only [cells], rfl⟩

def BlockAt (H : Heap) (b : Nat) (l : List Node) : Prop := ∃ pre post, pre.length = b ∧ H = pre ++ (l ++ post)

theorem BlockAt.head {H : Heap} {b : Nat} {n : Node} {l : List Node} (a : BlockAt H b (n :: l)) : H[b]? = some n := by
  obtain ⟨pre, post, rfl, rfl⟩ := a
  exact get_mid pre n (l ++ post)

theorem BlockAt.tail {H : Heap} {b : Nat} {n : Node} {l : List Node} (a : BlockAt H b (n :: l)) :
    BlockAt H (b + 1) l := by
  obtain ⟨pre, post, rfl, rfl⟩ := a
  exact ⟨pre ++ [n], post, by simp, by simp⟩

theorem BlockAt.left {H : Heap} {b : Nat} {l1 l2 : List Node} (a : BlockAt H b (l1 ++ l2)) : BlockAt H b l1 := by
  obtain ⟨pre, post, rfl, rfl⟩ := a
  exact ⟨pre, l2 ++ post, rfl, by rw [List.append_assoc]⟩

theorem BlockAt.right {H : Heap} {b : Nat} {l1 l2 : List Node} (a : BlockAt H b (l1 ++ l2)) :
    BlockAt H (b + l1.length) l2 := by
  obtain ⟨pre, post, rfl, rfl⟩ := a
  exact ⟨pre ++ l1, post, by rw [List.length_append], by simp only [List.append_assoc]⟩

theorem kidCells_roots : ∀ (os : List Obj) (q b : Nat) {H : Heap}, BlockAt H b (kidCells os q b) →
    ∀ k ∈ kidIds os b, ∃ nk, H[k]? = some nk ∧ nk.parent = some q
  | [], _, _, _, _, k, hk => by simp [kidIds] at hk
  | o :: os, q, b, H, a, k, hk => by
    simp only [kidIds, List.mem_cons] at hk
    simp only [kidCells] at a
    rcases hk with rfl | hk
    · obtain ⟨n, rest, hc, hp⟩ := cells_head o (some q) k
      have a1 := a.left
      rw [hc] at a1
      exact ⟨n, a1.head, hp⟩
    · have a2 := a.right
      rw [cells_length] at a2
      exact kidCells_roots os q (b + size o) a2 k hk

mutual
theorem cells_range : ∀ (o : Obj) (p : Option Nat) (b : Nat) {H : Heap}, BlockAt H b (cells o p b) →
    RangeOK H b (b + size o) [b] p
  | .defn m ws, p, b, H, a => by
    intro i n h1 h2 hi
    have : i = b := by simp only [size] at h2; omega
    subst this
    simp only [cells] at a
    rw [a.head] at hi
    cases hi
    exact ⟨by simp [Node.kids], by simp [Node.kids], Or.inl ⟨by simp, rfl⟩⟩
  | .scope m os, p, b, H, a => by
    intro i n h1 h2 hi
    simp only [cells] at a
    have hsz : size (.scope m os) = 1 + sizeKids os := by rw [size]
    have hroot := a.head
    by_cases hib : i = b
    · subst hib
      rw [hroot] at hi
      cases hi
      refine ⟨kidIds_nodup _ _, ?_, Or.inl ⟨by simp, rfl⟩⟩
      intro k hk
      simp only [Node.kids] at hk
      have hbd := kidIds_bounds os (i + 1) k hk
      exact ⟨by omega, by omega, kidCells_roots os i (i + 1) a.tail k hk⟩
    · have c := kidCells_range os b (b + 1) a.tail i n (by omega) (by omega) hi
      refine ⟨c.nodup, ?_, ?_⟩
      · intro k hk
        obtain ⟨a', b1, c1⟩ := c.kids k hk
        exact ⟨a', by omega, c1⟩
      · rcases c.par with ⟨h1', h2'⟩ | ⟨q, nq, h1', h2', h3', h4'⟩
        · exact Or.inr ⟨b, _, h2', Nat.le_refl _, by omega, hroot, rfl, h1'⟩
        · exact Or.inr ⟨q, nq, h1', by omega, h3', h4'⟩
theorem kidCells_range : ∀ (os : List Obj) (q : Nat) (b : Nat) {H : Heap}, BlockAt H b (kidCells os q b) →
    RangeOK H b (b + sizeKids os) (kidIds os b) (some q)
  | [], _, _, _, _ => by
    intro i n h1 h2 _
    simp only [sizeKids] at h2
    omega
  | o :: os, q, b, H, a => by
    intro i n h1 h2 hi
    simp only [kidCells] at a
    rw [sizeKids] at h2
    by_cases hlt : i < b + size o
    · exact (cells_range o (some q) b a.left i n h1 hlt hi).widen (Nat.le_refl _) (by rw [sizeKids]; omega) (by
        intro r hr
        simp only [List.mem_singleton] at hr
        subst hr
        simp [kidIds])
    · have a2 := a.right
      rw [cells_length] at a2
      exact (kidCells_range os q (b + size o) a2 i n (by omega) (by omega) hi).widen (by omega)
        (by rw [sizeKids]; omega) (by
        intro r hr
        simp only [kidIds, List.mem_cons]
        exact Or.inr hr)
end

/-- a heap that is ONE tree rooted at object 0 (without parent) -/
def TreeHeap (H : Heap) : Prop := RangeOK H 0 H.length [0] none

theorem cells_treeHeap (o : Obj) : TreeHeap (cells o none 0) := by
  have := cells_range o none 0 (H := cells o none 0) ⟨[], [], rfl, by simp⟩
  rw [Nat.zero_add] at this
  unfold TreeHeap
  rw [cells_length]
  exact this

theorem TreeHeap.cell {H : Heap} (t : TreeHeap H) {i : Nat} {n : Node} (hi : H[i]? = some n) :
    CellOK H 0 H.length [0] none i n :=
  t i n (Nat.zero_le _) (List.getElem?_eq_some_iff.mp hi).1 hi

theorem TreeHeap.closedB {H : Heap} (t : TreeHeap H) : closedB H = true :=
  closedB_complete fun _ _ hi =>
    (t.cell hi).succs_lt (Nat.le_refl _) (List.getElem?_eq_some_iff.mp hi).1 nofun

theorem TreeHeap.kidsLinkedB {H : Heap} (t : TreeHeap H) : kidsLinkedB H = true :=
  kidsLinkedB_complete fun _ _ hi k hk => ((t.cell hi).kids k hk).2.2

theorem TreeHeap.parentListsB {H : Heap} (t : TreeHeap H) : parentListsB H = true := by
  unfold Heap.parentListsB
  refine all_ids.mpr fun i n hi => ?_
  rcases (t.cell hi).par with ⟨_, h2⟩ | ⟨q, nq, h1, _, _, h4, h5, h6⟩
  · rw [h2]
  · rw [h1]
    simp only
    rw [h4]
    simp [h5, h6]

theorem TreeHeap.nodupKidsB {H : Heap} (t : TreeHeap H) : nodupKidsB H = true :=
  all_cells.mpr fun _ _ hi => decide_eq_true (t.cell hi).nodup

/-- parents have smaller ids: the parent chain of `x` ends within `x + 1` steps -/
theorem TreeHeap.rootOf_isSome {H : Heap} (t : TreeHeap H) : ∀ (f x : Nat), x < f → x < H.length →
    (rootOf f H x).isSome = true
  | 0, _, h, _ => by omega
  | f + 1, x, hf, hx => by
    rw [rootOf, List.getElem?_eq_getElem hx]
    simp only
    have c := t.cell (List.getElem?_eq_getElem hx)
    rcases c.par with ⟨_, h2⟩ | ⟨q, nq, h1, _, h3, _⟩
    · rw [h2]; rfl
    · rw [h1]
      exact t.rootOf_isSome f q (by omega) (by omega)

theorem TreeHeap.acyclicB {H : Heap} (t : TreeHeap H) : acyclicB H = true := by
  unfold Heap.acyclicB
  rw [List.all_eq_true]
  intro i hi
  have := List.mem_range.mp hi
  exact t.rootOf_isSome (H.length + 1) i (by omega) this

theorem TreeHeap.wfB {H : Heap} (t : TreeHeap H) : wfB H = true := by
  unfold Heap.wfB
  rw [t.closedB, t.kidsLinkedB, t.parentListsB, t.nodupKidsB, t.acyclicB]
  rfl

/-- in a tree heap children have greater ids: fuel `H.length - i` is enough to abstract object `i` -/
theorem TreeHeap.absF_isSome {H : Heap} (t : TreeHeap H) : ∀ (f i : Nat), i < H.length → H.length - i ≤ f →
    (absF f H i).isSome = true
  | 0, i, h1, h2 => by omega
  | f + 1, i, hi, hf => by
    rw [absF, List.getElem?_eq_getElem hi]
    have c := t.cell (List.getElem?_eq_getElem hi)
    cases hn : H[i] with
    | defn m ws p => rfl
    | scope m ks p =>
      rw [hn] at c
      simp only
      have h3 := mapOpt_isSome (f := absF f H) (l := ks) fun k hk => by
        obtain ⟨h1, h2, _⟩ := c.kids k hk
        exact t.absF_isSome f k h2 (by omega)
      cases hm : mapOpt (absF f H) ks with
      | none => rw [hm] at h3; cases h3
      | some os => rfl

theorem TreeHeap.abs_isSome {H : Heap} (t : TreeHeap H) (i : Nat) (hi : i < H.length) : (abs H i).isSome = true :=
  t.absF_isSome (H.length + 1) i hi (by omega)

theorem ofObjs_eq (os : List Obj) : ofObjs os = cells (.scope { name := [] } os) none 0 := by
  simp [ofObjs, build]

theorem ofObjs_treeHeap (os : List Obj) : TreeHeap (ofObjs os) := by
  rw [ofObjs_eq]; exact cells_treeHeap _

/-! ### `build` into an existing heap keeps `closedB` / `kidsLinkedB` -/

theorem build_closed (o : Obj) (p : Option Nat) (h : Heap) (hc : Closed h)
    (hp : ∀ q, p = some q → q < h.length + size o) : Closed (build o p h).1 := by
  have R := cells_range o p h.length (H := (build o p h).1) ⟨h, [], rfl, by simp [build]⟩
  intro i n hi
  rw [(build_frame o p h).1]
  have hil : i < h.length + size o := (build_frame o p h).1 ▸ (List.getElem?_eq_some_iff.mp hi).1
  by_cases hlt : i < h.length
  · rw [(build_frame o p h).2 i hlt] at hi
    exact fun k hk => Nat.lt_add_right _ (hc i n hi k hk)
  · exact (R i n (by omega) hil hi).succs_lt (Nat.le_refl _) hil hp

theorem build_kidsLinked (o : Obj) (p : Option Nat) (h : Heap) (hc : Closed h) (hl : KidsLinked h) :
    KidsLinked (build o p h).1 := by
  have R := cells_range o p h.length (H := (build o p h).1) ⟨h, [], rfl, by simp [build]⟩
  intro i n hi k hk
  by_cases hlt : i < h.length
  · rw [(build_frame o p h).2 i hlt] at hi
    rw [(build_frame o p h).2 k (hc i n hi k (mem_succs_of_kid hk))]
    exact hl i n hi k hk
  · have hil : i < h.length + size o := (build_frame o p h).1 ▸ (List.getElem?_eq_some_iff.mp hi).1
    exact ((R i n (by omega) hil hi).kids k hk).2.2

end Phil.Heap
