/-
  Phil.Proofs.FetchDepMS — `.deprecated` definitions inside the closed form of fetch for masters WITH
  `.multiple` scopes (`MSMaster` of Phil/Proofs/FetchTreeMSBase.lean): the class `MSMasterD` adds
  deprecated (non-multiple, non-choice) definitions at every level that is not inside a `.multiple`
  scope (inside a `.multiple` scope the class is `MSMaster`: the keys of the list rule are renderings
  of whole blocks, and a deprecated definition changes what a block renders to).
  The `dep` early exit of `definition.fetch_value`: a deprecated definition is dropped from the result
  unless its LAST source gives a value different from the default.
-/
import Phil.Proofs.FetchTreeMS
import Phil.Proofs.FetchChoice
namespace Phil

/-- a deprecated master definition: `.deprecated` truthy, not `.multiple`, not a choice -/
structure DepMeta (mm : Meta) : Prop where
  notMultiple : (mm.attrs.get "multiple").truthy = false
  deprecated : (mm.attrs.get "deprecated").truthy = true
  notChoice : ∀ b, mm.attrs.get "type" ≠ .conv (.choice b)

/-- what a deprecated definition leaves in the result: nothing without a source or when the last
    source re-states the default, else the definition with the words of the last source -/
def depBlock (mm : Meta) (mws : List Word) (srcs : List Obj) : List Obj :=
  finishC mm mws (match lastDef srcs mm.name with
                  | some d => valOfC (srcVal mm mws d)
                  | none => none)

mutual
def msBlockD (e : Envs) : Obj → List Obj → List Obj
  | .defn mm mws, srcs =>
    if (mm.attrs.get "deprecated").truthy then depBlock mm mws srcs else tmBlock e (.defn mm mws) srcs
  | .scope mm kids, srcs =>
    if (mm.attrs.get "multiple").truthy then msBlock e (.scope mm kids) srcs
    else [.scope { mm with tmpl := 0 } (msResultD e kids (srcStep srcs mm.name))]
/-- `msResult` with deprecated definitions outside `.multiple` scopes -/
def msResultD (e : Envs) : List Obj → List Obj → List Obj
  | [], _ => []
  | mo :: rest, srcs => msBlockD e mo srcs ++ msResultD e rest srcs
end

mutual
def MSObjD : Obj → Prop
  | .defn mm _ => (DefnMeta mm ∨ DepMeta mm) ∧ mm.name ≠ [] ∧ '.' ∉ mm.name ∧ mm.disabled = false
  | .scope mm kids =>
    if (mm.attrs.get "multiple").truthy then MSObj (.scope mm kids)
    else mm.name ≠ [] ∧ '.' ∉ mm.name ∧ mm.disabled = false ∧ MSKidsD kids ∧
      (kids.map Obj.name).Pairwise (· ≠ ·)
def MSKidsD : List Obj → Prop
  | [] => True
  | o :: os => MSObjD o ∧ MSKidsD os
end

/-- `MSMaster` plus deprecated definitions outside `.multiple` scopes -/
structure MSMasterD (mkids : List Obj) : Prop where
  kids : MSKidsD mkids
  distinct : (mkids.map Obj.name).Pairwise (· ≠ ·)

theorem msResultD_eq_flatMap (e : Envs) (srcs : List Obj) : ∀ (mkids : List Obj),
    msResultD e mkids srcs = mkids.flatMap (fun mo => msBlockD e mo srcs)
  | [] => by rw [msResultD]; rfl
  | mo :: rest => by rw [msResultD, msResultD_eq_flatMap e srcs rest]; rfl

theorem msKidsD_iff : ∀ (l : List Obj), MSKidsD l ↔ ∀ o ∈ l, MSObjD o
  | [] => by rw [MSKidsD]; simp
  | o :: os => by rw [MSKidsD, msKidsD_iff os]; simp

theorem MSMasterD.obj {mkids : List Obj} (h : MSMasterD mkids) : ∀ o ∈ mkids, MSObjD o :=
  (msKidsD_iff mkids).mp h.kids

theorem MSObjD.basic : ∀ {o : Obj}, MSObjD o → o.name ≠ [] ∧ '.' ∉ o.name ∧ o.meta.disabled = false
  | .defn mm _, h => by rw [MSObjD] at h; exact h.2
  | .scope mm kids, h => by
    rw [MSObjD] at h
    split at h
    · rw [MSObj] at h; exact ⟨h.1, h.2.1, h.2.2.1⟩
    · exact ⟨h.1, h.2.1, h.2.2.1⟩

/-- the specification of Phil/Proofs/FetchChoice.lean on a deprecated non-choice definition: the only
    error is "incompatible", exactly when an enabled source scope bears the name -/
theorem treeObjC_dep (mm : Meta) (mws : List Word) (srcs : List Obj) (hp : DepMeta mm) :
    treeObjC (.defn mm mws) srcs =
      if noClashObj (.defn mm mws) srcs then .ok (depBlock mm mws srcs) else .error incompatibleErr := by
  rw [treeObjC, noClashObj]
  cases hfe : firstErrC mm mws (activeNamed mm.name srcs) with
  | none =>
    rw [scopesNamed_nil_of_firstErrC hfe]
    rfl
  | some err =>
    -- the failing source is a scope: a definition fails only against a choice
    obtain ⟨ms, hms, hmse⟩ := List.exists_of_findSome?_eq_some hfe
    have ha := mem_activeNamed.mp hms
    rcases srcVal_error mm mws ms err (eq_error_of_errOf hmse) with ⟨hsc, rfl⟩ | ⟨_, b, hb, _⟩
    · have hne : scopesNamed mm.name srcs ≠ [] :=
        List.ne_nil_of_mem (mem_scopesNamed.mpr ⟨ha.1, hsc, ha.2.1, ha.2.2⟩)
      simp [hne]
    · exact absurd hb (hp.notChoice b)

/-- **closed form of fetch on masters with `.multiple` scopes and deprecated definitions** -/
theorem fetch_ms_dep_total (e : Envs) : ∀ (fuel : Nat) (sm : Meta) (mkids srcs : List Obj),
    MSMasterD mkids → depthL mkids < fuel → sm.disabled = false → SrcTree srcs →
    KeysDefinedMS e mkids srcs →
    fetchScope e fuel false sm mkids srcs =
      if msNoClash mkids srcs then
        .ok (.scope { sm with tmpl := 0 } (msResultD e mkids srcs), msUsed mkids srcs)
      else .error incompatibleErr := by
  intro fuel
  induction fuel with
  | zero => intro sm mkids srcs _ hd; exact absurd hd (Nat.not_lt_zero _)
  | succ fuel ih =>
    intro sm mkids srcs hf hdepth hsd hsrc hkeys
    have hsc : ∀ m kids, Obj.scope m kids ∈ srcs → m.disabled = false → m.name ≠ [] :=
      fun m kids hm hd => hsrc.named m kids (.here hm hd)
    have hok : ∀ o ∈ srcs, o.meta.disabled = false → o.isDefn = true → SrcOK o :=
      fun o ho hd hdef => hsrc.ok o (.here ho hd) hdef
    rw [msNoClash_eq_all, msResultD_eq_flatMap, msUsed_eq_flatMap]
    refine fetchScope_of_steps e fuel false sm mkids srcs _ _ _ _
      (masterActive_of_distinct mkids (fun o ho => (hf.obj o ho).basic.2.2) hf.distinct) ?_
    intro st i mo ha
    have hmem : mo ∈ mkids := snd_mem_of_mem_indexed ha
    have hto := hf.obj _ hmem
    have hko := hkeys.obj _ hmem
    have hb := hto.basic
    have hmatch := fetchMatching_tree fuel sm srcs mo hsd hb.1 hb.2.1 hsc
    cases mo with
    | defn mm mws =>
      rw [MSObjD] at hto
      rw [KeysDefinedMSObj] at hko
      rw [msNoClashObj, msBlockD, msUsedObj, ← noClashObj, ← treeUsedObj]
      rcases hto.1 with hp | hp
      · simp only [hp.notDeprecated, Bool.false_eq_true, if_false]
        cases hmult : isMultiple (.defn mm mws) with
        | false => exact stepG_plain_tm _ e fuel sm mkids srcs st i mm mws hp hmult hmatch hok
        | true =>
          rw [stepG_multi_defn _ e fuel sm mkids srcs st i mm mws [] hp hmult
            (fromMasterOf_nil mkids hf.distinct i _ ha) (fun _ hx => by cases hx) hmatch (hko hmult),
            List.nil_append, noClashObj,
            findSome_srcErrOf_ok _ (fun o ho => hok o (mem_activeNamed.mp ho).1 (mem_activeNamed.mp ho).2.1),
            all_isDefn_activeNamed]
          cases (scopesNamed mm.name srcs).isEmpty <;> rfl
      · simp only [hp.deprecated, if_true]
        rw [stepG_defn_choice _ e fuel sm mkids srcs st i mm mws hp.notMultiple hmatch hok,
          treeObjC_dep mm mws srcs hp]
        cases noClashObj (.defn mm mws) srcs <;> rfl
    | scope mm kids =>
      have hd1 := depthT_le_depthL mkids _ hmem
      rw [depthT] at hd1
      rw [MSObjD] at hto
      cases hmult : (mm.attrs.get "multiple").truthy with
      | false =>
        rw [KeysDefinedMSObj] at hko
        simp only [hmult, Bool.false_eq_true, if_false] at hko hto
        rw [msBlockD]
        simp only [hmult, Bool.false_eq_true, if_false]
        rw [stepG_scope_of_callee _ e fuel sm mkids srcs st i mm false kids _ _ _ hmult hmatch
          (ih mm kids (srcStep srcs mm.name) ⟨hto.2.2.2.1, hto.2.2.2.2⟩ (by omega) hto.2.2.1
            (hsrc.step mm.name) hko), msNoClashObj, msUsedObj]
        simp only [hmult, Bool.false_eq_true, if_false, Bool.false_and]
      | true =>
        simp only [hmult, if_true] at hto
        have hkids := MSMaster.of_scope hto
        have ho := ms2Obj_eq_ms e (.scope mm kids) srcs hto
        have hk2 := ho.2.2.2.mpr hko
        rw [KeysDefinedMS2Obj] at hk2
        simp only [hmult, if_true] at hk2
        have hcal := fun S hS => fetch_ms2_of_furtherSrc e fuel mm kids S hkids.toMS2 (by omega) hto.enabled hS
          (.of_ms hkids)
        rw [msBlockD]
        simp only [hmult, if_true]
        rw [← ho.1, ← ho.2.1, ← ho.2.2.1]
        refine stepG_multiscope_ms3 _ e fuel sm mkids srcs st i mm kids [] hmult
          (fromMasterOf_nil mkids hf.distinct i _ ha) nofun hmatch (by omega) (hcal [] srcTree_nil hk2.1) ?_
          hk2.2.1 (fun s hs => (hk2.2.2 s hs).2)
        intro s hs
        have hs' := mem_scopesNamed.mp hs
        exact hcal s.children (hsrc.child_ms hs'.1 hs'.2.2.1) (hk2.2.2 s hs).1

/-! ### `MSMaster` is included, with its specification -/

mutual
theorem msObj_toD : ∀ (o : Obj), MSObj o → MSObjD o
  | .defn mm mws, h => by rw [MSObj] at h; rw [MSObjD]; exact ⟨.inl h.1, h.2⟩
  | .scope mm kids, h => by
    rw [MSObjD]
    split
    · exact h
    · rw [MSObj] at h
      exact ⟨h.1, h.2.1, h.2.2.1, msKids_toD kids h.2.2.2.1, h.2.2.2.2⟩
theorem msKids_toD : ∀ (l : List Obj), MSKids l → MSKidsD l
  | [], _ => by rw [MSKidsD]; trivial
  | o :: os, h => by rw [MSKids] at h; rw [MSKidsD]; exact ⟨msObj_toD o h.1, msKids_toD os h.2⟩
end

theorem MSMaster.toD {mkids : List Obj} (h : MSMaster mkids) : MSMasterD mkids :=
  ⟨msKids_toD mkids h.kids, h.distinct⟩

mutual
theorem msBlockD_eq_ms (e : Envs) : ∀ (o : Obj) (srcs : List Obj), MSObj o → msBlockD e o srcs = msBlock e o srcs
  | .defn mm mws, srcs, h => by
    rw [MSObj] at h
    rw [msBlockD, msBlock]
    simp only [h.1.notDeprecated, Bool.false_eq_true, if_false]
  | .scope mm kids, srcs, h => by
    rw [MSObj] at h
    rw [msBlockD, msBlock]
    split
    · rfl
    · rw [msResultD_eq_ms e kids _ h.2.2.2.1]
theorem msResultD_eq_ms (e : Envs) : ∀ (l : List Obj) (srcs : List Obj), MSKids l → msResultD e l srcs = msResult e l srcs
  | [], srcs, _ => by rw [msResultD, msResult]
  | o :: os, srcs, h => by
    rw [MSKids] at h
    rw [msResultD, msResult, msBlockD_eq_ms e o srcs h.1, msResultD_eq_ms e os srcs h.2]
end

/-! ### executable class check -/

def depMetaB (mm : Meta) : Bool :=
  !(mm.attrs.get "multiple").truthy && (mm.attrs.get "deprecated").truthy &&
    (match mm.attrs.get "type" with
     | .conv (.choice _) => false
     | _ => true)

theorem depMetaB_sound (mm : Meta) (h : depMetaB mm = true) : DepMeta mm := by
  unfold depMetaB at h
  simp only [Bool.and_eq_true, Bool.not_eq_true'] at h
  refine ⟨h.1.1, h.1.2, ?_⟩
  intro b hb
  rw [hb] at h
  exact absurd h.2 (by simp)

mutual
def msObjDB : Obj → Bool
  | .defn mm _ => (defnMetaB_tm mm || depMetaB mm) && !mm.name.isEmpty && !mm.name.contains '.' && !mm.disabled
  | .scope mm kids =>
    if (mm.attrs.get "multiple").truthy then msObjB (.scope mm kids)
    else !mm.name.isEmpty && !mm.name.contains '.' && !mm.disabled &&
      msKidsDB kids && decide ((kids.map Obj.name).Pairwise (· ≠ ·))
def msKidsDB : List Obj → Bool
  | [] => true
  | o :: os => msObjDB o && msKidsDB os
end

mutual
theorem msObjDB_sound : ∀ (o : Obj), msObjDB o = true → MSObjD o
  | .defn mm mws, h => by
    rw [msObjDB] at h
    simp only [Bool.and_eq_true, Bool.or_eq_true, Bool.not_eq_true', List.contains_eq_mem,
      decide_eq_false_iff_not] at h
    rw [MSObjD]
    refine ⟨?_, List.isEmpty_eq_false_iff.mp h.1.1.2, h.1.2, h.2⟩
    rcases h.1.1.1 with h1 | h1
    · exact .inl (defnMetaB_tm_sound mm h1)
    · exact .inr (depMetaB_sound mm h1)
  | .scope mm kids, h => by
    rw [msObjDB] at h
    rw [MSObjD]
    cases hm : (mm.attrs.get "multiple").truthy with
    | true =>
      rw [hm] at h
      simp only [if_true] at h ⊢
      exact msObjB_sound _ h
    | false =>
      rw [hm] at h
      simp only [Bool.false_eq_true, if_false, Bool.and_eq_true, Bool.not_eq_true', List.contains_eq_mem,
        decide_eq_false_iff_not, decide_eq_true_eq] at h ⊢
      exact ⟨List.isEmpty_eq_false_iff.mp h.1.1.1.1, h.1.1.1.2, h.1.1.2, msKidsDB_sound kids h.1.2, h.2⟩
theorem msKidsDB_sound : ∀ (l : List Obj), msKidsDB l = true → MSKidsD l
  | [], _ => by rw [MSKidsD]; trivial
  | o :: os, h => by
    rw [msKidsDB, Bool.and_eq_true] at h
    rw [MSKidsD]
    exact ⟨msObjDB_sound o h.1, msKidsDB_sound os h.2⟩
end

/-- executable form of `MSMasterD` with the depth bound of `fetchRoot` -/
def msMasterDB (mkids : List Obj) : Bool :=
  msKidsDB mkids && decide ((mkids.map Obj.name).Pairwise (· ≠ ·)) && decide (depthL mkids ≤ 1000)

theorem msMasterDB_sound (mkids : List Obj) (h : msMasterDB mkids = true) :
    MSMasterD mkids ∧ depthL mkids ≤ 1000 := by
  unfold msMasterDB at h
  simp only [Bool.and_eq_true, decide_eq_true_eq] at h
  exact ⟨⟨msKidsDB_sound mkids h.1.1, h.1.2⟩, h.2⟩

end Phil
