/-
  Phil.Proofs.DiffTreeMS — closed form of `scope.fetch(diff=True)` (fetch_diff) for NESTED masters
  WITH `.multiple` SCOPES (`MSMaster`), and the laws of C08 derived from it.
  The difference on `MSMaster` is the case without further master occurrences of Phil/Proofs/FetchTreeMS4.lean
  (`ms2Diff`, `diff_ms2_of_furtherSrc`); the laws build on Phil/Proofs/DiffTree.lean.
  The laws are proved on the specification `msDiff`: empty self-difference, minimality, no empty scopes; the working
  set as a source (its difference is that of its sources, under the coherence hypothesis `CohMS` on the opaque
  renderings); the difference as a source (it is reproduced, and the fetch gives the restored working set
  `msRestoredS`); exact restoration under `ExactMS`.
-/
import Phil.Proofs.FetchTreeMS
import Phil.Proofs.FetchTreeMS4
namespace Phil

/-! ## 1. specification -/

mutual
/-- the block one master object contributes to a difference, given the source objects at its level.
    A definition: `diffBlockL` (as in `tdBlock`).  A non-multiple scope: itself with the difference of
    its children against the children of ALL enabled source scopes of its name — dropped if empty.
    A `.multiple` scope: NO template; each enabled source scope `s` of its name gives the candidate
    "the master scope with the difference of its body against that ONE block"; candidates with an
    empty difference are skipped; the others go through the list rule with the keys
    `mo.extract_format(source=candidate).as_str()` OF THE DIFFERENCE CANDIDATES (dropped if equal to
    the key of the master's own fetched block, of equal keys the last stays). -/
def mdBlock (e : Envs) : Obj → List Obj → List Obj
  | .defn mm mws, srcs => diffBlockL e 0 (.defn mm mws) (defsNamed mm.name srcs)
  | .scope mm kids, srcs =>
    if (mm.attrs.get "multiple").truthy then
      survivorsOf (keyMS e (.scope mm kids) (.scope { mm with tmpl := 0 } (msResult e kids [])))
        (((scopesNamed mm.name srcs).filter (fun s => !(msDiff e kids s.children).isEmpty)).map (fun s =>
          (Obj.scope { mm with tmpl := 0 } (msDiff e kids s.children),
           keyMS e (.scope mm kids) (Obj.scope { mm with tmpl := 0 } (msDiff e kids s.children)))))
    else if (msDiff e kids (srcStep srcs mm.name)).isEmpty then []
      else [.scope { mm with tmpl := 0 } (msDiff e kids (srcStep srcs mm.name))]
/-- **the difference**: the children of `master.fetch_diff(sources)` — the blocks of the master
    children, in master order -/
def msDiff (e : Envs) : List Obj → List Obj → List Obj
  | [], _ => []
  | mo :: rest, srcs => mdBlock e mo srcs ++ msDiff e rest srcs
end

/-- the difference candidate the `.multiple` master scope `.scope mm kids` builds from the source
    objects `sk` of ONE source block -/
abbrev mdCand (e : Envs) (mm : Meta) (kids sk : List Obj) : Obj :=
  .scope { mm with tmpl := 0 } (msDiff e kids sk)

/-- … with its key -/
abbrev mdCK (e : Envs) (mm : Meta) (kids : List Obj) (s : Obj) : Obj × Str :=
  (mdCand e mm kids s.children, keyMS e (.scope mm kids) (mdCand e mm kids s.children))

mutual
def KeysDiffMSObj (e : Envs) : Obj → List Obj → Prop
  | .defn mm mws, srcs => KeysDefined e 0 (.defn mm mws) (defsNamed mm.name srcs)
  | .scope mm kids, srcs =>
    if (mm.attrs.get "multiple").truthy then
      KeysDiffMS e kids [] ∧
      KeysDefinedMS e kids [] ∧
      (∃ k, extractFormatStr e (depthL kids + 1 + 64) (.scope mm kids)
              (.scope { mm with tmpl := 0 } (msResult e kids [])) = .ok k) ∧
      ∀ s ∈ scopesNamed mm.name srcs,
        KeysDiffMS e kids s.children ∧
        ((msDiff e kids s.children).isEmpty = false →
          ∃ k, extractFormatStr e (depthL kids + 1 + 64) (.scope mm kids)
              (.scope { mm with tmpl := 0 } (msDiff e kids s.children)) = .ok k)
    else KeysDiffMS e kids (srcStep srcs mm.name)
/-- the keys a difference compares are defined: at EVERY master definition (`.multiple` or not) the
    master's own and those of the candidates (inside `.multiple` scopes too, sources or not); at
    every `.multiple` master scope the key of the master's own fetched block (and the keys that
    block's own fetch needs) and the key of every NON-EMPTY difference candidate -/
def KeysDiffMS (e : Envs) : List Obj → List Obj → Prop
  | [], _ => True
  | mo :: rest, srcs => KeysDiffMSObj e mo srcs ∧ KeysDiffMS e rest srcs
end

mutual
def keysDiffMSObjB (e : Envs) : Obj → List Obj → Bool
  | .defn mm mws, srcs => keysDefinedB e 0 (.defn mm mws) (defsNamed mm.name srcs)
  | .scope mm kids, srcs =>
    if (mm.attrs.get "multiple").truthy then
      keysDiffMSB e kids [] &&
      keysDefinedMSB e kids [] &&
      (errOf (extractFormatStr e (depthL kids + 1 + 64) (.scope mm kids)
              (.scope { mm with tmpl := 0 } (msResult e kids [])))).isNone &&
      (scopesNamed mm.name srcs).all (fun s =>
        keysDiffMSB e kids s.children &&
        ((msDiff e kids s.children).isEmpty ||
         (errOf (extractFormatStr e (depthL kids + 1 + 64) (.scope mm kids)
              (.scope { mm with tmpl := 0 } (msDiff e kids s.children)))).isNone))
    else keysDiffMSB e kids (srcStep srcs mm.name)
def keysDiffMSB (e : Envs) : List Obj → List Obj → Bool
  | [], _ => true
  | mo :: rest, srcs => keysDiffMSObjB e mo srcs && keysDiffMSB e rest srcs
end

/-! ## 2. list forms, members, depth -/

theorem msDiff_eq_flatMap (e : Envs) (srcs : List Obj) : ∀ (mkids : List Obj),
    msDiff e mkids srcs = mkids.flatMap (fun mo => mdBlock e mo srcs)
  | [] => by rw [msDiff]; rfl
  | mo :: rest => by rw [msDiff, msDiff_eq_flatMap e srcs rest]; rfl

theorem KeysDiffMS.obj {e : Envs} : ∀ {l : List Obj} {srcs : List Obj}, KeysDiffMS e l srcs →
    ∀ o ∈ l, KeysDiffMSObj e o srcs
  | [], _, _, o, ho => by cases ho
  | a :: os, srcs, h, o, ho => by
    rw [KeysDiffMS] at h
    rw [List.mem_cons] at ho
    rcases ho with rfl | ho
    · exact h.1
    · exact KeysDiffMS.obj h.2 o ho

mutual
theorem keysDiffMSObjB_sound (e : Envs) : ∀ (mo : Obj) (srcs : List Obj),
    keysDiffMSObjB e mo srcs = true → KeysDiffMSObj e mo srcs
  | .defn mm mws, srcs, h => by
    rw [keysDiffMSObjB] at h
    rw [KeysDiffMSObj]
    exact keysDefined_of_B h
  | .scope mm kids, srcs, h => by
    rw [keysDiffMSObjB] at h
    rw [KeysDiffMSObj]
    split
    · rename_i hm
      simp only [hm, if_true, Bool.and_eq_true, List.all_eq_true, Bool.or_eq_true] at h
      refine ⟨keysDiffMSB_sound e kids [] h.1.1.1, keysDefinedMSB_sound e kids [] h.1.1.2,
        ok_of_errOf_none h.1.2, ?_⟩
      intro s hs
      refine ⟨keysDiffMSB_sound e kids s.children (h.2 s hs).1, ?_⟩
      intro hne
      rcases (h.2 s hs).2 with h1 | h1
      · rw [hne] at h1; cases h1
      · exact ok_of_errOf_none h1
    · rename_i hm
      simp only [hm, Bool.false_eq_true, if_false] at h
      exact keysDiffMSB_sound e kids _ h
theorem keysDiffMSB_sound (e : Envs) : ∀ (l : List Obj) (srcs : List Obj),
    keysDiffMSB e l srcs = true → KeysDiffMS e l srcs
  | [], _, _ => by rw [KeysDiffMS]; trivial
  | mo :: rest, srcs, h => by
    rw [keysDiffMSB, Bool.and_eq_true] at h
    rw [KeysDiffMS]
    exact ⟨keysDiffMSObjB_sound e mo srcs h.1, keysDiffMSB_sound e rest srcs h.2⟩
end

theorem mdBlock_multi_eq (e : Envs) (mm : Meta) (kids srcs : List Obj)
    (hmult : (mm.attrs.get "multiple").truthy = true) :
    mdBlock e (.scope mm kids) srcs =
      survivorsOf (keyMS e (.scope mm kids) (msCand e mm kids []))
        (((scopesNamed mm.name srcs).filter (fun s => !(msDiff e kids s.children).isEmpty)).map
          (mdCK e mm kids)) := by
  rw [mdBlock]; simp only [hmult, if_true]

theorem mdBlock_plain_eq (e : Envs) (mm : Meta) (kids srcs : List Obj)
    (hmult : (mm.attrs.get "multiple").truthy = false) :
    mdBlock e (.scope mm kids) srcs =
      if (msDiff e kids (srcStep srcs mm.name)).isEmpty then []
      else [.scope { mm with tmpl := 0 } (msDiff e kids (srcStep srcs mm.name))] := by
  rw [mdBlock]; simp only [hmult, Bool.false_eq_true, if_false]

theorem mem_mdBlock_scope (e : Envs) (mm : Meta) (kids srcs : List Obj) (o : Obj)
    (ho : o ∈ mdBlock e (.scope mm kids) srcs) :
    ∃ S, o = .scope { mm with tmpl := 0 } (msDiff e kids S) ∧ msDiff e kids S ≠ [] ∧
      ∀ d, ActiveIn d S → ActiveIn d srcs := by
  cases hmult : (mm.attrs.get "multiple").truthy with
  | true =>
    rw [mdBlock_multi_eq e mm kids srcs hmult] at ho
    obtain ⟨x, hx, rfl, _⟩ := mem_survivorsOf_ms4 ho
    obtain ⟨s, hs, rfl⟩ := List.mem_map.mp hx
    have hs' := List.mem_filter.mp hs
    have hsn := mem_scopesNamed.mp hs'.1
    refine ⟨s.children, rfl, ?_, ?_⟩
    · intro h0
      have := hs'.2
      rw [h0] at this
      cases this
    · intro d hd
      cases s with
      | defn m ws => exact hd.not_nil.elim
      | scope m sk => exact .deeper hsn.1 hsn.2.2.1 hd
  | false =>
    rw [mdBlock_plain_eq e mm kids srcs hmult] at ho
    split at ho
    · cases ho
    · rename_i hne
      rw [List.mem_singleton] at ho
      refine ⟨_, ho, ?_, fun d hd => activeIn_srcStep hd⟩
      intro h0
      rw [h0] at hne
      exact hne rfl

mutual
theorem depthL_mdBlock (e : Envs) : ∀ (mo : Obj) (srcs : List Obj), depthL (mdBlock e mo srcs) ≤ depthT mo
  | .defn mm mws, srcs => by
    rw [mdBlock]
    apply depthL_le_of_forall
    intro o ho
    obtain ⟨⟨d, _, rfl⟩, _⟩ := mem_diffBlockL ho
    rw [candOfSrc_defn, depthT]
    exact Nat.zero_le _
  | .scope mm kids, srcs => by
    apply depthL_le_of_forall
    intro o ho
    obtain ⟨S, rfl, _⟩ := mem_mdBlock_scope e mm kids srcs o ho
    rw [depthT, depthT]
    exact Nat.succ_le_succ (depthL_msDiff e kids S)
theorem depthL_msDiff (e : Envs) : ∀ (mkids : List Obj) (srcs : List Obj),
    depthL (msDiff e mkids srcs) ≤ depthL mkids
  | [], srcs => by rw [msDiff]; exact Nat.le_refl _
  | mo :: rest, srcs => by
    rw [msDiff, depthL_append_ms, depthL]
    exact Nat.max_le.mpr ⟨Nat.le_trans (depthL_mdBlock e mo srcs) (Nat.le_max_left _ _),
      Nat.le_trans (depthL_msDiff e rest srcs) (Nat.le_max_right _ _)⟩
end

/-! ## 3. one occurrence per name: the specification with further occurrences is this one -/

theorem filter_not_contains_nil_md {α : Type} (L : List (α × Str)) :
    L.filter (fun y => !(([] : List Str).contains y.2)) = L := by
  rw [List.filter_eq_self]
  intro y _
  rfl

mutual
theorem md2Obj_eq_md (e : Envs) : ∀ (mo : Obj) (srcs : List Obj), MSObj mo →
    md2Block e mo [] srcs = mdBlock e mo srcs ∧ (KeysDiffMSObj e mo srcs → KeysDiffMS2Obj e mo [] srcs)
  | .defn mm mws, srcs, _ => by
    rw [md2Block, mdBlock, KeysDiffMSObj, KeysDiffMS2Obj, List.nil_append]
    refine ⟨?_, id⟩
    have h : defsNamed mm.name [] = [] := rfl
    split
    · rename_i hm
      rw [h]
      unfold diffBlockL
      simp only [hm, if_true]
      have : (candsOf e 0 (.defn mm mws) []).map (·.2) = [] := rfl
      rw [this, filter_not_contains_nil_md]
    · rfl
  | .scope mm kids, srcs, ht => by
    have hk := MSMaster.of_scope ht
    have ih := fun S => ms2Diff_eq_msDiff_aux e kids [] S hk.kids hk.distinct (fun _ _ => rfl)
    have ihr : ms2Result e [] kids [] = msResult e kids [] := ms2Result_eq_msResult e kids [] hk
    rw [md2Block, mdBlock, KeysDiffMSObj, KeysDiffMS2Obj, List.nil_append]
    have h2 : scopesNamed mm.name [] = [] := rfl
    simp only [fun S => (ih S).1, ihr, h2, List.filter_nil, List.map_nil]
    split
    · exact ⟨by rw [filter_not_contains_nil_md], fun h =>
        ⟨(ms2_eq_ms e kids [] [] hk.kids hk.distinct (fun _ _ => rfl)).2.2.2.mpr h.2.1, h.2.2.1,
          fun s hs => ⟨(ih _).2 (h.2.2.2 s hs).1, (h.2.2.2 s hs).2⟩⟩⟩
    · exact ⟨rfl, (ih _).2⟩
theorem ms2Diff_eq_msDiff_aux (e : Envs) : ∀ (l : List Obj) (seen : List Str) (srcs : List Obj),
    MSKids l → (l.map Obj.name).Pairwise (· ≠ ·) → (∀ o ∈ l, seen.contains o.name = false) →
    ms2Diff e seen l srcs = msDiff e l srcs ∧ (KeysDiffMS e l srcs → KeysDiffMS2 e seen l srcs)
  | [], seen, srcs, _, _, _ => by rw [ms2Diff, msDiff, KeysDiffMS2]; exact ⟨rfl, fun _ => trivial⟩
  | mo :: rest, seen, srcs, ht, hd, hs => by
    rw [MSKids] at ht
    obtain ⟨h1, h2, h3⟩ := firsts_step_ms2 ht.1.enabled hd hs
    have ho := md2Obj_eq_md e mo srcs ht.1
    have hl := ms2Diff_eq_msDiff_aux e rest (mo.name :: seen) srcs ht.2 (List.pairwise_cons.mp hd).2 h3
    rw [ms2Diff, msDiff, KeysDiffMS, KeysDiffMS2, h1, h2, ho.1, hl.1]
    exact ⟨rfl, fun h => ⟨ho.2 h.1, hl.2 h.2⟩⟩
end

theorem md2Block_eq_mdBlock (e : Envs) : ∀ (mo : Obj) (srcs : List Obj), MSObj mo →
    md2Block e mo [] srcs = mdBlock e mo srcs :=
  fun mo srcs ht => (md2Obj_eq_md e mo srcs ht).1

/-- **conservative extension**: on `MSMaster` masters (one occurrence per name) the difference with further
    occurrences is the difference `msDiff` -/
theorem ms2Diff_eq_msDiff (e : Envs) (mkids srcs : List Obj) (hf : MSMaster mkids) :
    ms2Diff e [] mkids srcs = msDiff e mkids srcs :=
  (ms2Diff_eq_msDiff_aux e mkids [] srcs hf.kids hf.distinct (fun _ _ => rfl)).1

/-! ## 4. the whole difference -/

/-- **closed form of the difference of a nested master with `.multiple` scopes**
    (`scope.fetch(diff=True)`, i.e. `fetch_diff`): with fuel beyond the nesting depth PLUS ONE and
    defined keys, the difference succeeds exactly when there is no clash of kinds (`msNoClash`, the
    test of the non-diff fetch); its children are `msDiff`, the consumed ids are those of the
    non-diff fetch (`msUsed`); a clash makes it fail with RuntimeError ("incompatible"). -/
theorem diff_ms_total (e : Envs) : ∀ (fuel : Nat) (sm : Meta) (mkids srcs : List Obj),
    MSMaster mkids → depthL mkids + 1 < fuel → sm.disabled = false → SrcTree srcs →
    KeysDiffMS e mkids srcs →
    fetchScope e fuel true sm mkids srcs =
      if msNoClash mkids srcs then
        .ok (.scope { sm with tmpl := 0 } (msDiff e mkids srcs), msUsed mkids srcs)
      else .error incompatibleErr := by
  intro fuel sm mkids srcs hf hd hsd hsrc hk
  have heq := ms2_eq_ms e mkids [] srcs hf.kids hf.distinct (fun _ _ => rfl)
  rw [diff_ms2_of_furtherSrc e fuel sm mkids srcs hf.toMS2 hd hsd hsrc (.of_ms hf)
      ((ms2Diff_eq_msDiff_aux e mkids [] srcs hf.kids hf.distinct (fun _ _ => rfl)).2 hk),
    heq.2.1, heq.2.2.1, ms2Diff_eq_msDiff e mkids srcs hf]

/-! ## 5. the laws of C08 on the specification: empty self-difference, minimality, no empty scopes -/

mutual
theorem mdBlock_nil_md (e : Envs) : ∀ (mo : Obj), mdBlock e mo [] = []
  | .defn mm mws => by
    rw [mdBlock]
    exact diffBlockL_nil e 0 _
  | .scope mm kids => by
    rw [mdBlock]
    rw [srcStep_nil_dt, scopesNamed_nil_dt, msDiff_nil_md e kids]
    split <;> rfl
theorem msDiff_nil_md (e : Envs) : ∀ (l : List Obj), msDiff e l [] = []
  | [] => by rw [msDiff]
  | mo :: rest => by rw [msDiff, mdBlock_nil_md e mo, msDiff_nil_md e rest]; rfl
end

mutual
theorem msUsedObj_nil_md : ∀ (mo : Obj), msUsedObj mo [] = []
  | .defn mm mws => by rw [msUsedObj]; rfl
  | .scope mm kids => by
    rw [msUsedObj]
    rw [srcStep_nil_dt, scopesNamed_nil_dt, msUsed_nil_md kids]
    split <;> rfl
theorem msUsed_nil_md : ∀ (l : List Obj), msUsed l [] = []
  | [] => by rw [msUsed]
  | mo :: rest => by rw [msUsed, msUsedObj_nil_md mo, msUsed_nil_md rest]; rfl
end

mutual
theorem mdBlock_minimal_md (e : Envs) : ∀ (mo : Obj) (srcs : List Obj), MSObj mo →
    ∀ x, ActiveIn x (mdBlock e mo srcs) → x.isDefn = true →
      ∃ m, ActiveIn m [mo] ∧ m.isDefn = true ∧ (∃ d, ActiveIn d srcs ∧ x = candOfSrc m d) ∧
        keyOf e 0 m x ≠ keyOf e 0 m m
  | .defn mm mws, srcs, ht, x, hx, hdef => by
    rw [MSObj] at ht
    rw [mdBlock] at hx
    obtain ⟨⟨d, hd, hxd⟩, hk⟩ := mem_diffBlockL (activeIn_diffBlockL hx)
    have hd' := mem_defsNamed.mp hd
    exact ⟨_, .self ht.2.2.2, rfl, ⟨d, .here hd'.1 hd'.2.2.1, hxd⟩, hk⟩
  | .scope mm kids, srcs, ht, x, hx, hdef => by
    have hk := MSMaster.of_scope ht
    rw [MSObj] at ht
    have key : ∀ o ∈ mdBlock e (.scope mm kids) srcs, ActiveIn x o.children →
        ∃ m, ActiveIn m [Obj.scope mm kids] ∧ m.isDefn = true ∧ (∃ d, ActiveIn d srcs ∧ x = candOfSrc m d) ∧
          keyOf e 0 m x ≠ keyOf e 0 m m := by
      intro o ho hxo
      obtain ⟨S, rfl, _, hS⟩ := mem_mdBlock_scope e mm kids srcs o ho
      obtain ⟨m, hm, hmd, ⟨d, hd, hxd⟩, hne⟩ := msDiff_minimal_md e kids S hk.kids x hxo hdef
      exact ⟨m, hm.kid ht.2.2.1, hmd, ⟨d, hS d hd, hxd⟩, hne⟩
    cases hx with
    | here hm hd =>
      obtain ⟨S, rfl, _, _⟩ := mem_mdBlock_scope e mm kids srcs x hm
      cases hdef
    | deeper hm hd hk' => exact key _ hm hk'
/-- **minimality**: every definition of a difference, at any depth (inside instances of `.multiple`
    scopes too), is the candidate built from an enabled source definition for a master definition
    `mo`, and its key `mo.extract_format(source=x).as_str()` differs from the key of `mo` -/
theorem msDiff_minimal_md (e : Envs) : ∀ (l : List Obj) (srcs : List Obj), MSKids l →
    ∀ x, ActiveIn x (msDiff e l srcs) → x.isDefn = true →
      ∃ mo, ActiveIn mo l ∧ mo.isDefn = true ∧ (∃ d, ActiveIn d srcs ∧ x = candOfSrc mo d) ∧
        keyOf e 0 mo x ≠ keyOf e 0 mo mo
  | [], srcs, _, x, hx, _ => by rw [msDiff] at hx; exact hx.not_nil.elim
  | mo :: rest, srcs, ht, x, hx, hdef => by
    rw [MSKids] at ht
    rw [msDiff] at hx
    rcases hx.of_append with h | h
    · obtain ⟨m, hm, r⟩ := mdBlock_minimal_md e mo srcs ht.1 x h hdef
      exact ⟨m, hm.head, r⟩
    · obtain ⟨m, hm, r⟩ := msDiff_minimal_md e rest srcs ht.2 x h hdef
      exact ⟨m, hm.tail, r⟩
end

mutual
theorem mdBlock_no_empty_md (e : Envs) : ∀ (mo : Obj) (srcs : List Obj),
    ∀ m k, ActiveIn (.scope m k) (mdBlock e mo srcs) → k ≠ []
  | .defn mm mws, srcs, m, k, hx => by
    rw [mdBlock] at hx
    obtain ⟨⟨d, _, hxd⟩, _⟩ := mem_diffBlockL (activeIn_diffBlockL hx)
    cases hxd
  | .scope mm kids, srcs, m, k, hx => by
    cases hx with
    | here hm hd =>
      obtain ⟨S, ho, hne, _⟩ := mem_mdBlock_scope e mm kids srcs _ hm
      injection ho with _ hk
      rw [hk]; exact hne
    | deeper hm hd hk =>
      obtain ⟨S, ho, _, _⟩ := mem_mdBlock_scope e mm kids srcs _ hm
      injection ho with _ hk'
      rw [hk'] at hk
      exact msDiff_no_empty_md e kids S m k hk
/-- **empty scopes are dropped**: every scope of a difference, at any depth, has children -/
theorem msDiff_no_empty_md (e : Envs) : ∀ (l : List Obj) (srcs : List Obj),
    ∀ m k, ActiveIn (.scope m k) (msDiff e l srcs) → k ≠ []
  | [], srcs, m, k, hx => by rw [msDiff] at hx; exact hx.not_nil.elim
  | mo :: rest, srcs, m, k, hx => by
    rw [msDiff] at hx
    rcases hx.of_append with h | h
    · exact mdBlock_no_empty_md e mo srcs m k h
    · exact msDiff_no_empty_md e rest srcs m k h
end

/-! ## 6. two list rules over the same candidates: working-set keys against difference keys -/

/-- `dedupKeepLast` on a list of items whose keys are computed by `k` -/
def dedupBy_md {α : Type} (k : α → Str) : List α → List α
  | [] => []
  | x :: xs => if xs.any (fun y => k y == k x) then dedupBy_md k xs else x :: dedupBy_md k xs

theorem dedupKeepLast_map_md {α β : Type} (g : α → β) (k : α → Str) : ∀ (l : List α),
    dedupKeepLast (l.map (fun a => (g a, k a))) = (dedupBy_md k l).map (fun a => (g a, k a))
  | [] => rfl
  | x :: xs => by
    rw [List.map_cons, dedupKeepLast, dedupBy_md, dedupKeepLast_map_md g k xs, List.any_map]
    have : ((fun (y : β × Str) => y.2 == (g x, k x).2) ∘ fun a => (g a, k a)) = fun y => k y == k x := rfl
    rw [this]
    split <;> rfl

theorem survivorsOf_map_md {α : Type} (g : α → Obj) (k : α → Str) (k0 : Str) (l : List α) :
    survivorsOf k0 (l.map (fun a => (g a, k a))) =
      (dedupBy_md k (l.filter (fun a => k a != k0))).map g := by
  unfold survivorsOf
  rw [List.filter_map]
  have : ((fun (y : Obj × Str) => y.2 != k0) ∘ fun a => (g a, k a)) = fun a => k a != k0 := rfl
  rw [this, dedupKeepLast_map_md, List.map_map]
  rfl

theorem dedupBy_sublist_md {α : Type} (k : α → Str) : ∀ (l : List α), (dedupBy_md k l).Sublist l
  | [] => List.Sublist.refl _
  | x :: xs => by
    rw [dedupBy_md]
    split
    · exact (dedupBy_sublist_md k xs).cons _
    · exact (dedupBy_sublist_md k xs).cons_cons _

theorem dedupBy_repr_md {α : Type} (k : α → Str) (l : List α) (b : α) (hb : b ∈ l) :
    ∃ b' ∈ dedupBy_md k l, k b' = k b := by
  obtain ⟨z, hz, hzk⟩ := dedup_keys (l.map (fun a => (a, k a))) (b, k b) (List.mem_map.mpr ⟨b, hb, rfl⟩)
  rw [dedupKeepLast_map_md (fun a => a) k l] at hz
  obtain ⟨b', hb', rfl⟩ := List.mem_map.mp hz
  exact ⟨b', hb', hzk⟩

/-- **two list rules in a row.**  `fk` — the key in the working set, `dk` — the key in the difference,
    `P` — "visible in the difference".  If items with the same working-set key as a visible one are visible
    with the same difference key, then applying the difference's list rule to the visible survivors of the
    working set's list rule gives what it gives on the visible items of the original list. -/
theorem dedup_coherent_md {α : Type} (fk dk : α → Str) (P : α → Bool) : ∀ (l : List α),
    (∀ a ∈ l, ∀ b ∈ l, P a = true → fk a = fk b → P b = true ∧ dk b = dk a) →
    dedupBy_md dk ((dedupBy_md fk l).filter P) = dedupBy_md dk (l.filter P)
  | [], _ => rfl
  | x :: xs, h2 => by
    have ih := dedup_coherent_md fk dk P xs
      (fun a ha b hb => h2 a (List.mem_cons_of_mem _ ha) b (List.mem_cons_of_mem _ hb))
    rw [dedupBy_md, List.filter_cons (p := P)]
    cases hPx : P x with
    | false =>
      simp only [Bool.false_eq_true, if_false]
      split
      · exact ih
      · rw [List.filter_cons, hPx]; exact ih
    | true =>
      simp only [if_true]
      rw [dedupBy_md]
      cases hlater : xs.any (fun y => fk y == fk x) with
      | true =>
        obtain ⟨b, hb, hbk⟩ := List.any_eq_true.mp hlater
        obtain ⟨hPb, hdb⟩ := h2 x List.mem_cons_self b (List.mem_cons_of_mem _ hb) hPx
          (by simpa using hbk : fk b = fk x).symm
        have : (xs.filter P).any (fun y => dk y == dk x) = true := by
          rw [List.any_eq_true]; exact ⟨b, List.mem_filter.mpr ⟨hb, hPb⟩, by simp [hdb]⟩
        simp only [this, if_true]
        exact ih
      | false =>
        have hany : ((dedupBy_md fk xs).filter P).any (fun y => dk y == dk x) =
            (xs.filter P).any (fun y => dk y == dk x) := by
          apply Bool.eq_iff_iff.mpr
          rw [List.any_eq_true, List.any_eq_true]
          constructor
          · rintro ⟨b, hb, hbk⟩
            have hb' := List.mem_filter.mp hb
            exact ⟨b, List.mem_filter.mpr ⟨(dedupBy_sublist_md fk _).subset hb'.1, hb'.2⟩, hbk⟩
          · rintro ⟨b, hb, hbk⟩
            have hb' := List.mem_filter.mp hb
            obtain ⟨b', hb'm, hb'k⟩ := dedupBy_repr_md fk xs b hb'.1
            obtain ⟨hPb', hdb'⟩ := h2 b (List.mem_cons_of_mem _ hb'.1) b'
              (List.mem_cons_of_mem _ ((dedupBy_sublist_md fk _).subset hb'm)) hb'.2 hb'k.symm
            exact ⟨b', List.mem_filter.mpr ⟨hb'm, hPb'⟩, by rw [hdb']; exact hbk⟩
        simp only [Bool.false_eq_true, if_false]
        rw [List.filter_cons, hPx]
        simp only [if_true]
        rw [dedupBy_md, hany, ih]

theorem dedupBy_map_md {α β : Type} (k : β → Str) (g : α → β) : ∀ (l : List α),
    dedupBy_md k (l.map g) = (dedupBy_md (fun a => k (g a)) l).map g
  | [] => rfl
  | x :: xs => by
    rw [List.map_cons, dedupBy_md, dedupBy_md, dedupBy_map_md k g xs, List.any_map]
    have : ((fun y => k y == k (g x)) ∘ g) = fun y => k (g y) == k (g x) := rfl
    rw [this]
    split <;> rfl

/-- the case `fk = dk`, everything visible, of `dedup_coherent_md` -/
theorem dedupBy_idem_md {α : Type} (k : α → Str) (l : List α) :
    dedupBy_md k (dedupBy_md k l) = dedupBy_md k l := by
  have h := dedup_coherent_md k k (fun _ => true) l (fun _ _ _ _ _ h => ⟨rfl, h.symm⟩)
  rw [List.filter_eq_self.mpr (fun _ _ => rfl), List.filter_eq_self.mpr (fun _ _ => rfl)] at h
  exact h

theorem dedupBy_congr_md {α : Type} (k k' : α → Str) : ∀ (l : List α),
    (∀ a ∈ l, ∀ b ∈ l, k a = k b ↔ k' a = k' b) → dedupBy_md k l = dedupBy_md k' l
  | [], _ => rfl
  | x :: xs, h => by
    have ih := dedupBy_congr_md k k' xs
      (fun a ha b hb => h a (List.mem_cons_of_mem _ ha) b (List.mem_cons_of_mem _ hb))
    have hany : xs.any (fun y => k y == k x) = xs.any (fun y => k' y == k' x) := by
      apply Bool.eq_iff_iff.mpr
      rw [List.any_eq_true, List.any_eq_true]
      constructor
      · rintro ⟨b, hb, hbk⟩
        exact ⟨b, hb, by
          have := (h b (List.mem_cons_of_mem _ hb) x List.mem_cons_self).mp (by simpa using hbk)
          simpa using this⟩
      · rintro ⟨b, hb, hbk⟩
        exact ⟨b, hb, by
          have := (h b (List.mem_cons_of_mem _ hb) x List.mem_cons_self).mpr (by simpa using hbk)
          simpa using this⟩
    rw [dedupBy_md, dedupBy_md, hany, ih]

/-! ## 7. the surviving source scopes of a `.multiple` scope; coherence of the two renderings; the master as a source -/

/-- the key of the working-set candidate of the source scope `s` -/
abbrev fkMS (e : Envs) (mm : Meta) (kids : List Obj) (s : Obj) : Str :=
  keyMS e (.scope mm kids) (msCand e mm kids s.children)
/-- the key of the difference candidate of the source scope `s` -/
abbrev dkMS (e : Envs) (mm : Meta) (kids : List Obj) (s : Obj) : Str :=
  keyMS e (.scope mm kids) (mdCand e mm kids s.children)
/-- the source scope `s` is visible in the difference: its difference candidate is non-empty and
    its key is not the master key -/
def visMS (e : Envs) (mm : Meta) (kids : List Obj) (s : Obj) : Bool :=
  (dkMS e mm kids s != keyMS e (.scope mm kids) (msCand e mm kids [])) && !(msDiff e kids s.children).isEmpty

theorem msMultiBlock_map_md {α : Type} (mo self : Obj) (k0 : Str) (g : α → Obj) (k : α → Str) (l : List α) :
    msMultiBlock mo self k0 (l.map (fun a => (g a, k a))) =
      (if (mo.attr "optional").mandatory then withTmpl self 0
       else withTmpl mo (if (dedupBy_md k (l.filter (fun a => k a != k0))).isEmpty then 1 else -1)) ::
      (dedupBy_md k (l.filter (fun a => k a != k0))).map g := by
  have hs := survivorsOf_map_md g k k0 l
  unfold survivorsOf at hs
  unfold msMultiBlock
  rw [hs]
  congr 1
  have hemp : (dedupKeepLast ((l.map (fun a => (g a, k a))).filter (fun y => y.2 != k0))).isEmpty =
      (dedupBy_md k (l.filter (fun a => k a != k0))).isEmpty := by
    have := congrArg List.isEmpty hs
    rw [List.isEmpty_map, List.isEmpty_map] at this
    exact this
  rw [hemp]

/-- the source scopes of a `.multiple` master scope that survive in the WORKING SET -/
def workSurv (e : Envs) (mm : Meta) (kids : List Obj) (L : List Obj) : List Obj :=
  dedupBy_md (fkMS e mm kids) (L.filter (fun a => fkMS e mm kids a != keyMS e (.scope mm kids) (msCand e mm kids [])))

/-- the template object that heads the block of a `.multiple` scope with surviving sources `A` -/
def tmplOfMS (e : Envs) (mm : Meta) (kids : List Obj) (A : List Obj) : Obj :=
  if ((Obj.scope mm kids).attr "optional").mandatory then withTmpl (msCand e mm kids []) 0
  else withTmpl (.scope mm kids) (if A.isEmpty then 1 else -1)

theorem msBlock_multi_surv (e : Envs) (mm : Meta) (kids srcs : List Obj)
    (hmult : (mm.attrs.get "multiple").truthy = true) :
    msBlock e (.scope mm kids) srcs =
      tmplOfMS e mm kids (workSurv e mm kids (scopesNamed mm.name srcs)) ::
        (workSurv e mm kids (scopesNamed mm.name srcs)).map (fun s => msCand e mm kids s.children) := by
  rw [msBlock_multi_eq e mm kids srcs hmult]
  exact msMultiBlock_map_md _ _ _ (fun s => msCand e mm kids s.children) (fkMS e mm kids) _

/-- the visible source scopes of a `.multiple` master scope that survive the difference's list rule -/
def diffSurv (e : Envs) (mm : Meta) (kids : List Obj) (L : List Obj) : List Obj :=
  dedupBy_md (dkMS e mm kids) (L.filter (visMS e mm kids))

theorem mdBlock_multi_surv (e : Envs) (mm : Meta) (kids srcs : List Obj)
    (hmult : (mm.attrs.get "multiple").truthy = true) :
    mdBlock e (.scope mm kids) srcs =
      (diffSurv e mm kids (scopesNamed mm.name srcs)).map (fun s => mdCand e mm kids s.children) := by
  rw [mdBlock_multi_eq e mm kids srcs hmult]
  have hmd : mdCK e mm kids = fun s => (mdCand e mm kids s.children, dkMS e mm kids s) := rfl
  rw [hmd, survivorsOf_map_md, List.filter_filter]
  rfl

theorem mem_diffSurv {e : Envs} {mm : Meta} {kids L : List Obj} {s : Obj}
    (h : s ∈ diffSurv e mm kids L) : s ∈ L ∧ visMS e mm kids s = true :=
  List.mem_filter.mp ((dedupBy_sublist_md _ _).subset h)

theorem diffSurv_idem (e : Envs) (mm : Meta) (kids L : List Obj) :
    diffSurv e mm kids (diffSurv e mm kids L) = diffSurv e mm kids L := by
  have hfil : (diffSurv e mm kids L).filter (visMS e mm kids) = diffSurv e mm kids L :=
    List.filter_eq_self.mpr (fun s hs => (mem_diffSurv hs).2)
  rw [diffSurv, hfil]
  exact dedupBy_idem_md _ _

theorem diffSurv_cons_invisible (e : Envs) (mm : Meta) (kids : List Obj) (t : Obj) (L : List Obj)
    (h : msDiff e kids t.children = []) : diffSurv e mm kids (t :: L) = diffSurv e mm kids L := by
  have : visMS e mm kids t = false := by unfold visMS; rw [h]; simp
  unfold diffSurv
  rw [List.filter_cons, this]
  rfl

theorem diffSurv_map (e : Envs) (mm : Meta) (kids : List Obj) (g : Obj → Obj) (A : List Obj)
    (h : ∀ s ∈ A, msDiff e kids (g s).children = msDiff e kids s.children) :
    (diffSurv e mm kids (A.map g)).map (fun s => mdCand e mm kids s.children) =
      (diffSurv e mm kids A).map (fun s => mdCand e mm kids s.children) := by
  have hk : ∀ s ∈ A, dkMS e mm kids (g s) = dkMS e mm kids s := fun s hs => by
    show keyMS e _ (Obj.scope _ (msDiff e kids (g s).children)) = _
    rw [h s hs]
  have hf : A.filter (visMS e mm kids ∘ g) = A.filter (visMS e mm kids) :=
    List.filter_congr (fun s hs => by
      show visMS e mm kids (g s) = _
      unfold visMS
      rw [hk s hs, h s hs])
  have hA : ∀ s ∈ A.filter (visMS e mm kids), s ∈ A := fun s hs => (List.mem_filter.mp hs).1
  unfold diffSurv
  rw [List.filter_map, dedupBy_map_md, List.map_map, hf,
    dedupBy_congr_md _ (dkMS e mm kids) _ (fun a ha b hb => by rw [hk a (hA a ha), hk b (hA b hb)])]
  apply List.map_congr_left
  intro s hs
  show Obj.scope _ (msDiff e kids (g s).children) = _
  rw [h s (hA s ((dedupBy_sublist_md _ _).subset hs))]



mutual
def CohMSObj (e : Envs) : Obj → List Obj → Prop
  | .defn _ _, _ => True
  | .scope mm kids, srcs =>
    if (mm.attrs.get "multiple").truthy then
      CohMS e kids [] ∧ (∀ s ∈ scopesNamed mm.name srcs, CohMS e kids s.children) ∧
      (∀ a ∈ scopesNamed mm.name srcs, visMS e mm kids a = true →
        fkMS e mm kids a ≠ keyMS e (.scope mm kids) (msCand e mm kids [])) ∧
      (∀ a ∈ scopesNamed mm.name srcs, ∀ b ∈ scopesNamed mm.name srcs, visMS e mm kids a = true →
        fkMS e mm kids a = fkMS e mm kids b → visMS e mm kids b = true ∧ dkMS e mm kids b = dkMS e mm kids a)
    else CohMS e kids (srcStep srcs mm.name)
/-- **coherence of the two renderings** at every `.multiple` master scope, for the source blocks `a`, `b`
    of its name (at every depth, inside every instance): a block visible in the difference is not
    dropped from the working set (its working-set rendering is not the master's), and a block whose
    working-set rendering equals that of a visible one is visible with the same difference rendering.
    (Both hold when "equal renderings of the full instance ⇔ equal renderings of the difference", which
    is what one expects of a rendering that lists the parameters one by one; it is a hypothesis here
    because the renderings are opaque strings.) -/
def CohMS (e : Envs) : List Obj → List Obj → Prop
  | [], _ => True
  | mo :: rest, srcs => CohMSObj e mo srcs ∧ CohMS e rest srcs
end

theorem CohMS.obj {e : Envs} : ∀ {l : List Obj} {srcs : List Obj}, CohMS e l srcs →
    ∀ o ∈ l, CohMSObj e o srcs
  | [], _, _, o, ho => by cases ho
  | a :: os, srcs, h, o, ho => by
    rw [CohMS] at h
    rw [List.mem_cons] at ho
    rcases ho with rfl | ho
    · exact h.1
    · exact CohMS.obj h.2 o ho

mutual
theorem cohMSObj_nil (e : Envs) : ∀ (mo : Obj), CohMSObj e mo []
  | .defn mm mws => by rw [CohMSObj]; trivial
  | .scope mm kids => by
    rw [CohMSObj]
    rw [srcStep_nil_dt, scopesNamed_nil_dt]
    split
    · exact ⟨cohMS_nil e kids, (fun s hs => nomatch hs), (fun s hs => nomatch hs), (fun s hs => nomatch hs)⟩
    · exact cohMS_nil e kids
theorem cohMS_nil (e : Envs) : ∀ (l : List Obj), CohMS e l []
  | [] => by rw [CohMS]; trivial
  | mo :: rest => by rw [CohMS]; exact ⟨cohMSObj_nil e mo, cohMS_nil e rest⟩
end

/-- **the master's own body as the source gives the empty difference** (`M.fetch_diff(M)` is empty) -/
theorem msDiff_self (e : Envs) (mkids : List Obj) (hf : MSMaster mkids) (hr : RefetchTree mkids) :
    msDiff e mkids mkids = [] := by
  rw [← ms2Diff_eq_msDiff e mkids mkids hf]
  exact ms2Diff_self e mkids hf.toMS2 hr


theorem mdBlock_multi_working_md (e : Envs) (mm : Meta) (kids srcs R : List Obj)
    (hmult : (mm.attrs.get "multiple").truthy = true)
    (hDW : ∀ S, CohMS e kids S → msDiff e kids (msResult e kids S) = msDiff e kids S)
    (hself : msDiff e kids kids = [])
    (hcoh : CohMSObj e (.scope mm kids) srcs)
    (hv : activeNamed mm.name R = msBlock e (.scope mm kids) srcs) :
    mdBlock e (.scope mm kids) R = mdBlock e (.scope mm kids) srcs := by
  rw [CohMSObj] at hcoh
  simp only [hmult, if_true] at hcoh
  obtain ⟨hc0, hcs, h1, h2⟩ := hcoh
  have hsc : scopesNamed mm.name R = msBlock e (.scope mm kids) srcs :=
    scopesNamed_of_view_ms _ _ _ hv (fun o ho => (msBlock_member_ms e (.scope mm kids) srcs o ho).2.2.1)
  rw [mdBlock_multi_surv e mm kids R hmult, mdBlock_multi_surv e mm kids srcs hmult, hsc,
    msBlock_multi_surv e mm kids srcs hmult]
  generalize scopesNamed mm.name srcs = L at hcs h1 h2 ⊢
  -- the template has an empty difference; the surviving instances have the differences of their sources
  have hT : msDiff e kids (tmplOfMS e mm kids (workSurv e mm kids L)).children = [] := by
    unfold tmplOfMS
    split
    · show msDiff e kids (msResult e kids []) = []
      rw [hDW [] hc0, msDiff_nil_md]
    · exact hself
  have hAL : ∀ s ∈ workSurv e mm kids L, s ∈ L := fun s hs =>
    (List.mem_filter.mp ((dedupBy_sublist_md _ _).subset hs)).1
  rw [diffSurv_cons_invisible e mm kids _ _ hT,
    diffSurv_map e mm kids (fun s => msCand e mm kids s.children) _
      (fun s hs => hDW _ (hcs s (hAL s hs)))]
  unfold diffSurv workSurv
  rw [dedup_coherent_md (fkMS e mm kids) (dkMS e mm kids) (visMS e mm kids) _
      (fun a ha b hb => h2 a (List.mem_filter.mp ha).1 b (List.mem_filter.mp hb).1),
    List.filter_filter]
  -- a visible block is not dropped from the working set
  exact congrArg _ (congrArg _ (List.filter_congr (fun a ha => by
    cases hP : visMS e mm kids a with
    | false => rfl
    | true => simpa using h1 a ha hP)))

/-! ## 8. the working set as a source: its difference is that of its sources, the keys stay defined -/

theorem keysDefined_defn_view_md (e : Envs) (mm : Meta) (mws : List Word) (srcs R : List Obj)
    (ht : mm.tmpl = 0) (hvr : mm.varRes = none)
    (hk : KeysDefined e 0 (.defn mm mws) (defsNamed mm.name srcs))
    (hv : activeNamed mm.name R = msBlock e (.defn mm mws) srcs) :
    KeysDefined e 0 (.defn mm mws) (defsNamed mm.name R) := by
  rw [msBlock, tmBlock_eq_gBlock_dt, gBlock_dt] at hv
  rw [defsNamed_of_view_dt (goodFam_blockL_dt e 0) mm mws hv]
  exact hk.of_closed ((goodFam_blockL_dt e 0).closed mm mws _ ht hvr)

mutual
theorem keysDiff_self_obj (e : Envs) : ∀ (mo : Obj) (R : List Obj), MSObj mo → RefetchTree [mo] →
    activeNamed mo.name R = [mo] → KeysDiffMSObj e mo [] → KeysDiffMSObj e mo R
  | .defn mm mws, R, ht, hr, hv, hk => by
    rw [MSObj] at ht
    have hr' := hr.defn_dt ht.2.2.2
    have hv' : activeNamed mm.name R = [.defn mm mws] := hv
    have hdn : defsNamed mm.name R = [.defn mm mws] := by
      rw [defsNamed_eq_filter_tree, hv']; rfl
    rw [KeysDiffMSObj] at hk ⊢
    rw [hdn]
    refine ⟨hk.1, ?_⟩
    intro d hd
    rw [List.mem_singleton] at hd; subst hd
    rw [candOfSrc_self mm mws hr'.1 hr'.2.1]
    exact hk.1
  | .scope mm kids, R, ht, hr, hv, hk => by
    have hkm := MSMaster.of_scope ht
    rw [MSObj] at ht
    have hrk := hr.kids ht.2.2.1
    have hv' : activeNamed mm.name R = [.scope mm kids] := hv
    have hB : ∀ o ∈ [Obj.scope mm kids], o.isDefn = false := by
      intro o ho; rw [List.mem_singleton] at ho; subst ho; rfl
    rw [KeysDiffMSObj] at hk ⊢
    cases hmult : (mm.attrs.get "multiple").truthy with
    | true =>
      simp only [hmult, if_true] at hk ⊢
      refine ⟨hk.1, hk.2.1, hk.2.2.1, ?_⟩
      intro s hs
      rw [scopesNamed_of_view_ms _ _ _ hv' hB, List.mem_singleton] at hs
      subst hs
      refine ⟨keysDiff_self_list e kids kids hkm.kids hrk (view_self_ms kids hkm) hk.1, ?_⟩
      intro hne
      simp only [Obj.children, msDiff_self e kids hkm hrk] at hne
      cases hne
    | false =>
      simp only [hmult, Bool.false_eq_true, if_false] at hk ⊢
      have h1 : srcStep R mm.name = kids := by
        rw [srcStep_of_view_ms _ _ _ hv']; simp [Obj.children]
      rw [h1]
      rw [srcStep_nil_dt] at hk
      exact keysDiff_self_list e kids kids hkm.kids hrk (view_self_ms kids hkm) hk
theorem keysDiff_self_list (e : Envs) : ∀ (l : List Obj) (R : List Obj), MSKids l → RefetchTree l →
    (∀ mo ∈ l, activeNamed mo.name R = [mo]) → KeysDiffMS e l [] → KeysDiffMS e l R
  | [], R, _, _, _, _ => by rw [KeysDiffMS]; trivial
  | mo :: rest, R, ht, hr, hv, hk => by
    rw [MSKids] at ht
    rw [KeysDiffMS] at hk ⊢
    exact ⟨keysDiff_self_obj e mo R ht.1 hr.head (hv mo List.mem_cons_self) hk.1,
      keysDiff_self_list e rest R ht.2 hr.tail (fun o ho => hv o (List.mem_cons_of_mem _ ho)) hk.2⟩
end

mutual
/-- **the working set as a source**: against sources in which the enabled objects of a master child's name are its
    block of the working set, the difference is that of the sources the working set was fetched from, and its keys
    stay defined -/
theorem mdBlock_view_ms_md (e : Envs) : ∀ (mo : Obj) (srcs R : List Obj), MSObj mo → RefetchTree [mo] →
    CohMSObj e mo srcs → activeNamed mo.name R = msBlock e mo srcs →
    mdBlock e mo R = mdBlock e mo srcs ∧ (KeysDiffMSObj e mo srcs → KeysDiffMSObj e mo R)
  | .defn mm mws, srcs, R, ht, hr, hc, hv => by
    rw [MSObj] at ht
    have hr' := hr.defn_dt ht.2.2.2
    have hv' : activeNamed mm.name R = msBlock e (.defn mm mws) srcs := hv
    constructor
    · rw [msBlock, tmBlock_eq_gBlock_dt, gBlock_dt] at hv'
      rw [mdBlock, mdBlock, defsNamed_of_view_dt (goodFam_blockL_dt e 0) mm mws hv',
        diffBlockL_blockL e 0 mm mws hr'.1 hr'.2.1]
    · intro hk
      rw [KeysDiffMSObj] at hk ⊢
      exact keysDefined_defn_view_md e mm mws srcs R hr'.1 hr'.2.1 hk hv
  | .scope mm kids, srcs, R, ht, hr, hc, hv => by
    have hkm := MSMaster.of_scope ht
    rw [MSObj] at ht
    have hrk := hr.kids ht.2.2.1
    have hv' : activeNamed mm.name R = msBlock e (.scope mm kids) srcs := hv
    have hB : ∀ o ∈ msBlock e (.scope mm kids) srcs, o.isDefn = false :=
      fun o ho => (msBlock_member_ms e _ srcs o ho).2.2.1
    have ih := fun S hS => msDiff_view_ms_md e kids S _ hkm.kids hrk hS (view_ms e kids S hkm)
    have hself := msDiff_self e kids hkm hrk
    cases hmult : (mm.attrs.get "multiple").truthy with
    | true =>
      refine ⟨mdBlock_multi_working_md e mm kids srcs R hmult (fun S hS => (ih S hS).1) hself hc hv, fun hk => ?_⟩
      rw [CohMSObj] at hc
      rw [KeysDiffMSObj] at hk ⊢
      simp only [hmult, if_true] at hk hc ⊢
      obtain ⟨hc0, hcs, _, _⟩ := hc
      refine ⟨hk.1, hk.2.1, hk.2.2.1, ?_⟩
      intro o ho
      rw [scopesNamed_of_view_ms _ _ _ hv' hB, msBlock_multi_eq e mm kids srcs hmult] at ho
      rcases mem_msMultiBlock ho with rfl | ⟨t, rfl⟩ | ⟨x, hx, rfl⟩
      · refine ⟨(ih [] hc0).2 hk.1, fun hne => ?_⟩
        have hne' : (msDiff e kids (msResult e kids [])).isEmpty = false := hne
        rw [(ih [] hc0).1, msDiff_nil_md] at hne'
        cases hne'
      · refine ⟨keysDiff_self_list e kids kids hkm.kids hrk (view_self_ms kids hkm) hk.1, fun hne => ?_⟩
        have hne' : (msDiff e kids kids).isEmpty = false := hne
        rw [hself] at hne'
        cases hne'
      · obtain ⟨s, hs, rfl⟩ := List.mem_map.mp hx
        have hks := hk.2.2.2 s hs
        refine ⟨(ih _ (hcs s hs)).2 hks.1, ?_⟩
        show (msDiff e kids (msResult e kids s.children)).isEmpty = false →
          ∃ k, extractFormatStr e _ _ (.scope { mm with tmpl := 0 } (msDiff e kids (msResult e kids s.children))) = .ok k
        rw [(ih _ (hcs s hs)).1]
        exact hks.2
    | false =>
      rw [CohMSObj] at hc
      simp only [hmult, Bool.false_eq_true, if_false] at hc
      have hb : msBlock e (.scope mm kids) srcs = [msCand e mm kids (srcStep srcs mm.name)] := by
        rw [msBlock]; simp only [hmult, Bool.false_eq_true, if_false]
      have h1 : srcStep R mm.name = msResult e kids (srcStep srcs mm.name) := by
        rw [srcStep_of_view_ms _ _ _ hv', hb]; simp [Obj.children]
      constructor
      · rw [mdBlock_plain_eq e mm kids R hmult, mdBlock_plain_eq e mm kids srcs hmult, h1, (ih _ hc).1]
      · intro hk
        rw [KeysDiffMSObj] at hk ⊢
        simp only [hmult, Bool.false_eq_true, if_false] at hk ⊢
        rw [h1]
        exact (ih _ hc).2 hk
theorem msDiff_view_ms_md (e : Envs) : ∀ (l : List Obj) (srcs R : List Obj), MSKids l →
    RefetchTree l → CohMS e l srcs → (∀ mo ∈ l, activeNamed mo.name R = msBlock e mo srcs) →
    msDiff e l R = msDiff e l srcs ∧ (KeysDiffMS e l srcs → KeysDiffMS e l R)
  | [], srcs, R, _, _, _, _ => by rw [msDiff, msDiff, KeysDiffMS]; exact ⟨rfl, fun _ => trivial⟩
  | mo :: rest, srcs, R, ht, hr, hc, hv => by
    rw [MSKids] at ht
    rw [CohMS] at hc
    have ho := mdBlock_view_ms_md e mo srcs R ht.1 hr.head hc.1 (hv mo List.mem_cons_self)
    have hl := msDiff_view_ms_md e rest srcs R ht.2 hr.tail hc.2 (fun o ho => hv o (List.mem_cons_of_mem _ ho))
    rw [msDiff, msDiff, KeysDiffMS, KeysDiffMS, ho.1, hl.1]
    exact ⟨rfl, fun hk => ⟨ho.2 hk.1, hl.2 hk.2⟩⟩
end

theorem mdBlock_view_working_md (e : Envs) : ∀ (mo : Obj) (srcs R : List Obj), MSObj mo → RefetchTree [mo] →
    CohMSObj e mo srcs → activeNamed mo.name R = msBlock e mo srcs → mdBlock e mo R = mdBlock e mo srcs :=
  fun mo srcs R ht hr hc hv => (mdBlock_view_ms_md e mo srcs R ht hr hc hv).1

theorem keysDiff_view_obj (e : Envs) : ∀ (mo : Obj) (srcs R : List Obj), MSObj mo → RefetchTree [mo] →
    KeysDiffMSObj e mo srcs → CohMSObj e mo srcs → activeNamed mo.name R = msBlock e mo srcs →
    KeysDiffMSObj e mo R :=
  fun mo srcs R ht hr hk hc hv => (mdBlock_view_ms_md e mo srcs R ht hr hc hv).2 hk

/-- **the working set has the difference of the sources it was fetched from**
    (`M.fetch_diff(M.fetch(S)) = M.fetch_diff(S)` on the specification), under `CohMS` -/
theorem msDiff_working (e : Envs) (mkids srcs : List Obj) (hf : MSMaster mkids) (hr : RefetchTree mkids)
    (hc : CohMS e mkids srcs) :
    msDiff e mkids (msResult e mkids srcs) = msDiff e mkids srcs :=
  (msDiff_view_ms_md e mkids srcs _ hf.kids hr hc (view_ms e mkids srcs hf)).1

/-- **the difference of the master's own defaults is empty** (no hypothesis on the renderings) -/
theorem msDiff_defaults (e : Envs) (mkids : List Obj) (hf : MSMaster mkids) (hr : RefetchTree mkids) :
    msDiff e mkids (msResult e mkids []) = [] := by
  rw [msDiff_working e mkids [] hf hr (cohMS_nil e mkids), msDiff_nil_md]


theorem keysDiff_msResult (e : Envs) (mkids srcs : List Obj) (hf : MSMaster mkids) (hr : RefetchTree mkids)
    (hk : KeysDiffMS e mkids srcs) (hc : CohMS e mkids srcs) :
    KeysDiffMS e mkids (msResult e mkids srcs) :=
  (msDiff_view_ms_md e mkids srcs _ hf.kids hr hc (view_ms e mkids srcs hf)).2 hk

/-- **`M.fetch_diff(M.fetch(S))` on `fetchScope`**: it succeeds and has the children of
    `M.fetch_diff(S)` -/
theorem diff_working_ms (e : Envs) (fuel : Nat) (sm : Meta) (mkids srcs : List Obj)
    (hf : MSMaster mkids) (hfuel : depthL mkids + 1 < fuel) (hsd : sm.disabled = false)
    (hr : RefetchTree mkids) (hdol : SrcNoDollar srcs)
    (hkeys : KeysDefinedMS e mkids srcs) (hkd : KeysDiffMS e mkids srcs) (hc : CohMS e mkids srcs) :
    fetchScope e fuel true sm mkids (msResult e mkids srcs) =
      .ok (.scope { sm with tmpl := 0 } (msDiff e mkids srcs), msUsed mkids (msResult e mkids srcs)) := by
  rw [diff_ms_total e fuel sm mkids _ hf hfuel hsd (srcTree_msResult e mkids srcs hf hr hdol)
    (keysDiff_msResult e mkids srcs hf hr hkd hc), (msSide_result e mkids srcs hf hr hkeys).1,
    msDiff_working e mkids srcs hf hr hc]
  rfl


/-! ## 9. the difference as a source: it is reproduced, the fetch gives the restored block (`mrBlock`) -/

theorem mdBlock_member_md (e : Envs) : ∀ (mo : Obj) (srcs : List Obj), ∀ o ∈ mdBlock e mo srcs,
    o.name = mo.name ∧ o.meta.disabled = mo.meta.disabled ∧ o.isDefn = mo.isDefn
  | .defn mm mws, srcs, o, ho => by
    rw [mdBlock] at ho
    exact (goodFam_diffBlockL_dt e 0).basic mm mws _ o ho
  | .scope mm kids, srcs, o, ho => by
    obtain ⟨S, rfl, _, _⟩ := mem_mdBlock_scope e mm kids srcs o ho
    exact ⟨rfl, rfl, rfl⟩

theorem view_md (e : Envs) (mkids srcs : List Obj) (hf : MSMaster mkids) :
    ∀ mo ∈ mkids, activeNamed mo.name (msDiff e mkids srcs) = mdBlock e mo srcs := by
  rw [msDiff_eq_flatMap]
  exact activeNamed_flatMap_distinct (fun mo => mdBlock e mo srcs) mkids hf.distinct
    (fun mo hmo o ho => by
      have h := mdBlock_member_md e mo srcs o ho
      exact ⟨h.1, by rw [h.2.1]; exact (hf.obj mo hmo).enabled⟩)

theorem diffBlockL_idem_md (e : Envs) (fuel : Nat) (mm : Meta) (mws : List Word)
    (ht : mm.tmpl = 0) (hv : mm.varRes = none) (l : List Obj) :
    diffBlockL e fuel (.defn mm mws) (diffBlockL e fuel (.defn mm mws) l) = diffBlockL e fuel (.defn mm mws) l := by
  rw [← diffBlockL_blockL e fuel mm mws ht hv (diffBlockL e fuel (.defn mm mws) l),
    blockL_diffBlockL e fuel mm mws ht hv l, diffBlockL_restoredBlockL e fuel mm mws ht hv l]

mutual
/-- the block one master object contributes to `master.fetch(D)`, `D = master.fetch_diff(sources)`:
    a definition — `restoredBlockL` (Proofs/DiffSpec.lean); a non-multiple scope — itself, restored;
    a `.multiple` scope — the template as in a fetch, then the list rule over the restored instances
    of the source blocks that survive in the difference (`diffSurv`), compared by the renderings of
    the restored instances -/
def mrBlock (e : Envs) : Obj → List Obj → List Obj
  | .defn mm mws, srcs => restoredBlockL e 0 (.defn mm mws) (defsNamed mm.name srcs)
  | .scope mm kids, srcs =>
    if (mm.attrs.get "multiple").truthy then
      msMultiBlock (.scope mm kids) (.scope { mm with tmpl := 0 } (msResult e kids []))
        (keyMS e (.scope mm kids) (.scope { mm with tmpl := 0 } (msResult e kids [])))
        ((diffSurv e mm kids (scopesNamed mm.name srcs)).map (fun s =>
          (Obj.scope { mm with tmpl := 0 } (msRestoredS e kids s.children),
           keyMS e (.scope mm kids) (Obj.scope { mm with tmpl := 0 } (msRestoredS e kids s.children)))))
    else [.scope { mm with tmpl := 0 } (msRestoredS e kids (srcStep srcs mm.name))]
/-- **the restored working set in closed form** (structural recursion on the master) -/
def msRestoredS (e : Envs) : List Obj → List Obj → List Obj
  | [], _ => []
  | mo :: rest, srcs => mrBlock e mo srcs ++ msRestoredS e rest srcs
end


mutual
/-- **the difference `D` of `srcs` as a source**: against sources in which the enabled objects of a master child's
    name are its block of the difference, the difference is reproduced and the fetch gives the restored block -/
theorem mdBlock_view_md (e : Envs) : ∀ (mo : Obj) (srcs R : List Obj), MSObj mo → RefetchTree [mo] →
    activeNamed mo.name R = mdBlock e mo srcs →
    mdBlock e mo R = mdBlock e mo srcs ∧ msBlock e mo R = mrBlock e mo srcs
  | .defn mm mws, srcs, R, ht, hr, hv => by
    rw [MSObj] at ht
    have hr' := hr.defn_dt ht.2.2.2
    have hv' : activeNamed mm.name R = mdBlock e (.defn mm mws) srcs := hv
    rw [mdBlock] at hv'
    have hdn := defsNamed_of_view_dt (goodFam_diffBlockL_dt e 0) mm mws hv'
    constructor
    · rw [mdBlock, mdBlock, hdn, diffBlockL_idem_md e 0 mm mws hr'.1 hr'.2.1]
    · rw [msBlock, tmBlock_eq_gBlock_dt, gBlock_dt, hdn, blockL_diffBlockL e 0 mm mws hr'.1 hr'.2.1, mrBlock]
  | .scope mm kids, srcs, R, ht, hr, hv => by
    have hk := MSMaster.of_scope ht
    rw [MSObj] at ht
    have hrk := hr.kids ht.2.2.1
    have hv' : activeNamed mm.name R = mdBlock e (.scope mm kids) srcs := hv
    have hB : ∀ o ∈ mdBlock e (.scope mm kids) srcs, o.isDefn = false :=
      fun o ho => (mdBlock_member_md e _ srcs o ho).2.2
    have ih := fun S => msDiff_view_md e kids S _ hk.kids hrk (view_md e kids S hk)
    cases hmult : (mm.attrs.get "multiple").truthy with
    | true =>
      have hsc := scopesNamed_of_view_ms _ _ _ hv' hB
      rw [mdBlock_multi_surv e mm kids srcs hmult] at hsc ⊢
      constructor
      · rw [mdBlock_multi_surv e mm kids R hmult, hsc,
          diffSurv_map e mm kids (fun s => mdCand e mm kids s.children) _ (fun s _ => (ih s.children).1), diffSurv_idem]
      · rw [msBlock_multi_eq e mm kids R hmult, hsc, mrBlock]
        simp only [hmult, if_true]
        congr 1
        rw [List.map_map]
        apply List.map_congr_left
        intro s hs
        show (msCand e mm kids (msDiff e kids s.children), keyMS e _ (msCand e mm kids (msDiff e kids s.children))) = _
        have : msCand e mm kids (msDiff e kids s.children) =
            Obj.scope { mm with tmpl := 0 } (msRestoredS e kids s.children) := by
          unfold msCand; rw [(ih _).2]
        rw [this]
    | false =>
      rw [mdBlock_plain_eq e mm kids srcs hmult] at hv' ⊢
      rw [mdBlock_plain_eq e mm kids R hmult, msBlock, mrBlock, srcStep_of_view_ms _ _ _ hv']
      simp only [hmult, Bool.false_eq_true, if_false]
      cases hemp : (msDiff e kids (srcStep srcs mm.name)).isEmpty with
      | true =>
        simp only [if_true, List.flatMap_nil, msDiff_nil_md]
        have h0 : msDiff e kids (srcStep srcs mm.name) = [] := List.isEmpty_iff.mp hemp
        rw [← (ih _).2, h0]
        exact ⟨rfl, rfl⟩
      | false =>
        simp only [Bool.false_eq_true, if_false, List.flatMap_cons, List.flatMap_nil, List.append_nil,
          Obj.children]
        rw [(ih _).1, (ih _).2, hemp]
        simp
theorem msDiff_view_md (e : Envs) : ∀ (l : List Obj) (srcs R : List Obj), MSKids l →
    RefetchTree l → (∀ mo ∈ l, activeNamed mo.name R = mdBlock e mo srcs) →
    msDiff e l R = msDiff e l srcs ∧ msResult e l R = msRestoredS e l srcs
  | [], srcs, R, _, _, _ => by rw [msDiff, msDiff, msResult, msRestoredS]; exact ⟨rfl, rfl⟩
  | mo :: rest, srcs, R, ht, hr, hv => by
    rw [MSKids] at ht
    have ho := mdBlock_view_md e mo srcs R ht.1 hr.head (hv mo List.mem_cons_self)
    have hl := msDiff_view_md e rest srcs R ht.2 hr.tail (fun o ho => hv o (List.mem_cons_of_mem _ ho))
    rw [msDiff, msDiff, msResult, msRestoredS, ho.1, ho.2, hl.1, hl.2]
    exact ⟨rfl, rfl⟩
end

theorem mdBlock_view_idem_md (e : Envs) : ∀ (mo : Obj) (srcs R : List Obj), MSObj mo → RefetchTree [mo] →
    activeNamed mo.name R = mdBlock e mo srcs → mdBlock e mo R = mdBlock e mo srcs :=
  fun mo srcs R ht hr hv => (mdBlock_view_md e mo srcs R ht hr hv).1

theorem msBlock_view_diff_md (e : Envs) : ∀ (mo : Obj) (srcs D : List Obj), MSObj mo → RefetchTree [mo] →
    activeNamed mo.name D = mdBlock e mo srcs → msBlock e mo D = mrBlock e mo srcs :=
  fun mo srcs D ht hr hv => (mdBlock_view_md e mo srcs D ht hr hv).2

/-- **the difference of a difference is that difference** (no hypothesis on the renderings) -/
theorem msDiff_idem (e : Envs) (mkids srcs : List Obj) (hf : MSMaster mkids) (hr : RefetchTree mkids) :
    msDiff e mkids (msDiff e mkids srcs) = msDiff e mkids srcs :=
  (msDiff_view_md e mkids srcs _ hf.kids hr (view_md e mkids srcs hf)).1


/-! ## 10. executable form of the coherence hypothesis -/

mutual
def cohMSObjB (e : Envs) : Obj → List Obj → Bool
  | .defn _ _, _ => true
  | .scope mm kids, srcs =>
    if (mm.attrs.get "multiple").truthy then
      cohMSB e kids [] && (scopesNamed mm.name srcs).all (fun s => cohMSB e kids s.children) &&
      (scopesNamed mm.name srcs).all (fun a => !visMS e mm kids a ||
        fkMS e mm kids a != keyMS e (.scope mm kids) (msCand e mm kids [])) &&
      (scopesNamed mm.name srcs).all (fun a => (scopesNamed mm.name srcs).all (fun b =>
        !visMS e mm kids a || !(fkMS e mm kids a == fkMS e mm kids b) ||
          (visMS e mm kids b && dkMS e mm kids b == dkMS e mm kids a)))
    else cohMSB e kids (srcStep srcs mm.name)
def cohMSB (e : Envs) : List Obj → List Obj → Bool
  | [], _ => true
  | mo :: rest, srcs => cohMSObjB e mo srcs && cohMSB e rest srcs
end

mutual
theorem cohMSObjB_sound (e : Envs) : ∀ (mo : Obj) (srcs : List Obj), cohMSObjB e mo srcs = true → CohMSObj e mo srcs
  | .defn mm mws, srcs, h => by rw [CohMSObj]; trivial
  | .scope mm kids, srcs, h => by
    rw [cohMSObjB] at h
    rw [CohMSObj]
    split
    · rename_i hm
      simp only [hm, if_true, Bool.and_eq_true, List.all_eq_true] at h
      obtain ⟨⟨⟨h0, hs⟩, h1⟩, h2⟩ := h
      refine ⟨cohMSB_sound e kids [] h0, fun s hs' => cohMSB_sound e kids s.children (hs s hs'), ?_, ?_⟩
      · intro a ha hv
        have := h1 a ha
        rw [hv] at this
        simpa using this
      · intro a ha b hb hv hfk
        have := h2 a ha b hb
        rw [hv, hfk] at this
        simpa using this
    · rename_i hm
      simp only [hm, Bool.false_eq_true, if_false] at h
      exact cohMSB_sound e kids _ h
theorem cohMSB_sound (e : Envs) : ∀ (l : List Obj) (srcs : List Obj), cohMSB e l srcs = true → CohMS e l srcs
  | [], _, _ => by rw [CohMS]; trivial
  | mo :: rest, srcs, h => by
    rw [cohMSB, Bool.and_eq_true] at h
    rw [CohMS]
    exact ⟨cohMSObjB_sound e mo srcs h.1, cohMSB_sound e rest srcs h.2⟩
end


/-! ## 11. the restored working set keeps the instances of the working set -/

/-- the key of the restored instance of the source scope `s` -/
abbrev rkMS (e : Envs) (mm : Meta) (kids : List Obj) (s : Obj) : Str :=
  keyMS e (.scope mm kids) (.scope { mm with tmpl := 0 } (msRestoredS e kids s.children))

/-- **the three renderings identify the same source blocks** of one `.multiple` master scope: a block
    is dropped from the working set iff it is invisible in the difference; two visible blocks have
    equal working-set renderings iff they have equal difference renderings; the restored instance of
    a visible block renders like its working-set instance -/
structure StrongCohAt (e : Envs) (mm : Meta) (kids L : List Obj) : Prop where
  dropped : ∀ a ∈ L, fkMS e mm kids a = keyMS e (.scope mm kids) (msCand e mm kids []) ↔ visMS e mm kids a = false
  same : ∀ a ∈ L, ∀ b ∈ L, visMS e mm kids a = true → visMS e mm kids b = true →
    (fkMS e mm kids a = fkMS e mm kids b ↔ dkMS e mm kids a = dkMS e mm kids b)
  restored : ∀ a ∈ L, visMS e mm kids a = true → rkMS e mm kids a = fkMS e mm kids a

theorem diffSurv_eq_workSurv (e : Envs) (mm : Meta) (kids L : List Obj) (h : StrongCohAt e mm kids L) :
    diffSurv e mm kids L = workSurv e mm kids L := by
  unfold diffSurv workSurv
  have hf : L.filter (fun a => fkMS e mm kids a != keyMS e (.scope mm kids) (msCand e mm kids [])) =
      L.filter (visMS e mm kids) := by
    apply List.filter_congr
    intro a ha
    have := h.dropped a ha
    cases hv : visMS e mm kids a with
    | true =>
      have : fkMS e mm kids a ≠ keyMS e (.scope mm kids) (msCand e mm kids []) := by
        intro heq; rw [this.mp heq] at hv; cases hv
      simpa using this
    | false => simpa using this.mpr hv
  rw [hf]
  apply dedupBy_congr_md
  intro a ha b hb
  have ha' := List.mem_filter.mp ha
  have hb' := List.mem_filter.mp hb
  exact (h.same a ha'.1 b hb'.1 ha'.2 hb'.2).symm

/-- **the restored working set has the instances of the working set**: under `StrongCohAt` the block of
    a `.multiple` scope in `W'` is the same template followed by the restored instances of exactly
    the source scopes whose instances make up its block in `W`, in the same order -/
theorem mrBlock_multi_surv (e : Envs) (mm : Meta) (kids srcs : List Obj)
    (hmult : (mm.attrs.get "multiple").truthy = true)
    (h : StrongCohAt e mm kids (scopesNamed mm.name srcs)) :
    mrBlock e (.scope mm kids) srcs =
      tmplOfMS e mm kids (workSurv e mm kids (scopesNamed mm.name srcs)) ::
        (workSurv e mm kids (scopesNamed mm.name srcs)).map
          (fun s => Obj.scope { mm with tmpl := 0 } (msRestoredS e kids s.children)) := by
  rw [mrBlock]
  simp only [hmult, if_true]
  rw [diffSurv_eq_workSurv e mm kids _ h]
  generalize hL : scopesNamed mm.name srcs = L at h ⊢
  generalize hk0 : keyMS e (.scope mm kids) (msCand e mm kids []) = k0
  have hA : ∀ a ∈ workSurv e mm kids L, a ∈ L ∧ fkMS e mm kids a ≠ k0 := by
    intro a ha
    unfold workSurv at ha
    rw [hk0] at ha
    have := List.mem_filter.mp ((dedupBy_sublist_md _ _).subset ha)
    exact ⟨this.1, by simpa using this.2⟩
  have hvis : ∀ a ∈ workSurv e mm kids L, visMS e mm kids a = true := by
    intro a ha
    have := (h.dropped a (hA a ha).1)
    rw [hk0] at this
    cases hv : visMS e mm kids a with
    | true => rfl
    | false => exact absurd (this.mpr hv) (hA a ha).2
  have hmap := msMultiBlock_map_md (.scope mm kids) (msCand e mm kids []) k0
    (fun s => Obj.scope { mm with tmpl := 0 } (msRestoredS e kids s.children)) (rkMS e mm kids)
    (workSurv e mm kids L)
  show msMultiBlock (.scope mm kids) (msCand e mm kids []) k0
    ((workSurv e mm kids L).map (fun s => (Obj.scope { mm with tmpl := 0 } (msRestoredS e kids s.children),
      rkMS e mm kids s))) = _
  rw [hmap]
  have hfil : (workSurv e mm kids L).filter (fun a => rkMS e mm kids a != k0) = workSurv e mm kids L := by
    rw [List.filter_eq_self]
    intro a ha
    rw [h.restored a (hA a ha).1 (hvis a ha)]
    simpa using (hA a ha).2
  have hdd : dedupBy_md (rkMS e mm kids) (workSurv e mm kids L) = workSurv e mm kids L := by
    rw [dedupBy_congr_md (rkMS e mm kids) (fkMS e mm kids) (workSurv e mm kids L)
      (fun a ha b hb => by rw [h.restored a (hA a ha).1 (hvis a ha), h.restored b (hA b hb).1 (hvis b hb)])]
    unfold workSurv
    exact dedupBy_idem_md _ _
  rw [hfil, hdd]
  rfl


/-! ## 12. exact restoration -/

mutual
def ExactMSObj (e : Envs) : Obj → List Obj → Prop
  | .defn mm mws, srcs => NoRedundantObj_dt e (.defn mm mws) srcs
  | .scope mm kids, srcs =>
    if (mm.attrs.get "multiple").truthy then
      StrongCohAt e mm kids (scopesNamed mm.name srcs) ∧
        ∀ s ∈ workSurv e mm kids (scopesNamed mm.name srcs), ExactMS e kids s.children
    else ExactMS e kids (srcStep srcs mm.name)
/-- the hypotheses of exact restoration, at every depth and inside every surviving instance: no
    non-multiple working value merely re-spells its default (`NoRedundantObj_dt`), and at every
    `.multiple` scope the three renderings identify the same source blocks (`StrongCohAt`) -/
def ExactMS (e : Envs) : List Obj → List Obj → Prop
  | [], _ => True
  | mo :: rest, srcs => ExactMSObj e mo srcs ∧ ExactMS e rest srcs
end

mutual
theorem mrBlock_eq_msBlock (e : Envs) : ∀ (mo : Obj) (srcs : List Obj), ExactMSObj e mo srcs →
    mrBlock e mo srcs = msBlock e mo srcs
  | .defn mm mws, srcs, h => by
    rw [ExactMSObj] at h
    have := trBlock_eq_tmBlock_dt e (.defn mm mws) srcs h
    rw [trBlock] at this
    rw [mrBlock, msBlock, this]
  | .scope mm kids, srcs, h => by
    rw [ExactMSObj] at h
    cases hmult : (mm.attrs.get "multiple").truthy with
    | true =>
      simp only [hmult, if_true] at h
      rw [mrBlock_multi_surv e mm kids srcs hmult h.1, msBlock_multi_surv e mm kids srcs hmult]
      congr 1
      apply List.map_congr_left
      intro s hs
      show Obj.scope _ (msRestoredS e kids s.children) = Obj.scope _ (msResult e kids s.children)
      rw [msRestoredS_eq_msResult e kids s.children (h.2 s hs)]
    | false =>
      simp only [hmult, Bool.false_eq_true, if_false] at h
      rw [mrBlock, msBlock]
      simp only [hmult, Bool.false_eq_true, if_false]
      rw [msRestoredS_eq_msResult e kids _ h]
/-- **exact restoration**: under `ExactMS` the restored working set IS the working set -/
theorem msRestoredS_eq_msResult (e : Envs) : ∀ (l : List Obj) (srcs : List Obj), ExactMS e l srcs →
    msRestoredS e l srcs = msResult e l srcs
  | [], srcs, _ => by rw [msRestoredS, msResult]
  | mo :: rest, srcs, h => by
    rw [ExactMS] at h
    rw [msRestoredS, msResult, mrBlock_eq_msBlock e mo srcs h.1, msRestoredS_eq_msResult e rest srcs h.2]
end

/-! ### executable forms -/

def strongCohAtB (e : Envs) (mm : Meta) (kids L : List Obj) : Bool :=
  L.all (fun a => (fkMS e mm kids a == keyMS e (.scope mm kids) (msCand e mm kids [])) == !visMS e mm kids a) &&
  L.all (fun a => L.all (fun b => !visMS e mm kids a || !visMS e mm kids b ||
    ((fkMS e mm kids a == fkMS e mm kids b) == (dkMS e mm kids a == dkMS e mm kids b)))) &&
  L.all (fun a => !visMS e mm kids a || rkMS e mm kids a == fkMS e mm kids a)

theorem strongCohAtB_sound (e : Envs) (mm : Meta) (kids L : List Obj) (h : strongCohAtB e mm kids L = true) :
    StrongCohAt e mm kids L := by
  unfold strongCohAtB at h
  simp only [Bool.and_eq_true, List.all_eq_true] at h
  obtain ⟨⟨h1, h2⟩, h3⟩ := h
  refine ⟨?_, ?_, ?_⟩
  · intro a ha
    have := h1 a ha
    cases hv : visMS e mm kids a <;> simp [hv] at this ⊢ <;> exact this
  · intro a ha b hb hva hvb
    have := h2 a ha b hb
    simp only [hva, hvb, Bool.not_true, Bool.false_or] at this
    constructor
    · intro heq
      rw [heq] at this
      simpa using this
    · intro heq
      rw [heq] at this
      simpa using this
  · intro a ha hva
    have := h3 a ha
    simpa [hva] using this


end Phil
