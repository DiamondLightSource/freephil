/-
  Phil.Proofs.FetchLoop — `scope.fetch` (Phil/Fetch.lean) restated through named step functions (the master
  loop, the candidate loop of a `.multiple` object with its bookkeeping in closed form (`book`, `cAccept_eq`),
  the step for one master child), with the facts that hold of every fetch: shape of the result (C04),
  splitting of sources (C05), consumed-definition tracking (C06);
  the first and the last are the two halves of one statement about an ok step of the master loop, `stepG_ok`.
  Proofs/HeapFetchAbs.lean shows that these step functions simulate the loop bodies of the heap model.
-/
import Phil.Fetch
import Phil.Proofs.Generic
set_option linter.unusedVariables false
namespace Phil

/-! ## 0. `fetchScope` restated through named step functions -/

/-- the type of `fetchScope e fuel` (the recursive callee) -/
abbrev FetchFn := Bool → Meta → List Obj → List Obj → R (Obj × List Nat)

/-- the mark `source.tmp = True` that `definition.fetch_value` sets on the source it reads, as the source's id
    (nothing for an object the parser did not number) -/
def idOf (ms : Obj) : List Nat := match ms.meta.id with | some i => [i] | none => []

/-- `path` in `scope.fetch`: `master_object.name` when `len(self.name) == 0`, else
    `self.name + "." + master_object.name` -/
def fetchPath (sm : Meta) (mo : Obj) : Str :=
  if sm.name.isEmpty then mo.name else sm.name ++ '.' :: mo.name

/-- `matching_sources.active_objects()`: `source.get(path=path, with_substitution=False)` on
    `source = self.customized_copy(objects=combined_objects)`, the enabled ones.
    `fuel + 64`, here and wherever `extractFormatStr` is called: the lookup and the rendering are fuelled recursions
    of their own, which `fetchScope` (Phil/Fetch.lean) runs with its remaining fuel plus a slack of 64 — a constant
    of the model; Python recurses freely. -/
def fetchMatching (fuel : Nat) (sm : Meta) (combined : List Obj) (mo : Obj) : List Obj :=
  (getWithoutSubst (fuel + 64) (.scope { sm with tmpl := 0 } combined) (fetchPath sm mo)).filter
    (fun (o : Obj) => !o.meta.disabled)

/-- one turn of `for matching_source in matching_sources.active_objects(): result_object =
    master_object.fetch(source=matching_source, diff=diff)` for a non-multiple master definition: the outcome of
    the last turn is kept; the source and the definitions consulted for its variables are marked -/
def defnOne (e : Envs) (fuel : Nat) (diff : Bool) (mo : Obj) :
    (Option Obj × List Nat) → Obj → R (Option Obj × List Nat) := fun acc ms =>
  (fetchDefn e fuel diff mo ms).map (fun ro => (ro, acc.2 ++ idOf ms ++ srcRefs ms))

/-- after that loop: `if result_object is not None: result_objects.append(result_object)` /
    `elif (not diff) and (not master_object.deprecated): result_objects.append(master_object.copy())` -/
def defnFinish (diff : Bool) (mo : Obj) (mm : Meta) (out : List Obj) :
    R (Option Obj × List Nat) → R (List Obj × List Nat)
  | .error err => .error err
  | .ok (some ro, used) => .ok (out ++ [ro], used)
  | .ok (none, used) =>
    if !diff && !(mm.attrs.get "deprecated").truthy then .ok (out ++ [mo], used) else .ok (out, used)

/-- a non-multiple master scope: `master_object.fetch(sources=matching_sources.active_objects(), diff=diff)` — the
    callee raises "Incompatible parameter objects" for a definition among its sources before it merges their
    objects — then `if diff and len(result_object.objects) == 0: result_object = None` -/
def scopeBranch (F : FetchFn) (diff : Bool) (mm : Meta) (kids : List Obj) (matching : List Obj)
    (out : List Obj) (used : List Nat) : R (List Obj × List Nat) :=
  match matching.find? (·.isDefn) with
  | some _ => Except.error (.runtime "incompatible" none)
  | none =>
    match F diff mm kids (matching.flatMap Obj.children) with
    | .error err => .error err
    | .ok (ro, u2) =>
      if diff && ro.children.isEmpty then .ok (out, used ++ u2) else .ok (out ++ [ro], used ++ u2)

/-- `candidate = master_object.fetch(source=matching_source, diff=diff)` in the loop of a `.multiple` master
    object, with the ids the call marks.  `fromM` is Python's `from_master`: the candidate is another occurrence of
    the name in the MASTER (`self.get(path=path, …)`), so nothing of the sources is marked.  The outcome `none`
    is the diff-mode skip (`candidate is None` / `len(candidate.objects) == 0`). -/
def candOf (F : FetchFn) (e : Envs) (fuel : Nat) (diff : Bool) (mo : Obj) (fromM : Bool) (ms : Obj) :
    R (Option Obj × List Nat) :=
  match mo, ms with
  | .defn _ _, _ =>
    (fetchDefn e fuel diff mo ms).map (fun ro =>
      (ro, (match ms.meta.id with | some i => (if fromM then [] else [i]) | none => []) ++
        (if fromM then [] else srcRefs ms)))
  | .scope mm kids, .scope _ skids =>
    (F diff mm kids skids).map (fun (ro, u) =>
      ((if diff && ro.children.isEmpty then none else some ro), if fromM then [] else u))
  | .scope mm _, .defn _ _ => .error (.runtime "incompatible" none)

/-- the state of the candidate loop: `result_objs` (an entry set to `None` is `none`), `processed_as_str` (key ↦
    index in `result_objs`, or `-1` for a key a master occurrence provides in diff mode), the ids marked so far -/
abbrev CAcc := List (Option Obj) × List (Str × Int) × List Nat

/-- the part of a candidate step after the candidate string `cs ≠ masterStr` is known -/
def cAccept (diff fromM : Bool) (cs : Str) (c : Obj) (u : List Nat)
    (robjs : List (Option Obj)) (processed : List (Str × Int)) (used : List Nat) : R CAcc :=
  let prev : Option (Str × Int) := processed.find? (fun (p : Str × Int) => p.1 == cs)
  if (match prev with | some p => p.2 == -1 | none => false) then .ok (robjs, processed, used ++ u)
  else
    let robjs : List (Option Obj) := match prev with
      | some p => robjs.zipIdx.map (fun (xi : Option Obj × Nat) => if (xi.2 : Int) == p.2 then none else xi.1)
      | none => robjs
    let processed : List (Str × Int) := processed.filter (fun (p : Str × Int) => p.1 != cs)
    if diff && fromM then .ok (robjs, processed ++ [(cs, -1)], used ++ u)
    else .ok (robjs ++ [some c], processed ++ [(cs, (robjs.length : Int))], used ++ u)

/-! ### the bookkeeping of `processed_as_str` / `result_objs` in closed form -/

/-- `result_objs[i] = None` -/
def dropAt {α : Type} (robjs : List (Option α)) (i : Int) : List (Option α) :=
  robjs.zipIdx.map (fun (xi : Option α × Nat) => if (xi.2 : Int) == i then none else xi.1)

/-- candidate `c` with the key `cs` is kept — or, with `mark`, only the marker `-1` is left for its key -/
def bookKeep {α : Type} (mark : Bool) (processed : List (Str × Int)) (cs : Str) (c : α) (robjs : List (Option α)) :
    List (Option α) × List (Str × Int) :=
  if mark then (robjs, processed ++ [(cs, -1)]) else (robjs ++ [some c], processed ++ [(cs, (robjs.length : Int))])

/-- the bookkeeping for a candidate `c` whose key `cs` is not the master's, for any kind of candidate (trees here,
    cell ids in the heap model): nothing happens when the key carries the marker `-1`; else an earlier candidate with this
    key is dropped and `c` takes its place -/
def book {α : Type} (mark : Bool) (robjs : List (Option α)) (processed : List (Str × Int)) (cs : Str) (c : α) :
    List (Option α) × List (Str × Int) :=
  match processed.find? (fun (p : Str × Int) => p.1 == cs) with
  | some p =>
    if p.2 == -1 then (robjs, processed)
    else bookKeep mark (processed.filter (fun (p : Str × Int) => p.1 != cs)) cs c (dropAt robjs p.2)
  | none => bookKeep mark (processed.filter (fun (p : Str × Int) => p.1 != cs)) cs c robjs

theorem dropAt_mem {α : Type} {robjs : List (Option α)} {i : Int} {r : α} (h : some r ∈ dropAt robjs i) :
    some r ∈ robjs := by
  obtain ⟨xi, hxi, hite⟩ := List.mem_map.mp h
  split at hite
  · cases hite
  · exact hite ▸ List.fst_mem_of_mem_zipIdx hxi

theorem bookKeep_mem {α : Type} {mark : Bool} {processed : List (Str × Int)} {cs : Str} {c r : α}
    {robjs : List (Option α)} (h : some r ∈ (bookKeep mark processed cs c robjs).1) : some r ∈ robjs ∨ r = c := by
  unfold bookKeep at h
  split at h
  · exact .inl h
  · rcases List.mem_append.mp h with h | h
    · exact .inl h
    · exact .inr (Option.some.inj (List.mem_singleton.mp h))

theorem book_mem {α : Type} {mark : Bool} {robjs : List (Option α)} {processed : List (Str × Int)} {cs : Str} {c r : α}
    (h : some r ∈ (book mark robjs processed cs c).1) : some r ∈ robjs ∨ r = c := by
  unfold book at h
  split at h
  · split at h
    · exact .inl h
    · exact (bookKeep_mem h).imp_left dropAt_mem
  · exact bookKeep_mem h

theorem cAccept_eq (d fromM : Bool) (cs : Str) (c : Obj) (u : List Nat) (robjs : List (Option Obj))
    (processed : List (Str × Int)) (used : List Nat) :
    cAccept d fromM cs c u robjs processed used =
      .ok ((book (d && fromM) robjs processed cs c).1, (book (d && fromM) robjs processed cs c).2, used ++ u) := by
  unfold cAccept book bookKeep
  cases processed.find? (fun (p : Str × Int) => p.1 == cs) with
  | none => cases (d && fromM) <;> rfl
  | some p =>
    dsimp only
    by_cases hp : (p.2 == -1) = true
    · simp only [hp, if_true]
    · simp only [hp]
      cases (d && fromM) <;> rfl

theorem fetchDefn_nodiff (e : Envs) (fuel : Nat) (mo ms : Obj) :
    fetchDefn e fuel false mo ms = fetchValue mo ms := by
  unfold fetchDefn
  cases fetchValue mo ms <;> rfl

/-- one turn of `for matching_source in matching.active_objects():` for the flagged candidate
    `fm = (from_master, matching_source)`: fetch it (`candOf`), render it (`candidate_as_str =
    master_object.extract_format(source=candidate).as_str()`), skip it when that is `master_as_str`, else `cAccept` -/
def cstepG (F : FetchFn) (e : Envs) (fuel : Nat) (diff : Bool) (mo : Obj) (masterStr : Str) :
    CAcc → (Bool × Obj) → R CAcc := fun acc fm =>
  match candOf F e fuel diff mo fm.1 fm.2 with
  | .error err => .error err
  | .ok (none, u) =>
    -- equal branches, written as in `fetchScope` (Phil/Fetch.lean) so that `fetchScope_succ` is `rfl`: with
    -- `diff` Python skips a `None` candidate at once, without it `extract_format(None)` is the master
    -- key and the candidate is skipped one test later (common.py:1940-1950)
    if diff then .ok (acc.1, acc.2.1, acc.2.2 ++ u) else .ok (acc.1, acc.2.1, acc.2.2 ++ u)
  | .ok (some c, u) =>
    match extractFormatStr e (fuel + 64) mo c with
    | .error err => .error err
    | .ok cs =>
      if cs == masterStr then .ok (acc.1, acc.2.1, acc.2.2 ++ u)
      else cAccept diff fm.1 cs c u acc.1 acc.2.1 acc.2.2

/-- `(True, self.get(path=path, with_substitution=False))` less `master_object` itself (`if from_master and
    matching_source is master_object: continue`): the other enabled master objects of that name, flagged `true` -/
def fromMasterOf (mkids : List Obj) (idx : Nat) (mo : Obj) : List (Bool × Obj) :=
  (mkids.zipIdx.filter (fun (p : Obj × Nat) => !p.1.meta.disabled && p.1.name == mo.name && p.2 != idx)).map
    (fun (p : Obj × Nat) => (true, p.1))

/-- `if not diff: obj = master_object.copy() …; result_objects.append(obj)`: the object put in front of the
    instances — the default instance (`is_template = 0`) of a mandatory object, else the copy flagged `1`
    (`len(processed_as_str) == 0`) or `-1` -/
def tmplObjsOf (diff : Bool) (mo : Obj) (processed : List (Str × Int)) (self : R (Obj × List Nat)) : List Obj :=
  if diff then [] else
    if (mo.attr "optional").mandatory then [defaultInstOf mo self]
    else [withTmpl mo (if processed.isEmpty then 1 else -1)]

theorem defaultInstOf_defn (mm : Meta) (mws : List Word) (self : R (Obj × List Nat)) :
    defaultInstOf (.defn mm mws) self = withTmpl (.defn mm mws) 0 := rfl

theorem tmplObjsOf_defn (diff : Bool) (mm : Meta) (mws : List Word) (processed : List (Str × Int))
    (self : R (Obj × List Nat)) :
    tmplObjsOf diff (.defn mm mws) processed self =
      if diff then [] else
        [withTmpl (.defn mm mws)
          (if ((Obj.defn mm mws).attr "optional").mandatory then 0 else if processed.isEmpty then 1 else -1)] := by
  unfold tmplObjsOf
  rw [defaultInstOf_defn]
  cases diff <;> simp only [Bool.false_eq_true, if_false, if_true]
  split <;> rfl

/-- `master_object.fetch()` of a `.multiple` master scope (no sources, never in diff mode); not looked at
    for a definition -/
def selfFetchOf (F : FetchFn) (mo : Obj) : R (Obj × List Nat) :=
  match mo with
  | .scope mm kids => F false mm kids []
  | .defn _ _ => .error .outOfFuel

/-- the master key of a `.multiple` master object, through the callee `F` -/
def masterKeyG (F : FetchFn) (e : Envs) (fuel : Nat) (mo : Obj) : R Str :=
  masterKeyOf e fuel mo (selfFetchOf F mo)

theorem masterKeyG_defn (F : FetchFn) (e : Envs) (fuel : Nat) (mm : Meta) (mws : List Word) :
    masterKeyG F e fuel (.defn mm mws) = extractFormatStr e (fuel + 64) (.defn mm mws) (.defn mm mws) := rfl

theorem masterKeyG_scope (F : FetchFn) (e : Envs) (fuel : Nat) (mm : Meta) (kids : List Obj) :
    masterKeyG F e fuel (.scope mm kids) =
      match F false mm kids [] with
      | .error err => .error err
      | .ok (ro, _) => extractFormatStr e (fuel + 64) (.scope mm kids) ro := rfl

/-- the `else:` branch of `if not master_object.multiple:` — `master_as_str`, the loop over
    `[(True, self.get(…)), (False, matching_sources)]` from the empty state, then the template object and
    `result_objs` without its `None`s -/
def multiBranch (F : FetchFn) (e : Envs) (fuel : Nat) (diff : Bool) (mkids : List Obj) (idx : Nat)
    (mo : Obj) (matching : List Obj) (out : List Obj) (used : List Nat) : R (List Obj × List Nat) :=
  match masterKeyG F e fuel mo with
  | .error err => .error err
  | .ok masterStr =>
    match (fromMasterOf mkids idx mo ++ matching.map (fun (o : Obj) => (false, o))).foldlM
        (cstepG F e fuel diff mo masterStr) (([] : List (Option Obj)), ([] : List (Str × Int)), used) with
    | .error err => .error err
    | .ok (robjs, processed, used) =>
      .ok (out ++ tmplObjsOf diff mo processed (selfFetchOf F mo) ++ robjs.filterMap (fun (x : Option Obj) => x), used)

/-- the body of `for master_object in self.master_active_objects():` — `st` is `result_objects` with the ids marked
    so far, `io` the master object with its index among the scope's objects; `F` stands for the recursive call -/
def stepG (F : FetchFn) (e : Envs) (fuel : Nat) (diff : Bool) (sm : Meta) (mkids combined : List Obj) :
    (List Obj × List Nat) → (Nat × Obj) → R (List Obj × List Nat) := fun st io =>
  if !isMultiple io.2 then
    match io.2 with
    | .defn mm _ =>
      defnFinish diff io.2 mm st.1
        ((fetchMatching fuel sm combined io.2).foldlM (defnOne e fuel diff io.2) ((none : Option Obj), st.2))
    | .scope mm kids => scopeBranch F diff mm kids (fetchMatching fuel sm combined io.2) st.1 st.2
  else multiBranch F e fuel diff mkids io.1 io.2 (fetchMatching fuel sm combined io.2) st.1 st.2

/-- `result = self.customized_copy(objects=result_objects)` -/
def fetchFinish (sm : Meta) : R (List Obj × List Nat) → R (Obj × List Nat)
  | .error err => .error err
  | .ok (out, used) => .ok (.scope { sm with tmpl := 0 } out, used)

theorem fetchScope_zero (e : Envs) (diff : Bool) (sm : Meta) (mkids combined : List Obj) :
    fetchScope e 0 diff sm mkids combined = .error .outOfFuel := rfl

theorem fetchScope_succ (e : Envs) (fuel : Nat) (diff : Bool) (sm : Meta) (mkids combined : List Obj) :
    fetchScope e (fuel + 1) diff sm mkids combined =
      match masterActiveObjects mkids with
      | .error err => .error err
      | .ok actives =>
        fetchFinish sm (actives.foldlM (stepG (fetchScope e fuel) e fuel diff sm mkids combined)
          (([] : List Obj), ([] : List Nat))) := by
  rw [fetchScope]
  rfl

theorem stepG_defn (F : FetchFn) (e : Envs) (fuel : Nat) (diff : Bool) (sm : Meta)
    (mkids combined : List Obj) (st : List Obj × List Nat) (idx : Nat) (mm : Meta) (mws : List Word)
    (h : isMultiple (.defn mm mws) = false) :
    stepG F e fuel diff sm mkids combined st (idx, .defn mm mws) =
      defnFinish diff (.defn mm mws) mm st.1
        ((fetchMatching fuel sm combined (.defn mm mws)).foldlM (defnOne e fuel diff (.defn mm mws))
          (none, st.2)) := by
  simp only [stepG, h, Bool.not_false, if_true]

theorem stepG_scope (F : FetchFn) (e : Envs) (fuel : Nat) (diff : Bool) (sm : Meta)
    (mkids combined : List Obj) (st : List Obj × List Nat) (idx : Nat) (mm : Meta) (kids : List Obj)
    (h : isMultiple (.scope mm kids) = false) :
    stepG F e fuel diff sm mkids combined st (idx, .scope mm kids) =
      scopeBranch F diff mm kids (fetchMatching fuel sm combined (.scope mm kids)) st.1 st.2 := by
  simp only [stepG, h, Bool.not_false, if_true]

theorem stepG_multi (F : FetchFn) (e : Envs) (fuel : Nat) (diff : Bool) (sm : Meta)
    (mkids combined : List Obj) (st : List Obj × List Nat) (idx : Nat) (mo : Obj)
    (h : isMultiple mo = true) :
    stepG F e fuel diff sm mkids combined st (idx, mo) =
      multiBranch F e fuel diff mkids idx mo (fetchMatching fuel sm combined mo) st.1 st.2 := by
  simp only [stepG, h, Bool.not_true, Bool.false_eq_true, if_false]

/-! ## 1. `masterActiveObjects` is sound (C04.1) -/

theorem masterActive_go_sublist :
    ∀ (l : List (Nat × Obj)) (seen : List (Str × Obj)) (acc r : List (Nat × Obj)),
      masterActiveObjects.go l seen acc = .ok r →
      r.Sublist (acc.reverse ++ l.filter (fun p => !p.2.meta.disabled)) := by
  intro l
  induction l with
  | nil =>
    intro seen acc r h
    cases h
    simp
  | cons p rest ih =>
    intro seen acc r h
    obtain ⟨i, o⟩ := p
    -- the two ways on: `o` is dropped, or kept at the head of `acc`
    have drop : masterActiveObjects.go rest seen acc = .ok r →
        r.Sublist (acc.reverse ++ rest.filter (fun p => !p.2.meta.disabled)) := ih _ _ r
    have keep : ∀ seen', masterActiveObjects.go rest seen' ((i, o) :: acc) = .ok r →
        r.Sublist (acc.reverse ++ (i, o) :: rest.filter (fun p => !p.2.meta.disabled)) :=
      fun seen' h => by simpa using ih _ _ r h
    simp only [masterActiveObjects.go] at h
    cases hd : o.meta.disabled with
    | true =>
      simp only [hd, if_true] at h
      simpa [hd] using drop h
    | false =>
      simp only [hd, List.filter_cons, Bool.not_false, if_true]
      simp only [hd, Bool.false_eq_true, if_false] at h
      cases hfind : seen.find? (·.1 == o.name) with
      | none =>
        simp only [hfind] at h
        exact keep _ h
      | some pm =>
        obtain ⟨_, master⟩ := pm
        simp only [hfind] at h
        split at h
        · exact (drop h).trans ((List.sublist_cons_self _ _).append_left _)
        · split at h
          · cases h
          · exact keep _ h

/-- the indexed list `masterActiveObjects` selects from -/
def indexed (objs : List Obj) : List (Nat × Obj) := objs.zipIdx.map (fun (o, i) => (i, o))

theorem masterActive_sublist (objs : List Obj) (l : List (Nat × Obj))
    (h : masterActiveObjects objs = .ok l) :
    l.Sublist ((indexed objs).filter (fun p => !p.2.meta.disabled)) :=
  masterActive_go_sublist _ _ _ _ h

theorem mem_indexed {objs : List Obj} {i : Nat} {o : Obj} : (i, o) ∈ indexed objs ↔ objs[i]? = some o := by
  unfold indexed
  rw [List.mem_map]
  constructor
  · rintro ⟨⟨o', i'⟩, hm, heq⟩
    cases heq
    exact List.mk_mem_zipIdx_iff_getElem?.mp hm
  · intro h
    exact ⟨(o, i), List.mk_mem_zipIdx_iff_getElem?.mpr h, rfl⟩

theorem indexed_map_snd (objs : List Obj) : (indexed objs).map (fun p => p.2) = objs := by
  unfold indexed
  rw [List.map_map]
  exact List.zipIdx_map_fst 0 objs

theorem snd_mem_of_mem_indexed {objs : List Obj} {a : Nat × Obj} (h : a ∈ indexed objs) : a.2 ∈ objs :=
  List.mem_of_getElem? (mem_indexed.mp h)

theorem zipIdx_pairwise {α : Type} : ∀ (l : List α) (k : Nat),
    (l.zipIdx k).Pairwise (fun a b => a.2 < b.2)
  | [], _ => by simp
  | a :: l, k => by
    rw [List.zipIdx_cons, List.pairwise_cons]
    exact ⟨fun b hb => Nat.lt_of_succ_le (List.le_snd_of_mem_zipIdx hb), zipIdx_pairwise l (k + 1)⟩

theorem indexed_pairwise (objs : List Obj) : (indexed objs).Pairwise (fun a b => a.1 < b.1) := by
  unfold indexed
  rw [List.pairwise_map]
  exact zipIdx_pairwise objs 0

/-- C04, "in the master's order": the objects a fetch iterates over are enabled children of the master,
    each with its position, in increasing positions -/
theorem masterActive_sound (objs : List Obj) (l : List (Nat × Obj))
    (h : masterActiveObjects objs = .ok l) :
    (∀ i o, (i, o) ∈ l → objs[i]? = some o ∧ o.meta.disabled = false) ∧
    l.Pairwise (fun a b => a.1 < b.1) := by
  have hs := masterActive_sublist objs l h
  constructor
  · intro i o hm
    have := List.mem_filter.mp (hs.subset hm)
    exact ⟨mem_indexed.mp this.1, by simpa using this.2⟩
  · exact ((indexed_pairwise objs).sublist (List.filter_sublist)).sublist hs

theorem masterActive_go_all :
    ∀ (l : List (Nat × Obj)) (seen : List (Str × Obj)) (acc : List (Nat × Obj)),
      (∀ p ∈ l, p.2.meta.disabled = false) → (l.map (fun p => p.2.name)).Pairwise (· ≠ ·) →
      (∀ p ∈ l, ∀ q ∈ seen, q.1 ≠ p.2.name) →
      masterActiveObjects.go l seen acc = .ok (acc.reverse ++ l) := by
  intro l
  induction l with
  | nil => intro seen acc _ _ _; simp [masterActiveObjects.go]
  | cons p rest ih =>
    intro seen acc hen hpw hseen
    obtain ⟨i, o⟩ := p
    have hd : o.meta.disabled = false := hen (i, o) List.mem_cons_self
    have hfind : seen.find? (·.1 == o.name) = none := by
      rw [List.find?_eq_none]
      intro q hq
      have := hseen (i, o) List.mem_cons_self q hq
      simpa using this
    rw [List.map_cons, List.pairwise_cons] at hpw
    simp only [masterActiveObjects.go, hd, Bool.false_eq_true, if_false, hfind]
    rw [ih _ _ (fun p hp => hen p (List.mem_cons_of_mem _ hp)) hpw.2]
    · simp
    · intro p hp q hq
      rw [List.mem_append] at hq
      rcases hq with hq | hq
      · exact hseen p (List.mem_cons_of_mem _ hp) q hq
      · simp only [List.mem_singleton] at hq
        subst hq
        exact hpw.1 _ (List.mem_map.mpr ⟨p, hp, rfl⟩)

theorem flatMap_snd {α : Type} (u : Obj → List α) (l : List (Nat × Obj)) :
    l.flatMap (fun io => u io.2) = (l.map (fun p => p.2)).flatMap u := by
  induction l with
  | nil => rfl
  | cons a l ih => simp [List.flatMap_cons, ih]

theorem map_snd_comp {α : Type} (g : Obj → α) (l : List (Nat × Obj)) :
    l.map (fun p => g p.2) = (l.map (fun p => p.2)).map g := by
  rw [List.map_map]; rfl

theorem masterActive_of_distinct (mkids : List Obj) (hen : ∀ o ∈ mkids, o.meta.disabled = false)
    (hd : (mkids.map Obj.name).Pairwise (· ≠ ·)) : masterActiveObjects mkids = .ok (indexed mkids) := by
  show masterActiveObjects.go (indexed mkids) [] [] = _
  rw [masterActive_go_all (indexed mkids) [] [] (fun p hp => hen _ (snd_mem_of_mem_indexed hp))
    (by rw [map_snd_comp Obj.name, indexed_map_snd]; exact hd) (fun p _ q hq => by cases hq)]
  rfl

/-- **the master loop in closed form**: when every step appends a block `g a` (marking `u a`) or fails, as
    the active master child `a` alone decides (`c`), the fetch is the scope of the blocks, or the error
    of the first child that fails -/
theorem fetchScope_of_active (e : Envs) (fuel : Nat) (diff : Bool) (sm : Meta) (mkids combined : List Obj)
    (act : List (Nat × Obj)) (c : Nat × Obj → Option Err) (g : Nat × Obj → List Obj) (u : Nat × Obj → List Nat)
    (hact : masterActiveObjects mkids = .ok act)
    (hstep : ∀ st a, a ∈ act →
      stepG (fetchScope e fuel) e fuel diff sm mkids combined st a =
        match c a with
        | some E => .error E
        | none => .ok (st.1 ++ g a, st.2 ++ u a)) :
    fetchScope e (fuel + 1) diff sm mkids combined =
      match act.findSome? c with
      | some E => .error E
      | none => .ok (.scope { sm with tmpl := 0 } (act.flatMap g), act.flatMap u) := by
  rw [fetchScope_succ, hact]
  simp only
  rw [foldlM_append_or_fail _ c g u act hstep]
  cases act.findSome? c <;> rfl

theorem fetchScope_of_steps (e : Envs) (fuel : Nat) (diff : Bool) (sm : Meta) (mkids combined : List Obj)
    (c : Obj → Bool) (g : Obj → List Obj) (u : Obj → List Nat) (E : Err)
    (hact : masterActiveObjects mkids = .ok (indexed mkids))
    (hstep : ∀ st i mo, (i, mo) ∈ indexed mkids →
      stepG (fetchScope e fuel) e fuel diff sm mkids combined st (i, mo) =
        if c mo then .ok (st.1 ++ g mo, st.2 ++ u mo) else .error E) :
    fetchScope e (fuel + 1) diff sm mkids combined =
      if mkids.all c then .ok (.scope { sm with tmpl := 0 } (mkids.flatMap g), mkids.flatMap u)
      else .error E := by
  have hall : (indexed mkids).all (fun io => c io.2) = mkids.all c := by
    conv => rhs; rw [← indexed_map_snd mkids]
    rw [List.all_map]
    rfl
  rw [fetchScope_of_active e fuel diff sm mkids combined _ (fun io => if c io.2 then none else some E)
      (fun io => g io.2) (fun io => u io.2) hact
      (fun st a ha => by rw [hstep st a.1 a.2 ha]; cases c a.2 <;> rfl),
    findSome?_ite, hall, flatMap_snd g, flatMap_snd u, indexed_map_snd]
  cases mkids.all c <;> rfl

theorem fetchScope_of_steps_ok (e : Envs) (fuel : Nat) (diff : Bool) (sm : Meta) (mkids combined : List Obj)
    (g : Obj → List Obj) (u : Obj → List Nat)
    (hact : masterActiveObjects mkids = .ok (indexed mkids))
    (hstep : ∀ st i mo, (i, mo) ∈ indexed mkids →
      stepG (fetchScope e fuel) e fuel diff sm mkids combined st (i, mo) =
        .ok (st.1 ++ g mo, st.2 ++ u mo)) :
    fetchScope e (fuel + 1) diff sm mkids combined =
      .ok (.scope { sm with tmpl := 0 } (mkids.flatMap g), mkids.flatMap u) := by
  simpa using fetchScope_of_steps e fuel diff sm mkids combined (fun _ => true) g u .outOfFuel hact
    (by simpa using hstep)

/-! ## 2. shape of a fetch result (C04.2) -/

/-- `o` carries the declaration of `mo`: same kind and the same meta data up to the template mark -/
def SameDecl (mo o : Obj) : Prop :=
  o.isDefn = mo.isDefn ∧ { o.meta with tmpl := 0 } = { mo.meta with tmpl := 0 }

theorem SameDecl.refl (mo : Obj) : SameDecl mo mo := ⟨rfl, rfl⟩

theorem SameDecl.withTmpl (mo : Obj) (t : Int) : SameDecl mo (withTmpl mo t) := by
  cases mo <;> exact ⟨rfl, rfl⟩

theorem SameDecl.name {mo o : Obj} (h : SameDecl mo o) : o.name = mo.name := by
  have := congrArg Meta.name h.2
  exact this

theorem SameDecl.attrs {mo o : Obj} (h : SameDecl mo o) : o.meta.attrs = mo.meta.attrs :=
  by have := congrArg Meta.attrs h.2; exact this

theorem SameDecl.disabled {mo o : Obj} (h : SameDecl mo o) : o.meta.disabled = mo.meta.disabled :=
  by have := congrArg Meta.disabled h.2; exact this

theorem SameDecl.id {mo o : Obj} (h : SameDecl mo o) : o.meta.id = mo.meta.id :=
  by have := congrArg Meta.id h.2; exact this

/-- the source words `fetch_value` works with: the outcome of `source.resolve_variables` recorded in
    `Meta.varRes`, or the words themselves when nothing was recorded (they must then be `$`-free) -/
def srcWordsR (smeta : Meta) (sws0 : List Word) : R (List Word) :=
  match smeta.varRes with
  | some (.err site line) => .error (.runtime site line)
  | some (.ok rws _) => .ok rws
  | none => if hasDollar sws0 then .error (.unsupported "variable in source") else .ok sws0

/-- `fetch_value` once the (resolved) source words are known -/
def fetchValueW (mm : Meta) (mws sws : List Word) : R (Option Obj) :=
  let dep := (mm.attrs.get "deprecated").truthy
  if dep && ((isPlainNone sws && isPlainNone mws) || (isPlainAuto sws && isPlainAuto mws) ||
             (!isPlainNone sws && !isPlainAuto sws && !isPlainNone mws && !isPlainAuto mws &&
              sws.map (fun (w : Word) => w.value) == mws.map (fun (w : Word) => w.value))) then
    .ok none
  else
    match mm.attrs.get "type" with
    | .conv (.choice _) =>
      (choiceFetch mws (mm.attrs.get "optional") sws false).map (fun ws => some (.defn { mm with tmpl := 0 } ws))
    | _ => .ok (some (.defn { mm with tmpl := 0 } sws))

theorem fetchValue_defn (mm : Meta) (mws : List Word) (smeta : Meta) (sws0 : List Word) :
    fetchValue (.defn mm mws) (.defn smeta sws0) =
      match srcWordsR smeta sws0 with
      | .error err => .error err
      | .ok sws => fetchValueW mm mws sws := rfl

theorem fetchValueW_shape (mm : Meta) (mws sws : List Word) (ro : Obj)
    (h : fetchValueW mm mws sws = .ok (some ro)) : ∃ ws, ro = .defn { mm with tmpl := 0 } ws := by
  simp only [fetchValueW] at h
  split at h
  · cases h
  · split at h
    · obtain ⟨ws, _, hw⟩ := Except.map_eq_ok.mp h
      cases hw
      exact ⟨ws, rfl⟩
    · cases h
      exact ⟨sws, rfl⟩

theorem fetchValue_shape (mo ms ro : Obj) (h : fetchValue mo ms = .ok (some ro)) :
    ∃ mm mws ws, mo = .defn mm mws ∧ ro = .defn { mm with tmpl := 0 } ws := by
  cases mo with
  | scope m k => cases ms <;> cases h
  | defn mm mws =>
    cases ms with
    | scope m k => cases h
    | defn sm sws =>
      rw [fetchValue_defn] at h
      split at h
      · cases h
      · obtain ⟨ws, hw⟩ := fetchValueW_shape mm mws _ ro h
        exact ⟨mm, mws, ws, rfl, hw⟩

theorem fetchDefn_shape (e : Envs) (fuel : Nat) (diff : Bool) (mo ms ro : Obj)
    (h : fetchDefn e fuel diff mo ms = .ok (some ro)) :
    ∃ mm mws ws, mo = .defn mm mws ∧ ro = .defn { mm with tmpl := 0 } ws := by
  unfold fetchDefn at h
  split at h
  · cases h
  · rename_i r hv
    split at h
    · cases h
      exact fetchValue_shape mo ms ro hv
    · simp only at h
      split at h
      · cases h
      · cases h
      · split at h
        · cases h
        · cases h
          exact fetchValue_shape mo ms ro hv

theorem fetchDefn_sameDecl (e : Envs) (fuel : Nat) (diff : Bool) (mo ms ro : Obj)
    (h : fetchDefn e fuel diff mo ms = .ok (some ro)) : SameDecl mo ro := by
  obtain ⟨mm, mws, ws, rfl, rfl⟩ := fetchDefn_shape e fuel diff mo ms ro h
  exact ⟨rfl, rfl⟩

/-- what the shape proof needs from the recursive callee -/
def RootShape (F : FetchFn) : Prop :=
  ∀ diff mm kids src ro u, F diff mm kids src = .ok (ro, u) → ∃ out, ro = .scope { mm with tmpl := 0 } out

theorem fetchFinish_ok {sm : Meta} {x : R (List Obj × List Nat)} {ro : Obj} {u : List Nat}
    (h : fetchFinish sm x = .ok (ro, u)) : ∃ out, x = .ok (out, u) ∧ ro = .scope { sm with tmpl := 0 } out := by
  unfold fetchFinish at h
  split at h
  · cases h
  · cases h
    exact ⟨_, rfl, rfl⟩

theorem fetchScope_rootShape (e : Envs) (fuel : Nat) : RootShape (fetchScope e fuel) := by
  intro diff mm kids src ro u h
  cases fuel with
  | zero => cases h
  | succ fuel =>
    rw [fetchScope_succ] at h
    split at h
    · cases h
    · obtain ⟨out, _, hro⟩ := fetchFinish_ok h
      exact ⟨out, hro⟩

/-- what a predicate `P mo o` ("`o` is an admissible result object for the master child `mo`") must
    satisfy for the shape proofs (for a given mode `diff`) -/
structure ShapePred (F : FetchFn) (diff : Bool) (P : Obj → Obj → Prop) : Prop where
  self : diff = false → ∀ mm mws, P (.defn mm mws) (.defn mm mws)
  tmpl : diff = false → ∀ mo t, P mo (withTmpl mo t)
  defn : ∀ mm mws ws, P (.defn mm mws) (.defn { mm with tmpl := 0 } ws)
  recur : ∀ mm kids src ro u, F diff mm kids src = .ok (ro, u) → (diff && ro.children.isEmpty) = false →
    P (.scope mm kids) ro
  /-- the default instance of a mandatory `.multiple` scope: the scope's own fetch -/
  inst : diff = false → ∀ mm kids ro u, F false mm kids [] = .ok (ro, u) → P (.scope mm kids) (withTmpl ro 0)

theorem sameDecl_shapePred (F : FetchFn) (hF : RootShape F) (diff : Bool) : ShapePred F diff SameDecl where
  self := fun _ mm mws => SameDecl.refl _
  tmpl := fun _ => SameDecl.withTmpl
  defn := fun _ _ _ => ⟨rfl, rfl⟩
  recur := by
    intro mm kids src ro u h _
    obtain ⟨out, rfl⟩ := hF _ _ _ _ _ _ h
    exact ⟨rfl, rfl⟩
  inst := by
    intro _ mm kids ro u h
    obtain ⟨out, rfl⟩ := hF _ _ _ _ _ _ h
    exact ⟨rfl, rfl⟩

/-! ## 3. splitting sources (C05.5) -/

theorem fetchRoot_flatten (e : Envs) (diff : Bool) (master : List Obj) (ss ss' : List (List Obj))
    (h : ss.flatten = ss'.flatten) : fetchRoot e diff master ss = fetchRoot e diff master ss' := by
  unfold fetchRoot
  rw [h]

theorem split_law (e : Envs) (diff : Bool) (master s1 s2 : List Obj) :
    fetchRoot e diff master [s1 ++ s2] = fetchRoot e diff master [s1, s2] :=
  fetchRoot_flatten e diff master _ _ (by simp)

/-! ## 4. consumed ids are ids of active source definitions, or were consulted while resolving the
    variables of one (C06.7) -/

/-- `x` occurs in `l`, at any depth, enabled and below enabled scopes only -/
inductive ActiveIn (x : Obj) : List Obj → Prop
  | here {l : List Obj} : x ∈ l → x.meta.disabled = false → ActiveIn x l
  | deeper {l : List Obj} {m : Meta} {kids : List Obj} :
      Obj.scope m kids ∈ l → m.disabled = false → ActiveIn x kids → ActiveIn x l

theorem ActiveIn.enabled {x : Obj} {l : List Obj} (h : ActiveIn x l) : x.meta.disabled = false := by
  induction h with
  | here _ hd => exact hd
  | deeper _ _ _ ih => exact ih

theorem ActiveIn.mono {x : Obj} {l l' : List Obj} (hsub : ∀ y ∈ l, y ∈ l') (h : ActiveIn x l) :
    ActiveIn x l' := by
  cases h with
  | here hm hd => exact .here (hsub _ hm) hd
  | deeper hm hd hk => exact .deeper (hsub _ hm) hd hk

theorem ActiveIn.trans {d : Obj} {m : Meta} {kids l : List Obj} (h : ActiveIn (.scope m kids) l)
    (hd : ActiveIn d kids) : ActiveIn d l := by
  induction h with
  | here hm hdis => exact .deeper hm hdis hd
  | deeper hm hdis _ ih => exact .deeper hm hdis ih

theorem ActiveIn.children {d x : Obj} {l : List Obj} (h : ActiveIn x l) (hd : ActiveIn d x.children) :
    ActiveIn d l := by
  cases x with
  | defn m ws => cases hd with
    | here hm _ => cases hm
    | deeper hm _ _ => cases hm
  | scope m kids => exact h.trans hd

theorem ActiveIn.self {o : Obj} (h : o.meta.disabled = false) : ActiveIn o [o] :=
  .here (List.mem_singleton_self o) h

theorem ActiveIn.kid {x : Obj} {mm : Meta} {kids : List Obj} (h : ActiveIn x kids)
    (hd : mm.disabled = false) : ActiveIn x [.scope mm kids] :=
  .deeper (List.mem_singleton_self _) hd h

theorem ActiveIn.head {x o : Obj} {l : List Obj} (h : ActiveIn x [o]) : ActiveIn x (o :: l) :=
  h.mono (by simp)

theorem ActiveIn.tail {x o : Obj} {l : List Obj} (h : ActiveIn x l) : ActiveIn x (o :: l) :=
  h.mono (fun y hy => List.mem_cons_of_mem o hy)

theorem ActiveIn.of_append {x : Obj} {a b : List Obj} (h : ActiveIn x (a ++ b)) : ActiveIn x a ∨ ActiveIn x b := by
  cases h with
  | here hm hd => exact (List.mem_append.mp hm).imp (.here · hd) (.here · hd)
  | deeper hm hd hk => exact (List.mem_append.mp hm).imp (.deeper · hd hk) (.deeper · hd hk)

theorem ActiveIn.not_nil {x : Obj} (h : ActiveIn x []) : False := by
  cases h <;> contradiction

theorem str_ne_append_cons (a b : Str) (c : Char) : (a == a ++ c :: b) = false := by
  rw [beq_eq_false_iff_ne]
  intro h
  have := congrArg List.length h
  simp at this

theorem getWithoutSubst_scope (fuel : Nat) (m : Meta) (kids : List Obj) (path : Str) :
    getWithoutSubst (fuel + 1) (.scope m kids) path =
      if m.disabled then [] else
      if m.name.isEmpty then
        (if path.isEmpty then kids
         else (kids.filter (fun k => !k.meta.disabled)).flatMap (fun k => getWithoutSubst fuel k path))
      else if m.name == path then [.scope m kids]
      else if startsWith (m.name ++ ['.']) path then
        (kids.filter (fun k => !k.meta.disabled)).flatMap
          (fun k => getWithoutSubst fuel k (path.drop (m.name.length + 1)))
      else [] := rfl

theorem getWithoutSubst_defn (fuel : Nat) (m : Meta) (ws : List Word) (path : Str) :
    getWithoutSubst (fuel + 1) (.defn m ws) path =
      if m.disabled then [] else if m.name == path then [.defn m ws] else [] := rfl

theorem fetchPath_ne (sm : Meta) (mo : Obj) (hn : sm.name.isEmpty = false) :
    (sm.name == fetchPath sm mo) = false := by
  unfold fetchPath
  simp only [hn, Bool.false_eq_true, if_false]
  exact str_ne_append_cons _ _ _

theorem drop_self_dot_tree (a b : Str) : (a ++ '.' :: b).drop (a.length + 1) = b := by
  have : a ++ '.' :: b = (a ++ ['.']) ++ b := by simp
  rw [this, show a.length + 1 = (a ++ ['.']).length by simp, List.drop_left]

theorem startsWith_dot_false (n p : Str) (hp : '.' ∉ p) : startsWith (n ++ ['.']) p = false :=
  Bool.eq_false_iff.mpr fun h => hp ((startsWith_iff_prefix.mp h).subset (by simp))

theorem getWithoutSubst_scope_dotfree (n : Nat) (m : Meta) (kids : List Obj) (p : Str)
    (hd : m.disabled = false) (hn : m.name ≠ []) (hp : '.' ∉ p) :
    getWithoutSubst (n + 1) (.scope m kids) p = if m.name == p then [.scope m kids] else [] := by
  rw [getWithoutSubst_scope]
  simp only [hd, List.isEmpty_eq_false_iff.mpr hn, Bool.false_eq_true, if_false,
    startsWith_dot_false m.name p hp]

/-- the enabled objects of `l` called `n` -/
def activeNamed (n : Str) (l : List Obj) : List Obj :=
  l.filter (fun d => !d.meta.disabled && d.name == n)

theorem flatMap_getWithoutSubst_eq (n : Nat) (p : Str) : ∀ (l : List Obj),
    (∀ k ∈ l, k.meta.disabled = false →
      getWithoutSubst (n + 1) k p = if k.name == p then [k] else []) →
    (l.filter (fun k => !k.meta.disabled)).flatMap (fun k => getWithoutSubst (n + 1) k p) =
      activeNamed p l := by
  intro l
  induction l with
  | nil => intro _; rfl
  | cons d l ih =>
    intro hl
    have ih' := ih (fun k hk => hl k (List.mem_cons_of_mem _ hk))
    unfold activeNamed at ih' ⊢
    cases hd : d.meta.disabled with
    | true => simpa [hd] using ih'
    | false =>
      simp only [List.filter_cons, hd, Bool.not_false, Bool.true_and, if_true, List.flatMap_cons,
        hl d List.mem_cons_self hd, ih']
      split <;> rfl

/-- `fuel + 62 + 1` is the `fuel + 64` of `fetchMatching` less one for the scope it wraps around the sources, in
    the `n + 1` shape of `flatMap_getWithoutSubst_eq` -/
theorem fetchMatching_eq (fuel : Nat) (sm : Meta) (combined : List Obj) (mo : Obj)
    (hsd : sm.disabled = false) (hname : mo.name ≠ [])
    (hl : ∀ k ∈ combined, k.meta.disabled = false →
      getWithoutSubst (fuel + 62 + 1) k mo.name = if k.name == mo.name then [k] else []) :
    fetchMatching fuel sm combined mo = activeNamed mo.name combined := by
  have hfin : (activeNamed mo.name combined).filter (fun (o : Obj) => !o.meta.disabled) =
      activeNamed mo.name combined := by
    unfold activeNamed
    rw [List.filter_filter]
    congr 1
    funext d
    cases d.meta.disabled <;> simp
  have hlook := flatMap_getWithoutSubst_eq (fuel + 62) mo.name combined hl
  unfold fetchMatching fetchPath
  rw [show fuel + 64 = (fuel + 63) + 1 from rfl, getWithoutSubst_scope]
  cases hsn : sm.name with
  | nil =>
    simp only [hsd, List.isEmpty_nil, if_true, List.isEmpty_eq_false_iff.mpr hname, Bool.false_eq_true,
      if_false]
    rw [show fuel + 63 = fuel + 62 + 1 from rfl, hlook, hfin]
  | cons c cs =>
    simp only [hsd, List.isEmpty_cons, Bool.false_eq_true, if_false,
      str_ne_append_cons (c :: cs) mo.name '.', startsWith_self_dot, if_true, drop_self_dot_tree]
    rw [show fuel + 63 = fuel + 62 + 1 from rfl, hlook, hfin]

/-- the side condition on a scope that answers with itself is what rules out the wrapper scope in
    `fetchMatching_activeIn` (`fetchPath_ne`) -/
theorem getWithoutSubst_activeIn : ∀ (fuel : Nat) (o : Obj) (path : Str) (x : Obj),
    x ∈ getWithoutSubst fuel o path → x.meta.disabled = false →
    (x = o ∧ (o.isDefn = false → o.name.isEmpty = false ∧ (o.name == path) = true)) ∨
      ActiveIn x o.children := by
  intro fuel
  induction fuel with
  | zero => intro o path x hx; simp [getWithoutSubst] at hx
  | succ fuel ih =>
    intro o path x hx hxd
    cases o with
    | defn m ws =>
      rw [getWithoutSubst_defn] at hx
      split at hx
      · cases hx
      · split at hx
        · exact .inl ⟨List.mem_singleton.mp hx, fun h => by cases h⟩
        · cases hx
    | scope m kids =>
      have hflat : ∀ (p : Str),
          x ∈ (kids.filter (fun k => !k.meta.disabled)).flatMap (fun k => getWithoutSubst fuel k p) →
          ActiveIn x kids := by
        intro p hx
        obtain ⟨k, hk, hxk⟩ := List.mem_flatMap.mp hx
        obtain ⟨hk, hkd⟩ := List.mem_filter.mp hk
        rcases ih k p x hxk hxd with ⟨rfl, _⟩ | h
        · exact .here hk hxd
        · exact ActiveIn.children (.here hk (by simpa using hkd)) h
      rw [getWithoutSubst_scope] at hx
      split at hx
      · cases hx
      · split at hx
        · split at hx
          · exact .inr (.here hx hxd)
          · exact .inr (hflat _ hx)
        · rename_i hn
          split at hx
          · rename_i heq
            exact .inl ⟨List.mem_singleton.mp hx, fun _ => ⟨by simpa [Obj.name, Obj.meta] using hn, heq⟩⟩
          · split at hx
            · exact .inr (hflat _ hx)
            · cases hx

theorem fetchMatching_activeIn (fuel : Nat) (sm : Meta) (combined : List Obj) (mo x : Obj)
    (hx : x ∈ fetchMatching fuel sm combined mo) : ActiveIn x combined := by
  unfold fetchMatching at hx
  obtain ⟨hx, hxd⟩ := List.mem_filter.mp hx
  rcases getWithoutSubst_activeIn _ _ _ x hx (by simpa using hxd) with ⟨_, h⟩ | h
  · obtain ⟨hn, heq⟩ := h rfl
    rw [show (Obj.scope { sm with tmpl := 0 } combined).name = sm.name from rfl, fetchPath_ne sm mo hn] at heq
    cases heq
  · exact h

/-- `i` is the id of an enabled definition occurring in `l` below enabled scopes -/
def DefnIdActive (i : Nat) (l : List Obj) : Prop :=
  ∃ d, ActiveIn d l ∧ d.isDefn = true ∧ d.meta.id = some i

/-- `i` was consulted while resolving the variables of an enabled definition occurring in `l` below
    enabled scopes (`srcRefs d` = the `refs` of `d.meta.varRes`) -/
def RefIdActive (i : Nat) (l : List Obj) : Prop :=
  ∃ d, ActiveIn d l ∧ d.isDefn = true ∧ i ∈ srcRefs d

/-- `i` is marked on account of the definition `d`: it is `d`'s own id, or the id of a definition
    consulted while resolving the variables of `d` -/
def MarkedBy (i : Nat) (d : Obj) : Prop := d.meta.id = some i ∨ i ∈ srcRefs d

/-- `i` is marked on account of an enabled definition occurring in `l` below enabled scopes -/
def UsedIdActive (i : Nat) (l : List Obj) : Prop :=
  ∃ d, ActiveIn d l ∧ d.isDefn = true ∧ MarkedBy i d

theorem usedIdActive_iff (i : Nat) (l : List Obj) :
    UsedIdActive i l ↔ DefnIdActive i l ∨ RefIdActive i l := by
  constructor
  · rintro ⟨d, ha, hd, hi | hi⟩
    · exact .inl ⟨d, ha, hd, hi⟩
    · exact .inr ⟨d, ha, hd, hi⟩
  · rintro (⟨d, ha, hd, hi⟩ | ⟨d, ha, hd, hi⟩)
    · exact ⟨d, ha, hd, .inl hi⟩
    · exact ⟨d, ha, hd, .inr hi⟩

theorem srcRefs_of_varRes_none (d : Obj) (h : d.meta.varRes = none) : srcRefs d = [] := by
  unfold srcRefs; rw [h]

def UsedOK (F : FetchFn) : Prop :=
  ∀ diff mm kids src ro u, F diff mm kids src = .ok (ro, u) → ∀ i ∈ u, UsedIdActive i src

theorem fetchValue_src_defn (mo ms : Obj) (r : Option Obj) (h : fetchValue mo ms = .ok r) :
    mo.isDefn = true ∧ ms.isDefn = true := by
  cases mo with
  | scope m k => cases ms <;> cases h
  | defn mm mws =>
    cases ms with
    | scope m k => cases h
    | defn sm sws => exact ⟨rfl, rfl⟩

theorem fetchDefn_src_defn (e : Envs) (fuel : Nat) (diff : Bool) (mo ms : Obj) (r : Option Obj)
    (h : fetchDefn e fuel diff mo ms = .ok r) : mo.isDefn = true ∧ ms.isDefn = true := by
  unfold fetchDefn at h
  split at h
  · cases h
  · rename_i r' hv
    exact fetchValue_src_defn mo ms r' hv

/-- the ids marked when the source definition `ms` is fetched: its own id and the ids consulted while
    resolving its variables -/
def marksOf (ms : Obj) : List Nat := idOf ms ++ srcRefs ms

theorem mem_marksOf {ms : Obj} {i : Nat} : i ∈ marksOf ms ↔ MarkedBy i ms := by
  unfold marksOf idOf MarkedBy
  cases ms.meta.id <;> simp [eq_comm]

theorem candOf_defn (F : FetchFn) (e : Envs) (fuel : Nat) (diff : Bool) (mm : Meta) (mws : List Word)
    (fromM : Bool) (ms : Obj) :
    candOf F e fuel diff (.defn mm mws) fromM ms =
      (fetchDefn e fuel diff (.defn mm mws) ms).map
        (fun ro => (ro, if fromM then [] else marksOf ms)) := by
  unfold candOf marksOf idOf
  cases fromM <;> cases ms.meta.id <;> rfl

/-! ## 5. an ok step of the master loop: the objects it appends (C04.2) and the ids it marks (C06.7) -/

section
variable {F : FetchFn} {P : Obj → Obj → Prop} (e : Envs) (fuel : Nat) {diff : Bool} {combined : List Obj}
  (hP : ShapePred F diff P) (hF : UsedOK F)
include hP

theorem defaultInstOf_pred (hd : diff = false) (mo : Obj) :
    P mo (defaultInstOf mo (selfFetchOf F mo)) := by
  cases mo with
  | defn mm mws => exact hP.tmpl hd (.defn mm mws) 0
  | scope mm kids =>
    show P _ (defaultInstOf (.scope mm kids) (F false mm kids []))
    cases h : F false mm kids [] with
    | error err => exact hP.tmpl hd (.scope mm kids) 0
    | ok p => exact hP.inst hd mm kids p.1 p.2 h

theorem defnOne_fold_ok (mo : Obj) (l : List Obj) (hl : ∀ ms ∈ l, ActiveIn ms combined)
    (used : List Nat) (r : Option Obj × List Nat)
    (h : l.foldlM (defnOne e fuel diff mo) (none, used) = .ok r) :
    (∀ ro, r.1 = some ro → P mo ro) ∧ ∀ i ∈ r.2, i ∈ used ∨ UsedIdActive i combined := by
  refine foldlM_inv (fun (acc : Option Obj × List Nat) =>
      (∀ ro, acc.1 = some ro → P mo ro) ∧ ∀ i ∈ acc.2, i ∈ used ∨ UsedIdActive i combined)
    (defnOne e fuel diff mo) l ?_ (none, used) r ⟨nofun, fun _ => .inl⟩ h
  intro b a b' ha hb hf
  obtain ⟨x, hx, rfl⟩ := Except.map_eq_ok.mp hf
  refine ⟨fun ro hro => ?_, fun i hi => ?_⟩
  · cases hro
    obtain ⟨mm, mws, ws, rfl, rfl⟩ := fetchDefn_shape e fuel diff mo a ro hx
    exact hP.defn mm mws ws
  · rw [List.append_assoc, List.mem_append] at hi
    exact hi.elim (hb.2 i) fun hi =>
      .inr ⟨a, hl a ha, (fetchDefn_src_defn e fuel diff mo a x hx).2, mem_marksOf.mp hi⟩

include hF

theorem candOf_ok (mo : Obj) (fromM : Bool) (ms : Obj) (c : Option Obj) (u : List Nat)
    (hms : fromM = false → ActiveIn ms combined)
    (h : candOf F e fuel diff mo fromM ms = .ok (c, u)) :
    (∀ x, c = some x → P mo x) ∧ ∀ i ∈ u, UsedIdActive i combined := by
  cases mo with
  | defn mm mws =>
    rw [candOf_defn] at h
    obtain ⟨x, hx, hb⟩ := Except.map_eq_ok.mp h
    cases hb
    refine ⟨fun y hy => ?_, fun i hi => ?_⟩
    · obtain ⟨_, _, ws, heq, rfl⟩ := fetchDefn_shape e fuel diff _ ms y (hy ▸ hx)
      cases heq
      exact hP.defn _ _ ws
    · cases fromM with
      | true => cases hi
      | false => exact ⟨ms, hms rfl, (fetchDefn_src_defn e fuel diff _ ms _ hx).2, mem_marksOf.mp hi⟩
  | scope mm kids =>
    cases ms with
    | defn m ws => cases h
    | scope m skids =>
      obtain ⟨⟨ro, u'⟩, hx, hb⟩ := Except.map_eq_ok.mp h
      cases hb
      refine ⟨fun y hy => ?_, fun i hi => ?_⟩
      · split at hy
        · cases hy
        · rename_i hne
          cases hy
          exact hP.recur _ _ _ _ _ hx (by simpa using hne)
      · cases fromM with
        | true => cases hi
        | false =>
          obtain ⟨d, hd, hdd, hdi⟩ := hF _ _ _ _ _ _ hx i hi
          exact ⟨d, (hms rfl).trans hd, hdd, hdi⟩

theorem cstepG_ok (mo : Obj) (masterStr : Str) (used : List Nat) (acc : CAcc) (fm : Bool × Obj) (r : CAcc)
    (hfm : fm.1 = false → ActiveIn fm.2 combined)
    (hr : (∀ x, some x ∈ acc.1 → P mo x) ∧ ∀ i ∈ acc.2.2, i ∈ used ∨ UsedIdActive i combined)
    (h : cstepG F e fuel diff mo masterStr acc fm = .ok r) :
    (∀ x, some x ∈ r.1 → P mo x) ∧ ∀ i ∈ r.2.2, i ∈ used ∨ UsedIdActive i combined := by
  unfold cstepG at h
  split at h
  · cases h
  all_goals
    rename_i c u hc
    obtain ⟨hc1, hu⟩ := candOf_ok e fuel hP hF mo _ _ _ u hfm hc
    have happ : ∀ i ∈ acc.2.2 ++ u, i ∈ used ∨ UsedIdActive i combined :=
      fun i hi => (List.mem_append.mp hi).elim (hr.2 i) fun hi => .inr (hu i hi)
  · split at h <;> (cases h; exact ⟨hr.1, happ⟩)
  · split at h
    · cases h
    · split at h
      · cases h; exact ⟨hr.1, happ⟩
      · rw [cAccept_eq] at h
        cases h
        exact ⟨fun x hx => (book_mem hx).elim (hr.1 x) fun hxc => hxc ▸ hc1 c rfl, happ⟩

theorem stepG_ok (sm : Meta) (mkids : List Obj) (st : List Obj × List Nat) (io : Nat × Obj)
    (r : List Obj × List Nat) (h : stepG F e fuel diff sm mkids combined st io = .ok r) :
    (∃ new, r.1 = st.1 ++ new ∧ ∀ o ∈ new, P io.2 o) ∧ ∀ i ∈ r.2, i ∈ st.2 ∨ UsedIdActive i combined := by
  have hmatch := fetchMatching_activeIn fuel sm combined io.2
  unfold stepG at h
  split at h
  · split at h
    · rename_i mm mws hio
      unfold defnFinish at h
      split at h
      · cases h
      · rename_i ro used' hfold
        cases h
        obtain ⟨h1, h2⟩ := defnOne_fold_ok e fuel hP io.2 _ hmatch _ _ hfold
        exact ⟨⟨[ro], rfl, by simpa using h1 ro rfl⟩, h2⟩
      · rename_i used' hfold
        have h2 := (defnOne_fold_ok e fuel hP io.2 _ hmatch _ _ hfold).2
        split at h
        · rename_i hcond
          cases h
          simp only [Bool.and_eq_true, Bool.not_eq_true'] at hcond
          exact ⟨⟨[io.2], rfl, by simpa [hio] using hP.self hcond.1 mm mws⟩, h2⟩
        · cases h
          exact ⟨⟨[], by simp, by simp⟩, h2⟩
    · rename_i mm kids hio
      unfold scopeBranch at h
      split at h
      · cases h
      · split at h
        · cases h
        · rename_i ro u2 hrec
          have hu2 : ∀ i ∈ st.2 ++ u2, i ∈ st.2 ∨ UsedIdActive i combined := by
            intro i hi
            refine (List.mem_append.mp hi).imp_right fun hi => ?_
            obtain ⟨d, hd, hdd, hdi⟩ := hF _ _ _ _ _ _ hrec i hi
            refine ⟨d, ?_, hdd, hdi⟩
            -- `d` lies below one of the matching source scopes
            cases hd with
            | here hm hdis =>
              obtain ⟨ms, hms, hdm⟩ := List.mem_flatMap.mp hm
              exact (hmatch ms hms).children (.here hdm hdis)
            | deeper hm hdis hk =>
              obtain ⟨ms, hms, hdm⟩ := List.mem_flatMap.mp hm
              exact (hmatch ms hms).children (.deeper hdm hdis hk)
          split at h
          · cases h
            exact ⟨⟨[], by simp, by simp⟩, hu2⟩
          · rename_i hne
            cases h
            exact ⟨⟨[ro], rfl, by simpa [hio] using hP.recur _ _ _ _ _ hrec (by simpa using hne)⟩, hu2⟩
  · unfold multiBranch at h
    split at h
    · cases h
    · rename_i masterStr _
      split at h
      · cases h
      · rename_i robjs processed used' hfold
        cases h
        obtain ⟨h1, h2⟩ := foldlM_inv (fun (acc : CAcc) =>
            (∀ x, some x ∈ acc.1 → P io.2 x) ∧ ∀ i ∈ acc.2.2, i ∈ st.2 ∨ UsedIdActive i combined)
          (cstepG F e fuel diff io.2 masterStr) _
          (fun b a b' ha hb hf => cstepG_ok e fuel hP hF io.2 masterStr st.2 b a b' (fun ha1 => by
            rcases List.mem_append.mp ha with ha | ha
            · obtain ⟨p, _, rfl⟩ := List.mem_map.mp ha
              cases ha1
            · obtain ⟨o, ho, rfl⟩ := List.mem_map.mp ha
              exact hmatch o ho) hb hf)
          _ _ ⟨(by intro x hx; cases hx), fun _ => .inl⟩ hfold
        refine ⟨⟨_, List.append_assoc _ _ _, fun o ho => ?_⟩, h2⟩
        rcases List.mem_append.mp ho with ho | ho
        · unfold tmplObjsOf at ho
          split at ho
          · cases ho
          · rename_i hd
            have hd' : diff = false := by simpa using hd
            split at ho
            · exact List.mem_singleton.mp ho ▸ defaultInstOf_pred hP hd' io.2
            · exact List.mem_singleton.mp ho ▸ hP.tmpl hd' io.2 _
        · obtain ⟨x, hx, rfl⟩ := List.mem_filterMap.mp ho
          exact h1 o hx

end

/-! ## 6. every fetch: consumed ids (C06.7), shape (C04.2) -/

theorem fetchScope_usedOK (e : Envs) : ∀ (fuel : Nat), UsedOK (fetchScope e fuel) := by
  intro fuel
  induction fuel with
  | zero => intro diff mm kids src ro u h; cases h
  | succ fuel ih =>
    intro diff sm mkids combined ro u h
    rw [fetchScope_succ] at h
    split at h
    · cases h
    · rename_i actives hact
      obtain ⟨out, hfold, hro⟩ := fetchFinish_ok h
      exact foldlM_inv (fun (st : List Obj × List Nat) => ∀ i ∈ st.2, UsedIdActive i combined)
        (stepG (fetchScope e fuel) e fuel diff sm mkids combined) actives
        (fun b a b' _ hb hf i hi =>
          -- only the second half of `stepG_ok` is wanted: any admissible predicate will do for the first
          ((stepG_ok e fuel (sameDecl_shapePred _ (fetchScope_rootShape e fuel) diff) ih sm mkids b a b' hf).2
            i hi).elim (hb i) id)
        _ _ (by intro i hi; cases hi) hfold

/-- **C06.7** every consumed id is marked on account of an enabled source definition `d` (reached
    through enabled scopes only): it is the id of `d`, or one of the ids consulted while the
    variables of `d` were resolved (`srcRefs d`) -/
theorem used_are_source_ids (e : Envs) (fuel : Nat) (diff : Bool) (sm : Meta) (mkids combined : List Obj)
    (ro : Obj) (used : List Nat) (h : fetchScope e fuel diff sm mkids combined = .ok (ro, used)) :
    ∀ i ∈ used, UsedIdActive i combined :=
  fetchScope_usedOK e fuel diff sm mkids combined ro used h

theorem stepG_shape (e : Envs) (fuel : Nat) (diff : Bool) (sm : Meta)
    (mkids combined : List Obj) (st : List Obj × List Nat) (io : Nat × Obj) (r : List Obj × List Nat)
    (h : stepG (fetchScope e fuel) e fuel diff sm mkids combined st io = .ok r) :
    ∃ new, r.1 = st.1 ++ new ∧ ∀ o ∈ new, SameDecl io.2 o :=
  (stepG_ok e fuel (sameDecl_shapePred _ (fetchScope_rootShape e fuel) diff) (fetchScope_usedOK e fuel)
    sm mkids st io r h).1

/-- a copy of an active master child -/
def FromMaster (mkids : List Obj) (o : Obj) : Prop :=
  ∃ (i : Nat) (mo : Obj), mkids[i]? = some mo ∧ mo.meta.disabled = false ∧ SameDecl mo o

theorem fetch_shape_pred (e : Envs) (fuel : Nat) (P : Obj → Obj → Prop)
    (diff : Bool) (hP : ShapePred (fetchScope e fuel) diff P) (sm : Meta) (mkids combined : List Obj)
    (ro : Obj) (used : List Nat)
    (h : fetchScope e (fuel + 1) diff sm mkids combined = .ok (ro, used)) :
    ∃ out, ro = .scope { sm with tmpl := 0 } out ∧
      ∀ o ∈ out, ∃ (i : Nat) (mo : Obj), mkids[i]? = some mo ∧ mo.meta.disabled = false ∧ P mo o := by
  rw [fetchScope_succ] at h
  split at h
  · cases h
  · rename_i actives hact
    obtain ⟨out, hfold, hro⟩ := fetchFinish_ok h
    refine ⟨out, hro, ?_⟩
    have hsound := (masterActive_sound mkids actives hact).1
    exact foldlM_inv (fun (st : List Obj × List Nat) => ∀ o ∈ st.1,
        ∃ (i : Nat) (mo : Obj), mkids[i]? = some mo ∧ mo.meta.disabled = false ∧ P mo o)
      (stepG (fetchScope e fuel) e fuel diff sm mkids combined) actives
      (by
        intro b a b' ha hb hf o ho
        obtain ⟨new, hnew, hall⟩ := (stepG_ok e fuel hP (fetchScope_usedOK e fuel) sm mkids b a b' hf).1
        rw [hnew, List.mem_append] at ho
        rcases ho with ho | ho
        · exact hb o ho
        · obtain ⟨hget, hdis⟩ := hsound a.1 a.2 ha
          exact ⟨a.1, a.2, hget, hdis, hall o ho⟩)
      _ _ (by intro o ho; cases ho) hfold

/-- C04, "no parameter or scope that the master does not declare": the result is the master scope's
    declaration (template flag 0) around children that each come from a master child -/
theorem fetch_shape (e : Envs) (fuel : Nat) (diff : Bool) (sm : Meta) (mkids combined : List Obj)
    (ro : Obj) (used : List Nat)
    (h : fetchScope e fuel diff sm mkids combined = .ok (ro, used)) :
    ∃ out, ro = .scope { sm with tmpl := 0 } out ∧ ∀ o ∈ out, FromMaster mkids o := by
  cases fuel with
  | zero => cases h
  | succ fuel =>
    exact fetch_shape_pred e fuel SameDecl diff (sameDecl_shapePred _ (fetchScope_rootShape e fuel) diff)
      sm mkids combined ro used h

/-! ### the deep version: conformance at every depth -/

mutual
/-- `ConfObj mo o`: the result object `o` conforms to the master object `mo` at every depth: it is a
    copy of `mo` (up to the template mark), or `mo`'s definition with other words, or `mo`'s scope
    whose children conform to `mo`'s children -/
inductive ConfObj : Obj → Obj → Prop
  | copy (mo : Obj) (t : Int) : ConfObj mo (withTmpl mo t)
  | defn (mm : Meta) (mws ws : List Word) : ConfObj (.defn mm mws) (.defn { mm with tmpl := 0 } ws)
  | scope (mm : Meta) (kids out : List Obj) :
      ConfList kids out → ConfObj (.scope mm kids) (.scope { mm with tmpl := 0 } out)
/-- every object of the result list conforms to some enabled master child -/
inductive ConfList : List Obj → List Obj → Prop
  | nil (mkids : List Obj) : ConfList mkids []
  | cons (mkids : List Obj) (o : Obj) (out : List Obj) (i : Nat) (mo : Obj) :
      mkids[i]? = some mo → mo.meta.disabled = false → ConfObj mo o → ConfList mkids out →
      ConfList mkids (o :: out)
end

theorem withTmpl_self (mo : Obj) : withTmpl mo mo.meta.tmpl = mo := by
  cases mo <;> rfl

theorem ConfList.of_forall (mkids : List Obj) : ∀ (out : List Obj),
    (∀ o ∈ out, ∃ (i : Nat) (mo : Obj), mkids[i]? = some mo ∧ mo.meta.disabled = false ∧ ConfObj mo o) →
    ConfList mkids out := by
  intro out
  induction out with
  | nil => intro _; exact .nil mkids
  | cons o out ih =>
    intro h
    obtain ⟨i, mo, hget, hdis, hc⟩ := h o List.mem_cons_self
    exact .cons mkids o out i mo hget hdis hc (ih (fun o' ho' => h o' (List.mem_cons_of_mem _ ho')))

theorem ConfList.forall {mkids out : List Obj} (h : ConfList mkids out) :
    ∀ o ∈ out, ∃ (i : Nat) (mo : Obj), mkids[i]? = some mo ∧ mo.meta.disabled = false ∧ ConfObj mo o := by
  intro o ho
  induction out with
  | nil => cases ho
  | cons a out ih =>
    cases h with
    | cons _ _ _ i mo hget hdis hc htail =>
      rw [List.mem_cons] at ho
      rcases ho with ho | ho
      · subst ho; exact ⟨i, mo, hget, hdis, hc⟩
      · exact ih htail ho

theorem ConfObj.sameDecl {mo o : Obj} (h : ConfObj mo o) : SameDecl mo o := by
  cases h with
  | copy _ t => exact SameDecl.withTmpl mo t
  | defn mm mws ws => exact ⟨rfl, rfl⟩
  | scope mm kids out _ => exact ⟨rfl, rfl⟩

/-- **C04.2, deep form.**  A fetch result conforms to the master scope at every depth. -/
theorem fetch_conforms (e : Envs) : ∀ (fuel : Nat) (diff : Bool) (sm : Meta) (mkids combined : List Obj)
    (ro : Obj) (used : List Nat), fetchScope e fuel diff sm mkids combined = .ok (ro, used) →
    ConfObj (.scope sm mkids) ro := by
  intro fuel
  induction fuel with
  | zero => intro diff sm mkids combined ro used h; cases h
  | succ fuel ih =>
    intro diff sm mkids combined ro used h
    have hP : ShapePred (fetchScope e fuel) diff ConfObj :=
      { self := fun _ mm mws => by
          -- a definition is the copy of itself with its own flag: `withTmpl_self`, here by unfolding
          exact ConfObj.copy (.defn mm mws) mm.tmpl
        tmpl := fun _ => ConfObj.copy
        defn := ConfObj.defn
        recur := fun mm kids src ro u h _ => ih diff mm kids src ro u h
        inst := fun _ mm kids ro u h => by
          have hc := ih false mm kids [] ro u h
          obtain ⟨out, rfl⟩ := fetchScope_rootShape e fuel _ _ _ _ _ _ h
          exact hc }
    obtain ⟨out, rfl, hall⟩ := fetch_shape_pred e fuel ConfObj diff hP sm mkids combined ro used h
    exact .scope sm mkids out (ConfList.of_forall mkids out hall)

end Phil
