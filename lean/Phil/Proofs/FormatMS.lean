/-
  Phil.Proofs.FormatMS — whole-tree `scope.format` / `scope.extract` for masters WITH `.multiple` definitions
  and `.multiple` scopes (`FObjM`: every object enabled, sibling names pairwise distinct at every depth — so
  every `.multiple` object is declared once; anything else free): the structural specification `formatSpecM`,
  `formatFold_specM` (the master loop of the fuelled model is it on `FDomM`; the closed form is
  `C09.format_closed_ms`), and `format_extract_objM`: extract ∘ format = id on `RTObjM` value trees, the
  `__phil_set__` accumulation followed block by block.
-/
import Phil.Proofs.ExtractTree
namespace Phil

/-! ## 1. specification of format -/

/-- the objects a `.multiple` master child `o` contributes to `scope.format(record fs)`; `F` formats
    one instance of the child -/
def multiKidFormat (F : PVal → R Obj) (o : Obj) (fs : List (Str × PVal)) : R (List Obj) :=
  match fieldGet fs o.name with
  | none => .ok []
  | some sub =>
    match elemsOfM sub with
    | .error err => .error err
    | .ok [] => .ok [withTmpl o 1]
    | .ok (x :: xs) =>
      (mapR F (x :: xs)).map (fun rs => (if o.isScope then [withTmpl o (-1)] else []) ++ rs)

mutual
/-- `scope.format` / `definition.format` by structural recursion, `.multiple` children included;
    meaningful for scope values that are `scope_extract`s (`FDomM`) -/
def formatSpecM (e : Envs) : Obj → PVal → R Obj
  | .defn m ws, v => formatDefn e m ws v
  | .scope m kids, v =>
    match v with
    | .record fs => (formatSpecKidsM e kids fs).map (fun out => Obj.scope { m with tmpl := 0 } out)
    | _ => .error (.unsupported "formatSpecM: not a scope_extract")
/-- the objects of the formatted scope: the contributions of the master's children, in order -/
def formatSpecKidsM (e : Envs) : List Obj → List (Str × PVal) → R (List Obj)
  | [], _ => .ok []
  | o :: os, fs =>
    match (if isMultiple o then multiKidFormat (formatSpecM e o) o fs
           else kidFormat_xt (formatSpecM e o) o.name (.record fs)) with
    | .error err => .error err
    | .ok rs => (formatSpecKidsM e os fs).map (fun rest => rs ++ rest)
end

/-! ## 2. the classes -/

mutual
/-- a master whose objects are all enabled and whose sibling names are pairwise distinct at every
    depth; `.multiple` or not, any types, any other attribute -/
def FObjM : Obj → Prop
  | .defn m _ => m.disabled = false
  | .scope m kids => m.disabled = false ∧ FKidsM kids ∧ (kids.map Obj.name).Pairwise (· ≠ ·)
def FKidsM : List Obj → Prop
  | [] => True
  | o :: os => FObjM o ∧ FKidsM os
end

theorem fkidsM_iff : ∀ (l : List Obj), FKidsM l ↔ ∀ o ∈ l, FObjM o
  | [] => by rw [FKidsM]; simp
  | o :: os => by rw [FKidsM, fkidsM_iff os]; simp

theorem FObjM.enabled : ∀ {o : Obj}, FObjM o → o.meta.disabled = false
  | .defn m ws, h => by rw [FObjM] at h; exact h
  | .scope m kids, h => by rw [FObjM] at h; exact h.1

mutual
/-- the values `formatSpecM` is claimed for: anything for a definition; for a scope a `scope_extract`
    whose attribute for a `.multiple` child, if it is a list, holds values in the child's domain, and
    whose attribute for any other child is in that child's domain (missing and extra attributes are
    allowed) -/
def FDomM : Obj → PVal → Prop
  | .defn _ _, _ => True
  | .scope _ kids, v => ∃ fs, v = .record fs ∧ FDomKidsM kids fs
def FDomKidsM : List Obj → List (Str × PVal) → Prop
  | [], _ => True
  | o :: os, fs =>
    (∀ sub, fieldGet fs o.name = some sub →
      (isMultiple o = true → ∀ l, elemsOfM sub = .ok l → ∀ x ∈ l, FDomM o x) ∧
      (isMultiple o = false → FDomM o sub)) ∧ FDomKidsM os fs
end

/-! ## 3. one step of the master loop for a `.multiple` child -/

theorem mapR_congr_M {α β : Type} (g g' : α → R β) : ∀ (l : List α), (∀ x ∈ l, g x = g' x) →
    mapR g l = mapR g' l
  | [], _ => rfl
  | x :: xs, h => by
    simp only [mapR]
    rw [h x List.mem_cons_self, mapR_congr_M g g' xs (fun y hy => h y (List.mem_cons_of_mem _ hy))]

theorem find_done_none_M (done : List (Str × Bool)) (n : Str) (h : ∀ p ∈ done, p.1 ≠ n) :
    done.find? (fun (p : Str × Bool) => p.1 == n) = none := by
  rw [List.find?_eq_none]
  intro p hp
  simpa using h p hp

theorem needTmplP_append (done : List (Str × Bool)) (n : Str) (h : ∀ p ∈ done, p.1 ≠ n) :
    needTmplP (done ++ [(n, false)]) n = true := by
  unfold needTmplP
  rw [List.find?_append, find_done_none_M done n h]
  simp

theorem needTmplP_fresh (done : List (Str × Bool)) (n : Str) (h : ∀ p ∈ done, p.1 ≠ n) :
    needTmplP done n = false := by
  unfold needTmplP
  rw [find_done_none_M done n h]

theorem any_done_false_M (done : List (Str × Bool)) (n : Str) (h : ∀ p ∈ done, p.1 ≠ n) :
    done.any (fun p => p.1 == n) = false := by
  rw [List.any_eq_false]
  intro p hp
  simpa using h p hp

/-- names recorded in the `done` list after a step: old ones, or the child's -/
def DoneSub (d2 done : List (Str × Bool)) (n : Str) : Prop := ∀ p ∈ d2, p.1 = n ∨ ∃ q ∈ done, q.1 = p.1

theorem DoneSub.refl (done : List (Str × Bool)) (n : Str) : DoneSub done done n :=
  fun p hp => .inr ⟨p, hp, rfl⟩

/-- the step for a `.multiple` child once the elements of its attribute are known: no element — the
    master object as a template; otherwise the placeholder template (if `done` asks for one, which is
    then marked) followed by the formatted elements -/
def multiTail_M (F : Obj → PVal → R Obj) (out : List Obj) (done : List (Str × Bool)) (o : Obj) :
    List PVal → R (List Obj × List (Str × Bool))
  | [] => .ok (out ++ [withTmpl o 1], done)
  | x :: xs =>
    let need : Bool := needTmplP done o.name
    (mapR (F o) (x :: xs)).map (fun rs =>
      ((if need then out ++ [withTmpl o (-1)] else out) ++ rs,
       if need then done.map (fun (p : Str × Bool) => if p.1 == o.name then (p.1, true) else p) else done))

theorem fstep_multi_eq_M (F : Obj → PVal → R Obj) (fs : List (Str × PVal)) (out : List Obj)
    (done : List (Str × Bool)) (i : Nat) (o : Obj) (hm : isMultiple o = true)
    (hany : done.any (fun p => p.1 == o.name) = false) :
    fstepP F (.record fs) (out, done) (i, o) =
      match fieldGet fs o.name with
      | none => .ok (out, if o.isScope then done ++ [(o.name, false)] else done)
      | some sub =>
        match elemsOfM sub with
        | .error err => .error err
        | .ok l => multiTail_M F out (if o.isScope then done ++ [(o.name, false)] else done) o l := by
  unfold fstepP finnerP fmtAppP pobjsOf_xt
  simp only [hm, hany, Bool.and_false, Bool.false_eq_true, if_false, Bool.true_and, Bool.not_true,
    List.foldlM_cons, List.foldlM_nil, bind_pure]
  cases fieldGet fs o.name with
  | none => rfl
  | some sub =>
    cases sub with
    | multi op l | list l =>
      cases l with
      | nil => rfl
      | cons x xs =>
        simp only [elemsOfM, multiTail_M]
        rw [foldlM_collect]
        cases mapR (F o) (x :: xs) <;> rfl
    | words ws =>
      cases ws with
      | nil => rfl
      | cons w ws =>
        simp only [elemsOfM, multiTail_M, List.map_cons]
        rw [foldlM_collect]
        cases mapR (F o) (PVal.none :: ws.map (fun _ => PVal.none)) <;> rfl
    | _ => rfl

theorem fstep_multi_M (F : Obj → PVal → R Obj) (fs : List (Str × PVal)) (out : List Obj)
    (done : List (Str × Bool)) (i : Nat) (o : Obj) (hm : isMultiple o = true)
    (hfresh : ∀ p ∈ done, p.1 ≠ o.name) :
    ∃ d2, DoneSub d2 done o.name ∧
      fstepP F (.record fs) (out, done) (i, o) =
        (multiKidFormat (F o) o fs).map (fun rs => (out ++ rs, d2)) := by
  rw [fstep_multi_eq_M F fs out done i o hm (any_done_false_M done o.name hfresh)]
  unfold multiKidFormat
  have hsub1 : DoneSub (done ++ [(o.name, false)]) done o.name := by
    intro p hp
    rw [List.mem_append] at hp
    rcases hp with hp | hp
    · exact .inr ⟨p, hp, rfl⟩
    · rw [List.mem_singleton] at hp; subst hp; exact .inl rfl
  cases hsc : o.isScope with
  | false =>
    refine ⟨done, DoneSub.refl _ _, ?_⟩
    simp only [Bool.false_eq_true, if_false]
    cases fieldGet fs o.name with
    | none => simp [Except.map]
    | some sub =>
      simp only
      cases elemsOfM sub with
      | error err => rfl
      | ok l =>
        cases l with
        | nil => rfl
        | cons x xs =>
          simp only [multiTail_M, needTmplP_fresh done o.name hfresh, Bool.false_eq_true, if_false]
          cases mapR (F o) (x :: xs) <;> simp [Except.map]
  | true =>
    simp only [if_true]
    cases fieldGet fs o.name with
    | none => exact ⟨_, hsub1, by simp [Except.map]⟩
    | some sub =>
      simp only
      cases elemsOfM sub with
      | error err => exact ⟨done, DoneSub.refl _ _, rfl⟩
      | ok l =>
        cases l with
        | nil => exact ⟨_, hsub1, rfl⟩
        | cons x xs =>
          refine ⟨(done ++ [(o.name, false)]).map
            (fun (p : Str × Bool) => if p.1 == o.name then (p.1, true) else p), ?_, ?_⟩
          · intro p hp
            rw [List.mem_map] at hp
            obtain ⟨q, hq, rfl⟩ := hp
            have := hsub1 q hq
            split
            · rename_i h; left; simpa using h
            · exact this
          · simp only [multiTail_M, needTmplP_append done o.name hfresh, if_true]
            cases mapR (F o) (x :: xs) <;> simp [Except.map]
/-! ## 4. the master loop and the closed form -/

theorem multiKidFormat_congr (F G : PVal → R Obj) (o : Obj) (fs : List (Str × PVal))
    (h : ∀ sub, fieldGet fs o.name = some sub → ∀ l, elemsOfM sub = .ok l → ∀ x ∈ l, F x = G x) :
    multiKidFormat F o fs = multiKidFormat G o fs := by
  unfold multiKidFormat
  cases hg : fieldGet fs o.name with
  | none => rfl
  | some sub =>
    simp only
    cases hel : elemsOfM sub with
    | error err => rfl
    | ok l =>
      cases l with
      | nil => rfl
      | cons x xs =>
        simp only
        rw [mapR_congr_M F G (x :: xs) (h sub hg (x :: xs) hel)]

theorem kidFormat_record_congr (F G : PVal → R Obj) (nm : Str) (fs : List (Str × PVal))
    (h : ∀ sub, fieldGet fs nm = some sub → F sub = G sub) :
    kidFormat_xt F nm (.record fs) = kidFormat_xt G nm (.record fs) := by
  rw [kidFormat_record_xt, kidFormat_record_xt]
  cases hg : fieldGet fs nm with
  | none => rfl
  | some sub => simp only; rw [h sub hg]

theorem formatFold_specM (e : Envs) (F : Obj → PVal → R Obj) (fs : List (Str × PVal)) :
    ∀ (l : List (Nat × Obj)) (out : List Obj) (done : List (Str × Bool)),
      (l.map (fun p => p.2.name)).Pairwise (· ≠ ·) →
      (∀ p ∈ l, ∀ q ∈ done, q.1 ≠ p.2.name) →
      (∀ p ∈ l, ∀ x, FDomM p.2 x → F p.2 x = formatSpecM e p.2 x) →
      FDomKidsM (l.map (fun p => p.2)) fs →
      ∃ d2, l.foldlM (fstepP F (.record fs)) (out, done) =
        (formatSpecKidsM e (l.map (fun p => p.2)) fs).map (fun rs => (out ++ rs, d2)) := by
  intro l
  induction l with
  | nil =>
    intro out done _ _ _ _
    exact ⟨done, by rw [List.map_nil, formatSpecKidsM]; simp [Except.map, pure, Except.pure]⟩
  | cons p l ih =>
    intro out done hpw hfresh hF hdom
    obtain ⟨i, o⟩ := p
    rw [List.map_cons, List.pairwise_cons] at hpw
    rw [List.map_cons, FDomKidsM] at hdom
    have hFo := hF (i, o) List.mem_cons_self
    simp only at hFo hdom
    have hfo : ∀ q ∈ done, q.1 ≠ o.name := hfresh (i, o) List.mem_cons_self
    rw [List.foldlM_cons, List.map_cons, formatSpecKidsM]
    -- one step, with some new `done`
    have hstep : ∃ d1, DoneSub d1 done o.name ∧
        fstepP F (.record fs) (out, done) (i, o) =
          (if isMultiple o then multiKidFormat (formatSpecM e o) o fs
           else kidFormat_xt (formatSpecM e o) o.name (.record fs)).map (fun rs => (out ++ rs, d1)) := by
      cases hm : isMultiple o with
      | true =>
        obtain ⟨d1, hd1, heq⟩ := fstep_multi_M F fs out done i o hm hfo
        refine ⟨d1, hd1, ?_⟩
        rw [heq]
        simp only [if_true]
        rw [multiKidFormat_congr (F o) (formatSpecM e o) o fs (fun sub hg l hel x hx =>
          hFo x (((hdom.1 sub hg).1 hm) l hel x hx))]
      | false =>
        refine ⟨done, DoneSub.refl _ _, ?_⟩
        rw [fstep_plain_xt F (.record fs) out done i o hm]
        simp only [Bool.false_eq_true, if_false]
        rw [kidFormat_record_congr (F o) (formatSpecM e o) o.name fs (fun sub hg =>
          hFo sub ((hdom.1 sub hg).2 hm))]
    obtain ⟨d1, hd1, heq⟩ := hstep
    rw [heq]
    cases hk : (if isMultiple o then multiKidFormat (formatSpecM e o) o fs
           else kidFormat_xt (formatSpecM e o) o.name (.record fs)) with
    | error err => exact ⟨done, rfl⟩
    | ok rs =>
      have hfresh' : ∀ p ∈ l, ∀ q ∈ d1, q.1 ≠ p.2.name := by
        intro p hp q hq
        rcases hd1 q hq with h1 | ⟨q', hq', h2⟩
        · rw [h1]; exact hpw.1 p.2.name (List.mem_map.mpr ⟨p, hp, rfl⟩)
        · rw [← h2]; exact hfresh p (List.mem_cons_of_mem _ hp) q' hq'
      obtain ⟨d2, hd2⟩ := ih (out ++ rs) d1 hpw.2 hfresh'
        (fun p hp => hF p (List.mem_cons_of_mem _ hp)) hdom.2
      refine ⟨d2, ?_⟩
      show l.foldlM (fstepP F (.record fs)) (out ++ rs, d1) = _
      rw [hd2]
      cases formatSpecKidsM e (l.map (fun p => p.2)) fs <;> simp [Except.map]

/-! ## 5. format, then extract -/

mutual
/-- `RTObjM master v`: the Python object `v` has exactly the master's shape — for a scope a
    `scope_extract` holding one attribute per master child, in the master's order; the attribute of a
    `.multiple` child is a `scope_extract_list` carrying the child's `.optional`, whose elements have
    the child's shape and are not `None` when `.optional = True` (`__phil_set__` drops those); for a
    definition a value covered by a per-converter round-trip theorem (`RoundTripLeaf`) -/
def RTObjM : Obj → PVal → Prop
  | .defn m ws, x => ∃ c, declConv m = some c ∧ RoundTripLeaf c ws x
  | .scope _ kids, v => ∃ fs, v = .record fs ∧ RTKidsM kids fs
def RTKidsM : List Obj → List (Str × PVal) → Prop
  | [], fs => fs = []
  | o :: os, fs => ∃ x rest, fs = (o.name, x) :: rest ∧
      (isMultiple o = false → RTObjM o x) ∧
      (isMultiple o = true → ∃ l, x = .multi (o.attr "optional") l ∧
          ∀ y ∈ l, RTObjM o y ∧ (y = .none → o.attr "optional" ≠ .bool true)) ∧
      RTKidsM os rest
end

theorem rtkidsM_keys : ∀ (os : List Obj) (rest : List (Str × PVal)), RTKidsM os rest →
    rest.map (fun p => p.1) = os.map Obj.name
  | [], rest, h => by rw [RTKidsM] at h; subst h; rfl
  | o :: os, rest, h => by
    rw [RTKidsM] at h
    obtain ⟨x, rest', rfl, _, _, hr⟩ := h
    rw [List.map_cons, List.map_cons, rtkidsM_keys os rest' hr]

/-- what the round trip needs of a formatted instance `w` of the master child `o` -/
structure InstOf (X : Obj → R PVal) (o w : Obj) (y : PVal) : Prop where
  name : w.name = o.name
  tmpl : w.meta.tmpl = 0
  enabled : w.meta.disabled = false
  attrs : w.meta.attrs = o.meta.attrs
  value : X w = .ok y

theorem xstep_live_M (X : Obj → R PVal) (o w : Obj) (y : PVal) (h : InstOf X o w y) (fs : List (Str × PVal)) :
    xstep_xt X fs w = philSet fs o.name (o.attr "optional") (isMultiple o) (.val y) := by
  unfold xstep_xt
  have h1 : ¬ w.meta.tmpl < 0 := by rw [h.tmpl]; decide
  have h2 : (w.meta.disabled || decide (w.meta.tmpl > 0)) = false := by rw [h.enabled, h.tmpl]; decide
  simp only [h1, if_false, h2, Bool.false_eq_true, h.value, Except.map]
  unfold isMultiple Obj.attr
  rw [h.name, h.attrs]

/-- the formatted instances of a `.multiple` child form one block, whose kept values are the values
    that were formatted -/
theorem blockVals_formatted_M (X : Obj → R PVal) (G : PVal → R Obj) (o : Obj) (hm : isMultiple o = true) :
    ∀ (l : List PVal) (rs : List Obj), mapR G l = .ok rs →
      (∀ y ∈ l, ∀ w, G y = .ok w → InstOf X o w y ∧ keepValB (o.attr "optional") y = true) →
      blockVals X (o.attr "optional") rs = .ok l ∧ MultiBlockOK o.name (o.attr "optional") rs ∧
        blockCreates rs = !l.isEmpty
  | [], rs, h, _ => by
    cases h
    exact ⟨rfl, fun w hw => (nomatch hw), rfl⟩
  | y :: l, rs, h, hall => by
    obtain ⟨w, rs', hw, hrs', rfl⟩ := mapR_cons_ok.mp h
    obtain ⟨hi, hk⟩ := hall y List.mem_cons_self w hw
    obtain ⟨h1, h2, _⟩ := blockVals_formatted_M X G o hm l rs' hrs'
      (fun y' hy' => hall y' (List.mem_cons_of_mem _ hy'))
    have ht : ¬ w.meta.tmpl < 0 := by rw [hi.tmpl]; decide
    have hd : (w.meta.disabled || decide (w.meta.tmpl > 0)) = false := by rw [hi.enabled, hi.tmpl]; decide
    refine ⟨?_, ?_, ?_⟩
    · rw [blockVals]
      simp only [ht, if_false, hd, Bool.false_eq_true, hi.value, h1, Except.map, hk, if_true]
    · intro w' hw'
      rcases List.mem_cons.mp hw' with rfl | hw'
      · refine ⟨hi.name, ?_, ?_⟩
        · unfold Obj.attr; rw [hi.attrs]
        · unfold isMultiple Obj.attr; rw [hi.attrs]; exact hm
      · exact h2 w' hw'
    · unfold blockCreates
      simp [ht]

theorem xstep_placeholder_M (X : Obj → R PVal) (o : Obj) (fs : List (Str × PVal)) :
    xstep_xt X fs (withTmpl o (-1)) = .ok fs := by
  unfold xstep_xt
  have : (withTmpl o (-1)).meta.tmpl < 0 := by cases o <;> simp [withTmpl, Obj.withMeta, Obj.meta]
  simp only [this, if_true]

theorem xstep_template_M (X : Obj → R PVal) (o : Obj) (hm : isMultiple o = true) (fs : List (Str × PVal))
    (h : fieldGet fs o.name = none) :
    xstep_xt X fs (withTmpl o 1) = .ok (fs ++ [(o.name, .multi (o.attr "optional") [])]) := by
  unfold xstep_xt
  have h1 : ¬ (withTmpl o 1).meta.tmpl < 0 := by cases o <;> simp [withTmpl, Obj.withMeta, Obj.meta]
  have h2 : ((withTmpl o 1).meta.disabled || decide ((withTmpl o 1).meta.tmpl > 0)) = true := by
    cases o <;> simp [withTmpl, Obj.withMeta, Obj.meta]
  have h3 : (withTmpl o 1).name = o.name := withTmpl_name o 1
  have h4 : (withTmpl o 1).attr "optional" = o.attr "optional" := by cases o <;> rfl
  have h5 : isMultiple (withTmpl o 1) = isMultiple o := by cases o <;> rfl
  simp only [h1, if_false, h2, if_true, h3, h4, h5, hm]
  exact philSet_multi_fresh_disabled fs o.name _ h

mutual
/-- one object: what `format` writes for an in-shape value extracts back to that value (any fuel
    beyond the depth), and is a live copy of the master object -/
theorem format_extract_objM (e : Envs) (henv : EnvDecimal e.eval) : ∀ (o : Obj) (x : PVal) (w : Obj),
    FObjM o → RTObjM o x → formatSpecM e o x = .ok w →
    ∀ fuel, depthT o < fuel → InstOf (extractObj e fuel) o w x
  | .defn m mws, x, w, hf, hr, h, fuel, hd => by
    rw [FObjM] at hf
    rw [RTObjM] at hr
    obtain ⟨c, hc, hleaf⟩ := hr
    rw [formatSpecM] at h
    obtain ⟨nws, rfl, hx⟩ := formatDefn_extract_xt e henv m mws x w c hc hleaf h
    refine ⟨rfl, rfl, hf, rfl, ?_⟩
    cases fuel with
    | zero => exact absurd hd (Nat.not_lt_zero _)
    | succ f =>
      rw [extractObj, extractDefn_tmpl_xt]
      exact hx
  | .scope m kids, x, w, hf, hr, h, fuel, hd => by
    rw [FObjM] at hf
    rw [RTObjM] at hr
    obtain ⟨fs, rfl, hk⟩ := hr
    rw [formatSpecM] at h
    cases hfk : formatSpecKidsM e kids fs with
    | error err => rw [hfk] at h; cases h
    | ok ws =>
      rw [hfk] at h
      simp only [Except.map, Except.ok.injEq] at h
      subst h
      refine ⟨rfl, rfl, hf.1, rfl, ?_⟩
      rw [depthT] at hd
      cases fuel with
      | zero => exact absurd hd (Nat.not_lt_zero _)
      | succ f =>
        have hkeys := rtkidsM_keys kids fs hk
        have hget : ∀ p ∈ fs, fieldGet fs p.1 = some p.2 :=
          fieldGet_of_distinct_xt fs (by rw [hkeys]; exact hf.2.2)
        rw [extractObj_scope_xt,
          format_extract_kidsM e henv kids fs fs ws hf.2.1 hf.2.2 hk hget hfk f (by omega) []
            (fun _ _ => rfl)]
        rfl
/-- the children: extracting the formatted blocks, `__phil_set__` by `__phil_set__`, appends exactly
    the value's attributes -/
theorem format_extract_kidsM (e : Envs) (henv : EnvDecimal e.eval) :
    ∀ (os : List Obj) (fs rest : List (Str × PVal)) (ws : List Obj),
    FKidsM os → (os.map Obj.name).Pairwise (· ≠ ·) → RTKidsM os rest →
    (∀ p ∈ rest, fieldGet fs p.1 = some p.2) → formatSpecKidsM e os fs = .ok ws →
    ∀ fuel, depthL os < fuel → ∀ acc : List (Str × PVal), (∀ o ∈ os, fieldGet acc o.name = none) →
    ws.foldlM (xstep_xt (extractObj e fuel)) acc = .ok (acc ++ rest)
  | [], fs, rest, ws, _, _, hr, _, h, fuel, _, acc, _ => by
    rw [RTKidsM] at hr
    rw [formatSpecKidsM] at h
    cases h
    subst hr
    simp [pure, Except.pure]
  | o :: os, fs, rest, ws, hf, hpw, hr, hget, h, fuel, hd, acc, hacc => by
    rw [FKidsM] at hf
    rw [List.map_cons, List.pairwise_cons] at hpw
    rw [RTKidsM] at hr
    obtain ⟨x, rest', rfl, hox1, hox2, hrest⟩ := hr
    have hdo : depthT o < fuel := Nat.lt_of_le_of_lt (depthT_le_depthL (o :: os) o List.mem_cons_self) hd
    have hds : depthL os < fuel := by
      rw [depthL] at hd
      exact Nat.lt_of_le_of_lt (Nat.le_max_right _ _) hd
    have hgo : fieldGet fs o.name = some x := hget (o.name, x) List.mem_cons_self
    have hao : fieldGet acc o.name = none := hacc o List.mem_cons_self
    have hacc' : ∀ v, ∀ k ∈ os, fieldGet (acc ++ [(o.name, v)]) k.name = none := fun v k hk =>
      (fieldGet_append_ne_ns acc v (hpw.1 k.name (List.mem_map_of_mem hk)).symm).trans
        (hacc k (List.mem_cons_of_mem _ hk))
    -- once the objects written for `o` have set its attribute, the other children follow
    have hfin : ∀ (blk ws' : List Obj) (v : PVal), formatSpecKidsM e os fs = .ok ws' →
        blk.foldlM (xstep_xt (extractObj e fuel)) acc = .ok (acc ++ [(o.name, v)]) →
        (blk ++ ws').foldlM (xstep_xt (extractObj e fuel)) acc = .ok (acc ++ (o.name, v) :: rest') := by
      intro blk ws' v hfk hblk
      rw [List.foldlM_append, hblk]
      show ws'.foldlM _ (acc ++ [(o.name, v)]) = _
      rw [format_extract_kidsM e henv os fs rest' ws' hf.2 hpw.2 hrest
        (fun p hp => hget p (List.mem_cons_of_mem _ hp)) hfk fuel hds _ (hacc' v)]
      simp
    rw [formatSpecKidsM] at h
    cases hm : isMultiple o with
    | false =>
      rw [hm] at h
      simp only [Bool.false_eq_true, if_false] at h
      rw [kidFormat_record_xt, hgo] at h
      simp only at h
      cases hfo : formatSpecM e o x with
      | error err => rw [hfo] at h; cases h
      | ok w =>
        rw [hfo] at h
        obtain ⟨ws', hfk, rfl⟩ := Except.map_eq_ok.mp h
        have hi := format_extract_objM e henv o x w hf.1 (hox1 hm) hfo fuel hdo
        refine hfin [w] ws' x hfk ?_
        rw [List.foldlM_cons, xstep_live_M _ o w x hi, hm, philSet_fresh_ns acc o.name _ _ hao,
          fieldSet_fresh_ns acc o.name _ hao]
        rfl
    | true =>
      rw [hm] at h
      simp only [if_true] at h
      obtain ⟨l, rfl, hl⟩ := hox2 hm
      unfold multiKidFormat at h
      rw [hgo] at h
      simp only [elemsOfM] at h
      cases l with
      | nil =>
        obtain ⟨ws', hfk, rfl⟩ := Except.map_eq_ok.mp h
        refine hfin [withTmpl o 1] ws' _ hfk ?_
        rw [List.foldlM_cons, xstep_template_M _ o hm acc hao]
        rfl
      | cons y l' =>
        simp only at h
        cases hmr : mapR (formatSpecM e o) (y :: l') with
        | error err => rw [hmr] at h; cases h
        | ok rs =>
          rw [hmr] at h
          obtain ⟨ws', hfk, rfl⟩ := Except.map_eq_ok.mp h
          obtain ⟨hv, hok, hcr⟩ := blockVals_formatted_M (extractObj e fuel) (formatSpecM e o) o hm (y :: l') rs hmr
            (fun y' hy' w hw =>
              ⟨format_extract_objM e henv o y' w hf.1 (hl y' hy').1 hw fuel hdo, keepValB_of (hl y' hy').2⟩)
          have hpre : (if o.isScope = true then [withTmpl o (-1)] else []).foldlM
              (xstep_xt (extractObj e fuel)) acc = .ok acc := by
            split
            · rw [List.foldlM_cons, xstep_placeholder_M]; rfl
            · rfl
          refine hfin _ ws' _ hfk ?_
          rw [List.foldlM_append, hpre]
          show rs.foldlM (xstep_xt (extractObj e fuel)) acc = _
          rw [xfold_block_fresh _ o.name _ rs acc hao hok, hv, hcr]
          rfl
end

mutual
theorem rtObjM_fdomM : ∀ (o : Obj) (v : PVal), FObjM o → RTObjM o v → FDomM o v
  | .defn m ws, v, _, _ => by rw [FDomM]; trivial
  | .scope m kids, v, hf, h => by
    rw [FObjM] at hf
    rw [RTObjM] at h
    obtain ⟨fs, rfl, hk⟩ := h
    rw [FDomM]
    have hkeys := rtkidsM_keys kids fs hk
    have hget : ∀ p ∈ fs, fieldGet fs p.1 = some p.2 :=
      fieldGet_of_distinct_xt fs (by rw [hkeys]; exact hf.2.2)
    exact ⟨fs, rfl, rtKidsM_fdomKidsM kids fs fs hf.2.1 hk hget⟩
theorem rtKidsM_fdomKidsM : ∀ (os : List Obj) (fs rest : List (Str × PVal)), FKidsM os → RTKidsM os rest →
    (∀ p ∈ rest, fieldGet fs p.1 = some p.2) → FDomKidsM os fs
  | [], fs, rest, _, _, _ => by rw [FDomKidsM]; trivial
  | o :: os, fs, rest, hf, h, hget => by
    rw [FKidsM] at hf
    rw [RTKidsM] at h
    obtain ⟨x, rest', rfl, hox1, hox2, hrest⟩ := h
    rw [FDomKidsM]
    refine ⟨fun sub hsub => ?_, rtKidsM_fdomKidsM os fs rest' hf.2 hrest
      (fun p hp => hget p (List.mem_cons_of_mem _ hp))⟩
    have hx : fieldGet fs o.name = some x := hget (o.name, x) List.mem_cons_self
    rw [hx] at hsub
    cases hsub
    constructor
    · intro hm l' hel y hy
      obtain ⟨l, rfl, hl⟩ := hox2 hm
      simp only [elemsOfM, Except.ok.injEq] at hel
      subst hel
      exact rtObjM_fdomM o y hf.1 (hl y hy).1
    · intro hm
      exact rtObjM_fdomM o x hf.1 (hox1 hm)
end

/-! ### executable sufficient condition for `RTObjM` -/

/-- the attribute of a `.multiple` child: a `scope_extract_list` tagged with the child's `.optional`
    whose elements pass `chk` and are not `None` when `.optional = True` -/
def multiValOK (opt : AttrVal) (chk : PVal → Bool) : PVal → Bool
  | .multi op l => op == opt && l.all (fun y => chk y && (!isNoneB_M y || opt != .bool true))
  | _ => false

theorem multiValOK_sound (opt : AttrVal) (chk : PVal → Bool) (x : PVal) (h : multiValOK opt chk x = true) :
    ∃ l, x = .multi opt l ∧ ∀ y ∈ l, chk y = true ∧ (y = .none → opt ≠ .bool true) := by
  cases x with
  | multi op l =>
    simp only [multiValOK, Bool.and_eq_true, beq_iff_eq, List.all_eq_true] at h
    obtain ⟨rfl, hall⟩ := h
    refine ⟨l, rfl, fun y hy => ⟨(hall y hy).1, ?_⟩⟩
    intro hyn hopt
    have h2 := (hall y hy).2
    rw [hyn, hopt] at h2
    exact absurd h2 (by decide)
  | _ => simp [multiValOK] at h

mutual
def rtObjMB : Obj → PVal → Bool
  | .defn m ws, x => rtDefnB_xt m ws x
  | .scope _ kids, .record fs => rtKidsMB kids fs
  | .scope _ _, _ => false
def rtKidsMB : List Obj → List (Str × PVal) → Bool
  | [], fs => fs.isEmpty
  | o :: os, (k, x) :: rest =>
    k == o.name &&
      (if isMultiple o then multiValOK (o.attr "optional") (rtObjMB o) x else rtObjMB o x) &&
      rtKidsMB os rest
  | _ :: _, [] => false
end

mutual
theorem rtObjMB_sound : ∀ (o : Obj) (v : PVal), rtObjMB o v = true → RTObjM o v
  | .defn m ws, x, h => by
    rw [rtObjMB] at h
    rw [RTObjM]
    exact rtDefnB_sound_xt m ws x h
  | .scope m kids, v, h => by
    cases v with
    | record fs =>
      rw [rtObjMB] at h
      rw [RTObjM]
      exact ⟨fs, rfl, rtKidsMB_sound kids fs h⟩
    | _ => simp [rtObjMB] at h
theorem rtKidsMB_sound : ∀ (os : List Obj) (fs : List (Str × PVal)), rtKidsMB os fs = true → RTKidsM os fs
  | [], fs, h => by
    rw [rtKidsMB] at h; rw [RTKidsM]; simpa using h
  | o :: os, [], h => by rw [rtKidsMB] at h; cases h
  | o :: os, (k, x) :: rest, h => by
    rw [rtKidsMB] at h
    rw [RTKidsM]
    simp only [Bool.and_eq_true, beq_iff_eq] at h
    obtain ⟨⟨rfl, h2⟩, h3⟩ := h
    refine ⟨x, rest, rfl, ?_, ?_, rtKidsMB_sound os rest h3⟩
    · intro hm
      rw [hm] at h2
      simp only [Bool.false_eq_true, if_false] at h2
      exact rtObjMB_sound o x h2
    · intro hm
      rw [hm] at h2
      simp only [if_true] at h2
      obtain ⟨l, rfl, hl⟩ := multiValOK_sound _ _ x h2
      exact ⟨l, rfl, fun y hy => ⟨rtObjMB_sound o y (hl y hy).1, (hl y hy).2⟩⟩
end

/-! ### executable form of `FObjM` -/

mutual
def fobjMB : Obj → Bool
  | .defn m _ => !m.disabled
  | .scope m kids => !m.disabled && fkidsMB kids && decide ((kids.map Obj.name).Pairwise (· ≠ ·))
def fkidsMB : List Obj → Bool
  | [] => true
  | o :: os => fobjMB o && fkidsMB os
end

mutual
theorem fobjMB_sound : ∀ (o : Obj), fobjMB o = true → FObjM o
  | .defn m ws, h => by
    rw [fobjMB] at h; rw [FObjM]; simpa using h
  | .scope m kids, h => by
    rw [fobjMB] at h
    simp only [Bool.and_eq_true, Bool.not_eq_true', decide_eq_true_eq] at h
    rw [FObjM]
    exact ⟨h.1.1, fkidsMB_sound kids h.1.2, h.2⟩
theorem fkidsMB_sound : ∀ (l : List Obj), fkidsMB l = true → FKidsM l
  | [], _ => by rw [FKidsM]; trivial
  | o :: os, h => by
    rw [fkidsMB, Bool.and_eq_true] at h
    rw [FKidsM]
    exact ⟨fobjMB_sound o h.1, fkidsMB_sound os h.2⟩
end

/-! ## 6. the blocks of an arbitrary scope -/

/-- the children of a scope cut into blocks: adjacent `.multiple` children of the same name and
    `.optional` form one block, every other child is a block of its own -/
def blocksOf : List Obj → List KidBlock
  | [] => []
  | w :: ws =>
    if isMultiple w then
      match blocksOf ws with
      | .multi nm opt ws' :: rest =>
        if nm == w.name && opt == w.attr "optional" then .multi nm opt (w :: ws') :: rest
        else .multi w.name (w.attr "optional") [w] :: .multi nm opt ws' :: rest
      | rest => .multi w.name (w.attr "optional") [w] :: rest
    else .single w :: blocksOf ws

theorem multiBlockOK_single (w : Obj) (hm : isMultiple w = true) :
    MultiBlockOK w.name (w.attr "optional") [w] := by
  intro w' hw'
  rw [List.mem_singleton] at hw'
  subst hw'
  exact ⟨rfl, rfl, hm⟩

end Phil
