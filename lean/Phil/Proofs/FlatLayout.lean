/-
  The printed flat document (C01) as a document of the layout grammar (C02): what `definition.show`
  prints is the definition under the layout `canon` (one blank in front of every word, nothing
  wrapped) resp. `canonW width` (a blank, or ` \`, newline, indentation and a blank where the printer
  wraps) — both are `layG` at a choice of gaps — so `parse` of the printed text is `parseObjs_render3`
  at that layout, source lines included.
-/
import Phil.Proofs.LayoutAll
namespace Phil

/-! ### a printed line as a layout: the gaps between the words are the only choice -/

/-- the layout of a printed definition: nothing in front, `name =`, the words behind the gaps `g d`,
    a newline -/
def layG (g : DefSpec → List Gap) (d : DefSpec) : DefSpec × DefLayout3 := (d, { gaps := g d })

theorem wfDoc3_layG (g : DefSpec → List Gap) : ∀ ds : List DefSpec,
    (∀ d ∈ ds, goodName d.1 = true ∧ d.2 ≠ [] ∧ (∀ w ∈ d.2, goodWord w = true) ∧
      gapsOK3 true true (g d) d.2 = true) → wfDoc3 (ds.map (layG g)) {} .eof = true
  | [], _ => rfl
  | d :: ds, h => by
    obtain ⟨h1, h2, h3, h4⟩ := h d (by simp)
    have hsp : isSpace ' ' = true := by decide
    have hne : d.2.isEmpty = false := by cases hd : d.2 <;> simp_all
    simp [List.map_cons, layG, wfDoc3, goodDef3, wfDef3, h1, hne, h4, hsp, Pre3.wf, Terminator.wf, termOK3,
      inlineB, List.all_eq_true.mpr h3, wfDoc3_layG g ds fun x hx => h x (by simp [hx])]

/-! ### nothing wrapped -/

def canon : DefSpec → DefSpec × DefLayout3 := layG fun d => blankGaps d.2

theorem render3_canon : ∀ ds : List DefSpec, render3 (ds.map canon) {} .eof = docText ds
  | [] => rfl
  | d :: ds => by
    rw [List.map_cons, canon, layG, render3, docText, ← canon, render3_canon ds, wordsText_eq]
    simp [defText3, Terminator.text, Pre3.text, segsStr, linesStr]

theorem parsedLay3_canon : ∀ (ds : List DefSpec) (l i : Nat), parsedLay3 l i (ds.map canon) = parsedDefs l i ds
  | [], _, _ => rfl
  | d :: ds, l, i => by
    rw [List.map_cons, canon, layG, parsedLay3, parsedDefs, ← canon, parsedLay3_canon ds]
    simp [Pre3.nl, segsNl, Terminator.text, nlCount_nl, relineG_blank]

theorem parseObjs_docText (ds : List DefSpec) (h : ∀ d ∈ ds, GoodDefn d) :
    parseObjs (docText ds) = .ok (parsedDefs 1 1 ds) := by
  have hwf : wfDoc3 (ds.map canon) {} .eof = true := wfDoc3_layG _ ds fun d hd =>
    ⟨(h d hd).1, (h d hd).2.1, (h d hd).2.2.1, chainOK_gaps d.2 true true (h d hd).2.2.2⟩
  rw [← render3_canon, parseObjs_render3 _ _ _ hwf, parsedLay3_canon]

/-! ### any width -/

def canonW (width : Int) : DefSpec → DefSpec × DefLayout3 :=
  layG fun d => wrapGaps width (defIndent d.1) d.2 (defHead d.1)

theorem render3_canonW (width : Int) : ∀ ds : List DefSpec,
    render3 (ds.map (canonW width)) {} .eof
      = unlines (ds.flatMap fun d => showWords width (defIndent d.1) d.2 (defHead d.1) [])
  | [] => rfl
  | d :: ds => by
    rw [List.map_cons, canonW, layG, render3, ← canonW, render3_canonW width ds, List.flatMap_cons, unlines_append,
      unlines_showWords, wrapTail_eq]
    simp [defText3, Terminator.text, Pre3.text, segsStr, linesStr, defHead, unlines]

/-- what `as_str` prints at any width IS the rendering of a well-formed layout (`canonW`); `parse` of it is then
    `parseObjs_render3` -/
theorem print_parse_lines (o : ShowOpts) (hl : o.level ≤ 0) (objs : List Obj)
    (h : ∀ x ∈ objs, PlainDefn x ∧ GoodDefnW o.width x.spec) :
    asStr o (rootOf objs) = .ok (render3 ((objs.map Obj.spec).map (canonW o.width)) {} .eof) ∧
    wfDoc3 ((objs.map Obj.spec).map (canonW o.width)) {} .eof = true := by
  refine ⟨?_, wfDoc3_layG _ _ ?_⟩
  · rw [asStr_root, showObjs_flat_any o hl objs (fun x hx => ⟨(h x hx).1, (h x hx).2.1⟩), render3_canonW]
    rfl
  · intro d hd
    obtain ⟨x, hx, rfl⟩ := List.mem_map.mp hd
    obtain ⟨h1, h2, h3, h4⟩ := (h x hx).2
    exact ⟨h1, h2, h3, wrapOK_gaps o.width _ (defIndent_blank _) _ _ true true h4⟩

/-- the abstract tree of the definitions of plain objects is the objects without ids and lines -/
theorem treeOf_spec (objs : List Obj) (h : ∀ x ∈ objs, PlainDefn x) :
    treeOf (objs.map Obj.spec) = eraseList objs := by
  induction objs with
  | nil => rfl
  | cons x xs ih =>
    obtain ⟨nm, ws, i0, l0, rfl⟩ := h _ (List.mem_cons_self ..)
    rw [List.map_cons, eraseList_cons, ← ih (fun y hy => h y (by simp [hy]))]
    simp [treeOf, Obj.erase, Obj.spec, Meta.erase]
end Phil
