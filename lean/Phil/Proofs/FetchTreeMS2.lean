/-
  Phil.Proofs.FetchTreeMS2 — specification of scope.fetch (non-diff) for masters that REPEAT the name of a
  `.multiple` object (further master occurrences), extending Phil/Proofs/FetchTreeMSBase.lean.
  The further occurrences of a `.multiple` object contribute candidates BEFORE the sources (`fromMaster` in
  `fetchScope`) and no block of their own: the first occurrence sees its later same-name siblings as
  leading sources.
  `fetchScope = ms2Result` is `fetch_ms2_total` (Phil/Proofs/FetchTreeMS3.lean); the specification is also
  validated against the real library and against the model (see Props/C05TreeMS2.lean).
-/
import Phil.Proofs.FetchTreeMSBase
namespace Phil

/-! ## 1. specification -/

mutual
/-- the block of the FIRST occurrence `mo`, `cands` being its later enabled same-name siblings followed
    by the source objects at its level (only the objects named like `mo` matter) -/
def ms2Block (e : Envs) : Obj → List Obj → List Obj
  | .defn mm mws, cands => tmBlock e (.defn mm mws) cands
  | .scope mm kids, cands =>
    if (mm.attrs.get "multiple").truthy then
      msMultiBlock (.scope mm kids) (.scope { mm with tmpl := 0 } (ms2Result e [] kids []))
        (keyMS e (.scope mm kids) (.scope { mm with tmpl := 0 } (ms2Result e [] kids [])))
        ((scopesNamed mm.name cands).map (fun s =>
          (Obj.scope { mm with tmpl := 0 } (ms2Result e [] kids s.children),
           keyMS e (.scope mm kids) (Obj.scope { mm with tmpl := 0 } (ms2Result e [] kids s.children)))))
    else [.scope { mm with tmpl := 0 } (ms2Result e [] kids (srcStep cands mm.name))]
/-- the children of the result: the blocks of the first occurrences, in master order; `seen` are the
    names of the enabled objects met so far (a later object of a seen name contributes no block) -/
def ms2Result (e : Envs) : List Str → List Obj → List Obj → List Obj
  | _, [], _ => []
  | seen, mo :: rest, srcs =>
    if mo.meta.disabled || seen.contains mo.name then ms2Result e seen rest srcs
    else ms2Block e mo (activeNamed mo.name rest ++ srcs) ++ ms2Result e (mo.name :: seen) rest srcs
end

mutual
def ms2NoClashObj : Obj → List Obj → Bool
  | .defn mm _, cands => (scopesNamed mm.name cands).isEmpty
  | .scope mm kids, cands =>
    (defsNamed mm.name cands).isEmpty &&
      (if (mm.attrs.get "multiple").truthy then
        ms2NoClash [] kids [] && (scopesNamed mm.name cands).all (fun s => ms2NoClash [] kids s.children)
       else ms2NoClash [] kids (srcStep cands mm.name))
/-- no clash of kinds — among the sources AND among the further master occurrences (a `.multiple` scope's
    own body is fetched without sources for the master key, so it must not clash with itself either) -/
def ms2NoClash : List Str → List Obj → List Obj → Bool
  | _, [], _ => true
  | seen, mo :: rest, srcs =>
    if mo.meta.disabled || seen.contains mo.name then ms2NoClash seen rest srcs
    else ms2NoClashObj mo (activeNamed mo.name rest ++ srcs) && ms2NoClash (mo.name :: seen) rest srcs
end

/-- only `.multiple` names repeat: every enabled object whose name was met before (among the enabled
    ones) follows a `.multiple` first occurrence -/
def firstsOK_ms2 : List (Str × Bool) → List Obj → Bool
  | _, [] => true
  | seen, o :: os =>
    if o.meta.disabled then firstsOK_ms2 seen os
    else match seen.find? (fun p => p.1 == o.name) with
      | some p => p.2 && firstsOK_ms2 seen os
      | none => firstsOK_ms2 ((o.name, isMultiple o) :: seen) os

mutual
def ms2ObjB : Obj → Bool
  | .defn mm _ => defnMetaB_tm mm && !mm.name.isEmpty && !mm.name.contains '.'
  | .scope mm kids => !mm.name.isEmpty && !mm.name.contains '.' && ms2KidsB kids && firstsOK_ms2 [] kids
def ms2KidsB : List Obj → Bool
  | [] => true
  | o :: os => ms2ObjB o && ms2KidsB os
end

/-- the executable form of the class `MSMaster2` (defined in Phil/Proofs/FetchTreeMS3.lean): as `MSMaster`, except that
    objects may be disabled and the name of a `.multiple` object may be repeated by later siblings (further occurrences) -/
def ms2MasterB (mkids : List Obj) : Bool := ms2KidsB mkids && firstsOK_ms2 [] mkids

/-! ## 2. pairwise distinct sibling names -/

theorem activeNamed_nil_of_distinct_ms2 (n : Str) (rest : List Obj) (h : ∀ o ∈ rest, n ≠ o.name) :
    activeNamed n rest = [] := by
  unfold activeNamed
  rw [List.filter_eq_nil_iff]
  intro o ho
  have := h o ho
  simp only [Bool.and_eq_true, Bool.not_eq_true', beq_iff_eq, not_and]
  intro _ heq
  exact this heq.symm

theorem firsts_step_ms2 {mo : Obj} {rest : List Obj} {seen : List Str} (hen : mo.meta.disabled = false)
    (hd : ((mo :: rest).map Obj.name).Pairwise (· ≠ ·)) (hs : ∀ o ∈ mo :: rest, seen.contains o.name = false) :
    (mo.meta.disabled || seen.contains mo.name) = false ∧ activeNamed mo.name rest = [] ∧
      ∀ o ∈ rest, (mo.name :: seen).contains o.name = false := by
  rw [List.map_cons, List.pairwise_cons] at hd
  have hne : ∀ o ∈ rest, mo.name ≠ o.name := fun o ho => hd.1 _ (List.mem_map.mpr ⟨o, ho, rfl⟩)
  refine ⟨by rw [hen, hs mo List.mem_cons_self]; rfl, activeNamed_nil_of_distinct_ms2 mo.name rest hne, ?_⟩
  intro o ho
  rw [List.contains_cons, hs o (List.mem_cons_of_mem _ ho), Bool.or_false]
  exact beq_false_of_ne (fun h => hne o ho h.symm)

end Phil
