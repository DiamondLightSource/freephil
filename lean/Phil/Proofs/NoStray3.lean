/-
  Phil.Proofs.NoStray3 — lemmas for Phil/Props/C16MS.lean: C16 on masters with `.multiple` scopes, WITHOUT the
  hypothesis that the keys of the list rule are defined, so without a closed form of the fetch.  The statements
  have the shape `Yields_n3 P Q r` (fails only in `P`, returns only in `Q`): the fetch yields the block structure
  `RObj_n3` of its master or fails with "incompatible" / a converter error; extracting such a result yields a
  value typed by the master (`VObj_n3`); formatting a typed value fails only with a converter error.  Last: the
  error sites of the annotation pass `preResolve`, of `denote` and of the closed form `treeFetch` (C16MS §C).
-/
import Phil.Proofs.NoStray2
import Phil.Proofs.FetchTreeMS
import Phil.Proofs.ExtractLoop
import Phil.Proofs.FormatLoop
import Phil.Proofs.ConvDomain
import Phil.Proofs.FetchVars
namespace Phil
open Phil.C12

/-! ## 0. "fails only in `P`, returns only in `Q`" -/

def Yields_n3 {α : Type} (P : Err → Prop) (Q : α → Prop) (r : R α) : Prop :=
  ErrIn P r ∧ ∀ v, r = .ok v → Q v

section
variable {α β : Type} {P : Err → Prop} {Q : α → Prop}

theorem Yields_n3.ok {a : α} (h : Q a) : Yields_n3 P Q (.ok a) :=
  ⟨ErrIn.ok a, fun v hv => by cases hv; exact h⟩

theorem Yields_n3.err {e : Err} (h : P e) : Yields_n3 P Q (.error e : R α) :=
  ⟨ErrIn.err h, fun v hv => by cases hv⟩

theorem Yields_n3.imp {Q' : α → Prop} {r : R α} (h : Yields_n3 P Q r) (hQ : ∀ a, Q a → Q' a) :
    Yields_n3 P Q' r :=
  ⟨h.1, fun v hv => hQ v (h.2 v hv)⟩

theorem Yields_n3.map {Q : β → Prop} {r : R α} (f : α → β) (h : Yields_n3 P (fun a => Q (f a)) r) :
    Yields_n3 P Q (r.map f) := by
  cases r with
  | error e => exact .err (h.1 e rfl)
  | ok a => exact .ok (h.2 a rfl)

theorem Yields_n3.bind {Q' : β → Prop} {r : R α} {g : α → R β} (h : Yields_n3 P Q r)
    (hg : ∀ a, Q a → Yields_n3 P Q' (g a)) : Yields_n3 P Q' (r >>= g) := by
  cases r with
  | error e => exact .err (h.1 e rfl)
  | ok a => exact hg a (h.2 a rfl)

end

/-! ## 2. the block structure of a fetch result; the typing of an extracted value -/

mutual
/-- `RObj_n3 mo o`: `o` is an object a fetch emits for the master object `mo` — `mo`'s declaration
    (all meta data but the template mark); a definition carries at least one word; a scope that is
    live (`is_template = 0`) has children that are again such a result for `mo`'s children; a
    non-multiple scope is always live -/
def RObj_n3 : Obj → Obj → Prop
  | .defn mm _, o => ∃ (t : Int) (ws : List Word), o = .defn { mm with tmpl := t } ws ∧ ws ≠ []
  | .scope mm kids, o => ∃ (t : Int) (out : List Obj), o = .scope { mm with tmpl := t } out ∧
      (t = 0 → RKids_n3 kids out) ∧ ((mm.attrs.get "multiple").truthy = false → t = 0)
/-- the children of a result scope: one block per master child, in master order; the block of a
    non-multiple child has at most one object -/
def RKids_n3 : List Obj → List Obj → Prop
  | [], out => out = []
  | mo :: rest, out => ∃ (block out' : List Obj), out = block ++ out' ∧ (∀ o ∈ block, RObj_n3 mo o) ∧
      (isMultiple mo = false → block.length ≤ 1) ∧ RKids_n3 rest out'
end

/-- the slot of one master child in an extracted record -/
def VField_n3 (V : PVal → Prop) (mult : Bool) : Option PVal → Prop
  | none => True
  | some sub => if mult then ∃ op l, sub = .multi op l ∧ ∀ x ∈ l, V x else V sub

mutual
/-- `VObj_n3 mo v`: the Python value `v` has the shape `mo.format` expects: for a definition a value
    its converter formats without TypeError/AssertionError; for a scope a `scope_extract` whose slots
    are typed by the children (a `scope_extract_list` of typed values for a `.multiple` child) -/
def VObj_n3 : Obj → PVal → Prop
  | .defn mm _, v => ∀ c, declConv mm = some c → asWordsStrays_ns c v = false
  | .scope _ kids, v => ∃ fs, v = .record fs ∧ VKids_n3 kids fs
def VKids_n3 : List Obj → List (Str × PVal) → Prop
  | [], _ => True
  | k :: rest, fs => VField_n3 (VObj_n3 k) (isMultiple k) (fieldGet fs k.name) ∧ VKids_n3 rest fs
end

theorem vkids_iff_n3 (fs : List (Str × PVal)) : ∀ (kids : List Obj),
    VKids_n3 kids fs ↔ ∀ k ∈ kids, VField_n3 (VObj_n3 k) (isMultiple k) (fieldGet fs k.name)
  | [] => by rw [VKids_n3]; simp
  | k :: rest => by rw [VKids_n3, vkids_iff_n3 fs rest]; simp

theorem vkids_congr_n3 (fs fs' : List (Str × PVal)) (kids : List Obj)
    (h : ∀ k ∈ kids, fieldGet fs' k.name = fieldGet fs k.name) (hv : VKids_n3 kids fs) :
    VKids_n3 kids fs' := by
  rw [vkids_iff_n3] at hv ⊢
  intro k hk
  rw [h k hk]
  exact hv k hk

theorem RObj_n3.facts {k o : Obj} (hk : MSObj k) (h : RObj_n3 k o) :
    o.name = k.name ∧ o.meta.attrs = k.meta.attrs ∧ o.meta.disabled = false := by
  cases k with
  | defn mm mws =>
    rw [RObj_n3] at h
    obtain ⟨t, ws, rfl, _⟩ := h
    exact ⟨rfl, rfl, hk.enabled⟩
  | scope mm kids =>
    rw [RObj_n3] at h
    obtain ⟨t, out, rfl, _⟩ := h
    exact ⟨rfl, rfl, hk.enabled⟩

theorem RObj_n3.multiple {k o : Obj} (hk : MSObj k) (h : RObj_n3 k o) : isMultiple o = isMultiple k := by
  unfold isMultiple Obj.attr
  rw [(h.facts hk).2.1]

theorem RObj_n3.optional {k o : Obj} (hk : MSObj k) (h : RObj_n3 k o) :
    o.attr "optional" = k.attr "optional" := by
  unfold Obj.attr
  rw [(h.facts hk).2.1]

/-! ### converter errors -/

/-- an error raised by `definition.extract` or `definition.format` of some definition — a converter's
    RuntimeError (or a value the model declares outside its domain); never a `stray`, never the loop
    bound -/
def ConvErr_n3 (e : Envs) (err : Err) : Prop :=
  err.benign = true ∧
    ((∃ m ws, extractDefn e m ws = .error err) ∨ (∃ m ws v, formatDefn e m ws v = .error err))

theorem declConv_not_choice_n3 {mm : Meta} (hp : DefnMeta mm) {c : Conv} (h : declConv mm = some c) :
    ∀ b, c ≠ .choice b := by
  intro b hb
  subst hb
  unfold declConv at h
  cases ht : mm.attrs.get "type" <;> rw [ht] at h <;> try cases h
  exact hp.notChoice b ht

theorem inDomain_not_strays_n3 (c : Conv) (v : PVal) (h : InDomain c v = true)
    (hc : ∀ b, c ≠ .choice b) : asWordsStrays_ns c v = false := by
  cases c with
  | choice b => exact absurd rfl (hc b)
  | int a => cases v <;> simp_all [InDomain, asWordsStrays_ns, isIntIn]
  | float a => cases v <;> simp_all [InDomain, asWordsStrays_ns, isFloatIn]
  | _ => cases v <;> simp [asWordsStrays_ns]

theorem none_not_strays_n3 (c : Conv) (hc : ∀ b, c ≠ .choice b) : asWordsStrays_ns c .none = false := by
  cases c with
  | choice b => exact absurd rfl (hc b)
  | _ => simp [asWordsStrays_ns]

theorem vobj_defn_none_n3 (mm : Meta) (mws : List Word) (hp : DefnMeta mm) :
    VObj_n3 (.defn mm mws) .none := by
  rw [VObj_n3]
  intro c hc
  exact none_not_strays_n3 c (declConv_not_choice_n3 hp hc)

theorem extractDefn_good_n3 (e : Envs) (mm : Meta) (mws : List Word) (hp : DefnMeta mm) (t : Int)
    (ws : List Word) (hne : ws ≠ []) :
    Yields_n3 (ConvErr_n3 e) (VObj_n3 (.defn mm mws)) (extractDefn e { mm with tmpl := t } ws) := by
  refine And.intro ?_ ?_
  · intro err h
    exact ⟨(extractDefn_benign_ns e _ hne).error h, .inl ⟨_, _, h⟩⟩
  · intro v h
    rw [VObj_n3]
    intro c hc
    obtain ⟨c', hc', hfw⟩ := extractDefn_ok_conv_xt e _ ws v h
    have : declConv { mm with tmpl := t } = declConv mm := rfl
    rw [this, hc] at hc'
    cases hc'
    exact inDomain_not_strays_n3 c v (fromWords_in_domain c _ _ _ v hfw) (declConv_not_choice_n3 hp hc)

/-! ## 3. extraction of a result -/

theorem slot_append_n3 (V : PVal → Prop) (mult : Bool) (fs : List (Str × PVal)) (nm : Str) (v : PVal)
    (hfs : fieldGet fs nm = none) (hv : VField_n3 V mult (some v)) :
    VField_n3 V mult (fieldGet (fs ++ [(nm, v)]) nm) ∧
      ∀ n, n ≠ nm → fieldGet (fs ++ [(nm, v)]) n = fieldGet fs n := by
  rw [fieldGet_append_last fs nm v hfs]
  exact ⟨hv, fun n hn => fieldGet_append_ne_ns fs v hn⟩

theorem blockVals_inv_n3 {P : Err → Prop} {V : PVal → Prop} (X : Obj → R PVal) (opt : AttrVal) :
    ∀ (ws : List Obj), (∀ w ∈ ws, w.meta.tmpl = 0 → Yields_n3 P V (X w)) →
      Yields_n3 P (fun ys => ∀ y ∈ ys, V y) (blockVals X opt ws)
  | [], _ => .ok (fun y hy => by cases hy)
  | w :: ws, hX => by
    have ih := blockVals_inv_n3 (P := P) (V := V) X opt ws (fun w' hw' => hX w' (List.mem_cons_of_mem _ hw'))
    rw [blockVals]
    by_cases ht : w.meta.tmpl < 0
    · rw [if_pos ht]
      exact ih
    · rw [if_neg ht]
      by_cases hd : (w.meta.disabled || decide (w.meta.tmpl > 0)) = true
      · rw [if_pos hd]
        exact ih
      · rw [if_neg hd]
        rw [Bool.or_eq_true, not_or, decide_eq_true_eq] at hd
        have hx := hX w List.mem_cons_self (by omega)
        cases hxw : X w with
        | error err => exact .err (hx.1 err hxw)
        | ok y =>
          refine .map _ (ih.imp ?_)
          intro r hr z hz
          by_cases hk : keepValB opt y = true
          · rw [if_pos hk] at hz
            rcases List.mem_cons.mp hz with rfl | hz
            · exact hx.2 z hxw
            · exact hr z hz
          · rw [if_neg hk] at hz
            exact hr z hz

theorem extractBlock_n3 (e : Envs) (X : Obj → R PVal) (k : Obj) (hk : MSObj k)
    (hX : ∀ o, RObj_n3 k o → o.meta.tmpl = 0 → Yields_n3 (ConvErr_n3 e) (VObj_n3 k) (X o))
    (block : List Obj) (hb : ∀ o ∈ block, RObj_n3 k o)
    (hlen : isMultiple k = false → block.length ≤ 1) (fs : List (Str × PVal))
    (hfs : fieldGet fs k.name = none) :
    Yields_n3 (ConvErr_n3 e)
      (fun fs' => VField_n3 (VObj_n3 k) (isMultiple k) (fieldGet fs' k.name) ∧
        ∀ n, n ≠ k.name → fieldGet fs' n = fieldGet fs n)
      (block.foldlM (xstep_xt X) fs) := by
  have hsame : ∀ mult, VField_n3 (VObj_n3 k) mult (fieldGet fs k.name) ∧
      ∀ n, n ≠ k.name → fieldGet fs n = fieldGet fs n := by
    intro mult
    rw [hfs]
    exact ⟨trivial, fun _ _ => rfl⟩
  cases hm : isMultiple k with
  | true =>
    have hok : MultiBlockOK k.name (k.attr "optional") block := fun w hw =>
      ⟨((hb w hw).facts hk).1, (hb w hw).optional hk, by rw [(hb w hw).multiple hk, hm]⟩
    rw [xfold_block_fresh X _ _ block fs hfs hok]
    refine .map _ ((blockVals_inv_n3 X _ block (fun w hw => hX w (hb w hw))).imp ?_)
    intro ys hys
    cases blockCreates block with
    | false => exact hsame true
    | true => exact slot_append_n3 _ true fs _ _ hfs ⟨_, ys, rfl, hys⟩
  | false =>
    match block, hb, hlen hm with
    | [], _, _ => exact .ok (hsame false)
    | [o], hb, _ =>
      have ho := hb o List.mem_cons_self
      obtain ⟨hname, _, hdis⟩ := ho.facts hk
      have hstep := xstep_fresh_xt X fs o (by rw [ho.multiple hk, hm]) (by rw [hname]; exact hfs)
      rw [hdis, Bool.false_or, hname] at hstep
      have hfold : List.foldlM (xstep_xt X) fs [o] = xstep_xt X fs o := by
        rw [List.foldlM_cons]
        cases xstep_xt X fs o <;> rfl
      rw [hfold, hstep]
      by_cases h1 : o.meta.tmpl < 0
      · rw [if_pos h1]
        exact .ok (hsame false)
      · rw [if_neg h1]
        by_cases h2 : o.meta.tmpl > 0
        · rw [if_pos (decide_eq_true h2)]
          -- a template: only a definition can be one here
          have hvn : VObj_n3 k .none := by
            cases k with
            | defn mm mws => rw [MSObj] at hk; exact vobj_defn_none_n3 mm mws hk.1
            | scope mm kids =>
              rw [RObj_n3] at ho
              obtain ⟨t, out, rfl, _, h0⟩ := ho
              have := h0 hm
              subst this
              exact absurd h2 (Int.lt_irrefl 0)
          exact .ok (slot_append_n3 _ false fs _ _ hfs hvn)
        · rw [if_neg (by simpa using h2)]
          exact .map _ ((hX o ho (by omega)).imp (fun v hv => slot_append_n3 _ false fs _ _ hfs hv))
    | _ :: _ :: _, _, hl => exact absurd hl (by simp)

theorem extractKids_n3 (e : Envs) (X : Obj → R PVal) : ∀ (kids out : List Obj),
    MSKids kids → (kids.map Obj.name).Pairwise (· ≠ ·) → RKids_n3 kids out →
    (∀ k ∈ kids, ∀ o, RObj_n3 k o → o.meta.tmpl = 0 → Yields_n3 (ConvErr_n3 e) (VObj_n3 k) (X o)) →
    ∀ (fs : List (Str × PVal)), (∀ k ∈ kids, fieldGet fs k.name = none) →
      Yields_n3 (ConvErr_n3 e)
        (fun fs' => VKids_n3 kids fs' ∧ ∀ n, n ∉ kids.map Obj.name → fieldGet fs' n = fieldGet fs n)
        (out.foldlM (xstep_xt X) fs)
  | [], out, _, _, hr, _, fs, _ => by
    rw [RKids_n3] at hr
    subst hr
    exact .ok ⟨by rw [VKids_n3]; trivial, fun n _ => rfl⟩
  | k :: rest, out, hms, hpw, hr, hX, fs, hfresh => by
    rw [RKids_n3] at hr
    obtain ⟨block, out', rfl, hb, hlen, hrest⟩ := hr
    rw [MSKids] at hms
    rw [List.map_cons, List.pairwise_cons] at hpw
    rw [List.foldlM_append]
    refine (extractBlock_n3 e X k hms.1 (hX k List.mem_cons_self) block hb hlen fs
      (hfresh k List.mem_cons_self)).bind ?_
    intro fs1 ⟨c1, c2⟩
    have hfresh1 : ∀ k' ∈ rest, fieldGet fs1 k'.name = none := by
      intro k' hk'
      rw [c2 k'.name (fun h => hpw.1 k'.name (List.mem_map_of_mem hk') h.symm)]
      exact hfresh k' (List.mem_cons_of_mem _ hk')
    refine (extractKids_n3 e X rest out' hms.2 hpw.2 hrest
      (fun k' hk' => hX k' (List.mem_cons_of_mem _ hk')) fs1 hfresh1).imp ?_
    intro fs' ⟨e1, e2⟩
    have hkn : k.name ∉ rest.map Obj.name := fun h => hpw.1 k.name h rfl
    refine ⟨?_, ?_⟩
    · rw [VKids_n3]
      refine ⟨?_, e1⟩
      rw [e2 k.name hkn]
      exact c1
    · intro n hn
      rw [List.map_cons, List.mem_cons, not_or] at hn
      rw [e2 n hn.2, c2 n hn.1]

/-- **extraction of a fetch result**: `scope.extract` / `definition.extract` of an object the fetch
    emitted for the master object `mo` (a definition, or a live scope) fails only with a converter
    error, and a value it returns is typed by `mo` -/
theorem extract_res_n3 (e : Envs) : ∀ (n : Nat) (mo o : Obj), MSObj mo → RObj_n3 mo o →
    (o.isDefn = false → o.meta.tmpl = 0) → depthT mo < n →
    Yields_n3 (ConvErr_n3 e) (VObj_n3 mo) (extractObj e n o) := by
  intro n
  induction n with
  | zero => intro mo o _ _ _ h; exact absurd h (Nat.not_lt_zero _)
  | succ n ih =>
    intro mo o hms hr ht hd
    cases mo with
    | defn mm mws =>
      rw [RObj_n3] at hr
      obtain ⟨t, ws, rfl, hne⟩ := hr
      rw [MSObj] at hms
      rw [extractObj]
      exact extractDefn_good_n3 e mm mws hms.1 t ws hne
    | scope mm kids =>
      rw [RObj_n3] at hr
      obtain ⟨t, out, rfl, hrk, _⟩ := hr
      have ht0 : t = 0 := ht rfl
      subst ht0
      rw [MSObj] at hms
      rw [depthT] at hd
      rw [extractObj_scope_xt]
      refine .map _ ((extractKids_n3 e (extractObj e n) kids out hms.2.2.2.1 hms.2.2.2.2 (hrk rfl)
        (fun k hk o ho hto => ih k o ((msKids_iff kids).1 hms.2.2.2.1 k hk) ho (fun _ => hto)
          (by have := depthT_le_depthL kids k hk; omega))
        [] (fun k _ => rfl)).imp ?_)
      intro fs' h
      rw [VObj_n3]
      exact ⟨fs', rfl, h.1⟩


/-! ## 3b. formatting a typed value -/

theorem formatDefn_good_n3 (e : Envs) (m : Meta) (ws : List Word) (v : PVal)
    (hv : ∀ c, declConv m = some c → asWordsStrays_ns c v = false) :
    ErrIn (ConvErr_n3 e) (formatDefn e m ws v) := by
  intro err h
  refine ⟨?_, .inr ⟨m, ws, v, h⟩⟩
  unfold formatDefn at h
  cases ht : m.attrs.get "type" with
  | none =>
    simp only [ht] at h
    have hs := hv .strings (by unfold declConv; rw [ht])
    exact ((asWords_benign_ns .strings e.fmt _ ws v hs).map _).error h
  | conv c =>
    simp only [ht] at h
    have hs := hv c (by unfold declConv; rw [ht])
    exact ((asWords_benign_ns c e.fmt _ ws v hs).map _).error h
  | auto => simp only [ht] at h; cases h; rfl
  | bool b => simp only [ht] at h; cases h; rfl
  | int i => simp only [ht] at h; cases h; rfl
  | str s => simp only [ht] at h; cases h; rfl

/-- **formatting a typed value**: `mo.format(v)` for a value typed by the master object `mo` fails
    only with a converter error -/
theorem format_val_n3 (e : Envs) : ∀ (n : Nat) (mo : Obj) (v : PVal), MSObj mo → VObj_n3 mo v →
    depthT mo < n → ErrIn (ConvErr_n3 e) (formatObj e n mo v) := by
  intro n
  induction n with
  | zero => intro mo v _ _ h; exact absurd h (Nat.not_lt_zero _)
  | succ n ih =>
    intro mo v hms hv hd
    cases mo with
    | defn mm mws =>
      rw [formatObj]
      rw [VObj_n3] at hv
      exact formatDefn_good_n3 e mm mws v hv
    | scope mm kids =>
      rw [VObj_n3] at hv
      obtain ⟨fs, hvfs, hvk⟩ := hv
      rw [vkids_iff_n3] at hvk
      have hmk := MSMaster.of_scope hms
      rw [depthT] at hd
      rw [formatObj_scope_xt, masterActive_ms kids hmk]
      dsimp only
      have hfold : ErrIn (ConvErr_n3 e) ((indexed kids).foldlM (fstepP (formatObj e n) v)
          (([] : List Obj), ([] : List (Str × Bool)))) := by
        apply ErrIn.foldlM
        intro st io hio
        have hk := snd_mem_of_mem_indexed hio
        have hkm := hmk.obj _ hk
        have hkd : depthT io.2 < n := by have := depthT_le_depthL kids _ hk; omega
        have hfield := hvk _ hk
        unfold fstepP finnerP fmtAppP pobjsOf_xt
        dsimp only
        split
        · exact ErrIn.ok _
        · split
          · cases hvfs
          · cases hvfs
          · split
            · rename_i err herr
              subst hvfs
              cases herr
            · rename_i pobjs hp
              subst hvfs
              cases hp
              apply ErrIn.foldlM
              intro st pi hpi
              rw [List.mem_singleton] at hpi
              subst hpi
              dsimp only
              cases hg : fieldGet fs io.2.name with
              | none => exact ErrIn.ok _
              | some sub =>
                rw [hg] at hfield
                dsimp only
                cases hm : isMultiple io.2 with
                | false =>
                  rw [hm] at hfield
                  simp only [VField_n3, Bool.false_eq_true, if_false] at hfield
                  simp only [Bool.not_false, if_true]
                  exact (ih _ _ hkm hfield hkd).map _
                | true =>
                  rw [hm] at hfield
                  simp only [VField_n3, if_true] at hfield
                  obtain ⟨op, l, rfl, hall⟩ := hfield
                  simp only [Bool.not_true, Bool.false_eq_true, if_false, elemsOfM]
                  cases l with
                  | nil => exact ErrIn.ok _
                  | cons x xs =>
                    apply ErrIn.map
                    apply ErrIn.foldlM
                    intro acc y hy
                    exact (ih _ y hkm (hall y hy) hkd).map _
      intro err h
      cases hf : (indexed kids).foldlM (fstepP (formatObj e n) v) (([] : List Obj), ([] : List (Str × Bool))) with
      | error err' =>
        rw [hf] at h
        cases h
        exact hfold err hf
      | ok r =>
        rw [hf] at h
        cases h

/-- **`master_object.extract_format(source=c).as_str()`** for an object `c` the fetch built for the
    master object `mo`: only converter errors -/
theorem efs_good_n3 (e : Envs) (f : Nat) (mo c : Obj) (hms : MSObj mo) (hr : RObj_n3 mo c)
    (ht : c.isDefn = false → c.meta.tmpl = 0) (hd : depthT mo < f) :
    ErrIn (ConvErr_n3 e) (extractFormatStr e f mo c) := by
  unfold extractFormatStr
  obtain ⟨x1, x2⟩ := extract_res_n3 e f mo c hms hr ht hd
  cases hx : extractObj e f c with
  | error err => exact ErrIn.err (x1 err hx)
  | ok v =>
    dsimp only
    cases hf : formatObj e f mo v with
    | error err => exact ErrIn.err (format_val_n3 e f mo v hms (x2 v hx) hd err hf)
    | ok fo =>
      obtain ⟨l, hl⟩ := showObj_default_ok_ns fo [] []
      dsimp only
      rw [hl]
      exact ErrIn.ok _

/-! ## 4. the fetch -/

/-- the failures of a fetch on an `MSMaster`: the clash of kinds, or a converter error raised while a
    candidate of a `.multiple` object (or the master's own block) is rendered for the list rule -/
def FetchErr_n3 (e : Envs) (err : Err) : Prop := err = incompatibleErr ∨ ConvErr_n3 e err

/-- sources as the parser delivers them: enabled definitions resolve, enabled scopes are named, and
    every enabled definition contributes at least one word -/
structure SrcGood_n3 (srcs : List Obj) : Prop where
  tree : SrcTree srcs
  words : SrcWords_ns srcs

theorem SrcGood_n3.nil : SrcGood_n3 [] :=
  ⟨srcTree_nil, fun _ hx _ => hx.not_nil.elim⟩

theorem SrcGood_n3.step {srcs : List Obj} (h : SrcGood_n3 srcs) (n : Str) : SrcGood_n3 (srcStep srcs n) :=
  ⟨h.tree.step n, h.words.step n⟩

theorem SrcGood_n3.child {srcs : List Obj} (h : SrcGood_n3 srcs) {s : Obj} (hs : s ∈ srcs)
    (hd : s.meta.disabled = false) : SrcGood_n3 s.children := by
  refine ⟨h.tree.child_ms hs hd, ?_⟩
  cases s with
  | defn m ws => exact fun x hx _ => hx.not_nil.elim
  | scope m sk => exact fun x hx hdef => h.words x (.deeper hs hd hx) hdef

theorem wordsKids_mem_n3 : ∀ (l : List Obj), wordsKidsB_ns l = true → ∀ o ∈ l, wordsObjB_ns o = true
  | [], _, o, ho => by cases ho
  | a :: os, h, o, ho => by
    rw [wordsKidsB_ns, Bool.and_eq_true] at h
    rcases List.mem_cons.mp ho with rfl | ho
    · exact h.1
    · exact wordsKids_mem_n3 os h.2 o ho

theorem words_defn_ne_n3 {mm : Meta} {mws : List Word} (h : wordsObjB_ns (.defn mm mws) = true) :
    mws ≠ [] := by
  rw [wordsObjB_ns] at h
  intro hn
  subst hn
  cases h

/-- what the induction knows about the recursive callee at fuel `n` -/
def GoodF_n3 (e : Envs) (F : FetchFn) (n : Nat) : Prop :=
  ∀ (mm : Meta) (kids srcs : List Obj), MSMaster kids → wordsKidsB_ns kids = true → depthL kids < n →
    mm.disabled = false → SrcGood_n3 srcs →
    Yields_n3 (FetchErr_n3 e) (fun p => ∃ out, p.1 = .scope { mm with tmpl := 0 } out ∧ RKids_n3 kids out)
      (F false mm kids srcs)

theorem robj_scope_live_n3 (mm : Meta) (kids out : List Obj) (h : RKids_n3 kids out) :
    RObj_n3 (.scope mm kids) (.scope { mm with tmpl := 0 } out) := by
  rw [RObj_n3]
  exact ⟨0, out, rfl, fun _ => h, fun _ => rfl⟩

theorem robj_defn_n3 (mm : Meta) (mws ws : List Word) (t : Int) (h : ws ≠ []) :
    RObj_n3 (.defn mm mws) (.defn { mm with tmpl := t } ws) := by
  rw [RObj_n3]
  exact ⟨t, ws, rfl, h⟩

/-- the callee on a master scope, as its three callers use it: a live result for that scope -/
theorem GoodF_n3.scope {e : Envs} {F : FetchFn} {n : Nat} (hF : GoodF_n3 e F n) {mm : Meta}
    {kids : List Obj} (hmo : MSObj (.scope mm kids)) (hw : wordsKidsB_ns kids = true)
    (hdep : depthT (.scope mm kids) ≤ n) {srcs : List Obj} (hs : SrcGood_n3 srcs) :
    Yields_n3 (FetchErr_n3 e) (fun p => ∃ out, p.1 = .scope { mm with tmpl := 0 } out ∧ RKids_n3 kids out)
      (F false mm kids srcs) := by
  have hkids := MSMaster.of_scope hmo
  rw [MSObj] at hmo
  rw [depthT] at hdep
  exact hF mm kids srcs hkids hw (by omega) hmo.2.2.1 hs

theorem candOf_good_n3 (e : Envs) (F : FetchFn) (n : Nat) (hF : GoodF_n3 e F n) (mo : Obj)
    (hmo : MSObj mo) (hmw : wordsObjB_ns mo = true) (hdep : depthT mo ≤ n) (ms : Obj)
    (hms1 : ms.isDefn = true → SrcOK ms ∧ ms.srcWords ≠ []) (hms2 : SrcGood_n3 ms.children) :
    Yields_n3 (FetchErr_n3 e)
      (fun p => ∀ c, p.1 = some c → RObj_n3 mo c ∧ (c.isDefn = false → c.meta.tmpl = 0))
      (candOf F e n false mo false ms) := by
  cases mo with
  | defn mm mws =>
    rw [MSObj] at hmo
    cases ms with
    | defn sm sws =>
      obtain ⟨hok, hne⟩ := hms1 rfl
      have hfv := fetchValue_defnMeta mm mws sm sws hmo.1 hok
      have hc : ∃ u, candOf F e n false (.defn mm mws) false (.defn sm sws) =
          .ok (some (.defn { mm with tmpl := 0 } (Obj.defn sm sws).srcWords), u) := by
        unfold candOf fetchDefn
        rw [hfv]
        exact ⟨_, rfl⟩
      obtain ⟨u0, hc⟩ := hc
      rw [hc]
      refine .ok ?_
      intro c h
      cases h
      exact ⟨robj_defn_n3 mm mws _ 0 hne, fun h => by cases h⟩
    | scope sm sk =>
      have hc : candOf F e n false (.defn mm mws) false (.scope sm sk) = .error incompatibleErr := by
        unfold candOf fetchDefn fetchValue
        rfl
      rw [hc]
      exact .err (.inl rfl)
  | scope mm kids =>
    cases ms with
    | defn sm sws =>
      have hc : candOf F e n false (.scope mm kids) false (.defn sm sws) = .error incompatibleErr := by
        unfold candOf
        rfl
      rw [hc]
      exact .err (.inl rfl)
    | scope sm sk =>
      refine .map _ ((hF.scope hmo hmw hdep hms2).imp ?_)
      intro p ⟨out, ho, hrk⟩ c h
      cases h
      rw [ho]
      exact ⟨robj_scope_live_n3 mm kids out hrk, fun _ => rfl⟩

theorem cstepG_good_n3 (e : Envs) (F : FetchFn) (n : Nat) (hF : GoodF_n3 e F n) (mo : Obj)
    (hmo : MSObj mo) (hmw : wordsObjB_ns mo = true) (hdep : depthT mo ≤ n) (k0 : Str) (acc : CAcc)
    (ms : Obj) (hms1 : ms.isDefn = true → SrcOK ms ∧ ms.srcWords ≠ []) (hms2 : SrcGood_n3 ms.children)
    (hacc : ∀ x, some x ∈ acc.1 → RObj_n3 mo x) :
    Yields_n3 (FetchErr_n3 e) (fun r => ∀ x, some x ∈ r.1 → RObj_n3 mo x)
      (cstepG F e n false mo k0 acc (false, ms)) := by
  have hc := candOf_good_n3 e F n hF mo hmo hmw hdep ms hms1 hms2
  unfold cstepG
  dsimp only
  cases hcand : candOf F e n false mo false ms with
  | error E => exact .err (hc.1 E hcand)
  | ok p =>
    obtain ⟨oc, u⟩ := p
    cases oc with
    | none =>
      dsimp only
      simp only [Bool.false_eq_true, if_false]
      exact .ok hacc
    | some c =>
      dsimp only
      obtain ⟨hrc, htc⟩ := hc.2 _ hcand c rfl
      have hefs := efs_good_n3 e (n + 64) mo c hmo hrc htc (by omega)
      cases hk : extractFormatStr e (n + 64) mo c with
      | error E => exact .err (.inr (hefs E hk))
      | ok cs =>
        dsimp only
        split
        · exact .ok hacc
        · have hb' := cAccept_eq false false cs c u acc.1 acc.2.1 acc.2.2
          rw [hb']
          exact .ok fun x hx => (book_mem hx).elim (hacc x) fun hxc => hxc ▸ hrc

theorem stepG_good_n3 (e : Envs) (F : FetchFn) (n : Nat) (hF : GoodF_n3 e F n) (sm : Meta)
    (mkids srcs : List Obj) (hf : MSMaster mkids) (hw : wordsKidsB_ns mkids = true)
    (hsd : sm.disabled = false) (hs : SrcGood_n3 srcs) (st : List Obj × List Nat) (io : Nat × Obj)
    (hio : io ∈ indexed mkids) (hdep : depthT io.2 ≤ n) :
    Yields_n3 (FetchErr_n3 e)
      (fun r => ∃ block, r.1 = st.1 ++ block ∧ (∀ o ∈ block, RObj_n3 io.2 o) ∧
        (isMultiple io.2 = false → block.length ≤ 1))
      (stepG F e n false sm mkids srcs st io) := by
  have hmem := snd_mem_of_mem_indexed hio
  have hto := hf.obj _ hmem
  have hwo := wordsKids_mem_n3 mkids hw _ hmem
  have hsc : ∀ m kids, Obj.scope m kids ∈ srcs → m.disabled = false → m.name ≠ [] :=
    fun m kids hm hd => hs.tree.named m kids (.here hm hd)
  have hok : ∀ o ∈ srcs, o.meta.disabled = false → o.isDefn = true → SrcOK o :=
    fun o ho hd hdef => hs.tree.ok o (.here ho hd) hdef
  have hmatch := fetchMatching_tree n sm srcs io.2 hsd hto.name_ne hto.dotfree hsc
  obtain ⟨i, mo⟩ := io
  simp only at hmem hto hwo hmatch hdep ⊢
  cases hmult : isMultiple mo with
  | false =>
    cases mo with
    | defn mm mws =>
      have hne := words_defn_ne_n3 hwo
      rw [MSObj] at hto
      rw [stepG_plain_tm F e n sm mkids srcs st i mm mws hto.1 hmult hmatch hok]
      split
      · refine .ok ⟨_, rfl, ?_, fun _ => ?_⟩
        · intro o ho
          rw [tmBlock] at ho
          simp only [hmult, Bool.false_eq_true, if_false, List.mem_singleton] at ho
          subst ho
          unfold lastWins
          cases hl : (defsNamed mm.name srcs).getLast? with
          | none => exact robj_defn_n3 mm mws mws mm.tmpl hne
          | some d =>
            have hd := mem_defsNamed.mp (List.mem_of_getLast? hl)
            exact robj_defn_n3 mm mws _ 0 (hs.words d (.here hd.1 hd.2.2.1) hd.2.1)
        · rw [tmBlock]
          simp [hmult]
      · exact .err (.inl rfl)
    | scope mm kids =>
      have hfr := hF.scope hto hwo hdep (hs.step mm.name)
      cases hFr : F false mm kids (srcStep srcs mm.name) with
      | error E =>
        rw [stepG_scope_of_outcome F e n sm mkids srcs st i mm false kids (some E) [] [] hmult hmatch hFr]
        cases (defsNamed mm.name srcs).isEmpty
        · exact .err (.inl rfl)
        · exact .err (hfr.1 E hFr)
      | ok p =>
        obtain ⟨out, ho, hrk⟩ := hfr.2 p hFr
        rw [stepG_scope_of_outcome F e n sm mkids srcs st i mm false kids none out p.2 hmult hmatch
          (by rw [hFr, ← ho])]
        cases (defsNamed mm.name srcs).isEmpty
        · exact .err (.inl rfl)
        · refine .ok ⟨[_], rfl, ?_, fun _ => Nat.le_refl _⟩
          intro o ho
          rw [List.mem_singleton] at ho
          subst ho
          exact robj_scope_live_n3 mm kids out hrk
  | true =>
    have hstep : stepG F e n false sm mkids srcs st (i, mo) =
        multiBranch F e n false mkids i mo (activeNamed mo.name srcs) st.1 st.2 := by
      unfold stepG
      simp only [hmult, Bool.not_true, Bool.false_eq_true, if_false]
      rw [hmatch]
    rw [hstep]
    unfold multiBranch
    rw [fromMasterOf_nil mkids hf.distinct i mo hio, List.nil_append]
    -- the master key, and the master's own block where it is a scope
    have hkey : Yields_n3 (FetchErr_n3 e)
        (fun k0 => ∀ o ∈ tmplObjsOf false mo ([] : List (Str × Int)) (selfFetchOf F mo) ++
          tmplObjsOf false mo [(k0, 0)] (selfFetchOf F mo), RObj_n3 mo o)
        (masterKeyG F e n mo) := by
      cases mo with
      | defn mm mws =>
        have hne := words_defn_ne_n3 hwo
        rw [masterKeyG_defn]
        refine And.intro ((efs_good_n3 e (n + 64) _ _ hto (robj_defn_n3 mm mws mws mm.tmpl hne)
          (fun h => by cases h) (by omega)).mono (fun _ h => .inr h)) ?_
        intro k0 _ o ho
        rw [tmplObjsOf_defn, tmplObjsOf_defn] at ho
        simp only [Bool.false_eq_true, if_false, List.mem_append, List.mem_singleton] at ho
        rcases ho with rfl | rfl <;> exact robj_defn_n3 mm mws mws _ hne
      | scope mm kids =>
        rw [masterKeyG_scope]
        have hfr := hF.scope hto hwo hdep SrcGood_n3.nil
        cases hFr : F false mm kids [] with
        | error E => exact .err (hfr.1 E hFr)
        | ok p =>
          obtain ⟨ro, u⟩ := p
          dsimp only
          obtain ⟨out, ho, hrk⟩ := hfr.2 _ hFr
          subst ho
          have hro := robj_scope_live_n3 mm kids out hrk
          refine And.intro ((efs_good_n3 e (n + 64) _ _ hto hro (fun _ => rfl) (by omega)).mono
            (fun _ h => .inr h)) ?_
          intro k0 _ o ho
          have hmm : (mm.attrs.get "multiple").truthy = true := hmult
          unfold tmplObjsOf selfFetchOf at ho
          dsimp only at ho
          rw [hFr] at ho
          simp only [Bool.false_eq_true, if_false, List.isEmpty_nil, List.isEmpty_cons, if_true] at ho
          split at ho
          · simp only [List.mem_append, List.mem_singleton, or_self] at ho
            subst ho
            exact hro
          · simp only [List.mem_append, List.mem_singleton] at ho
            rcases ho with rfl | rfl
            · rw [RObj_n3]
              exact ⟨1, kids, rfl, (fun h => absurd h (by decide)), (fun h => by rw [hmm] at h; cases h)⟩
            · rw [RObj_n3]
              exact ⟨-1, kids, rfl, (fun h => absurd h (by decide)), (fun h => by rw [hmm] at h; cases h)⟩
    cases hmk : masterKeyG F e n mo with
    | error E => exact .err (hkey.1 E hmk)
    | ok k0 =>
      dsimp only
      have hg := ErrIn.foldlM_inv (P := FetchErr_n3 e)
        (fun (acc : CAcc) => ∀ x, some x ∈ acc.1 → RObj_n3 mo x)
        (cstepG F e n false mo k0) ((activeNamed mo.name srcs).map (fun (o : Obj) => (false, o)))
        (by
          intro b a ha hb
          obtain ⟨ms, hms, rfl⟩ := List.mem_map.mp ha
          have hms' := mem_activeNamed.mp hms
          exact cstepG_good_n3 e F n hF mo hto hwo hdep k0 b ms
            (fun hdef => ⟨hok ms hms'.1 hms'.2.1 hdef, hs.words ms (.here hms'.1 hms'.2.1) hdef⟩)
            (hs.child hms'.1 hms'.2.1) hb)
        (([] : List (Option Obj)), ([] : List (Str × Int)), st.2) (by intro x hx; cases hx)
      cases hfold : ((activeNamed mo.name srcs).map (fun (o : Obj) => (false, o))).foldlM
          (cstepG F e n false mo k0) (([] : List (Option Obj)), ([] : List (Str × Int)), st.2) with
      | error E => exact .err (hg.1 E hfold)
      | ok p =>
        obtain ⟨robjs, processed, used'⟩ := p
        dsimp only
        refine .ok ⟨tmplObjsOf false mo processed (selfFetchOf F mo) ++ robjs.filterMap (fun x => x),
          by rw [List.append_assoc], ?_, fun h => by cases h⟩
        intro o ho
        rw [List.mem_append] at ho
        rcases ho with ho | ho
        · apply hkey.2 k0 hmk o
          rw [List.mem_append]
          cases processed with
          | nil => exact .inl ho
          | cons p ps =>
            refine .inr ?_
            unfold tmplObjsOf at ho ⊢
            simpa using ho
        · rw [List.mem_filterMap] at ho
          obtain ⟨x, hx, hxo⟩ := ho
          subst hxo
          exact hg.2 _ hfold o hx

theorem foldl_blocks_n3 {P : Err → Prop}
    (f : (List Obj × List Nat) → (Nat × Obj) → R (List Obj × List Nat)) :
    ∀ (l : List (Nat × Obj)),
      (∀ st a, a ∈ l → Yields_n3 P
        (fun r => ∃ block, r.1 = st.1 ++ block ∧ (∀ o ∈ block, RObj_n3 a.2 o) ∧
          (isMultiple a.2 = false → block.length ≤ 1))
        (f st a)) →
      ∀ st, Yields_n3 P (fun r => ∃ out, r.1 = st.1 ++ out ∧ RKids_n3 (l.map (fun p => p.2)) out)
        (l.foldlM f st)
  | [], _, st => .ok ⟨[], by simp, by rw [List.map_nil, RKids_n3]⟩
  | a :: as, hf, st => by
    rw [List.foldlM_cons]
    refine (hf st a List.mem_cons_self).bind ?_
    intro r1 ⟨block, hb1, hb2, hb3⟩
    refine (foldl_blocks_n3 f as (fun st a' ha' => hf st a' (List.mem_cons_of_mem _ ha')) r1).imp ?_
    intro r ⟨out, ho1, ho2⟩
    refine ⟨block ++ out, by rw [ho1, hb1, List.append_assoc], ?_⟩
    rw [List.map_cons, RKids_n3]
    exact ⟨block, out, rfl, hb2, hb3, ho2⟩

/-- **the fetch of an `MSMaster` against good sources, fuel beyond the depth**: a result with the
    block structure, or "incompatible", or a converter error -/
theorem fetch_ms_good_n3 (e : Envs) : ∀ (n : Nat), GoodF_n3 e (fetchScope e n) n := by
  intro n
  induction n with
  | zero => intro mm kids srcs _ _ hd; exact absurd hd (Nat.not_lt_zero _)
  | succ n ih =>
    intro mm kids srcs hf hw hd hsd hs
    rw [fetchScope_succ, masterActive_ms kids hf]
    dsimp only
    have hg := foldl_blocks_n3 (P := FetchErr_n3 e)
      (stepG (fetchScope e n) e n false mm kids srcs) (indexed kids)
      (fun st a ha => stepG_good_n3 e _ n ih mm kids srcs hf hw hsd hs st a ha
        (by have := depthT_le_depthL kids a.2 (snd_mem_of_mem_indexed ha); omega))
      (([] : List Obj), ([] : List Nat))
    unfold fetchFinish
    cases hfold : (indexed kids).foldlM (stepG (fetchScope e n) e n false mm kids srcs)
        (([] : List Obj), ([] : List Nat)) with
    | error E => exact .err (hg.1 E hfold)
    | ok p =>
      obtain ⟨out', ho1, ho2⟩ := hg.2 _ hfold
      rw [indexed_map_snd] at ho2
      rw [List.nil_append] at ho1
      exact .ok ⟨p.1, rfl, by rw [ho1]; exact ho2⟩

/-- **extraction of the root of a fetch result** (the root scope has no name, so it is not an `MSObj`):
    only converter errors, and the record is typed by the master -/
theorem extract_root_n3 (e : Envs) (xf : Nat) (m : Meta) (kids out : List Obj) (hf : MSMaster kids)
    (hr : RKids_n3 kids out) (hd : depthL kids < xf) :
    Yields_n3 (ConvErr_n3 e) (fun v => ∃ fs, v = .record fs ∧ VKids_n3 kids fs)
      (extractObj e (xf + 1) (.scope m out)) := by
  rw [extractObj_scope_xt]
  refine .map _ ((extractKids_n3 e (extractObj e xf) kids out hf.kids hf.distinct hr
    (fun k hk o ho hto => extract_res_n3 e xf k o (hf.obj k hk) ho (fun _ => hto)
      (by have := depthT_le_depthL kids k hk; omega))
    [] (fun k _ => rfl)).imp ?_)
  intro fs' h
  exact ⟨fs', rfl, h.1⟩

/-! ## 5. the annotation pass `preResolve` and fetch with `$variables` -/

/-- the sites the annotation pass can record: the five RuntimeError sites of `resolve_variables`, or
    `"unsupported"` (a referenced definition without id, or the loop bound — neither arises on parser
    outputs) -/
theorem preResolveList_err_sites_n3 (env : Env) (diff : Bool) (total : Nat) :
    ∀ (fuel : Nat) (outer : Chain) (objs : List Obj), (∀ m ∈ metasOfs objs, m.varRes = none) →
    ∀ m ∈ metasOfs (preResolveList env diff total fuel outer objs), ∀ site line,
      m.varRes = some (.err site line) → site ∈ varsSites ∨ site = "unsupported" := by
  intro fuel
  induction fuel with
  | zero =>
    intro outer objs hfresh m hm site line h
    rw [preResolveList] at hm
    rw [hfresh m hm] at h
    cases h
  | succ fuel ih =>
    intro outer objs hfresh
    rw [preResolveList]
    generalize objs :: outer = C
    induction objs with
    | nil => intro m hm; rw [List.map_nil, metasOfs] at hm; cases hm
    | cons o os iho =>
      have hfo : ∀ m ∈ metasOf o, m.varRes = none := fun m hm =>
        hfresh m (by rw [metasOfs]; exact List.mem_append_left _ hm)
      have hfos : ∀ m ∈ metasOfs os, m.varRes = none := fun m hm =>
        hfresh m (by rw [metasOfs]; exact List.mem_append_right _ hm)
      intro m hm site line h
      rw [List.map_cons, metasOfs, List.mem_append] at hm
      rcases hm with hm | hm
      · cases o with
        | defn mo ws =>
          have hmo : mo.varRes = none := hfo mo (by rw [metasOf]; exact List.mem_singleton.mpr rfl)
          dsimp only at hm
          split at hm
          · rw [metasOf, List.mem_singleton] at hm
            subst hm
            rw [hmo] at h; cases h
          · cases hid : mo.id with
            | none =>
              simp only [hid] at hm
              rw [metasOf, List.mem_singleton] at hm
              subst hm
              rw [hmo] at h; cases h
            | some id =>
              simp only [hid] at hm
              rw [metasOf, List.mem_singleton] at hm
              subst hm
              simp only [Option.some.injEq] at h
              cases hres : resolveWords env (total + 2) C id ws diff with
              | ok rws => rw [hres] at h; cases h
              | error err =>
                rw [hres] at h
                rcases resolveWords_errors_n2 env _ _ _ _ _ _ hres with ⟨s, hs, l, rfl⟩ | rfl | rfl
                · simp only [VarRes.err.injEq] at h
                  rw [← h.1]
                  exact .inl hs
                · simp only [VarRes.err.injEq] at h
                  exact .inr h.1.symm
                · simp only [VarRes.err.injEq] at h
                  exact .inr h.1.symm
        | scope mo kids =>
          dsimp only at hm
          rw [metasOf, List.mem_cons] at hm
          rcases hm with rfl | hm
          · rw [hfo m (by rw [metasOf]; exact List.mem_cons_self)] at h; cases h
          · exact ih C kids (fun m' hm' => hfo m' (by rw [metasOf]; exact List.mem_cons_of_mem _ hm'))
              m hm site line h
      · exact iho hfos m hm site line h

theorem denote_err_sites_n3 (env : Env) (root : List Obj) (hd : DocIds root) (pos : List Nat) (m : Meta)
    (ws : List Word) (ho : objAt root pos = some (.defn m ws)) (diff : Bool) (e : Err)
    (h : denote env root pos diff = .error e) : ∃ s ∈ varsSites, ∃ l, e = .runtime s l := by
  obtain ⟨site, line, rfl⟩ := denote_err_runtime env root _ pos rfl m ws ho diff e h
  have h' : resolveAt env root pos diff = .error (.runtime site line) := by
    rw [resolveAt_eq_denote_vs env root hd pos diff]; exact h
  rcases resolveAt_errors_n2 env root pos diff _ h' with (⟨s, hs, l, hsl⟩ | h1 | h1) | h1 | h1
  · exact ⟨s, hs, l, hsl⟩
  all_goals cases h1

/-- an error of the closed form `treeFetch`: the clash of kinds, or what `fetch_value` raises for an
    enabled source definition (below enabled scopes) -/
theorem firstErrObj_some_n3 : ∀ (mo : Obj) (srcs : List Obj) (e : Err), firstErrObj mo srcs = some e →
    e = incompatibleErr ∨ ∃ x, ActiveIn x srcs ∧ x.isDefn = true ∧ srcErrOf x = some e
  | .defn mm mws, srcs, e, h => by
    rw [firstErrObj] at h
    obtain ⟨x, hx, hxe⟩ := List.exists_of_findSome?_eq_some h
    have hx' := mem_activeNamed.mp hx
    cases x with
    | scope m k => simp only [srcErrOf, Option.some.injEq] at hxe; exact .inl hxe.symm
    | defn m ws => exact .inr ⟨_, .here hx'.1 hx'.2.1, rfl, hxe⟩
  | .scope mm kids, srcs, e, h => by
    rw [firstErrObj] at h
    split at h
    · rw [firstErr_eq_findSome] at h
      obtain ⟨k, hk, hke⟩ := List.exists_of_findSome?_eq_some h
      rcases firstErrObj_some_n3 k (srcStep srcs mm.name) e hke with h1 | ⟨x, hx, hd, hxe⟩
      · exact .inl h1
      · exact .inr ⟨x, activeIn_srcStep hx, hd, hxe⟩
    · cases h; exact .inl rfl
termination_by mo => sizeOf mo
decreasing_by
  have := List.sizeOf_lt_of_mem hk
  simp only [Obj.scope.sizeOf_spec]
  omega

end Phil
