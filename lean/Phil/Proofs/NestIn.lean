/-
  The chain of scopes `nestIn id b ns y` that `scope.adopt` builds for a dotted name (Phil/Proofs/DottedNames.lean),
  seen by the notions of the nested round trip (Phil/Proofs/PrintParseNested.lean): it stays in the class of
  trees, merges names all the way down, has the definitions, the item count and — once per scope — the id of `y`.
  Before that: the canonical unwrapped text of any list of trees parses back (`parseObjs_flatKids_l2`), being the
  printed text at a width at which nothing is wrapped.
  Used by the nested layout grammar (Phil/Proofs/Layout2.lean) and by the command line (Phil/Proofs/ArgTransfer.lean).
-/
import Phil.Proofs.NestedRoundTrip
namespace Phil

/-! ### a width at which nothing is wrapped -/

theorem fits_mono_l2 {w w' : Int} (hle : w ≤ w') (x : Obj) :
    ∀ (ms : List Str) (ind : Str), Fits w x ms ind → Fits w' x ms ind := by
  induction x using Obj.ind_mem with
  | defn m ws => intro ms ind h; unfold Fits at h ⊢; omega
  | scope m os ih =>
    intro ms ind h
    unfold Fits at h ⊢
    simp only [FitsAll_iff] at h ⊢
    split
    · rename_i hfm; rw [if_pos hfm] at h; exact fun c hc => ih c hc _ _ (h c hc)
    · rename_i hfm; rw [if_neg hfm] at h; exact fun c hc => ih c hc _ _ (h c hc)

mutual
theorem fits_exists_l2 : ∀ (x : Obj) (ms : List Str) (ind : Str), ∃ w, Fits w x ms ind
  | .defn m ws, ms, ind =>
    ⟨((ind ++ defHead (dottedName ms m.name) ++ wordsText ws).length : Int) + 2, by unfold Fits; omega⟩
  | .scope m os, ms, ind => by
    by_cases hfm : firstMerges os = true
    · obtain ⟨w, hw⟩ := fitsAll_exists_l2 os (ms ++ [m.name]) ind
      exact ⟨w, by unfold Fits; rw [if_pos hfm]; exact hw⟩
    · obtain ⟨w, hw⟩ := fitsAll_exists_l2 os [] (deeper ind)
      exact ⟨w, by unfold Fits; rw [if_neg hfm]; exact hw⟩
theorem fitsAll_exists_l2 : ∀ (os : List Obj) (ms : List Str) (ind : Str), ∃ w, FitsAll w os ms ind
  | [], _, _ => ⟨0, by unfold FitsAll; trivial⟩
  | x :: xs, ms, ind => by
    obtain ⟨w1, h1⟩ := fits_exists_l2 x ms ind
    obtain ⟨w2, h2⟩ := fitsAll_exists_l2 xs ms ind
    rw [FitsAll_iff] at h2
    refine ⟨max w1 w2, ?_⟩
    unfold FitsAll
    exact ⟨fits_mono_l2 (Int.le_max_left _ _) x ms ind h1, (FitsAll_iff ..).mpr fun c hc =>
      fits_mono_l2 (Int.le_max_right _ _) c ms ind (h2 c hc)⟩
end

/-- **`parse` of the canonical unwrapped text of a document of trees** (`flatKids`: one line per
    definition, `name {` … `}` for a proper scope, dotted names for chains; no print width involved) -/
theorem parseObjs_flatKids_l2 (objs : List Obj) (h : RTAll objs) (hc : allDefnsList ChainOK objs) :
    ∃ objs', parseObjs (flatKids objs [] []) = .ok objs' ∧ eraseList objs' = eraseList objs ∧
      idsList objs' = (expIdsSeq 1 objs).map some := by
  obtain ⟨w, hw⟩ := fitsAll_exists_l2 objs [] []
  obtain ⟨e, hok⟩ := fits_kids w objs [] [] hw
  obtain ⟨objs', h1, h2, h3⟩ := parseObjs_trees w objs h (hok hc)
  exact ⟨objs', by rw [← e]; exact h1, h2, h3⟩

/-! ### the chain -/

theorem nestIn_merge_l2 (id : Option Nat) (b : Bool) (ns : List Str) (y : Obj)
    (hy : y.meta.mergeNames = b) : (nestIn id b ns y).meta.mergeNames = b := by
  cases ns with
  | nil => exact hy
  | cons n ns => rfl

/-- A function of a tree and of the names merged so far that, at a scope merging its name into its only
    child, goes on with the child under the longer name (`treeText`, `flatText`, `WrapsOK`, `Fits`): on the
    chain it sees `y` below the whole path. -/
theorem nestIn_path {β : Sort _} (F : Obj → List Str → β) (id : Option Nat) (y : Obj)
    (step : ∀ b n k ms, firstMerges [k] = true →
      F (.scope { name := n, id := id, mergeNames := b } [k]) ms = F k (ms ++ [n])) :
    ∀ (ns ms : List Str) (b : Bool), (ns ≠ [] → y.meta.mergeNames = true) →
      F (nestIn id b ns y) ms = F y (ms ++ ns) := by
  intro ns
  induction ns with
  | nil => intro ms b _; rw [List.append_nil]; rfl
  | cons n ns ih =>
    intro ms b h
    have hm := h (List.cons_ne_nil n ns)
    rw [nestIn, step b n _ ms (nestIn_merge_l2 id true ns y hm), ih _ true fun _ => hm,
      List.append_assoc]
    rfl

theorem flatText_nestIn_l2 (id : Option Nat) (y : Obj) (ind : Str) :
    ∀ (ns ms : List Str) (b : Bool), (ns ≠ [] → y.meta.mergeNames = true) →
      flatText (nestIn id b ns y) ms ind = flatText y (ms ++ ns) ind :=
  nestIn_path (fun x ms => flatText x ms ind) id y fun b n k ms h => by
    rw [flatText, h, if_pos rfl, flatKids, flatKids, List.append_nil]

theorem rtnode_nestIn_l2 (ns : List Str) (y : Obj) : ∀ (ms : List Str),
    GoodPath ns → RTNode (ms ++ ns) y → RTNode ms (nestIn none (!ms.isEmpty) ns y) := by
  induction ns with
  | nil => intro ms _ h; simpa [nestIn] using h
  | cons n ns ih =>
    intro ms hp h
    have hn : goodName n = true := hp n (by simp)
    have hp' : GoodPath ns := fun k hk => hp k (by simp [hk])
    rw [nestIn]
    unfold RTNode
    refine ⟨rfl, hn, Or.inr ?_⟩
    unfold RTOne
    refine ⟨?_, rfl⟩
    have e : (!(ms ++ [n]).isEmpty) = true := by cases ms <;> rfl
    have := ih (ms ++ [n]) hp' (by simpa using h)
    rw [e] at this
    exact this

theorem allDefns_nestIn_l2 (P : List Word → Prop) (id : Option Nat) (ns : List Str) (y : Obj) :
    ∀ b, (nestIn id b ns y).allDefns P ↔ y.allDefns P := by
  induction ns with
  | nil => intro b; rfl
  | cons n ns ih =>
    intro b
    rw [nestIn, Obj.allDefns, allDefnsList, allDefnsList, ih]
    simp

/-- ids and item count of a dotted chain: the scopes share the id of the item -/
theorem expIds_nestIn_l2 (id : Option Nat) (i : Nat) (p : List Str) (y : Obj) : ∀ b,
    (p ≠ [] → y.meta.mergeNames = true) →
    expIds i (nestIn id b p y) = List.replicate p.length i ++ expIds i y ∧
    (nestIn id b p y).items = y.items := by
  induction p with
  | nil => intro b _; exact ⟨rfl, rfl⟩
  | cons n ns ih =>
    intro b hy
    have hfm : firstMerges [nestIn id true ns y] = true :=
      nestIn_merge_l2 id true ns y (hy (by simp))
    obtain ⟨h1, h2⟩ := ih true (fun _ => hy (by simp))
    constructor
    · rw [nestIn, expIds, hfm]
      simp only [↓reduceIte, expIdsSame, List.append_nil, h1, List.length_cons, List.replicate_succ,
        List.cons_append]
    · rw [nestIn, Obj.items, hfm]
      simp only [↓reduceIte, itemsList, h2, Nat.add_zero]

end Phil
