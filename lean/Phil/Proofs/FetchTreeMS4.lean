/-
  Phil.Proofs.FetchTreeMS4 — C06 on masters with further master occurrences (`MSMaster2`): `ms2Paths`, the dotted
  paths of the master PARAMETERS, are the definitions reached through the FIRST enabled occurrence of every name, at
  every level (a further occurrence of a `.multiple` object is a candidate, i.e. a source of values — it declares
  no parameter; a disabled object declares none); the consumed ids `ms2Used` are exactly the ids of the entries of
  `all_definitions(sources)` whose path is in `ms2Paths`.
  And diff mode on `MSMaster2`: the candidate loop with master-provided candidates (the `-1` marker), the
  specification `ms2Diff`, the closed form `diff_ms2_of_furtherSrc`, and laws on the specification (the exact
  restoring of a `.multiple` definition when nothing is blocked is proved in Props/C08TreeMS2.lean).
-/
import Phil.Proofs.FetchTreeMS3
import Phil.Proofs.DiffTree
namespace Phil

/-! ## 1. the master parameters of an `MSMaster2` -/

mutual
def ms2PathsObj : Obj → Str → List Str
  | .defn mm _, p => [p ++ mm.name]
  | .scope mm kids, p => ms2Paths [] kids (p ++ mm.name ++ ['.'])
/-- the full (dotted) paths of the master parameters below the prefix `p`: the definitions reached
    through the first enabled occurrence of every name not in `seen` -/
def ms2Paths : List Str → List Obj → Str → List Str
  | _, [], _ => []
  | seen, mo :: rest, p =>
    if mo.meta.disabled || seen.contains mo.name then ms2Paths seen rest p
    else ms2PathsObj mo p ++ ms2Paths (mo.name :: seen) rest p
end

mutual
theorem ms2PathsObj_prefix : ∀ (mo : Obj) (p q : Str), q ∈ ms2PathsObj mo p → ∃ r, q = p ++ r
  | .defn mm mws, p, q, h => by
    rw [ms2PathsObj, List.mem_singleton] at h
    exact ⟨mm.name, h⟩
  | .scope mm kids, p, q, h => by
    rw [ms2PathsObj] at h
    obtain ⟨r, hr⟩ := ms2Paths_prefix kids [] _ q h
    exact ⟨mm.name ++ ['.'] ++ r, by rw [hr]; simp⟩
theorem ms2Paths_prefix : ∀ (l : List Obj) (seen : List Str) (p q : Str), q ∈ ms2Paths seen l p → ∃ r, q = p ++ r
  | [], seen, p, q, h => by rw [ms2Paths] at h; cases h
  | mo :: rest, seen, p, q, h => by
    rw [ms2Paths] at h
    split at h
    · exact ms2Paths_prefix rest seen p q h
    · rcases List.mem_append.mp h with h | h
      · exact ms2PathsObj_prefix mo p q h
      · exact ms2Paths_prefix rest _ p q h
end

/-! ## 2. the consumed ids -/

mutual
theorem mem_ms2UsedObj : ∀ (mo : Obj) (srcs : List Obj) (p : Str) (i : Nat),
    MS2Obj mo → mo.meta.disabled = false → NoIncludeTree [mo] → SrcPlain srcs →
    (i ∈ ms2UsedObj mo srcs ↔
      ∃ x ∈ allDefsObj.allDefsList srcs p, x.2.1.id = some i ∧ x.1 ∈ ms2PathsObj mo p)
  | .defn mm mws, srcs, p, i, ht, hen, hinc, hs => by
    rw [MS2Obj] at ht
    have h := mem_treeUsedObj_tm (.defn mm mws) srcs p i
      (by rw [TMObj]; exact ⟨ht.1, ht.2.1, ht.2.2, hen⟩) hinc hs
    rw [treeUsedObj, defPathsObj] at h
    rw [ms2UsedObj, ms2PathsObj]
    exact h
  | .scope mm kids, srcs, p, i, ht, hen, hinc, hs => by
    have hkids := (MSMaster2.of_scope ht).kids
    rw [MS2Obj] at ht
    have hinck : NoIncludeTree kids := fun d hd hdef =>
      hinc d (hd.kid hen) hdef
    rw [ms2UsedObj, ms2PathsObj]
    exact mem_usedScope_ms mm srcs p i ht.2.1 hs (ms2Used [] kids) _
      (fun S hS => mem_ms2Used kids [] S _ i hkids hinck hS) (fun q hq => ms2Paths_prefix kids _ _ _ hq)
theorem mem_ms2Used : ∀ (mkids : List Obj) (seen : List Str) (srcs : List Obj) (p : Str) (i : Nat),
    MS2Kids mkids → NoIncludeTree mkids → SrcPlain srcs →
    (i ∈ ms2Used seen mkids srcs ↔
      ∃ x ∈ allDefsObj.allDefsList srcs p, x.2.1.id = some i ∧ x.1 ∈ ms2Paths seen mkids p)
  | [], seen, srcs, p, i, _, _, _ => by
    rw [ms2Used, ms2Paths]
    simp
  | mo :: rest, seen, srcs, p, i, ht, hinc, hs => by
    rw [MS2Kids] at ht
    rw [ms2Used, ms2Paths]
    by_cases hskip : (mo.meta.disabled || seen.contains mo.name) = true
    · simp only [hskip, if_true]
      exact mem_ms2Used rest seen srcs p i ht.2 hinc.tail hs
    · simp only [hskip, Bool.false_eq_true, if_false]
      have hen : mo.meta.disabled = false := by
        simp only [Bool.or_eq_true, not_or, Bool.not_eq_true] at hskip
        exact hskip.1
      rw [List.mem_append, mem_ms2UsedObj mo srcs p i ht.1 hen hinc.head hs,
        mem_ms2Used rest (mo.name :: seen) srcs p i ht.2 hinc.tail hs]
      simp only [List.mem_append, and_or_left, exists_or]
end

/-- **C06 (unused list, exactly) with further master occurrences.** -/
theorem ms2_unused_exact (e : Envs) (fuel : Nat) (sm : Meta) (mkids srcs : List Obj)
    (hf : MSMaster2 mkids) (hfuel : depthL mkids + 1 ≤ fuel) (hsd : sm.disabled = false)
    (hinc : NoIncludeTree mkids) (hsrc : SrcTree srcs) (hmsrc : SrcTree mkids) (hs : SrcPlain srcs)
    (hkeys : KeysDefinedMS2 e [] mkids srcs)
    (hsome : ∀ x ∈ allDefinitions srcs, x.2.1.id ≠ none)
    (hids : ((allDefinitions srcs).map (fun x => x.2.1.id)).Nodup)
    (ro : Obj) (used : List Nat)
    (h : fetchScope e fuel false sm mkids srcs = .ok (ro, used)) :
    (allDefinitions srcs).filter (notConsumed used) =
      (allDefinitions srcs).filter (fun x => !(ms2Paths [] mkids []).contains x.1) := by
  obtain ⟨_, _, rfl⟩ := ok_of_total (fetch_ms2_total e fuel sm mkids srcs hf hfuel hsd hsrc hmsrc hkeys) h
  exact unused_filter_exact_tree _ srcs _ hsome hids (fun i => mem_ms2Used mkids [] srcs [] i hf.kids hinc hs)


/-! ## 3. diff mode: the candidate loop with master-provided candidates (the `-1` marker) -/

/-- one step of the master phase: no instance is kept; the key of a candidate, unless it is the master's, is
    recorded with `-1` -/
theorem cstepG_master_diff_ms4 (F : FetchFn) (e : Envs) (fuel : Nat) (mo : Obj) (k0 : Str) (fm : Bool × Obj)
    (x : Option (Obj × Str) × List Nat) (hl : CLink F e fuel true mo fm x) (hfm : fm.1 = true)
    (PB : List (Str × Int)) (used : List Nat) (hneg : AllNeg PB) :
    ∃ PB', cstepG F e fuel true mo k0 (([] : List (Option Obj)), PB, used) fm = .ok ([], PB', used ++ x.2) ∧
      AllNeg PB' ∧
      ∀ k, k ∈ PB'.map (·.1) ↔ (k ∈ PB.map (·.1) ∨ (k ≠ k0 ∧ ∃ ck, x.1 = some ck ∧ k = ck.2)) := by
  obtain ⟨xo, u⟩ := x
  cases xo with
  | none =>
    refine ⟨PB, ?_, hneg, fun k => by simp⟩
    unfold cstepG
    simp only [show candOf F e fuel true mo fm.1 fm.2 = .ok (none, u) from hl, ite_self]
  | some ck =>
    obtain ⟨hc, hk'⟩ : candOf F e fuel true mo fm.1 fm.2 = .ok (some ck.1, u) ∧
      extractFormatStr e (fuel + 64) mo ck.1 = .ok ck.2 := hl
    have hstep : cstepG F e fuel true mo k0 (([] : List (Option Obj)), PB, used) fm =
        if ck.2 == k0 then .ok ([], PB, used ++ u)
        else cAccept true true ck.2 ck.1 u [] PB used := by
      unfold cstepG
      simp only [hc, hk']
      rw [hfm]
    rw [hstep]
    -- a key that is the master's, or recorded already, adds nothing
    have hskip : (ck.2 = k0 ∨ ck.2 ∈ PB.map (·.1)) → ∀ k, k ∈ PB.map (·.1) ↔
        (k ∈ PB.map (·.1) ∨ (k ≠ k0 ∧ ∃ ck', some ck = some ck' ∧ k = ck'.2)) := by
      intro h k
      refine ⟨.inl, ?_⟩
      rintro (hb | ⟨h1, ck', hck, rfl⟩)
      · exact hb
      · cases hck
        exact h.elim (fun h => absurd h h1) id
    cases hkk : ck.2 == k0 with
    | true => exact ⟨PB, rfl, hneg, hskip (.inl (by simpa using hkk))⟩
    | false =>
      simp only [Bool.false_eq_true, if_false]
      by_cases hin : ck.2 ∈ PB.map (·.1)
      · have hb := book_blocked (true && true) [] PB [] ck.2 ck.1 hneg hin
        rw [List.append_nil] at hb
        exact ⟨PB, by rw [cAccept_eq, hb], hneg, hskip (.inr hin)⟩
      · refine ⟨PB ++ [(ck.2, -1)], ?_, ?_, ?_⟩
        · unfold cAccept
          simp only [find_none_of_not_key PB ck.2 hin, filter_self_of_not_key PB ck.2 hin,
            Bool.false_eq_true, if_false, Bool.and_self, if_true]
        · intro p hp
          rcases List.mem_append.mp hp with hp | hp
          · exact hneg p hp
          · rw [List.mem_singleton] at hp; subst hp; rfl
        · intro k
          simp only [List.map_append, List.mem_append, List.map_cons, List.map_nil, List.mem_singleton]
          constructor
          · rintro (h | rfl)
            · exact .inl h
            · exact .inr ⟨by simpa using hkk, ck, rfl, rfl⟩
          · rintro (h | ⟨_, ck', hck, rfl⟩)
            · exact .inl h
            · cases hck; exact .inr rfl

theorem master_fold_diff_ms4 (F : FetchFn) (e : Envs) (fuel : Nat) (mo : Obj) (k0 : Str)
    (cand : Obj → Option (Obj × Str)) :
    ∀ (FM : List Obj), (∀ x ∈ FM, CLink F e fuel true mo (true, x) (cand x, [])) →
    ∀ (PB : List (Str × Int)) (used : List Nat), AllNeg PB →
    ∃ PB', (FM.map (fun x => (true, x))).foldlM (cstepG F e fuel true mo k0) (([] : List (Option Obj)), PB, used) =
        .ok ([], PB', used) ∧ AllNeg PB' ∧
      ∀ k, k ∈ PB'.map (·.1) ↔ (k ∈ PB.map (·.1) ∨ (k ≠ k0 ∧ k ∈ (FM.filterMap cand).map (·.2))) := by
  intro FM
  induction FM with
  | nil =>
    intro _ PB used hneg
    exact ⟨PB, rfl, hneg, by simp⟩
  | cons x FM ih =>
    intro h PB used hneg
    obtain ⟨PB1, h1, hn1, hk1⟩ :=
      cstepG_master_diff_ms4 F e fuel mo k0 (true, x) _ (h x List.mem_cons_self) rfl PB used hneg
    rw [List.append_nil] at h1
    obtain ⟨PB', hf, hn, hk⟩ := ih (fun y hy => h y (List.mem_cons_of_mem _ hy)) PB1 used hn1
    refine ⟨PB', ?_, hn, ?_⟩
    · rw [List.map_cons, List.foldlM_cons, h1]
      exact hf
    · intro k
      rw [hk k, hk1 k]
      cases hc : cand x with
      | none => simp [hc]
      | some ck =>
        rw [List.filterMap_cons_some hc, List.map_cons, List.mem_cons]
        constructor
        · rintro ((h | ⟨h1, _, hck, rfl⟩) | ⟨h1, h2⟩)
          · exact .inl h
          · cases hck; exact .inr ⟨h1, .inl rfl⟩
          · exact .inr ⟨h1, .inr h2⟩
        · rintro (h | ⟨h1, rfl | h2⟩)
          · exact .inl (.inl h)
          · exact .inl (.inr ⟨h1, ck, rfl, rfl⟩)
          · exact .inr ⟨h1, h2⟩
/-! ## 4. diff mode on `MSMaster2`: the specification `ms2Diff` -/

mutual
/-- the block the FIRST occurrence `mo` contributes to a difference, `FM` being its further master
    occurrences (enabled later siblings of the same name) and `srcs` the source objects at its level.
    A `.multiple` object: NO template; the candidates built from the sources go through the list rule
    (`survivorsOf`: dropped when equal to the master's key, of equal keys the last stays) AFTER the candidates
    whose key is the key of a candidate built from a further master occurrence are removed (the `-1` marker:
    a master-provided instance is never part of the difference and blocks an equal source instance).
    For a `.multiple` scope the candidates are the NON-EMPTY differences of the body against ONE block. -/
def md2Block (e : Envs) : Obj → List Obj → List Obj → List Obj
  | .defn mm mws, FM, srcs =>
    if isMultiple (.defn mm mws) then
      survivorsOf (keyOf e 0 (.defn mm mws) (.defn mm mws))
        ((candsOf e 0 (.defn mm mws) (defsNamed mm.name srcs)).filter (fun y =>
          !((candsOf e 0 (.defn mm mws) (defsNamed mm.name FM)).map (·.2)).contains y.2))
    else diffBlockL e 0 (.defn mm mws) (defsNamed mm.name srcs)
  | .scope mm kids, FM, srcs =>
    if (mm.attrs.get "multiple").truthy then
      survivorsOf (keyMS e (.scope mm kids) (.scope { mm with tmpl := 0 } (ms2Result e [] kids [])))
        ((((scopesNamed mm.name srcs).filter (fun s => !(ms2Diff e [] kids s.children).isEmpty)).map (fun s =>
          (Obj.scope { mm with tmpl := 0 } (ms2Diff e [] kids s.children),
           keyMS e (.scope mm kids) (Obj.scope { mm with tmpl := 0 } (ms2Diff e [] kids s.children))))).filter
          (fun y => !((((scopesNamed mm.name FM).filter (fun s => !(ms2Diff e [] kids s.children).isEmpty)).map
            (fun s => keyMS e (.scope mm kids) (Obj.scope { mm with tmpl := 0 } (ms2Diff e [] kids s.children)))).contains y.2)))
    else if (ms2Diff e [] kids (srcStep srcs mm.name)).isEmpty then []
      else [.scope { mm with tmpl := 0 } (ms2Diff e [] kids (srcStep srcs mm.name))]
/-- **the difference on `MSMaster2`**: the children of `master.fetch_diff(sources)` — the blocks of the first
    enabled occurrences, in master order -/
def ms2Diff (e : Envs) : List Str → List Obj → List Obj → List Obj
  | _, [], _ => []
  | seen, mo :: rest, srcs =>
    if mo.meta.disabled || seen.contains mo.name then ms2Diff e seen rest srcs
    else md2Block e mo (activeNamed mo.name rest) srcs ++ ms2Diff e (mo.name :: seen) rest srcs
end

/-- the difference candidate of the `.multiple` master scope `.scope mm kids` from ONE block `sk` -/
abbrev md2Cand (e : Envs) (mm : Meta) (kids sk : List Obj) : Obj :=
  .scope { mm with tmpl := 0 } (ms2Diff e [] kids sk)

mutual
def keysDiffMS2ObjB (e : Envs) : Obj → List Obj → List Obj → Bool
  | .defn mm mws, FM, srcs => keysDefinedB e 0 (.defn mm mws) (defsNamed mm.name (FM ++ srcs))
  | .scope mm kids, FM, srcs =>
    if (mm.attrs.get "multiple").truthy then
      keysDefinedMS2B e [] kids [] &&
      (errOf (extractFormatStr e (depthL kids + 1 + 64) (.scope mm kids)
              (.scope { mm with tmpl := 0 } (ms2Result e [] kids [])))).isNone &&
      (scopesNamed mm.name (FM ++ srcs)).all (fun s =>
        keysDiffMS2B e [] kids s.children &&
        ((ms2Diff e [] kids s.children).isEmpty ||
         (errOf (extractFormatStr e (depthL kids + 1 + 64) (.scope mm kids)
              (.scope { mm with tmpl := 0 } (ms2Diff e [] kids s.children)))).isNone))
    else keysDiffMS2B e [] kids (srcStep srcs mm.name)
def keysDiffMS2B (e : Envs) : List Str → List Obj → List Obj → Bool
  | _, [], _ => true
  | seen, mo :: rest, srcs =>
    if mo.meta.disabled || seen.contains mo.name then keysDiffMS2B e seen rest srcs
    else keysDiffMS2ObjB e mo (activeNamed mo.name rest) srcs && keysDiffMS2B e (mo.name :: seen) rest srcs
end


/-! ## 5. the `.multiple` branch in diff mode with master-provided candidates -/

theorem filter_blocked_congr_ms4 (k0 : Str) (L : List (Obj × Str)) (p q : Obj × Str → Bool)
    (h : ∀ y ∈ L, y.2 ≠ k0 → p y = q y) :
    (L.filter p).filter (fun y => y.2 != k0) = (L.filter q).filter (fun y => y.2 != k0) := by
  rw [List.filter_filter, List.filter_filter]
  apply List.filter_congr
  intro y hy
  by_cases hk : y.2 = k0
  · simp [hk]
  · rw [h y hy hk]

/-- **the whole `.multiple` branch in diff mode, the candidates `FM` provided by the master first** (all
    candidates linked: `cand` is the difference candidate with its key — none when the difference is empty —,
    `us` the ids consumed by a candidate from the sources): no template; the survivors of the list rule over the
    source candidates whose key is not the key of a master-provided candidate -/
theorem multiBranch_diff_ms4 (F : FetchFn) (e : Envs) (fuel : Nat) (mkids : List Obj) (idx : Nat)
    (mo : Obj) (k0 : Str) (FM A : List Obj) (cand : Obj → Option (Obj × Str)) (us : Obj → List Nat)
    (out : List Obj) (used : List Nat)
    (hk0 : masterKeyG F e fuel mo = .ok k0)
    (hfm : fromMasterOf mkids idx mo = FM.map (fun x => (true, x)))
    (hlink : ∀ fm ∈ candsFl FM A, CLink F e fuel true mo fm (cand fm.2, if fm.1 then [] else us fm.2)) :
    multiBranch F e fuel true mkids idx mo A out used =
      .ok (out ++ survivorsOf k0 ((A.filterMap cand).filter
              (fun y => !((FM.filterMap cand).map (·.2)).contains y.2)),
           used ++ A.flatMap us) := by
  obtain ⟨PB, hf1, hneg, hkeys⟩ := master_fold_diff_ms4 F e fuel mo k0 cand FM
    (fun x hx => hlink (true, x) (List.mem_append_left _ (List.mem_map_of_mem hx))) [] used (by intro p hp; cases hp)
  obtain ⟨r', p', T', hf2, hi, hs⟩ := cand_fold F e fuel true mo k0 PB hneg _ _
    (forall2_map _ (fun fm => (cand fm.2, (if fm.1 then [] else us fm.2 : List Nat))) _
      (fun fm h => hlink fm (List.mem_append_right _ h)))
    (fun fm h => by obtain ⟨o, _, rfl⟩ := List.mem_map.mp h; rfl) [] [] used [] MInv.nil
  rw [List.append_nil] at hf2
  unfold multiBranch
  rw [hk0, hfm]
  simp only
  rw [List.foldlM_append, hf1]
  simp only [bind, Except.bind]
  rw [hf2]
  simp only
  have hcongr : ((A.filterMap cand).filter (fun y => !(PB.map (·.1)).contains y.2)).filter (fun y => y.2 != k0) =
      ((A.filterMap cand).filter
        (fun y => !((FM.filterMap cand).map (·.2)).contains y.2)).filter (fun y => y.2 != k0) := by
    apply filter_blocked_congr_ms4
    intro y _ hne
    congr 1
    apply Bool.eq_iff_iff.mpr
    simp only [List.contains_eq_mem, decide_eq_true_eq]
    rw [hkeys y.2]
    simp [hne]
  simp only [List.map_map, List.filterMap_map, Function.comp_def] at hs
  rw [(hi.survivors k0 _ hs).1, hcongr]
  unfold tmplObjsOf survivorsOf
  simp [List.flatMap_def, Function.comp_def]

/-! ## 6. the members of a block (the blocking rule); depth of the difference; the key hypothesis -/

theorem mem_survivorsOf_ms4 {k0 : Str} {cks : List (Obj × Str)} {o : Obj} (h : o ∈ survivorsOf k0 cks) :
    ∃ x ∈ cks, o = x.1 ∧ x.2 ≠ k0 := by
  unfold survivorsOf at h
  obtain ⟨x, hx, rfl⟩ := List.mem_map.mp h
  have := List.mem_filter.mp ((dedupKeepLast_sublist _).subset hx)
  exact ⟨x, this.1, rfl, by simpa using this.2⟩

theorem md2Block_multi_scope_eq (e : Envs) (mm : Meta) (kids FM srcs : List Obj)
    (hmult : (mm.attrs.get "multiple").truthy = true) :
    md2Block e (.scope mm kids) FM srcs =
      survivorsOf (keyMS e (.scope mm kids) (ms2Cand e mm kids []))
        ((((scopesNamed mm.name srcs).filter (fun s => !(ms2Diff e [] kids s.children).isEmpty)).map (fun s =>
          (md2Cand e mm kids s.children, keyMS e (.scope mm kids) (md2Cand e mm kids s.children)))).filter
          (fun y => !((((scopesNamed mm.name FM).filter (fun s => !(ms2Diff e [] kids s.children).isEmpty)).map
            (fun s => keyMS e (.scope mm kids) (md2Cand e mm kids s.children))).contains y.2))) := by
  rw [md2Block]; simp only [hmult, if_true]

theorem md2Block_multi_defn_eq (e : Envs) (mm : Meta) (mws : List Word) (FM srcs : List Obj)
    (hmult : isMultiple (.defn mm mws) = true) :
    md2Block e (.defn mm mws) FM srcs =
      survivorsOf (keyOf e 0 (.defn mm mws) (.defn mm mws))
        ((candsOf e 0 (.defn mm mws) (defsNamed mm.name srcs)).filter (fun y =>
          !((candsOf e 0 (.defn mm mws) (defsNamed mm.name FM)).map (·.2)).contains y.2)) := by
  rw [md2Block]; simp only [hmult, if_true]

/-- members of the block of a `.multiple` scope: a non-empty difference candidate of a SOURCE block whose
    key is neither the master's nor the key of a (non-empty) candidate of a further master occurrence -/
theorem mem_md2Block_multi_scope (e : Envs) (mm : Meta) (kids FM srcs : List Obj)
    (hmult : (mm.attrs.get "multiple").truthy = true) (o : Obj)
    (ho : o ∈ md2Block e (.scope mm kids) FM srcs) :
    ∃ s ∈ scopesNamed mm.name srcs, o = md2Cand e mm kids s.children ∧
      (ms2Diff e [] kids s.children).isEmpty = false ∧
      keyMS e (.scope mm kids) o ≠ keyMS e (.scope mm kids) (ms2Cand e mm kids []) ∧
      ∀ t ∈ scopesNamed mm.name FM, (ms2Diff e [] kids t.children).isEmpty = false →
        keyMS e (.scope mm kids) (md2Cand e mm kids t.children) ≠ keyMS e (.scope mm kids) o := by
  rw [md2Block_multi_scope_eq e mm kids FM srcs hmult] at ho
  obtain ⟨x, hx, rfl, hne⟩ := mem_survivorsOf_ms4 ho
  obtain ⟨hx1, hx2⟩ := List.mem_filter.mp hx
  obtain ⟨s, hs, rfl⟩ := List.mem_map.mp hx1
  obtain ⟨hs1, hs2⟩ := List.mem_filter.mp hs
  refine ⟨s, hs1, rfl, by simpa using hs2, hne, ?_⟩
  intro t ht hte heq
  have : (((scopesNamed mm.name FM).filter (fun s => !(ms2Diff e [] kids s.children).isEmpty)).map
      (fun s => keyMS e (.scope mm kids) (md2Cand e mm kids s.children))).contains
      (keyMS e (.scope mm kids) (md2Cand e mm kids s.children)) = true := by
    rw [List.contains_iff_mem]
    exact List.mem_map.mpr ⟨t, List.mem_filter.mpr ⟨ht, by simp [hte]⟩, heq⟩
  simp only at hx2
  rw [this] at hx2
  cases hx2

theorem mem_md2Block_multi_defn (e : Envs) (mm : Meta) (mws : List Word) (FM srcs : List Obj)
    (hmult : isMultiple (.defn mm mws) = true) (o : Obj)
    (ho : o ∈ md2Block e (.defn mm mws) FM srcs) :
    ∃ d ∈ defsNamed mm.name srcs, o = candOfSrc (.defn mm mws) d ∧
      keyOf e 0 (.defn mm mws) o ≠ keyOf e 0 (.defn mm mws) (.defn mm mws) ∧
      ∀ t ∈ defsNamed mm.name FM,
        keyOf e 0 (.defn mm mws) (candOfSrc (.defn mm mws) t) ≠ keyOf e 0 (.defn mm mws) o := by
  rw [md2Block_multi_defn_eq e mm mws FM srcs hmult] at ho
  obtain ⟨x, hx, rfl, hne⟩ := mem_survivorsOf_ms4 ho
  obtain ⟨hx1, hx2⟩ := List.mem_filter.mp hx
  unfold candsOf at hx1
  obtain ⟨d, hd, rfl⟩ := List.mem_map.mp hx1
  refine ⟨d, hd, rfl, hne, ?_⟩
  intro t ht heq
  have : ((candsOf e 0 (.defn mm mws) (defsNamed mm.name FM)).map (·.2)).contains
      (keyOf e 0 (.defn mm mws) (candOfSrc (.defn mm mws) d)) = true := by
    rw [List.contains_iff_mem]
    unfold candsOf
    rw [List.map_map]
    exact List.mem_map.mpr ⟨t, ht, heq⟩
  simp only at hx2
  rw [this] at hx2
  cases hx2

theorem mem_md2Block_scope_ms4 (e : Envs) (mm : Meta) (kids FM srcs : List Obj) (o : Obj)
    (ho : o ∈ md2Block e (.scope mm kids) FM srcs) :
    ∃ S, o = .scope { mm with tmpl := 0 } (ms2Diff e [] kids S) ∧ ms2Diff e [] kids S ≠ [] := by
  cases hmult : (mm.attrs.get "multiple").truthy with
  | true =>
    obtain ⟨s, _, rfl, hne, _⟩ := mem_md2Block_multi_scope e mm kids FM srcs hmult o ho
    exact ⟨s.children, rfl, by intro h; rw [h] at hne; cases hne⟩
  | false =>
    rw [md2Block] at ho
    simp only [hmult, Bool.false_eq_true, if_false] at ho
    split at ho
    · cases ho
    · rename_i hne
      rw [List.mem_singleton] at ho
      exact ⟨_, ho, by intro h; rw [h] at hne; exact hne rfl⟩

theorem mem_md2Block_defn_ms4 (e : Envs) (mm : Meta) (mws : List Word) (FM srcs : List Obj) (o : Obj)
    (ho : o ∈ md2Block e (.defn mm mws) FM srcs) : ∃ d, o = candOfSrc (.defn mm mws) d := by
  cases hmult : isMultiple (.defn mm mws) with
  | true =>
    obtain ⟨d, _, rfl, _⟩ := mem_md2Block_multi_defn e mm mws FM srcs hmult o ho
    exact ⟨d, rfl⟩
  | false =>
    rw [md2Block] at ho
    simp only [hmult, Bool.false_eq_true, if_false] at ho
    obtain ⟨⟨d, _, rfl⟩, _⟩ := mem_diffBlockL ho
    exact ⟨d, rfl⟩

mutual
theorem depthL_md2Block (e : Envs) : ∀ (mo : Obj) (FM srcs : List Obj),
    depthL (md2Block e mo FM srcs) ≤ depthT mo
  | .defn mm mws, FM, srcs => by
    apply depthL_le_of_forall
    intro o ho
    obtain ⟨d, rfl⟩ := mem_md2Block_defn_ms4 e mm mws FM srcs o ho
    rw [candOfSrc_defn, depthT]
    exact Nat.zero_le _
  | .scope mm kids, FM, srcs => by
    apply depthL_le_of_forall
    intro o ho
    obtain ⟨S, rfl, _⟩ := mem_md2Block_scope_ms4 e mm kids FM srcs o ho
    rw [depthT, depthT]
    exact Nat.succ_le_succ (depthL_ms2Diff e kids [] S)
theorem depthL_ms2Diff (e : Envs) : ∀ (mkids : List Obj) (seen : List Str) (srcs : List Obj),
    depthL (ms2Diff e seen mkids srcs) ≤ depthL mkids
  | [], seen, srcs => by rw [ms2Diff]; exact Nat.le_refl _
  | mo :: rest, seen, srcs => by
    rw [ms2Diff, depthL]
    split
    · exact Nat.le_trans (depthL_ms2Diff e rest seen srcs) (Nat.le_max_right _ _)
    · rw [depthL_append_ms]
      exact Nat.max_le.mpr ⟨Nat.le_trans (depthL_md2Block e mo _ srcs) (Nat.le_max_left _ _),
        Nat.le_trans (depthL_ms2Diff e rest _ srcs) (Nat.le_max_right _ _)⟩
end

mutual
def KeysDiffMS2Obj (e : Envs) : Obj → List Obj → List Obj → Prop
  | .defn mm mws, FM, srcs => KeysDefined e 0 (.defn mm mws) (defsNamed mm.name (FM ++ srcs))
  | .scope mm kids, FM, srcs =>
    if (mm.attrs.get "multiple").truthy then
      KeysDefinedMS2 e [] kids [] ∧
      (∃ k, extractFormatStr e (depthL kids + 1 + 64) (.scope mm kids)
              (.scope { mm with tmpl := 0 } (ms2Result e [] kids [])) = .ok k) ∧
      ∀ s ∈ scopesNamed mm.name (FM ++ srcs),
        KeysDiffMS2 e [] kids s.children ∧
        ((ms2Diff e [] kids s.children).isEmpty = false →
          ∃ k, extractFormatStr e (depthL kids + 1 + 64) (.scope mm kids)
              (.scope { mm with tmpl := 0 } (ms2Diff e [] kids s.children)) = .ok k)
    else KeysDiffMS2 e [] kids (srcStep srcs mm.name)
/-- the keys a difference on `MSMaster2` compares are defined: at every master definition the master's own
    and those of the candidates (further master occurrences and sources); at every `.multiple` master scope the
    key of the master's own fetched block (with the keys that fetch needs) and the key of every NON-EMPTY
    difference candidate, master-provided or not -/
def KeysDiffMS2 (e : Envs) : List Str → List Obj → List Obj → Prop
  | _, [], _ => True
  | seen, mo :: rest, srcs =>
    if mo.meta.disabled || seen.contains mo.name then KeysDiffMS2 e seen rest srcs
    else KeysDiffMS2Obj e mo (activeNamed mo.name rest) srcs ∧ KeysDiffMS2 e (mo.name :: seen) rest srcs
end

mutual
theorem keysDiffMS2ObjB_sound (e : Envs) : ∀ (mo : Obj) (FM srcs : List Obj),
    keysDiffMS2ObjB e mo FM srcs = true → KeysDiffMS2Obj e mo FM srcs
  | .defn mm mws, FM, srcs, h => by
    rw [keysDiffMS2ObjB] at h
    rw [KeysDiffMS2Obj]
    exact keysDefined_of_B h
  | .scope mm kids, FM, srcs, h => by
    rw [keysDiffMS2ObjB] at h
    rw [KeysDiffMS2Obj]
    split
    · rename_i hm
      simp only [hm, if_true, Bool.and_eq_true, List.all_eq_true, Bool.or_eq_true] at h
      refine ⟨keysDefinedMS2B_sound e kids [] [] h.1.1, ok_of_errOf_none h.1.2, ?_⟩
      intro s hs
      refine ⟨keysDiffMS2B_sound e kids [] s.children (h.2 s hs).1, ?_⟩
      intro hne
      rcases (h.2 s hs).2 with h1 | h1
      · rw [hne] at h1; cases h1
      · exact ok_of_errOf_none h1
    · rename_i hm
      simp only [hm, Bool.false_eq_true, if_false] at h
      exact keysDiffMS2B_sound e kids [] _ h
theorem keysDiffMS2B_sound (e : Envs) : ∀ (l : List Obj) (seen : List Str) (srcs : List Obj),
    keysDiffMS2B e seen l srcs = true → KeysDiffMS2 e seen l srcs
  | [], _, _, _ => by rw [KeysDiffMS2]; trivial
  | mo :: rest, seen, srcs, h => by
    rw [keysDiffMS2B] at h
    rw [KeysDiffMS2]
    split
    · rename_i hs
      simp only [hs, if_true] at h
      exact keysDiffMS2B_sound e rest seen srcs h
    · rename_i hs
      simp only [hs, Bool.false_eq_true, if_false, Bool.and_eq_true] at h
      exact ⟨keysDiffMS2ObjB_sound e mo _ srcs h.1, keysDiffMS2B_sound e rest _ srcs h.2⟩
end

theorem ms2Diff_eq_flatMap_ms4 (e : Envs) (srcs : List Obj) : ∀ (l : List Obj) (seen : List Str),
    ms2Diff e seen l srcs = (firstsT_ms3 seen l).flatMap (fun p => md2Block e p.1 p.2 srcs) := by
  intro l
  induction l with
  | nil => intro seen; rw [ms2Diff, firstsT_ms3]; rfl
  | cons o os ih =>
    intro seen
    rw [ms2Diff, firstsT_ms3]
    split
    · exact ih seen
    · rw [List.flatMap_cons, ih]

theorem KeysDiffMS2.obj {e : Envs} {srcs : List Obj} : ∀ {l : List Obj} {seen : List Str},
    KeysDiffMS2 e seen l srcs → ∀ p ∈ firstsT_ms3 seen l, KeysDiffMS2Obj e p.1 p.2 srcs := by
  intro l
  induction l with
  | nil => intro seen _ p hp; rw [firstsT_ms3] at hp; cases hp
  | cons o os ih =>
    intro seen h p hp
    rw [KeysDiffMS2] at h
    rw [firstsT_ms3] at hp
    split at hp
    · rename_i hs
      simp only [hs, if_true] at h
      exact ih h p hp
    · rename_i hs
      simp only [hs] at h
      rw [List.mem_cons] at hp
      rcases hp with rfl | hp
      · exact h.1
      · exact ih h.2 p hp


/-! ## 7. one step of the master loop in diff mode, further master occurrences allowed -/

/-- the difference candidate (with its key) the `.multiple` master definition `mo` builds from the definition `d`:
    none when its key is the master's -/
def ddCand_ms4 (e : Envs) (fu : Nat) (mo d : Obj) : Option (Obj × Str) :=
  (diffCand e fu mo d).map (fun c => (c, keyOf e fu mo c))

theorem filterMap_diffCand_ms4 (e : Envs) (fu : Nat) (mo : Obj) : ∀ (l : List Obj),
    l.filterMap (ddCand_ms4 e fu mo) =
      (candsOf e fu mo l).filter (fun y => y.2 != keyOf e fu mo mo)
  | [] => rfl
  | d :: l => by
    have ih := filterMap_diffCand_ms4 e fu mo l
    unfold candsOf at ih ⊢
    rw [List.map_cons, List.filter_cons, List.filterMap_cons, ih]
    unfold ddCand_ms4 diffCand
    cases h : keyOf e fu mo (candOfSrc mo d) == keyOf e fu mo mo with
    | true => simp [h, bne]
    | false => simp [h, bne]

theorem survivorsOf_blocked_ne_ms4 (k0 : Str) (CS CF : List (Obj × Str)) :
    survivorsOf k0 ((CS.filter (fun y => y.2 != k0)).filter
      (fun y => !((CF.filter (fun y => y.2 != k0)).map (·.2)).contains y.2)) =
    survivorsOf k0 (CS.filter (fun y => !(CF.map (·.2)).contains y.2)) := by
  unfold survivorsOf
  congr 2
  rw [List.filter_filter, List.filter_filter, List.filter_filter]
  apply List.filter_congr
  intro y _
  by_cases hk : y.2 = k0
  · simp [hk]
  · have hne : (y.2 != k0) = true := bne_iff_ne.mpr hk
    have : ((CF.filter (fun y => y.2 != k0)).map (·.2)).contains y.2 = (CF.map (·.2)).contains y.2 := by
      apply Bool.eq_iff_iff.mpr
      simp only [List.contains_eq_mem, decide_eq_true_eq, List.mem_map, List.mem_filter]
      constructor
      · rintro ⟨a, ⟨ha, _⟩, hay⟩; exact ⟨a, ha, hay⟩
      · rintro ⟨a, ha, hay⟩; exact ⟨a, ⟨ha, by rw [hay]; simpa using hk⟩, hay⟩
    simp only [hne, Bool.true_and, Bool.and_true, this]

theorem stepG_multi_diff_ms4 (F : FetchFn) (e : Envs) (f : Nat) (sm : Meta)
    (mkids combined : List Obj) (st : List Obj × List Nat) (idx : Nat) (mm : Meta) (mws : List Word)
    (FM : List Obj)
    (hp : DefnMeta mm) (hmult : isMultiple (.defn mm mws) = true)
    (hfm : fromMasterOf mkids idx (.defn mm mws) = FM.map (fun x => (true, x)))
    (hFM : ∀ x ∈ FM, x.meta.disabled = false ∧ x.name = mm.name)
    (hmatch : fetchMatching (f + 1) sm combined (.defn mm mws) = activeNamed mm.name combined)
    (hsrc : ∀ o ∈ FM ++ combined, o.meta.disabled = false → o.isDefn = true → SrcOK o)
    (hkeys : KeysDefined e 0 (.defn mm mws) (defsNamed mm.name (FM ++ combined))) :
    stepG F e (f + 1) true sm mkids combined st (idx, .defn mm mws) =
      if ms2NoClashObj (.defn mm mws) (FM ++ combined) then
        .ok (st.1 ++ md2Block e (.defn mm mws) FM combined, st.2 ++ ms2UsedObj (.defn mm mws) combined)
      else .error incompatibleErr := by
  obtain ⟨⟨k0, hk0⟩, hcand⟩ := keysDefined_fuel_tm e (f + 1) mm mws _ hkeys
  rw [stepG_multi_cases F e (f + 1) true sm mkids combined st idx (.defn mm mws) mm.name FM k0 srcErrOf
    (ddCand_ms4 e (f + 1) (.defn mm mws)) marksOf _ rfl hmult hfm hFM hmatch hk0 ?_ ?_
    (fun _ => multiBranch_diff_ms4 F e (f + 1) mkids idx _ k0 FM _ (ddCand_ms4 e (f + 1) (.defn mm mws)) marksOf
      st.1 st.2 hk0 hfm)]
  · rw [findSome_srcErrOf_ok _ (fun o ho => hsrc o (mem_activeNamed.mp ho).1 (mem_activeNamed.mp ho).2.1)]
    refine (match_ite_none _ _ _).trans ?_
    rw [all_isDefn_eq_isEmpty, ← scopesNamed_eq_filter_tree, ms2NoClashObj, md2Block, ms2UsedObj]
    simp only [hmult, if_true]
    cases hsc : scopesNamed mm.name (FM ++ combined) with
    | cons sc rest => rfl
    | nil =>
      rw [scopesNamed_append_ms3, List.append_eq_nil_iff] at hsc
      have hdFM : defsNamed mm.name FM = FM := by
        rw [← activeNamed_eq_defsNamed _ _ hsc.1, activeNamed_self_ms3 mm.name FM hFM]
      rw [activeNamed_eq_defsNamed _ _ hsc.2, filterMap_diffCand_ms4, ← hdFM, filterMap_diffCand_ms4, hdFM,
        keyOf_ok hk0, survivorsOf_blocked_ne_ms4, candsOf_fuel_tm, candsOf_fuel_tm, ← keyOf_ok hk0,
        keyOf_fuel_tm, hdFM]
      rfl
  · intro o ho h b
    have hm' := mem_activeNamed.mp ho
    have hdef : o.isDefn = true := by cases o <;> first | rfl | cases h
    obtain ⟨k, hk⟩ := hcand o (mem_defsNamed.mpr ⟨hm'.1, hdef, hm'.2.1, hm'.2.2⟩)
    have h := (candLink_candOfSrc hp hdef (hsrc _ hm'.1 hm'.2.1 hdef) hk).clink_diff (F := F) hk0 b
    unfold ddCand_ms4 diffCand
    rw [keyOf_ok hk0]
    cases hkk : keyOf e (f + 1) (.defn mm mws) (candOfSrc (.defn mm mws) o) == k0 <;>
      simpa only [hkk, Bool.false_eq_true, if_false, if_true, Option.map] using h
  · exact fun o _ E h b acc => cstepG_srcErr F e (f + 1) true mm mws k0 o E h b acc

/-- the difference candidate (with its key) the `.multiple` master scope builds from the scope `s`: none
    when the difference of the body against the block of `s` is empty -/
def sdCand_ms4 (e : Envs) (mm : Meta) (kids : List Obj) (s : Obj) : Option (Obj × Str) :=
  if (ms2Diff e [] kids s.children).isEmpty then none
  else some (md2Cand e mm kids s.children, keyMS e (.scope mm kids) (md2Cand e mm kids s.children))

theorem filterMap_sdCand_ms4 (e : Envs) (mm : Meta) (kids : List Obj) : ∀ (l : List Obj),
    l.filterMap (sdCand_ms4 e mm kids) =
      (l.filter (fun s => !(ms2Diff e [] kids s.children).isEmpty)).map (fun s =>
        (md2Cand e mm kids s.children, keyMS e (.scope mm kids) (md2Cand e mm kids s.children)))
  | [] => rfl
  | s :: l => by
    rw [List.filterMap_cons, List.filter_cons, filterMap_sdCand_ms4 e mm kids l]
    unfold sdCand_ms4
    cases (ms2Diff e [] kids s.children).isEmpty <;> rfl

theorem stepG_multiscope_diff_ms4 (F : FetchFn) (e : Envs) (fuel : Nat) (sm : Meta)
    (mkids combined : List Obj) (st : List Obj × List Nat) (idx : Nat) (mm : Meta) (kids : List Obj)
    (FM : List Obj)
    (hmult : (mm.attrs.get "multiple").truthy = true)
    (hfm : fromMasterOf mkids idx (.scope mm kids) = FM.map (fun x => (true, x)))
    (hFM : ∀ x ∈ FM, x.meta.disabled = false ∧ x.name = mm.name)
    (hmatch : fetchMatching fuel sm combined (.scope mm kids) = activeNamed mm.name combined)
    (hdep : depthL kids + 1 ≤ fuel)
    (hF0 : F false mm kids [] =
      if ms2NoClash [] kids [] then .ok (ms2Cand e mm kids [], ms2Used [] kids [])
      else .error incompatibleErr)
    (hF : ∀ s ∈ scopesNamed mm.name (FM ++ combined), F true mm kids s.children =
      if ms2NoClash [] kids s.children then .ok (md2Cand e mm kids s.children, ms2Used [] kids s.children)
      else .error incompatibleErr)
    (hk0 : ∃ k, extractFormatStr e (depthL kids + 1 + 64) (.scope mm kids) (ms2Cand e mm kids []) = .ok k)
    (hk : ∀ s ∈ scopesNamed mm.name (FM ++ combined), (ms2Diff e [] kids s.children).isEmpty = false →
      ∃ k, extractFormatStr e (depthL kids + 1 + 64) (.scope mm kids) (md2Cand e mm kids s.children) = .ok k) :
    stepG F e fuel true sm mkids combined st (idx, .scope mm kids) =
      if ms2NoClashObj (.scope mm kids) (FM ++ combined) then
        .ok (st.1 ++ md2Block e (.scope mm kids) FM combined, st.2 ++ ms2UsedObj (.scope mm kids) combined)
      else .error incompatibleErr := by
  obtain ⟨k0, hk0⟩ := hk0
  rw [ms2NoClashObj, md2Block, ms2UsedObj]
  simp only [hmult, if_true]
  cases hnc0 : ms2NoClash [] kids [] with
  | false =>
    rw [hnc0] at hF0
    unfold stepG
    simp only [show isMultiple (.scope mm kids) = true from hmult, Bool.not_true, Bool.false_eq_true, if_false,
      Bool.false_and, Bool.and_false]
    unfold multiBranch
    rw [masterKeyG_scope, hF0]
    rfl
  | true =>
    rw [hnc0] at hF0
    simp only [if_true] at hF0
    have hmk : masterKeyG F e fuel (.scope mm kids) = .ok k0 := by
      rw [masterKeyG_scope, hF0]
      simp only
      rw [extractFormatStr_cand_fuel_ms3 e fuel mm kids [] hdep]
      exact hk0
    have hscope : ∀ o ∈ activeNamed mm.name (FM ++ combined), o.isDefn = false →
        o ∈ scopesNamed mm.name (FM ++ combined) := fun o ho hd =>
      mem_scopesNamed.mpr ⟨(mem_activeNamed.mp ho).1, hd, (mem_activeNamed.mp ho).2⟩
    rw [stepG_multi_cases F e fuel true sm mkids combined st idx (.scope mm kids) mm.name FM k0
      (fun o => if o.isScope && ms2NoClash [] kids o.children then none else some incompatibleErr) (sdCand_ms4 e mm kids)
      (fun o => ms2Used [] kids o.children) _ rfl hmult hfm hFM hmatch hmk ?_ ?_
      (fun _ => multiBranch_diff_ms4 F e fuel mkids idx _ k0 FM _ (sdCand_ms4 e mm kids)
        (fun o => ms2Used [] kids o.children) st.1 st.2 hmk hfm)]
    · rw [findSome?_ite]
      refine (match_ite_none _ _ _).trans ?_
      rw [all_isScope_ms3, ← defsNamed_eq_filter_tree, ← scopesNamed_eq_filter_tree]
      simp only [Bool.true_and]
      cases hdn : defsNamed mm.name (FM ++ combined) with
      | cons d rest => rfl
      | nil =>
        rw [defsNamed_append_ms3, List.append_eq_nil_iff] at hdn
        have hsFM : scopesNamed mm.name FM = FM := by
          rw [← activeNamed_eq_scopesNamed_ms mm.name FM hdn.1, activeNamed_self_ms3 mm.name FM hFM]
        rw [activeNamed_eq_scopesNamed_ms _ _ hdn.2, filterMap_sdCand_ms4, filterMap_sdCand_ms4,
          List.map_map, hsFM, keyMS_ok hk0]
        rfl
    · intro o ho hg b
      cases o with
      | defn m ws => cases hg
      | scope m' sk =>
        have hnc : ms2NoClash [] kids sk = true := ite_none_eq hg
        have hs := hscope _ ho rfl
        have hF' := hF _ hs
        simp only [Obj.children, hnc, if_true] at hF'
        have hc := candOf_scope_ok F e fuel true mm kids b m' sk _ _ hF'
        have hkk := hk _ hs
        simp only [Obj.children] at hkk
        unfold sdCand_ms4
        simp only [Obj.children]
        rcases Bool.eq_false_or_eq_true (ms2Diff e [] kids sk).isEmpty with hemp | hemp
        · simp only [hemp, if_true]
          show candOf F e fuel true (.scope mm kids) b (.scope m' sk) = _
          rw [hc]
          simp only [Obj.children, hemp, Bool.true_and, if_true]
        · simp only [hemp, Bool.false_eq_true, if_false]
          refine ⟨by rw [hc]; simp only [Obj.children, hemp, Bool.true_and, Bool.false_eq_true, if_false], ?_⟩
          obtain ⟨k, hk'⟩ := hkk hemp
          show extractFormatStr e (fuel + 64) (.scope mm kids) (md2Cand e mm kids sk) =
            .ok (keyMS e (.scope mm kids) (md2Cand e mm kids sk))
          rw [extractFormatStr_inst_fuel_ms e fuel mm kids _ (depthL_ms2Diff e kids [] sk) hdep, keyMS_ok hk']
          exact hk'
    · intro o ho E hg b acc
      obtain ⟨hnc, rfl⟩ := ite_some_eq hg
      cases o with
      | defn dm dws => exact cstepG_scope_defn_ms3 F e fuel true mm kids k0 b dm dws acc
      | scope m' sk =>
        have hnc : ms2NoClash [] kids sk = false := hnc
        have hF' := hF _ (hscope _ ho rfl)
        simp only [Obj.children, hnc, Bool.false_eq_true, if_false] at hF'
        exact cstepG_scope_flag_err_ms3 F e fuel true mm kids k0 b m' sk _ hF' acc

/-! ## 8. the whole difference on `MSMaster2` -/

/-- **closed form of the difference of a nested master with further master occurrences of `.multiple`
    objects** (`scope.fetch(diff=True)`), the further occurrences alone being read like sources (`FurtherSrc`) -/
theorem diff_ms2_of_furtherSrc (e : Envs) : ∀ (fuel : Nat) (sm : Meta) (mkids srcs : List Obj),
    MSMaster2 mkids → depthL mkids + 1 < fuel → sm.disabled = false → SrcTree srcs → FurtherSrc mkids →
    KeysDiffMS2 e [] mkids srcs →
    fetchScope e fuel true sm mkids srcs =
      if ms2NoClash [] mkids srcs then
        .ok (.scope { sm with tmpl := 0 } (ms2Diff e [] mkids srcs), ms2Used [] mkids srcs)
      else .error incompatibleErr := by
  intro fuel
  induction fuel with
  | zero => intro sm mkids srcs _ hd; exact absurd hd (Nat.not_lt_zero _)
  | succ fuel ih =>
    intro sm mkids srcs hf hdepth hsd hsrc hfur hkeys
    obtain ⟨f, rfl⟩ : ∃ f, fuel = f + 1 := ⟨fuel - 1, by omega⟩
    refine (fetchScope_frame_ms3 e (f + 1) true sm mkids srcs hf (fun mo FM => ms2NoClashObj mo (FM ++ srcs))
      (fun mo FM => md2Block e mo FM srcs) (fun mo => ms2UsedObj mo srcs) ?_).trans ?_
    rotate_left
    · rw [(ms2_firsts e srcs mkids []).2.1, ms2Diff_eq_flatMap_ms4, (ms2_firsts e srcs mkids []).2.2.1]
    intro st i mo FM hp hfl
    obtain ⟨hmem, hto, hen, hFM, hnm, _⟩ := hf.first hp
    have hko := hkeys.obj _ hp
    have hfmT : SrcTree FM := hfur mkids (.inl rfl) _ hp
    simp only at hmem hto hen hFM hko hnm ⊢
    have hsc : ∀ m kids, Obj.scope m kids ∈ srcs → m.disabled = false → m.name ≠ [] :=
      fun m kids hm hd => hsrc.named m kids (.here hm hd)
    have hmatch := fetchMatching_tree (f + 1) sm srcs mo hsd hto.name_ne hto.dotfree hsc
    have hok : ∀ o ∈ FM ++ srcs, o.meta.disabled = false → o.isDefn = true → SrcOK o := by
      intro o ho hd hdef
      rcases List.mem_append.mp ho with ho | ho
      · exact hfmT.ok o (.here ho hd) hdef
      · exact hsrc.ok o (.here ho hd) hdef
    cases mo with
    | defn mm mws =>
      rw [MS2Obj] at hto
      rw [KeysDiffMS2Obj] at hko
      cases hmult : isMultiple (.defn mm mws) with
      | false =>
        have hFMnil : FM = [] := hnm hmult
        subst hFMnil
        rw [List.nil_append] at hko ⊢
        have hok' : ∀ o ∈ srcs, o.meta.disabled = false → o.isDefn = true → SrcOK o :=
          fun o ho => hok o (List.mem_append_right _ ho)
        rw [ms2NoClashObj, md2Block, ms2UsedObj, ← noClashObj, ← treeUsedObj]
        simp only [hmult, Bool.false_eq_true, if_false]
        rw [← tdBlock]
        exact stepG_plain_diff_dt _ e f sm mkids srcs st i mm mws hto.1 hmult hmatch (srcOK_defsNamed hok' _) hko
      | true =>
        exact stepG_multi_diff_ms4 _ e f sm mkids srcs st i mm mws FM hto.1 hmult hfl hFM hmatch hok hko
    | scope mm kids =>
      have hkids := MSMaster2.of_scope hto
      have hd1 := depthT_le_depthL mkids _ hmem
      rw [depthT] at hd1
      have hfk : FurtherSrc kids := hfur.kids hmem hen
      rw [KeysDiffMS2Obj] at hko
      cases hmult : (mm.attrs.get "multiple").truthy with
      | false =>
        have hFMnil : FM = [] := hnm hmult
        subst hFMnil
        simp only [hmult, Bool.false_eq_true, if_false, List.nil_append] at hko ⊢
        rw [stepG_scope_of_callee _ e (f + 1) sm mkids srcs st i mm true kids _ _ _ hmult hmatch
          (ih mm kids (srcStep srcs mm.name) hkids (by omega) hen (hsrc.step mm.name) hfk hko)]
        simp only [ms2NoClashObj, md2Block, ms2UsedObj, hmult, Bool.false_eq_true, if_false, Bool.true_and]
      | true =>
        simp only [hmult, if_true] at hko
        have h0 := fetch_ms2_of_furtherSrc e (f + 1) mm kids [] hkids (by omega) hen srcTree_nil hfk hko.1
        refine stepG_multiscope_diff_ms4 _ e (f + 1) sm mkids srcs st i mm kids FM hmult hfl hFM hmatch
          (by omega) h0 ?_ hko.2.1 (fun s hs => (hko.2.2 s hs).2)
        intro s hs
        have hs' := mem_scopesNamed.mp hs
        have hst : SrcTree s.children := by
          rcases List.mem_append.mp hs'.1 with h | h
          · exact hfmT.child_ms h hs'.2.2.1
          · exact hsrc.child_ms h hs'.2.2.1
        exact ih mm kids s.children hkids (by omega) hen hst hfk (hko.2.2 s hs).1

/-! ## 9. laws on the specification: no sources -/

mutual
theorem md2Block_nil_ms4 (e : Envs) : ∀ (mo : Obj) (FM : List Obj), md2Block e mo FM [] = []
  | .defn mm mws, FM => by
    rw [md2Block]
    have h : defsNamed mm.name [] = [] := rfl
    rw [h]
    split
    · rfl
    · exact diffBlockL_nil e 0 _
  | .scope mm kids, FM => by
    rw [md2Block]
    have h1 : srcStep [] mm.name = [] := rfl
    have h2 : scopesNamed mm.name [] = [] := rfl
    rw [h1, h2, ms2Diff_nil_ms4 e kids []]
    split <;> rfl
theorem ms2Diff_nil_ms4 (e : Envs) : ∀ (l : List Obj) (seen : List Str), ms2Diff e seen l [] = []
  | [], _ => by rw [ms2Diff]
  | mo :: rest, seen => by
    rw [ms2Diff]
    split
    · exact ms2Diff_nil_ms4 e rest seen
    · rw [md2Block_nil_ms4 e mo _, ms2Diff_nil_ms4 e rest _]; rfl
end

/-! ## 10. no empty scopes -/

mutual
theorem md2Block_no_empty_ms4 (e : Envs) : ∀ (mo : Obj) (FM srcs : List Obj),
    ∀ m k, ActiveIn (.scope m k) (md2Block e mo FM srcs) → k ≠ []
  | .defn mm mws, FM, srcs, m, k, hx => by
    cases hx with
    | here hm hd =>
      obtain ⟨d, hxd⟩ := mem_md2Block_defn_ms4 e mm mws FM srcs _ hm
      rw [candOfSrc_defn] at hxd
      cases hxd
    | deeper hm hd hk =>
      obtain ⟨d, hxd⟩ := mem_md2Block_defn_ms4 e mm mws FM srcs _ hm
      rw [candOfSrc_defn] at hxd
      cases hxd
  | .scope mm kids, FM, srcs, m, k, hx => by
    cases hx with
    | here hm hd =>
      obtain ⟨S, ho, hne⟩ := mem_md2Block_scope_ms4 e mm kids FM srcs _ hm
      injection ho with _ hk
      rw [hk]; exact hne
    | deeper hm hd hk =>
      obtain ⟨S, ho, _⟩ := mem_md2Block_scope_ms4 e mm kids FM srcs _ hm
      injection ho with _ hk'
      rw [hk'] at hk
      exact ms2Diff_no_empty_ms4 e kids [] S m k hk
/-- **empty scopes are dropped**: every scope of a difference, at any depth, has children -/
theorem ms2Diff_no_empty_ms4 (e : Envs) : ∀ (l : List Obj) (seen : List Str) (srcs : List Obj),
    ∀ m k, ActiveIn (.scope m k) (ms2Diff e seen l srcs) → k ≠ []
  | [], seen, srcs, m, k, hx => by rw [ms2Diff] at hx; exact hx.not_nil.elim
  | mo :: rest, seen, srcs, m, k, hx => by
    rw [ms2Diff] at hx
    split at hx
    · exact ms2Diff_no_empty_ms4 e rest seen srcs m k hx
    · rcases hx.of_append with h | h
      · exact md2Block_no_empty_ms4 e mo _ srcs m k h
      · exact ms2Diff_no_empty_ms4 e rest _ srcs m k h
end


/-! ## 11. the master's own body as the source: empty difference -/

/-- the block of a first occurrence against a source list in which its name shows itself followed by its
    further occurrences: nothing — the own copy renders like the master (or has an empty difference), the
    copies of the further occurrences are blocked -/
theorem md2Block_self_ms4 (e : Envs) (mo : Obj) (FM R : List Obj) (hto : MS2Obj mo)
    (hen : mo.meta.disabled = false) (hr : RefetchTree [mo])
    (hFM : ∀ x ∈ FM, x.meta.disabled = false ∧ x.name = mo.name)
    (hnm : isMultiple mo = false → FM = [])
    (hbody : ∀ mm kids, mo = .scope mm kids → ms2Diff e [] kids kids = [])
    (hv : activeNamed mo.name R = mo :: FM) : md2Block e mo FM R = [] := by
  cases mo with
  | defn mm mws =>
    rw [MS2Obj] at hto
    have hr' := hr (.defn mm mws) (.self hen) rfl
    have hv' : activeNamed mm.name R = .defn mm mws :: FM := hv
    cases hmult : isMultiple (.defn mm mws) with
    | false =>
      have hnil := hnm hmult
      subst hnil
      rw [md2Block]
      simp only [hmult, Bool.false_eq_true, if_false]
      have hdn : defsNamed mm.name R = [.defn mm mws] := by
        rw [defsNamed_eq_filter_tree, hv']; rfl
      rw [hdn]
      unfold diffBlockL
      simp only [hmult, Bool.false_eq_true, if_false, List.getLast?_singleton,
        candOfSrc_self mm mws hr'.1 hr'.2.1, beq_self_eq_true, if_true]
    | true =>
      have hdn : defsNamed mm.name R = .defn mm mws :: FM.filter Obj.isDefn := by
        rw [defsNamed_eq_filter_tree, hv', List.filter_cons]
        rfl
      have hdFM : defsNamed mm.name FM = FM.filter Obj.isDefn := by
        rw [defsNamed_eq_filter_tree, activeNamed_self_ms3 mm.name FM hFM]
      apply List.eq_nil_iff_forall_not_mem.mpr
      intro o ho
      obtain ⟨d, hd, rfl, hne, hbl⟩ := mem_md2Block_multi_defn e mm mws FM R hmult o ho
      rw [hdn, List.mem_cons] at hd
      rcases hd with rfl | hd
      · rw [candOfSrc_self mm mws hr'.1 hr'.2.1] at hne
        exact hne rfl
      · exact hbl d (hdFM ▸ hd) rfl
  | scope mm kids =>
    have hself := hbody mm kids rfl
    have hv' : activeNamed mm.name R = .scope mm kids :: FM := hv
    cases hmult : (mm.attrs.get "multiple").truthy with
    | false =>
      have hnil := hnm hmult
      subst hnil
      have h1 : srcStep R mm.name = kids := by
        rw [srcStep_of_view_ms _ _ _ hv']; simp [Obj.children]
      rw [md2Block]
      simp only [hmult, Bool.false_eq_true, if_false, h1, hself]
      rfl
    | true =>
      have hsn : scopesNamed mm.name R = .scope mm kids :: FM.filter Obj.isScope := by
        rw [scopesNamed_eq_filter_tree, hv', List.filter_cons]
        rfl
      have hsFM : scopesNamed mm.name FM = FM.filter Obj.isScope := by
        rw [scopesNamed_eq_filter_tree, activeNamed_self_ms3 mm.name FM hFM]
      apply List.eq_nil_iff_forall_not_mem.mpr
      intro o ho
      obtain ⟨s, hs, rfl, hne, _, hbl⟩ := mem_md2Block_multi_scope e mm kids FM R hmult o ho
      rw [hsn, List.mem_cons] at hs
      rcases hs with rfl | hs
      · rw [show (Obj.scope mm kids).children = kids from rfl, hself] at hne
        cases hne
      · exact hbl s (hsFM ▸ hs) hne rfl

/-- **`M.fetch_diff(M)` is empty** on `MSMaster2` (specification level) -/
theorem ms2Diff_self (e : Envs) : ∀ (mkids : List Obj), MSMaster2 mkids → RefetchTree mkids →
    ms2Diff e [] mkids mkids = [] := by
  refine MSMaster2.bodies_rec (fun l hf hr ih => ?_)
  rw [ms2Diff_eq_flatMap_ms4, List.flatMap_eq_nil_iff]
  intro p hp
  obtain ⟨hmem, hto, hen, hFM, hnm, hv⟩ := hf.first hp
  refine md2Block_self_ms4 e p.1 p.2 l hto hen (hr.of_mem_ms3 hmem) hFM hnm ?_ hv
  intro mm kids hpk
  rw [hpk] at hmem hen
  exact ih mm kids hmem hen

end Phil
