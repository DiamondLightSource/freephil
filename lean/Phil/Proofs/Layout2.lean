/-
  Nested documents (C02, C15 for nested documents):
    * `!` in front of a definition of a flat document (`renderB_l2`; Phil/Props/C02Bang.lean);
    * nested braces versus dotted names on canonical texts (`Obj.eraseMerge`, `bracesIn_l2`, `dottedIn_l2`;
      Phil/Props/C02Nested.lean);
    * nested documents under a layout grammar given as data (`LayItem`, `renderN`, `wfDocN`, the closed form
      `layObjs`; abstract tree `layTrees`, ids, `!`, dotted names in any layout); the parser theorem
      `parseObjs_renderN_l2` is in Phil/Proofs/LayoutAll.lean, whose grammar contains this one;
    * source lines of nested documents (`layLined`, `layNamePos`; Phil/Props/C15Nested.lean).
  The flat layout vocabulary (`Pre`, `FillLine`, `Terminator`, `DefLayout`, `AItem`) is that of Phil/Proofs/Layout.lean.
-/
import Phil.Proofs.Layout
import Phil.Proofs.NestedRoundTrip
import Phil.Proofs.NestIn
namespace Phil

/-! ### flat documents with `!` flags -/

/-- the text of a flat document in which every definition carries a flag: `!` glued in front of its
    name or not -/
def renderB_l2 : List (DefSpec × DefLayout × Bool) → Pre → Str
  | [], post => post.text
  | (d, L, b) :: rest, post => L.pre.text ++ (bangText_l2 b ++ (defText d L ++ renderB_l2 rest post))

/-- the same document without the flags -/
def unbang_l2 (ds : List (DefSpec × DefLayout × Bool)) : List (DefSpec × DefLayout) :=
  ds.map (fun x => (x.1, x.2.1))

/-- the flags -/
def bangs_l2 (ds : List (DefSpec × DefLayout × Bool)) : List Bool := ds.map (fun x => x.2.2)

/-- the flagged document as a list of items -/
def flagItems_l2 (ds : List (DefSpec × DefLayout × Bool)) : List AItem :=
  ds.map (fun x => .defn x.1 x.2.1 x.2.2)

theorem renderA_flags_l2 (ds : List (DefSpec × DefLayout × Bool)) (post : Pre) :
    renderA (flagItems_l2 ds) post = renderB_l2 ds post := by
  induction ds with
  | nil => rfl
  | cons x rest ih =>
    obtain ⟨d, L, b⟩ := x
    show L.pre.text ++ ((bangText_l2 b ++ defText d L) ++ renderA (flagItems_l2 rest) post) = _
    rw [ih, renderB_l2, List.append_assoc]

theorem wfItems_flags_l2 (ds : List (DefSpec × DefLayout × Bool)) (post : Pre) :
    wfItems (flagItems_l2 ds) post = wfDoc (unbang_l2 ds) post := by
  induction ds with
  | nil => rfl
  | cons x rest ih =>
    obtain ⟨d, L, b⟩ := x
    show (goodDef d && wfDef d L &&
      (!L.term.isEof || ((flagItems_l2 rest).isEmpty && post.lines.isEmpty)) &&
        wfItems (flagItems_l2 rest) post) = wfDoc ((d, L) :: unbang_l2 rest) post
    rw [ih, flagItems_l2, List.isEmpty_map, wfDoc, unbang_l2, List.isEmpty_map]

/-- set the `disabled` flag of an object -/
def Obj.setDisabled_l2 (o : Obj) (b : Bool) : Obj := o.withMeta (fun m => { m with disabled := b })

/-- set the flags of a list of objects, one flag per object -/
def setFlags_l2 : List Bool → List Obj → List Obj
  | b :: bs, o :: os => o.setDisabled_l2 b :: setFlags_l2 bs os
  | _, _ => []

theorem setFlags_eq_zipWith : ∀ (bs : List Bool) (objs : List Obj),
    setFlags_l2 bs objs = List.zipWith (fun b o => o.setDisabled_l2 b) bs objs
  | [], _ => by rw [List.zipWith_nil_left]; rfl
  | _ :: _, [] => by rw [List.zipWith_nil_right]; rfl
  | b :: bs, o :: os => by rw [setFlags_l2, List.zipWith_cons_cons, setFlags_eq_zipWith bs os]

theorem parsedA_flags_l2 (ds : List (DefSpec × DefLayout × Bool)) : ∀ (l i : Nat) (p : Option Obj),
    parsedA l i p (flagItems_l2 ds)
      = p.toList ++ setFlags_l2 (bangs_l2 ds) (parsedLay l i (unbang_l2 ds)) := by
  induction ds with
  | nil => intro l i p; simp [flagItems_l2, parsedA, bangs_l2, unbang_l2, parsedLay, setFlags_l2]
  | cons x rest ih =>
    intro l i p
    obtain ⟨d, L, b⟩ := x
    show p.toList ++ parsedA _ (i + 1) (some _) (flagItems_l2 rest) = _
    rw [ih]
    rfl

theorem render_unbang_all_false_l2 (ds : List (DefSpec × DefLayout × Bool)) (post : Pre)
    (h : ∀ x ∈ ds, x.2.2 = false) : renderB_l2 ds post = render (unbang_l2 ds) post := by
  induction ds with
  | nil => rfl
  | cons x rest ih =>
    obtain ⟨d, L, b⟩ := x
    have hb : b = false := h (d, L, b) (by simp)
    subst hb
    have e1 : unbang_l2 ((d, L, false) :: rest) = (d, L) :: unbang_l2 rest := rfl
    rw [renderB_l2, e1, render, ih (fun y hy => h y (by simp [hy]))]
    simp [bangText_l2]

/-! ### nested braces versus dotted names -/

mutual
/-- a tree without ids, source positions and `merge_names` flags: `erase` + `mergeNames := false` -/
def Obj.eraseMerge : Obj → Obj
  | .defn m ws => .defn { m.erase with mergeNames := false } (ws.map Word.erase)
  | .scope m os => .scope { m.erase with mergeNames := false } (eraseMergeList os)
def eraseMergeList : List Obj → List Obj
  | [] => []
  | x :: xs => x.eraseMerge :: eraseMergeList xs
end

theorem eraseMergeList_eq_map_l2 (xs : List Obj) : eraseMergeList xs = xs.map Obj.eraseMerge := by
  induction xs with
  | nil => simp [eraseMergeList]
  | cons x xs ih => simp [eraseMergeList, ih]

theorem word_erase_erase_l2 (ws : List Word) :
    (ws.map Word.erase).map Word.erase = ws.map Word.erase := by
  simp [Word.erase]

theorem eraseMerge_erase_l2 :
    (∀ x : Obj, x.erase.eraseMerge = x.eraseMerge) ∧
      ∀ os : List Obj, eraseMergeList (eraseList os) = eraseMergeList os :=
  Obj.both
    (fun m ws => by rw [Obj.erase_defn, Obj.eraseMerge, Obj.eraseMerge, word_erase_erase_l2]; rfl)
    (fun m os ih => by rw [Obj.erase_scope, Obj.eraseMerge, Obj.eraseMerge, ih]; rfl) rfl
    (fun x xs ihx ihxs => by rw [eraseList_cons, eraseMergeList, eraseMergeList, ihx, ihxs])

theorem eraseMergeList_congr_l2 {a b : List Obj} (h : eraseList a = eraseList b) :
    eraseMergeList a = eraseMergeList b := by
  rw [← eraseMerge_erase_l2.2 a, ← eraseMerge_erase_l2.2 b, h]

/-! #### one object below a path of scopes, spelt with braces or with a dotted name -/

/-- `x` inside the scopes `ns`, every scope a proper one (`merge_names = False` everywhere) -/
def bracesIn_l2 : List Str → Obj → Obj
  | [], x => x
  | n :: ns, x => .scope { name := n } [bracesIn_l2 ns x]

/-- `x` inside the scopes `ns` the way `scope.adopt` builds it for the dotted name `ns.x`:
    `merge_names = True` on everything but the outermost scope -/
def dottedIn_l2 (ns : List Str) (x : Obj) : Obj :=
  nestIn none false ns (x.withMeta (fun m => { m with mergeNames := !ns.isEmpty }))

/-- the canonical brace text around `body` (which is given its indentation) -/
def bracesText_l2 : List Str → Str → (Str → Str) → Str
  | [], ind, body => body ind
  | n :: ns, ind, body =>
    ind ++ n ++ [' ', '{', '\n'] ++ bracesText_l2 ns (deeper ind) body ++ ind ++ ['}', '\n']

theorem eraseMerge_withMerge_l2 (x : Obj) (c : Bool) :
    (x.withMeta (fun m => { m with mergeNames := c })).eraseMerge = x.eraseMerge := by
  cases x <;> rfl

theorem eraseMerge_bracesIn_l2 (ns : List Str) (x : Obj) :
    (bracesIn_l2 ns x).eraseMerge = bracesIn_l2 ns x.eraseMerge := by
  induction ns with
  | nil => rfl
  | cons n ns ih => rw [bracesIn_l2, Obj.eraseMerge, eraseMergeList, eraseMergeList, ih]; rfl

theorem eraseMerge_nestIn_l2 (id : Option Nat) (ns : List Str) (y : Obj) :
    ∀ b, (nestIn id b ns y).eraseMerge = bracesIn_l2 ns y.eraseMerge := by
  induction ns with
  | nil => intro b; rfl
  | cons n ns ih => intro b; rw [nestIn, Obj.eraseMerge, eraseMergeList, eraseMergeList, ih]; rfl

theorem eraseMerge_dotted_braces_l2 (ns : List Str) (x : Obj) :
    (dottedIn_l2 ns x).eraseMerge = (bracesIn_l2 ns x).eraseMerge := by
  rw [dottedIn_l2, eraseMerge_nestIn_l2, eraseMerge_withMerge_l2, eraseMerge_bracesIn_l2]

theorem rtnode_bracesIn_l2 (ns : List Str) (x : Obj) (hp : GoodPath ns) (h : RTNode [] x) :
    RTNode [] (bracesIn_l2 ns x) := by
  induction ns with
  | nil => exact h
  | cons n ns ih =>
    have hn : goodName n = true := hp n (by simp)
    rw [bracesIn_l2]
    unfold RTNode
    refine ⟨rfl, hn, Or.inl ⟨goodName_not_reserved hn, ?_⟩⟩
    unfold RTAll
    exact ⟨ih (fun k hk => hp k (by simp [hk])), by unfold RTAll; trivial⟩

theorem flatText_dottedIn_l2 (ns : List Str) (x : Obj) (ind : Str) :
    flatText (dottedIn_l2 ns x) [] ind
      = flatText (x.withMeta (fun m => { m with mergeNames := !ns.isEmpty })) ns ind := by
  refine flatText_nestIn_l2 none _ ind ns [] false fun hne => ?_
  cases ns with
  | nil => exact absurd rfl hne
  | cons _ _ => cases x <;> rfl

theorem allDefns_bracesIn_l2 (P : List Word → Prop) (ns : List Str) (x : Obj) :
    (bracesIn_l2 ns x).allDefns P ↔ x.allDefns P := by
  induction ns with
  | nil => rfl
  | cons n ns ih =>
    rw [bracesIn_l2, Obj.allDefns, allDefnsList, allDefnsList, ih]
    simp

theorem bracesIn_merge_l2 (ns : List Str) (x : Obj) (hx : x.meta.mergeNames = false) :
    (bracesIn_l2 ns x).meta.mergeNames = false := by
  cases ns with
  | nil => exact hx
  | cons n ns => rfl

theorem flatText_bracesIn_l2 (ns : List Str) (x : Obj) (hx : x.meta.mergeNames = false) :
    ∀ ind, flatText (bracesIn_l2 ns x) [] ind = bracesText_l2 ns ind (fun i => flatText x [] i) := by
  induction ns with
  | nil => intro ind; rfl
  | cons n ns ih =>
    intro ind
    have hfm : firstMerges [bracesIn_l2 ns x] = false := bracesIn_merge_l2 ns x hx
    rw [bracesIn_l2, flatText, hfm]
    simp only [Bool.false_eq_true, ↓reduceIte, flatKids, List.append_nil, bracesText_l2, dotted_nil]
    rw [ih]

/-! ### nested documents under a layout -/

/-- One item of a nested document together with its layout and its spelling.
    * `defn path d L bang` — the definition `d = (name, words)` under the flat layout `L` (filler in
      front, blanks around `=` and the words, terminator), spelt with the dotted name
      `p1.….pk.name` when `path = [p1, …, pk]` is not empty; `!` glued in front of the name iff `bang`;
    * `scope path nm bang pre gap kids close` — the scope `nm` (header `p1.….pk.nm {`): `pre` is the
      filler in front of the name (filler lines, then blanks on the line of the name), `!` iff `bang`,
      `gap` what stands between the name and `{` (blanks: `name {`; or filler lines — a newline, blank
      lines, comment lines — and blanks: `name⏎{`), then the items, then `close`: the filler in front
      of `}` (so `}` stands on a line of its own, or behind the last item after `;`, …).  What follows
      `}` belongs to the filler of the next item. -/
inductive LayItem
  | defn (path : List Str) (d : DefSpec) (L : DefLayout) (bang : Bool)
  | scope (path : List Str) (nm : Str) (bang : Bool) (pre gap : Pre) (kids : List LayItem) (close : Pre)

/-- the filler in front of the item's name -/
def LayItem.pre : LayItem → Pre
  | .defn _ _ L _ => L.pre
  | .scope _ _ _ pre _ _ _ => pre

mutual
/-- the text of an item from its name (or `!`) on -/
def LayItem.body : LayItem → Str
  | .defn p d L b => bangText_l2 b ++ defText (dottedName p d.1, d.2) L
  | .scope p nm b _ gap kids close =>
    bangText_l2 b ++ (dottedName p nm ++ (gap.text ++ '{' :: (layItemsText kids ++ (close.text ++ ['}']))))
/-- the text of a list of items -/
def layItemsText : List LayItem → Str
  | [] => []
  | x :: xs => (x.pre.text ++ x.body) ++ layItemsText xs
end

/-- the text of one item: filler, then the body -/
def LayItem.text (x : LayItem) : Str := x.pre.text ++ x.body

/-- the text of a nested document; `post` is the filler after the last item -/
def renderN (xs : List LayItem) (post : Pre) : Str := layItemsText xs ++ post.text

/-- between the name of a scope and `{`: if there are filler lines, the first one must not glue a
    `#` to the name (`name#…` is one word) -/
def gapOK_l2 (g : Pre) : Bool :=
  match g.lines with
  | [] => true
  | f :: _ => !f.ind.isEmpty || f.cmt.isNone

/-- the (possibly dotted) name of an item: good dot-free components, the whole not reserved -/
def goodPathName_l2 (p : List Str) (nm : Str) : Bool :=
  p.all goodName && goodName nm && !isReserved (dottedName p nm)

mutual
/-- well-formedness of an item; `eofOK`: the item is the last one of its block and `}` (or the end of
    the text) follows on the same line, so that a definition may end with nothing (`Terminator.eof`) -/
def LayItem.wf : LayItem → Bool → Bool
  | .defn p d L _, eofOK =>
    goodPathName_l2 p d.1 && goodDef d && wfDef d L && (!L.term.isEof || eofOK)
  | .scope p nm _ pre gap kids close, _ =>
    goodPathName_l2 p nm && pre.wf && gap.wf && gapOK_l2 gap && close.wf &&
      wfLayItems kids close.lines.isEmpty
/-- well-formedness of a block of items; the flag says that the filler after the block has no lines -/
def wfLayItems : List LayItem → Bool → Bool
  | [], _ => true
  | x :: xs, e => x.wf (xs.isEmpty && e) && wfLayItems xs e
end

/-- well-formed nested document -/
def wfDocN (xs : List LayItem) (post : Pre) : Bool := wfLayItems xs post.lines.isEmpty && post.wf

mutual
/-- number of printed items (= primary ids handed out) of an item: one per definition and per scope
    header; the scopes `scope.adopt` builds for a dotted name share the id of their item -/
def LayItem.count : LayItem → Nat
  | .defn _ _ _ _ => 1
  | .scope _ _ _ _ _ kids _ => 1 + layCount kids
def layCount : List LayItem → Nat
  | [] => 0
  | x :: xs => x.count + layCount xs
end

mutual
/-- the line on which the text after the item starts, when the item's filler starts on line `l` -/
def LayItem.endLn : LayItem → Nat → Nat
  | .defn _ d L _, l => endLine (l + L.pre.lines.length) d.2 + nlCount L.term.text
  | .scope _ _ _ pre gap kids close, l =>
    layEndLn kids (l + pre.lines.length + gap.lines.length) + close.lines.length
def layEndLn : List LayItem → Nat → Nat
  | [], l => l
  | x :: xs, l => layEndLn xs (x.endLn l)
end

mutual
/-- what the parser builds for an item whose filler starts on line `l`, the next id being `i`: the
    object itself, wrapped (`nestIn`) into the scopes of its dotted path the way `scope.adopt` does -/
def LayItem.obj : LayItem → Nat → Nat → Obj
  | .defn p d L b, l, i =>
    nestIn (some i) false p
      (.defn { name := d.1, id := some i, disabled := b, line := some (l + L.pre.lines.length),
               mergeNames := !p.isEmpty }
        (reline (l + L.pre.lines.length) d.2))
  | .scope p nm b pre gap kids _, l, i =>
    nestIn (some i) false p
      (.scope { name := nm, id := some i, disabled := b, line := some (l + pre.lines.length),
                mergeNames := !p.isEmpty }
        (layObjs kids (l + pre.lines.length + gap.lines.length) (i + 1)))
def layObjs : List LayItem → Nat → Nat → List Obj
  | [], _, _ => []
  | x :: xs, l, i => x.obj l i :: layObjs xs (x.endLn l) (i + x.count)
end

theorem goodPathName_facts_l2 {p : List Str} {nm : Str} (h : goodPathName_l2 p nm = true) :
    GoodPath p ∧ goodName nm = true ∧ isReserved (dottedName p nm) = false ∧ ItemName (dottedName p nm) := by
  simp only [goodPathName_l2, Bool.and_eq_true, Bool.not_eq_true', List.all_eq_true] at h
  obtain ⟨⟨h1, h2⟩, h3⟩ := h
  exact ⟨h1, h2, h3, itemName_dotted h1 h2 h3⟩

theorem itemName_nlCount_l2 {nm : Str} (h : ItemName nm) : nlCount nm = 0 := by
  obtain ⟨c, w, rfl, _, hall⟩ := h.chars
  exact nlCount_of_no_nl _ (fun d hd => ne_nl_of_not_space (idCont_not_space (hall d hd)))

/-! #### the scope header -/

theorem hdr_stops_ls (g : Pre) (R : Str) (hg : g.wf = true) (hok : gapOK_l2 g = true)
    (hne : ¬ (g.lines = [] ∧ g.ind = []) ∨ stopsAt structSettings R = true) :
    stopsAt structSettings (g.text ++ R) = true := by
  simp only [Pre.wf, Bool.and_eq_true] at hg
  unfold gapOK_l2 at hok
  cases hl : g.lines with
  | nil =>
    rw [Pre.text, hl]
    simp only [linesStr, List.nil_append]
    cases hi : g.ind with
    | nil =>
      rcases hne with hne | hne
      · exact absurd ⟨hl, hi⟩ hne
      · simpa using hne
    | cons d ds =>
      have hd : isSpace d = true := inlineB_space hg.2 d (by rw [hi]; simp)
      simp [stopsAt, endsUnquoted, hd]
  | cons f fs =>
    rw [hl] at hok hg
    simp only [] at hok
    simp only [List.all_cons, Bool.and_eq_true, FillLine.wf] at hg
    rw [Pre.text, hl, linesStr, FillLine.text]
    cases hfi : f.ind with
    | cons d ds =>
      have hd : isSpace d = true := inlineB_space hg.1.1.1 d (by rw [hfi]; simp)
      simp [stopsAt, endsUnquoted, hd]
    | nil =>
      rw [hfi] at hok
      simp only [List.isEmpty_nil, Bool.not_true, Bool.false_or, Option.isNone_iff_eq_none] at hok
      rw [hok]
      simp [cmtText, stopsAt, endsUnquoted, isSpace_nl]

/-! #### the abstract tree of a nested layout; ids -/

mutual
/-- the abstract tree of an item: names, dotted-chain structure, `!` flags, words — nothing of the
    layout, no ids, no lines -/
def LayItem.tree : LayItem → Obj
  | .defn p d _ b => nestIn none false p (.defn { name := d.1, disabled := b, mergeNames := !p.isEmpty } d.2)
  | .scope p nm b _ _ kids _ =>
    nestIn none false p (.scope { name := nm, disabled := b, mergeNames := !p.isEmpty } (layTrees kids))
def layTrees : List LayItem → List Obj
  | [] => []
  | x :: xs => x.tree :: layTrees xs
end

mutual
theorem layObj_erase_l2 : ∀ (x : LayItem) (l i : Nat), (x.obj l i).erase = x.tree.erase
  | .defn p d L b, l, i => by
    rw [LayItem.obj, LayItem.tree, nestIn_erase, nestIn_erase]
    simp [Obj.erase, reline_erase, Meta.erase]
  | .scope p nm b pre gap kids close, l, i => by
    rw [LayItem.obj, LayItem.tree, nestIn_erase, nestIn_erase, Obj.erase_scope, Obj.erase_scope,
      layObjs_erase_l2 kids]
    rfl
theorem layObjs_erase_l2 : ∀ (xs : List LayItem) (l i : Nat),
    eraseList (layObjs xs l i) = eraseList (layTrees xs)
  | [], _, _ => rfl
  | x :: xs, l, i => by
    rw [layObjs, layTrees, eraseList_cons, eraseList_cons, layObj_erase_l2 x, layObjs_erase_l2 xs]
end

theorem layTree_merge_l2 (x : LayItem) : x.tree.meta.mergeNames = false := by
  cases x with
  | defn p d L b => rw [LayItem.tree]; cases p <;> rfl
  | scope p nm b pre gap kids close => rw [LayItem.tree]; cases p <;> rfl

theorem layTrees_firstMerges_l2 (xs : List LayItem) : firstMerges (layTrees xs) = false := by
  cases xs with
  | nil => rfl
  | cons x xs => exact layTree_merge_l2 x

mutual
theorem layObj_ids_l2 : ∀ (x : LayItem) (l i : Nat),
    (x.obj l i).ids = (expIds i x.tree).map some ∧ x.count = x.tree.items
  | .defn p d L b, l, i => by
    obtain ⟨h1, h2⟩ := expIds_nestIn_l2 none i p
      (.defn { name := d.1, disabled := b, mergeNames := !p.isEmpty } d.2) false
      (by cases p <;> simp [Obj.meta])
    rw [LayItem.obj, LayItem.tree, nestIn_ids, h1, h2]
    simp [Obj.ids, expIds, Obj.items, LayItem.count]
  | .scope p nm b pre gap kids close, l, i => by
    obtain ⟨k1, k2⟩ := layObjs_idsItems_l2 kids (l + pre.lines.length + gap.lines.length) (i + 1)
    obtain ⟨h1, h2⟩ := expIds_nestIn_l2 none i p
      (.scope { name := nm, disabled := b, mergeNames := !p.isEmpty } (layTrees kids)) false
      (by cases p <;> simp [Obj.meta])
    rw [LayItem.obj, LayItem.tree, nestIn_ids, h1, h2]
    simp only [Obj.ids, expIds, Obj.items, layTrees_firstMerges_l2, Bool.false_eq_true, ↓reduceIte,
      LayItem.count, k1, k2]
    simp
theorem layObjs_idsItems_l2 : ∀ (xs : List LayItem) (l i : Nat),
    idsList (layObjs xs l i) = (expIdsSeq i (layTrees xs)).map some ∧
      layCount xs = itemsList (layTrees xs)
  | [], _, _ => ⟨rfl, rfl⟩
  | x :: xs, l, i => by
    obtain ⟨a1, a2⟩ := layObj_ids_l2 x l i
    obtain ⟨b1, b2⟩ := layObjs_idsItems_l2 xs (x.endLn l) (i + x.count)
    constructor
    · rw [layObjs, idsList, a1, b1, layTrees, expIdsSeq, a2]; simp
    · rw [layCount, layTrees, itemsList, a2, b2]
end

/-! #### `!` in nested documents -/

mutual
/-- the item without any `!` -/
def LayItem.unbang : LayItem → LayItem
  | .defn p d L _ => .defn p d L false
  | .scope p nm _ pre gap kids close => .scope p nm false pre gap (layUnbang kids) close
def layUnbang : List LayItem → List LayItem
  | [] => []
  | x :: xs => x.unbang :: layUnbang xs
end

mutual
/-- the `!` flags of an item, one per object of its tree in document order (a scope before its items);
    the scopes built for the leading components of a dotted name are never disabled -/
def LayItem.flags : LayItem → List Bool
  | .defn p _ _ b => List.replicate p.length false ++ [b]
  | .scope p _ b _ _ kids _ => List.replicate p.length false ++ b :: layFlags kids
def layFlags : List LayItem → List Bool
  | [] => []
  | x :: xs => x.flags ++ layFlags xs
end

mutual
/-- the tree with `is_disabled = False` on every object; nothing else is changed -/
def Obj.enableAll : Obj → Obj
  | .defn m ws => .defn { m with disabled := false } ws
  | .scope m os => .scope { m with disabled := false } (enableAllList os)
def enableAllList : List Obj → List Obj
  | [] => []
  | x :: xs => x.enableAll :: enableAllList xs
end

mutual
/-- the `is_disabled` flags of a tree in document order (a scope before its children) -/
def Obj.disabledFlags : Obj → List Bool
  | .defn m _ => [m.disabled]
  | .scope m os => m.disabled :: disabledFlagsList os
def disabledFlagsList : List Obj → List Bool
  | [] => []
  | x :: xs => x.disabledFlags ++ disabledFlagsList xs
end

theorem enableAll_nestIn_l2 (id : Option Nat) (p : List Str) (y : Obj) : ∀ b,
    (nestIn id b p y).enableAll = nestIn id b p y.enableAll := by
  induction p with
  | nil => intro b; rfl
  | cons n ns ih => intro b; rw [nestIn, Obj.enableAll, enableAllList, enableAllList, ih]; rfl

theorem disabledFlags_nestIn_l2 (id : Option Nat) (p : List Str) (y : Obj) : ∀ b,
    (nestIn id b p y).disabledFlags = List.replicate p.length false ++ y.disabledFlags := by
  induction p with
  | nil => intro b; rfl
  | cons n ns ih =>
    intro b
    rw [nestIn, Obj.disabledFlags, disabledFlagsList, disabledFlagsList, ih]
    simp [List.replicate_succ]

mutual
theorem unbang_facts_l2 : ∀ x : LayItem,
    x.unbang.count = x.count ∧ (∀ l, x.unbang.endLn l = x.endLn l) ∧ (∀ e, x.unbang.wf e = x.wf e)
  | .defn p d L b => ⟨rfl, fun _ => rfl, fun _ => rfl⟩
  | .scope p nm b pre gap kids close => by
    obtain ⟨h1, h2, h3⟩ := layUnbang_facts_l2 kids
    refine ⟨?_, fun l => ?_, fun e => ?_⟩
    · rw [LayItem.unbang, LayItem.count, LayItem.count, h1]
    · rw [LayItem.unbang, LayItem.endLn, LayItem.endLn, h2]
    · rw [LayItem.unbang, LayItem.wf, LayItem.wf, h3]
theorem layUnbang_facts_l2 : ∀ xs : List LayItem,
    layCount (layUnbang xs) = layCount xs ∧ (∀ l, layEndLn (layUnbang xs) l = layEndLn xs l) ∧
      (∀ e, wfLayItems (layUnbang xs) e = wfLayItems xs e)
  | [] => ⟨rfl, fun _ => rfl, fun _ => rfl⟩
  | x :: xs => by
    obtain ⟨a1, a2, a3⟩ := unbang_facts_l2 x
    obtain ⟨b1, b2, b3⟩ := layUnbang_facts_l2 xs
    have he : (layUnbang xs).isEmpty = xs.isEmpty := by cases xs <;> rfl
    refine ⟨?_, fun l => ?_, fun e => ?_⟩
    · rw [layUnbang, layCount, layCount, a1, b1]
    · rw [layUnbang, layEndLn, layEndLn, a2, b2]
    · rw [layUnbang, wfLayItems, wfLayItems, a3, b3, he]
end

mutual
theorem layObj_unbang_l2 : ∀ (x : LayItem) (l i : Nat), x.unbang.obj l i = (x.obj l i).enableAll
  | .defn p d L b, l, i => by
    rw [LayItem.unbang, LayItem.obj, LayItem.obj, enableAll_nestIn_l2]; rfl
  | .scope p nm b pre gap kids close, l, i => by
    rw [LayItem.unbang, LayItem.obj, LayItem.obj, enableAll_nestIn_l2, Obj.enableAll,
      layObjs_unbang_l2 kids]
theorem layObjs_unbang_l2 : ∀ (xs : List LayItem) (l i : Nat),
    layObjs (layUnbang xs) l i = enableAllList (layObjs xs l i)
  | [], _, _ => rfl
  | x :: xs, l, i => by
    obtain ⟨c1, c2, _⟩ := unbang_facts_l2 x
    rw [layUnbang, layObjs, layObjs, enableAllList, layObj_unbang_l2 x, c1, c2, layObjs_unbang_l2 xs]
end

mutual
theorem layObj_flags_l2 : ∀ (x : LayItem) (l i : Nat), (x.obj l i).disabledFlags = x.flags
  | .defn p d L b, l, i => by rw [LayItem.obj, disabledFlags_nestIn_l2, LayItem.flags]; rfl
  | .scope p nm b pre gap kids close, l, i => by
    rw [LayItem.obj, disabledFlags_nestIn_l2, Obj.disabledFlags, layObjs_flags_l2 kids, LayItem.flags]
theorem layObjs_flags_l2 : ∀ (xs : List LayItem) (l i : Nat),
    disabledFlagsList (layObjs xs l i) = layFlags xs
  | [], _, _ => rfl
  | x :: xs, l, i => by
    rw [layObjs, disabledFlagsList, layObj_flags_l2 x, layObjs_flags_l2 xs, layFlags]
end

/-! #### without `!` the abstract trees are `RTTree`s -/

mutual
theorem layTree_rt_l2 : ∀ (x : LayItem) (e : Bool), x.wf e = true → (∀ b ∈ x.flags, b = false) →
    RTNode [] x.tree ∧ x.tree.allDefns ChainOK
  | .defn p d L b, e, hwf, hfl => by
    simp only [LayItem.wf, Bool.and_eq_true] at hwf
    obtain ⟨hp, hn, hres, _⟩ := goodPathName_facts_l2 hwf.1.1.1
    obtain ⟨_, hne, hgood, hc⟩ := goodDef_good hwf.1.1.2
    obtain rfl : b = false := hfl b (by simp [LayItem.flags])
    rw [LayItem.tree, allDefns_nestIn_l2]
    exact ⟨rtnode_nestIn_l2 p _ [] hp (by unfold RTNode; exact ⟨rfl, hn, hres, hne, hgood⟩), hc⟩
  | .scope p nm b pre gap kids close, e, hwf, hfl => by
    simp only [LayItem.wf, Bool.and_eq_true] at hwf
    obtain ⟨hp, hn, hres, _⟩ := goodPathName_facts_l2 hwf.1.1.1.1.1
    obtain rfl : b = false := hfl b (by simp [LayItem.flags])
    obtain ⟨h1, h2⟩ := layTrees_rt_l2 kids _ hwf.2 (fun c hc => hfl c (by simp [LayItem.flags, hc]))
    rw [LayItem.tree, allDefns_nestIn_l2]
    exact ⟨rtnode_nestIn_l2 p _ [] hp (by unfold RTNode; exact ⟨rfl, hn, Or.inl ⟨hres, h1⟩⟩), h2⟩
theorem layTrees_rt_l2 : ∀ (xs : List LayItem) (e : Bool), wfLayItems xs e = true →
    (∀ b ∈ layFlags xs, b = false) → RTAll (layTrees xs) ∧ allDefnsList ChainOK (layTrees xs)
  | [], _, _, _ => ⟨by unfold RTAll; trivial, by unfold allDefnsList; trivial⟩
  | x :: xs, e, hwf, hfl => by
    simp only [wfLayItems, Bool.and_eq_true] at hwf
    obtain ⟨a1, a2⟩ := layTree_rt_l2 x _ hwf.1 (fun c hc => hfl c (by simp [layFlags, hc]))
    obtain ⟨b1, b2⟩ := layTrees_rt_l2 xs _ hwf.2 (fun c hc => hfl c (by simp [layFlags, hc]))
    rw [layTrees]
    unfold RTAll allDefnsList
    exact ⟨⟨a1, b1⟩, a2, b2⟩
end

/-! #### source lines of a nested document in terms of the text in front -/

mutual
/-- the object the parser builds for an item, every line computed from the text in front: `before` is
    the text in front of the item's filler -/
def LayItem.lined : LayItem → Str → Nat → Obj
  | .defn p d L b, before, i =>
    nestIn (some i) false p
      (.defn { name := d.1, id := some i, disabled := b,
               line := some (1 + nlCount (before ++ L.pre.text)), mergeNames := !p.isEmpty }
        (linedWords (before ++ L.pre.text ++ bangText_l2 b ++ dottedName p d.1 ++ L.sp1 ++ ['=']) L.gaps d.2))
  | .scope p nm b pre gap kids _, before, i =>
    nestIn (some i) false p
      (.scope { name := nm, id := some i, disabled := b,
                line := some (1 + nlCount (before ++ pre.text)), mergeNames := !p.isEmpty }
        (layLined kids (before ++ pre.text ++ bangText_l2 b ++ dottedName p nm ++ gap.text ++ ['{']) (i + 1)))
def layLined : List LayItem → Str → Nat → List Obj
  | [], _, _ => []
  | x :: xs, before, i => x.lined before i :: layLined xs (before ++ (x.pre.text ++ x.body)) (i + x.count)
end

theorem nlCount_bang_l2 (b : Bool) : nlCount (bangText_l2 b) = 0 := by cases b <;> decide

theorem nlCount_closeB_l2 : nlCount ['}'] = 0 := by decide

/-- where a name stands: `none` for a scope that `scope.adopt` builds for a leading component of a
    dotted name (it has no source position); else the text in front of the (dotted) name — up to and
    including a `!` — and the (dotted) name as it is written -/
abbrev NamePos := Option (Str × Str)

mutual
/-- for every object of the item's tree in document order: its name and where it stands -/
def LayItem.namePos : LayItem → Str → List (Str × NamePos)
  | .defn p d L b, before =>
    p.map (fun n => (n, none)) ++ [(d.1, some (before ++ L.pre.text ++ bangText_l2 b, dottedName p d.1))]
  | .scope p nm b pre gap kids _, before =>
    p.map (fun n => (n, none)) ++ (nm, some (before ++ pre.text ++ bangText_l2 b, dottedName p nm)) ::
      layNamePos kids (before ++ pre.text ++ bangText_l2 b ++ dottedName p nm ++ gap.text ++ ['{'])
def layNamePos : List LayItem → Str → List (Str × NamePos)
  | [], _ => []
  | x :: xs, before => x.namePos before ++ layNamePos xs (before ++ (x.pre.text ++ x.body))
end

mutual
/-- name and source line of every object of a tree in document order -/
def Obj.nameLines : Obj → List (Str × Option Nat)
  | .defn m _ => [(m.name, m.line)]
  | .scope m os => (m.name, m.line) :: nameLinesList os
def nameLinesList : List Obj → List (Str × Option Nat)
  | [] => []
  | x :: xs => x.nameLines ++ nameLinesList xs
end

/-- the line a position stands for: `1 +` the number of newlines in front of the name -/
def NamePos.line : NamePos → Option Nat
  | none => none
  | some (before, _) => some (1 + nlCount before)

theorem nameLines_nestIn_l2 (id : Option Nat) (p : List Str) (y : Obj) : ∀ b,
    (nestIn id b p y).nameLines = p.map (fun n => (n, none)) ++ y.nameLines := by
  induction p with
  | nil => intro b; rfl
  | cons n ns ih =>
    intro b
    rw [nestIn, Obj.nameLines, nameLinesList, nameLinesList, ih]
    simp

mutual
theorem lined_nameLines_l2 : ∀ (x : LayItem) (before : Str) (i : Nat),
    (x.lined before i).nameLines = (x.namePos before).map (fun e => (e.1, e.2.line))
  | .defn p d L b, before, i => by
    rw [LayItem.lined, nameLines_nestIn_l2, LayItem.namePos]
    simp only [Obj.nameLines, List.map_append, List.map_map, List.map_cons, List.map_nil, NamePos.line]
    rw [nlCount_append _ (bangText_l2 b), nlCount_bang_l2, Nat.add_zero]
    rfl
  | .scope p nm b pre gap kids close, before, i => by
    rw [LayItem.lined, nameLines_nestIn_l2, LayItem.namePos]
    simp only [Obj.nameLines, List.map_append, List.map_map, List.map_cons, NamePos.line]
    rw [linedList_nameLines_l2 kids, nlCount_append _ (bangText_l2 b), nlCount_bang_l2, Nat.add_zero]
    rfl
theorem linedList_nameLines_l2 : ∀ (xs : List LayItem) (before : Str) (i : Nat),
    nameLinesList (layLined xs before i) = (layNamePos xs before).map (fun e => (e.1, e.2.line))
  | [], _, _ => rfl
  | x :: xs, before, i => by
    rw [layLined, nameLinesList, layNamePos, List.map_append, lined_nameLines_l2 x,
      linedList_nameLines_l2 xs]
end

mutual
theorem namePos_prefix_l2 : ∀ (x : LayItem) (before : Str) (n pre full : Str),
    (n, some (pre, full)) ∈ x.namePos before →
    ∃ tail, before ++ (x.pre.text ++ x.body) = pre ++ (full ++ tail)
  | .defn p d L b, before, n, pre, full, hpn => by
    simp only [LayItem.namePos, List.mem_append, List.mem_map, List.mem_singleton, Prod.mk.injEq,
      Option.some.injEq] at hpn
    rcases hpn with ⟨_, _, _, h⟩ | ⟨_, rfl, rfl⟩
    · cases h
    · exact ⟨L.sp1 ++ '=' :: (wordsLay L.gaps d.2 ++ L.term.text),
        by simp [LayItem.pre, LayItem.body, defText]⟩
  | .scope p nm b pre0 gap kids close, before, n, pre, full, hpn => by
    simp only [LayItem.namePos, List.mem_append, List.mem_map, List.mem_cons, Prod.mk.injEq,
      Option.some.injEq] at hpn
    rcases hpn with ⟨_, _, _, h⟩ | ⟨_, rfl, rfl⟩ | hpn
    · cases h
    · exact ⟨gap.text ++ '{' :: (layItemsText kids ++ (close.text ++ ['}'])),
        by simp [LayItem.pre, LayItem.body]⟩
    · obtain ⟨tail, ht⟩ := layNamePos_prefix_l2 kids _ n pre full hpn
      refine ⟨tail ++ (close.text ++ ['}']), ?_⟩
      have : before ++ ((LayItem.scope p nm b pre0 gap kids close).pre.text
            ++ (LayItem.scope p nm b pre0 gap kids close).body)
          = (before ++ pre0.text ++ bangText_l2 b ++ dottedName p nm ++ gap.text ++ ['{'] ++ layItemsText kids)
            ++ (close.text ++ ['}']) := by
        simp [LayItem.pre, LayItem.body]
      rw [this, ht]
      simp
theorem layNamePos_prefix_l2 : ∀ (xs : List LayItem) (before : Str) (n pre full : Str),
    (n, some (pre, full)) ∈ layNamePos xs before →
    ∃ tail, before ++ layItemsText xs = pre ++ (full ++ tail)
  | [], _, _, _, _, hpn => by simp [layNamePos] at hpn
  | x :: xs, before, n, pre, full, hpn => by
    simp only [layNamePos, List.mem_append] at hpn
    rcases hpn with hpn | hpn
    · obtain ⟨tail, ht⟩ := namePos_prefix_l2 x before n pre full hpn
      refine ⟨tail ++ layItemsText xs, ?_⟩
      rw [layItemsText, ← List.append_assoc, ht]
      simp
    · obtain ⟨tail, ht⟩ := layNamePos_prefix_l2 xs _ n pre full hpn
      exact ⟨tail, by rw [layItemsText, ← List.append_assoc, ht]⟩
end

end Phil
