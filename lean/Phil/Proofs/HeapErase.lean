/-
  Erasing identity: the value tree `extractT` reads off the heap (Phil/HeapExtract.lean), with the provenance
  of handed-out word lists forgotten (`erase`), is the value the pure extraction model
  `Phil.extractObj` (Phil/Fetch.lean) computes on the abstract tree the object denotes.

  The two models differ in one place only: `philJoinT` / `philSetT` look at the constructor of a `TVal`
  (`record`, `multi`, `pure none`), `philJoin` / `philSet` at the constructor of a `PVal`.  They agree on
  NORMAL value trees — `pure v` is never a scope_extract or a scope_extract_list — and every value tree an
  extraction builds is normal because no converter returns a scope_extract (`fromWords_atomic`).
-/
import Phil.Proofs.HeapExtractLemmas
namespace Phil.Heap
open Phil

/-! ### converters return atomic values -/

theorem fromWords_atomic (c : Conv) (env : EvalEnv) (opt : AttrVal) (ws : List Word) (v : PVal)
    (h : fromWords c env opt ws = .ok v) : v.atomic = true :=
  inDomain_atomic c v (fromWords_in_domain c env opt ws v h)

theorem extractDefn_atomic (e : Envs) (m : Meta) (ws : List Word) (v : PVal)
    (h : extractDefn e m ws = .ok v) : v.atomic = true := by
  unfold extractDefn at h
  split at h
  · exact fromWords_atomic _ _ _ _ _ h
  · exact fromWords_atomic _ _ _ _ _ h
  · cases h
  · cases h

/-! ### erasure and normal value trees -/

mutual
/-- forget which definition handed out a word list -/
def erase : TVal → PVal
  | .pure v => v
  | .handout _ ws => .words ws
  | .record fs => .record (eraseFields fs)
  | .multi o l => .multi o (eraseList l)
def eraseFields : List (Str × TVal) → List (Str × PVal)
  | [] => []
  | (k, v) :: rest => (k, erase v) :: eraseFields rest
def eraseList : List TVal → List PVal
  | [] => []
  | v :: rest => erase v :: eraseList rest
end

mutual
/-- `pure` holds atomic values only -/
def TVal.norm : TVal → Bool
  | .pure v => v.atomic
  | .handout _ _ => true
  | .record fs => normFields fs
  | .multi _ l => normList l
def normFields : List (Str × TVal) → Bool
  | [] => true
  | (_, v) :: rest => v.norm && normFields rest
def normList : List TVal → Bool
  | [] => true
  | v :: rest => v.norm && normList rest
end

def eraseX : XT → XVal
  | .disabled => .disabled
  | .val v => .val (erase v)

def XT.norm : XT → Bool
  | .disabled => true
  | .val v => v.norm

theorem eraseFields_eq_map : ∀ (fs : List (Str × TVal)), eraseFields fs = fs.map (fun p => (p.1, erase p.2))
  | [] => rfl
  | (k, v) :: rest => by rw [eraseFields, eraseFields_eq_map rest]; rfl

theorem eraseList_eq_map : ∀ (l : List TVal), eraseList l = l.map erase
  | [] => rfl
  | v :: rest => by rw [eraseList, eraseList_eq_map rest]; rfl

theorem normFields_eq_all : ∀ (fs : List (Str × TVal)), normFields fs = fs.all (fun p => p.2.norm)
  | [] => rfl
  | (k, v) :: rest => by rw [normFields, normFields_eq_all rest]; rfl

theorem normList_eq_all : ∀ (l : List TVal), normList l = l.all TVal.norm
  | [] => rfl
  | v :: rest => by rw [normList, normList_eq_all rest]; rfl

theorem eraseFields_append (a b : List (Str × TVal)) : eraseFields (a ++ b) = eraseFields a ++ eraseFields b := by
  simp only [eraseFields_eq_map, List.map_append]

theorem eraseList_append (a b : List TVal) : eraseList (a ++ b) = eraseList a ++ eraseList b := by
  simp only [eraseList_eq_map, List.map_append]

theorem eraseFields_length (a : List (Str × TVal)) : (eraseFields a).length = a.length := by
  simp only [eraseFields_eq_map, List.length_map]

theorem eraseList_length (a : List TVal) : (eraseList a).length = a.length := by
  simp only [eraseList_eq_map, List.length_map]

theorem normFields_append (a b : List (Str × TVal)) : normFields (a ++ b) = (normFields a && normFields b) := by
  simp only [normFields_eq_all, List.all_append]

theorem normList_append (a b : List TVal) : normList (a ++ b) = (normList a && normList b) := by
  simp only [normList_eq_all, List.all_append]

def isNoneP : PVal → Bool
  | .none => true
  | _ => false

theorem isNoneP_erase (t : TVal) (h : t.norm = true) : isNoneP (erase t) = t.isNone := by
  cases t with
  | pure v => cases v <;> rfl
  | handout d ws => rfl
  | record fs => rfl
  | multi o l => rfl

theorem fieldGet_erase (k : Str) : ∀ (fs : List (Str × TVal)),
    fieldGet (eraseFields fs) k = (tGet fs k).map erase
  | [] => rfl
  | (k', v) :: rest => by
    have ih := fieldGet_erase k rest
    unfold fieldGet tGet at ih ⊢
    simp only [eraseFields, List.find?_cons]
    cases hk : (k' == k)
    · simpa using ih
    · simp

theorem tGet_norm (k : Str) (fs : List (Str × TVal)) (t : TVal) (hn : normFields fs = true)
    (h : tGet fs k = some t) : t.norm = true := by
  rw [normFields_eq_all, List.all_eq_true] at hn
  obtain ⟨p, hp, rfl⟩ := Option.map_eq_some_iff.mp h
  exact hn p (List.mem_of_find?_eq_some hp)

theorem any_erase (k : Str) (fs : List (Str × TVal)) :
    (eraseFields fs).any (·.1 == k) = fs.any (·.1 == k) := by
  simp only [eraseFields_eq_map, List.any_map]
  rfl

theorem map_erase (k : Str) (v : TVal) (fs : List (Str × TVal)) :
    (eraseFields fs).map (fun p => if p.1 == k then (k, erase v) else p) =
      eraseFields (fs.map (fun p => if p.1 == k then (k, v) else p)) := by
  simp only [eraseFields_eq_map, List.map_map]
  refine List.map_congr_left (fun p _ => ?_)
  simp only [Function.comp]
  split <;> rfl

theorem map_norm (k : Str) (v : TVal) (hv : v.norm = true) (fs : List (Str × TVal)) (hn : normFields fs = true) :
    normFields (fs.map (fun p => if p.1 == k then (k, v) else p)) = true := by
  rw [normFields_eq_all, List.all_eq_true] at hn ⊢
  intro p hp
  obtain ⟨q, hq, rfl⟩ := List.mem_map.mp hp
  split
  · exact hv
  · exact hn q hq

theorem fieldSet_erase (fs : List (Str × TVal)) (k : Str) (v : TVal) :
    fieldSet (eraseFields fs) k (erase v) = eraseFields (tSet fs k v) := by
  unfold fieldSet tSet
  rw [any_erase]
  cases fs.any (·.1 == k)
  · simp [eraseFields_append, eraseFields]
  · simp only [↓reduceIte]
    exact map_erase k v fs

theorem tSet_norm (fs : List (Str × TVal)) (k : Str) (v : TVal) (hn : normFields fs = true) (hv : v.norm = true) :
    normFields (tSet fs k v) = true := by
  unfold tSet
  cases fs.any (·.1 == k)
  · simp [normFields_append, normFields, hn, hv]
  · simp only [↓reduceIte]
    exact map_norm k v hv fs hn

/-! ### the two `__phil_join__` / `__phil_set__` models agree on normal value trees -/

def RelF (rt : R (List (Str × TVal))) (rp : R (List (Str × PVal))) : Prop :=
  match rt with
  | .ok r => normFields r = true ∧ rp = .ok (eraseFields r)
  | .error e => rp = .error e

theorem RelF.ok {r : List (Str × TVal)} (h : normFields r = true) : RelF (.ok r) (.ok (eraseFields r)) := ⟨h, rfl⟩

theorem RelF.map_eq {x : R (List (Str × TVal))} {y : R (List (Str × PVal))} (h : RelF x y) :
    x.map eraseFields = y := by
  cases x with
  | error e => exact h.symm
  | ok r => exact h.2.symm

theorem foldlM_relF {α β : Type} (stepT : List (Str × TVal) → α → R (List (Str × TVal)))
    (stepP : List (Str × PVal) → β → R (List (Str × PVal))) (Rel : α → β → Prop)
    (hstep : ∀ acc a b, normFields acc = true → Rel a b → RelF (stepT acc a) (stepP (eraseFields acc) b))
    {l : List α} {l' : List β} (hl : Rel2 Rel l l') :
    ∀ acc, normFields acc = true → RelF (l.foldlM stepT acc) (l'.foldlM stepP (eraseFields acc)) := by
  induction hl using Rel2.induction with
  | nil => exact fun acc ha => RelF.ok ha
  | cons h1 _ ih =>
    intro acc ha
    simp only [List.foldlM_cons]
    have hs := hstep acc _ _ ha h1
    cases hst : stepT acc _ with
    | error e =>
      rw [hst] at hs
      simp only [RelF] at hs
      rw [hs]
      rfl
    | ok r =>
      rw [hst] at hs
      simp only [RelF] at hs
      rw [hs.2]
      exact ih r hs.1

theorem RelF.set (fs : List (Str × TVal)) (k : Str) (v : TVal) (hfs : normFields fs = true) (hv : v.norm = true) :
    RelF (.ok (tSet fs k v)) (.ok (fieldSet (eraseFields fs) k (erase v))) := by
  rw [fieldSet_erase]; exact RelF.ok (tSet_norm fs k v hfs hv)


theorem eraseFields_rel : ∀ (fs : List (Str × TVal)), normFields fs = true →
    Rel2 (fun kv kv' => kv.2.norm = true ∧ kv' = (kv.1, erase kv.2)) fs (eraseFields fs)
  | [], _ => trivial
  | (k, v) :: rest, h => by
    rw [normFields, Bool.and_eq_true] at h
    exact ⟨⟨h.1, rfl⟩, eraseFields_rel rest h.2⟩

theorem RelF.map_set (acc : List (Str × TVal)) (k : Str) (hacc : normFields acc = true)
    {x : R (List (Str × TVal))} {y : R (List (Str × PVal))} (h : RelF x y) :
    RelF (x.map (fun r => tSet acc k (.record r))) (y.map (fun r => fieldSet (eraseFields acc) k (.record r))) := by
  cases x with
  | error e =>
    simp only [RelF] at h
    subst h
    rfl
  | ok r =>
    simp only [RelF] at h
    rw [h.2]
    exact RelF.set acc k (.record r) hacc (by simpa [TVal.norm] using h.1)

theorem filter_erase (l2 : List TVal) (h : normList l2 = true) :
    (eraseList l2).filter (fun x => match x with | .none => false | _ => true) =
      eraseList (l2.filter (fun x => !x.isNone)) ∧ normList (l2.filter (fun x => !x.isNone)) = true := by
  rw [normList_eq_all, List.all_eq_true] at h
  constructor
  · rw [eraseList_eq_map, eraseList_eq_map, List.filter_map]
    refine congrArg _ (List.filter_congr fun x hx => ?_)
    rw [← isNoneP_erase x (h x hx)]
    simp only [Function.comp]
    cases erase x <;> rfl
  · rw [normList_eq_all, List.all_eq_true]
    exact fun x hx => h x (List.mem_filter.mp hx).1

def headDropT (l' : List TVal) : List TVal :=
  match l' with
  | x :: r => if x.isNone && decide (l'.length > 1) then r else l'
  | _ => l'
def headDropP (L : List PVal) : List PVal :=
  match L with
  | PVal.none :: r => if L.length > 1 then r else L
  | _ => L

theorem headDrop_erase (l' : List TVal) (h : normList l' = true) :
    headDropP (eraseList l') = eraseList (headDropT l') ∧ normList (headDropT l') = true := by
  unfold headDropP headDropT
  cases l' with
  | nil => exact ⟨rfl, rfl⟩
  | cons x r =>
    rw [normList, Bool.and_eq_true] at h
    have hx : (match erase x with | .none => true | _ => false) = x.isNone := isNoneP_erase x h.1
    cases hn : x.isNone
    · rw [hn] at hx
      simp only [hn, eraseList, Bool.false_and, Bool.false_eq_true, if_false, normList, h.1, h.2, Bool.and_self, and_true]
      cases he : erase x <;> simp_all
    · rw [hn] at hx
      have he : erase x = .none := by
        cases he : erase x <;> simp_all
      simp only [hn, eraseList, he, Bool.true_and, List.length_cons, eraseList_length, decide_eq_true_eq]
      by_cases hl : r.length + 1 > 1
      · simp only [hl, if_true, h.2, and_self]
      · simp only [hl, if_false, eraseList, he, normList, h.1, h.2, Bool.and_self, and_self]

theorem philJoin_rel : ∀ (fuel : Nat) (a b : List (Str × TVal)), normFields a = true → normFields b = true →
    RelF (philJoinT fuel a b) (philJoin fuel (eraseFields a) (eraseFields b))
  | 0, _, _, _, _ => by simp only [philJoinT, philJoin, RelF]
  | fuel + 1, a, b, ha, hb => by
    rw [philJoinT, philJoin]
    refine foldlM_relF _ _ _ ?_ (eraseFields_rel b hb) a ha
    rintro acc ⟨k, v⟩ _ hacc ⟨hv, rfl⟩
    dsimp only
    by_cases hres : isReserved k = true
    · simp only [hres, if_true]
      exact RelF.ok hacc
    · simp only [hres, Bool.false_eq_true, if_false]
      rw [fieldGet_erase]
      cases hg : tGet acc k with
      | none => exact RelF.set acc k v hacc hv
      | some t =>
        have ht := tGet_norm k acc t hacc hg
        cases t with
        | pure pv =>
          cases pv <;> first
            | exact RelF.set acc k v hacc hv
            | (simp [TVal.norm, PVal.atomic] at ht)
        | handout d ws => exact RelF.set acc k v hacc hv
        | record sf =>
          have hsf : normFields sf = true := by simpa [TVal.norm] using ht
          cases v with
          | record of_ =>
            have hof : normFields of_ = true := by simpa [TVal.norm] using hv
            exact RelF.map_set acc k hacc (philJoin_rel fuel sf of_ hsf hof)
          | pure pv =>
            cases pv <;> first
              | exact rfl
              | (simp [TVal.norm, PVal.atomic] at hv)
          | _ => exact rfl
        | multi o l =>
          have hl : normList l = true := by simpa [TVal.norm] using ht
          cases v with
          | multi o2 l2 =>
            simp only [Option.map_some, erase]
            have hl2 : normList l2 = true := by simpa [TVal.norm] using hv
            obtain ⟨f1, f2⟩ := filter_erase l2 hl2
            erw [f1]
            rw [← eraseList_append]
            have hn' : normList (l ++ l2.filter (fun x => !x.isNone)) = true := by
              rw [normList_append, hl, f2]; rfl
            generalize l ++ List.filter (fun x => !x.isNone) l2 = l' at hn' ⊢
            obtain ⟨g1, g2⟩ := headDrop_erase l' hn'
            change RelF (.ok (tSet acc k (.multi o (headDropT l'))))
              (.ok (fieldSet (eraseFields acc) k (.multi o (headDropP (eraseList l')))))
            rw [g1]
            exact RelF.set acc k (.multi o (headDropT l')) hacc (by simpa [TVal.norm] using g2)
          | pure pv =>
            cases pv <;> first
              | exact rfl
              | (simp [TVal.norm, PVal.atomic] at hv)
          | _ => exact rfl

def optTrue : AttrVal → Bool
  | .bool true => true
  | _ => false

theorem append_rel (fs0 : List (Str × TVal)) (name : Str) (o opt : AttrVal) (l : List TVal) (v : TVal)
    (hfs0 : normFields fs0 = true) (hl : normList l = true) (hv : v.norm = true) :
    RelF (if (!v.isNone || !optTrue opt) = true then .ok (tSet fs0 name (.multi o (l ++ [v]))) else .ok fs0)
      (if (!isNoneP (erase v) || !optTrue opt) = true
        then .ok (fieldSet (eraseFields fs0) name (.multi o (eraseList l ++ [erase v]))) else .ok (eraseFields fs0)) := by
  rw [isNoneP_erase v hv]
  by_cases hc : (!v.isNone || !optTrue opt) = true
  · rw [if_pos hc, if_pos hc]
    have hn : (TVal.multi o (l ++ [v])).norm = true := by
      simp [TVal.norm, normList_append, normList, hl, hv]
    have := RelF.set fs0 name (.multi o (l ++ [v])) hfs0 hn
    simp only [erase, eraseList_append, eraseList] at this
    exact this
  · rw [if_neg hc, if_neg hc]
    exact RelF.ok hfs0

theorem philSet_rel (fs : List (Str × TVal)) (name : Str) (opt : AttrVal) (mult : Bool) (x : XT)
    (hfs : normFields fs = true) (hx : x.norm = true) :
    RelF (philSetT fs name opt mult x) (philSet (eraseFields fs) name opt mult (eraseX x)) := by
  cases mult with
  | false =>
    have hv : ∀ v : TVal, v.norm = true →
        RelF (philSetT fs name opt false (.val v)) (philSet (eraseFields fs) name opt false (.val (erase v))) := by
      intro v hv
      unfold philSetT philSet
      rw [fieldGet_erase]
      cases hg : tGet fs name with
      | none => exact RelF.set fs name v hfs hv
      | some t =>
        have ht := tGet_norm name fs t hfs hg
        cases t with
        | pure pv =>
          cases pv <;> first
            | exact RelF.set fs name v hfs hv
            | (simp [TVal.norm, PVal.atomic] at ht)
        | record node =>
          have hnode : normFields node = true := by simpa [TVal.norm] using ht
          cases v with
          | record val =>
            have hval : normFields val = true := by simpa [TVal.norm] using hv
            simp only [Bool.not_false, if_true, Option.map_some, erase]
            rw [eraseFields_length, eraseFields_length]
            exact RelF.map_set fs name hfs (philJoin_rel (node.length + val.length + 64) node val hnode hval)
          | pure pv =>
            cases pv <;> first
              | exact RelF.set fs name _ hfs hv
              | (simp [TVal.norm, PVal.atomic] at hv)
          | _ => exact RelF.set fs name _ hfs hv
        | _ => exact RelF.set fs name v hfs hv
    cases x with
    | disabled => exact hv (.pure .none) rfl
    | val v => exact hv v hx
  | true =>
    unfold philSetT philSet
    rw [fieldGet_erase]
    cases hg : tGet fs name with
    | none =>
      have n0 : normFields (tSet fs name (.multi opt [])) = true := tSet_norm fs name _ hfs rfl
      simp only [Bool.not_true, Bool.false_eq_true, if_false, Option.map_none]
      rw [show fieldSet (eraseFields fs) name (.multi opt []) = eraseFields (tSet fs name (.multi opt [])) from
        fieldSet_erase fs name (.multi opt [])]
      cases x with
      | disabled => exact RelF.ok n0
      | val v => exact append_rel (tSet fs name (.multi opt [])) name opt opt [] v n0 rfl hx
    | some t =>
      have ht := tGet_norm name fs t hfs hg
      cases t with
      | multi o l =>
        have hl : normList l = true := by simpa [TVal.norm] using ht
        cases x with
        | disabled => exact RelF.ok hfs
        | val v => exact append_rel fs name o opt l v hfs hl hx
      | pure pv =>
        cases x with
        | disabled => cases pv <;> exact RelF.ok hfs
        | val v =>
          cases pv <;> first
            | exact rfl
            | (simp [TVal.norm, PVal.atomic] at ht)
      | _ =>
        cases x with
        | disabled => exact RelF.ok hfs
        | val v => exact rfl

def RelV (rt : R TVal) (rp : R PVal) : Prop :=
  match rt with
  | .ok t => t.norm = true ∧ rp = .ok (erase t)
  | .error e => rp = .error e

theorem RelV.map_eq {x : R TVal} {y : R PVal} (h : RelV x y) : x.map erase = y := by
  cases x with
  | error e => exact h.symm
  | ok t => exact h.2.symm

theorem extractDefnT_rel (e : Envs) (d : Nat) (m : Meta) (ws : List Word) :
    RelV (extractDefnT e d m ws) (extractDefn e m ws) := by
  unfold extractDefnT
  cases hd : extractDefn e m ws with
  | error err => rfl
  | ok v =>
    have hat := extractDefn_atomic e m ws v hd
    cases v <;> simp only [RelV, erase, TVal.norm, and_self] <;> first | exact hat | trivial

theorem RelV.of_fields {x : R (List (Str × TVal))} {y : R (List (Str × PVal))} (h : RelF x y) :
    RelV (x.map TVal.record) (y.map PVal.record) := by
  cases x with
  | error err => simp only [RelF] at h; subst h; rfl
  | ok r =>
    simp only [RelF] at h
    rw [h.2]
    simp only [Except.map, RelV, TVal.norm, erase, h.1, and_self]

theorem extractT_rel (e : Envs) : ∀ (fuel : Nat) (h : Heap) (x : Nat) (o : Obj) (f : Nat), absF f h x = some o →
    RelV (extractT e fuel h x) (extractObj e fuel o)
  | 0, _, _, _, _, _ => by simp only [extractT, extractObj, RelV]
  | fuel + 1, h, x, o, f, ha => by
    cases f with
    | zero => simp [absF] at ha
    | succ f =>
      rcases absF_succ.mp ha with ⟨m, ws, p, hx, rfl⟩ | ⟨m, ks, p, os, hx, hos, rfl⟩
      · simp only [extractT, hx, extractObj]
        exact extractDefnT_rel e x m ws
      · simp only [extractT, hx, extractObj]
        apply RelV.of_fields
        refine foldlM_relF _ _ (fun k ok => absF f h k = some ok) ?_ (mapOpt_eq_some.mp hos) [] rfl
        intro acc k ok hacc hk
        obtain ⟨n, hn, hmeta⟩ := absF_meta hk
        have ih := extractT_rel e fuel h k ok f hk
        simp only [hn, hmeta, Obj.name, Obj.attr, isMultiple]
        by_cases ht : ok.meta.tmpl < 0
        · rw [if_pos ht, if_pos ht]
          exact RelF.ok hacc
        · rw [if_neg ht, if_neg ht]
          by_cases hd : (ok.meta.disabled || decide (ok.meta.tmpl > 0)) = true
          · rw [if_pos hd, if_pos hd]
            exact philSet_rel acc _ _ _ .disabled hacc rfl
          · rw [if_neg hd, if_neg hd]
            cases hxt : extractT e fuel h k with
            | error err =>
              rw [hxt] at ih
              simp only [RelV] at ih
              rw [ih]
              rfl
            | ok t =>
              rw [hxt] at ih
              simp only [RelV] at ih
              rw [ih.2]
              exact philSet_rel acc _ _ _ (.val t) hacc ih.1


end Phil.Heap
