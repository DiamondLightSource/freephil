/-
  Lemmas behind C03: the quoted scanner inverts `escape` for every string.
-/
import Phil.Tok
namespace Phil

def nlCount (s : Str) : Nat := s.count '\n'

theorem bump_eq (c : Char) (l : Nat) : bump c l = l + nlCount [c] := by
  unfold bump nlCount
  by_cases h : c = '\n' <;> simp [h]

/-- Core lemma, both quote styles: scanning `escape q s` followed by the closing token (`q`, or `q q q`
    for a triple quote — the escaped text never contains that bare sequence) returns exactly `s`,
    stops right after the closing token and counts the newlines of `s`. -/
theorem scanQ_escape (q : Char) (hq : q ≠ '\\') (hn : q ≠ '\n') (triple : Bool) (s rest : Str) :
    ∀ (line : Nat) (acc : Str),
      scanQ q triple false (escape q s ++ q :: ((if triple then [q, q] else []) ++ rest)) line acc
        = .ok (acc.reverse ++ s, rest, line + nlCount s) := by
  induction s with
  | nil => intro line acc; cases triple <;> simp [escape, scanQ, nlCount]
  | cons c cs ih =>
    intro line acc
    have hq' : ¬ ('\\' = q) := fun h => hq h.symm
    by_cases h1 : c = '\\'
    · subst h1
      simp [escape, scanQ, hq', ih, nlCount]
    · by_cases h2 : c = q
      · subst h2
        simp [escape, scanQ, hq, hq', ih, nlCount, hn]
      · simp [escape, scanQ, h1, h2, ih, bump_eq, nlCount, List.count_cons]
        omega

theorem scanQ_escape_single (q : Char) (hq : q ≠ '\\') (hn : q ≠ '\n') (s rest : Str) :
    ∀ (line : Nat) (acc : Str),
      scanQ q false false (escape q s ++ q :: rest) line acc
        = .ok (acc.reverse ++ s, rest, line + nlCount s) :=
  scanQ_escape q hq hn false s rest

theorem scanQ_escape_triple (q : Char) (hq : q ≠ '\\') (hn : q ≠ '\n') (s rest : Str) :
    ∀ (line : Nat) (acc : Str),
      scanQ q true false (escape q s ++ q :: q :: q :: rest) line acc
        = .ok (acc.reverse ++ s, rest, line + nlCount s) :=
  scanQ_escape q hq hn true s rest


theorem escape_head_ne (q : Char) (hq : q ≠ '\\') (s : Str) :
    ∀ c cs, escape q s = c :: cs → c = q → False := by
  intro c cs h hc
  cases s with
  | nil => simp [escape] at h
  | cons d ds =>
    simp only [escape] at h
    split at h
    · simp at h; exact hq (hc ▸ h.1.symm)
    · split at h
      · simp at h; exact hq (hc ▸ h.1.symm)
      · rename_i h1 h2
        simp at h
        simp at h2
        exact h2 (h.1 ▸ hc)

theorem not_triple_after_open (q : Char) (hq : q ≠ '\\') (s rest : Str) (hrest : ∀ r, rest ≠ q :: r) :
    isTripleOpen q (escape q s ++ q :: rest) = false := by
  cases hs : escape q s with
  | nil =>
    cases rest with
    | nil => simp [isTripleOpen]
    | cons r rs =>
      have : r ≠ q := fun h => hrest rs (by rw [h])
      simp [isTripleOpen, this]
  | cons a as =>
    have : a ≠ q := fun h => escape_head_ne q hq s a as hs h
    cases as <;> simp [isTripleOpen, this]

end Phil

namespace Phil

theorem quoteChar_facts (c : Char) (hc : c = '"' ∨ c = '\'') :
    c ≠ '\\' ∧ c ≠ '\n' ∧ isSpace c = false ∧ (c == '"' || c == '\'') = true := by
  rcases hc with h | h <;> subst h <;> refine ⟨by decide, by decide, by rfl, by rfl⟩

theorem quoteStr_length_pos (q : Quote) (s : Str) : 1 ≤ (quoteStr q s).length := by
  cases q <;> simp [quoteStr, Quote.token, Quote.triple] <;> omega

theorem nextWordAux_word (st : Settings) (c : Char) (cs : Str) (line : Nat)
    (h1 : isSpace c = false) (h2 : isCommentStart st c cs = false) :
    nextWordAux st false (c :: cs) line = (wordAt st c cs line).map some := by
  simp [nextWordAux, h1, h2]

/-- the word iterator at an opening quote of either style, followed by the escaped string and the
    closing token: exactly the original string, the rest untouched, newlines counted.  Only after a
    single quote must the rest not begin with the quote character. -/
theorem wordAt_quoted (st : Settings) (c : Char) (hc : c = '"' ∨ c = '\'') (triple : Bool)
    (s rest : Str) (line : Nat) (hrest : triple = false → ∀ r, rest ≠ c :: r) :
    wordAt st c ((if triple then [c, c] else []) ++
        (escape c s ++ c :: ((if triple then [c, c] else []) ++ rest))) line
      = .ok ({ value := s, quote := some (Quote.mk' c triple), line := some line },
             ⟨rest, line + nlCount s⟩) := by
  obtain ⟨hbs, hnl, _, h3⟩ := quoteChar_facts c hc
  have hs := scanQ_escape c hbs hnl triple s rest line []
  unfold wordAt
  cases triple
  · simp only [h3, ↓reduceIte, List.nil_append, not_triple_after_open c hbs s rest (hrest rfl),
      Bool.false_eq_true] at hs ⊢
    rw [hs]; simp
  · simp only [h3, ↓reduceIte, isTripleOpen, beq_self_eq_true, Bool.and_self, List.cons_append,
      List.nil_append, List.drop_succ_cons, List.drop_zero] at hs ⊢
    rw [hs]; simp

end Phil
