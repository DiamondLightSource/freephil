/-
  Phil.Proofs.FetchChoice2 — additions to Phil/Proofs/FetchChoice.lean for masters with choices
  (`TreeMasterC`).
  C06: `TreeObjC` is a `TreePathClass`, which is all the account of the consumed ids in Phil/Proofs/FetchTree.lean
  uses of a master; Phil/Props/C07Choice.lean draws the exact used and unused lists from it.
  C07: for masters' choices with pairwise distinct keys, no double stars, no `+` and a number of
  alternatives other than one (`ChoiceRefetchOK`), a word list that writes every alternative as
  its name, starred or not, is fetched as written (`choiceFetch_draw`); a fetched result and the
  master's own words are such lists, so `choiceFetch` of either is the identity.  Hence, for masters whose
  definitions are fit for re-fetching (`RefetchTreeC`), the specification `treeResultC` reproduces its own
  result, that result is a well-formed source tree (one induction, `treeObjC_refetch`), and the master as
  its own source changes nothing.
-/
import Phil.Proofs.FetchChoice
namespace Phil

/-! ## A. C06 on `TreeMasterC` -/

theorem treeObjC_pathClass : TreePathClass TreeObjC :=
  ⟨fun h => h.base.2.2.1, TreeObjC.enabled, fun h => (TreeMasterC.of_scope h).obj⟩

theorem mem_treeUsedObj_treeC : ∀ (mo : Obj) (srcs : List Obj) (p : Str) (i : Nat),
    TreeObjC mo → NoIncludeTree [mo] → SrcPlain srcs →
    (i ∈ treeUsedObj mo srcs ↔
      ∃ x ∈ allDefsObj.allDefsList srcs p, x.2.1.id = some i ∧ x.1 ∈ defPathsObj mo p) :=
  fun mo srcs p i ht hinc hs =>
    mem_treeUsedObj_of treeObjC_pathClass i (fun m _ => m.id = some i) mo srcs p ht hinc hs.dotfree (hs.marks i)

theorem defPathsObj_eq_allDefs_treeC : ∀ (o : Obj) (p : Str), TreeObjC o → NoIncludeTree [o] →
    defPathsObj o p = (allDefsObj o p).map (·.1) :=
  defPathsObj_eq_allDefs_of treeObjC_pathClass

theorem fetch_tree_choice_ok (e : Envs) (fuel : Nat) (sm : Meta) (mkids srcs : List Obj)
    (hf : TreeMasterC mkids) (hfuel : depthL mkids < fuel) (hsd : sm.disabled = false)
    (hsrc : SrcTree srcs) (ro : Obj) (used : List Nat)
    (h : fetchScope e fuel false sm mkids srcs = .ok (ro, used)) :
    (∃ r, treeResultC mkids srcs = .ok r ∧ ro = .scope { sm with tmpl := 0 } r) ∧
      used = treeUsed mkids srcs := by
  rw [fetch_tree_choice_total e fuel sm mkids srcs hf hfuel hsd hsrc] at h
  split at h
  · cases h
  · rename_i r hr
    cases h
    exact ⟨⟨r, hr, rfl⟩, rfl⟩

/-! ## B. C07: `choiceFetch` of its own result -/

/-- the master choices whose fetched value is reproduced by a re-fetch: a number of alternatives
    other than one (a one-word source SELECTS its word), no `+` in an alternative (the re-fetch would
    split it), no double star, pairwise distinct lower-cased names -/
structure ChoiceRefetchOK (mws : List Word) : Prop where
  notOne : mws.length ≠ 1
  noPlus : ∀ w ∈ mws, w.value.contains '+' = false
  noDouble : NoDoubleStar mws
  distinct : (altKeys mws).Nodup

instance (mws : List Word) : Decidable (NoDoubleStar mws) := by unfold NoDoubleStar; infer_instance

def choiceRefetchOKB (mws : List Word) : Bool :=
  decide (mws.length ≠ 1) && mws.all (fun w => !w.value.contains '+') &&
    mws.all (fun w => !(stripStar (stripStar w.value).1).2) && decide ((altKeys mws).Nodup)

theorem choiceRefetchOKB_sound (mws : List Word) (h : choiceRefetchOKB mws = true) : ChoiceRefetchOK mws := by
  unfold choiceRefetchOKB at h
  simp only [Bool.and_eq_true, decide_eq_true_eq, List.all_eq_true, Bool.not_eq_true'] at h
  exact ⟨h.1.1.1, h.1.1.2, h.1.2, h.2⟩

/-- `None` and `Auto` are one-word values -/
theorem isPlain_of_length_ne_one (l : List Word) (h : l.length ≠ 1) :
    isPlainNone l = false ∧ isPlainAuto l = false := by
  unfold isPlainNone isPlainAuto
  split
  · exact absurd rfl h
  · exact ⟨rfl, rfl⟩

/-- the flag a table gives the alternative `w` -/
def onOf (F : Flags) (w : Word) : Bool := (flagGet F (lower (stripStar w.value).1)).getD false

def altKeyOf (w : Word) : Str := lower (stripStar w.value).1

theorem renderStar_eq (F : Flags) (w : Word) :
    renderStar F w =
      { w with value := if onOf F w then '*' :: (stripStar w.value).1 else (stripStar w.value).1 } := rfl

theorem stripStar_fst_contains (c : Char) (v : Str) (h : v.contains c = false) :
    (stripStar v).1.contains c = false := by
  unfold stripStar
  split
  · simp only [List.contains_eq_mem, List.mem_cons, decide_eq_false_iff_not, not_or] at h ⊢
    exact h.2
  · exact h

theorem render_contains (c : Char) (hc : c ≠ '*') (F : Flags) (w : Word)
    (h : w.value.contains c = false) : (renderStar F w).value.contains c = false := by
  have hn := stripStar_fst_contains c _ h
  rw [renderStar_eq]
  split
  · simp only [List.contains_eq_mem, List.mem_cons, decide_eq_false_iff_not, not_or] at hn ⊢
    exact ⟨hc, hn⟩
  · exact hn

theorem hasDollar_render (F : Flags) (mws : List Word) (h : hasDollar mws = false) :
    hasDollar (mws.map (renderStar F)) = false := by
  unfold hasDollar at h ⊢
  rw [List.any_eq_false] at h ⊢
  intro w hw
  obtain ⟨a, ha, rfl⟩ := List.mem_map.mp hw
  intro hp
  rw [Bool.and_eq_true] at hp
  cases hc : a.value.contains '$' with
  | true => exact h a ha (Bool.and_eq_true _ _ ▸ ⟨hp.1, hc⟩)
  | false => exact absurd (render_contains '$' (by decide) F a hc ▸ hp.2) (by decide)

theorem flagGet_foldl_notin (g : Word → Bool) (k : Str) : ∀ (l : List Word) (fl : Flags),
    k ∉ l.map altKeyOf →
    flagGet (l.foldl (fun fl w => flagSet fl (altKeyOf w) (g w)) fl) k = flagGet fl k := by
  intro l
  induction l with
  | nil => intro fl _; rfl
  | cons a l ih =>
    intro fl hk
    rw [List.map_cons, List.mem_cons, not_or] at hk
    rw [List.foldl_cons, ih _ hk.2, flagGet_flagSet, if_neg hk.1]

theorem flagGet_foldl_nodup (g : Word → Bool) : ∀ (l : List Word) (fl : Flags),
    (l.map altKeyOf).Nodup → ∀ w ∈ l,
    flagGet (l.foldl (fun fl w => flagSet fl (altKeyOf w) (g w)) fl) (altKeyOf w) = some (g w) := by
  intro l
  induction l with
  | nil => intro fl _ w hw; cases hw
  | cons a l ih =>
    intro fl hnd w hw
    rw [List.map_cons, List.nodup_cons] at hnd
    rw [List.foldl_cons]
    rcases List.mem_cons.mp hw with rfl | hw
    · rw [flagGet_foldl_notin g _ l _ hnd.1, flagGet_flagSet, if_pos rfl]
    · exact ih _ hnd.2 w hw

/-- **a drawing of the master's alternatives is fetched as drawn**: when `f` writes each of the
    `ChoiceRefetchOK` alternatives as its name, starred iff `on`, fetching the drawn list against the
    master gives the master's words with the values as drawn -/
theorem choiceFetch_draw (mws : List Word) (opt : AttrVal) (on : Word → Bool) (f : Word → Word)
    (h : ChoiceRefetchOK mws)
    (hf : ∀ w ∈ mws, (f w).value = if on w then '*' :: (stripStar w.value).1 else (stripStar w.value).1)
    (hp : ∀ w ∈ mws, (f w).value.contains '+' = false) :
    choiceFetch mws opt (mws.map f) false = .ok (mws.map (fun w => { w with value := (f w).value })) := by
  have hlen : (mws.map f).length ≠ 1 := by rw [List.length_map]; exact h.notOne
  have hplus : plusMode (mws.map f) = false := by
    apply plusMode_false_of_no_plus
    intro w hw
    obtain ⟨a, ha, rfl⟩ := List.mem_map.mp hw
    exact hp a ha
  have hsingle : ((mws.map f).length == 1) = false := by simpa using hlen
  rw [choiceFetch_eq, (isPlain_of_length_ne_one mws h.notOne).1, (isPlain_of_length_ne_one mws h.notOne).2,
    (isPlain_of_length_ne_one _ hlen).2]
  simp only [Bool.or_false, Bool.false_eq_true, if_false]
  unfold fetchFlags
  rw [(isPlain_of_length_ne_one _ hlen).1, hplus, hsingle]
  simp only [Bool.not_false, Bool.or_true, if_true, Bool.false_eq_true, if_false]
  -- every word of the drawing is known, so each step of the scan sets its key
  have hstep : ∀ w ∈ mws, ∀ fl, starStep mws false false fl (f w) = .ok (flagSet fl (altKeyOf w) (on w)) := by
    intro w hw fl
    have hk : (flagGet (flags0Of mws) (lower (stripStar w.value).1)).isNone = false := by
      rw [Bool.eq_false_iff, Ne, flagGet_flags0_isNone]
      exact fun hc => hc (List.mem_map.mpr ⟨w, hw, rfl⟩)
    unfold starStep
    rw [hf w hw, stripStar_ite _ _ (h.noDouble w hw)]
    simp only [Bool.or_false, hk, Bool.and_false, Bool.false_eq_true, if_false, Bool.decide_eq_true]
    rfl
  rw [List.foldlM_map, foldlM_congr_mem _ (fun fl w => pure (flagSet fl (altKeyOf w) (on w))) mws hstep,
    List.foldlM_pure]
  simp only [pure, Except.pure]
  congr 1
  apply List.map_congr_left
  intro w hw
  rw [renderStar_eq, hf w hw]
  show { w with value := if (flagGet _ (altKeyOf w)).getD false = true then _ else _ } = _
  rw [flagGet_foldl_nodup on mws _ h.distinct w hw]
  rfl

/-- **`choiceFetch` is idempotent**: whatever a successful fetch returned is returned again when it
    is fetched against the same master (the rendered list draws itself, for ANY flag table) -/
theorem choiceFetch_refetch (mws : List Word) (opt : AttrVal) (src out : List Word)
    (h : ChoiceRefetchOK mws) (hf : choiceFetch mws opt src false = .ok out) :
    choiceFetch mws opt out false = .ok out := by
  rcases choiceFetch_ok_shape _ _ _ _ _ hf with ⟨_, rfl⟩ | ⟨_, flags, _, rfl⟩
  · rw [choiceFetch_eq, (isPlain_of_length_ne_one mws h.notOne).1, (isPlain_of_length_ne_one mws h.notOne).2]
    rfl
  · exact choiceFetch_draw mws opt (onOf flags) (renderStar flags) h (fun _ _ => rfl)
      (fun w hw => render_contains '+' (by decide) flags w (h.noPlus w hw))

/-- **a `ChoiceRefetchOK` master value fetched against itself is unchanged**: it draws itself -/
theorem choiceFetch_self (mws : List Word) (opt : AttrVal) (h : ChoiceRefetchOK mws) :
    choiceFetch mws opt mws false = .ok mws := by
  have := choiceFetch_draw mws opt (fun w => (stripStar w.value).2) id h (fun w _ => ?_) h.noPlus
  · rw [List.map_id] at this
    exact this.trans (congrArg _ (List.map_id' mws))
  · cases hs : (stripStar w.value).2 with
    | true => exact eq_cons_of_star _ hs
    | false => rw [stripStar_of_not_star _ hs]; rfl

/-! ## C. one master definition: its result, as the only source, is reproduced -/

/-- a master definition fit for re-fetching: not template-marked, no recorded resolution, not
    deprecated, and — when it is a choice — `ChoiceRefetchOK` alternatives -/
structure DefRefetchOK (mm : Meta) (mws : List Word) : Prop where
  tmpl : mm.tmpl = 0
  varRes : mm.varRes = none
  notDep : (mm.attrs.get "deprecated").truthy = false
  choice : ∀ b, mm.attrs.get "type" = .conv (.choice b) → ChoiceRefetchOK mws

theorem fetchValueW_notDep (mm : Meta) (mws sws : List Word) (hd : (mm.attrs.get "deprecated").truthy = false) :
    fetchValueW mm mws sws =
      match mm.attrs.get "type" with
      | .conv (.choice _) =>
        (choiceFetch mws (mm.attrs.get "optional") sws false).map (fun ws => some (.defn { mm with tmpl := 0 } ws))
      | _ => .ok (some (.defn { mm with tmpl := 0 } sws)) := by
  simp only [fetchValueW, hd, Bool.false_and, Bool.false_eq_true, if_false]
  split
  · rename_i b hb; rw [hb]
  · rename_i hne
    split
    · rename_i b hb; exact absurd hb (hne b)
    · rfl

theorem fetchValueW_refetch (mm : Meta) (mws : List Word) (h : DefRefetchOK mm mws) (sws : List Word)
    (ro : Obj) (hv : fetchValueW mm mws sws = .ok (some ro)) :
    ∃ ws, ro = .defn { mm with tmpl := 0 } ws ∧ fetchValueW mm mws ws = .ok (some ro) ∧
      (hasDollar mws = false → hasDollar sws = false → hasDollar ws = false) := by
  have hv' := hv
  rw [fetchValueW_notDep mm mws _ h.notDep] at hv'
  split at hv'
  · rename_i b hb
    obtain ⟨ws, hc, hw⟩ := Except.map_eq_ok.mp hv'
    cases hw
    refine ⟨ws, rfl, ?_, fun hm _ => ?_⟩
    · rw [fetchValueW_notDep mm mws _ h.notDep, hb]
      show (choiceFetch mws (mm.attrs.get "optional") ws false).map _ = _
      rw [choiceFetch_refetch mws _ _ ws (h.choice b hb) hc]
      rfl
    · rcases choiceFetch_ok_shape _ _ _ _ _ hc with ⟨_, rfl⟩ | ⟨_, flags, _, rfl⟩
      · decide
      · exact hasDollar_render flags mws hm
  · cases hv'
    exact ⟨sws, rfl, hv, fun _ hs => hs⟩

theorem srcVal_self_refetch (mm : Meta) (mws : List Word) (h : DefRefetchOK mm mws) :
    srcVal mm mws (.defn mm mws) = .ok (some (.defn mm mws)) := by
  rw [srcVal, srcWords_of_varRes_none (.defn mm mws) h.varRes, fetchValueW_notDep mm mws _ h.notDep,
    meta_tmpl0 mm h.tmpl]
  split
  · rename_i b hb
    show (choiceFetch mws (mm.attrs.get "optional") mws false).map _ = _
    rw [choiceFetch_self mws _ (h.choice b hb)]
    rfl
  · rfl

theorem treeObjC_defn_shape (mm : Meta) (mws : List Word) (h : DefRefetchOK mm mws) (srcs os : List Obj)
    (h1 : treeObjC (.defn mm mws) srcs = .ok os) :
    ∃ ro, os = [ro] ∧ ro.isDefn = true ∧ srcVal mm mws ro = .ok (some ro) ∧
      (hasDollar mws = false → SrcNoDollar srcs → SrcOK ro) := by
  rcases (treeObjC_defn_ok h1).2 with rfl | ⟨d, ro, hl, hv, rfl⟩
  · exact ⟨.defn mm mws, by simp [finishC, h.notDep], rfl, srcVal_self_refetch mm mws h,
      fun hm _ => .inr ⟨h.varRes, hm⟩⟩
  · have hd := mem_defsNamed.mp (List.mem_of_getLast? hl)
    cases d with
    | scope m k => cases hd.2.1
    | defn sm sws =>
      obtain ⟨ws, rfl, h2, h3⟩ := fetchValueW_refetch mm mws h _ ro hv
      have hvr : (Obj.defn { mm with tmpl := 0 } ws).meta.varRes = none := h.varRes
      refine ⟨_, rfl, rfl, ?_, fun hm hdol => .inr ⟨hvr, h3 hm (hdol _ (.here hd.1 hd.2.2.1) rfl)⟩⟩
      rw [srcVal, srcWords_of_varRes_none _ hvr]
      exact h2

theorem treeObjC_defn_of_view (mm : Meta) (mws : List Word) (R : List Obj) (ro : Obj)
    (hv : activeNamed mm.name R = [ro]) (hd : ro.isDefn = true)
    (hs : srcVal mm mws ro = .ok (some ro)) : treeObjC (.defn mm mws) R = .ok [ro] := by
  have hdn : defsNamed mm.name R = [ro] := by
    rw [defsNamed_eq_filter_tree, hv, List.filter_cons, hd]; rfl
  have hfe : firstErrC mm mws (activeNamed mm.name R) = none := by
    rw [hv, firstErrC_cons, hs]; rfl
  rw [treeObjC, hfe]
  simp only
  unfold lastDef
  rw [hdn]
  simp only [List.getLast?_singleton, hs, valOfC, finishC]

theorem treeObjC_scope_of_view {mm m : Meta} {kids k R : List Obj}
    (hv : activeNamed mm.name R = [.scope m k]) :
    treeObjC (.scope mm kids) R =
      match treeResultC kids k with
      | .error err => .error err
      | .ok r => .ok [.scope { mm with tmpl := 0 } r] := by
  have hstep : srcStep R mm.name = k := by
    rw [← activeNamed_children_tree, hv]; simp [Obj.children]
  have hdn : defsNamed mm.name R = [] := by
    rw [defsNamed_eq_filter_tree, hv]; rfl
  rw [treeObjC, hdn, hstep]
  rfl

/-! ## D. the tree: a successful result as a source -/

/-- every active definition of the master is fit for re-fetching (`DefRefetchOK`) -/
def RefetchTreeC (mkids : List Obj) : Prop :=
  ∀ d, ActiveIn d mkids → d.isDefn = true → DefRefetchOK d.meta d.words

/-- the master's defaults are variable-free, at every depth -/
def NoDollarTree (mkids : List Obj) : Prop :=
  ∀ d, ActiveIn d mkids → d.isDefn = true → hasDollar d.words = false

theorem srcTree_scope_c {m : Meta} {kids : List Obj} (hn : m.name ≠ []) (hk : SrcTree kids) :
    SrcTree [.scope m kids] := by
  constructor
  · intro x hx hd
    cases hx with
    | here hm _ => cases List.mem_singleton.mp hm; cases hd
    | deeper hm _ hk' => cases List.mem_singleton.mp hm; exact hk.ok x hk' hd
  · intro m' kids' hx
    cases hx with
    | here hm _ => cases List.mem_singleton.mp hm; exact hn
    | deeper hm _ hk' => cases List.mem_singleton.mp hm; exact hk.named m' kids' hk'

theorem srcTree_defn_c {ro : Obj} (hd : ro.isDefn = true) (hok : SrcOK ro) : SrcTree [ro] := by
  constructor
  · intro x hx _
    cases hx with
    | here hm _ => cases List.mem_singleton.mp hm; exact hok
    | deeper hm _ _ => cases List.mem_singleton.mp hm; cases hd
  · intro m kids hx
    cases hx with
    | here hm _ => cases List.mem_singleton.mp hm; cases hd
    | deeper hm _ _ => cases List.mem_singleton.mp hm; cases hd

mutual
/-- what a master object left in a successful result: any source list that shows exactly this under
    the object's name reproduces it (the re-fetch cannot fail), and it is a well-formed source tree
    when the master's defaults and the sources are variable-free -/
theorem treeObjC_refetch : ∀ (mo : Obj) (srcs os : List Obj), TreeObjC mo → RefetchTreeC [mo] →
    treeObjC mo srcs = .ok os →
    (∀ R, activeNamed mo.name R = os → treeObjC mo R = .ok os) ∧
      (NoDollarTree [mo] → SrcNoDollar srcs → SrcTree os)
  | .defn mm mws, srcs, os, ht, hr, h1 => by
    have ha : ActiveIn (.defn mm mws) [.defn mm mws] := .self ht.enabled
    obtain ⟨ro, rfl, hd, hs, hok⟩ := treeObjC_defn_shape mm mws (hr _ ha rfl) srcs os h1
    exact ⟨fun R hv => treeObjC_defn_of_view mm mws R ro hv hd hs,
      fun hn hdol => srcTree_defn_c hd (hok (hn _ ha rfl) hdol)⟩
  | .scope mm kids, srcs, os, ht, hr, h1 => by
    have hk := TreeMasterC.of_scope ht
    obtain ⟨r, h3, rfl⟩ := treeObjC_scope_ok h1
    have ih := treeResultC_refetch kids (srcStep srcs mm.name) r hk.kids (fun d hd => hr d (hd.kid ht.enabled)) h3
    refine ⟨fun R hv => ?_, fun hn hdol => srcTree_scope_c ht.base.2.1
      (ih.2 (fun d hd => hn d (hd.kid ht.enabled)) (fun x hx => hdol x (activeIn_srcStep hx)))⟩
    rw [treeObjC_scope_of_view (mm := mm) hv, ih.1 r (treeResultC_view hk h3).2]
termination_by structural mo => mo
theorem treeResultC_refetch : ∀ (l srcs Rl : List Obj), TreeKidsC l → RefetchTreeC l →
    treeResultC l srcs = .ok Rl →
    (∀ R, (∀ mo ∈ l, treeObjC mo srcs = .ok (activeNamed mo.name R)) → treeResultC l R = .ok Rl) ∧
      (NoDollarTree l → SrcNoDollar srcs → SrcTree Rl)
  | [], srcs, Rl, _, _, h => by
    rw [treeResultC] at h
    cases h
    exact ⟨fun R _ => by rw [treeResultC], fun _ _ => srcTree_nil⟩
  | mo :: rest, srcs, Rl, ht, hr, h => by
    rw [TreeKidsC] at ht
    obtain ⟨os, r, h1, h2, rfl⟩ := treeResultC_cons_ok h
    have io := treeObjC_refetch mo srcs os ht.1 (fun d hd => hr d hd.head) h1
    have il := treeResultC_refetch rest srcs r ht.2 (fun d hd => hr d hd.tail) h2
    refine ⟨fun R hv => ?_, fun hn hdol => srcTree_append (io.2 (fun d hd => hn d hd.head) hdol)
      (il.2 (fun d hd => hn d hd.tail) hdol)⟩
    rw [treeResultC, io.1 R ((Except.ok.inj (h1.symm.trans (hv mo List.mem_cons_self))).symm),
      il.1 R (fun o ho => hv o (List.mem_cons_of_mem _ ho))]
termination_by structural l => l
end

theorem treeObjC_view_idem : ∀ (mo : Obj) (srcs os R : List Obj), TreeObjC mo → RefetchTreeC [mo] →
    treeObjC mo srcs = .ok os → activeNamed mo.name R = os → treeObjC mo R = .ok os :=
  fun mo srcs os R ht hr h1 hv => (treeObjC_refetch mo srcs os ht hr h1).1 R hv

theorem srcTree_treeObjC : ∀ (mo : Obj) (srcs os : List Obj), TreeObjC mo → RefetchTreeC [mo] →
    NoDollarTree [mo] → SrcNoDollar srcs → treeObjC mo srcs = .ok os → SrcTree os :=
  fun mo srcs os ht hr hn hdol h1 => (treeObjC_refetch mo srcs os ht hr h1).2 hn hdol

/-- **the specification is idempotent on masters with choices**: a successful result, taken as the
    only source, is reproduced (and the re-fetch cannot fail) -/
theorem treeResultC_idem (mkids srcs r : List Obj) (hf : TreeMasterC mkids) (hr : RefetchTreeC mkids)
    (h : treeResultC mkids srcs = .ok r) : treeResultC mkids r = .ok r :=
  (treeResultC_refetch mkids srcs r hf.kids hr h).1 r (treeResultC_view hf h).2

/-! ## E. the re-fetch at the level of `fetchScope` -/

/-- **C07 on masters with choices.**  Whenever the fetch succeeds with result `r`, fetching `r`
    again — as the only source — succeeds and returns `r`. -/
theorem tree_choice_refetch_idempotent (e : Envs) (fuel : Nat) (sm : Meta) (mkids srcs r : List Obj)
    (hf : TreeMasterC mkids) (hfuel : depthL mkids < fuel) (hsd : sm.disabled = false)
    (hr : RefetchTreeC mkids) (hn : NoDollarTree mkids) (hdol : SrcNoDollar srcs)
    (h : treeResultC mkids srcs = .ok r) :
    fetchScope e fuel false sm mkids r =
      .ok (.scope { sm with tmpl := 0 } r, treeUsed mkids r) := by
  rw [fetch_tree_choice_total e fuel sm mkids r hf hfuel hsd
    ((treeResultC_refetch mkids srcs r hf.kids hr h).2 hn hdol), treeResultC_idem mkids srcs r hf hr h]

/-! ## F. the master itself as the source: `M.fetch(M) = M.fetch()` -/

theorem activeNamed_self_c (l : List Obj) (hf : TreeMasterC l) : ∀ mo ∈ l, activeNamed mo.name l = [mo] := by
  intro mo hmo
  have := activeNamed_map_distinct id (fun _ => rfl) (fun _ => rfl) l hf.distinct
    (fun o ho => (hf.obj o ho).enabled) mo hmo
  simpa using this

mutual
theorem treeObjC_self : ∀ (mo : Obj) (R : List Obj), TreeObjC mo → RefetchTreeC [mo] →
    activeNamed mo.name R = [mo] → treeObjC mo R = treeObjC mo []
  | .defn mm mws, R, ht, hr, hv => by
    have h := hr (.defn mm mws) (.self ht.enabled) rfl
    have h0 : treeObjC (.defn mm mws) [] = .ok [.defn mm mws] := by
      have hn : (mm.attrs.get "deprecated").truthy = false := h.notDep
      rw [treeObjC]
      simp [activeNamed, firstErrC, lastDef, defsNamed, finishC, hn]
    rw [treeObjC_defn_of_view mm mws R (.defn mm mws) hv rfl (srcVal_self_refetch mm mws h), h0]
  | .scope mm kids, R, ht, hr, hv => by
    have hk := TreeMasterC.of_scope ht
    rw [treeObjC_scope_of_view (mm := mm) hv, treeResultC_self kids kids hk.kids (fun d hd => hr d (hd.kid ht.enabled))
      (activeNamed_self_c kids hk)]
    rfl
termination_by structural mo => mo
theorem treeResultC_self : ∀ (l R : List Obj), TreeKidsC l → RefetchTreeC l →
    (∀ mo ∈ l, activeNamed mo.name R = [mo]) → treeResultC l R = treeResultC l []
  | [], R, _, _, _ => by rw [treeResultC, treeResultC]
  | mo :: rest, R, ht, hr, hv => by
    rw [TreeKidsC] at ht
    rw [treeResultC, treeResultC, treeObjC_self mo R ht.1 (fun d hd => hr d hd.head) (hv mo List.mem_cons_self),
      treeResultC_self rest R ht.2 (fun d hd => hr d hd.tail) (fun o ho => hv o (List.mem_cons_of_mem _ ho))]
termination_by structural l => l
end

/-- **the specification: the master as its own source changes nothing** -/
theorem treeResultC_master_itself (mkids : List Obj) (hf : TreeMasterC mkids) (hr : RefetchTreeC mkids) :
    treeResultC mkids mkids = treeResultC mkids [] :=
  treeResultC_self mkids mkids hf.kids hr (activeNamed_self_c mkids hf)

theorem srcTree_master_c (mkids : List Obj) (hf : TreeMasterC mkids) (hr : RefetchTreeC mkids)
    (hn : NoDollarTree mkids) : SrcTree mkids :=
  ⟨fun x hx hd => .inr ⟨(hr x hx hd).varRes, hn x hx hd⟩,
   fun _ _ hx => (treeObjC_pathClass.of_activeIn hx hf.obj).base.2.1⟩

/-- **`M.fetch(M) = M.fetch()`** on masters with choices: whatever the fetch without sources
    returns, the fetch with the master itself as the only source returns too -/
theorem tree_choice_fetch_master_itself (e : Envs) (fuel : Nat) (sm : Meta) (mkids : List Obj)
    (hf : TreeMasterC mkids) (hfuel : depthL mkids < fuel) (hsd : sm.disabled = false)
    (hr : RefetchTreeC mkids) (hn : NoDollarTree mkids) :
    (fetchScope e fuel false sm mkids mkids).map (·.1) = (fetchScope e fuel false sm mkids []).map (·.1) := by
  rw [fetch_tree_choice_total e fuel sm mkids mkids hf hfuel hsd (srcTree_master_c mkids hf hr hn),
    fetch_tree_choice_total e fuel sm mkids [] hf hfuel hsd srcTree_nil,
    treeResultC_master_itself mkids hf hr]
  cases treeResultC mkids [] <;> rfl

end Phil
