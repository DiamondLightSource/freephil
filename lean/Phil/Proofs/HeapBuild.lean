/-
  The parse-shaped construction of Phil/Heap.lean (`cells`, `build`, `ofObjs`): the object allocated for a
  tree denotes that tree (abs ∘ build = id).
-/
import Phil.Proofs.HeapLemmas
namespace Phil.Heap

mutual
theorem cells_length : ∀ (o : Obj) (p : Option Nat) (b : Nat), (cells o p b).length = size o
  | .defn m ws, p, b => by simp [cells, size]
  | .scope m os, p, b => by
    simp only [cells, size, List.length_cons]
    rw [kidCells_length os b (b + 1)]; omega
theorem kidCells_length : ∀ (os : List Obj) (p : Nat) (b : Nat), (kidCells os p b).length = sizeKids os
  | [], _, _ => by simp [kidCells, sizeKids]
  | o :: os, p, b => by
    simp only [kidCells, sizeKids, List.length_append]
    rw [cells_length o (some p) b, kidCells_length os p (b + size o)]
end

theorem get_mid {α : Type} (pre : List α) (c : α) (rest : List α) : (pre ++ (c :: rest))[pre.length]? = some c := by
  rw [List.getElem?_append_right (Nat.le_refl _), Nat.sub_self]; rfl

mutual
theorem absF_cells : ∀ (o : Obj) (p : Option Nat) (b : Nat) (pre post : Heap), pre.length = b →
    absF (size o) (pre ++ (cells o p b ++ post)) b = some o
  | .defn m ws, p, b, pre, post, hb => by
    subst hb
    simp only [size, cells, List.singleton_append, absF]
    rw [get_mid]
  | .scope m os, p, b, pre, post, hb => by
    subst hb
    have hsz : size (.scope m os) = sizeKids os + 1 := by rw [size]; omega
    rw [hsz]
    simp only [cells, List.cons_append, absF]
    rw [get_mid]
    simp only
    have := mapOpt_kidCells os pre.length (pre.length + 1)
      (pre ++ [Node.scope m (kidIds os (pre.length + 1)) p]) post (by simp) (sizeKids os) (Nat.le_refl _)
    rw [List.append_assoc, List.singleton_append] at this
    rw [this]
    rfl
theorem mapOpt_kidCells : ∀ (os : List Obj) (p : Nat) (b : Nat) (pre post : Heap), pre.length = b →
    ∀ f, sizeKids os ≤ f → mapOpt (absF f (pre ++ (kidCells os p b ++ post))) (kidIds os b) = some os
  | [], _, _, _, _, _, _, _ => by simp [kidIds, mapOpt]
  | o :: os, p, b, pre, post, hb, f, hf => by
    rw [sizeKids] at hf
    simp only [kidCells, kidIds, mapOpt, List.append_assoc]
    have h1 := absF_cells o (some p) b pre (kidCells os p (b + size o) ++ post) hb
    rw [absF_mono (fun _ _ => id) (by omega : size o ≤ f) h1]
    have h2 := mapOpt_kidCells os p (b + size o) (pre ++ cells o (some p) b) post
      (by rw [List.length_append, cells_length, hb]) f (by omega)
    rw [List.append_assoc] at h2
    rw [h2]
end

theorem build_abs (o : Obj) (p : Option Nat) (h : Heap) : Abs (build o p h).1 (build o p h).2 o := by
  refine ⟨size o, ?_⟩
  have := absF_cells o p h.length h [] rfl
  simpa [build] using this

theorem build_frame (o : Obj) (p : Option Nat) (h : Heap) :
    (build o p h).1.length = h.length + size o ∧ ∀ i, i < h.length → (build o p h).1[i]? = h[i]? := by
  refine ⟨by simp [build, cells_length], fun i hi => ?_⟩
  simp only [build]
  exact List.getElem?_append_left hi

end Phil.Heap
