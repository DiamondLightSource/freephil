/-
  Phil.Proofs.DiffSpec — exact specification of `scope.fetch(diff=True)` (fetch_diff) for flat
  masters with `.multiple` definitions (`FlatMultiMaster`), and the laws of C08 derived from it:
  minimality, empty self-difference, restoring the working set from its difference, and the
  difference of the restored set.  Builds on Phil/Proofs/FetchSpec.lean.
-/
import Phil.Proofs.FetchSpec
set_option linter.unusedVariables false
namespace Phil

/-! ## 1. `definition.fetch_diff` -/

/-- the outcome of `definition.fetch_diff` for the source definition `d`: nothing if the key of the
    candidate is the key of the master definition, else the candidate -/
def diffCand (e : Envs) (fuel : Nat) (mo d : Obj) : Option Obj :=
  if keyOf e fuel mo (candOfSrc mo d) == keyOf e fuel mo mo then none else some (candOfSrc mo d)

theorem candOfSrc_defn (mm : Meta) (mws : List Word) (d : Obj) :
    candOfSrc (.defn mm mws) d = .defn { mm with tmpl := 0 } d.srcWords := rfl

theorem CandLink.fetchDefn_diff {e : Envs} {f : Nat} {mm : Meta} {mws : List Word} {ms : Obj}
    {ck : Obj × Str} {k0 : Str} (hl : CandLink e (f + 1) (.defn mm mws) ms ck)
    (hk0 : extractFormatStr e (f + 1 + 64) (.defn mm mws) (.defn mm mws) = .ok k0) :
    fetchDefn e (f + 1) true (.defn mm mws) ms = .ok (if ck.2 == k0 then none else some ck.1) := by
  obtain ⟨_, _, cws, _, hc⟩ := fetchValue_shape _ _ _ hl.1
  have hl2 := hl.2
  rw [hc] at hl2
  unfold fetchDefn
  simp only [hl.1, Bool.not_true, Bool.false_eq_true, if_false, Option.getD_some]
  rw [hc, extractFormatStr_defn_fuel e f (f + 64) mm mws _ cws, hl2,
    extractFormatStr_defn_fuel e f (f + 64) mm mws mm, hk0]
  simp only
  split <;> rfl

theorem fetchDefn_diff_total (e : Envs) (f : Nat) (mm : Meta) (mws : List Word) (hp : DefnMeta mm) (k0 : Str)
    (hk0 : extractFormatStr e (f + 1 + 64) (.defn mm mws) (.defn mm mws) = .ok k0) (d : Obj)
    (hk : d.isDefn = true →
      ∃ k, extractFormatStr e (f + 1 + 64) (.defn mm mws) (candOfSrc (.defn mm mws) d) = .ok k) :
    fetchDefn e (f + 1) true (.defn mm mws) d =
      match srcErrOf d with
      | some E => .error E
      | none => .ok (diffCand e (f + 1) (.defn mm mws) d) := by
  cases d with
  | scope m k => rfl
  | defn dm dws =>
    obtain ⟨k, hk⟩ := hk rfl
    cases hE : srcErrOf (.defn dm dws) with
    | some E =>
      unfold fetchDefn
      rw [fetchValue_defn, srcWordsR_of_srcErrOf hE]
    | none =>
      rw [(candLink_candOfSrc hp rfl (srcOK_of_srcErrOf_none dm dws hE) hk).fetchDefn_diff hk0,
        diffCand, keyOf_ok hk0]

/-! ## 2. one iteration of the master loop in diff mode -/

/-- the survivors of the list rule: candidates whose key is the master's are dropped, of candidates
    with equal keys only the last one stays -/
def survivorsOf (k0 : Str) (cks : List (Obj × Str)) : List Obj :=
  (dedupKeepLast (cks.filter (fun y => y.2 != k0))).map (·.1)

theorem multiBlock_eq_cons (mo : Obj) (k0 : Str) (cks : List (Obj × Str)) :
    multiBlock mo k0 cks =
      withTmpl mo (multiTmpl mo (survivorsOf k0 cks).isEmpty) :: survivorsOf k0 cks := by
  unfold multiBlock survivorsOf
  rw [List.isEmpty_map]

/-- **the block a master definition contributes to a difference**, `l` being its matching sources in
    source order.
    * not `.multiple`: the candidate built from the LAST matching source, provided its key differs
      from the key of the master definition; nothing otherwise (in particular nothing if there is
      no matching source);
    * `.multiple`: the survivors of the list rule, WITHOUT the template copy of the master
      definition that a non-diff fetch puts in front -/
def diffBlockL (e : Envs) (fuel : Nat) (mo : Obj) (l : List Obj) : List Obj :=
  if isMultiple mo then survivorsOf (keyOf e fuel mo mo) (candsOf e fuel mo l)
  else match l.getLast? with
    | none => []
    | some d => if keyOf e fuel mo (candOfSrc mo d) == keyOf e fuel mo mo then [] else [candOfSrc mo d]

/-- … for the sources `D` -/
def diffBlockOf (e : Envs) (fuel : Nat) (D : List Obj) (mo : Obj) : List Obj :=
  diffBlockL e fuel mo (activeNamed mo.name D)

theorem diffBlockL_plain (e : Envs) (fuel : Nat) (mo : Obj) (l : List Obj) (hmult : isMultiple mo = false) :
    diffBlockL e fuel mo l =
      match l.getLast? with
      | none => []
      | some d => if keyOf e fuel mo (candOfSrc mo d) == keyOf e fuel mo mo then [] else [candOfSrc mo d] := by
  unfold diffBlockL; rw [hmult]; rfl

theorem diffBlockL_multi (e : Envs) (fuel : Nat) (mo : Obj) (l : List Obj) (h : isMultiple mo = true) :
    diffBlockL e fuel mo l = survivorsOf (keyOf e fuel mo mo) (candsOf e fuel mo l) := by
  unfold diffBlockL; rw [h]; rfl

theorem diff_plain_step (F : FetchFn) (e : Envs) (f : Nat) (sm : Meta) (mkids combined M : List Obj)
    (st : List Obj × List Nat) (idx : Nat) (mm : Meta) (mws : List Word) (hp : DefnMeta mm)
    (hmult : isMultiple (.defn mm mws) = false)
    (hmatch : fetchMatching (f + 1) sm combined (.defn mm mws) = M) (k0 : Str)
    (hk0 : extractFormatStr e (f + 1 + 64) (.defn mm mws) (.defn mm mws) = .ok k0)
    (hcand : ∀ d ∈ M, d.isDefn = true →
      ∃ k, extractFormatStr e (f + 1 + 64) (.defn mm mws) (candOfSrc (.defn mm mws) d) = .ok k) :
    stepG F e (f + 1) true sm mkids combined st (idx, .defn mm mws) =
      match M.findSome? srcErrOf with
      | some E => .error E
      | none => .ok (st.1 ++ diffBlockL e (f + 1) (.defn mm mws) M, st.2 ++ M.flatMap marksOf) := by
  rw [stepG_defn _ _ _ _ _ _ _ _ _ _ _ hmult, hmatch,
    defnOne_fold e (f + 1) true _ _ _ M none st.2
      (fun d hd => fetchDefn_diff_total e f mm mws hp k0 hk0 d (hcand d hd))]
  cases M.findSome? srcErrOf with
  | some E => rfl
  | none =>
    rw [diffBlockL_plain _ _ _ _ hmult]
    cases M.getLast? with
    | none => simp [defnFinish]
    | some d =>
      simp only [Option.elim, diffCand]
      split <;> simp [defnFinish]

theorem CandLink.clink_diff {F : FetchFn} {e : Envs} {f : Nat} {mm : Meta} {mws : List Word} {ms : Obj}
    {ck : Obj × Str} {k0 : Str} (hl : CandLink e (f + 1) (.defn mm mws) ms ck)
    (hk0 : extractFormatStr e (f + 1 + 64) (.defn mm mws) (.defn mm mws) = .ok k0) (b : Bool) :
    CLink F e (f + 1) true (.defn mm mws) (b, ms)
      (if ck.2 == k0 then none else some ck, if b then [] else marksOf ms) := by
  have hcand := candOf_defn F e (f + 1) true mm mws b ms
  rw [hl.fetchDefn_diff hk0] at hcand
  cases hk : ck.2 == k0 with
  | true =>
    simp only [hk, if_true] at hcand ⊢
    exact hcand
  | false =>
    simp only [hk, Bool.false_eq_true, if_false] at hcand ⊢
    exact ⟨hcand, hl.2⟩

theorem CandLink.clinks_diff {F : FetchFn} {e : Envs} {f : Nat} {mm : Meta} {mws : List Word} {k0 : Str}
    (hk0 : extractFormatStr e (f + 1 + 64) (.defn mm mws) (.defn mm mws) = .ok k0) {M : List Obj} {cks : List (Obj × Str)}
    (h : Forall2 (CandLink e (f + 1) (.defn mm mws)) M cks) :
    ∃ X, Forall2 (CLink F e (f + 1) true (.defn mm mws)) (M.map (fun (o : Obj) => (false, o))) X ∧
      X.filterMap (fun x => x.1) = cks.filter (fun y => y.2 != k0) ∧ X.flatMap (fun x => x.2) = M.flatMap marksOf := by
  induction h with
  | nil => exact ⟨[], .nil, rfl, rfl⟩
  | @cons ms ck M cks hq _ ih =>
    obtain ⟨X, hX, h1, h2⟩ := ih
    refine ⟨_ :: X, .cons (hq.clink_diff hk0 false) hX, ?_, by simp [h2]⟩
    rw [List.filter_cons]
    cases hk : ck.2 == k0 <;> simp [hk, h1, bne]

theorem diff_multi_step (F : FetchFn) (e : Envs) (f : Nat) (sm : Meta) (mkids combined : List Obj)
    (st : List Obj × List Nat) (idx : Nat) (mm : Meta) (mws : List Word) (k0 : Str)
    (cks : List (Obj × Str))
    (hmult : isMultiple (.defn mm mws) = true)
    (hfm : fromMasterOf mkids idx (.defn mm mws) = [])
    (hk0 : extractFormatStr e (f + 1 + 64) (.defn mm mws) (.defn mm mws) = .ok k0)
    (hl : Forall2 (CandLink e (f + 1) (.defn mm mws)) (fetchMatching (f + 1) sm combined (.defn mm mws)) cks) :
    stepG F e (f + 1) true sm mkids combined st (idx, .defn mm mws) =
      .ok (st.1 ++ survivorsOf k0 cks,
           st.2 ++ (fetchMatching (f + 1) sm combined (.defn mm mws)).flatMap marksOf) := by
  obtain ⟨X, hX, h1, h2⟩ := CandLink.clinks_diff (F := F) hk0 hl
  rw [stepG_multi _ _ _ _ _ _ _ _ _ _ hmult,
    multiBranch_clinks F e (f + 1) true mkids idx (.defn mm mws) k0 _ X st.1 st.2 hk0 (by rw [hfm]; exact hX)
      (fun fm hfmem => by rw [hfm] at hfmem; obtain ⟨o, _, rfl⟩ := List.mem_map.mp hfmem; rfl), h1, h2]
  simp [survivorsOf, List.filter_filter]

theorem diff_defn_step (F : FetchFn) (e : Envs) (f : Nat) (sm : Meta) (mkids combined M : List Obj)
    (st : List Obj × List Nat) (idx : Nat) (mm : Meta) (mws : List Word) (hp : DefnMeta mm)
    (hfm : isMultiple (.defn mm mws) = true → fromMasterOf mkids idx (.defn mm mws) = [])
    (hmatch : fetchMatching (f + 1) sm combined (.defn mm mws) = M)
    (hdef : ∀ o ∈ M, o.isDefn = true) (hsrc : ∀ o ∈ M, SrcOK o)
    (hkeys : KeysDefined e (f + 1) (.defn mm mws) M) :
    stepG F e (f + 1) true sm mkids combined st (idx, .defn mm mws) =
      .ok (st.1 ++ diffBlockL e (f + 1) (.defn mm mws) M, st.2 ++ M.flatMap marksOf) := by
  obtain ⟨⟨k0, hk0⟩, hcand⟩ := hkeys
  cases hmult : isMultiple (.defn mm mws) with
  | false =>
    rw [diff_plain_step F e f sm mkids combined _ st idx mm mws hp hmult hmatch k0 hk0 (fun d hd _ => hcand d hd),
      findSome_srcErrOf_ok _ (fun o ho _ => hsrc o ho), if_pos (List.all_eq_true.mpr hdef)]
  | true =>
    rw [diff_multi_step F e f sm mkids combined st idx mm mws k0
      (candsOf e (f + 1) (.defn mm mws) M) hmult (hfm hmult) hk0, hmatch,
      diffBlockL_multi _ _ _ _ hmult, keyOf_ok hk0]
    rw [hmatch]
    apply forall2_map
    intro d hd
    obtain ⟨k, hk⟩ := hcand d hd
    exact candLink_candOfSrc hp (hdef d hd) (hsrc d hd) hk

/-! ## 3. the whole difference for flat masters with `.multiple` definitions -/

/-- **C08, closed form of the difference**, given what the matching sources of every master child
    are (`hmatch`).  Fuel `f + 2`: the diff branch of `definition.fetch` renders with the fuel of
    the iteration, which must be positive. -/
theorem diff_flat_multi_of_matching (e : Envs) (f : Nat) (sm : Meta) (mkids combined D : List Obj)
    (hf : FlatMultiMaster mkids)
    (hmatch : ∀ mo ∈ mkids, fetchMatching (f + 1) sm combined mo = activeNamed mo.name D)
    (hdef : ∀ o ∈ D, o.isDefn = true) (hsrc : ∀ o ∈ D, SrcOK o)
    (hkeys : ∀ mo ∈ mkids, KeysDefined e (f + 1) mo (activeNamed mo.name D)) :
    fetchScope e (f + 2) true sm mkids combined =
      .ok (.scope { sm with tmpl := 0 } (mkids.flatMap (diffBlockOf e (f + 1) D)), flatUsed mkids D) := by
  refine fetchScope_of_steps_ok e (f + 1) true sm mkids combined _ _ (masterActive_flatMulti mkids hf) ?_
  intro st i mo ha
  have hmem : mo ∈ mkids := snd_mem_of_mem_indexed ha
  obtain ⟨mm, mws, rfl, hp, _, _⟩ := hf.defn mo hmem
  exact diff_defn_step _ e f sm mkids combined _ st i mm mws hp
    (fun _ => fromMasterOf_nil mkids hf.distinct i _ ha) (hmatch _ hmem)
    (fun o ho => hdef o (mem_activeNamed.mp ho).1) (fun o ho => hsrc o (mem_activeNamed.mp ho).1) (hkeys _ hmem)

/-- **C08, closed form of the difference, definition-only sources.** -/
theorem diff_flat_multi (e : Envs) (f : Nat) (sm : Meta) (mkids combined : List Obj)
    (hf : FlatMultiMaster mkids) (hsd : sm.disabled = false)
    (hdef : ∀ o ∈ combined, o.isDefn = true) (hsrc : ∀ o ∈ combined, SrcOK o)
    (hkeys : ∀ mo ∈ mkids, KeysDefined e (f + 1) mo (activeNamed mo.name combined)) :
    fetchScope e (f + 2) true sm mkids combined =
      .ok (.scope { sm with tmpl := 0 } (mkids.flatMap (diffBlockOf e (f + 1) combined)),
           flatUsed mkids combined) :=
  diff_flat_multi_of_matching e f sm mkids combined combined hf
    (hf.matching (f + 1) sm combined hsd hdef) hdef hsrc hkeys

/-! ## 4. minimality -/

theorem mem_diffBlockL {e : Envs} {fuel : Nat} {mo : Obj} {l : List Obj} {o : Obj}
    (ho : o ∈ diffBlockL e fuel mo l) :
    (∃ d ∈ l, o = candOfSrc mo d) ∧ keyOf e fuel mo o ≠ keyOf e fuel mo mo := by
  unfold diffBlockL at ho
  split at ho
  · unfold survivorsOf at ho
    obtain ⟨x, hx, rfl⟩ := List.mem_map.mp ho
    obtain ⟨h1, h2, h3⟩ := mem_surv hx
    exact ⟨h1, by rw [← h2]; exact h3⟩
  · split at ho
    · cases ho
    · rename_i d hd
      split at ho
      · cases ho
      · rename_i hk
        simp only [List.mem_singleton] at ho
        subst ho
        exact ⟨⟨d, List.mem_of_getLast? hd, rfl⟩, by simpa using hk⟩

theorem activeIn_diffBlockL {e : Envs} {fuel : Nat} {mo : Obj} {l : List Obj} {x : Obj}
    (h : ActiveIn x (diffBlockL e fuel mo l)) : x ∈ diffBlockL e fuel mo l := by
  cases h with
  | here hm _ => exact hm
  | deeper hm _ _ =>
    obtain ⟨⟨d, _, hxd⟩, _⟩ := mem_diffBlockL hm
    cases hxd

/-- **C08 minimality**: every definition of the difference is the candidate built from an enabled
    source definition named like a master definition `mo`, and its key
    (`mo.extract_format(source=candidate).as_str()`) differs from the key of `mo`. -/
theorem diff_minimal (e : Envs) (f : Nat) (sm : Meta) (mkids combined : List Obj)
    (hf : FlatMultiMaster mkids) (hsm : sm.name = []) (hsd : sm.disabled = false)
    (hdef : ∀ o ∈ combined, o.isDefn = true) (hsrc : ∀ o ∈ combined, SrcOK o)
    (hkeys : ∀ mo ∈ mkids, KeysDefined e (f + 1) mo (activeNamed mo.name combined))
    (rm : Meta) (D : List Obj) (used : List Nat)
    (h : fetchScope e (f + 2) true sm mkids combined = .ok (.scope rm D, used)) :
    ∀ o ∈ D, ∃ mo ∈ mkids, (∃ d ∈ activeNamed mo.name combined, o = candOfSrc mo d) ∧
      keyOf e (f + 1) mo o ≠ keyOf e (f + 1) mo mo := by
  rw [diff_flat_multi e f sm mkids combined hf hsd hdef hsrc hkeys] at h
  cases h
  intro o ho
  obtain ⟨mo, hmo, ho'⟩ := List.mem_flatMap.mp ho
  exact ⟨mo, hmo, mem_diffBlockL ho'⟩

/-! ## 5. algebra of the blocks of one master definition -/

theorem diffBlockL_nil (e : Envs) (fuel : Nat) (mo : Obj) : diffBlockL e fuel mo [] = [] := by
  unfold diffBlockL
  split <;> rfl

theorem lastWins_eq (mo : Obj) (l : List Obj) :
    lastWins mo l = match l.getLast? with | some d => candOfSrc mo d | none => mo := rfl

-- `lastWins mo [x]` unfolds to `candOfSrc mo x`: this is `lastWins_idem` at `[]` read that way
theorem candOfSrc_self (mm : Meta) (mws : List Word) (ht : mm.tmpl = 0) (hv : mm.varRes = none) :
    candOfSrc (.defn mm mws) (.defn mm mws) = .defn mm mws :=
  lastWins_idem mm mws [] ht hv

theorem diffBlockL_lastWins (e : Envs) (fuel : Nat) (mo : Obj) (l : List Obj) (hmult : isMultiple mo = false) :
    diffBlockL e fuel mo l =
      if keyOf e fuel mo (lastWins mo l) == keyOf e fuel mo mo then [] else [lastWins mo l] := by
  rw [diffBlockL_plain e fuel mo l hmult, lastWins_eq]
  cases l.getLast? with
  | none => simp
  | some d => rfl

theorem multiBlock_cons_self (mo : Obj) (k0 : Str) (cks : List (Obj × Str)) :
    multiBlock mo k0 ((mo, k0) :: cks) = multiBlock mo k0 cks := by
  unfold multiBlock
  simp only [List.filter_cons, bne_self_eq_false, Bool.false_eq_true, if_false]

/-- **the working set has the difference of the sources it was fetched from** (one master
    definition): the difference block computed from the non-diff block is the difference block
    computed from the sources -/
theorem diffBlockL_blockL (e : Envs) (fuel : Nat) (mm : Meta) (mws : List Word)
    (ht : mm.tmpl = 0) (hv : mm.varRes = none) (l : List Obj) :
    diffBlockL e fuel (.defn mm mws) (blockL e fuel (.defn mm mws) l) = diffBlockL e fuel (.defn mm mws) l := by
  cases hmult : isMultiple (.defn mm mws) with
  | true =>
    -- the survivors are the tail of the block, and the block is a fixed point of the list rule
    have h := multiBlock_refetch e fuel mm mws l ht hv
    rw [multiBlock_eq_cons, multiBlock_eq_cons _ _ (candsOf e fuel _ l)] at h
    rw [blockL_multi _ _ _ _ hmult, diffBlockL_multi _ _ _ _ hmult, diffBlockL_multi _ _ _ _ hmult]
    exact (List.cons.inj h).2
  | false =>
    rw [blockL_plain _ _ _ _ hmult, diffBlockL_lastWins _ _ _ l hmult, diffBlockL_lastWins _ _ _ _ hmult,
      lastWins_idem mm mws l ht hv]

/-- **the block restored from a difference block** (one master definition): for a `.multiple`
    definition the block of the working set itself; for another one the working value, except that
    a working value whose key is the master's is replaced by the master definition -/
def restoredBlockL (e : Envs) (fuel : Nat) (mo : Obj) (l : List Obj) : List Obj :=
  if isMultiple mo then blockL e fuel mo l
  else [if keyOf e fuel mo (lastWins mo l) == keyOf e fuel mo mo then mo else lastWins mo l]

theorem restoredBlockL_plain (e : Envs) (fuel : Nat) (mo : Obj) (l : List Obj) (h : isMultiple mo = false) :
    restoredBlockL e fuel mo l =
      [if keyOf e fuel mo (lastWins mo l) == keyOf e fuel mo mo then mo else lastWins mo l] := by
  unfold restoredBlockL; rw [h]; rfl

theorem restoredBlockL_multi (e : Envs) (fuel : Nat) (mo : Obj) (l : List Obj) (h : isMultiple mo = true) :
    restoredBlockL e fuel mo l = blockL e fuel mo l := by
  unfold restoredBlockL; rw [h]; rfl

theorem blockL_diffBlockL (e : Envs) (fuel : Nat) (mm : Meta) (mws : List Word)
    (ht : mm.tmpl = 0) (hv : mm.varRes = none) (l : List Obj) :
    blockL e fuel (.defn mm mws) (diffBlockL e fuel (.defn mm mws) l) = restoredBlockL e fuel (.defn mm mws) l := by
  cases hmult : isMultiple (.defn mm mws) with
  | true =>
    -- re-fetching the whole block: its template gives the master definition, which is dropped
    rw [restoredBlockL_multi _ _ _ _ hmult, blockL_multi _ _ _ l hmult,
      ← multiBlock_refetch e fuel mm mws l ht hv, multiBlock_eq_cons _ _ (candsOf e fuel _ l),
      blockL_multi _ _ _ _ hmult, diffBlockL_multi _ _ _ _ hmult]
    unfold candsOf
    rw [List.map_cons, candOfSrc_tmpl mm mws ht hv, multiBlock_cons_self]
  | false =>
    rw [blockL_plain _ _ _ _ hmult, diffBlockL_lastWins _ _ _ l hmult, restoredBlockL_plain _ _ _ _ hmult]
    split
    · rfl
    · rw [lastWins_idem mm mws l ht hv]

theorem diffBlockL_restoredBlockL (e : Envs) (fuel : Nat) (mm : Meta) (mws : List Word)
    (ht : mm.tmpl = 0) (hv : mm.varRes = none) (l : List Obj) :
    diffBlockL e fuel (.defn mm mws) (restoredBlockL e fuel (.defn mm mws) l) =
      diffBlockL e fuel (.defn mm mws) l := by
  cases hmult : isMultiple (.defn mm mws) with
  | true =>
    rw [restoredBlockL_multi _ _ _ _ hmult]
    exact diffBlockL_blockL e fuel mm mws ht hv l
  | false =>
    rw [restoredBlockL_plain _ _ _ _ hmult, diffBlockL_lastWins _ _ _ l hmult, diffBlockL_lastWins _ _ _ _ hmult]
    split
    · rw [show lastWins (.defn mm mws) [.defn mm mws] = .defn mm mws from lastWins_idem mm mws [] ht hv]
      simp
    · rename_i hk
      rw [lastWins_idem mm mws l ht hv, if_neg hk]

/-! ## 6. the blocks of the difference and of the restored set as sources -/

theorem blockMem_diffBlockL (e : Envs) (fuel : Nat) : BlockMem (diffBlockL e fuel) :=
  fun _ _ _ ho => .inr (mem_diffBlockL ho).1

theorem blockMem_restoredBlockL (e : Envs) (fuel : Nat) : BlockMem (restoredBlockL e fuel) := by
  intro mo l o ho
  cases hmult : isMultiple mo with
  | true => exact blockMem_blockL e fuel mo l o (restoredBlockL_multi e fuel mo l hmult ▸ ho)
  | false =>
    rw [restoredBlockL_plain _ _ _ _ hmult, List.mem_singleton] at ho
    split at ho
    · exact .inl ⟨_, ho.trans (withTmpl_self mo).symm⟩
    · exact blockMem_blockL e fuel mo l o (by rw [blockL_plain _ _ _ _ hmult, ho]; exact List.mem_singleton_self _)

/-! ## 7. the laws of C08 on flat masters -/

/-- the setting of the laws: a flat master (root-level definitions, `.multiple` or not, typed or
    not, pairwise distinct names, not `.deprecated`, not choices) fit for re-fetching, at the root;
    `$`-free definition-only sources; the keys that get compared are defined (`extract_format`
    succeeds on every master definition and on the candidate of every matching source) -/
structure DiffSetting (e : Envs) (f : Nat) (sm : Meta) (mkids combined : List Obj) : Prop where
  flat : FlatMultiMaster mkids
  refetch : RefetchOK mkids
  root : sm.name = []
  enabled : sm.disabled = false
  defn : ∀ o ∈ combined, o.isDefn = true
  srcOK : ∀ o ∈ combined, SrcOK o
  noDollar : ∀ o ∈ combined, hasDollar o.srcWords = false
  keys : ∀ mo ∈ mkids, KeysDefined e (f + 1) mo (activeNamed mo.name combined)

/-- … for the sources `D` -/
def restoredBlockOf (e : Envs) (fuel : Nat) (D : List Obj) (mo : Obj) : List Obj :=
  restoredBlockL e fuel mo (activeNamed mo.name D)

/-- the working set `W`: children of `master.fetch(sources)` -/
def workingSet (e : Envs) (fuel : Nat) (mkids combined : List Obj) : List Obj :=
  mkids.flatMap (blockOf e fuel combined)
/-- the difference `D`: children of `master.fetch_diff(sources)` -/
def diffSet (e : Envs) (fuel : Nat) (mkids combined : List Obj) : List Obj :=
  mkids.flatMap (diffBlockOf e fuel combined)
/-- the restored working set `W'`: children of `master.fetch(D)` -/
def restoredSet (e : Envs) (fuel : Nat) (mkids combined : List Obj) : List Obj :=
  mkids.flatMap (restoredBlockOf e fuel combined)

variable {e : Envs} {f : Nat} {sm : Meta} {mkids combined : List Obj}

/-- `W = master.fetch(sources)` -/
theorem DiffSetting.fetch_sources (S : DiffSetting e f sm mkids combined) :
    fetchScope e (f + 2) false sm mkids combined =
      .ok (.scope { sm with tmpl := 0 } (workingSet e (f + 1) mkids combined), flatUsed mkids combined) :=
  fetch_flat_multi e (f + 1) sm mkids combined S.flat S.enabled S.defn S.srcOK
    (fun mo hmo _ => S.keys mo hmo)

/-- `master.fetch_diff(sources)` -/
theorem DiffSetting.diff_sources (S : DiffSetting e f sm mkids combined) :
    fetchScope e (f + 2) true sm mkids combined =
      .ok (.scope { sm with tmpl := 0 } (diffSet e (f + 1) mkids combined), flatUsed mkids combined) :=
  diff_flat_multi e f sm mkids combined S.flat S.enabled S.defn S.srcOK S.keys

/-- the family of blocks `B` as one list of sources -/
abbrev famOf (B : Obj → List Obj → List Obj) (mkids combined : List Obj) : List Obj :=
  mkids.flatMap (fun mo => B mo (activeNamed mo.name combined))

/-- a family of blocks taken as the source of a fetch or of a difference (`N` is `blockL` or
    `diffBlockL`): block by block, `N` of the block — which a law about one definition (`hcomp`)
    identifies with the block of another family `B'` -/
theorem DiffSetting.fetch_famOf (S : DiffSetting e f sm mkids combined) (diff : Bool)
    {B B' : Obj → List Obj → List Obj} (hB : BlockMem B)
    (hcomp : ∀ mm mws l, mm.tmpl = 0 → mm.varRes = none →
      (if diff then diffBlockL else blockL) e (f + 1) (.defn mm mws) (B (.defn mm mws) l) = B' (.defn mm mws) l) :
    fetchScope e (f + 2) diff sm mkids (famOf B mkids combined) =
      .ok (.scope { sm with tmpl := 0 } (famOf B' mkids combined), flatUsed mkids (famOf B mkids combined)) := by
  have hG := hB.goodBlocks combined S.flat S.refetch S.noDollar
  have hdef : ∀ o ∈ famOf B mkids combined, o.isDefn = true := fun o ho => by
    obtain ⟨mo, _, h⟩ := hG.mem o ho; exact h.isDefn
  have hsrc : ∀ o ∈ famOf B mkids combined, SrcOK o := fun o ho => by
    obtain ⟨mo, _, h⟩ := hG.mem o ho; exact h.srcOK
  have hblk : ∀ mo ∈ mkids, (if diff then diffBlockL else blockL) e (f + 1) mo
      (activeNamed mo.name (famOf B mkids combined)) = B' mo (activeNamed mo.name combined) := by
    intro mo hmo
    obtain ⟨mm, mws, rfl, _⟩ := S.flat.defn mo hmo
    rw [hG.active S.flat _ hmo]
    exact hcomp mm mws _ (S.refetch _ hmo).1 (S.refetch _ hmo).2.1
  cases diff with
  | false =>
    rw [fetch_flat_multi e (f + 1) sm mkids _ S.flat S.enabled hdef hsrc
      (fun mo hmo _ => hG.keys S.flat S.keys mo hmo)]
    exact congrArg (fun W => Except.ok (Obj.scope _ W, _)) (flatMap_congr_mem _ _ mkids hblk)
  | true =>
    rw [diff_flat_multi e f sm mkids _ S.flat S.enabled hdef hsrc (hG.keys S.flat S.keys)]
    exact congrArg (fun W => Except.ok (Obj.scope _ W, _)) (flatMap_congr_mem _ _ mkids hblk)

/-- **the difference of the working set is the difference of the sources**:
    `master.fetch_diff(master.fetch(sources)) = master.fetch_diff(sources)` -/
theorem DiffSetting.diff_working (S : DiffSetting e f sm mkids combined) :
    fetchScope e (f + 2) true sm mkids (workingSet e (f + 1) mkids combined) =
      .ok (.scope { sm with tmpl := 0 } (diffSet e (f + 1) mkids combined),
           flatUsed mkids (workingSet e (f + 1) mkids combined)) :=
  S.fetch_famOf true (B := blockL e (f + 1)) (B' := diffBlockL e (f + 1)) (blockMem_blockL e (f + 1)) (fun mm mws l ht hv => diffBlockL_blockL e (f + 1) mm mws ht hv l)

/-- **restoring**: `master.fetch(D)` in closed form -/
theorem DiffSetting.fetch_diffSet (S : DiffSetting e f sm mkids combined) :
    fetchScope e (f + 2) false sm mkids (diffSet e (f + 1) mkids combined) =
      .ok (.scope { sm with tmpl := 0 } (restoredSet e (f + 1) mkids combined),
           flatUsed mkids (diffSet e (f + 1) mkids combined)) :=
  S.fetch_famOf false (B := diffBlockL e (f + 1)) (B' := restoredBlockL e (f + 1)) (blockMem_diffBlockL e (f + 1)) (fun mm mws l ht hv => blockL_diffBlockL e (f + 1) mm mws ht hv l)

/-- **the difference of the restored working set is `D` again** -/
theorem DiffSetting.diff_restoredSet (S : DiffSetting e f sm mkids combined) :
    fetchScope e (f + 2) true sm mkids (restoredSet e (f + 1) mkids combined) =
      .ok (.scope { sm with tmpl := 0 } (diffSet e (f + 1) mkids combined),
           flatUsed mkids (restoredSet e (f + 1) mkids combined)) :=
  S.fetch_famOf true (B := restoredBlockL e (f + 1)) (B' := diffBlockL e (f + 1)) (blockMem_restoredBlockL e (f + 1))
    (fun mm mws l ht hv => diffBlockL_restoredBlockL e (f + 1) mm mws ht hv l)

/-! ### empty self-difference -/

theorem diffSet_nil (e : Envs) (fuel : Nat) (mkids : List Obj) : diffSet e fuel mkids [] = [] :=
  List.flatMap_eq_nil_iff.mpr (fun mo _ => diffBlockL_nil e fuel mo)

theorem flatUsed_nil (mkids : List Obj) : flatUsed mkids [] = [] :=
  List.flatMap_eq_nil_iff.mpr (fun _ _ => rfl)

theorem diffSetting_nosrc (e : Envs) (f : Nat) (sm : Meta) (mkids : List Obj)
    (hf : FlatMultiMaster mkids) (hr : RefetchOK mkids) (hsm : sm.name = []) (hsd : sm.disabled = false)
    (hk0 : ∀ mo ∈ mkids, ∃ k, extractFormatStr e (f + 1 + 64) mo mo = .ok k) :
    DiffSetting e f sm mkids [] :=
  ⟨hf, hr, hsm, hsd, (fun o ho => by cases ho), (fun o ho => by cases ho), (fun o ho => by cases ho),
    (fun mo hmo => ⟨hk0 mo hmo, fun d hd => by cases hd⟩)⟩

/-- **the difference of the master's own defaults is empty**: with `W₀ = master.fetch()` (no
    sources), `master.fetch_diff(W₀)` has no children -/
theorem self_diff_empty (e : Envs) (f : Nat) (sm : Meta) (mkids : List Obj)
    (hf : FlatMultiMaster mkids) (hr : RefetchOK mkids) (hsm : sm.name = []) (hsd : sm.disabled = false)
    (hk0 : ∀ mo ∈ mkids, ∃ k, extractFormatStr e (f + 1 + 64) mo mo = .ok k)
    (rm : Meta) (W0 : List Obj) (u : List Nat)
    (hW : fetchScope e (f + 2) false sm mkids [] = .ok (.scope rm W0, u)) :
    ∃ u', fetchScope e (f + 2) true sm mkids W0 = .ok (.scope rm [], u') := by
  have S := diffSetting_nosrc e f sm mkids hf hr hsm hsd hk0
  rw [S.fetch_sources] at hW
  cases hW
  refine ⟨flatUsed mkids (workingSet e (f + 1) mkids []), ?_⟩
  rw [S.diff_working, diffSet_nil]

/-! ## 8. the restored working set against the working set -/

theorem Forall2.of_refl {α : Type} {Q : α → α → Prop} : ∀ (l : List α), (∀ a ∈ l, Q a a) → Forall2 Q l l := by
  intro l
  induction l with
  | nil => intro _; exact .nil
  | cons a l ih => intro h; exact .cons (h a List.mem_cons_self) (ih (fun b hb => h b (List.mem_cons_of_mem _ hb)))

theorem Forall2.append {α β : Type} {Q : α → β → Prop} {a : List α} {b : List β} {c : List α} {d : List β}
    (h1 : Forall2 Q a b) (h2 : Forall2 Q c d) : Forall2 Q (a ++ c) (b ++ d) := by
  induction h1 with
  | nil => exact h2
  | cons hq _ ih => exact .cons hq ih

theorem forall2_flatMap {α β γ : Type} (Q : β → γ → Prop) (g : α → List β) (g' : α → List γ) :
    ∀ (l : List α), (∀ a ∈ l, Forall2 Q (g a) (g' a)) → Forall2 Q (l.flatMap g) (l.flatMap g') := by
  intro l
  induction l with
  | nil => intro _; exact .nil
  | cons a l ih =>
    intro h
    rw [List.flatMap_cons, List.flatMap_cons]
    exact (h a List.mem_cons_self).append (ih (fun b hb => h b (List.mem_cons_of_mem _ hb)))

theorem Forall2.eq_of_eq {α : Type} {l l' : List α} (h : Forall2 (fun a b => b = a) l l') : l' = l := by
  induction h with
  | nil => rfl
  | cons hq _ ih => rw [hq, ih]

/-- how an object `o'` of the restored working set relates to the object `o` of the working set at
    the same position (both belong to the master definition `mo`): it IS that object, unless `o` is
    the working value of a non-multiple definition whose key is the key of the master definition —
    then the difference omits it and the restored object is the master definition itself -/
def RestoredAs (e : Envs) (fuel : Nat) (mo o o' : Obj) : Prop :=
  o' = o ∨ (isMultiple mo = false ∧ o.meta = mo.meta ∧ keyOf e fuel mo o = keyOf e fuel mo mo ∧ o' = mo)

/-- same meta data (name, attributes, template flag …) and same key -/
def SameKey (e : Envs) (fuel : Nat) (mo o o' : Obj) : Prop :=
  o'.meta = o.meta ∧ keyOf e fuel mo o' = keyOf e fuel mo o

theorem RestoredAs.sameKey {e : Envs} {fuel : Nat} {mo o o' : Obj} (h : RestoredAs e fuel mo o o') :
    SameKey e fuel mo o o' := by
  rcases h with rfl | ⟨_, hm, hk, rfl⟩
  · exact ⟨rfl, rfl⟩
  · exact ⟨hm.symm, hk.symm⟩

theorem lastWins_meta (mm : Meta) (mws : List Word) (ht : mm.tmpl = 0) (l : List Obj) :
    (lastWins (.defn mm mws) l).meta = mm := by
  rw [lastWins_eq]
  cases l.getLast? with
  | none => rfl
  | some d => exact meta_tmpl0 mm ht

theorem restoredBlockL_restoredAs (e : Envs) (fuel : Nat) (mm : Meta) (mws : List Word)
    (ht : mm.tmpl = 0) (l : List Obj) :
    Forall2 (RestoredAs e fuel (.defn mm mws)) (blockL e fuel (.defn mm mws) l)
      (restoredBlockL e fuel (.defn mm mws) l) := by
  cases hmult : isMultiple (.defn mm mws) with
  | true =>
    rw [restoredBlockL_multi _ _ _ _ hmult]
    exact Forall2.of_refl _ (fun a _ => .inl rfl)
  | false =>
    rw [restoredBlockL_plain _ _ _ _ hmult, blockL_plain _ _ _ _ hmult]
    refine .cons ?_ .nil
    split
    · rename_i hk
      exact .inr ⟨hmult, lastWins_meta mm mws ht l, by simpa using hk, rfl⟩
    · exact .inl rfl

theorem Forall2.imp_mem {α β : Type} {Q Q' : α → β → Prop} {l : List α} {bs : List β} (h : Forall2 Q l bs)
    (himp : ∀ a ∈ l, ∀ b, Q a b → Q' a b) : Forall2 Q' l bs := by
  induction h with
  | nil => exact .nil
  | cons hq _ ih =>
    exact .cons (himp _ List.mem_cons_self _ hq) (ih (fun a ha => himp a (List.mem_cons_of_mem _ ha)))

/-- **`W'` against `W`, position by position** -/
theorem DiffSetting.restored_restoredAs (S : DiffSetting e f sm mkids combined) :
    Forall2 (fun o o' => ∃ mo ∈ mkids, ResObj mo o ∧ RestoredAs e (f + 1) mo o o')
      (workingSet e (f + 1) mkids combined) (restoredSet e (f + 1) mkids combined) := by
  unfold workingSet restoredSet
  apply forall2_flatMap
  intro mo hmo
  obtain ⟨mm, mws, rfl, _⟩ := S.flat.defn mo hmo
  exact (restoredBlockL_restoredAs e (f + 1) mm mws (S.refetch _ hmo).1 (activeNamed mm.name combined)).imp_mem
    (fun o ho o' h => ⟨_, hmo,
      ((blockMem_blockL e (f + 1)).goodBlocks combined S.flat S.refetch S.noDollar).res _ hmo o ho, h⟩)

/-- a working value whose key is the key of the master definition is spelt like the master
    definition (e.g. because no source mentions the parameter) -/
def NoRedundant (e : Envs) (fuel : Nat) (mkids combined : List Obj) : Prop :=
  ∀ mo ∈ mkids, isMultiple mo = false →
    keyOf e fuel mo (lastWins mo (activeNamed mo.name combined)) = keyOf e fuel mo mo →
    lastWins mo (activeNamed mo.name combined) = mo

theorem restoredBlockL_eq_blockL (e : Envs) (fuel : Nat) (mo : Obj) (l : List Obj)
    (h : isMultiple mo = false → keyOf e fuel mo (lastWins mo l) = keyOf e fuel mo mo → lastWins mo l = mo) :
    restoredBlockL e fuel mo l = blockL e fuel mo l := by
  cases hmult : isMultiple mo with
  | true => exact restoredBlockL_multi e fuel mo l hmult
  | false =>
    rw [restoredBlockL_plain _ _ _ _ hmult, blockL_plain _ _ _ _ hmult]
    split
    · rename_i hk
      rw [h hmult (by simpa using hk)]
    · rfl

/-- **exact restoration**: under `NoRedundant` the restored working set IS the working set (as
    trees, template flags included) -/
theorem DiffSetting.restored_eq (S : DiffSetting e f sm mkids combined)
    (hnr : NoRedundant e (f + 1) mkids combined) :
    restoredSet e (f + 1) mkids combined = workingSet e (f + 1) mkids combined :=
  flatMap_congr_mem _ _ mkids (fun mo hmo => restoredBlockL_eq_blockL e (f + 1) mo _ (hnr mo hmo))

/-! ### extracted values -/

theorem extractObj_defn_all (e : Envs) {o o' : Obj} (ho : o.isDefn = true) (ho' : o'.isDefn = true)
    (h : extractObj e 1 o' = extractObj e 1 o) (n : Nat) : extractObj e n o' = extractObj e n o := by
  cases o with
  | scope m k => cases ho
  | defn m ws =>
    cases o' with
    | scope m' k' => cases ho'
    | defn m' ws' =>
      cases n with
      | zero => rfl
      | succ n =>
        simp only [extractObj] at h ⊢
        exact h

theorem foldlM_forall2 {α β ε : Type} (g : β → α → Except ε β) (Q : α → α → Prop) {l l' : List α}
    (h : Forall2 Q l l') (hg : ∀ a a', Q a a' → ∀ b, g b a' = g b a) :
    ∀ init, l'.foldlM g init = l.foldlM g init := by
  induction h with
  | nil => intro _; rfl
  | cons hq _ ih =>
    intro init
    rw [List.foldlM_cons, List.foldlM_cons, hg _ _ hq init]
    cases g init _ with
    | error err => rfl
    | ok b => exact ih b

theorem extractObj_scope_congr (e : Envs) (n : Nat) (m : Meta) (kids kids' : List Obj)
    (h : Forall2 (fun o o' => o'.meta = o.meta ∧ extractObj e n o' = extractObj e n o) kids kids') :
    extractObj e (n + 1) (.scope m kids') = extractObj e (n + 1) (.scope m kids) := by
  simp only [extractObj]
  congr 1
  apply foldlM_forall2 _ _ h
  intro o o' ⟨hm, hx⟩ fs
  have hn : o'.name = o.name := by unfold Obj.name; rw [hm]
  have ha : ∀ s, o'.attr s = o.attr s := by intro s; unfold Obj.attr; rw [hm]
  have hmu : isMultiple o' = isMultiple o := by unfold isMultiple; rw [ha]
  simp only [hm, hx, hn, ha, hmu]

/-- **values restored**, provided equal keys mean equal values where the difference relies on it: for
    a non-multiple master definition `mo`, a working value with the key of `mo` extracts to the
    value of `mo`.  (False for `float` values agreeing with the default to 10 significant digits —
    see `Phil.C08.restore_values_fails_float`.) -/
theorem DiffSetting.restored_values (S : DiffSetting e f sm mkids combined)
    (hfaith : ∀ mo ∈ mkids, ∀ o ∈ workingSet e (f + 1) mkids combined, o.name = mo.name →
      isMultiple mo = false → keyOf e (f + 1) mo o = keyOf e (f + 1) mo mo →
      extractObj e 1 o = extractObj e 1 mo)
    (m : Meta) (n : Nat) :
    extractObj e n (.scope m (restoredSet e (f + 1) mkids combined)) =
      extractObj e n (.scope m (workingSet e (f + 1) mkids combined)) := by
  cases n with
  | zero => rfl
  | succ n =>
    apply extractObj_scope_congr
    refine S.restored_restoredAs.imp_mem ?_
    rintro o ho o' ⟨mo, hmo, hres, hr⟩
    refine ⟨hr.sameKey.1, ?_⟩
    rcases hr with rfl | ⟨hmult, hm, hk, rfl⟩
    · rfl
    · obtain ⟨mm, mws, rfl, _⟩ := S.flat.defn _ hmo
      exact extractObj_defn_all e hres.isDefn rfl (hfaith _ hmo _ ho hres.name hmult hk).symm n

/-! ### restoring twice -/

theorem blockL_restoredBlockL (e : Envs) (fuel : Nat) (mm : Meta) (mws : List Word)
    (ht : mm.tmpl = 0) (hv : mm.varRes = none) (l : List Obj) :
    blockL e fuel (.defn mm mws) (restoredBlockL e fuel (.defn mm mws) l) =
      restoredBlockL e fuel (.defn mm mws) l := by
  rw [← blockL_diffBlockL e fuel mm mws ht hv l, blockL_idem e fuel mm mws _ ht hv]

/-! ## 9. the chain `W = fetch(sources)`, `D = fetch_diff(W)`, `W' = fetch(D)`, `D' = fetch_diff(W')` -/

/-- the difference of a working set is always defined, and it is the difference of the sources -/
theorem DiffSetting.diff_of_working (S : DiffSetting e f sm mkids combined)
    (rm : Meta) (W : List Obj) (u : List Nat)
    (hW : fetchScope e (f + 2) false sm mkids combined = .ok (.scope rm W, u)) :
    ∃ ud, fetchScope e (f + 2) true sm mkids W =
      .ok (.scope rm (diffSet e (f + 1) mkids combined), ud) := by
  rw [S.fetch_sources] at hW
  cases hW
  exact ⟨_, S.diff_working⟩

/-- **restore**: merging the difference back succeeds and gives, position by position, the objects
    of the working set — except that a non-multiple working value whose key is the key of its master
    definition comes back as the master definition -/
theorem DiffSetting.restore (S : DiffSetting e f sm mkids combined)
    (rm : Meta) (W : List Obj) (u : List Nat)
    (hW : fetchScope e (f + 2) false sm mkids combined = .ok (.scope rm W, u))
    (rd : Meta) (D : List Obj) (ud : List Nat)
    (hD : fetchScope e (f + 2) true sm mkids W = .ok (.scope rd D, ud)) :
    ∃ W' u', fetchScope e (f + 2) false sm mkids D = .ok (.scope rm W', u') ∧
      W' = restoredSet e (f + 1) mkids combined ∧
      Forall2 (fun o o' => ∃ mo ∈ mkids, ResObj mo o ∧ RestoredAs e (f + 1) mo o o') W W' := by
  rw [S.fetch_sources] at hW
  cases hW
  rw [S.diff_working] at hD
  cases hD
  exact ⟨_, _, S.fetch_diffSet, rfl, S.restored_restoredAs⟩

/-- **the difference of the restored working set is the difference again** -/
theorem DiffSetting.diff_restore_fixed_point (S : DiffSetting e f sm mkids combined)
    (rm : Meta) (W : List Obj) (u : List Nat)
    (hW : fetchScope e (f + 2) false sm mkids combined = .ok (.scope rm W, u))
    (rd : Meta) (D : List Obj) (ud : List Nat)
    (hD : fetchScope e (f + 2) true sm mkids W = .ok (.scope rd D, ud))
    (rw' : Meta) (W' : List Obj) (u' : List Nat)
    (hW' : fetchScope e (f + 2) false sm mkids D = .ok (.scope rw' W', u')) :
    ∃ ud', fetchScope e (f + 2) true sm mkids W' = .ok (.scope rd D, ud') := by
  rw [S.fetch_sources] at hW
  cases hW
  rw [S.diff_working] at hD
  cases hD
  rw [S.fetch_diffSet] at hW'
  cases hW'
  exact ⟨_, S.diff_restoredSet⟩

/-- the fuel `fetchRoot` starts with, minus two -/
def diffFuel (master : List Obj) : Nat := (master.foldl (fun a k => Nat.max a (depthObj 1000 k)) 0) + 1

theorem fetchRoot_eq_diffFuel (e : Envs) (diff : Bool) (master : List Obj) (ss : List (List Obj)) :
    fetchRoot e diff master ss =
      fetchScope e (diffFuel master + 2) diff { name := [], id := some 0 } master ss.flatten := by
  have h : rootFuel master + 1 = diffFuel master + 2 := rfl
  rw [fetchRoot_eq, h]

end Phil
