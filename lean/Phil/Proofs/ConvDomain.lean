/-
  Lemmas behind C10: the value domain of every converter (`InDomain`) and the proof that
  `fromWords` never leaves it.
-/
import Phil.Conv
import Phil.Proofs.Generic
namespace Phil

/-! ### the declared domain of a type -/

/-- `value_min`/`value_max` as the code guarantees them: `value_min <= v` and `v <= value_max` hold
    (Python comparisons).  (`pyLe` is false on `nan`, so `nan` satisfies no declared bound.) -/
def boundsOk (lo hi : Option PNum) (v : PNum) : Bool :=
  (match lo with | some m => pyLe m v | Option.none => true) &&
  (match hi with | some M => pyLe v M | Option.none => true)

def sizeOk (smin smax : Option Int) (n : Nat) : Bool :=
  (match smin with | some m => decide (m ≤ (n : Int)) | Option.none => true) &&
  (match smax with | some M => decide ((n : Int) ≤ M) | Option.none => true)

/-- a Python `int` (or `bool`, a subclass of `int`) within the bounds -/
def isIntIn (lo hi : Option PNum) : PVal → Bool
  | .num (.int i) => boundsOk lo hi (.int i)
  | .bool b => boundsOk lo hi (.int (if b then 1 else 0))
  | _ => false

/-- a Python `float` (finite `n/d`, `inf`, `-inf` or `nan`; never an `int`, never a `bool`) within
    the bounds -/
def isFloatIn (lo hi : Option PNum) : PVal → Bool
  | .num (.int _) => false
  | .num n => boundsOk lo hi n
  | _ => false

def elemOk (isInt : Bool) (a : ListArgs) : PVal → Bool
  | .none => a.allowNoneEl
  | .auto => a.allowAutoEl
  | v => if isInt then isIntIn a.valueMin a.valueMax v else isFloatIn a.valueMin a.valueMax v

def isStrVal : PVal → Bool
  | .str _ => true
  | _ => false

/-- The set of Python objects a type may extract to. -/
def InDomain : Conv → PVal → Bool
  | .int a, .none | .float a, .none => a.allowNone
  | _, .none => true
  | _, .auto => true
  | .int a, v => isIntIn a.valueMin a.valueMax v
  | .float a, v => isFloatIn a.valueMin a.valueMax v
  | .bool, .bool _ => true
  | .ints a, .list l => sizeOk a.sizeMin a.sizeMax l.length && l.all (elemOk true a)
  | .floats a, .list l => sizeOk a.sizeMin a.sizeMax l.length && l.all (elemOk false a)
  | .words, .words _ => true
  | .strings, .list l => l.all isStrVal
  | .str, .str _ | .key, .str _ | .path, .str _ | .qstr, .str _ => true
  | .choice false, .str _ => true
  | .choice true, .list l => l.all isStrVal
  | _, _ => false

/-- not a scope_extract, not a scope_extract_list -/
def PVal.atomic : PVal → Bool
  | .record _ => false
  | .multi _ _ => false
  | _ => true

/-- no domain holds a scope_extract or a scope_extract_list -/
theorem inDomain_atomic (c : Conv) (v : PVal) (h : InDomain c v = true) : v.atomic = true := by
  cases v with
  | record _ | multi _ _ => cases c <;> first | cases h | (rename_i b; cases b <;> cases h)
  | _ => rfl

/-! ### the checks -/

theorem checkValue_eq (lo hi : Option PNum) (ws : List Word) (wl : Bool) (v : PNum) :
    checkValue lo hi ws wl v =
      if lo.all (pyLe · v) = false then .error (.runtime "value_min" (if wl then firstLine ws else Option.none))
      else if hi.all (pyLe v ·) = false then .error (.runtime "value_max" (if wl then firstLine ws else Option.none))
      else .ok () := by
  cases lo <;> cases hi <;> simp [checkValue]

theorem boundsOk_eq (lo hi : Option PNum) (v : PNum) :
    boundsOk lo hi v = (lo.all (pyLe · v) && hi.all (pyLe v ·)) := by
  cases lo <;> cases hi <;> rfl

theorem checkValue_ok_iff (lo hi : Option PNum) (ws : List Word) (wl : Bool) (v : PNum) :
    checkValue lo hi ws wl v = .ok () ↔ boundsOk lo hi v = true := by
  rw [checkValue_eq, boundsOk_eq]
  cases lo.all (pyLe · v) <;> cases hi.all (pyLe v ·) <;> simp

theorem checkSize_eq (smin smax : Option Int) (ws : List Word) (wl : Bool) (n : Nat) :
    checkSize smin smax ws wl n =
      if smax.all (fun M => (n : Int) ≤ M) = false then
        .error (.runtime "too_many" (if wl then firstLine ws else Option.none))
      else if smin.all (fun m => m ≤ (n : Int)) = false then
        .error (.runtime "not_enough" (if wl then firstLine ws else Option.none))
      else .ok () := by
  cases smin <;> cases smax <;> simp [checkSize]

theorem sizeOk_eq (smin smax : Option Int) (n : Nat) :
    sizeOk smin smax n = (smin.all (fun m => m ≤ (n : Int)) && smax.all (fun M => (n : Int) ≤ M)) := by
  cases smin <;> cases smax <;> rfl

theorem checkSize_ok_iff (smin smax : Option Int) (ws : List Word) (wl : Bool) (n : Nat) :
    checkSize smin smax ws wl n = .ok () ↔ sizeOk smin smax n = true := by
  rw [checkSize_eq, sizeOk_eq]
  cases smin.all (fun m => m ≤ (n : Int)) <;> cases smax.all (fun M => (n : Int) ≤ M) <;> simp

/-! ### int_from_number / float_from_number -/

theorem intFromNumber_ok (ws : List Word) (raw v : PVal) (h : intFromNumber ws raw = .ok v) :
    (∃ i, v = .num (.int i)) ∨ (∃ b, v = .bool b) := by
  unfold intFromNumber at h
  split at h
  · cases h; exact .inl ⟨_, rfl⟩
  · cases h; exact .inr ⟨_, rfl⟩
  · split at h
    · cases h; exact .inl ⟨_, rfl⟩
    · cases h
  · cases h

theorem floatFromNumber_ok (ws : List Word) (raw v : PVal) (h : floatFromNumber ws raw = .ok v) :
    ∃ n, v = .num n ∧ (∀ i, n ≠ .int i) := by
  unfold floatFromNumber at h
  split at h
  · cases h; exact ⟨_, rfl, by intro i; simp⟩
  · cases h; exact ⟨_, rfl, by intro i; simp⟩
  · cases h; exact ⟨_, rfl, by intro i; simp⟩
  · cases h; exact ⟨_, rfl, by intro i; simp⟩
  · split at h
    · cases h; exact ⟨_, rfl, by intro i; simp⟩
    · cases h
  · cases h; exact ⟨_, rfl, by intro i; simp⟩
  · cases h

theorem isFloatIn_of (lo hi : Option PNum) (n : PNum) (hn : ∀ i, n ≠ .int i)
    (hb : boundsOk lo hi n = true) : isFloatIn lo hi (.num n) = true := by
  cases n <;> simp_all [isFloatIn]

/-- the common tail of scalar and element conversion: convert the raw number and check the bounds -/
def convertChecked (isInt : Bool) (lo hi : Option PNum) (ws : List Word) (raw : PVal) : R PVal :=
  match (if isInt then intFromNumber ws raw else floatFromNumber ws raw) with
  | .error e => .error e
  | .ok (.num v) => (checkValue lo hi ws true v).map (fun _ => .num v)
  | .ok (.bool b) => (checkValue lo hi ws true (.int (if b then 1 else 0))).map (fun _ => .bool b)
  | .ok v => .ok v

theorem convertChecked_ok (isInt : Bool) (lo hi : Option PNum) (ws : List Word) (raw v : PVal)
    (h : convertChecked isInt lo hi ws raw = .ok v) :
    (if isInt then isIntIn lo hi v else isFloatIn lo hi v) = true := by
  unfold convertChecked at h
  cases isInt with
  | true =>
    simp only [↓reduceIte] at h ⊢
    cases hc : intFromNumber ws raw with
    | error e => rw [hc] at h; cases h
    | ok r =>
      rw [hc] at h
      rcases intFromNumber_ok ws raw r hc with ⟨i, rfl⟩ | ⟨b, rfl⟩ <;>
        (obtain ⟨⟨⟩, h1, rfl⟩ := Except.map_eq_ok.mp h; exact (checkValue_ok_iff _ _ _ _ _).mp h1)
  | false =>
    simp only [Bool.false_eq_true, ↓reduceIte] at h ⊢
    cases hc : floatFromNumber ws raw with
    | error e => rw [hc] at h; cases h
    | ok r =>
      rw [hc] at h
      obtain ⟨n, rfl, hn⟩ := floatFromNumber_ok ws raw r hc
      obtain ⟨⟨⟩, h1, rfl⟩ := Except.map_eq_ok.mp h
      exact isFloatIn_of _ _ _ hn ((checkValue_ok_iff _ _ _ _ _).mp h1)

/-! ### scalar types -/

def scalarTail (isInt : Bool) (a : NumArgs) (env : EvalEnv) (ws : List Word) : R PVal :=
  match strFromWords ws with
     | .none => if a.allowNone then .ok .none else .error (.runtime "cannot_be_none" Option.none)
     | .auto => .ok .auto
     | .str s =>
       (match numberFromValueString env ws s with
        | .error e => .error e
        | .ok .none => if a.allowNone then .ok .none else .error (.runtime "cannot_be_none" Option.none)
        | .ok .auto => .ok .auto
        | .ok raw => convertChecked isInt a.valueMin a.valueMax ws raw)
     | _ => .error (.unsupported "strFromWords")

theorem fromWords_int_eq (a : NumArgs) (env : EvalEnv) (opt : AttrVal) (ws : List Word) :
    fromWords (.int a) env opt ws = scalarTail true a env ws := by
  unfold fromWords scalarTail convertChecked
  rfl
theorem fromWords_float_eq (a : NumArgs) (env : EvalEnv) (opt : AttrVal) (ws : List Word) :
    fromWords (.float a) env opt ws = scalarTail false a env ws := by
  unfold fromWords scalarTail convertChecked
  rfl

/-- the text-level special spellings of `number_from_value_string` -/
def isSpecialNumText (s : Str) : Bool :=
  let t := lower (strip s)
  t == "true".toList || t == "false".toList || t == "none".toList || t == "auto".toList

theorem numberFromValueString_plain (env : EvalEnv) (ws : List Word) (s : Str) (n : PNum)
    (hs : isSpecialNumText s = false) (he : env s = some (.num n)) :
    numberFromValueString env ws s = .ok (.num n) := by
  unfold isSpecialNumText at hs
  simp only [Bool.or_eq_false_iff] at hs
  obtain ⟨⟨⟨h1, h2⟩, h3⟩, h4⟩ := hs
  unfold numberFromValueString
  simp only [h1, h2, h3, h4, he, Bool.or_self, Bool.false_eq_true, ↓reduceIte]

theorem scalarTail_plain (isInt : Bool) (a : NumArgs) (env : EvalEnv) (ws : List Word) (s : Str) (n : PNum)
    (hw : strFromWords ws = .str s) (hs : isSpecialNumText s = false) (he : env s = some (.num n)) :
    scalarTail isInt a env ws = convertChecked isInt a.valueMin a.valueMax ws (.num n) := by
  unfold scalarTail
  simp only [hw, numberFromValueString_plain env ws s n hs he]

/-! ### list types -/

def elemConv (isInt : Bool) (a : ListArgs) (ws : List Word) (raw : PVal) : R PVal :=
  match raw with
  | .none => if a.allowNoneEl then .ok .none else .error (wordsErr "element_none" ws)
  | .auto => if a.allowAutoEl then .ok .auto else .error (wordsErr "element_auto" ws)
  | raw => convertChecked isInt a.valueMin a.valueMax ws raw

def elemStep (isInt : Bool) (a : ListArgs) (ws : List Word) (acc : List PVal) (raw : PVal) :
    R (List PVal) :=
  match (generalizing := false) raw with
  | .none => if a.allowNoneEl then .ok (acc ++ [.none]) else .error (wordsErr "element_none" ws)
  | .auto => if a.allowAutoEl then .ok (acc ++ [.auto]) else .error (wordsErr "element_auto" ws)
  | raw =>
    (match (if isInt then intFromNumber ws raw else floatFromNumber ws raw) with
     | .error e => .error e
     | .ok (.num v) => (checkValue a.valueMin a.valueMax ws true v).map (fun _ => acc ++ [.num v])
     | .ok (.bool b) =>
       (checkValue a.valueMin a.valueMax ws true (.int (if b then 1 else 0))).map (fun _ => acc ++ [.bool b])
     | .ok v => .ok (acc ++ [v]))

def listTail (isInt : Bool) (a : ListArgs) (env : EvalEnv) (ws : List Word) : R PVal :=
  match numbersFromWords env ws with
  | .error e => .error e
  | .ok (.inr ()) => .ok .auto
  | .ok (.inl Option.none) => .ok .none
  | .ok (.inl (some raws)) =>
    (match checkSize a.sizeMin a.sizeMax ws true raws.length with
     | .error e => .error e
     | .ok () =>
       let r : R (List PVal) := raws.foldlM (init := ([] : List PVal)) (elemStep isInt a ws)
       r.map PVal.list)

theorem fromWords_ints_eq (a : ListArgs) (env : EvalEnv) (opt : AttrVal) (ws : List Word) :
    fromWords (.ints a) env opt ws = listTail true a env ws := by
  unfold fromWords listTail elemStep
  rfl
theorem fromWords_floats_eq (a : ListArgs) (env : EvalEnv) (opt : AttrVal) (ws : List Word) :
    fromWords (.floats a) env opt ws = listTail false a env ws := by
  unfold fromWords listTail elemStep
  rfl

theorem elemStep_eq (isInt : Bool) (a : ListArgs) (ws : List Word) (acc : List PVal) (raw : PVal) :
    elemStep isInt a ws acc raw = (elemConv isInt a ws raw).map (fun v => acc ++ [v]) := by
  unfold elemStep elemConv convertChecked
  split
  · split <;> rfl
  · split <;> rfl
  · split
    · rfl
    · cases checkValue a.valueMin a.valueMax ws true _ <;> rfl
    · cases checkValue a.valueMin a.valueMax ws true _ <;> rfl
    · rfl

theorem elemOk_of_kind (isInt : Bool) (a : ListArgs) (v : PVal)
    (h : (if isInt then isIntIn a.valueMin a.valueMax v else isFloatIn a.valueMin a.valueMax v) = true) :
    elemOk isInt a v = true := by
  cases v <;> cases isInt <;> simp_all [elemOk, isIntIn, isFloatIn]

theorem elemConv_ok (isInt : Bool) (a : ListArgs) (ws : List Word) (raw v : PVal)
    (h : elemConv isInt a ws raw = .ok v) : elemOk isInt a v = true := by
  unfold elemConv at h
  split at h
  · split at h
    · cases h; simpa [elemOk]
    · cases h
  · split at h
    · cases h; simpa [elemOk]
    · cases h
  · exact elemOk_of_kind _ _ _ (convertChecked_ok _ _ _ _ _ _ h)
theorem foldlM_elemStep_ok (isInt : Bool) (a : ListArgs) (ws : List Word) (raws : List PVal) :
    ∀ (acc out : List PVal), raws.foldlM (elemStep isInt a ws) acc = .ok out →
      acc.all (elemOk isInt a) = true →
      out.all (elemOk isInt a) = true ∧ out.length = acc.length + raws.length := by
  induction raws with
  | nil =>
    intro acc out h hacc
    simp only [List.foldlM_nil] at h
    cases h
    exact ⟨hacc, by simp⟩
  | cons r rs ih =>
    intro acc out h hacc
    rw [List.foldlM_cons, elemStep_eq] at h
    cases hc : elemConv isInt a ws r with
    | error e => rw [hc] at h; cases h
    | ok v =>
      rw [hc] at h
      have hv := elemConv_ok _ _ _ _ _ hc
      have := ih (acc ++ [v]) out h (by simp [List.all_append, hacc, hv])
      refine ⟨this.1, ?_⟩
      rw [this.2]; simp; omega

theorem listTail_in_domain (isInt : Bool) (a : ListArgs) (env : EvalEnv) (ws : List Word) (v : PVal)
    (h : listTail isInt a env ws = .ok v) :
    InDomain (if isInt then .ints a else .floats a) v = true := by
  unfold listTail at h
  split at h
  · cases h
  · cases h; cases isInt <;> rfl
  · cases h; cases isInt <;> rfl
  · rename_i raws _
    split at h
    · cases h
    · rename_i hs
      simp only at h
      cases hf : List.foldlM (elemStep isInt a ws) [] raws with
      | error e => rw [hf] at h; cases h
      | ok out =>
        rw [hf] at h; cases h
        have := foldlM_elemStep_ok isInt a ws raws [] out hf (by simp)
        cases isInt <;> simp [InDomain, this.1, this.2, (checkSize_ok_iff _ _ _ _ _).mp hs]

theorem scalarTail_in_domain (isInt : Bool) (a : NumArgs) (env : EvalEnv) (ws : List Word) (v : PVal)
    (h : scalarTail isInt a env ws = .ok v) :
    InDomain (if isInt then .int a else .float a) v = true := by
  unfold scalarTail at h
  split at h
  · split at h
    · cases h; cases isInt <;> simpa [InDomain]
    · cases h
  · cases h; cases isInt <;> rfl
  · split at h
    · cases h
    · split at h
      · cases h; cases isInt <;> simpa [InDomain]
      · cases h
    · cases h; cases isInt <;> rfl
    · have := convertChecked_ok _ _ _ _ _ _ h
      cases isInt <;> cases v <;> simp_all [InDomain, isIntIn, isFloatIn]
  · cases h

theorem all_isStrVal_map (l : List Str) : (l.map PVal.str).all isStrVal = true := by
  induction l with
  | nil => rfl
  | cons x xs ih => simp [isStrVal]

/-- **C10 core**: whatever `from_words` returns lies in the declared domain of the type -/
theorem fromWords_in_domain (c : Conv) (env : EvalEnv) (opt : AttrVal) (ws : List Word) (v : PVal)
    (h : fromWords c env opt ws = .ok v) : InDomain c v = true := by
  cases c with
  | int a => exact scalarTail_in_domain true a env ws v (fromWords_int_eq a env opt ws ▸ h)
  | float a => exact scalarTail_in_domain false a env ws v (fromWords_float_eq a env opt ws ▸ h)
  | ints a => exact listTail_in_domain true a env ws v (fromWords_ints_eq a env opt ws ▸ h)
  | floats a => exact listTail_in_domain false a env ws v (fromWords_floats_eq a env opt ws ▸ h)
  | choice multi =>
    unfold fromWords at h
    simp only at h
    split at h
    · cases h; rfl
    · cases multi
      · simp only [Bool.false_eq_true, ↓reduceIte] at h
        split at h
        · split at h <;> cases h; rfl
        · cases h; rfl
        · cases h
      · simp only [↓reduceIte] at h
        split at h
        · cases h
        · cases h; exact all_isStrVal_map _
  | bool | words | strings | str | key | path | qstr =>
    -- every arm returns `None`, `Auto` or a value of the type's one shape
    unfold fromWords at h
    simp only at h
    split at h <;> (try split at h) <;> cases h <;> simp [InDomain, isStrVal]

/-! ### readable forms of `InDomain` -/

theorem inDomain_int (a : NumArgs) (v : PVal) :
    InDomain (.int a) v = true ↔
      (v = .none ∧ a.allowNone = true) ∨ v = .auto ∨
      (∃ i, v = .num (.int i) ∧ boundsOk a.valueMin a.valueMax (.int i) = true) ∨
      (∃ b, v = .bool b ∧ boundsOk a.valueMin a.valueMax (.int (if b then 1 else 0)) = true) := by
  cases v with
  | num n => cases n <;> simp [InDomain, isIntIn]
  | _ => simp [InDomain, isIntIn]

theorem inDomain_float (a : NumArgs) (v : PVal) :
    InDomain (.float a) v = true ↔
      (v = .none ∧ a.allowNone = true) ∨ v = .auto ∨
      (∃ n, v = .num n ∧ (∀ i, n ≠ .int i) ∧ boundsOk a.valueMin a.valueMax n = true) := by
  cases v with
  | num n => cases n <;> simp [InDomain, isFloatIn]
  | _ => simp [InDomain, isFloatIn]

theorem inDomain_bool (v : PVal) :
    InDomain .bool v = true ↔ v = .none ∨ v = .auto ∨ ∃ b, v = .bool b := by
  cases v <;> simp [InDomain]

theorem inDomain_ints (a : ListArgs) (v : PVal) :
    InDomain (.ints a) v = true ↔
      v = .none ∨ v = .auto ∨
      ∃ l, v = .list l ∧ sizeOk a.sizeMin a.sizeMax l.length = true ∧ ∀ x ∈ l, elemOk true a x = true := by
  cases v <;> simp [InDomain]

theorem inDomain_floats (a : ListArgs) (v : PVal) :
    InDomain (.floats a) v = true ↔
      v = .none ∨ v = .auto ∨
      ∃ l, v = .list l ∧ sizeOk a.sizeMin a.sizeMax l.length = true ∧ ∀ x ∈ l, elemOk false a x = true := by
  cases v <;> simp [InDomain]

theorem elemOk_iff (isInt : Bool) (a : ListArgs) (x : PVal) :
    elemOk isInt a x = true ↔
      (x = .none ∧ a.allowNoneEl = true) ∨ (x = .auto ∧ a.allowAutoEl = true) ∨
      (isInt = true ∧ isIntIn a.valueMin a.valueMax x = true) ∨
      (isInt = false ∧ isFloatIn a.valueMin a.valueMax x = true) := by
  cases x <;> cases isInt <;> simp [elemOk, isIntIn, isFloatIn]

theorem sizeOk_iff (smin smax : Option Int) (n : Nat) :
    sizeOk smin smax n = true ↔ (∀ m, smin = some m → m ≤ (n : Int)) ∧ (∀ M, smax = some M → (n : Int) ≤ M) := by
  cases smin <;> cases smax <;> simp [sizeOk]

theorem boundsOk_iff (lo hi : Option PNum) (v : PNum) :
    boundsOk lo hi v = true ↔ (∀ m, lo = some m → pyLe m v = true) ∧ (∀ M, hi = some M → pyLe v M = true) := by
  cases lo <;> cases hi <;> simp [boundsOk]
/-! ### nan satisfies no declared bound -/

theorem pyLt_nan_left (m : PNum) : pyLt .nan m = false := by
  cases m <;> rfl
theorem pyLt_nan_right (m : PNum) : pyLt m .nan = false := by
  cases m <;> rfl

theorem pyLe_nan_left (m : PNum) : pyLe .nan m = false := by
  cases m <;> rfl
theorem pyLe_nan_right (m : PNum) : pyLe m .nan = false := by
  cases m <;> rfl

theorem pyLe_eq_false_iff (a b : PNum) :
    pyLe a b = false ↔ a = .nan ∨ b = .nan ∨ pyLt b a = true := by
  cases a <;> cases b <;> simp [pyLe]

theorem boundsOk_nan_iff (lo hi : Option PNum) :
    boundsOk lo hi .nan = true ↔ lo = Option.none ∧ hi = Option.none := by
  cases lo <;> cases hi <;> simp [boundsOk, pyLe_nan_left, pyLe_nan_right]

theorem boundsOk_ne_nan (lo hi : Option PNum) (v : PNum) (h : boundsOk lo hi v = true)
    (hd : lo.isSome = true ∨ hi.isSome = true) : v ≠ .nan := by
  intro hv
  subst hv
  obtain ⟨h1, h2⟩ := (boundsOk_nan_iff lo hi).mp h
  subst h1 h2
  simp at hd

theorem checkValue_nan (lo hi : Option PNum) (ws : List Word) (wl : Bool) :
    checkValue lo hi ws wl .nan =
      (match lo, hi with
       | some _, _ => .error (.runtime "value_min" (if wl then firstLine ws else Option.none))
       | Option.none, some _ => .error (.runtime "value_max" (if wl then firstLine ws else Option.none))
       | Option.none, Option.none => .ok ()) := by
  unfold checkValue
  cases lo <;> cases hi <;> simp [pyLe_nan_left, pyLe_nan_right]

/-- the float type with a declared bound (any `allow_none`, any `optional`) refuses a value string
    that evaluates to `nan`: "value_min" when `value_min` is declared, else "value_max" -/
theorem nan_refused_by_bounds_gen (env : EvalEnv) (a : NumArgs) (opt : AttrVal) (ws : List Word) (s : Str)
    (hw : strFromWords ws = .str s) (hs : isSpecialNumText s = false)
    (he : env s = some (.num .nan))
    (hb : a.valueMin.isSome = true ∨ a.valueMax.isSome = true) :
    fromWords (.float a) env opt ws =
      .error (.runtime (if a.valueMin.isSome then "value_min" else "value_max") (firstLine ws)) := by
  rw [fromWords_float_eq, scalarTail_plain false a env ws s .nan hw hs he]
  show (checkValue a.valueMin a.valueMax ws true .nan).map _ = _
  rw [checkValue_nan]
  cases h1 : a.valueMin <;> cases h2 : a.valueMax <;> simp_all <;> rfl

/-- without any bound, `nan` is still accepted -/
theorem nan_accepted_without_bounds (env : EvalEnv) (a : NumArgs) (opt : AttrVal) (ws : List Word) (s : Str)
    (hw : strFromWords ws = .str s) (hs : isSpecialNumText s = false)
    (he : env s = some (.num .nan))
    (h1 : a.valueMin = Option.none) (h2 : a.valueMax = Option.none) :
    fromWords (.float a) env opt ws = .ok (.num .nan) := by
  rw [fromWords_float_eq, scalarTail_plain false a env ws s .nan hw hs he]
  show (checkValue a.valueMin a.valueMax ws true .nan).map _ = _
  rw [checkValue_nan, h1, h2]
  rfl

theorem nan_refused_by_bounds (env : EvalEnv) (he : env "nan".toList = some (.num .nan)) :
    fromWords (.float { valueMin := some (.int 0) }) env .none [⟨"nan".toList, none, some 1⟩]
      = .error (.runtime "value_min" (some 1)) :=
  nan_refused_by_bounds_gen env _ _ _ "nan".toList (by rfl) (by rfl) he (.inl rfl)

theorem inDomain_float_nan (a : NumArgs) :
    InDomain (.float a) (.num .nan) = true ↔ a.valueMin = Option.none ∧ a.valueMax = Option.none := by
  simp [InDomain, isFloatIn, boundsOk_nan_iff]

/-- `int` accepts a float (or any number) whose value is integral -/
theorem int_accepts_integral_gen (env : EvalEnv) (a : NumArgs) (opt : AttrVal) (ws : List Word)
    (s : Str) (n : Int) (d : Nat)
    (hw : strFromWords ws = .str s) (hs : isSpecialNumText s = false)
    (he : env s = some (.num (.flt n d))) (hd : d ≠ 0) (hm : n % (d : Int) = 0)
    (hb : boundsOk a.valueMin a.valueMax (.int (n / (d : Int))) = true) :
    fromWords (.int a) env opt ws = .ok (.num (.int (n / (d : Int)))) := by
  rw [fromWords_int_eq, scalarTail_plain true a env ws s _ hw hs he]
  have hc : (d != 0 && n % (d : Int) == 0) = true := by simp [hd, hm]
  simp only [convertChecked, ↓reduceIte, intFromNumber, hc, (checkValue_ok_iff _ _ _ _ _).mpr hb]
  rfl

theorem int_accepts_integral (env : EvalEnv) (allowNone : Bool) (opt : AttrVal) (ws : List Word)
    (s : Str) (n : Int) (d : Nat)
    (hw : strFromWords ws = .str s) (hs : isSpecialNumText s = false)
    (he : env s = some (.num (.flt n d))) (hd : d ≠ 0) (hm : n % (d : Int) = 0) :
    fromWords (.int { allowNone := allowNone }) env opt ws = .ok (.num (.int (n / (d : Int)))) :=
  int_accepts_integral_gen env _ opt ws s n d hw hs he hd hm (by rfl)

/-- a non-integral float is refused by `int` -/
theorem int_rejects_fraction (env : EvalEnv) (a : NumArgs) (opt : AttrVal) (ws : List Word)
    (s : Str) (n : Int) (d : Nat)
    (hw : strFromWords ws = .str s) (hs : isSpecialNumText s = false)
    (he : env s = some (.num (.flt n d))) (hm : d = 0 ∨ n % (d : Int) ≠ 0) :
    fromWords (.int a) env opt ws = .error (wordsErr "integer_expected" ws) := by
  rw [fromWords_int_eq, scalarTail_plain true a env ws s _ hw hs he]
  have : (d != 0 && n % (d : Int) == 0) = false := by
    rcases hm with h | h <;> simp [h]
  simp only [convertChecked, ↓reduceIte, intFromNumber, this, Bool.false_eq_true]

/-! ### bool -/

theorem boolSpellings_disjoint (l : Str) (h : l ∈ boolTrueSpellings) : l ∉ boolFalseSpellings := by
  intro h2
  have : ∀ x ∈ boolTrueSpellings, ∀ y ∈ boolFalseSpellings, x ≠ y := by decide
  exact this l h l h2 rfl

theorem boolFromWords_spec (ws : List Word) :
    (strFromWords ws = .none ∧ boolFromWords ws = .ok .none) ∨
    (strFromWords ws = .auto ∧ boolFromWords ws = .ok .auto) ∨
    (∃ s, strFromWords ws = .str s ∧
      ((lower s ∈ boolFalseSpellings ∧ boolFromWords ws = .ok (.bool false)) ∨
       (lower s ∈ boolTrueSpellings ∧ boolFromWords ws = .ok (.bool true)) ∨
       (lower s ∉ boolFalseSpellings ∧ lower s ∉ boolTrueSpellings ∧
          boolFromWords ws = .error (if ws.isEmpty then .stray "AssertionError" "bool_from_words"
                                     else .runtime "bool_expected" (firstLine ws))))) := by
  unfold boolFromWords
  unfold strFromWords
  split
  · exact .inl ⟨rfl, rfl⟩
  · split
    · exact .inr (.inl ⟨rfl, rfl⟩)
    · refine .inr (.inr ⟨_, rfl, ?_⟩)
      simp only [List.contains_iff_mem]
      split
      · rename_i h; exact .inl ⟨h, rfl⟩
      · split
        · rename_i h; exact .inr (.inl ⟨h, rfl⟩)
        · rename_i h1 h2
          refine .inr (.inr ⟨h1, h2, ?_⟩)
          split <;> rfl

theorem bool_spellings (ws : List Word) (b : Bool) :
    boolFromWords ws = .ok (.bool b) ↔
      ∃ s, strFromWords ws = .str s ∧
        lower s ∈ (if b then boolTrueSpellings else boolFalseSpellings) := by
  rcases boolFromWords_spec ws with ⟨h1, h2⟩ | ⟨h1, h2⟩ | ⟨s, h1, ⟨h3, h2⟩ | ⟨h3, h2⟩ | ⟨h3, h4, h2⟩⟩ <;>
    rw [h1, h2]
  · simp
  · simp
  · have : lower s ∉ boolTrueSpellings := fun h => boolSpellings_disjoint (lower s) h h3
    cases b <;> simp [h3, this]
  · have := boolSpellings_disjoint (lower s) h3
    cases b <;> simp [h3, this]
  · cases b <;> simp [h3, h4]

theorem bool_rejects_other (ws : List Word) (s : Str) (hs : strFromWords ws = .str s)
    (hf : lower s ∉ boolFalseSpellings) (ht : lower s ∉ boolTrueSpellings) :
    boolFromWords ws = .error (if ws.isEmpty then .stray "AssertionError" "bool_from_words"
                               else .runtime "bool_expected" (firstLine ws)) := by
  unfold boolFromWords
  simp only [hs, List.contains_iff_mem, hf, ht, ↓reduceIte]
  split <;> rfl

/-- `bool.from_words` = `bool_from_words` (the model's last arm is dead code) -/
theorem fromWords_bool (env : EvalEnv) (opt : AttrVal) (ws : List Word) :
    fromWords .bool env opt ws = (boolFromWords ws).map (fun v => match v with
      | .none => PVal.none | .auto => PVal.auto | .bool b => PVal.bool b | _ => PVal.none) := by
  unfold fromWords
  simp only
  rcases boolFromWords_spec ws with ⟨h1, h2⟩ | ⟨h1, h2⟩ | ⟨s', h1, ⟨h3, h2⟩ | ⟨h3, h2⟩ | ⟨h3, h4, h2⟩⟩ <;>
    rw [h2] <;> rfl

end Phil
