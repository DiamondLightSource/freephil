/-
  Flat documents with attributes, grouped by definition (C02, C15): `.name = words` lines after a
  definition, `!` on an attribute, `!` on a definition that carries attributes.  The items (`AItem`),
  their text (`renderA`), the input class (`wfDocA`) and the closed form `parsedA` are those of
  Phil/Proofs/Layout.lean, the parser theorem `parseObjs_renderA_la` is at the end of
  Phil/Proofs/LayoutAll.lean; here:
    * `ADef`, `flattenA`, `groupedObjs` — the document and what `parse` returns, one entry per
      definition with its attribute assignments;
    * `treeC`     — the abstract tree (no ids, no lines) as a function of the *contents* only;
    * `linedG`, `beforeNameG`, `beforeWordG` — source lines from the text in front.
-/
import Phil.Proofs.Layout2
namespace Phil

/-! ### grouped by definition: data -/

/-- one attribute assignment of a definition -/
structure AttrIt where
  n : String
  ws : List Word
  L : DefLayout
  b : Bool := false
  deriving Repr, DecidableEq

def AttrIt.item (t : AttrIt) : AItem := .attr t.n t.ws t.L t.b

/-- a definition with its attribute assignments -/
structure ADef where
  d : DefSpec
  L : DefLayout
  b : Bool := false
  attrs : List AttrIt := []
  deriving Repr, DecidableEq

def ADef.items (a : ADef) : List AItem := .defn a.d a.L a.b :: a.attrs.map AttrIt.item

def flattenA (ds : List ADef) : List AItem := ds.flatMap ADef.items

/-- the attribute list the assignments leave on the definition: the assignments not commented out,
    in order (the most recent last: `Attrs.get` reads the last one of a name) -/
def attrsOf : List AttrIt → Attrs
  | [] => []
  | t :: ts => (if t.b then [] else [(t.n, (attrValOf t.n t.ws).getD .none)]) ++ attrsOf ts

/-- the line on which the filler after the attribute assignments starts -/
def attrsEnd : Nat → List AttrIt → Nat
  | l, [] => l
  | l, t :: ts => attrsEnd (endLine (l + t.L.pre.lines.length) t.ws + nlCount t.L.term.text) ts

/-- the parsed document, one object per definition -/
def groupedObjs : Nat → Nat → List ADef → List Obj
  | _, _, [] => []
  | l, i, a :: rest =>
    .defn { name := a.d.1, id := some i, disabled := a.b, line := some (l + a.L.pre.lines.length),
            attrs := attrsOf a.attrs } (reline (l + a.L.pre.lines.length) a.d.2)
      :: groupedObjs
          (attrsEnd (endLine (l + a.L.pre.lines.length) a.d.2 + nlCount a.L.term.text) a.attrs)
          (i + 1) rest

/-! ### `parse` of a grouped document -/

/-- append attribute assignments to an object -/
def Obj.addAttrs (o : Obj) (as : Attrs) : Obj := o.withMeta (fun m => { m with attrs := m.attrs ++ as })

theorem addAttrs_nil_la (o : Obj) : o.addAttrs [] = o := by
  cases o <;> simp [Obj.addAttrs, Obj.withMeta]

theorem addAttrs_addAttrs_la (o : Obj) (a b : Attrs) : (o.addAttrs a).addAttrs b = o.addAttrs (a ++ b) := by
  cases o <;> simp [Obj.addAttrs, Obj.withMeta]

theorem addAttr_eq_addAttrs_la (o : Obj) (n : String) (v : AttrVal) : o.addAttr n v = o.addAttrs [(n, v)] := rfl

theorem flattenA_cons_la (a : ADef) (rest : List ADef) :
    flattenA (a :: rest) = .defn a.d a.L a.b :: (a.attrs.map AttrIt.item ++ flattenA rest) := rfl

theorem parsedA_attrs_la (ts : List AttrIt) (rest : List AItem) : ∀ (l i : Nat) (o : Obj),
    parsedA l i (some o) (ts.map AttrIt.item ++ rest)
      = parsedA (attrsEnd l ts) i (some (o.addAttrs (attrsOf ts))) rest := by
  induction ts with
  | nil => intro l i o; rw [attrsOf, addAttrs_nil_la]; rfl
  | cons t ts ih =>
    intro l i o
    rw [List.map_cons, List.cons_append, AttrIt.item, parsedA, attrsEnd, attrsOf]
    cases t.b <;> simp [applyAttr, ih, addAttr_eq_addAttrs_la, addAttrs_addAttrs_la]

theorem parsedA_flatten_la (ds : List ADef) : ∀ (l i : Nat) (pending : Option Obj),
    parsedA l i pending (flattenA ds) = pending.toList ++ groupedObjs l i ds := by
  induction ds with
  | nil => intro l i p; exact (List.append_nil _).symm
  | cons a rest ih =>
    intro l i p
    rw [flattenA_cons_la, parsedA, parsedA_attrs_la, ih]
    rfl

/-- the input class, grouped -/
def wfDocG (ds : List ADef) (post : Pre) : Bool := wfItems (flattenA ds) post

/-! ### the abstract tree: a function of the contents only -/

/-- what an item says, without any layout: kind, name, words (without lines), `!` -/
inductive AContent
  | defn (name : Str) (ws : List Word) (b : Bool)
  | attr (n : String) (ws : List Word) (b : Bool)
  deriving Repr, DecidableEq

def AItem.content : AItem → AContent
  | .defn d _ b => .defn d.1 (d.2.map Word.erase) b
  | .attr n ws _ b => .attr n (ws.map Word.erase) b

/-- the tree without ids and lines, from the contents -/
def treeC : Option Obj → List AContent → List Obj
  | p, [] => p.toList
  | p, .defn nm ws b :: rest => p.toList ++ treeC (some (.defn { name := nm, disabled := b } ws)) rest
  | p, .attr n ws b :: rest => treeC (applyAttr p n ws b) rest

theorem parsedA_erase_la (xs : List AItem) : ∀ (l i : Nat) (p : Option Obj),
    eraseList (parsedA l i p xs) = treeC (p.map Obj.erase) (xs.map AItem.content) := by
  simp only [eraseList_eq_map]
  induction xs with
  | nil => intro l i p; cases p <;> rfl
  | cons x rest ih =>
    intro l i p
    cases x with
    | defn d L b =>
      rw [parsedA, List.map_append, ih, Option.map_some, Obj.erase, reline_erase]
      cases p <;> rfl
    | attr n ws L b =>
      rw [parsedA, ih, List.map_cons, AItem.content, treeC, applyAttr, applyAttr, attrValOf, attrValOf,
        word_erase_erase_l2]
      cases b <;> rcases p with _ | _ | _ <;> rfl

theorem treeC_drop_bang_attr_la (n : String) (ws : List Word) (cs2 : List AContent) :
    ∀ (cs1 : List AContent) (p : Option Obj),
      treeC p (cs1 ++ .attr n ws true :: cs2) = treeC p (cs1 ++ cs2) := by
  intro cs1
  induction cs1 with
  | nil => intro p; rfl
  | cons c cs ih =>
    intro p
    cases c <;> simp only [List.cons_append, treeC, ih]

/-! ### reading an attribute: the last assignment wins -/

theorem attrs_get_append_one_la (a : Attrs) (n n' : String) (v : AttrVal) :
    Attrs.get (a ++ [(n, v)]) n' = if n = n' then v else Attrs.get a n' := by
  rw [Attrs.get, List.reverse_append, List.reverse_singleton, List.singleton_append, List.find?_cons]
  cases h : n == n' with
  | false => rw [if_neg (ne_of_beq_false h)]; rfl
  | true => rw [if_pos (eq_of_beq h)]

theorem attrs_get_append_la (a b : Attrs) (n : String) (hb : ∀ p ∈ b, p.1 ≠ n) :
    Attrs.get (a ++ b) n = Attrs.get a n := by
  induction b generalizing a with
  | nil => rw [List.append_nil]
  | cons p bs ih =>
    rw [List.forall_mem_cons] at hb
    rw [List.append_cons, ih _ hb.2, attrs_get_append_one_la, if_neg hb.1]

/-! ### `!` on definitions and on attributes, grouped form -/

def ADef.unbang (a : ADef) : ADef := { a with b := false }
def AttrIt.unbang (t : AttrIt) : AttrIt := { t with b := false }
def ADef.unbangAttrs (a : ADef) : ADef := { a with attrs := a.attrs.map AttrIt.unbang }

/-- an object without its attribute assignments -/
def Obj.noAttrs (o : Obj) : Obj := o.withMeta (fun m => { m with attrs := [] })

theorem groupedObjs_flags_la (ds : List ADef) : ∀ l i,
    groupedObjs l i ds = setFlags_l2 (ds.map (·.b)) (groupedObjs l i (ds.map ADef.unbang)) := by
  induction ds with
  | nil => intro l i; rfl
  | cons a rest ih =>
    intro l i
    rw [groupedObjs, ih]
    rfl

theorem attrsEnd_unbang_la (ts : List AttrIt) : ∀ l, attrsEnd l (ts.map AttrIt.unbang) = attrsEnd l ts := by
  induction ts with
  | nil => intro l; rfl
  | cons t ts ih => intro l; exact ih _

theorem groupedObjs_noAttrs_la (ds : List ADef) : ∀ l i,
    (groupedObjs l i ds).map Obj.noAttrs = (groupedObjs l i (ds.map ADef.unbangAttrs)).map Obj.noAttrs := by
  induction ds with
  | nil => intro l i; rfl
  | cons a rest ih =>
    intro l i
    simp only [List.map_cons, groupedObjs, ih, ADef.unbangAttrs, attrsEnd_unbang_la]
    rfl

theorem attrsOf_append_la (ts1 ts2 : List AttrIt) : attrsOf (ts1 ++ ts2) = attrsOf ts1 ++ attrsOf ts2 := by
  induction ts1 with
  | nil => rfl
  | cons t ts ih => rw [List.cons_append, attrsOf, attrsOf, ih, List.append_assoc]

theorem groupedObjs_length_la (ds : List ADef) : ∀ l i, (groupedObjs l i ds).length = ds.length := by
  induction ds with
  | nil => intro l i; rfl
  | cons a rest ih => intro l i; exact congrArg (· + 1) (ih _ _)

/-! ### well-formedness of parts -/

theorem wfDocG_cons_la {a : ADef} {rest : List ADef} {post : Pre} (h : wfDocG (a :: rest) post = true) :
    goodDef a.d = true ∧ wfDef a.d a.L = true ∧ (∀ t ∈ a.attrs, t.item.wf = true) ∧
      wfDocG rest post = true := by
  rw [wfDocG, flattenA_cons_la] at h
  obtain ⟨hd, _, hts⟩ := wfItems_cons_la h
  rw [AItem.wf, Bool.and_eq_true] at hd
  refine ⟨hd.1, hd.2, ?_⟩
  revert hts
  induction a.attrs with
  | nil => exact fun hr => ⟨nofun, hr⟩
  | cons t ts ih =>
    intro hts
    obtain ⟨ht, _, hts⟩ := wfItems_cons_la hts
    exact (ih hts).imp_left fun h4 => List.forall_mem_cons.mpr ⟨ht, h4⟩

/-! ### source lines in terms of the text in front -/

theorem attrLead_nlCount_la {n : String} (hn : defAttrNames.contains n = true) : nlCount (attrLead n) = 0 := by
  rw [attrLead, nlCount_cons_ne _ _ (by decide)]
  exact nlCount_of_no_nl _ fun d hd =>
    ne_nl_of_not_space (idCont_not_space (defAttrNames_chars_la n (by simpa using hn) d hd))

theorem body_endLine_la {d : DefSpec} {L : DefLayout} (hd : nlCount d.1 = 0) (hL : wfDef d L = true)
    (b : Bool) (l : Nat) :
    endLine (l + L.pre.lines.length) d.2 + nlCount L.term.text
      = l + nlCount (L.pre.text ++ (bangText_l2 b ++ defText d L)) := by
  simp only [wfDef, Bool.and_eq_true] at hL
  simp only [endLine_eq, defText, nlCount_append, nlCount_cons_ne '=' _ (by decide),
    nlCount_wordsLay _ _ true hL.1.2, hd, inlineB_nl hL.1.1.2, nlCount_pre _ hL.1.1.1, nlCount_bang_l2]
  omega

/-- the text of the attribute assignments of a definition -/
def attrsText : List AttrIt → Str
  | [] => []
  | t :: ts => t.L.pre.text ++ (t.item.body ++ attrsText ts)

/-- the text of a definition with its attribute assignments -/
def ADef.text (a : ADef) : Str :=
  a.L.pre.text ++ (bangText_l2 a.b ++ (defText a.d a.L ++ attrsText a.attrs))

theorem renderA_flatten_cons_la (a : ADef) (rest : List ADef) (post : Pre) :
    renderA (flattenA (a :: rest)) post = a.text ++ renderA (flattenA rest) post := by
  rw [flattenA_cons_la, renderA, ADef.text, AItem.body]
  simp only [List.append_assoc]
  -- both sides start with the definition; what is left are the attribute assignments
  congr 3
  induction a.attrs with
  | nil => rfl
  | cons t ts ih =>
    rw [List.map_cons, List.cons_append, renderA, ih, attrsText, List.append_assoc, List.append_assoc]
    rfl

/-- the definitions of a document with attributes, each with the line computed from the text in front
    of its name (or its `!`) and its words with the lines computed from the text in front of each -/
def linedG (before : Str) (i : Nat) : List ADef → List Obj
  | [] => []
  | a :: rest =>
    .defn { name := a.d.1, id := some i, disabled := a.b,
            line := some (1 + nlCount (before ++ a.L.pre.text)), attrs := attrsOf a.attrs }
        (linedWords (before ++ a.L.pre.text ++ bangText_l2 a.b ++ a.d.1 ++ a.L.sp1 ++ ['=']) a.L.gaps a.d.2)
      :: linedG (before ++ a.text) (i + 1) rest

def beforeNameG : List ADef → Nat → Str
  | [], _ => []
  | a :: _, 0 => a.L.pre.text
  | a :: rest, k + 1 => a.text ++ beforeNameG rest k

/-- the text in front of word `j` of definition `k` -/
def beforeWordG (ds : List ADef) (k j : Nat) : Str :=
  match ds[k]? with
  | some a => beforeNameG ds k ++ (bangText_l2 a.b ++ (a.d.1 ++ (a.L.sp1 ++ ('=' :: beforeWordIn a.L.gaps a.d.2 j))))
  | none => []

theorem beforeNameG_prefix_la (post : Pre) (ds : List ADef) :
    ∀ (k : Nat) (a : ADef), ds[k]? = some a →
      ∃ tail, renderA (flattenA ds) post
        = beforeNameG ds k ++ (bangText_l2 a.b ++ (defText a.d a.L ++ tail)) := by
  intro k a h
  induction ds, k using beforeNameG.induct with
  | case1 => cases h
  | case2 a0 rest =>
    cases h
    simp only [renderA_flatten_cons_la, ADef.text, List.append_assoc]
    exact ⟨_, rfl⟩
  | case3 a0 rest k ih =>
    obtain ⟨tail, ht⟩ := ih h
    exact ⟨tail, by rw [renderA_flatten_cons_la, ht, beforeNameG, List.append_assoc]⟩

theorem beforeWordG_prefix_la (post : Pre) (ds : List ADef) (k j : Nat) (a : ADef) (w : Word)
    (hk : ds[k]? = some a) (hlen : a.L.gaps.length = a.d.2.length) (hj : a.d.2[j]? = some w) :
    ∃ tail, renderA (flattenA ds) post = beforeWordG ds k j ++ (w.str ++ tail) := by
  obtain ⟨tail, ht⟩ := beforeNameG_prefix_la post ds k a hk
  obtain ⟨tail2, ht2⟩ := beforeWordIn_prefix a.d.2 a.L.gaps j w hlen hj
  rw [ht, beforeWordG, hk, defText, ht2]
  simp only [List.append_assoc, List.cons_append]
  exact ⟨_, rfl⟩

theorem linedG_get_la (ds : List ADef) :
    ∀ (before : Str) (i k : Nat) (a : ADef), ds[k]? = some a →
      (linedG before i ds)[k]? = some (.defn
        { name := a.d.1, id := some (i + k), disabled := a.b,
          line := some (1 + nlCount (before ++ beforeNameG ds k)), attrs := attrsOf a.attrs }
        (linedWords (before ++ beforeNameG ds k ++ bangText_l2 a.b ++ a.d.1 ++ a.L.sp1 ++ ['='])
          a.L.gaps a.d.2)) := by
  intro before i k a h
  induction ds, k using beforeNameG.induct generalizing before i with
  | case1 => cases h
  | case2 a0 rest => cases h; rfl
  | case3 a0 rest k ih =>
    rw [linedG, List.getElem?_cons_succ, ih _ _ h, beforeNameG, List.append_assoc, Nat.add_right_comm,
      Nat.add_assoc]

theorem linedG_length_la (ds : List ADef) : ∀ (before : Str) (i : Nat),
    (linedG before i ds).length = ds.length := by
  induction ds with
  | nil => intro before i; rfl
  | cons a rest ih => intro before i; exact congrArg (· + 1) (ih _ _)

theorem wfDocG_get_la (post : Pre) (ds : List ADef) :
    ∀ (k : Nat) (a : ADef), wfDocG ds post = true → ds[k]? = some a →
      goodDef a.d = true ∧ wfDef a.d a.L = true ∧ ∀ t ∈ a.attrs, t.item.wf = true := by
  induction ds with
  | nil => intro k a _ h; cases h
  | cons a0 rest ih =>
    intro k a hwf h
    obtain ⟨h1, h2, h3, h4⟩ := wfDocG_cons_la hwf
    cases k with
    | zero => cases h; exact ⟨h1, h2, h3⟩
    | succ k => exact ih k a h4 h

/-! ### the input class does not look at `!` on definitions -/

def AItem.unbangDefn : AItem → AItem
  | .defn d L _ => .defn d L false
  | x => x

theorem flattenA_unbang_la (ds : List ADef) :
    flattenA (ds.map ADef.unbang) = (flattenA ds).map AItem.unbangDefn := by
  induction ds with
  | nil => rfl
  | cons a rest ih =>
    rw [List.map_cons, flattenA_cons_la, flattenA_cons_la, ih]
    simp [ADef.unbang, AItem.unbangDefn, AttrIt.item]

theorem wfItems_unbangDefn_la (xs : List AItem) (post : Pre) :
    wfItems (xs.map AItem.unbangDefn) post = wfItems xs post := by
  induction xs with
  | nil => rfl
  | cons x rest ih => cases x <;> simp [wfItems, AItem.unbangDefn, AItem.wf, AItem.lay, ih]

theorem wfDocG_unbang_la (ds : List ADef) (post : Pre) : wfDocG (ds.map ADef.unbang) post = wfDocG ds post := by
  rw [wfDocG, flattenA_unbang_la, wfItems_unbangDefn_la, wfDocG]

theorem mem_attrsOf_la (ts : List AttrIt) (p : String × AttrVal) (h : p ∈ attrsOf ts) :
    ∃ t ∈ ts, t.b = false ∧ p.1 = t.n := by
  induction ts with
  | nil => cases h
  | cons t ts ih =>
    rw [attrsOf, List.mem_append] at h
    rcases h with h | h
    · cases hb : t.b <;> simp [hb] at h
      exact ⟨t, List.mem_cons_self, hb, by rw [h]⟩
    · exact (ih h).imp fun u hu => hu.imp_left (List.mem_cons_of_mem t)

end Phil
