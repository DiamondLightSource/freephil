/-
  The print → parse round trip WITH attributes (C01 at attributes levels 1, 2, 3; the C19 clause "raising
  the attributes level only adds information"), on top of the induction of Proofs/AttrTrees.lean: the
  attributes read back, looked up by name, and the second print; the expert filter at every attributes level
  (level 0 is an instance); templates (what printing a FETCH RESULT gives).
-/
import Phil.Proofs.AttrTrees
import Phil.Proofs.ExpertRoundTrip
namespace Phil

/-! ## the attributes read back, looked up by name; printing the re-parsed tree -/

theorem attrNames_nodup_art (isDef : Bool) : (attrNamesOf isDef).Nodup := by
  cases isDef <;> decide +kernel

theorem find_shownList_art (L : Int) (attrs : Attrs) (n : String) :
    ∀ (ns : List String), ns.Nodup →
      (shownList L attrs ns).reverse.find? (fun p => p.1 == n)
        = if n ∈ ns ∧ attrShown L n (attrs.get n) = true then some (n, attrs.get n) else none := by
  intro ns
  induction ns with
  | nil => intro _; simp [shownList]
  | cons x xs ih =>
    intro hnd
    rw [List.nodup_cons] at hnd
    rw [shownList_cons_art, List.reverse_append, List.find?_append, ih hnd.2]
    by_cases hx : x = n
    · subst hx
      simp only [hnd.1, false_and, ↓reduceIte, Option.none_or, List.mem_cons, true_or, true_and]
      split <;> simp
    · have hx' : (x == n) = false := by simpa using hx
      have hx'' : ¬ n = x := fun e => hx e.symm
      have : (List.find? (fun p => p.1 == n)
          (if attrShown L x (attrs.get x) = true then [(x, attrs.get x)] else []).reverse) = none := by
        split <;> simp [hx']
      rw [this, Option.or_none]
      simp [hx'']

theorem get_shownAttrs_art (isDef : Bool) (L : Int) (attrs : Attrs) (n : String)
    (hn : n ∈ attrNamesOf isDef) :
    (shownAttrs isDef L attrs).get n
      = if 0 < L ∧ attrShown L n (attrs.get n) = true then attrs.get n else .none := by
  unfold shownAttrs
  by_cases hl : L ≤ 0
  · have : ¬ 0 < L := by omega
    simp [hl, this, Attrs.get]
  · have hl' : 0 < L := by omega
    have hfind := find_shownList_art L attrs n _ (attrNames_nodup_art isDef)
    simp only [hl, ↓reduceIte]
    have : Attrs.get (shownList L attrs (attrNamesOf isDef)) n
        = match (shownList L attrs (attrNamesOf isDef)).reverse.find? (fun p => p.1 == n) with
          | some p => p.2
          | none => AttrVal.none := rfl
    rw [this, hfind]
    by_cases hs : attrShown L n (attrs.get n) = true <;> simp [hn, hs, hl']

theorem attrShown_none_of_hidden_art (L : Int) (n : String) (v : AttrVal)
    (h : attrShown L n v = false) : attrShown L n .none = false := by
  rw [attrShown_eq_B_art] at h ⊢
  have key : ∀ d h a t i l1 l2 : Bool, attrShownB d h a t i l1 l2 = false →
      attrShownB d h a false true l1 l2 = false := by decide
  exact key _ _ _ _ _ _ _ h

theorem shown_fixed_art (isDef : Bool) (L : Int) (hL : 0 < L) (attrs : Attrs) (n : String)
    (hn : n ∈ attrNamesOf isDef) :
    attrShown L n ((shownAttrs isDef L attrs).get n) = attrShown L n (attrs.get n) ∧
    (attrShown L n (attrs.get n) = true → (shownAttrs isDef L attrs).get n = attrs.get n) := by
  rw [get_shownAttrs_art isDef L attrs n hn]
  by_cases hs : attrShown L n (attrs.get n) = true
  · simp [hL, hs]
  · have hs' : attrShown L n (attrs.get n) = false := by simpa using hs
    simp [hs', attrShown_none_of_hidden_art L n _ hs']

/-- two attribute lists that agree on what is shown (and on the shown values) for the names `ns` -/
def SameShown (L : Int) (a b : Attrs) (ns : List String) : Prop :=
  ∀ n ∈ ns, attrShown L n (a.get n) = attrShown L n (b.get n) ∧
    (attrShown L n (b.get n) = true → a.get n = b.get n)

theorem sameShown_lists_art (isDef : Bool) (pre : Str) (L w : Int) (a b : Attrs) :
    ∀ ns, SameShown L a b ns →
      shownList L a ns = shownList L b ns ∧
      attrsOKList isDef pre L w a ns = attrsOKList isDef pre L w b ns := by
  intro ns
  induction ns with
  | nil => intro _; exact ⟨rfl, rfl⟩
  | cons n ns ih =>
    intro h
    obtain ⟨h1, h2⟩ := h n (by simp)
    obtain ⟨i1, i3⟩ := ih (fun m hm => h m (by simp [hm]))
    simp only [attrsOKList, List.all_cons] at i3 ⊢
    rw [shownList_cons_art, shownList_cons_art, h1, i1, i3]
    by_cases hs : attrShown L n (b.get n) = true
    · rw [h2 hs]; exact ⟨rfl, rfl⟩
    · simp [hs]

theorem shownAttrs_norm_art (isDef : Bool) (pre : Str) (L w : Int) (attrs : Attrs) :
    shownAttrs isDef L (shownAttrs isDef L attrs) = shownAttrs isDef L attrs ∧
    attrBlock isDef pre L w (shownAttrs isDef L attrs) = attrBlock isDef pre L w attrs ∧
    attrsOK isDef pre L w (shownAttrs isDef L attrs) = attrsOK isDef pre L w attrs := by
  by_cases hl : L ≤ 0
  · simp [shownAttrs, attrBlock, attrsOK, hl]
  · obtain ⟨h1, h3⟩ := sameShown_lists_art isDef pre L w _ _ _
      (fun n hn => shown_fixed_art isDef L (by omega) attrs n hn)
    have e : shownAttrs isDef L (shownAttrs isDef L attrs) = shownAttrs isDef L attrs := by
      conv => lhs; unfold shownAttrs
      conv => rhs; unfold shownAttrs
      simpa [shownAttrs, hl] using h1
    exact ⟨e, by rw [attrBlock_eq, attrBlock_eq, e], by unfold attrsOK; rw [h3]⟩

/-! ### where deprecated definitions stand

  The warning line of a deprecated definition is met by the value collector of the line before it when the
  definition directly follows a definition.  The parse theorems above cover that placement (the collector
  consumes the line); `depPlacedList` describes the documents in which it does not occur. -/

mutual
/-- the printed text of the object starts with the `# WARNING` line of a deprecated definition -/
def Obj.startsDep : Obj → Bool
  | .defn m _ => depSet m
  | .scope _ os => if firstMerges os then startsDepList os else false
def startsDepList : List Obj → Bool
  | [] => false
  | x :: _ => x.startsDep
end

mutual
/-- the printed text of the object ends with a value or attribute line (not with `}`) -/
def Obj.endsVal : Obj → Bool
  | .defn _ _ => true
  | .scope _ os => if firstMerges os then endsValList os else false
def endsValList : List Obj → Bool
  | [] => false
  | x :: _ => x.endsVal
end

mutual
/-- **placement of deprecated definitions**: in no list of objects a deprecated definition directly
    follows a definition (its `# WARNING` line would be met by the value collector of the line
    before; the structural tokenizer skips it after `{`, `}` and at the start of the text).
    Trees without deprecated definitions satisfy it. -/
def Obj.depPlaced : Obj → Bool
  | .defn _ _ => true
  | .scope _ os => depPlacedList os
def depPlacedList : List Obj → Bool
  | [] => true
  | x :: xs => x.depPlaced && !(x.endsVal && startsDepList xs) && depPlacedList xs
end

mutual
theorem depPlaced_of_noDeprecated_art : ∀ x : Obj,
    x.noDeprecated = true → x.depPlaced = true ∧ x.startsDep = false
  | .defn m ws, h => by
    rw [noDeprecated_defn_ert] at h
    simp only [Obj.depPlaced, Obj.startsDep, true_and]
    simpa using h
  | .scope m os, h => by
    rw [noDeprecated_scope_ert] at h
    obtain ⟨h1, h2⟩ := depPlacedList_of_noDeprecated_aux_art os h
    simp only [Obj.depPlaced, Obj.startsDep, h1, h2, true_and]
    split <;> rfl
theorem depPlacedList_of_noDeprecated_aux_art : ∀ os : List Obj,
    noDeprecatedList os = true → depPlacedList os = true ∧ startsDepList os = false
  | [], _ => ⟨rfl, rfl⟩
  | x :: xs, h => by
    rw [noDeprecatedList_cons_ert, Bool.and_eq_true] at h
    obtain ⟨a1, a2⟩ := depPlaced_of_noDeprecated_art x h.1
    obtain ⟨b1, b2⟩ := depPlacedList_of_noDeprecated_aux_art xs h.2
    simp [depPlacedList, startsDepList, a1, a2, b1, b2]
end

theorem depPlacedList_of_noDeprecated_art (os : List Obj) (h : noDeprecatedList os = true) :
    depPlacedList os = true := (depPlacedList_of_noDeprecated_aux_art os h).1

/-! ### the normalised tree is in the class and prints as the original -/

theorem Obj.normA_defn_art (L : Int) (m : Meta) (ws : List Word) :
    (Obj.defn m ws).normA L = .defn { m with attrs := shownAttrs true L m.attrs } ws := by
  simp [Obj.normA]
theorem Obj.normA_scope_art (L : Int) (m : Meta) (os : List Obj) :
    (Obj.scope m os).normA L
      = .scope { m with attrs := if firstMerges os then [] else shownAttrs false L m.attrs } (normAList L os) := by
  simp [Obj.normA]
theorem normAList_cons_art (L : Int) (x : Obj) (xs : List Obj) :
    normAList L (x :: xs) = x.normA L :: normAList L xs := by simp [normAList]
theorem normAList_nil_art (L : Int) : normAList L [] = [] := by simp [normAList]

theorem firstMerges_normAList_art (L : Int) (os : List Obj) :
    firstMerges (normAList L os) = firstMerges os := by
  cases os with
  | nil => rfl
  | cons x xs => cases x <;> simp [normAList_cons_art, firstMerges, Obj.normA, Obj.meta]

mutual
theorem normA_flags_art (L : Int) : ∀ x : Obj, (x.normA L).enableS.stripAttrs = x.enableS.stripAttrs ∧
    (x.normA L).prefixEnabled = x.prefixEnabled
  | .defn m ws => ⟨by simp [Obj.normA, Obj.enableS, Obj.stripAttrs, Meta.stripAttrs], rfl⟩
  | .scope m os => by
    obtain ⟨h1, h2⟩ := normAList_flags_art L os
    rw [Obj.normA_scope_art, Obj.enableS, Obj.enableS, Obj.stripAttrs_scope, Obj.stripAttrs_scope, h1,
      Obj.prefixEnabled, Obj.prefixEnabled, h2, firstMerges_normAList_art]
    exact ⟨rfl, rfl⟩
theorem normAList_flags_art (L : Int) : ∀ os : List Obj,
    stripAttrsList (enableSList (normAList L os)) = stripAttrsList (enableSList os) ∧
    prefixEnabledList (normAList L os) = prefixEnabledList os
  | [] => ⟨rfl, rfl⟩
  | x :: xs => by
    obtain ⟨a1, a2⟩ := normA_flags_art L x
    obtain ⟨b1, b2⟩ := normAList_flags_art L xs
    rw [normAList_cons_art, enableSList, enableSList, stripAttrsList_cons, stripAttrsList_cons, a1, b1,
      prefixEnabledList, prefixEnabledList, a2, b2]
    exact ⟨rfl, rfl⟩
end

theorem normAList_stripAttrs_art (L : Int) : ∀ os : List Obj,
    stripAttrsList (normAList L os) = stripAttrsList os
  | [] => rfl
  | x :: xs => by
    rw [normAList_cons_art, stripAttrsList_cons, stripAttrsList_cons, normAList_stripAttrs_art L xs]
    congr 1
    cases x with
    | defn m ws => rfl
    | scope m os => rw [Obj.normA_scope_art, Obj.stripAttrs_scope, Obj.stripAttrs_scope,
        normAList_stripAttrs_art L os]; rfl

theorem eraseAttrsList_normAList_art (L : Int) (os : List Obj) :
    eraseAttrsList (normAList L os) = eraseAttrsList os := by
  rw [← eraseList_stripAttrsList_ert, normAList_stripAttrs_art, eraseList_stripAttrsList_ert]

/-- the deprecation mark survives (a deprecated definition being printed at level ≥ 3 only) -/
theorem depSet_normA_art (L : Int) (m : Meta) (h : depSet m = true → 3 ≤ L) :
    depSet { m with attrs := shownAttrs true L m.attrs } = depSet m := by
  unfold depSet
  show ((shownAttrs true L m.attrs).get "deprecated").truthy = _
  rw [get_shownAttrs_art true L m.attrs "deprecated" (by decide)]
  cases hd : (m.attrs.get "deprecated").truthy with
  | true =>
    have hL := h hd
    have h2 : decide (L > 2) = true := by simp; omega
    have hs : attrShown L "deprecated" (m.attrs.get "deprecated") = true := by simp [attrShown, hd, h2]
    rw [if_pos ⟨by omega, hs⟩, hd]
  | false => split <;> first | exact hd | rfl

mutual
theorem normA_props_art (L w : Int) : ∀ (x : Obj) (ind : Str), x.attrsOKAt L w ind = true →
    (x.normA L).attrsOKAt L w ind = true ∧
    (∀ ms, treeTextC L w (x.normA L) ms ind = treeTextC L w x ms ind) ∧
    (x.normA L).startsDep = x.startsDep ∧ (x.normA L).endsVal = x.endsVal ∧ (x.normA L).depPlaced = x.depPlaced
  | .defn m ws, ind, hok => by
    obtain ⟨hok1, hok2⟩ := attrsOKAt_defn_art.mp hok
    have hdep := depSet_normA_art L m hok2
    obtain ⟨_, n2, n3⟩ := shownAttrs_norm_art true ind L w m.attrs
    rw [Obj.normA_defn_art]
    refine ⟨attrsOKAt_defn_art.mpr ⟨by rw [n3]; exact hok1, by rw [hdep]; exact hok2⟩, fun ms => ?_, hdep, rfl, rfl⟩
    · rw [treeTextC, treeTextC]
      simp only [warnText, hdep, n2, bangOf]
  | .scope m os, ind, hok => by
    rw [Obj.normA_scope_art]
    cases hfm : firstMerges os with
    | true =>
      rw [attrsOKAt_merging_art hfm] at hok
      obtain ⟨i1, i3, i4, i5, i6⟩ := normAList_props_art L w os ind hok
      refine ⟨?_, fun ms => ?_, ?_⟩
      · rw [attrsOKAt_merging_art (by rw [firstMerges_normAList_art, hfm])]; exact i1
      · rw [treeTextC, treeTextC, firstMerges_normAList_art, hfm]
        exact i3 _
      · simp only [Obj.startsDep, Obj.endsVal, Obj.depPlaced, firstMerges_normAList_art, hfm, ↓reduceIte, i4, i5,
          i6, and_self]
    | false =>
      obtain ⟨hok1, hok2⟩ := (attrsOKAt_proper_art hfm).mp hok
      obtain ⟨i1, i3, _, _, i6⟩ := normAList_props_art L w os (deeper ind) hok2
      obtain ⟨n1, n2, n3⟩ := shownAttrs_norm_art false ind L w m.attrs
      refine ⟨?_, fun ms => ?_, ?_⟩
      · exact (attrsOKAt_proper_art (by rw [firstMerges_normAList_art, hfm])).mpr
          ⟨by simp only [Bool.false_eq_true, ↓reduceIte, n3]; exact hok1, i1⟩
      · rw [treeTextC, treeTextC, firstMerges_normAList_art, hfm]
        simp only [Bool.false_eq_true, ↓reduceIte, n1, n2, i3, bangOf]
      · simp only [Obj.startsDep, Obj.endsVal, Obj.depPlaced, firstMerges_normAList_art, hfm, Bool.false_eq_true,
          ↓reduceIte, i6, and_self]
theorem normAList_props_art (L w : Int) : ∀ (os : List Obj) (ind : Str), attrsOKsAt L w os ind = true →
    attrsOKsAt L w (normAList L os) ind = true ∧
    (∀ ms, kidsTextC L w (normAList L os) ms ind = kidsTextC L w os ms ind) ∧
    startsDepList (normAList L os) = startsDepList os ∧ endsValList (normAList L os) = endsValList os ∧
    depPlacedList (normAList L os) = depPlacedList os
  | [], _, _ => ⟨rfl, fun _ => rfl, rfl, rfl, rfl⟩
  | x :: xs, ind, hok => by
    obtain ⟨hok1, hok2⟩ := attrsOKsAt_cons_art.mp hok
    obtain ⟨a1, a3, a4, a5, a6⟩ := normA_props_art L w x ind hok1
    obtain ⟨b1, b3, b4, _, b6⟩ := normAList_props_art L w xs ind hok2
    rw [normAList_cons_art]
    exact ⟨attrsOKsAt_cons_art.mpr ⟨a1, b1⟩,
      fun ms => by rw [kidsTextC, kidsTextC, a3, b3],
      by simp only [startsDepList, endsValList, depPlacedList, a4, a5, a6, b4, b6, and_self]⟩
end

/-- **the re-parsed document prints as the original**: the tree the parser returns (`normAList`) is in the
    class, and its text at the same level and width is the text it was parsed from -/
theorem asStr_normA_treesC_ar4 (o : ShowOpts) (he : o.expert = none) (objs : List Obj) (ind : Str)
    (hbl : Blank ind) (h : RTAll (stripAttrsList (enableSList objs))) (hpe : prefixEnabledList objs = true)
    (hok : attrsOKsAt o.level o.width objs ind = true) :
    asStr o (rootOf (normAList o.level objs)) ind = .ok (kidsTextC o.level o.width objs [] ind) := by
  obtain ⟨n1, n3, _⟩ := normAList_props_art o.level o.width objs ind hok
  obtain ⟨f1, f2⟩ := normAList_flags_art o.level objs
  rw [asStr_treesC_ar4 o he _ ind hbl (by rw [f1]; exact h) (by rw [f2]; exact hpe) n1, n3]

theorem asStr_normA_treesA_art (o : ShowOpts) (he : o.expert = none) (objs : List Obj) (ind : Str)
    (hbl : Blank ind) (h : RTAll (stripAttrsList objs)) (hok : attrsOKsAt o.level o.width objs ind = true) :
    asStr o (rootOf (normAList o.level objs)) ind = .ok (kidsTextA o.level o.width objs [] ind) := by
  obtain ⟨h', hpe, t⟩ := rtAllA_toC h
  rw [← t]
  exact asStr_normA_treesC_ar4 o he objs ind hbl h' hpe hok

theorem normAList_placed_art (L w : Int) (os : List Obj) (ind : Str) (hok : attrsOKsAt L w os ind = true) :
    depPlacedList (normAList L os) = depPlacedList os := (normAList_props_art L w os ind hok).2.2.2.2

theorem stripAttrs_name_obj_art (x : Obj) : x.stripAttrs.name = x.name := by
  cases x <;> simp [Obj.stripAttrs, Obj.name, Obj.meta, Meta.stripAttrs]

theorem noDeprecated_of_mem_art {os : List Obj} (h : noDeprecatedList os = true) {x : Obj} (hx : x ∈ os) :
    x.noDeprecated = true := (noDeprecatedList_iff_ert os).mp h x hx

mutual
/-- turns of `collect_objects` needed for the printed tree: one per printed item, one per attribute
    line of a definition (the attribute lines of a scope header are read by an inner loop) -/
def Obj.costA (L : Int) : Obj → Nat
  | .defn m _ => 1 + (shownAttrs true L m.attrs).length
  | .scope _ os => if firstMerges os then costAList L os else 1 + costAList L os
def costAList (L : Int) : List Obj → Nat
  | [] => 0
  | x :: xs => x.costA L + costAList L xs
end

theorem costA_pos_art (L : Int) (x : Obj) : ∀ (ms : List Str), RTNode ms x.stripAttrs → 1 ≤ x.costA L := by
  induction x using Obj.ind_mem with
  | defn m ws => intro ms _; simp [Obj.costA]
  | scope m os ih =>
    intro ms h
    obtain ⟨e, _⟩ := enabled_of_rt_art _ ⟨ms, h⟩
    rw [← e] at h
    obtain ⟨_, _, hk⟩ := rtC_scope_art h
    rcases hk with ⟨hfm, _⟩ | ⟨c, rfl, hfm, hc⟩
    · rw [Obj.costA, hfm]; simp
    · rw [Obj.enableS, enableSList, enableSList] at e
      injection e with _ e
      injection e with e _
      rw [e] at hc
      have := ih c (by simp) _ hc
      rw [Obj.costA, hfm]
      simpa [costAList] using this


/-! ## the expert filter combined with attribute levels -/

theorem prune_attrsOKAt_art (L w k : Int) (x : Obj) : ∀ (ind : Str) (x' : Obj), (∃ ms, RTNode ms x.stripAttrs) →
    x.attrsOKAt L w ind = true → prune k x = some x' → x'.attrsOKAt L w ind = true := by
  induction x using Obj.ind_mem with
  | defn m ws => intro ind x' _ hok hp; cases prune_some_eq_ert k _ _ hp; exact hok
  | scope m os ih =>
    intro ind x' ⟨ms, hrt⟩ hok hp
    have hfm := firstMerges_pruneList k os (uniformMerge_of_RTNode_ert hrt) (prune_scope_some_ert hp)
    have hkids : ∀ ind, attrsOKsAt L w os ind = true → attrsOKsAt L w (pruneList k os) ind = true := by
      intro ind h
      rw [attrsOKsAt_iff_art] at h ⊢
      intro c' hc'
      obtain ⟨c, hc, hpc⟩ := mem_pruneList_ert hc'
      exact ih c hc ind c' (rt_kids_art hrt c hc) (h c hc) hpc
    cases prune_some_eq_ert k _ _ hp
    show (Obj.scope m (pruneList k os)).attrsOKAt L w ind = true
    cases hf : firstMerges os with
    | true =>
      rw [attrsOKAt_merging_art hf] at hok
      rw [attrsOKAt_merging_art (hfm.trans hf)]
      exact hkids ind hok
    | false =>
      obtain ⟨hok1, hok2⟩ := (attrsOKAt_proper_art hf).mp hok
      exact (attrsOKAt_proper_art (hfm.trans hf)).mpr ⟨hok1, hkids _ hok2⟩

theorem shownAt_attrsOKsAt_art (L w : Int) (e : Option Int) (os : List Obj) (ind : Str)
    (hrt : RTAll (stripAttrsList os)) (hok : attrsOKsAt L w os ind = true) :
    attrsOKsAt L w (shownAt e os) ind = true := by
  unfold shownAt
  split
  · exact hok
  · split
    · rw [attrsOKsAt_iff_art] at hok ⊢
      intro c' hc'
      obtain ⟨c, hc, hpc⟩ := mem_pruneList_ert hc'
      exact prune_attrsOKAt_art L w _ c ind c' ⟨[], (RTAll_iff _).mp hrt _ (by
        rw [stripAttrsList_eq_map]; exact List.mem_map_of_mem hc)⟩ (hok c hc) hpc
    · exact hok

/-- **Master lemma with attribute levels.**  A forest of the class, printed at attributes level
    `o.level` under any expert setting, any width and any prefix of blanks: the text is the text of
    the shown objects with their attribute lines, it parses, and the parser returns the shown objects
    with exactly the attributes printed at that level. -/
theorem filtered_round_trip_attrs_art (o : ShowOpts) (objs : List Obj) (p : Str) (hp : Blank p)
    (h : RTAll (stripAttrsList objs)) (hok : attrsOKsAt o.level o.width objs p = true)
    (hnd : noDeprecatedList objs = true) (hnl : allDefnsList NlOnlyLast objs)
    (hw : ∀ k, o.expert = some k → 0 ≤ k → ExpertWFs objs = true) :
    ∃ objs', asStr o (rootOf objs) p = .ok (kidsTextA o.level o.width (shownAt o.expert objs) [] p) ∧
      parseObjs (kidsTextA o.level o.width (shownAt o.expert objs) [] p) = .ok objs' ∧
      eraseList objs' = eraseList (normAList o.level (shownAt o.expert objs)) ∧
      idsList objs' = (expIdsSeq 1 (shownAt o.expert objs)).map some := by
  have hS := shownAt_RTAllA_ert o.expert objs ⟨h, hnd⟩
  have hN := shownAt_allDefns_ert NlOnlyLast o.expert objs hnl
  have hA := shownAt_attrsOKsAt_art o.level o.width o.expert objs p h hok
  generalize hX : shownAt o.expert objs = X at hS hN hA
  have hshow : showObjs o objs [] p = showObjs { o with expert := none } X [] p := by
    rw [showObjs_shownAt_ert o objs [] p
      (fun k he hk => ⟨hw k he hk, dottedWFs_of_RTAll_ert objs h⟩), hX]
  obtain ⟨objs', e2, e3, e4⟩ := parseObjs_treesW_ar3 o.level o.width X p hp hS.1 hN hA
  refine ⟨objs', ?_, e2, e3, e4⟩
  rw [asStr_root_pre_ert, hshow, ← asStr_root_pre_ert]
  exact asStr_treesA_art { o with expert := none } rfl X p hp hS.1 hA

/-- **Attributes level 0**: a forest of the class `RTAllA` (attributes allowed) printed under any expert
    setting, any width and any prefix of blanks: the text is the text of the shown objects as the nested round
    trip prints it, it parses, and the parser returns the shown objects without their attributes, up to ids
    and source positions. -/
theorem filtered_round_trip_ert (o : ShowOpts) (hl : o.level = 0) (objs : List Obj) (h : RTAllA objs)
    (hnl : allDefnsList NlOnlyLast objs)
    (hw : ∀ k, o.expert = some k → 0 ≤ k → ExpertWFs objs = true) (p : Str) (hp : Blank p) :
    ∃ objs', asStr o (rootOf objs) p = .ok (kidsText o.width (shownAt o.expert objs) [] p) ∧
      parseObjs (kidsText o.width (shownAt o.expert objs) [] p) = .ok objs' ∧
      eraseList objs' = eraseAttrsList (shownAt o.expert objs) ∧
      idsList objs' = (expIdsSeq 1 (shownAt o.expert objs)).map some := by
  have hL : o.level ≤ 0 := by omega
  obtain ⟨n, _, t⟩ := level0_kids o.level o.width hL _ (shownAt_RTAllA_ert o.expert objs h).2
  have := filtered_round_trip_attrs_art o objs p hp h.1 ((level0_kids o.level o.width hL objs h.2).2.1 p) h.2 hnl hw
  rwa [t, n, eraseList_stripAttrsList_ert] at this

/-! ## templates (printing a fetch result) -/

/-- `is_template = -1` objects are not printed below attributes level 2 -/
def Obj.hiddenT (L : Int) (x : Obj) : Bool := x.meta.tmpl < 0 && L < 2

mutual
/-- what the printer sees of a tree at attributes level `L`: hidden templates removed, every template
    flag cleared (the re-parsed tree has ordinary objects) -/
def Obj.visT (L : Int) : Obj → Obj
  | .defn m ws => .defn { m with tmpl := 0 } ws
  | .scope m os => .scope { m with tmpl := 0 } (visTList L os)
def visTList (L : Int) : List Obj → List Obj
  | [] => []
  | x :: xs => if x.hiddenT L then visTList L xs else x.visT L :: visTList L xs
end

mutual
/-- removing the hidden templates does not change whether a named scope prints as a dotted prefix
    (the first visible child agrees with the first child on `merge_names`) -/
def Obj.tmplWF (L : Int) : Obj → Bool
  | .defn _ _ => true
  | .scope m os => (m.name.isEmpty || firstMerges (visTList L os) == firstMerges os) && tmplWFs L os
def tmplWFs (L : Int) : List Obj → Bool
  | [] => true
  | x :: xs => x.tmplWF L && tmplWFs L xs
end

theorem showScopeBody_tmpl_ar2 (o : ShowOpts) (m : Meta) (fm : Bool) (inner : List Str → Str → R (List Str))
    (merged : List Str) (pre : Str) :
    showScopeBody o { m with tmpl := 0 } fm inner merged pre = showScopeBody o m fm inner merged pre := rfl

theorem showDefn_tmpl_ar2 (o : ShowOpts) (m : Meta) (ws : List Word) (ms : List Str) (pre : Str) :
    showDefn o m ws ms pre
      = if m.tmpl < 0 && o.level < 2 then .ok [] else showDefn o { m with tmpl := 0 } ws ms pre := by
  by_cases hh : (decide (m.tmpl < 0) && decide (o.level < 2)) = true
  · rw [if_pos hh]
    unfold showDefn
    rw [if_pos hh]
  · rw [if_neg hh]
    have h0 : (decide ((0 : Int) < 0) && decide (o.level < 2)) = false := by simp
    unfold showDefn
    rw [if_neg hh]
    simp only [h0, Bool.false_eq_true, ↓reduceIte]

/-- **the printer and the template flag**: an object with `is_template = -1` prints nothing below
    level 2; otherwise the flag is ignored, and so are the hidden templates inside -/
theorem show_visT_ar2 (o : ShowOpts) (x : Obj) :
    x.tmplWF o.level = true → ∀ (ms : List Str) (pre : Str),
      showObj o x ms pre = if x.hiddenT o.level then .ok [] else showObj o (x.visT o.level) ms pre := by
  induction x using Obj.rec
    (motive_2 := fun os => tmplWFs o.level os = true → ∀ (ms : List Str) (pre : Str),
      showObjs o os ms pre = showObjs o (visTList o.level os) ms pre) with
  | defn m ws =>
    intro _ ms pre
    rw [Obj.visT, showObj_defn_eq, showObj_defn_eq]
    exact showDefn_tmpl_ar2 o m ws ms pre
  | scope m os ih =>
    intro hwf ms pre
    simp only [Obj.tmplWF, Bool.and_eq_true, Bool.or_eq_true, beq_iff_eq] at hwf
    have ih' := ih hwf.2
    have hE : (Obj.scope m os).hiddenT o.level = (decide (m.tmpl < 0) && decide (o.level < 2)) := rfl
    rw [Obj.visT, showObj_scope_eq, showObj_scope_eq, hE]
    by_cases hh : (decide (m.tmpl < 0) && decide (o.level < 2)) = true
    · rw [if_pos hh, if_pos hh]
    · rw [if_neg hh, if_neg hh]
      have h0 : (decide ((0 : Int) < 0) && decide (o.level < 2)) = false := by simp
      simp only [h0, Bool.false_eq_true, ↓reduceIte]
      rw [showScopeBody_tmpl_ar2]
      congr 1
      rw [showScopeBody_congr o m _ _ _ (fun ms pre => (ih' ms pre).symm)]
      rcases hwf.1 with hn | hf
      · exact showScopeBody_noname o m _ _ _ hn ms pre
      · rw [hf]
  | nil => rfl
  | cons x xs ihx ihxs =>
    rename_i hwf ms pre
    simp only [tmplWFs, Bool.and_eq_true] at hwf
    rw [showObjs_cons, ihx hwf.1 ms pre, ihxs hwf.2 ms pre, visTList]
    by_cases hh : x.hiddenT o.level = true
    · simp only [hh, ↓reduceIte, catR_nil_left]
    · simp only [hh, Bool.false_eq_true, ↓reduceIte, showObjs_cons]

end Phil
