/-
  Lemmas behind C14 (command-line argument addressing): substring facts for `startsWith`, `endsWith`,
  `findSub`; the iff-characterisation of every value of `getPathScore`; `maxNat`, index lists, the
  tie-break key (only best-score entries compete); the four outcomes of `choosePath` and the selection theorems.
  Property-level restatements are in Phil/Props/C14.lean.
-/
import Phil.CmdLine
import Phil.Proofs.Generic
namespace Phil

theorem findSub_iff (p s : Str) : findSub p s = true ↔ ∃ a b, s = a ++ p ++ b := by
  induction s with
  | nil =>
    simp [findSub]
  | cons c cs ih =>
    rw [findSub, Bool.or_eq_true, ih, startsWith_iff]
    constructor
    · rintro (⟨b, hb⟩ | ⟨a, b, hb⟩)
      · exact ⟨[], b, by simpa using hb⟩
      · exact ⟨c :: a, b, by simp [hb]⟩
    · rintro ⟨a, b, hb⟩
      cases a with
      | nil => exact Or.inl ⟨b, by simpa using hb⟩
      | cons x a =>
        simp only [List.cons_append, List.cons.injEq] at hb
        exact Or.inr ⟨a, b, hb.2⟩

theorem findSub_self (s : Str) : findSub s s = true :=
  (findSub_iff s s).2 ⟨[], [], by simp⟩

theorem endsWith_self (s : Str) : endsWith s s = true :=
  (endsWith_iff s s).2 ⟨[], by simp⟩

theorem startsWith_dot_iff (h s : Str) :
    startsWith (h ++ ['.']) s = true ↔ ∃ r, s = h ++ '.' :: r := by
  rw [startsWith_iff]; simp

theorem findSub_of_endsWith {p s : Str} (h : endsWith p s = true) : findSub p s = true := by
  obtain ⟨a, rfl⟩ := (endsWith_iff p s).1 h
  exact (findSub_iff _ _).2 ⟨a, [], by simp⟩

theorem endsWith_of_endsWith_dot {p s : Str} (h : endsWith ('.' :: p) s = true) :
    endsWith p s = true := by
  obtain ⟨a, rfl⟩ := (endsWith_iff _ s).1 h
  exact (endsWith_iff _ _).2 ⟨a ++ ['.'], by simp⟩

theorem findSub_of_endsWith_dot {p s : Str} (h : endsWith ('.' :: p) s = true) :
    findSub p s = true :=
  findSub_of_endsWith (endsWith_of_endsWith_dot h)

theorem findSub_home_dot (h p : Str) : findSub p (h ++ '.' :: p) = true :=
  (findSub_iff _ _).2 ⟨h ++ ['.'], [], by simp⟩

theorem ne_home_dot (h p : Str) : p ≠ h ++ '.' :: p := by
  intro e
  have := congrArg List.length e
  simp at this
  omega

theorem getPathScore_tree (home : Option Str) (src tgt : Str) :
    getPathScore home src tgt =
      if findSub src tgt = false then 0
      else if src = tgt then 8
      else
        let tail : Nat → Nat → Nat → Nat := fun d s n =>
          if endsWith ('.' :: src) tgt = true then d else if endsWith src tgt = true then s else n
        match home with
        | none => tail 4 3 1
        | some h =>
          if tgt = h ++ '.' :: src then 7
          else if startsWith (h ++ ['.']) tgt = true then tail 6 5 2
          else tail 4 3 1 := by
  unfold getPathScore
  cases findSub src tgt
  · rfl
  simp only [Bool.not_true, Bool.false_eq_true, reduceCtorEq, if_false, beq_iff_eq]
  by_cases he : src = tgt
  · rw [if_pos he, if_pos he]
  rw [if_neg he, if_neg he]
  cases home with
  | none => rfl
  | some h =>
    by_cases h7 : tgt = h ++ '.' :: src
    · subst h7
      simp
    · have h7' : ¬ h ++ '.' :: src = tgt := fun e => h7 e.symm
      simp only [h7, h7', if_false]
      -- the remaining tests are Booleans: both sides compute
      cases startsWith (h ++ ['.']) tgt <;> cases endsWith ('.' :: src) tgt <;>
        cases endsWith src tgt <;> rfl

/-- `tgt` lies inside the home scope without being `home.src` itself -/
def InHome (home : Option Str) (src tgt : Str) : Prop :=
  ∃ h, home = some h ∧ tgt ≠ h ++ '.' :: src ∧ ∃ r, tgt = h ++ '.' :: r

/-- there is no home scope, or `tgt` does not start with `home.` -/
def OutHome (home : Option Str) (tgt : Str) : Prop :=
  ∀ h, home = some h → ¬ ∃ r, tgt = h ++ '.' :: r

/-- the nine match classes of `get_path_score`, said without the Boolean tests -/
def ScoreClass (home : Option Str) (src tgt : Str) : Nat → Prop
  | 0 => ¬ ∃ a b, tgt = a ++ src ++ b
  | 8 => src = tgt
  | 7 => src ≠ tgt ∧ ∃ h, home = some h ∧ tgt = h ++ '.' :: src
  | 6 => src ≠ tgt ∧ InHome home src tgt ∧ ∃ a, tgt = a ++ '.' :: src
  | 5 => src ≠ tgt ∧ InHome home src tgt ∧ (∃ a, tgt = a ++ src) ∧ ¬ ∃ a, tgt = a ++ '.' :: src
  | 2 => (∃ a b, tgt = a ++ src ++ b) ∧ InHome home src tgt ∧ ¬ ∃ a, tgt = a ++ src
  | 4 => src ≠ tgt ∧ OutHome home tgt ∧ ∃ a, tgt = a ++ '.' :: src
  | 3 => src ≠ tgt ∧ OutHome home tgt ∧ (∃ a, tgt = a ++ src) ∧ ¬ ∃ a, tgt = a ++ '.' :: src
  | 1 => (∃ a b, tgt = a ++ src ++ b) ∧ OutHome home tgt ∧ ¬ ∃ a, tgt = a ++ src
  | _ => False

/-- Every value of `getPathScore` characterised.  Both directions rewrite the existentials back to
    the Boolean tests the code makes and walk the decision tree; what the descriptions leave out is
    implied by the tests they name (`hDS` … `h7D`). -/
theorem score_eq_iff (home : Option Str) (src tgt : Str) (k : Nat) :
    getPathScore home src tgt = k ↔ ScoreClass home src tgt k := by
  have hDS := @endsWith_of_endsWith_dot src tgt
  have hSM := @findSub_of_endsWith src tgt
  have hES : endsWith src tgt = false → src ≠ tgt := by
    rintro h rfl
    rw [endsWith_self] at h
    cases h
  have h7S : ∀ h, startsWith (h ++ ['.']) tgt = false → tgt ≠ h ++ '.' :: src := by
    rintro h' h rfl
    rw [startsWith_self_dot] at h
    cases h
  have h7D : ∀ h, endsWith ('.' :: src) tgt = false → tgt ≠ h ++ '.' :: src := by
    rintro h' h rfl
    rw [(endsWith_iff _ _).2 ⟨h', rfl⟩] at h
    cases h
  rw [getPathScore_tree]
  constructor
  · rintro rfl
    cases home <;> simp only [] <;> repeat' split
    all_goals simp only [ScoreClass, InHome, OutHome, ← startsWith_dot_iff, ← endsWith_iff, ← findSub_iff]
    all_goals simp_all [ne_home_dot]
  · intro h
    unfold ScoreClass at h
    simp only [InHome, OutHome, ← startsWith_dot_iff, ← endsWith_iff, ← findSub_iff] at h
    split at h <;> cases home <;> simp_all [findSub_self, findSub_home_dot, ne_home_dot]

theorem getPathScore_le (home : Option Str) (src tgt : Str) : getPathScore home src tgt ≤ 8 := by
  false_or_by_contra
  obtain ⟨n, hn⟩ : ∃ n, getPathScore home src tgt = n + 9 :=
    ⟨getPathScore home src tgt - 9, by omega⟩
  -- `ScoreClass` is `False` above 8
  exact (score_eq_iff home src tgt _).1 hn

/-! ### maxNat -/

theorem le_maxNat {l : List Nat} {x : Nat} (h : x ∈ l) : x ≤ maxNat l := by
  induction l with
  | nil => cases h
  | cons y ys ih =>
    simp only [maxNat]
    rcases List.mem_cons.1 h with rfl | h'
    · exact Nat.le_max_left _ _
    · exact Nat.le_trans (ih h') (Nat.le_max_right _ _)

theorem maxNat_mem {l : List Nat} (h : maxNat l ≠ 0) : maxNat l ∈ l := by
  induction l with
  | nil => simp [maxNat] at h
  | cons y ys ih =>
    simp only [maxNat] at h ⊢
    change max y (maxNat ys) ≠ 0 at h
    change max y (maxNat ys) ∈ _
    by_cases hle : maxNat ys ≤ y
    · rw [Nat.max_eq_left hle]; exact List.mem_cons_self
    · have hlt : y ≤ maxNat ys := by omega
      rw [Nat.max_eq_right hlt] at h ⊢
      exact List.mem_cons_of_mem _ (ih h)

theorem maxNat_eq_zero_iff {l : List Nat} : maxNat l = 0 ↔ ∀ x ∈ l, x = 0 := by
  constructor
  · intro h x hx
    have := le_maxNat hx
    omega
  · intro h
    false_or_by_contra
    rename_i hne
    exact hne (h _ (maxNat_mem hne))

/-! ### index lists -/

/-- indices (in order) of the entries of `l` satisfying `p` -/
def idxs {α : Type} (p : α → Bool) (l : List α) : List Nat :=
  (l.zipIdx.filter (fun (x, _) => p x)).map (·.2)

theorem indicesOf_eq_idxs (p : Nat → Bool) (l : List Nat) : indicesOf p l = idxs p l := rfl

theorem mem_idxs {α : Type} {p : α → Bool} {l : List α} {i : Nat} :
    i ∈ idxs p l ↔ ∃ x, l[i]? = some x ∧ p x = true := by
  simp only [idxs, List.mem_map, List.mem_filter, List.mem_zipIdx_iff_getElem?]
  constructor
  · rintro ⟨⟨x, j⟩, ⟨h1, h2⟩, rfl⟩
    exact ⟨x, h1, h2⟩
  · rintro ⟨x, h1, h2⟩
    exact ⟨(x, i), ⟨h1, h2⟩, rfl⟩

theorem idxs_sorted {α : Type} (p : α → Bool) (l : List α) : (idxs p l).Pairwise (· < ·) := by
  have h : List.Sublist (idxs p l) (l.zipIdx.map (·.2)) := List.Sublist.map _ List.filter_sublist
  rw [List.zipIdx_map_snd] at h
  exact List.Pairwise.sublist h List.pairwise_lt_range'

theorem sorted_ext {l₁ l₂ : List Nat} (h₁ : l₁.Pairwise (· < ·)) (h₂ : l₂.Pairwise (· < ·))
    (h : ∀ i, i ∈ l₁ ↔ i ∈ l₂) : l₁ = l₂ :=
  ((List.perm_ext_iff_of_nodup (h₁.imp Nat.ne_of_lt) (h₂.imp Nat.ne_of_lt)).2 h).eq_of_pairwise
    (fun _ _ _ _ hab hba => absurd hab (Nat.lt_asymm hba)) h₁ h₂

theorem idxs_eq_filter_range {α : Type} (p : α → Bool) (l : List α) :
    idxs p l = (List.range l.length).filter (fun i => (l[i]?).any p) := by
  apply sorted_ext (idxs_sorted p l) (List.Pairwise.filter _ List.pairwise_lt_range)
  intro i
  rw [mem_idxs, List.mem_filter, List.mem_range]
  constructor
  · rintro ⟨x, h1, h2⟩
    exact ⟨(List.getElem?_eq_some_iff.1 h1).1, by simp [h1, h2]⟩
  · rintro ⟨h1, h2⟩
    exact ⟨l[i], List.getElem?_eq_getElem h1, by simpa [List.getElem?_eq_getElem h1] using h2⟩

theorem sorted_singleton_iff {l : List Nat} {i : Nat} (hs : l.Pairwise (· < ·)) :
    l = [i] ↔ i ∈ l ∧ ∀ j ∈ l, j = i := by
  constructor
  · rintro rfl
    simp
  · rintro ⟨hi, hall⟩
    exact sorted_ext hs (by simp) fun j =>
      ⟨fun hj => by simp [hall j hj], fun hj => by rw [List.mem_singleton.1 hj]; exact hi⟩

theorem not_singleton_iff {l : List Nat} (hne : l ≠ []) : (∀ i, l ≠ [i]) ↔ 2 ≤ l.length := by
  rcases l with _ | ⟨a, _ | ⟨b, r⟩⟩ <;> simp at hne ⊢

/-! ### the tie-break key -/

/-- `max` on optional keys; `none` = "does not compete" -/
def optMax (a b : Option Int) : Option Int :=
  match a, b with
  | none, b => b
  | some x, some y => if y > x then some y else some x
  | a, none => a

/-- the `max(...)` of the tie-break keys of the competing entries as `choosePath` computes it
    (`none` when nothing competes) -/
def maxKey (keys : List (Option Int)) : Option Int := keys.foldl optMax none

theorem optMax_some (x y : Int) : optMax (some x) (some y) = some (max x y) := by
  show (if y > x then some y else some x) = _
  by_cases h : y > x
  · rw [if_pos h, Int.max_eq_right (Int.le_of_lt h)]
  · rw [if_neg h, Int.max_eq_left (Int.not_lt.1 h)]

theorem foldl_optMax_some (l : List (Option Int)) (x : Int) :
    l.foldl optMax (some x) = some ((l.filterMap id).foldl max x) := by
  induction l generalizing x with
  | nil => rfl
  | cons b l ih =>
    cases b with
    | none => exact ih x
    | some y =>
      rw [List.foldl_cons, optMax_some, ih]
      rfl

theorem maxKey_eq (keys : List (Option Int)) : maxKey keys = (keys.filterMap id).max? := by
  induction keys with
  | nil => rfl
  | cons b l ih =>
    cases b with
    | none => exact ih
    | some y => exact foldl_optMax_some l y

theorem maxKey_eq_some_iff {keys : List (Option Int)} {m : Int} :
    maxKey keys = some m ↔ some m ∈ keys ∧ ∀ k, some k ∈ keys → k ≤ m := by
  simp [maxKey_eq, List.max?_eq_some_iff]

/-! ### the pieces of `choosePath` -/

/-- the score of every target, in order -/
def scoresOf (home : Option Str) (targets : List Str) (src : Str) : List Nat :=
  targets.map (getPathScore home src)

/-- the indices of the targets with maximal score, in increasing order -/
def bestOf (home : Option Str) (targets : List Str) (src : Str) : List Nat :=
  indicesOf (· == maxNat (scoresOf home targets src)) (scoresOf home targets src)

/-- the tie-break keys: `100*score - expert` for the entries of maximal score, `none` for the rest
    (only the best matches compete) -/
def keysOf (home : Option Str) (targets : List Str) (experts : List Int) (src : Str) :
    List (Option Int) :=
  ((scoresOf home targets src).zip experts).map
    (fun (s, e) => if s == maxNat (scoresOf home targets src) then some (100 * (s : Int) - e) else none)

/-- the indices of the competing entries whose tie-break key is maximal -/
def bestKeyOf (home : Option Str) (targets : List Str) (experts : List Int) (src : Str) : List Nat :=
  idxs (fun k => k.isSome && k == maxKey (keysOf home targets experts src))
    (keysOf home targets experts src)

theorem choosePath_eq (home : Option Str) (targets : List Str) (experts : List Int) (src : Str) :
    choosePath home targets experts src =
      if (maxNat (scoresOf home targets src) == 0) = true then .unknown
      else
        match bestOf home targets src with
        | [i] => .chosen i false
        | _ =>
          match bestKeyOf home targets experts src with
          | [i] => .chosen i true
          | _ => .ambiguous (bestOf home targets src) := rfl

theorem choosePath_eq_iff (home : Option Str) (targets : List Str) (experts : List Int) (src : Str)
    (c : Choice) :
    choosePath home targets experts src = c ↔
      match c with
      | .unknown => maxNat (scoresOf home targets src) = 0
      | .chosen i false => maxNat (scoresOf home targets src) ≠ 0 ∧ bestOf home targets src = [i]
      | .chosen i true => maxNat (scoresOf home targets src) ≠ 0 ∧
          (∀ j, bestOf home targets src ≠ [j]) ∧ bestKeyOf home targets experts src = [i]
      | .ambiguous b => maxNat (scoresOf home targets src) ≠ 0 ∧
          (∀ j, bestOf home targets src ≠ [j]) ∧ (∀ j, bestKeyOf home targets experts src ≠ [j]) ∧
          bestOf home targets src = b := by
  rw [choosePath_eq]
  generalize bestOf home targets src = b'
  generalize bestKeyOf home targets experts src = bk
  by_cases h0 : maxNat (scoresOf home targets src) = 0
  · rcases c with ⟨_, _ | _⟩ | _ | _ <;> simp [h0]
  · rcases b' with _ | ⟨i, _ | ⟨j, r⟩⟩ <;> rcases bk with _ | ⟨i', _ | ⟨j', r'⟩⟩ <;>
      rcases c with ⟨_, _ | _⟩ | _ | _ <;> simp [h0]

/-! ### facts about the pieces -/

theorem score_eq_zero_iff_findSub (home : Option Str) (src tgt : Str) :
    getPathScore home src tgt = 0 ↔ findSub src tgt = false := by
  rw [score_eq_iff, ScoreClass, ← findSub_iff, Bool.not_eq_true]

theorem scoresOf_getElem? (home : Option Str) (targets : List Str) (src : Str) (i : Nat) :
    (scoresOf home targets src)[i]? = (targets[i]?).map (getPathScore home src) := by
  simp [scoresOf]

theorem score_le_max {home : Option Str} {targets : List Str} {src t : Str} (h : t ∈ targets) :
    getPathScore home src t ≤ maxNat (scoresOf home targets src) :=
  le_maxNat (List.mem_map_of_mem h)

theorem max_attained {home : Option Str} {targets : List Str} {src : Str}
    (h : maxNat (scoresOf home targets src) ≠ 0) :
    ∃ t ∈ targets, getPathScore home src t = maxNat (scoresOf home targets src) := by
  simpa [scoresOf] using maxNat_mem h

theorem mem_bestOf {home : Option Str} {targets : List Str} {src : Str} {i : Nat} :
    i ∈ bestOf home targets src ↔
      ∃ t, targets[i]? = some t ∧
        getPathScore home src t = maxNat (scoresOf home targets src) := by
  rw [bestOf, indicesOf_eq_idxs, mem_idxs]
  simp [scoresOf_getElem?]

theorem bestOf_sorted (home : Option Str) (targets : List Str) (src : Str) :
    (bestOf home targets src).Pairwise (· < ·) := by
  rw [bestOf, indicesOf_eq_idxs]
  exact idxs_sorted _ _

theorem bestOf_ne_nil {home : Option Str} {targets : List Str} {src : Str}
    (h : maxNat (scoresOf home targets src) ≠ 0) : bestOf home targets src ≠ [] := by
  obtain ⟨t, ht, e⟩ := max_attained h
  obtain ⟨i, hi⟩ := List.mem_iff_getElem?.1 ht
  exact List.ne_nil_of_mem (mem_bestOf.2 ⟨t, hi, e⟩)

theorem bestOf_eq_filter_range (home : Option Str) (targets : List Str) (src : Str) :
    bestOf home targets src =
      (List.range targets.length).filter (fun i =>
        (scoresOf home targets src)[i]? == some (maxNat (scoresOf home targets src))) := by
  rw [bestOf, indicesOf_eq_idxs, idxs_eq_filter_range]
  have hl : (scoresOf home targets src).length = targets.length := by simp [scoresOf]
  rw [hl]
  apply List.filter_congr
  intro i _
  cases (scoresOf home targets src)[i]? <;> simp

/-- every best-score index addresses a path that contains the name and is not beaten -/
theorem sound_of_mem_bestOf {home : Option Str} {targets : List Str} {src : Str} {i : Nat}
    (h0 : maxNat (scoresOf home targets src) ≠ 0) (hi : i ∈ bestOf home targets src) :
    ∃ t, targets[i]? = some t ∧ findSub src t = true ∧
      ∀ t' ∈ targets, getPathScore home src t' ≤ getPathScore home src t := by
  obtain ⟨t, ht, e⟩ := mem_bestOf.1 hi
  refine ⟨t, ht, ?_, fun t' ht' => e ▸ score_le_max ht'⟩
  rw [← Bool.not_eq_false, ← score_eq_zero_iff_findSub home, e]
  exact h0

/-- a competing entry (key `some _`) is a best-score entry that has an expert level -/
theorem keysOf_getElem? {home : Option Str} {targets : List Str} {experts : List Int}
    {src : Str} {j : Nat} {k : Int} :
    (keysOf home targets experts src)[j]? = some (some k) ↔
      j ∈ bestOf home targets src ∧ ∃ e, experts[j]? = some e ∧
        k = 100 * (maxNat (scoresOf home targets src) : Int) - e := by
  simp only [keysOf, mem_bestOf, List.getElem?_map, Option.map_eq_some_iff,
    List.getElem?_zip_eq_some, scoresOf_getElem?]
  constructor
  · rintro ⟨⟨s, e⟩, ⟨⟨t, ht, rfl⟩, he⟩, hk⟩
    split at hk
    · rename_i hs
      rw [beq_iff_eq] at hs
      exact ⟨⟨t, ht, hs⟩, e, he, by rw [← hs]; exact (Option.some.inj hk).symm⟩
    · cases hk
  · rintro ⟨⟨t, ht, hs⟩, e, he, rfl⟩
    exact ⟨(getPathScore home src t, e), ⟨⟨t, ht, rfl⟩, he⟩, by simp [hs]⟩

/-- an index is key-maximal exactly when it is a best-score index with an expert level that is
    minimal among the best-score indices having one -/
theorem mem_bestKeyOf {home : Option Str} {targets : List Str} {experts : List Int}
    {src : Str} {i : Nat} :
    i ∈ bestKeyOf home targets experts src ↔
      i ∈ bestOf home targets src ∧ ∃ e, experts[i]? = some e ∧
        ∀ j ∈ bestOf home targets src, ∀ e', experts[j]? = some e' → e ≤ e' := by
  rw [bestKeyOf, mem_idxs]
  constructor
  · rintro ⟨k, hk, hmk⟩
    simp only [Bool.and_eq_true, beq_iff_eq] at hmk
    obtain ⟨k', rfl⟩ := Option.isSome_iff_exists.1 hmk.1
    obtain ⟨hi, e, he, rfl⟩ := keysOf_getElem?.1 hk
    refine ⟨hi, e, he, fun j hj e' he' => ?_⟩
    have := (maxKey_eq_some_iff.1 hmk.2.symm).2 _
      (List.mem_of_getElem? (keysOf_getElem?.2 ⟨hj, e', he', rfl⟩))
    omega
  · rintro ⟨hi, e, he, hmin⟩
    have hk := keysOf_getElem?.2 ⟨hi, e, he, rfl⟩
    have hmax := maxKey_eq_some_iff.2 ⟨List.mem_of_getElem? hk, fun k' hk' => by
      obtain ⟨j, hj⟩ := List.mem_iff_getElem?.1 hk'
      obtain ⟨hj', e', he', rfl⟩ := keysOf_getElem?.1 hj
      have := hmin j hj' e' he'
      omega⟩
    exact ⟨_, hk, by simp [hmax]⟩

/-- the tie-break has a winner exactly when one best-score index has an expert level strictly below
    that of every other best-score index that has one -/
theorem bestKeyOf_eq_singleton_iff {home : Option Str} {targets : List Str} {experts : List Int}
    {src : Str} {i : Nat} :
    bestKeyOf home targets experts src = [i] ↔
      i ∈ bestOf home targets src ∧ ∃ e, experts[i]? = some e ∧
        ∀ j ∈ bestOf home targets src, j ≠ i → ∀ e', experts[j]? = some e' → e < e' := by
  rw [sorted_singleton_iff (l := bestKeyOf home targets experts src) (idxs_sorted _ _)]
  constructor
  · rintro ⟨hi, hall⟩
    obtain ⟨hb, e, he, hmin⟩ := mem_bestKeyOf.1 hi
    refine ⟨hb, e, he, fun j hj hji e' he' => ?_⟩
    false_or_by_contra
    -- otherwise `j` is key-maximal too
    exact hji (hall j (mem_bestKeyOf.2 ⟨hj, e', he', fun j' hj' e'' he'' => by
      have := hmin j' hj' e'' he''
      omega⟩))
  · rintro ⟨hb, e, he, hlow⟩
    refine ⟨mem_bestKeyOf.2 ⟨hb, e, he, fun j hj e' he' => ?_⟩, fun j hj => ?_⟩
    · by_cases hji : j = i
      · rw [hji, he] at he'
        exact Int.le_of_eq (Option.some.inj he')
      · exact Int.le_of_lt (hlow j hj hji e' he')
    · obtain ⟨hb', e', he', hmin'⟩ := mem_bestKeyOf.1 hj
      false_or_by_contra
      rename_i hji
      have := hlow j hb' hji e' he'
      have := hmin' i hb e he
      omega

/-! ### the selection theorems -/

theorem unknown_iff (home : Option Str) (targets : List Str) (experts : List Int) (src : Str) :
    choosePath home targets experts src = .unknown ↔ ∀ t ∈ targets, findSub src t = false := by
  rw [choosePath_eq_iff]
  show maxNat (scoresOf home targets src) = 0 ↔ _
  rw [maxNat_eq_zero_iff]
  simp [scoresOf, score_eq_zero_iff_findSub]

/-- **the tie-break, characterised**: `chosen i true` exactly when at least two paths share the best
    (non-zero) score, `i` is one of them and its expert level is strictly below the level of every
    other one that has a level -/
theorem chosen_warned_iff {home : Option Str} {targets : List Str} {experts : List Int}
    {src : Str} {i : Nat} :
    choosePath home targets experts src = .chosen i true ↔
      maxNat (scoresOf home targets src) ≠ 0 ∧ 2 ≤ (bestOf home targets src).length ∧
      i ∈ bestOf home targets src ∧
      ∃ e, experts[i]? = some e ∧
        ∀ j ∈ bestOf home targets src, j ≠ i → ∀ e', experts[j]? = some e' → e < e' := by
  rw [choosePath_eq_iff, ← bestKeyOf_eq_singleton_iff]
  exact and_congr_right fun h0 => and_congr_left' (not_singleton_iff (bestOf_ne_nil h0))

/-- the index chosen by the tie-break is a best-score index (no hypothesis on the expert levels) -/
theorem warned_mem_bestOf {home : Option Str} {targets : List Str} {experts : List Int}
    {src : Str} {i : Nat}
    (h : choosePath home targets experts src = .chosen i true) :
    i ∈ bestOf home targets src :=
  (chosen_warned_iff.1 h).2.2.1

theorem choose_sound {home : Option Str} {targets : List Str} {experts : List Int}
    {src : Str} {i : Nat} {w : Bool}
    (h : choosePath home targets experts src = .chosen i w) :
    ∃ t, targets[i]? = some t ∧ findSub src t = true ∧
      ∀ t' ∈ targets, getPathScore home src t' ≤ getPathScore home src t := by
  cases w with
  | false =>
    obtain ⟨h0, hb⟩ := (choosePath_eq_iff ..).1 h
    exact sound_of_mem_bestOf h0 (by simp [hb])
  | true => exact sound_of_mem_bestOf (chosen_warned_iff.1 h).1 (warned_mem_bestOf h)

/-- with one expert level per target every other best-score index has a strictly higher level -/
theorem tie_break_sound {home : Option Str} {targets : List Str} {experts : List Int}
    {src : Str} {i : Nat} (hlen : experts.length = targets.length)
    (h : choosePath home targets experts src = .chosen i true) :
    i ∈ bestOf home targets src ∧
    ∃ e, experts[i]? = some e ∧
      ∀ j ∈ bestOf home targets src, j ≠ i → ∃ e', experts[j]? = some e' ∧ e < e' := by
  obtain ⟨_, _, hi, e, he, hall⟩ := chosen_warned_iff.1 h
  refine ⟨hi, e, he, fun j hj hji => ?_⟩
  obtain ⟨t', ht', _⟩ := mem_bestOf.1 hj
  have hjlt : j < experts.length := hlen ▸ (List.getElem?_eq_some_iff.1 ht').1
  exact ⟨experts[j], List.getElem?_eq_getElem hjlt, hall j hj hji _ (List.getElem?_eq_getElem hjlt)⟩

theorem exact_wins {home : Option Str} {targets : List Str} {experts : List Int} {src : Str}
    (hnd : targets.Nodup) (hmem : src ∈ targets) :
    ∃ i, choosePath home targets experts src = .chosen i false ∧ targets[i]? = some src := by
  have h8 : getPathScore home src src = 8 := (score_eq_iff home src src 8).2 rfl
  have hmx : maxNat (scoresOf home targets src) = 8 := by
    have h1 := score_le_max (home := home) (src := src) hmem
    obtain ⟨t, _, e⟩ := max_attained (show maxNat (scoresOf home targets src) ≠ 0 by omega)
    have := getPathScore_le home src t
    omega
  obtain ⟨i₀, hi₀⟩ := List.mem_iff_getElem?.1 hmem
  refine ⟨i₀, (choosePath_eq_iff ..).2 ⟨by omega, (sorted_singleton_iff (bestOf_sorted ..)).2
    ⟨mem_bestOf.2 ⟨src, hi₀, by rw [h8, hmx]⟩, fun j hj => ?_⟩⟩, hi₀⟩
  obtain ⟨t, ht, e⟩ := mem_bestOf.1 hj
  have : src = t := (score_eq_iff home src t 8).1 (e.trans hmx)
  subst this
  exact ((List.getElem?_inj (List.getElem?_eq_some_iff.1 hi₀).1 hnd).1 (hi₀.trans ht.symm)).symm

theorem ambiguous_lists_all_best {home : Option Str} {targets : List Str} {experts : List Int}
    {src : Str} {best : List Nat} (h : choosePath home targets experts src = .ambiguous best) :
    best = (List.range targets.length).filter (fun i =>
        (scoresOf home targets src)[i]? == some (maxNat (scoresOf home targets src))) ∧
    (∀ i, i ∈ best ↔ ∃ t, targets[i]? = some t ∧
        getPathScore home src t = maxNat (scoresOf home targets src)) ∧
    best.Pairwise (· < ·) ∧
    0 < maxNat (scoresOf home targets src) ∧ 2 ≤ best.length := by
  obtain ⟨h0, hns, _, rfl⟩ := (choosePath_eq_iff ..).1 h
  exact ⟨bestOf_eq_filter_range home targets src, fun i => mem_bestOf, bestOf_sorted _ _ _,
    Nat.pos_of_ne_zero h0, (not_singleton_iff (bestOf_ne_nil h0)).1 hns⟩

/-! ### the de-duplicated target list (`targetEntries`) -/

mutual
theorem expertsObj_length : ∀ (o : Obj) (p : Str) (inh : Int),
    (expertsObj o inh).length = (allDefsObj o p).length
  | .defn m ws, p, inh => by
    simp only [expertsObj, allDefsObj]
    split <;> rfl
  | .scope m os, p, inh => by
    simp only [expertsObj, allDefsObj]
    exact expertsList_length os _ _
theorem expertsList_length : ∀ (l : List Obj) (p : Str) (inh : Int),
    (expertsObj.expertsList l inh).length = (allDefsObj.allDefsList l p).length
  | [], _, _ => rfl
  | o :: os, p, inh => by
    simp only [expertsObj.expertsList, allDefsObj.allDefsList, List.length_append]
    rw [expertsList_length os p inh]
    split
    · rfl
    · rw [expertsObj_length o p inh]
end

theorem expertLevels_length (objs : List Obj) :
    (expertLevels objs).length = (allDefinitions objs).length :=
  expertsList_length objs [] 0
/-- the de-duplication step of `targetEntries` -/
def dedupStep (acc : List (Str × Int)) (pe : Str × Int) : List (Str × Int) :=
  if acc.any (·.1 == pe.1) then acc else acc ++ [pe]

theorem targetEntries_eq (objs : List Obj) (experts : List Int) :
    targetEntries objs experts =
      (((allDefinitions objs).map (·.1)).zip experts).foldl dedupStep [] := rfl

theorem dedupStep_eq (acc : List (Str × Int)) (pe : Str × Int) :
    dedupStep acc pe = if pe.1 ∈ acc.map (·.1) then acc else acc ++ [pe] := by
  have h : acc.any (·.1 == pe.1) = true ↔ pe.1 ∈ acc.map (·.1) := by simp
  simp only [dedupStep, h]

theorem dedupStep_nodup {acc : List (Str × Int)} (pe : Str × Int) (h : (acc.map (·.1)).Nodup) :
    ((dedupStep acc pe).map (·.1)).Nodup := by
  rw [dedupStep_eq]
  split
  · exact h
  · rename_i hn
    rw [List.map_append, List.nodup_append]
    exact ⟨h, by simp, fun a ha b hb => by rw [List.mem_singleton.1 hb]; rintro rfl; exact hn ha⟩

theorem foldl_dedupStep_nodup (l acc : List (Str × Int)) (h : (acc.map (·.1)).Nodup) :
    ((l.foldl dedupStep acc).map (·.1)).Nodup := by
  induction l generalizing acc with
  | nil => exact h
  | cons pe l ih => exact ih _ (dedupStep_nodup pe h)

theorem mem_dedupStep_paths {acc : List (Str × Int)} (pe : Str × Int) (p : Str) :
    p ∈ (dedupStep acc pe).map (·.1) ↔ p ∈ acc.map (·.1) ∨ p = pe.1 := by
  rw [dedupStep_eq]
  split
  · exact ⟨.inl, fun h => h.elim id (· ▸ ‹_›)⟩
  · simp

theorem mem_foldl_dedupStep_paths (l acc : List (Str × Int)) (p : Str) :
    p ∈ (l.foldl dedupStep acc).map (·.1) ↔ p ∈ acc.map (·.1) ∨ p ∈ l.map (·.1) := by
  induction l generalizing acc with
  | nil => simp
  | cons pe l ih =>
    rw [List.foldl_cons, ih, mem_dedupStep_paths, List.map_cons, List.mem_cons, or_assoc]

theorem mem_foldl_dedupStep (l acc : List (Str × Int)) (x : Str × Int)
    (h : x ∈ l.foldl dedupStep acc) : x ∈ acc ∨ x ∈ l := by
  induction l generalizing acc with
  | nil => exact .inl h
  | cons pe l ih =>
    rcases ih _ h with h | h
    · rw [dedupStep_eq] at h
      split at h
      · exact .inl h
      · rcases List.mem_append.1 h with h | h
        · exact .inl h
        · exact .inr (List.mem_cons.2 (.inl (List.mem_singleton.1 h)))
    · exact .inr (List.mem_cons_of_mem _ h)

/-- the target paths `process_arg` works with are pairwise distinct -/
theorem targetEntries_nodup (objs : List Obj) (experts : List Int) :
    ((targetEntries objs experts).map (·.1)).Nodup := by
  rw [targetEntries_eq]
  exact foldl_dedupStep_nodup _ [] (by simp)

/-- no path is lost: the entries carry exactly the paths of the definitions (given one expert level
    per definition) -/
theorem mem_targetEntries_paths (objs : List Obj) (experts : List Int)
    (hlen : experts.length = (allDefinitions objs).length) (p : Str) :
    p ∈ (targetEntries objs experts).map (·.1) ↔ p ∈ (allDefinitions objs).map (·.1) := by
  rw [targetEntries_eq, mem_foldl_dedupStep_paths]
  have : (((allDefinitions objs).map (·.1)).zip experts).map (·.1) = (allDefinitions objs).map (·.1) := by
    rw [List.map_fst_zip]
    simp [hlen]
  rw [this]
  simp

/-- the targets `process_arg` is run with are de-duplicated: every definition path of the master, given
    as the name, addresses that parameter -/
theorem exact_wins_master (home : Option Str) (objs : List Obj) (src : Str)
    (hmem : src ∈ (allDefinitions objs).map (·.1)) :
    ∃ i, choosePath home ((targetEntries objs (expertLevels objs)).map (·.1))
        ((targetEntries objs (expertLevels objs)).map (·.2)) src = .chosen i false ∧
      ((targetEntries objs (expertLevels objs)).map (·.1))[i]? = some src :=
  exact_wins (targetEntries_nodup objs _)
    ((mem_targetEntries_paths objs _ (expertLevels_length objs) src).2 hmem)

end Phil
