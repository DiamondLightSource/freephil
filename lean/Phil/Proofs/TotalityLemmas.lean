/-
  Phil.Proofs.TotalityLemmas — machinery for property C16 ("user mistakes surface as RuntimeError or
  Sorry, never as internal errors; every call returns").  Each loop that reads the input is walked once,
  for the invariant `Good`: what is left unread, the class of the errors, and that fuel above the length
  of the input is not used up.  The converters (`.type` expressions, attribute values, `from_words`)
  read no input: for them `OkOrBenign` says the error class alone.  (Choice fetch: Proofs/ChoiceLemmas.)
-/
import Phil.Conv
import Phil.Proofs.Lines
import Phil.Proofs.ConvDomain
import Phil.Proofs.ChoiceLemmas
set_option autoImplicit false

namespace Phil

/-! ### error classes -/

/-- a Python `RuntimeError` raised at a named site -/
def Err.isRuntime : Err → Bool
  | .runtime _ _ => true
  | _ => false

/-- `RuntimeError`, or an input the model declares outside its domain -/
def Err.benign : Err → Bool
  | .runtime _ _ => true
  | .unsupported _ => true
  | _ => false

theorem Err.isRuntime_iff (e : Err) : e.isRuntime = true ↔ ∃ s l, e = .runtime s l := by
  cases e <;> simp [Err.isRuntime]

theorem Err.benign_iff (e : Err) :
    e.benign = true ↔ (∃ s l, e = .runtime s l) ∨ (∃ w, e = .unsupported w) := by
  cases e <;> simp [Err.benign]

theorem Err.benign_of_isRuntime {e : Err} (h : e.isRuntime = true) : e.benign = true := by
  cases e <;> simp_all [Err.isRuntime, Err.benign]

theorem Err.benign_ne_outOfFuel {e : Err} (h : e.benign = true) : e ≠ .outOfFuel := by
  intro h'; subst h'; cases h

/-! ### 1. progress of the tokenizer -/

theorem nextWordAux_consumes (s : Settings) (b : Bool) (cs : Str) (line : Nat) (w : Word) (ci' : CI)
    (h : nextWordAux s b cs line = .ok (some (w, ci'))) : ci'.rest.length < cs.length := by
  obtain ⟨rest, line'⟩ := ci'
  have := nextWordAux_counts s cs b line
  rw [h] at this
  obtain ⟨pre, c, tail, hcs, -⟩ := this
  rw [hcs]
  simp only [List.length_append, List.length_cons]
  omega

/-- every word returned by `word_iterator.__next__` consumes at least one character -/
theorem nextWord_consumes (s : Settings) (ci : CI) (w : Word) (ci' : CI)
    (h : nextWord s ci = .ok (some (w, ci'))) : ci'.rest.length < ci.rest.length :=
  nextWordAux_consumes s false ci.rest ci.line w ci' h

theorem tokErr_isRuntime (e : TokErr) : (tokErr e).isRuntime = true := by cases e; rfl

theorem tokErr_site (e : TokErr) : ∃ l, tokErr e = .runtime "missing_closing_quote" (some l) := by
  cases e with | missingClosingQuote l => exact ⟨l, rfl⟩

theorem tryPop_consumes {s : Settings} {ci : CI} {w : Word} {ci' : CI}
    (h : tryPop s ci = .ok (some (w, ci'))) : ci'.rest.length < ci.rest.length := by
  unfold tryPop at h
  split at h
  · cases h
  · rename_i r hr
    cases h
    exact nextWord_consumes s ci w ci' hr

theorem tryPop_error {s : Settings} {ci : CI} {e : Err} (h : tryPop s ci = .error e) :
    ∃ l, e = .runtime "missing_closing_quote" (some l) := by
  unfold tryPop at h
  split at h
  · rename_i te _
    cases h
    exact tokErr_site te
  · cases h

theorem pop_consumes {s : Settings} {ci : CI} {w : Word} {ci' : CI}
    (h : pop s ci = .ok (w, ci')) : ci'.rest.length < ci.rest.length := by
  unfold pop at h
  split at h
  · cases h
  · cases h
  · rename_i r hr
    cases h
    exact tryPop_consumes hr

theorem pop_error {s : Settings} {ci : CI} {e : Err} (h : pop s ci = .error e) :
    e.isRuntime = true := by
  unfold pop at h
  split at h
  · rename_i e' he
    cases h
    obtain ⟨l, rfl⟩ := tryPop_error he
    rfl
  · cases h; rfl
  · cases h

theorem popUnquoted_consumes {s : Settings} {ci : CI} {w : Word} {ci' : CI}
    (h : popUnquoted s ci = .ok (w, ci')) : ci'.rest.length < ci.rest.length := by
  unfold popUnquoted at h
  split at h
  · cases h
  · rename_i w0 ci0 hp
    split at h
    · cases h
    · cases h
      exact pop_consumes hp

theorem popUnquoted_error {s : Settings} {ci : CI} {e : Err} (h : popUnquoted s ci = .error e) :
    e.isRuntime = true := by
  unfold popUnquoted at h
  split at h
  · rename_i e' he
    cases h
    exact pop_error he
  · split at h
    · cases h; rfl
    · cases h

theorem tryPopUnquoted_consumes {s : Settings} {ci : CI} {w : Word} {ci' : CI}
    (h : tryPopUnquoted s ci = .ok (some (w, ci'))) : ci'.rest.length < ci.rest.length := by
  unfold tryPopUnquoted at h
  split at h
  · cases h
  · cases h
  · rename_i w0 ci0 hp
    split at h
    · cases h
    · cases h
      exact tryPop_consumes hp

theorem tryPopUnquoted_error {s : Settings} {ci : CI} {e : Err} (h : tryPopUnquoted s ci = .error e) :
    e.isRuntime = true := by
  unfold tryPopUnquoted at h
  split at h
  · rename_i e' he
    cases h
    obtain ⟨l, rfl⟩ := tryPop_error he
    rfl
  · cases h
  · split at h
    · cases h; rfl
    · cases h

/-! ### the invariant of the loops that read the input -/

/-- invariant of the parser loops: a successful result leaves at most `n` characters unread; an
    error is one of the class `P` (for the parser: benign, i.e. RuntimeError / outside the modelled
    domain), or it is `outOfFuel` and the fuel condition `p` did not hold -/
def Good {α : Type} (len : α → Nat) (n : Nat) (p : Prop) (P : Err → Prop) : R α → Prop
  | .ok r => len r ≤ n
  | .error e => P e ∨ (e = .outOfFuel ∧ ¬ p)

theorem Good.mono {α : Type} {len : α → Nat} {n m : Nat} {p q : Prop} {P : Err → Prop} {r : R α}
    (h : Good len n p P r) (hnm : n ≤ m) (hqp : q → p) : Good len m q P r := by
  cases r with
  | ok r => exact Nat.le_trans h hnm
  | error e =>
    rcases h with h | ⟨h1, h2⟩
    · exact .inl h
    · exact .inr ⟨h1, fun hq => h2 (hqp hq)⟩

/-- one round of a loop: the callee started further on, with one unit of fuel less -/
theorem Good.step {α : Type} {len : α → Nat} {n m fuel : Nat} {P : Err → Prop} {r : R α}
    (h : Good len n (n < fuel) P r) (hnm : n < m) : Good len m (m < fuel + 1) P r :=
  h.mono (Nat.le_of_lt hnm) (by omega)

theorem Good.of_benign {α : Type} {len : α → Nat} {n : Nat} {p : Prop} {e : Err}
    (h : e.benign = true) : Good len n p (·.benign = true) (.error e : R α) := .inl h

theorem Good.of_isRuntime {α : Type} {len : α → Nat} {n : Nat} {p : Prop} {e : Err}
    (h : e.isRuntime = true) : Good len n p (·.benign = true) (.error e : R α) :=
  .inl (Err.benign_of_isRuntime h)

theorem Good.error_true {α : Type} {len : α → Nat} {n : Nat} {p : Prop} {P : Err → Prop} {r : R α}
    {e : Err} (h : Good len n p P r) (he : r = .error e) (hp : p) : P e := by
  subst he
  rcases h with h | ⟨_, h⟩
  · exact h
  · exact absurd hp h

theorem Good.error {α : Type} {len : α → Nat} {n : Nat} {p : Prop} {P : Err → Prop} {r : R α} {e : Err}
    (h : Good len n p P r) (he : r = .error e) : Good len n p P (.error e : R α) := he ▸ h

theorem Good.ok {α : Type} {len : α → Nat} {n : Nat} {p : Prop} {P : Err → Prop} {r : R α} {v : α}
    (h : Good len n p P r) (he : r = .ok v) : len v ≤ n := by subst he; exact h

theorem Good.no_stray {α : Type} {len : α → Nat} {n : Nat} {p : Prop} {P : Err → Prop} {r : R α}
    {e : Err} (h : Good len n p P r) (he : r = .error e) : P e ∨ e = .outOfFuel := by
  subst he
  rcases h with h | ⟨h, _⟩
  · exact .inl h
  · exact .inr h

/-! ### 2. collect_assigned_words -/

def caLen (r : List Word × CI) : Nat := r.2.rest.length

theorem collectAssignedAux_good (fuel : Nat) (ci : CI) (last : Word) (hc : Bool) (acc : List Word) :
    Good caLen ci.rest.length (ci.rest.length < fuel) (fun e => ∃ l, e = .runtime "missing_closing_quote" (some l))
      (collectAssignedAux fuel ci last hc acc) := by
  fun_induction collectAssignedAux fuel ci last hc acc
  · exact .inr ⟨rfl, by omega⟩
  · exact .inl (tryPop_error ‹_›)
  · exact Nat.le_refl _
  all_goals have l1 := tryPop_consumes ‹_›
  -- `;`, a word that is put back, or the next round from behind the word
  · exact Nat.le_of_lt l1
  · exact Nat.le_refl _
  · rename_i ih; exact ih.step l1
  · rename_i ih; exact ih.step l1
  · exact Nat.le_refl _
  · rename_i ih; exact ih.step l1
  · rename_i ih; exact ih.step l1

theorem collectAssigned_nonempty {ci : CI} {lead : Word} {ws : List Word} {ci' : CI}
    (h : collectAssigned ci lead = .ok (ws, ci')) : ws ≠ [] := by
  unfold collectAssigned at h
  split at h
  · cases h
  · split at h
    · cases h
    · rename_i hne
      cases h
      intro h0; subst h0; simp at hne

theorem collectAssigned_progress {ci : CI} {lead : Word} {ws : List Word} {ci' : CI}
    (h : collectAssigned ci lead = .ok (ws, ci')) : ci'.rest.length ≤ ci.rest.length := by
  unfold collectAssigned at h
  split at h
  · cases h
  · rename_i ws0 ci0 h0
    split at h
    · cases h
    · cases h
      exact (collectAssignedAux_good _ _ _ _ _).ok h0

theorem collectAssigned_errors {ci : CI} {lead : Word} {e : Err}
    (h : collectAssigned ci lead = .error e) :
    (∃ l, e = .runtime "missing_closing_quote" (some l)) ∨ e = .runtime "missing_value" lead.line := by
  unfold collectAssigned at h
  split at h
  · rename_i e' h0
    cases h
    exact .inl ((collectAssignedAux_good _ _ _ _ _).error_true h0 (Nat.lt_succ_self _))
  · split at h
    · cases h; exact .inr rfl
    · cases h

theorem collectAssigned_isRuntime {ci : CI} {lead : Word} {e : Err}
    (h : collectAssigned ci lead = .error e) : e.isRuntime = true := by
  rcases collectAssigned_errors h with ⟨l, rfl⟩ | rfl <;> rfl

/-! ### 3. attribute values -/

def OkOrBenign {α : Type} : R α → Prop
  | .ok _ => True
  | .error e => e.benign = true

theorem OkOrBenign.error {α : Type} {r : R α} {e : Err} (h : OkOrBenign r) (he : r = .error e) :
    e.benign = true := by subst he; exact h

theorem OkOrBenign.ite {α : Type} {c : Prop} [Decidable c] {a b : R α} (ha : OkOrBenign a)
    (hb : OkOrBenign b) : OkOrBenign (if c then a else b) := by
  split <;> assumption

theorem OkOrBenign.map {α β : Type} {r : R α} (f : α → β) (h : OkOrBenign r) : OkOrBenign (r.map f) := by
  cases r with
  | ok v => trivial
  | error e => exact h

theorem convFromExpr_okOrBenign (expr : Str) (line : Option Nat) :
    OkOrBenign (convFromExpr expr line) := by
  unfold convFromExpr
  -- each test is decided before the next: `split` on the whole cascade is slow
  cases splitCall expr with
  | none => rfl
  | some p =>
    obtain ⟨name, argText⟩ := p
    dsimp only
    by_cases hb : (!builtinTypeNames.contains (String.ofList name)) = true
    · rw [if_pos hb]
      cases argText <;> rfl
    rw [if_neg hb]
    cases parseArgs (argText.getD []) with
    | none => rfl
    | some args =>
      dsimp only
      by_cases hd : hasDup args = true
      · rw [if_pos hd]
        rfl
      rw [if_neg hd]
      have hs : ∀ c : Conv, ∀ args : List (Str × Lit), OkOrBenign (if args.isEmpty then Except.ok c else .error (errConstruct line)) := by
        intro c args; split <;> first | trivial | rfl
      split
      all_goals first
        | exact hs _ _
        | skip
      · split
        · rfl
        · split
          · trivial
          · rfl
      · split
        · rfl
        · split
          · exact OkOrBenign.ite rfl trivial
          · rfl
      · split
        · rfl
        · split
          · exact OkOrBenign.ite rfl trivial
          · rfl
      · split
        · rfl
        · split
          · exact OkOrBenign.ite rfl trivial
          · rfl

theorem boolFromWords_errors {ws : List Word} (hne : ws ≠ []) {e : Err}
    (h : boolFromWords ws = .error e) : e = .runtime "bool_expected" (firstLine ws) := by
  rcases boolFromWords_spec ws with ⟨_, h2⟩ | ⟨_, h2⟩ | ⟨s, _, ⟨_, h2⟩ | ⟨_, h2⟩ | ⟨_, _, h2⟩⟩
  all_goals rw [h2] at h
  all_goals first | (cases h; done) | skip
  cases ws with
  | nil => exact absurd rfl hne
  | cons w ws => simp only [List.isEmpty_cons, Bool.false_eq_true, ↓reduceIte, Except.error.injEq] at h; exact h.symm

theorem boolFromWords_okOrBenign {ws : List Word} (hne : ws ≠ []) : OkOrBenign (boolFromWords ws) := by
  cases h : boolFromWords ws with
  | ok v => trivial
  | error e => rw [boolFromWords_errors hne h]; rfl

theorem intFromWordsLit_okOrBenign (ws : List Word) : OkOrBenign (intFromWordsLit ws) := by
  unfold intFromWordsLit
  split
  · dsimp only
    split
    · rfl
    · split
      · trivial
      · split
        · trivial
        · split
          · trivial
          · rfl
  · trivial

theorem defAttrValue_okOrBenign (name : String) {ws : List Word} (hne : ws ≠ []) :
    OkOrBenign (defAttrValue name ws) := by
  unfold defAttrValue
  split
  · exact boolFromWords_okOrBenign hne
  · split
    · split
      · trivial
      · split
        · trivial
        · split
          · have := convFromExpr_okOrBenign (strip ‹Str›) (firstLine ws)
            revert this
            cases convFromExpr (strip ‹Str›) (firstLine ws) <;> exact id
          · trivial
    · split
      · exact intFromWordsLit_okOrBenign ws
      · trivial

theorem scopeAttrValue_okOrBenign (name : String) {ws : List Word} (hne : ws ≠ []) :
    OkOrBenign (scopeAttrValue name ws) := by
  unfold scopeAttrValue
  split
  · exact boolFromWords_okOrBenign hne
  · split
    · exact intFromWordsLit_okOrBenign ws
    · split
      · split
        · trivial
        · split
          · trivial
          · rfl
      · split
        · split
          · trivial
          · rfl
        · trivial

/-! ### 4./5. the parser loops -/

def salLen (r : Attrs × Word × CI) : Nat := r.2.2.rest.length

theorem scopeAttrsLoop_good (fuel : Nat) (ci : CI) (w : Word) (attrs : Attrs) :
    Good salLen ci.rest.length (ci.rest.length < fuel) (·.benign = true) (scopeAttrsLoop fuel ci w attrs) := by
  fun_induction scopeAttrsLoop fuel ci w attrs
  -- a RuntimeError raised by the loop itself
  any_goals exact Or.inl rfl
  -- then, in the order of the definition: out of fuel; `{`; the errors of the callees; the next round
  · exact .inr ⟨rfl, by omega⟩
  · exact Nat.le_refl _
  · exact Good.of_isRuntime (popUnquoted_error ‹_›)
  · exact Good.of_isRuntime (collectAssigned_isRuntime ‹_›)
  · refine Good.of_benign ?_
    rename_i he
    split at he
    · cases he
    · exact ((scopeAttrValue_okOrBenign _ (collectAssigned_nonempty ‹_›)).map _).error he
  · exact Good.of_isRuntime (popUnquoted_error ‹_›)
  · rename_i h1 _ _ _ h2 _ _ _ _ h3 ih
    have l1 := popUnquoted_consumes h1
    have l2 := collectAssigned_progress h2
    have l3 := popUnquoted_consumes h3
    exact ih.step (by omega)

theorem scopeAttrsLoop_progress {fuel : Nat} {ci : CI} {w : Word} {attrs attrs' : Attrs} {b : Word}
    {ci' : CI} (h : scopeAttrsLoop fuel ci w attrs = .ok (attrs', b, ci')) :
    ci'.rest.length ≤ ci.rest.length :=
  (scopeAttrsLoop_good fuel ci w attrs).ok h

def coLen (r : List Obj × PState) : Nat := r.2.ci.rest.length

theorem scanForStart_phil_len {fuel : Nat} {cs : Str} {line i : Nat} {ci : CI}
    (h : scanForStart "#phil".toList ["__END__".toList, "__ON__".toList] fuel cs line = (i, ci)) :
    ci.rest.length ≤ cs.length := by
  obtain ⟨consumed, hc, -⟩ := scanForStart_phil_line fuel cs line i ci.rest ci.line h
  rw [hc, List.length_append]
  omega

/-- the `=` after the name of a definition; `include` takes none -/
theorem afterEq_good (c : Bool) (ci : CI) :
    Good (fun ci' : CI => ci'.rest.length) ci.rest.length True (·.benign = true)
      (if c then
        match popUnquoted structSettings ci with
        | .error e => .error e
        | .ok (eq, ci') => if eq.value != ['='] then .error (syntaxErr "expected" eq) else .ok ci'
      else .ok ci) := by
  split
  · split
    · exact Good.of_isRuntime (popUnquoted_error ‹_›)
    · split
      · exact .inl rfl
      · exact Nat.le_of_lt (popUnquoted_consumes ‹_›)
  · exact Nat.le_refl _

theorem collectObjects_good (fuel : Nat) (st : PState) (stop : Option Word) (prev : Nat)
    (acc : List Obj) (pending : Option Obj) :
    Good coLen st.ci.rest.length (st.ci.rest.length < fuel) (·.benign = true)
      (collectObjects fuel st stop prev acc pending) := by
  fun_induction collectObjects fuel st stop prev acc pending
  -- a RuntimeError raised by `collectObjects` itself
  any_goals exact Or.inl rfl
  -- then, in the order of the definition: the errors of the callees, the ends of the level, the next rounds;
  -- `l1`, `l2`, … say how far each callee has read
  · exact .inr ⟨rfl, by omega⟩
  · exact Good.of_isRuntime (tryPopUnquoted_error ‹_›)
  · exact Nat.le_refl _
  all_goals have l1 := tryPopUnquoted_consumes ‹_›
  -- `#phil`
  · exact Good.of_isRuntime (popUnquoted_error ‹_›)
  · have l2 := popUnquoted_consumes ‹_›
    simp only [Good, coLen]
    omega
  · have l2 := popUnquoted_consumes ‹_›
    rename_i ih
    exact ih.step (by dsimp only; omega)
  · have l2 := popUnquoted_consumes ‹_›
    have l3 := scanForStart_phil_len ‹_›
    simp only [Good, coLen]
    omega
  · have l2 := popUnquoted_consumes ‹_›
    have l3 := scanForStart_phil_len ‹_›
    rename_i ih
    exact ih.step (by dsimp only; omega)
  -- `}`
  · simp only [Good, coLen]
    omega
  · exact Good.of_isRuntime (pop_error ‹_›)
  all_goals have l2 := pop_consumes ‹_›
  -- a scope
  · exact Good.of_benign ((scopeAttrsLoop_good _ _ _ _).error_true ‹_› (by omega))
  · have l3 := scopeAttrsLoop_progress ‹_›
    rename_i he ih
    exact (ih.error he).step (by dsimp only; omega)
  · have l3 := scopeAttrsLoop_progress ‹_›
    rename_i ihk ih
    have l4 := ihk.ok ‹_›
    exact ih.step (by dsimp only [coLen] at l4; omega)
  -- a definition
  · exact Good.of_benign ((afterEq_good _ _).error_true ‹_› trivial)
  · exact Good.of_isRuntime (collectAssigned_isRuntime ‹_›)
  · have l3 := (afterEq_good _ _).ok ‹_›
    have l4 := collectAssigned_progress ‹_›
    rename_i ih
    exact ih.step (by dsimp only at l3 ⊢; omega)
  -- an attribute of the active definition
  · exact Good.of_isRuntime (popUnquoted_error ‹_›)
  all_goals have l3 := popUnquoted_consumes ‹_›
  · exact Good.of_isRuntime (collectAssigned_isRuntime ‹_›)
  all_goals have l4 := collectAssigned_progress ‹_›
  · rename_i ih
    exact ih.step (by dsimp only; omega)
  · exact Good.of_benign ((defAttrValue_okOrBenign _ (collectAssigned_nonempty ‹_›)).error ‹_›)
  · rename_i ih
    exact ih.step (by dsimp only; omega)

theorem collectObjects_total {fuel : Nat} {st : PState} (stop : Option Word) (prev : Nat)
    (acc : List Obj) (pending : Option Obj) (hf : st.ci.rest.length < fuel) :
    collectObjects fuel st stop prev acc pending ≠ .error .outOfFuel := fun h =>
  Err.benign_ne_outOfFuel ((collectObjects_good fuel st stop prev acc pending).error_true h hf) rfl

/-! ### 4./5. `parse` -/

theorem parseObjs_benign (text : Str) (e : Err) (h : parseObjs text = .error e) : e.benign = true := by
  unfold parseObjs at h
  split at h
  · rename_i e' he
    cases h
    exact (collectObjects_good _ _ _ _ _ _).error_true he (by show text.length < _; omega)
  · cases h

/-! ### 6. converters -/

theorem foldlM_okOrBenign {α β : Type} (f : β → α → R β) (hf : ∀ b a, OkOrBenign (f b a))
    (l : List α) (b : β) : OkOrBenign (l.foldlM f b) := by
  cases h : l.foldlM f b with
  | ok _ => trivial
  | error e => exact foldlM_error_of_step (P := (·.benign = true)) (fun b a _ he => (hf b a).error he) h

theorem numberFromValueString_okOrBenign (env : EvalEnv) (ws : List Word) (s : Str) :
    OkOrBenign (numberFromValueString env ws s) := by
  unfold numberFromValueString
  dsimp only
  split
  · rfl
  · split
    · trivial
    · split
      · trivial
      · split <;> first | trivial | rfl

theorem intFromNumber_okOrBenign (ws : List Word) (v : PVal) : OkOrBenign (intFromNumber ws v) := by
  unfold intFromNumber
  split
  · trivial
  · trivial
  · split
    · trivial
    · rfl
  · rfl

theorem floatFromNumber_okOrBenign (ws : List Word) (v : PVal) : OkOrBenign (floatFromNumber ws v) := by
  unfold floatFromNumber
  split <;> first | trivial | rfl | skip
  split <;> first | trivial | rfl

theorem checkValue_okOrBenign (lo hi : Option PNum) (ws : List Word) (wl : Bool) (v : PNum) :
    OkOrBenign (checkValue lo hi ws wl v) := by
  rw [checkValue_eq]
  exact .ite rfl (.ite rfl trivial)

theorem checkSize_okOrBenign (smin smax : Option Int) (ws : List Word) (wl : Bool) (n : Nat) :
    OkOrBenign (checkSize smin smax ws wl n) := by
  rw [checkSize_eq]
  exact .ite rfl (.ite rfl trivial)

theorem convertChecked_okOrBenign (isInt : Bool) (lo hi : Option PNum) (ws : List Word) (raw : PVal) :
    OkOrBenign (convertChecked isInt lo hi ws raw) := by
  unfold convertChecked
  split
  · rename_i e he
    have : OkOrBenign (if isInt then intFromNumber ws raw else floatFromNumber ws raw) :=
      OkOrBenign.ite (intFromNumber_okOrBenign ws raw) (floatFromNumber_okOrBenign ws raw)
    exact this.error he
  · exact (checkValue_okOrBenign _ _ _ _ _).map _
  · exact (checkValue_okOrBenign _ _ _ _ _).map _
  · trivial

theorem scalarTail_okOrBenign (isInt : Bool) (a : NumArgs) (env : EvalEnv) (ws : List Word) :
    OkOrBenign (scalarTail isInt a env ws) := by
  unfold scalarTail
  split
  · split <;> first | trivial | rfl
  · trivial
  · split
    · rename_i e he
      exact (numberFromValueString_okOrBenign env ws _).error he
    · split <;> first | trivial | rfl
    · trivial
    · exact convertChecked_okOrBenign _ _ _ _ _
  · rfl

theorem numbersFromWords_okOrBenign (env : EvalEnv) (ws : List Word) :
    OkOrBenign (numbersFromWords env ws) := by
  unfold numbersFromWords
  split
  · trivial
  · trivial
  · dsimp only
    refine OkOrBenign.map _ (foldlM_okOrBenign _ ?_ _ _)
    intro b a
    exact (numberFromValueString_okOrBenign env ws a).map _
  · rfl

theorem elemConv_okOrBenign (isInt : Bool) (a : ListArgs) (ws : List Word) (raw : PVal) :
    OkOrBenign (elemConv isInt a ws raw) := by
  unfold elemConv
  split
  · split <;> first | trivial | rfl
  · split <;> first | trivial | rfl
  · exact convertChecked_okOrBenign _ _ _ _ _

theorem listTail_okOrBenign (isInt : Bool) (a : ListArgs) (env : EvalEnv) (ws : List Word) :
    OkOrBenign (listTail isInt a env ws) := by
  unfold listTail
  split
  · rename_i e he
    exact (numbersFromWords_okOrBenign env ws).error he
  · trivial
  · trivial
  · split
    · rename_i e he
      exact (checkSize_okOrBenign _ _ _ _ _).error he
    · dsimp only
      refine OkOrBenign.map _ (foldlM_okOrBenign _ ?_ _ _)
      intro b x
      rw [elemStep_eq]
      exact (elemConv_okOrBenign isInt a ws x).map _

/-- item 6: `from_words` of every built-in type (of `bool`: on a non-empty word list) returns a value,
    a RuntimeError, or leaves the modelled domain — never another exception class -/
theorem fromWords_okOrBenign (c : Conv) (env : EvalEnv) (opt : AttrVal) {ws : List Word}
    (hne : c = .bool → ws ≠ []) : OkOrBenign (fromWords c env opt ws) := by
  cases c with
  | words | strings | qstr =>
    unfold fromWords; dsimp only; exact OkOrBenign.ite trivial (OkOrBenign.ite trivial trivial)
  | str | key => unfold fromWords; dsimp only; split <;> first | trivial | rfl
  | path =>
    unfold fromWords; dsimp only
    split
    · trivial
    · trivial
    · split <;> first | trivial | rfl
    · rfl
  | bool =>
    rw [fromWords_bool]
    exact (boolFromWords_okOrBenign (hne rfl)).map _
  | int a => rw [fromWords_int_eq]; exact scalarTail_okOrBenign _ _ _ _
  | float a => rw [fromWords_float_eq]; exact scalarTail_okOrBenign _ _ _ _
  | ints a => rw [fromWords_ints_eq]; exact listTail_okOrBenign _ _ _ _
  | floats a => rw [fromWords_floats_eq]; exact listTail_okOrBenign _ _ _ _
  | choice multi =>
    rw [fromWords_choice_eq]
    split
    · trivial
    · split
      · split <;> first | trivial | rfl
      · split
        · split <;> first | trivial | rfl
        · trivial
        · rfl

end Phil
