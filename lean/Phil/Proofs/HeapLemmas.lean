/-
  Helper lemmas for the heap model (Phil/Heap.lean): lists related element by element (`Rel2`, `mapOpt`),
  frames of slot assignment, what `absF` depends on (more fuel and more cells, agreement below a bound,
  renaming), the traversal invariant of `visit` and the shape of a `deepcopy` result (`DeepSpec`), the checkers
  `closedB` / `kidsLinkedB` as propositions, the cell a shallow copy appends.
-/
import Phil.Heap
namespace Phil.Heap

/-! ### `mapOpt` -/

theorem mapOpt_congr {α β : Type} {f g : α → Option β} : ∀ {l : List α},
    (∀ a ∈ l, f a = g a) → mapOpt f l = mapOpt g l
  | [], _ => rfl
  | a :: as, h => by
    simp only [mapOpt]
    rw [h a (by simp), mapOpt_congr (l := as) (fun b hb => h b (by simp [hb]))]

theorem mapOpt_map {α β γ : Type} (f : β → Option γ) (g : α → β) : ∀ (l : List α),
    mapOpt f (l.map g) = mapOpt (fun a => f (g a)) l
  | [] => rfl
  | a :: as => by simp only [List.map_cons, mapOpt]; rw [mapOpt_map f g as]

/-! ### lists related element by element -/

def Rel2 {α β : Type} (R : α → β → Prop) : List α → List β → Prop
  | [], [] => True
  | a :: as, b :: bs => R a b ∧ Rel2 R as bs
  | _, _ => False

@[elab_as_elim]
theorem Rel2.induction {α β : Type} {R : α → β → Prop} {motive : ∀ l l', Rel2 R l l' → Prop}
    (nil : motive [] [] trivial)
    (cons : ∀ {a b as bs} (h1 : R a b) (h2 : Rel2 R as bs), motive as bs h2 → motive (a :: as) (b :: bs) ⟨h1, h2⟩) :
    ∀ {l : List α} {l' : List β} (h : Rel2 R l l'), motive l l' h
  | [], [], _ => nil
  | _ :: _, _ :: _, ⟨h1, h2⟩ => cons h1 h2 (Rel2.induction nil cons h2)
  | [], _ :: _, hr => hr.elim
  | _ :: _, [], hr => hr.elim

theorem Rel2.imp {α β : Type} {R S : α → β → Prop} (h : ∀ a b, R a b → S a b) {l : List α} {l' : List β}
    (hr : Rel2 R l l') : Rel2 S l l' := by
  induction hr using Rel2.induction with
  | nil => trivial
  | cons h1 _ ih => exact ⟨h _ _ h1, ih⟩

theorem Rel2.length {α β : Type} {R : α → β → Prop} :
    ∀ {l : List α} {l' : List β}, Rel2 R l l' → l.length = l'.length := by
  intro l l' hr
  induction hr using Rel2.induction with
  | nil => rfl
  | cons _ _ ih => simp [ih]

theorem Rel2.append {α β : Type} {R : α → β → Prop} :
    ∀ {l1 : List α} {l1' : List β} {l2 : List α} {l2' : List β}, Rel2 R l1 l1' → Rel2 R l2 l2' →
      Rel2 R (l1 ++ l2) (l1' ++ l2') := by
  intro l1 l1' l2 l2' h1 h
  induction h1 using Rel2.induction with
  | nil => exact h
  | cons h1 _ ih => exact ⟨h1, ih⟩

theorem Rel2.filter {α β : Type} {R : α → β → Prop} (p : α → Bool) (q : β → Bool)
    (hpq : ∀ a b, R a b → p a = q b) :
    ∀ {l : List α} {l' : List β}, Rel2 R l l' → Rel2 R (l.filter p) (l'.filter q) := by
  intro l l' hr
  induction hr using Rel2.induction with
  | nil => trivial
  | @cons a b _ _ h1 _ ih =>
    simp only [List.filter_cons, hpq a b h1]
    cases q b
    · exact ih
    · exact ⟨h1, ih⟩

theorem Rel2.map {α β γ δ : Type} {R : α → β → Prop} {S : γ → δ → Prop} (f : α → γ) (g : β → δ)
    (hfg : ∀ a b, R a b → S (f a) (g b)) {l : List α} {l' : List β} (hr : Rel2 R l l') :
    Rel2 S (l.map f) (l'.map g) := by
  induction hr using Rel2.induction with
  | nil => trivial
  | cons h1 _ ih => exact ⟨hfg _ _ h1, ih⟩

theorem Rel2.flatMap {α β γ δ : Type} {R : α → β → Prop} {S : γ → δ → Prop} (f : α → List γ) (g : β → List δ)
    (hfg : ∀ a b, R a b → Rel2 S (f a) (g b)) {l : List α} {l' : List β} (hr : Rel2 R l l') :
    Rel2 S (l.flatMap f) (l'.flatMap g) := by
  induction hr using Rel2.induction with
  | nil => trivial
  | cons h1 _ ih =>
    simp only [List.flatMap_cons]
    exact Rel2.append (hfg _ _ h1) ih

theorem Rel2.get {α β : Type} {R : α → β → Prop} {l : List α} {l' : List β} (hr : Rel2 R l l') :
    ∀ {i : Nat} {a : α} {b : β}, l[i]? = some a → l'[i]? = some b → R a b := by
  induction hr using Rel2.induction with
  | nil => intro i a b ha; simp at ha
  | cons h1 _ ih =>
    intro i a b ha hb
    cases i with
    | zero =>
      simp only [List.getElem?_cons_zero, Option.some.injEq] at ha hb
      exact ha ▸ hb ▸ h1
    | succ i =>
      simp only [List.getElem?_cons_succ] at ha hb
      exact ih ha hb

theorem Rel2.zipIdx {α β : Type} {R : α → β → Prop} {l : List α} {l' : List β} (hr : Rel2 R l l') :
    ∀ (k : Nat), Rel2 (fun (p : α × Nat) (q : β × Nat) => R p.1 q.1 ∧ p.2 = q.2) (l.zipIdx k) (l'.zipIdx k) := by
  induction hr using Rel2.induction with
  | nil => intro _; trivial
  | cons h1 _ ih =>
    intro k
    simp only [List.zipIdx_cons]
    exact ⟨⟨h1, rfl⟩, ih (k + 1)⟩

theorem Rel2.diag {α : Type} {R : α → α → Prop} : ∀ {l : List α}, (∀ a ∈ l, R a a) → Rel2 R l l
  | [], _ => trivial
  | a :: as, h => ⟨h a (by simp), Rel2.diag (fun b hb => h b (by simp [hb]))⟩

theorem mapOpt_eq_some {α β : Type} {f : α → Option β} : ∀ {l : List α} {r : List β},
    mapOpt f l = some r ↔ Rel2 (fun a b => f a = some b) l r
  | [], [] => by simp [mapOpt, Rel2]
  | [], _ :: _ => by simp [mapOpt, Rel2]
  | a :: as, [] => by simp only [mapOpt, Rel2]; split <;> simp
  | a :: as, b :: bs => by
    simp only [mapOpt, Rel2, ← mapOpt_eq_some (l := as)]
    split <;> simp_all

theorem mapOpt_isSome {α β : Type} {f : α → Option β} : ∀ {l : List α},
    (∀ a ∈ l, (f a).isSome = true) → (mapOpt f l).isSome = true
  | [], _ => rfl
  | a :: as, h => by
    have h1 := h a (by simp)
    have h2 := mapOpt_isSome (l := as) (fun b hb => h b (by simp [hb]))
    rw [mapOpt]
    cases ha : f a with
    | none => rw [ha] at h1; cases h1
    | some b =>
      cases hb : mapOpt f as with
      | none => rw [hb] at h2; cases h2
      | some bs => rfl

theorem mapOpt_imp {α β : Type} {f g : α → Option β} {l : List α} {r : List β}
    (h : ∀ a b, f a = some b → g a = some b) (hm : mapOpt f l = some r) : mapOpt g l = some r :=
  mapOpt_eq_some.mpr (Rel2.imp h (mapOpt_eq_some.mp hm))

theorem mapOpt_some_length {α β : Type} {f : α → Option β} : ∀ {l : List α} {r : List β},
    mapOpt f l = some r → r.length = l.length :=
  fun h => (Rel2.length (mapOpt_eq_some.mp h)).symm

/-! ### slot assignment -/

theorem assign_length (h : Heap) (x : Nat) (a : Assign) : (assign h x a).length = h.length := by
  unfold assign
  split <;> simp

theorem assign_get_ne (h : Heap) (x y : Nat) (a : Assign) (hne : y ≠ x) : (assign h x a)[y]? = h[y]? := by
  unfold assign
  split
  · rfl
  · rw [List.getElem?_set_ne (Ne.symm hne)]

theorem assign_get_self (h : Heap) (x : Nat) (a : Assign) (n : Node) (hx : h[x]? = some n) :
    (assign h x a)[x]? = some (n.assign a) := by
  unfold assign
  rw [hx]
  have : x < h.length := by
    rcases List.getElem?_eq_some_iff.mp hx with ⟨hlt, _⟩
    exact hlt
  simp [List.getElem?_set_self this]

theorem assignMany_get_below (n : Nat) : ∀ (ops : List (Nat × Assign)) (h : Heap),
    (∀ op ∈ ops, n ≤ op.1) → ∀ i, i < n → (assignMany h ops)[i]? = h[i]?
  | [], _, _, _, _ => rfl
  | (x, a) :: rest, h, hops, i, hi => by
    simp only [assignMany]
    rw [assignMany_get_below n rest (assign h x a) (fun op hop => hops op (by simp [hop])) i hi]
    have hx : n ≤ x := hops (x, a) (by simp)
    exact assign_get_ne h x i a (by omega)

theorem assignMany_length : ∀ (ops : List (Nat × Assign)) (h : Heap), (assignMany h ops).length = h.length
  | [], _ => rfl
  | (x, a) :: rest, h => by simp only [assignMany]; rw [assignMany_length rest, assign_length]

/-! ### abstraction -/

/-- every object below `n` refers (through `objects`) to objects below `n` only -/
def ClosedBelow (h : Heap) (n : Nat) : Prop :=
  ∀ i nd, i < n → h[i]? = some nd → ∀ k ∈ nd.kids, k < n

theorem absF_agree (g h : Heap) (n : Nat) (hag : ∀ i, i < n → g[i]? = h[i]?) (hcl : ClosedBelow h n) :
    ∀ (f i : Nat), i < n → absF f g i = absF f h i
  | 0, _, _ => rfl
  | f + 1, i, hi => by
    simp only [absF]
    rw [hag i hi]
    cases hc : h[i]? with
    | none => rfl
    | some nd =>
      cases nd with
      | defn m ws p => rfl
      | scope m ks p =>
        simp only
        have := mapOpt_congr (l := ks) (fun k hk => absF_agree g h n hag hcl f k (hcl i _ hi hc k hk))
        rw [this]

theorem absF_succ {f : Nat} {h : Heap} {x : Nat} {o : Obj} : absF (f + 1) h x = some o ↔
    (∃ m ws p, h[x]? = some (.defn m ws p) ∧ o = .defn m ws) ∨
    (∃ m ks p os, h[x]? = some (.scope m ks p) ∧ mapOpt (absF f h) ks = some os ∧ o = .scope m os) := by
  rw [absF]
  cases h[x]? with
  | none => simp
  | some n =>
    cases n with
    | defn m ws p =>
      constructor
      · intro ho
        exact .inl ⟨_, _, _, rfl, (Option.some.inj ho).symm⟩
      · rintro (⟨_, _, _, hc, rfl⟩ | ⟨_, _, _, _, hc, _⟩) <;> cases hc
        rfl
    | scope m ks p =>
      constructor
      · intro ho
        obtain ⟨os, hm, rfl⟩ := Option.map_eq_some_iff.mp ho
        exact .inr ⟨_, _, _, os, rfl, hm, rfl⟩
      · rintro (⟨_, _, _, hc, _⟩ | ⟨_, _, _, os, hc, hm, rfl⟩) <;> cases hc
        exact Option.map_eq_some_iff.mpr ⟨os, hm, rfl⟩

theorem absF_meta {f : Nat} {h : Heap} {k : Nat} {o : Obj} (ha : absF f h k = some o) :
    ∃ n, h[k]? = some n ∧ n.meta = o.meta := by
  cases f with
  | zero => simp [absF] at ha
  | succ f =>
    rcases absF_succ.mp ha with ⟨m, ws, p, hx, rfl⟩ | ⟨m, ks, p, os, hx, _, rfl⟩
    · exact ⟨_, hx, rfl⟩
    · exact ⟨_, hx, rfl⟩

theorem absF_mono {h h' : Heap} (hh : ∀ (i : Nat) n, h[i]? = some n → h'[i]? = some n) :
    ∀ {f f' : Nat}, f ≤ f' → ∀ {x : Nat} {o : Obj}, absF f h x = some o → absF f' h' x = some o
  | 0, _, _, _, _, ha => by simp [absF] at ha
  | f + 1, f' + 1, hle, _, _, ha => by
    rcases absF_succ.mp ha with ⟨m, ws, p, hx, rfl⟩ | ⟨m, ks, p, os, hx, hm, rfl⟩
    · exact absF_succ.mpr (.inl ⟨m, ws, p, hh _ _ hx, rfl⟩)
    · exact absF_succ.mpr (.inr ⟨m, ks, p, os, hh _ _ hx,
        mapOpt_imp (fun _ _ => absF_mono hh (Nat.le_of_succ_le_succ hle)) hm, rfl⟩)

theorem Abs_unique {h : Heap} {x : Nat} {o o' : Obj} (h1 : Abs h x o) (h2 : Abs h x o') : o = o' := by
  obtain ⟨f1, e1⟩ := h1
  obtain ⟨f2, e2⟩ := h2
  have a := absF_mono (fun _ _ => id) (Nat.le_max_left f1 f2) e1
  rw [absF_mono (fun _ _ => id) (Nat.le_max_right f1 f2) e2] at a
  exact (Option.some.inj a).symm

theorem Abs.congr {g h : Heap} {x : Nat} {o : Obj} (he : ∀ f, absF f g x = absF f h x) (a : Abs h x o) : Abs g x o :=
  a.imp fun f hf => (he f).trans hf

/-! ### the traversal of deepcopy -/

/-- invariant of `visit`: `seen` records true states, has no duplicate, and every reference of a seen
    object is seen or still on the stack -/
structure VisitInv (h : Heap) (todo : List Nat) (seen : List (Nat × Node)) : Prop where
  state : ∀ p ∈ seen, h[p.1]? = some p.2
  nodup : (seen.map (·.1)).Nodup
  closed : ∀ p ∈ seen, ∀ y ∈ p.2.succs, y ∈ seen.map (·.1) ∨ y ∈ todo

theorem visit_inv : ∀ (f : Nat) (h : Heap) (todo : List Nat) (seen comp : List (Nat × Node)),
    visit f h todo seen = some comp → VisitInv h todo seen →
    VisitInv h [] comp ∧ (∀ p ∈ seen, p ∈ comp) ∧ (∀ y ∈ todo, y ∈ comp.map (·.1))
  | 0, _, _, _, _, hv, _ => by simp [visit] at hv
  | f + 1, h, [], seen, comp, hv, inv => by
    simp only [visit] at hv
    cases hv
    exact ⟨inv, fun p hp => hp, fun y hy => by simp at hy⟩
  | f + 1, h, x :: todo, seen, comp, hv, inv => by
    simp only [visit] at hv
    by_cases hx : x ∈ seen.map (·.1)
    · rw [if_pos hx] at hv
      have inv' : VisitInv h todo seen :=
        ⟨inv.state, inv.nodup, fun p hp y hy => by
          rcases inv.closed p hp y hy with hs | ht
          · exact Or.inl hs
          · rcases List.mem_cons.mp ht with rfl | ht'
            · exact Or.inl hx
            · exact Or.inr ht'⟩
      obtain ⟨i1, i2, i3⟩ := visit_inv f h todo seen comp hv inv'
      refine ⟨i1, i2, ?_⟩
      intro y hy
      rcases List.mem_cons.mp hy with rfl | hy'
      · obtain ⟨p, hp, hpx⟩ := List.mem_map.mp hx
        exact List.mem_map.mpr ⟨p, i2 p hp, hpx⟩
      · exact i3 y hy'
    · rw [if_neg hx] at hv
      cases hc : h[x]? with
      | none => rw [hc] at hv; simp at hv
      | some n =>
        rw [hc] at hv
        simp only at hv
        have inv' : VisitInv h (n.succs ++ todo) (seen ++ [(x, n)]) := by
          refine ⟨?_, ?_, ?_⟩
          · intro p hp
            rcases List.mem_append.mp hp with hp | hp
            · exact inv.state p hp
            · simp only [List.mem_singleton] at hp
              subst hp
              exact hc
          · rw [List.map_append, List.nodup_append]
            refine ⟨inv.nodup, by simp, ?_⟩
            intro a ha b hb
            simp only [List.map_cons, List.map_nil, List.mem_singleton] at hb
            subst hb
            intro hab
            subst hab
            exact hx ha
          · intro p hp y hy
            rcases List.mem_append.mp hp with hp | hp
            · rcases inv.closed p hp y hy with hs | ht
              · exact Or.inl (by rw [List.map_append]; exact List.mem_append_left _ hs)
              · rcases List.mem_cons.mp ht with rfl | ht'
                · exact Or.inl (by simp)
                · exact Or.inr (List.mem_append_right _ ht')
            · simp only [List.mem_singleton] at hp
              subst hp
              exact Or.inr (List.mem_append_left _ hy)
        obtain ⟨i1, i2, i3⟩ := visit_inv f h (n.succs ++ todo) (seen ++ [(x, n)]) comp hv inv'
        refine ⟨i1, fun p hp => i2 p (List.mem_append_left _ hp), ?_⟩
        intro y hy
        rcases List.mem_cons.mp hy with rfl | hy'
        · exact List.mem_map.mpr ⟨(y, n), i2 _ (by simp), rfl⟩
        · exact i3 y (List.mem_append_right _ hy')

/-- what a successful `deepcopy` is, in one statement: `comp` lists the copied objects with their states,
    is closed under `objects` / `primary_parent_scope`, contains `x`, and the new heap is the old one
    followed by the renamed states -/
structure DeepSpec (h : Heap) (x : Nat) (c : Copied) (comp : List (Nat × Node)) : Prop where
  ids : c.comp = comp.map (·.1)
  heap : c.heap = h ++ comp.map (fun p => p.2.rename (memo h.length c.comp))
  result : c.result = memo h.length c.comp x
  state : ∀ p ∈ comp, h[p.1]? = some p.2
  nodup : c.comp.Nodup
  closed : ∀ p ∈ comp, ∀ y ∈ p.2.succs, y ∈ c.comp
  root : x ∈ c.comp

theorem deepcopy_spec {h : Heap} {x : Nat} {c : Copied} (hd : deepcopy h x = some c) :
    ∃ comp, DeepSpec h x c comp := by
  unfold deepcopy at hd
  cases hv : visit (visitFuel h) h [x] [] with
  | none => rw [hv] at hd; simp at hd
  | some comp =>
    rw [hv] at hd
    simp only [Option.some.injEq] at hd
    subst hd
    have inv0 : VisitInv h [x] [] := ⟨by simp, by simp, by simp⟩
    obtain ⟨i1, _, i3⟩ := visit_inv _ h [x] [] comp hv inv0
    refine ⟨comp, rfl, rfl, rfl, i1.state, i1.nodup, ?_, i3 x (by simp)⟩
    intro p hp y hy
    rcases i1.closed p hp y hy with hs | ht
    · exact hs
    · simp at ht

theorem DeepSpec.mem_state {h : Heap} {x : Nat} {c : Copied} {comp : List (Nat × Node)}
    (s : DeepSpec h x c comp) {i : Nat} (hi : i ∈ c.comp) : ∃ n, h[i]? = some n ∧ (i, n) ∈ comp := by
  rw [s.ids] at hi
  obtain ⟨p, hp, rfl⟩ := List.mem_map.mp hi
  exact ⟨p.2, s.state p hp, hp⟩

theorem DeepSpec.lt_length {h : Heap} {x : Nat} {c : Copied} {comp : List (Nat × Node)}
    (s : DeepSpec h x c comp) {i : Nat} (hi : i ∈ c.comp) : i < h.length := by
  obtain ⟨n, hn, _⟩ := s.mem_state hi
  rcases List.getElem?_eq_some_iff.mp hn with ⟨hlt, _⟩
  exact hlt

theorem DeepSpec.lookup {h : Heap} {x : Nat} {c : Copied} {comp : List (Nat × Node)}
    (s : DeepSpec h x c comp) {i : Nat} (hi : i ∈ c.comp) {n : Node} (hn : h[i]? = some n) :
    c.heap[memo h.length c.comp i]? = some (n.rename (memo h.length c.comp)) := by
  have hlt : c.comp.idxOf i < c.comp.length := List.idxOf_lt_length_of_mem hi
  have hget : c.comp[c.comp.idxOf i]? = some i := by
    rw [List.getElem?_eq_getElem hlt, List.getElem_idxOf hlt]
  rw [s.heap]
  unfold memo
  rw [List.getElem?_append_right (Nat.le_add_right _ _), Nat.add_sub_cancel_left, List.getElem?_map]
  generalize c.comp.idxOf i = j at hget
  rw [s.ids, List.getElem?_map] at hget
  cases hc : comp[j]? with
  | none => rw [hc] at hget; simp at hget
  | some p =>
    rw [hc] at hget
    simp only [Option.map_some, Option.some.injEq] at hget
    have hst := s.state p (List.mem_of_getElem? hc)
    rw [hget, hn] at hst
    simp only [Option.map_some]
    rw [← Option.some.inj hst]

theorem memo_ge (base : Nat) (comp : List Nat) (i : Nat) : base ≤ memo base comp i := Nat.le_add_right _ _

theorem memo_lt {base : Nat} {comp : List Nat} {i : Nat} (hi : i ∈ comp) :
    memo base comp i < base + comp.length := by
  unfold memo
  have := List.idxOf_lt_length_of_mem hi
  omega

theorem memo_inj {base : Nat} {comp : List Nat} {i j : Nat} (hi : i ∈ comp) (hj : j ∈ comp)
    (he : memo base comp i = memo base comp j) : i = j := by
  unfold memo at he
  have h1 : comp.idxOf i < comp.length := List.idxOf_lt_length_of_mem hi
  have h2 : comp.idxOf j < comp.length := List.idxOf_lt_length_of_mem hj
  have e : comp.idxOf i = comp.idxOf j := by omega
  have a : comp[comp.idxOf i] = i := List.getElem_idxOf h1
  have b : comp[comp.idxOf j] = j := List.getElem_idxOf h2
  rw [← a, ← b]
  simp [e]

theorem DeepSpec.length {h : Heap} {x : Nat} {c : Copied} {comp : List (Nat × Node)}
    (s : DeepSpec h x c comp) : c.heap.length = h.length + c.comp.length := by
  rw [s.heap, List.length_append, List.length_map, s.ids, List.length_map]

theorem DeepSpec.old {h : Heap} {x : Nat} {c : Copied} {comp : List (Nat × Node)}
    (s : DeepSpec h x c comp) {i : Nat} (hi : i < h.length) : c.heap[i]? = h[i]? := by
  rw [s.heap, List.getElem?_append_left hi]

theorem rename_kids (ρ : Nat → Nat) (n : Node) : (n.rename ρ).kids = n.kids.map ρ := by
  cases n <;> rfl
theorem rename_parent (ρ : Nat → Nat) (n : Node) : (n.rename ρ).parent = n.parent.map ρ := by
  cases n <;> rfl
theorem rename_meta (ρ : Nat → Nat) (n : Node) : (n.rename ρ).meta = n.meta := by
  cases n <;> rfl
theorem rename_succs (ρ : Nat → Nat) (n : Node) : (n.rename ρ).succs = n.succs.map ρ := by
  cases n <;> rename_i p <;> cases p <;> simp [Node.rename, Node.succs, Node.kids, Node.parent]

theorem mem_succs_of_kid {n : Node} {k : Nat} (hk : k ∈ n.kids) : k ∈ n.succs :=
  List.mem_append_left _ hk
theorem mem_succs_of_parent {n : Node} {p : Nat} (hp : n.parent = some p) : p ∈ n.succs := by
  unfold Node.succs; rw [hp]; simp

theorem DeepSpec.absF_eq {h : Heap} {x : Nat} {c : Copied} {comp : List (Nat × Node)}
    (s : DeepSpec h x c comp) : ∀ (f i : Nat), i ∈ c.comp →
    absF f c.heap (memo h.length c.comp i) = absF f h i
  | 0, _, _ => rfl
  | f + 1, i, hi => by
    obtain ⟨n, hn, hmem⟩ := s.mem_state hi
    simp only [absF]
    rw [s.lookup hi hn, hn]
    cases n with
    | defn m ws p => rfl
    | scope m ks p =>
      simp only [Node.rename]
      rw [mapOpt_map]
      have := mapOpt_congr (l := ks) (fun k hk => s.absF_eq f k (s.closed (i, _) hmem k (mem_succs_of_kid hk)))
      rw [this]

/-! ### well-formedness: from the checker to propositions -/

/-- no dangling reference -/
def Closed (h : Heap) : Prop := ∀ (i : Nat) (n : Node), h[i]? = some n → ∀ k ∈ n.succs, k < h.length

/-- every child of a scope has that scope as parent -/
def KidsLinked (h : Heap) : Prop :=
  ∀ (i : Nat) (n : Node), h[i]? = some n → ∀ k ∈ n.kids, ∃ nk : Node, h[k]? = some nk ∧ nk.parent = some i

theorem all_cells {h : Heap} {p : Node → Bool} : h.all p = true ↔ ∀ (i : Nat) (n : Node), h[i]? = some n → p n = true := by
  rw [List.all_eq_true]
  constructor
  · exact fun ha i n hi => ha n (List.mem_of_getElem? hi)
  · intro ha n hn
    obtain ⟨i, hi⟩ := List.mem_iff_getElem?.mp hn
    exact ha i n hi

theorem all_ids {h : Heap} {p : Nat → Node → Bool} :
    ((List.range h.length).all fun i => match h[i]? with | some n => p i n | none => true) = true ↔
      ∀ i n, h[i]? = some n → p i n = true := by
  rw [List.all_eq_true]
  constructor
  · intro ha i n hi
    have := ha i (List.mem_range.mpr (List.getElem?_eq_some_iff.mp hi).1)
    rw [hi] at this
    exact this
  · intro ha i _
    cases hi : h[i]? with
    | none => rfl
    | some n => exact ha i n hi

theorem closedB_iff {h : Heap} : closedB h = true ↔ Closed h := by
  unfold closedB Closed
  rw [all_cells]
  simp only [List.all_eq_true, decide_eq_true_eq]

theorem kidsLinkedB_iff {h : Heap} : kidsLinkedB h = true ↔ KidsLinked h := by
  unfold kidsLinkedB KidsLinked
  refine all_ids.trans ?_
  simp only [List.all_eq_true, beq_iff_eq, Option.map_eq_some_iff]

theorem closedB_sound {h : Heap} (hc : closedB h = true) : Closed h := closedB_iff.mp hc

theorem closedB_complete {h : Heap} (hc : Closed h) : closedB h = true := closedB_iff.mpr hc

theorem kidsLinkedB_sound {h : Heap} (hc : kidsLinkedB h = true) : KidsLinked h := kidsLinkedB_iff.mp hc

theorem kidsLinkedB_complete {h : Heap} (hl : KidsLinked h) : kidsLinkedB h = true := kidsLinkedB_iff.mpr hl

theorem Closed.below {h : Heap} (hc : Closed h) : ClosedBelow h h.length :=
  fun i n _ hi k hk => hc i n hi k (mem_succs_of_kid hk)

theorem assignMany_frame {h h' : Heap} (hc : closedB h = true) (hfr : ∀ i, i < h.length → h'[i]? = h[i]?)
    (ops : List (Nat × Assign)) (hops : ∀ op ∈ ops, h.length ≤ op.1) :
    (∀ i, i < h.length → (assignMany h' ops)[i]? = h[i]?) ∧
    (∀ f i, i < h.length → absF f (assignMany h' ops) i = absF f h i) := by
  have hag : ∀ i, i < h.length → (assignMany h' ops)[i]? = h[i]? := fun i hi =>
    (assignMany_get_below h.length ops h' hops i hi).trans (hfr i hi)
  exact ⟨hag, absF_agree _ h h.length hag (closedB_sound hc).below⟩

theorem copy_eq {h : Heap} {x : Nat} {h' : Heap} {c : Nat} (hc : copy h x = some (h', c)) :
    ∃ n, h[x]? = some n ∧ h' = h ++ [n] ∧ c = h.length := by
  unfold copy at hc
  cases hx : h[x]? with
  | none => rw [hx] at hc; simp at hc
  | some n =>
    rw [hx] at hc
    simp only [Option.map_some, Option.some.injEq, Prod.mk.injEq] at hc
    exact ⟨n, rfl, hc.1.symm, hc.2.symm⟩

theorem assign_last (h : Heap) (n : Node) (a : Assign) : assign (h ++ [n]) h.length a = h ++ [n.assign a] := by
  unfold assign
  rw [List.getElem?_concat_length]
  simp

/-- the cell `customized_copy` makes from the cell `n` -/
def ccNode (n : Node) (name : Option Str) (ws : Option (List Word)) (ks : Option (List Nat)) : Node :=
  let n1 := match name with | some nm => n.assign (.slot fun m => { m with name := nm }) | none => n
  let n2 := match ws with | some w => n1.assign (.words w) | none => n1
  let n3 := match ks with | some k => n2.assign (.objects k) | none => n2
  n3.assign (.slot fun m => { m with tmpl := 0 })

theorem customizedCopy_eq {h : Heap} {x : Nat} {name : Option Str} {ws : Option (List Word)} {ks : Option (List Nat)}
    {h' : Heap} {c : Nat} (hc : customizedCopy h x name ws ks = some (h', c)) :
    ∃ n, h[x]? = some n ∧ c = h.length ∧ h' = h ++ [ccNode n name ws ks] := by
  unfold customizedCopy at hc
  split at hc
  · cases hc
  · rename_i h1 c1 hcp
    obtain ⟨n, hn, rfl, rfl⟩ := copy_eq hcp
    cases hc
    refine ⟨n, hn, rfl, ?_⟩
    cases name <;> cases ws <;> cases ks <;> simp only [assign_last] <;> rfl

theorem absF_append_slot (h : Heap) (n : Node) (x : Nat) (hx : h[x]? = some n) (hc : Closed h) (g : Meta → Meta) :
    ∀ f, absF f (h ++ [n.assign (.slot g)]) h.length = (absF f h x).map (fun o => o.withMeta g)
  | 0 => rfl
  | f + 1 => by
    simp only [absF]
    rw [List.getElem?_append_right (Nat.le_refl _), Nat.sub_self, hx]
    simp only [List.getElem?_cons_zero]
    cases n with
    | defn m ws p => rfl
    | scope m ks p =>
      simp only [Node.assign]
      have := mapOpt_congr (l := ks) (fun k hk =>
        absF_agree (h ++ [Node.scope (g m) ks p]) h h.length (fun i hi => List.getElem?_append_left hi) hc.below f k
          (hc x _ hx k (mem_succs_of_kid hk)))
      rw [this]
      cases mapOpt (absF f h) ks <;> rfl

end Phil.Heap
