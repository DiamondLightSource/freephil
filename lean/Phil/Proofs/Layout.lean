/-
  Flat documents under a layout (C02, C15).  A *layout* of a flat document is data: blank lines, comment
  lines, blanks around names, `=` and words, the four ways of ending a definition; `render` makes the text.
  Here: what the two tokenizer contexts of the parser (structure context in `collect_objects`, value context
  in `collect_assigned_words`) do on every part of that text — above all where a value ends, whatever
  construct comes next (`StopHead`, `cAA_fill`, `cAA_term`) —, flat documents with attribute items as data
  (`AItem`, `renderA`, `parsedA`), and the tree, ids and source lines of plain documents.  The parser
  theorems are in Phil/Proofs/LayoutAll.lean, whose grammar contains these.
-/
import Phil.Proofs.PrintParse
import Phil.Proofs.PrintParseNested
namespace Phil

/-! ### layouts as data -/

/-- the text of a whole-line comment after the `#` that the layout theorem is stated for:
    no newline; not `phil…` (`#phil` is a directive, not a comment); and — because the *value*
    tokenizer may be the one that meets this line (directly after a value that was ended by a
    newline) — if the `#` stands alone (`# text`, `#`, `#;…`) the text must be acceptable to the
    comment reader of `collect_assigned_words` (`commentOk`: no word starting with a quote character,
    last word not a lone backslash).  `#text` (no blank after `#`) may contain anything. -/
def cmtSafe (c : Str) : Bool :=
  !c.contains '\n' && !startsWith "phil".toList c &&
    (!stopsAt valueSettings c || commentOk false true c)

/-- one filler line between definitions: blanks, optionally `#` and a comment text, newline -/
structure FillLine where
  ind : Str
  cmt : Option Str
  deriving Repr, DecidableEq

def cmtText : Option Str → Str
  | none => []
  | some c => '#' :: c

def cmtWf : Option Str → Bool
  | none => true
  | some c => cmtSafe c

def FillLine.text (f : FillLine) : Str := f.ind ++ (cmtText f.cmt ++ ['\n'])
def FillLine.wf (f : FillLine) : Bool := inlineB f.ind && cmtWf f.cmt

def linesStr : List FillLine → Str
  | [] => []
  | f :: fs => f.text ++ linesStr fs

/-- what stands in front of a name (or between the last definition and the end of the text):
    filler lines, then blanks on the line of the name -/
structure Pre where
  lines : List FillLine := []
  ind : Str := []
  deriving Repr, DecidableEq

def Pre.text (p : Pre) : Str := linesStr p.lines ++ p.ind
def Pre.wf (p : Pre) : Bool := p.lines.all FillLine.wf && inlineB p.ind

/-- how a definition ends -/
inductive Terminator
  /-- trailing blanks and the newline -/
  | nl (tb : Str)
  /-- blanks (possibly none) and `;`; what follows the `;` belongs to the `Pre` of the next definition -/
  | semi (sb : Str)
  /-- blanks (at least one), a stand-alone `#`, the comment text, the newline -/
  | comment (sb : Str) (cmt : Str)
  /-- nothing: blanks at most, then the end of the text or the `}` of the enclosing scope (`EofHead_l2`) -/
  | eof
  deriving Repr, DecidableEq

def Terminator.text : Terminator → Str
  | .nl tb => tb ++ ['\n']
  | .semi sb => sb ++ [';']
  | .comment sb cmt => sb ++ '#' :: (cmt ++ ['\n'])
  | .eof => []

def Terminator.wf : Terminator → Bool
  | .nl tb => inlineB tb
  | .semi sb => inlineB sb
  | .comment sb cmt => inlineB sb && !sb.isEmpty && stopsAt valueSettings cmt && commentOk false true cmt
  | .eof => true

def Terminator.isEof : Terminator → Bool
  | .eof => true
  | _ => false

/-- the layout of one definition `pre name sp1 = g1 w1 g2 w2 … term` -/
structure DefLayout where
  pre : Pre := {}
  sp1 : Str := [' ']
  gaps : List Str
  term : Terminator := .nl []
  deriving Repr, DecidableEq

/-- the words with the blanks in front of each -/
def wordsLay : List Str → List Word → Str
  | g :: gs, w :: ws => g ++ (w.str ++ wordsLay gs ws)
  | _, _ => []

/-- one gap per word, every gap blanks without a newline, all but the first non-empty -/
def gapsOK : Bool → List Str → List Word → Bool
  | _, [], [] => true
  | first, g :: gs, _ :: ws => inlineB g && (first || !g.isEmpty) && gapsOK false gs ws
  | _, _, _ => false

def defText (d : DefSpec) (L : DefLayout) : Str :=
  d.1 ++ (L.sp1 ++ '=' :: (wordsLay L.gaps d.2 ++ L.term.text))

/-- the text of a flat document under a layout; `post` is what follows the last definition -/
def render : List (DefSpec × DefLayout) → Pre → Str
  | [], post => post.text
  | (d, L) :: rest, post => L.pre.text ++ (defText d L ++ render rest post)

/-- `GoodDefn` as a Boolean -/
def goodDef (d : DefSpec) : Bool :=
  goodName d.1 && !d.2.isEmpty && d.2.all goodWord && chainOK true d.2

def wfDef (d : DefSpec) (L : DefLayout) : Bool :=
  L.pre.wf && inlineB L.sp1 && gapsOK true L.gaps d.2 && L.term.wf

/-- well-formed document layout: every definition good, every layout well formed, and the
    end-of-text terminator only on the last definition with nothing but blanks after it -/
def wfDoc : List (DefSpec × DefLayout) → Pre → Bool
  | [], post => post.wf
  | (d, L) :: rest, post =>
    goodDef d && wfDef d L && (!L.term.isEof || (rest.isEmpty && post.lines.isEmpty)) && wfDoc rest post

theorem goodDef_good {d : DefSpec} (h : goodDef d = true) : GoodDefn d := by
  simp only [goodDef, Bool.and_eq_true, Bool.not_eq_true', List.all_eq_true] at h
  obtain ⟨⟨⟨h1, h2⟩, h3⟩, h4⟩ := h
  refine ⟨h1, ?_, h3, h4⟩
  intro e; rw [e] at h2; simp at h2

/-! ### structure context: blank lines and comment lines are skipped -/

theorem nextWordAux_in_comment (s : Settings) (c rest : Str) (h : '\n' ∉ c) (l : Nat) :
    nextWordAux s true (c ++ '\n' :: rest) l = nextWordAux s false rest (l + 1) := by
  induction c with
  | nil => simp [nextWordAux]
  | cons d ds ih =>
    have hd : d ≠ '\n' := fun e => h (by simp [e])
    have hds : '\n' ∉ ds := fun e => h (by simp [e])
    rw [List.cons_append, nextWordAux]
    simp only [beq_iff_eq, hd, ↓reduceIte]
    exact ih hds

theorem take4_phil (c rest : Str) (hnl : '\n' ∉ c) (h : startsWith "phil".toList c = false) :
    ((c ++ '\n' :: rest).take 4 != "phil".toList) = true := by
  have e : "phil".toList = ['p', 'h', 'i', 'l'] := rfl
  rw [e] at h ⊢
  simp only [startsWith, List.length_cons, List.length_nil] at h
  rcases c with _ | ⟨a, _ | ⟨b, _ | ⟨c, _ | ⟨d, t⟩⟩⟩⟩
  · simp
  · simp
  · simp
  · simp
  · simpa using h

theorem cmtSafe_facts {c : Str} (h : cmtSafe c = true) :
    '\n' ∉ c ∧ startsWith "phil".toList c = false ∧
      (stopsAt valueSettings c = true → commentOk false true c = true) := by
  simp only [cmtSafe, Bool.and_eq_true, Bool.not_eq_true', Bool.or_eq_true, List.contains_eq_mem,
    decide_eq_false_iff_not] at h
  obtain ⟨⟨h1, h2⟩, h3⟩ := h
  refine ⟨h1, h2, ?_⟩
  intro hs
  rcases h3 with h3 | h3
  · rw [hs] at h3; cases h3
  · exact h3

theorem isSpace_hash : isSpace '#' = false := by rfl

theorem struct_skip_line (f : FillLine) (hf : f.wf = true) (rest : Str) (l : Nat) :
    nextWordAux structSettings false (f.text ++ rest) l
      = nextWordAux structSettings false rest (l + 1) := by
  simp only [FillLine.wf, Bool.and_eq_true] at hf
  obtain ⟨hind, hc⟩ := hf
  rw [FillLine.text, List.append_assoc, nextWordAux_skip structSettings _ _ (inlineB_space hind),
    inlineB_nl hind, Nat.add_zero]
  cases hcm : f.cmt with
  | none =>
    simp only [cmtText, List.nil_append, List.cons_append]
    rw [nextWordAux]
    simp [isSpace_nl, bump]
  | some c =>
    rw [hcm] at hc
    obtain ⟨hnl, hphil, _⟩ := cmtSafe_facts hc
    simp only [cmtText, List.cons_append, List.append_assoc, List.nil_append]
    rw [nextWordAux]
    have hcs : isCommentStart structSettings '#' (c ++ ('\n' :: rest)) = true := by
      simp only [isCommentStart, structSettings, Gen.structComment, Gen.structMeta]
      have := take4_phil c rest hnl hphil
      simpa using this
    simp only [isSpace_hash, Bool.false_eq_true, ↓reduceIte, hcs]
    exact nextWordAux_in_comment structSettings c rest hnl l

theorem struct_skip_lines (ls : List FillLine) (hls : ls.all FillLine.wf = true) (rest : Str) :
    ∀ l, nextWordAux structSettings false (linesStr ls ++ rest) l
      = nextWordAux structSettings false rest (l + ls.length) := by
  induction ls with
  | nil => intro l; rfl
  | cons f fs ih =>
    intro l
    simp only [List.all_cons, Bool.and_eq_true] at hls
    rw [linesStr, List.append_assoc, struct_skip_line f hls.1, ih hls.2, List.length_cons]
    congr 1; omega

theorem nlCount_cmtText (c : Option Str) (h : cmtWf c = true) : nlCount (cmtText c) = 0 := by
  cases c with
  | none => rfl
  | some c =>
    obtain ⟨hnl, _, _⟩ := cmtSafe_facts h
    rw [cmtText, nlCount_cons_ne _ _ (by decide)]
    exact nlCount_of_not_mem hnl

theorem nlCount_fillLine (f : FillLine) (hf : f.wf = true) : nlCount f.text = 1 := by
  simp only [FillLine.wf, Bool.and_eq_true] at hf
  rw [FillLine.text, nlCount_append, nlCount_append, inlineB_nl hf.1, nlCount_cmtText _ hf.2, nlCount_nl]

theorem nlCount_linesStr (ls : List FillLine) (hls : ls.all FillLine.wf = true) :
    nlCount (linesStr ls) = ls.length := by
  induction ls with
  | nil => rfl
  | cons f fs ih =>
    simp only [List.all_cons, Bool.and_eq_true] at hls
    rw [linesStr, nlCount_append, nlCount_fillLine f hls.1, ih hls.2, List.length_cons]; omega

theorem nlCount_pre (p : Pre) (hp : p.wf = true) : nlCount p.text = p.lines.length := by
  simp only [Pre.wf, Bool.and_eq_true] at hp
  rw [Pre.text, nlCount_append, nlCount_linesStr _ hp.1, inlineB_nl hp.2, Nat.add_zero]

/-! ### value context: what may follow a value -/

theorem isQuote_hash : isQuoteChar '#' = false := by rfl

theorem wordAt_unquoted_two (st : Settings) (c c1 : Char) (cs : Str) (line : Nat)
    (hq : isQuoteChar c = false) (hl : startsLong st c = true) (h1 : endsUnquoted st c1 = false) :
    ∃ v rest, wordAt st c (c1 :: cs) line
      = .ok ({ value := c :: c1 :: v, quote := none, line := some line }, ⟨rest, line⟩) := by
  have hq' : (c == '"' || c == '\'') = false := hq
  unfold wordAt
  simp only [hq', Bool.false_eq_true, ↓reduceIte, hl, scanU, h1]
  generalize hu : scanU st cs [c1, c] = p
  obtain ⟨v, r⟩ := p
  obtain ⟨k, _, _, hv⟩ := scanU_line st _ _ _ _ hu
  exact ⟨k, r, by rw [hv]; rfl⟩

theorem startsLong_hash : startsLong valueSettings '#' = true := by rfl
theorem commentChars_value (c : Char) (cs : Str) : isCommentStart valueSettings c cs = false := by
  simp [isCommentStart, valueSettings]

theorem NextOK_cons {c : Char} (t : Str) (hc : isSpace c = false)
    (h : isQuoteChar c = false ∧ c ≠ ';' ∧ c ≠ '#') : NextOK (c :: t) :=
  NextOK_head [] t c (fun _ hd => nomatch hd) hc h

/-- `X` is a text in front of which (after white space with a newline) a value ends, and whose first
    non-blank character is not a quote -/
structure StopHead (X : Str) : Prop where
  ends : ∀ (sp : Str) (L l0 : Nat), (∀ d ∈ sp, isSpace d = true) → l0 < L + nlCount sp →
    EndsValue ⟨sp ++ X, L⟩ l0
  noq : ∀ c, firstNonSpace X = some c → isQuoteChar c = false

theorem StopHead.of_nextOK {X : Str} (h : NextOK X) : StopHead X where
  ends := fun sp L l0 hsp hl => EndsValue_next sp X L l0 hsp hl h
  noq := fun c hc => (h c hc).1

theorem StopHead.hash_word {c1 : Char} (T : Str) (h : endsUnquoted valueSettings c1 = false) :
    StopHead ('#' :: c1 :: T) where
  ends := by
    intro sp L l0 hsp hl
    obtain ⟨v, rest', hw⟩ := wordAt_unquoted_two valueSettings '#' c1 T (L + nlCount sp) isQuote_hash
      startsLong_hash h
    refine Or.inr ⟨{ value := '#' :: c1 :: v, quote := none, line := some (L + nlCount sp) },
      ⟨rest', L + nlCount sp⟩, ?_, rfl, by simp, by simp, ?_⟩
    · rw [nextWord_skip _ sp _ L hsp,
        nextWordAux_word valueSettings '#' _ _ isSpace_hash (commentChars_value _ _), hw]
      rfl
    · intro e'; simp only [Option.some.injEq] at e'; omega
  noq := by
    intro c hc
    simp only [firstNonSpace, isSpace_hash, Bool.false_eq_true, ↓reduceIte, Option.some.injEq] at hc
    exact hc ▸ isQuote_hash

theorem firstNonSpace_fill (ind X : Str) (hind : inlineB ind = true) (hX : StopHead X) :
    ∀ (ls : List FillLine), ls.all FillLine.wf = true →
      ∀ c, firstNonSpace (linesStr ls ++ (ind ++ X)) = some c → isQuoteChar c = false := by
  intro ls
  induction ls with
  | nil =>
    intro _ c hc
    rw [linesStr, List.nil_append, firstNonSpace_skip _ _ (inlineB_space hind)] at hc
    exact hX.noq c hc
  | cons f fs ih =>
    intro hls c hc
    simp only [List.all_cons, Bool.and_eq_true, FillLine.wf] at hls
    rw [linesStr, FillLine.text, List.append_assoc, List.append_assoc,
      firstNonSpace_skip _ _ (inlineB_space hls.1.1)] at hc
    cases hcm : f.cmt with
    | none =>
      rw [hcm] at hc
      exact ih hls.2 c hc
    | some t =>
      rw [hcm] at hc
      simp only [cmtText, List.cons_append, firstNonSpace, isSpace_hash, Bool.false_eq_true,
        ↓reduceIte, Option.some.injEq] at hc
      exact hc ▸ isQuote_hash

/-- **The value collector in front of filler lines.**  After the last word of a value (which started on
    line `l0 ≤ L`) the text goes on with white space `sp` containing a newline, filler lines, blanks
    and then the next construct or the end of the text.  The collector returns what it has, in a state
    from which the structure tokenizer reads the same next word as from the position of that construct.
    (If the first comment line has a stand-alone `#`, it is the value collector that reads that line,
    in its comment mode; otherwise the collector backs up and the structure tokenizer skips it.)
    `isUnq last "\\" = false`: after a lone backslash the collector takes the next word whatever line it
    is on (Parse.lean:53), so the value would not end here. -/
theorem cAA_fill (ind X : Str) (hind : inlineB ind = true) (hX : StopHead X) :
    ∀ (ls : List FillLine) (sp : Str), ls.all FillLine.wf = true →
      (∀ d ∈ sp, isSpace d = true) → 1 ≤ nlCount sp →
      EndsVal (sp ++ (linesStr ls ++ (ind ++ X))) (fun L ci4 => nextWord structSettings ci4
        = nextWordAux structSettings false (ind ++ X) (L + nlCount sp + ls.length)) := by
  have stops : ∀ (sp T : Str), (∀ d ∈ sp, isSpace d = true) → 1 ≤ nlCount sp →
      stopsAt valueSettings (sp ++ T) = true := by
    intro sp T hsp hnl
    cases sp with
    | nil => exact absurd hnl (by decide)
    | cons d r => exact ends_of_isSpace _ (hsp d (by simp))
  intro ls
  induction ls with
  | nil =>
    intro sp _ hsp hnl
    refine ⟨stops sp _ hsp hnl, fun fuel L l0 last acc hf hl hle hbs => ?_⟩
    obtain ⟨f, rfl⟩ : ∃ f, fuel = f + 1 := ⟨fuel - 1, by omega⟩
    refine ⟨⟨sp ++ (ind ++ X), L⟩, nextWordAux_skip structSettings sp _ hsp L, ?_⟩
    show collectAssignedAux (f + 1) ⟨sp ++ (ind ++ X), L⟩ last false acc = _
    rw [← List.append_assoc]
    exact cAA_stop f _ last acc l0 (hX.ends _ L l0 (allSpace_append hsp (inlineB_space hind))
      (by rw [nlCount_append]; omega)) hl hbs
  | cons f fs ih =>
    intro sp hls hsp hnl
    refine ⟨stops sp _ hsp hnl, fun fuel L l0 last acc hf hl hle hbs => ?_⟩
    obtain ⟨fi, fc⟩ := f
    have hls0 := hls
    simp only [List.all_cons, Bool.and_eq_true, FillLine.wf] at hls
    obtain ⟨⟨hfi, hfc⟩, hfs⟩ := hls
    cases fc with
    | none =>
      -- a blank line: more white space
      have e : sp ++ (linesStr (⟨fi, none⟩ :: fs) ++ (ind ++ X))
          = (sp ++ (fi ++ ['\n'])) ++ (linesStr fs ++ (ind ++ X)) := by
        simp [linesStr, FillLine.text, cmtText]
      rw [e] at hf ⊢
      obtain ⟨ci4, h2, h1⟩ := (ih _ hfs
        (allSpace_append hsp (allSpace_append (inlineB_space hfi) space_nl))
        (by rw [nlCount_append]; omega)).2 fuel L l0 last acc hf hl hle hbs
      refine ⟨ci4, h2.trans ?_, h1⟩
      rw [nlCount_append, nlCount_append, inlineB_nl hfi, nlCount_nl, List.length_cons]
      congr 1; omega
    | some c =>
      obtain ⟨_, _, hok⟩ := cmtSafe_facts hfc
      have e : sp ++ (linesStr (⟨fi, some c⟩ :: fs) ++ (ind ++ X))
          = (sp ++ fi) ++ '#' :: (c ++ '\n' :: (linesStr fs ++ (ind ++ X))) := by
        simp [linesStr, FillLine.text, cmtText]
      have hsp' := allSpace_append hsp (inlineB_space hfi)
      have hn' : nlCount (sp ++ fi) = nlCount sp := by rw [nlCount_append, inlineB_nl hfi]; rfl
      by_cases hs : stopsAt valueSettings c = true
      · -- a stand-alone `#`: the collector itself reads the comment
        obtain ⟨tb, htb, hbody⟩ := cAA_comment_line (sp ++ fi) c (linesStr fs ++ (ind ++ X)) L hsp' hs
          (hok hs) (firstNonSpace_fill ind X hind hX fs hfs) fuel last acc (by
            rw [e] at hf
            simp only [List.length_append, List.length_cons] at hf; omega)
        refine ⟨_, ?_, by rw [e]; exact hbody⟩
        show nextWord structSettings _ = _
        rw [nextWord_inline_space structSettings tb _ _ htb, nextWord_newline,
          struct_skip_lines fs hfs, hn', List.length_cons]
        congr 1; omega
      · -- `#text`: a word on another line; the collector backs up
        obtain ⟨c1, r, rfl⟩ : ∃ c1 r, c = c1 :: r := by
          cases c with
          | nil => exact absurd rfl hs
          | cons c1 r => exact ⟨c1, r, rfl⟩
        have hX' : StopHead ('#' :: c1 :: (r ++ '\n' :: (linesStr fs ++ (ind ++ X)))) :=
          .hash_word _ ((Bool.not_eq_true _).mp hs)
        obtain ⟨f', rfl⟩ : ∃ f', fuel = f' + 1 := ⟨fuel - 1, by omega⟩
        refine ⟨⟨sp ++ (linesStr (⟨fi, some (c1 :: r)⟩ :: fs) ++ (ind ++ X)), L⟩,
          (nextWordAux_skip structSettings sp _ hsp L).trans (struct_skip_lines _ hls0 _ _), ?_⟩
        rw [e]
        exact cAA_stop f' _ last acc l0 (hX'.ends _ L l0 hsp' (by omega)) hl hbs

/-! ### gaps -/

theorem gapsOK_nil_right {first : Bool} {gaps : List Str} (h : gapsOK first gaps [] = true) : gaps = [] := by
  cases gaps with
  | nil => rfl
  | cons g gs => simp [gapsOK] at h

theorem gapsOK_cons_right {first : Bool} {gaps : List Str} {w : Word} {ws : List Word}
    (h : gapsOK first gaps (w :: ws) = true) :
    ∃ g gs, gaps = g :: gs ∧ inlineB g = true ∧ (first = true ∨ g ≠ []) ∧ gapsOK false gs ws = true := by
  cases gaps with
  | nil => simp [gapsOK] at h
  | cons g gs =>
    simp only [gapsOK, Bool.and_eq_true, Bool.or_eq_true, Bool.not_eq_true', List.isEmpty_eq_false_iff] at h
    exact ⟨g, gs, rfl, h.1.1, h.1.2, h.2⟩

/-! ### the four ways of ending a definition -/

theorem commentOk_no_nl : ∀ (s : Str) (bs st : Bool), commentOk bs st s = true → '\n' ∉ s := by
  intro s
  induction s with
  | nil => intro _ _ _ h; simp at h
  | cons c cs ih =>
    intro bs st h hm
    rw [commentOk] at h
    split at h
    · cases h
    · rename_i hne
      have hc : c ≠ '\n' := by simpa using hne
      have hm' : '\n' ∈ cs := by
        rcases List.mem_cons.mp hm with e | e
        · exact absurd e.symm hc
        · exact e
      split at h
      · exact ih _ _ h hm'
      · split at h
        · exact ih _ _ h hm'
        · split at h
          · simp only [Bool.and_eq_true] at h; exact ih _ _ h.2 hm'
          · exact ih _ _ h hm'

/-- the text that may follow a definition ended by nothing (`Terminator.eof`): the end of the text
    or a closing brace -/
def EofHead_l2 (X : Str) : Prop := X = [] ∨ ∃ r, X = '}' :: r

theorem cAA_close_l2 (fuel : Nat) (ci ci' : CI) (last w : Word) (acc : List Word)
    (h : nextWord valueSettings ci = .ok (some (w, ci'))) (hq : w.quote = none)
    (hv : w.value = ['}']) :
    collectAssignedAux (fuel + 1) ci last false acc = .ok (acc.reverse, ci) := by
  simp [collectAssignedAux, tryPop, h, hq, hv]

/-- **The value collector at the end of a definition.**  `t` is the terminator, then come filler
    lines, blanks and the next construct `X` (a name, `!name`, `}`, the end of the text, …).  The
    collector returns the words it has, in a state from which the structure tokenizer reads the same
    next word as from the position of `X`, whose line is `L + newlines of the terminator + number of
    filler lines`. -/
theorem cAA_term (t : Terminator) (ht : t.wf = true) (ls : List FillLine)
    (hls : ls.all FillLine.wf = true) (ind X : Str) (hind : inlineB ind = true) (hX : StopHead X)
    (heof : t.isEof = true → ls = [] ∧ EofHead_l2 X) :
    EndsVal (t.text ++ (linesStr ls ++ (ind ++ X))) (fun L ci4 => nextWord structSettings ci4
      = nextWordAux structSettings false (ind ++ X) (L + nlCount t.text + ls.length)) := by
  cases t with
  | nl tb =>
    exact cAA_fill ind X hind hX ls (tb ++ ['\n']) hls
      (allSpace_append (inlineB_space ht) space_nl) (by rw [nlCount_append, nlCount_nl]; omega)
  | semi sb =>
    refine ⟨?_, fun fuel L l0 last acc hf hl hle hbs => ?_⟩
    · simp only [Terminator.text, List.append_assoc]
      exact stopsAt_space_append _ _ _ (inlineB_space ht) (by rfl)
    obtain ⟨f, rfl⟩ : ∃ f, fuel = f + 1 := ⟨fuel - 1, by omega⟩
    have hsc := nextWord_value_semicolon sb (linesStr ls ++ (ind ++ X)) L (inlineB_space ht)
    refine ⟨⟨linesStr ls ++ (ind ++ X), L + nlCount sb⟩, ?_, ?_⟩
    · unfold nextWord
      simp only [Terminator.text]
      rw [struct_skip_lines ls hls, nlCount_append, inlineB_nl ht]
      rfl
    · simp only [Terminator.text, List.append_assoc, List.cons_append, List.nil_append]
      exact cAA_semicolon f _ _ last _ acc hsc rfl rfl
  | comment sb cmt =>
    simp only [Terminator.wf, Bool.and_eq_true, Bool.not_eq_true', List.isEmpty_eq_false_iff] at ht
    obtain ⟨⟨⟨h1, h2⟩, h3⟩, h4⟩ := ht
    refine ⟨?_, fun fuel L l0 last acc hf hl hle hbs => ?_⟩
    · cases sb with
      | nil => exact absurd rfl h2
      | cons d ds => exact ends_of_isSpace _ (inlineB_space h1 d (by simp))
    have e : (Terminator.comment sb cmt).text ++ (linesStr ls ++ (ind ++ X))
        = sb ++ '#' :: (cmt ++ '\n' :: (linesStr ls ++ (ind ++ X))) := by
      simp [Terminator.text]
    obtain ⟨tb, htb, hbody⟩ := cAA_comment_line sb cmt (linesStr ls ++ (ind ++ X)) L
      (inlineB_space h1) h3 h4 (firstNonSpace_fill ind X hind hX ls hls) fuel last acc (by
        rw [e] at hf
        simp only [List.length_append, List.length_cons] at hf; omega)
    refine ⟨_, ?_, by rw [e]; exact hbody⟩
    have hn : nlCount (Terminator.comment sb cmt).text = 1 := by
      simp only [Terminator.text]
      rw [nlCount_append, inlineB_nl h1, nlCount_cons_ne _ _ (by decide), nlCount_append,
        nlCount_of_not_mem (commentOk_no_nl cmt _ _ h4), nlCount_nl]
    show nextWord structSettings _ = _
    rw [nextWord_inline_space structSettings tb _ _ htb, nextWord_newline,
      struct_skip_lines ls hls, hn, inlineB_nl h1]
  | eof =>
    -- blanks at most, then the end of the text or `}`
    obtain ⟨rfl, hX'⟩ := heof rfl
    rcases hX' with rfl | ⟨r, rfl⟩
    · refine ⟨stopsAt_space_append _ ind [] (inlineB_space hind) rfl,
        fun fuel L l0 last acc hf hl hle hbs => ?_⟩
      obtain ⟨f, rfl⟩ : ∃ f, fuel = f + 1 := ⟨fuel - 1, by omega⟩
      refine ⟨⟨ind, L⟩, ?_, ?_⟩
      · simp only [Terminator.text, nlCount_nil, List.length_nil, Nat.add_zero, List.append_nil]
        rfl
      · simp only [Terminator.text, linesStr, List.nil_append, List.append_nil]
        exact cAA_end f _ last false acc (nextWordAux_blank_eof valueSettings ind L (inlineB_space hind))
    · exact ⟨stopsAt_space_append _ ind _ (inlineB_space hind) (by rfl),
        fun fuel L l0 last acc hf hl hle hbs => by
          obtain ⟨f, rfl⟩ : ∃ f, fuel = f + 1 := ⟨fuel - 1, by omega⟩
          exact ⟨⟨ind ++ '}' :: r, L⟩, rfl,
            cAA_close_l2 f _ _ last _ acc
              (nextWord_single valueSettings ind '}' r L (inlineB_space hind) rfl rfl rfl rfl) rfl rfl⟩⟩

/-! ### `!` in front of a definition -/

theorem nextWordAux_bang_dot_l2 (b : Bool) (n rest : Str) (l : Nat)
    (hch : ∀ d ∈ n, isIdCont d = true) (hstop : stopsAt structSettings rest = true) :
    nextWordAux structSettings false (bangText_l2 b ++ ('.' :: n ++ rest)) l
      = .ok (some ({ value := bangText_l2 b ++ '.' :: n, quote := none, line := some l }, ⟨rest, l⟩)) :=
  nextWordAux_bang_word_l2 b '.' n rest l (by rfl) (by rfl) (by rfl)
    (fun x hx => idCont_not_ends (hch x hx)) hstop

theorem bang_name_nextOK_l2 (b : Bool) {nm : Str} (h : ItemName nm) (rest : Str) :
    NextOK (bangText_l2 b ++ (nm ++ rest)) := by
  obtain ⟨c, w, rfl, hs, _⟩ := h.chars
  have hx := idStart_cont hs
  obtain ⟨_, _, _, h4, h5, _⟩ := idCont_facts hx
  cases b with
  | true => exact NextOK_cons _ rfl ⟨rfl, by decide, by decide⟩
  | false => exact NextOK_cons _ (idCont_not_space hx) ⟨idCont_not_quote hx, h4, h5⟩

/-! ### flat documents with attributes: data -/

/-- one item of a flat document with attributes -/
inductive AItem
  /-- `[!]name = words` -/
  | defn (d : DefSpec) (L : DefLayout) (b : Bool)
  /-- `[!].n = words` -/
  | attr (n : String) (ws : List Word) (L : DefLayout) (b : Bool)
  deriving Repr, DecidableEq

def AItem.lay : AItem → DefLayout
  | .defn _ L _ => L
  | .attr _ _ L _ => L

def AItem.bang : AItem → Bool
  | .defn _ _ b => b
  | .attr _ _ _ b => b

/-- head word and words of the item, as a `DefSpec` (so that `defText` renders both kinds) -/
def AItem.spec : AItem → DefSpec
  | .defn d _ _ => d
  | .attr n ws _ _ => (attrLead n, ws)

def AItem.isDefn : AItem → Bool
  | .defn .. => true
  | .attr .. => false

/-- the text of an item from its `!` (or first character of the head word) on -/
def AItem.body (x : AItem) : Str := bangText_l2 x.bang ++ defText x.spec x.lay

/-- the text of a flat document with attributes -/
def renderA : List AItem → Pre → Str
  | [], post => post.text
  | x :: rest, post => x.lay.pre.text ++ (x.body ++ renderA rest post)

/-- the value an attribute assignment gives (`definition.assign_attribute`), computed from the words
    without their source lines; `none` = the conversion raises -/
def attrValOf (n : String) (ws : List Word) : Option AttrVal :=
  (defAttrValue n (ws.map Word.erase)).toOption

/-- an attribute assignment the theorems are stated for: a known attribute name, a non-empty value of
    good words, and — unless the assignment is commented out by `!` — a value the converter accepts -/
def goodAttr (n : String) (ws : List Word) (b : Bool) : Bool :=
  defAttrNames.contains n && !ws.isEmpty && ws.all goodWord && chainOK true ws &&
    (b || (attrValOf n ws).isSome)

def AItem.wf : AItem → Bool
  | .defn d L _ => goodDef d && wfDef d L
  | .attr n ws L b => goodAttr n ws b && wfDef (attrLead n, ws) L

/-- every item good, every layout well formed, the end-of-text terminator only on the last item with
    nothing but blanks after it -/
def wfItems : List AItem → Pre → Bool
  | [], post => post.wf
  | x :: rest, post =>
    x.wf && (!x.lay.term.isEof || (rest.isEmpty && post.lines.isEmpty)) && wfItems rest post

/-- the first item (if any) is a definition -/
def startsDefn : List AItem → Bool
  | [] => true
  | x :: _ => x.isDefn

/-- the input class of the flat theorems -/
def wfDocA (xs : List AItem) (post : Pre) : Bool := wfItems xs post && startsDefn xs

/-- what an attribute item does to the active definition -/
def applyAttr (pending : Option Obj) (n : String) (ws : List Word) (b : Bool) : Option Obj :=
  if b then pending else pending.map (fun o => o.addAttr n ((attrValOf n ws).getD .none))

/-- **what the parser builds** from the items, by recursion over the items: `l` is the line on which
    the filler in front of the first item starts, `i` the next primary id, `pending` the active
    definition (it is emitted when the next definition starts or at the end) -/
def parsedA : Nat → Nat → Option Obj → List AItem → List Obj
  | _, _, pending, [] => pending.toList
  | l, i, pending, .defn d L b :: rest =>
    pending.toList ++
      parsedA (endLine (l + L.pre.lines.length) d.2 + nlCount L.term.text) (i + 1)
        (some (.defn { name := d.1, id := some i, disabled := b, line := some (l + L.pre.lines.length) }
          (reline (l + L.pre.lines.length) d.2))) rest
  | l, i, pending, .attr n ws L b :: rest =>
    parsedA (endLine (l + L.pre.lines.length) ws + nlCount L.term.text) i (applyAttr pending n ws b) rest

/-! ### attribute values do not depend on the source lines of the words -/

theorem toOption_error_la {α : Type} (e : Err) : (Except.error e : R α).toOption = none := rfl

theorem boolFromWords_erase_la (ws : List Word) :
    (boolFromWords (ws.map Word.erase)).toOption = (boolFromWords ws).toOption := by
  unfold boolFromWords
  rw [strFromWords_erase_la]
  cases strFromWords ws <;> try rfl
  simp only []
  split
  · rfl
  · split
    · rfl
    · split <;> split <;> rfl

theorem intFromWordsLit_erase_la (ws : List Word) :
    (intFromWordsLit (ws.map Word.erase)).toOption = (intFromWordsLit ws).toOption := by
  unfold intFromWordsLit
  rw [strFromWords_erase_la]
  cases strFromWords ws <;> try rfl
  simp only []
  split
  · rfl
  · rfl

theorem toOption_ite_error_la {α : Type} (c : Prop) [Decidable c] (e : Err) (x : R α) :
    (if c then .error e else x : R α).toOption = if c then none else x.toOption := by
  split <;> rfl

/-- the source line is only cited in errors.  (The conditions in front of the match on the type name
    are decided by `cases` and `rw`: `split` on the whole body is slow.) -/
theorem convFromExpr_line_la (e : Str) (l l' : Option Nat) :
    (convFromExpr e l).toOption = (convFromExpr e l').toOption := by
  unfold convFromExpr
  rcases splitCall e with _ | ⟨name, argText⟩
  · rfl
  · dsimp only
    cases builtinTypeNames.contains (String.ofList name) with
    | false =>
      rw [if_pos (by decide : (!false) = true), if_pos (by decide : (!false) = true)]
      cases argText <;> rfl
    | true =>
      rw [if_neg (by decide : ¬(!true) = true), if_neg (by decide : ¬(!true) = true)]
      rcases parseArgs (argText.getD []) with _ | args
      · rfl
      · dsimp only
        cases hasDup args with
        | true => rfl
        | false =>
          rw [if_neg Bool.false_ne_true, if_neg Bool.false_ne_true]
          have hs : ∀ c : Conv,
              (if args.isEmpty then .ok c else .error (errConstruct l) : R Conv).toOption
                = (if args.isEmpty then .ok c else .error (errConstruct l') : R Conv).toOption :=
            fun c => by split <;> rfl
          split
          iterate 7 exact hs _
          -- `choice` and the numeric types: first the keywords are checked
          all_goals rw [toOption_ite_error_la, toOption_ite_error_la]
          -- the numeric types: the arguments are read, then the bounds are checked
          all_goals
            congr 1
            split
            · rw [toOption_ite_error_la, toOption_ite_error_la]
            · rfl

theorem toOption_map_la {α β : Type} (f : α → β) (x : R α) : (x.map f).toOption = x.toOption.map f := by
  cases x <;> rfl

theorem toOption_some_la {α : Type} {x : R α} {v : α} (h : x.toOption = some v) : x = .ok v := by
  cases x with
  | error e => cases h
  | ok a => simp only [Except.toOption, Option.some.injEq] at h; rw [h]

theorem defAttrValue_erase_la (n : String) (ws : List Word) :
    (defAttrValue n (ws.map Word.erase)).toOption = (defAttrValue n ws).toOption := by
  unfold defAttrValue
  split
  · exact boolFromWords_erase_la ws
  · split
    · rw [isPlainNone_erase_la, isPlainAuto_erase_la, strFromWords_erase_la]
      split
      · rfl
      · split
        · rfl
        · cases strFromWords ws <;> try rfl
          simp only [toOption_map_la]
          rw [convFromExpr_line_la]
    · split
      · exact intFromWordsLit_erase_la ws
      · rw [strFromWords_erase_la]

/-! ### the structure tokenizer on `[!].name`; one turn of `collect_objects` for an attribute -/

theorem defAttrNames_chars_la : ∀ n ∈ defAttrNames, ∀ d ∈ n.toList, isIdCont d = true := by
  decide +kernel

theorem nextWordAux_bang_attr_la (b : Bool) (n : String) (rest : Str) (l : Nat)
    (hn : defAttrNames.contains n = true) (hstop : stopsAt structSettings rest = true) :
    nextWordAux structSettings false (bangText_l2 b ++ (attrLead n ++ rest)) l
      = .ok (some ({ value := bangText_l2 b ++ attrLead n, quote := none, line := some l }, ⟨rest, l⟩)) :=
  nextWordAux_bang_dot_l2 b n.toList rest l (defAttrNames_chars_la n (by simpa using hn)) hstop

theorem wfItems_cons_la {x : AItem} {rest : List AItem} {post : Pre}
    (h : wfItems (x :: rest) post = true) :
    x.wf = true ∧ (x.lay.term.isEof = true → rest = [] ∧ post.lines = []) ∧ wfItems rest post = true := by
  simp only [wfItems, Bool.and_eq_true, Bool.or_eq_true, Bool.not_eq_true', List.isEmpty_iff] at h
  obtain ⟨⟨h1, h3⟩, h4⟩ := h
  refine ⟨h1, ?_, h4⟩
  intro he
  rcases h3 with h3 | h3
  · rw [he] at h3; cases h3
  · exact h3

/-! ### plain flat documents -/

theorem wfDoc_cons {d : DefSpec} {L : DefLayout} {rest : List (DefSpec × DefLayout)} {post : Pre}
    (h : wfDoc ((d, L) :: rest) post = true) :
    goodDef d = true ∧ wfDef d L = true ∧
      (L.term.isEof = true → rest = [] ∧ post.lines = []) ∧ wfDoc rest post = true := by
  simp only [wfDoc, Bool.and_eq_true, Bool.or_eq_true, Bool.not_eq_true', List.isEmpty_iff] at h
  obtain ⟨⟨⟨h1, h2⟩, h3⟩, h4⟩ := h
  refine ⟨h1, h2, ?_, h4⟩
  intro he
  rcases h3 with h3 | h3
  · rw [he] at h3; cases h3
  · exact h3

/-- what the parser builds: ids in order from `i`; `l` is the line on which the filler in front of
    the first name starts -/
def parsedLay : Nat → Nat → List (DefSpec × DefLayout) → List Obj
  | _, _, [] => []
  | l, i, (d, L) :: rest =>
    .defn { name := d.1, id := some i, line := some (l + L.pre.lines.length) }
        (reline (l + L.pre.lines.length) d.2)
      :: parsedLay (endLine (l + L.pre.lines.length) d.2 + nlCount L.term.text) (i + 1) rest

/-! ### the tree does not depend on the layout; ids -/

/-- the abstract tree of a flat document: no ids, no source lines -/
def treeOf (specs : List DefSpec) : List Obj :=
  specs.map (fun d => .defn { name := d.1 } (d.2.map Word.erase))

theorem parsedLay_erase (ds : List (DefSpec × DefLayout)) : ∀ l i,
    eraseList (parsedLay l i ds) = treeOf (ds.map Prod.fst) := by
  induction ds with
  | nil => intro l i; simp [parsedLay, treeOf, eraseList]
  | cons x rest ih =>
    obtain ⟨d, L⟩ := x
    intro l i
    simp only [parsedLay, eraseList_cons, ih, treeOf, List.map_cons]
    simp [Obj.erase, reline_erase, Meta.erase]

theorem treeOf_erase (specs : List DefSpec) : eraseList (treeOf specs) = treeOf specs := by
  induction specs with
  | nil => simp [treeOf, eraseList]
  | cons d ds ih =>
    simp only [treeOf, List.map_cons, eraseList_cons] at ih ⊢
    rw [ih]
    simp [Obj.erase, Meta.erase, Word.erase]

theorem parsedLay_ids (ds : List (DefSpec × DefLayout)) : ∀ l i,
    (parsedLay l i ds).map (fun x => x.meta.id) = (List.range' i ds.length).map some := by
  induction ds with
  | nil => intro l i; rfl
  | cons x rest ih =>
    obtain ⟨d, L⟩ := x
    intro l i
    simp only [parsedLay, List.map_cons, List.length_cons, List.range'_succ, ih]
    rfl

/-! ### source lines in terms of the text in front -/

theorem nlCount_escape (q : Char) (hq : q ≠ '\n') (s : Str) : nlCount (escape q s) = nlCount s := by
  induction s with
  | nil => rfl
  | cons c cs ih =>
    rw [escape]
    split
    · rename_i h
      have hc : c = '\\' := by simpa using h
      rw [nlCount_cons_ne _ _ (by decide), nlCount_cons_ne _ _ (by decide), ih, hc,
        nlCount_cons_ne _ _ (by decide)]
    · split
      · rename_i _ h
        have hc : c = q := by simpa using h
        rw [nlCount_cons_ne _ _ (by decide), nlCount_cons_ne _ _ hq, ih, hc, nlCount_cons_ne _ _ hq]
      · rw [nlCount_cons c, nlCount_cons c cs, ih]

theorem nlCount_token (q : Quote) : nlCount q.token = 0 := by cases q <;> decide

theorem nlCount_str (w : Word) : nlCount w.str = nlCount w.value := by
  cases hq : w.quote with
  | none => simp [Word.str, hq]
  | some q =>
    have hn : q.char ≠ '\n' := by cases q <;> decide
    simp only [Word.str, hq, quoteStr]
    rw [nlCount_append, nlCount_append, nlCount_token, nlCount_escape _ hn]; omega

/-- the words of a value, each with the line computed from the text in front of it -/
def linedWords (before : Str) : List Str → List Word → List Word
  | g :: gs, w :: ws =>
    { w with line := some (1 + nlCount (before ++ g)) } :: linedWords (before ++ (g ++ w.str)) gs ws
  | _, _ => []

/-- the definitions of a document, each with the line computed from the text in front of its name
    and its words with the lines computed from the text in front of each -/
def linedObjs (before : Str) (i : Nat) : List (DefSpec × DefLayout) → List Obj
  | [] => []
  | (d, L) :: rest =>
    .defn { name := d.1, id := some i, line := some (1 + nlCount (before ++ L.pre.text)) }
        (linedWords (before ++ L.pre.text ++ d.1 ++ L.sp1 ++ ['=']) L.gaps d.2)
      :: linedObjs (before ++ (L.pre.text ++ defText d L)) (i + 1) rest

theorem nlCount_wordsLay (ws : List Word) :
    ∀ (gaps : List Str) (first : Bool), gapsOK first gaps ws = true →
      nlCount (wordsLay gaps ws) = nlCount (ws.flatMap (·.value)) := by
  induction ws with
  | nil => intro gaps first h; rw [gapsOK_nil_right h]; rfl
  | cons w ws ih =>
    intro gaps first h
    obtain ⟨g, gs, rfl, hg, _, hgs⟩ := gapsOK_cons_right h
    rw [wordsLay, nlCount_append, nlCount_append, inlineB_nl hg, nlCount_str, ih gs false hgs,
      List.flatMap_cons, nlCount_append]; omega

theorem nlCount_eq : nlCount ['='] = 0 := by decide

/-! ### explicit prefixes of the rendered text -/

/-- the text in front of the name of definition `k` -/
def beforeName : List (DefSpec × DefLayout) → Nat → Str
  | [], _ => []
  | (_, L) :: _, 0 => L.pre.text
  | (d, L) :: rest, k + 1 => L.pre.text ++ (defText d L ++ beforeName rest k)

/-- inside a value: the text in front of word `j` -/
def beforeWordIn : List Str → List Word → Nat → Str
  | g :: _, _ :: _, 0 => g
  | g :: gs, w :: ws, j + 1 => g ++ (w.str ++ beforeWordIn gs ws j)
  | _, _, _ => []

/-- the text in front of word `j` of definition `k` -/
def beforeWord (ds : List (DefSpec × DefLayout)) (k j : Nat) : Str :=
  match ds[k]? with
  | some (d, L) => beforeName ds k ++ (d.1 ++ (L.sp1 ++ ('=' :: beforeWordIn L.gaps d.2 j)))
  | none => []

theorem beforeWordIn_prefix (ws : List Word) :
    ∀ (gaps : List Str) (j : Nat) (w : Word), gaps.length = ws.length → ws[j]? = some w →
      ∃ tail, wordsLay gaps ws = beforeWordIn gaps ws j ++ (w.str ++ tail) := by
  induction ws with
  | nil => intro gaps j w _ h; simp at h
  | cons w0 ws ih =>
    intro gaps j w hlen h
    cases gaps with
    | nil => simp at hlen
    | cons g gs =>
      cases j with
      | zero =>
        simp only [List.getElem?_cons_zero, Option.some.injEq] at h
        subst h
        exact ⟨wordsLay gs ws, by simp [wordsLay, beforeWordIn]⟩
      | succ j =>
        simp only [List.getElem?_cons_succ] at h
        obtain ⟨tail, ht⟩ := ih gs j w (by simpa using hlen) h
        exact ⟨tail, by simp [wordsLay, beforeWordIn, ht]⟩

theorem gapsOK_length (ws : List Word) : ∀ (gaps : List Str) (first : Bool),
    gapsOK first gaps ws = true → gaps.length = ws.length := by
  induction ws with
  | nil => intro gaps first h; rw [gapsOK_nil_right h]; rfl
  | cons w ws ih =>
    intro gaps first h
    obtain ⟨g, gs, rfl, _, _, hgs⟩ := gapsOK_cons_right h
    simp [ih gs false hgs]

theorem linedWords_get (ws : List Word) :
    ∀ (gaps : List Str) (b : Str) (j : Nat) (w' : Word), gaps.length = ws.length →
      (linedWords b gaps ws)[j]? = some w' →
      ∃ w, ws[j]? = some w ∧ w' = { w with line := some (1 + nlCount (b ++ beforeWordIn gaps ws j)) } := by
  induction ws with
  | nil =>
    intro gaps b j w' hlen h
    cases gaps <;> simp [linedWords] at h
  | cons w0 ws ih =>
    intro gaps b j w' hlen h
    cases gaps with
    | nil => simp at hlen
    | cons g gs =>
      cases j with
      | zero =>
        simp only [linedWords, List.getElem?_cons_zero, Option.some.injEq] at h
        exact ⟨w0, rfl, by rw [← h]; rfl⟩
      | succ j =>
        simp only [linedWords, List.getElem?_cons_succ] at h
        obtain ⟨w, hw, e⟩ := ih gs _ j w' (by simpa using hlen) h
        refine ⟨w, by simpa using hw, ?_⟩
        rw [e]
        simp [beforeWordIn]

theorem linedWords_length (ws : List Word) : ∀ (gaps : List Str) (b : Str),
    gaps.length = ws.length → (linedWords b gaps ws).length = ws.length := by
  induction ws with
  | nil => intro gaps b h; cases gaps <;> simp [linedWords]
  | cons w ws ih =>
    intro gaps b h
    cases gaps with
    | nil => simp at h
    | cons g gs => simp [linedWords, ih gs _ (by simpa using h)]

theorem wfDoc_mem {post : Pre} : ∀ {ds : List (DefSpec × DefLayout)}, wfDoc ds post = true →
    ∀ x ∈ ds, goodDef x.1 = true ∧ wfDef x.1 x.2 = true
  | (d, L) :: rest, h, x, hx => by
    obtain ⟨h1, h2, _, h4⟩ := wfDoc_cons h
    rcases List.mem_cons.mp hx with rfl | hx
    · exact ⟨h1, h2⟩
    · exact wfDoc_mem h4 x hx

theorem wfDef_gaps_length {d : DefSpec} {L : DefLayout} (h : wfDef d L = true) :
    L.gaps.length = d.2.length := by
  simp only [wfDef, Bool.and_eq_true] at h
  exact gapsOK_length d.2 L.gaps true h.1.2

end Phil
