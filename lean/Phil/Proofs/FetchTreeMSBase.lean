/-
  Phil.Proofs.FetchTreeMSBase — scope.fetch for NESTED masters WITH `.multiple` SCOPES (`MSMaster`): trees of
  enabled scopes — `.multiple` or not, `.multiple` ones optional or mandatory, nested in each other in any
  way — whose definitions are `DefnMeta` definitions (`.multiple` or not), names non-empty and dot-free,
  sibling names pairwise distinct (one master occurrence per name).  Extends Phil/Proofs/FetchTreeMulti.lean.
  This file holds what does not need the master loop: the specification (`msResult`, `msUsed`, `msNoClash`,
  `KeysDefinedMS`) with its executable forms, the fuel independence of the keys of scopes, the view of the result by
  name, and C06 / C04 on the specification.
  The closed form of the fetch itself (`fetch_ms_total`) and C07 are in Phil/Proofs/FetchTreeMS.lean, as the
  case without further master occurrences of Phil/Proofs/FetchTreeMS3.lean.
-/
import Phil.Proofs.FetchTreeMulti
import Phil.Proofs.ExtractTree
import Phil.Proofs.DiffSpec
namespace Phil

/-! ## 1. specification -/

/-- the block of a `.multiple` master SCOPE `mo`: given the master's own fetched block `self`
    (`master_object.fetch()`), the master key `k0` and the candidates with their keys `cks` in
    source order — the template (the master scope itself, flag `1` if nothing survives, else `-1`;
    for a mandatory scope the live default instance `self`) followed by the survivors of the list
    rule -/
def msMultiBlock (mo self : Obj) (k0 : Str) (cks : List (Obj × Str)) : List Obj :=
  (if (mo.attr "optional").mandatory then withTmpl self 0
   else withTmpl mo (if (dedupKeepLast (cks.filter (fun y => y.2 != k0))).isEmpty then 1 else -1)) ::
    (dedupKeepLast (cks.filter (fun y => y.2 != k0))).map (·.1)

/-- the key of the candidate `c` of the `.multiple` master scope `mo`:
    `mo.extract_format(source=c).as_str()`, computed with a fuel that depends on `mo` only -/
def keyMS (e : Envs) (mo c : Obj) : Str := keyOf e (depthT mo) mo c

mutual
/-- the block one master object contributes to the result, given the source objects at its level.
    Definitions: as in `tmBlock`.  A non-multiple scope: itself, rebuilt from the children of all
    enabled source scopes of its name.  A `.multiple` scope: the list rule over the enabled source
    scopes of its name, each instance being the fetch of the master scope's body against that ONE
    source block. -/
def msBlock (e : Envs) : Obj → List Obj → List Obj
  | .defn mm mws, srcs => tmBlock e (.defn mm mws) srcs
  | .scope mm kids, srcs =>
    if (mm.attrs.get "multiple").truthy then
      msMultiBlock (.scope mm kids) (.scope { mm with tmpl := 0 } (msResult e kids []))
        (keyMS e (.scope mm kids) (.scope { mm with tmpl := 0 } (msResult e kids [])))
        ((scopesNamed mm.name srcs).map (fun s =>
          (Obj.scope { mm with tmpl := 0 } (msResult e kids s.children),
           keyMS e (.scope mm kids) (Obj.scope { mm with tmpl := 0 } (msResult e kids s.children)))))
    else [.scope { mm with tmpl := 0 } (msResult e kids (srcStep srcs mm.name))]
/-- the children of the result scope: the blocks of the master children, in master order -/
def msResult (e : Envs) : List Obj → List Obj → List Obj
  | [], _ => []
  | mo :: rest, srcs => msBlock e mo srcs ++ msResult e rest srcs
end

mutual
def msUsedObj : Obj → List Obj → List Nat
  | .defn mm _, srcs => (defsNamed mm.name srcs).flatMap marksOf
  | .scope mm kids, srcs =>
    if (mm.attrs.get "multiple").truthy then
      (scopesNamed mm.name srcs).flatMap (fun s => msUsed kids s.children)
    else msUsed kids (srcStep srcs mm.name)
/-- the consumed ids, in the order the fetch marks them -/
def msUsed : List Obj → List Obj → List Nat
  | [], _ => []
  | mo :: rest, srcs => msUsedObj mo srcs ++ msUsed rest srcs
end

mutual
def msNoClashObj : Obj → List Obj → Bool
  | .defn mm _, srcs => (scopesNamed mm.name srcs).isEmpty
  | .scope mm kids, srcs =>
    (defsNamed mm.name srcs).isEmpty &&
      (if (mm.attrs.get "multiple").truthy then
        (scopesNamed mm.name srcs).all (fun s => msNoClash kids s.children)
       else msNoClash kids (srcStep srcs mm.name))
/-- no enabled source scope where the master has a definition, no enabled source definition where
    the master has a scope — at every depth, inside every instance -/
def msNoClash : List Obj → List Obj → Bool
  | [], _ => true
  | mo :: rest, srcs => msNoClashObj mo srcs && msNoClash rest srcs
end

mutual
def KeysDefinedMSObj (e : Envs) : Obj → List Obj → Prop
  | .defn mm mws, srcs =>
    isMultiple (.defn mm mws) = true → KeysDefined e 0 (.defn mm mws) (defsNamed mm.name srcs)
  | .scope mm kids, srcs =>
    if (mm.attrs.get "multiple").truthy then
      KeysDefinedMS e kids [] ∧
      (∃ k, extractFormatStr e (depthL kids + 1 + 64) (.scope mm kids)
              (.scope { mm with tmpl := 0 } (msResult e kids [])) = .ok k) ∧
      ∀ s ∈ scopesNamed mm.name srcs,
        KeysDefinedMS e kids s.children ∧
        ∃ k, extractFormatStr e (depthL kids + 1 + 64) (.scope mm kids)
              (.scope { mm with tmpl := 0 } (msResult e kids s.children)) = .ok k
    else KeysDefinedMS e kids (srcStep srcs mm.name)
/-- the keys the list rule compares are defined, at every `.multiple` master object: the master's
    own and those of the candidates built from the sources reached by its path -/
def KeysDefinedMS (e : Envs) : List Obj → List Obj → Prop
  | [], _ => True
  | mo :: rest, srcs => KeysDefinedMSObj e mo srcs ∧ KeysDefinedMS e rest srcs
end

mutual
def MSObj : Obj → Prop
  | .defn mm _ => DefnMeta mm ∧ mm.name ≠ [] ∧ '.' ∉ mm.name ∧ mm.disabled = false
  | .scope mm kids =>
    mm.name ≠ [] ∧ '.' ∉ mm.name ∧ mm.disabled = false ∧ MSKids kids ∧
      (kids.map Obj.name).Pairwise (· ≠ ·)
def MSKids : List Obj → Prop
  | [] => True
  | o :: os => MSObj o ∧ MSKids os
end

/-- a master tree with `.multiple` scopes: enabled definitions (not `.deprecated`, not choices;
    `.multiple` or not) and enabled scopes (`.multiple` or not, optional or mandatory) of such objects
    to any depth, names non-empty and dot-free, sibling names pairwise distinct -/
structure MSMaster (mkids : List Obj) : Prop where
  kids : MSKids mkids
  distinct : (mkids.map Obj.name).Pairwise (· ≠ ·)

/-! ### executable forms -/

mutual
def msObjB : Obj → Bool
  | .defn mm _ => defnMetaB_tm mm && !mm.name.isEmpty && !mm.name.contains '.' && !mm.disabled
  | .scope mm kids =>
    !mm.name.isEmpty && !mm.name.contains '.' && !mm.disabled &&
      msKidsB kids && decide ((kids.map Obj.name).Pairwise (· ≠ ·))
def msKidsB : List Obj → Bool
  | [] => true
  | o :: os => msObjB o && msKidsB os
end

def msMasterB (mkids : List Obj) : Bool :=
  msKidsB mkids && decide ((mkids.map Obj.name).Pairwise (· ≠ ·))

mutual
def keysDefinedMSObjB (e : Envs) : Obj → List Obj → Bool
  | .defn mm mws, srcs =>
    !isMultiple (.defn mm mws) || keysDefinedB e 0 (.defn mm mws) (defsNamed mm.name srcs)
  | .scope mm kids, srcs =>
    if (mm.attrs.get "multiple").truthy then
      keysDefinedMSB e kids [] &&
      (errOf (extractFormatStr e (depthL kids + 1 + 64) (.scope mm kids)
              (.scope { mm with tmpl := 0 } (msResult e kids [])))).isNone &&
      (scopesNamed mm.name srcs).all (fun s =>
        keysDefinedMSB e kids s.children &&
        (errOf (extractFormatStr e (depthL kids + 1 + 64) (.scope mm kids)
              (.scope { mm with tmpl := 0 } (msResult e kids s.children)))).isNone)
    else keysDefinedMSB e kids (srcStep srcs mm.name)
def keysDefinedMSB (e : Envs) : List Obj → List Obj → Bool
  | [], _ => true
  | mo :: rest, srcs => keysDefinedMSObjB e mo srcs && keysDefinedMSB e rest srcs
end

/-! ## 2. `extract_format` does not depend on the fuel (beyond the nesting depth) -/

theorem extractObj_fuel_ms (e : Envs) : ∀ (f1 f2 : Nat) (o : Obj), depthT o < f1 → depthT o < f2 →
    extractObj e f1 o = extractObj e f2 o := by
  intro f1
  induction f1 with
  | zero => intro f2 o h; exact absurd h (Nat.not_lt_zero _)
  | succ n ih =>
    intro f2 o h1 h2
    cases f2 with
    | zero => exact absurd h2 (Nat.not_lt_zero _)
    | succ m =>
      cases o with
      | defn mm ws => simp only [extractObj]
      | scope mm kids =>
        rw [extractObj_scope_xt, extractObj_scope_xt]
        congr 1
        apply foldlM_congr_mem
        intro a ha b
        have hd := depthT_le_depthL kids a ha
        rw [depthT] at h1 h2
        unfold xstep_xt
        rw [ih m a (by omega) (by omega)]

theorem fstep_congr_ms (F G : Obj → PVal → R Obj) (v : PVal) (st : List Obj × List (Str × Bool))
    (io : Nat × Obj) (h : F io.2 = G io.2) : fstepP F v st io = fstepP G v st io := by
  unfold fstepP finnerP fmtAppP
  simp only [h]

theorem formatObj_fuel_ms (e : Envs) : ∀ (f1 f2 : Nat) (o : Obj) (v : PVal), depthT o < f1 → depthT o < f2 →
    formatObj e f1 o v = formatObj e f2 o v := by
  intro f1
  induction f1 with
  | zero => intro f2 o v h; exact absurd h (Nat.not_lt_zero _)
  | succ n ih =>
    intro f2 o v h1 h2
    cases f2 with
    | zero => exact absurd h2 (Nat.not_lt_zero _)
    | succ m =>
      cases o with
      | defn mm ws => simp only [formatObj]
      | scope mm kids =>
        rw [formatObj_scope_xt, formatObj_scope_xt]
        cases hact : masterActiveObjects kids with
        | error err => rfl
        | ok actives =>
          simp only
          rw [foldlM_congr_mem (fstepP (formatObj e n) v) (fstepP (formatObj e m) v) actives]
          intro a ha b
          apply fstep_congr_ms
          funext x
          have hd := depthT_le_depthL kids a.2
            (snd_mem_of_mem_indexed (List.mem_filter.mp ((masterActive_sublist kids actives hact).subset ha)).1)
          rw [depthT] at h1 h2
          exact ih m a.2 x (by omega) (by omega)

/-- **the rendering `master.extract_format(source=c).as_str()` does not depend on the fuel** once the
    fuel exceeds the nesting depths of master and candidate -/
theorem extractFormatStr_fuel_ms (e : Envs) (f1 f2 : Nat) (mo c : Obj)
    (hm1 : depthT mo < f1) (hm2 : depthT mo < f2) (hc1 : depthT c < f1) (hc2 : depthT c < f2) :
    extractFormatStr e f1 mo c = extractFormatStr e f2 mo c := by
  unfold extractFormatStr
  rw [extractObj_fuel_ms e f1 f2 c hc1 hc2]
  cases extractObj e f2 c with
  | error err => rfl
  | ok v =>
    simp only
    rw [formatObj_fuel_ms e f1 f2 mo v hm1 hm2]

/-! ## 3. list forms, projections -/

theorem msResult_eq_flatMap (e : Envs) (srcs : List Obj) : ∀ (mkids : List Obj),
    msResult e mkids srcs = mkids.flatMap (fun mo => msBlock e mo srcs)
  | [] => by rw [msResult]; rfl
  | mo :: rest => by rw [msResult, msResult_eq_flatMap e srcs rest]; rfl

theorem msUsed_eq_flatMap (srcs : List Obj) : ∀ (mkids : List Obj),
    msUsed mkids srcs = mkids.flatMap (fun mo => msUsedObj mo srcs)
  | [] => by rw [msUsed]; rfl
  | mo :: rest => by rw [msUsed, msUsed_eq_flatMap srcs rest]; rfl

theorem msNoClash_eq_all (srcs : List Obj) : ∀ (mkids : List Obj),
    msNoClash mkids srcs = mkids.all (fun mo => msNoClashObj mo srcs)
  | [] => by rw [msNoClash]; rfl
  | mo :: rest => by rw [msNoClash, msNoClash_eq_all srcs rest]; rfl

theorem msKids_iff : ∀ (l : List Obj), MSKids l ↔ ∀ o ∈ l, MSObj o
  | [] => by rw [MSKids]; simp
  | o :: os => by rw [MSKids, msKids_iff os]; simp

theorem MSMaster.of_scope {mm : Meta} {kids : List Obj} (h : MSObj (.scope mm kids)) : MSMaster kids := by
  rw [MSObj] at h
  exact ⟨h.2.2.2.1, h.2.2.2.2⟩

theorem MSMaster.obj {mkids : List Obj} (h : MSMaster mkids) : ∀ o ∈ mkids, MSObj o :=
  (msKids_iff mkids).mp h.kids

theorem MSObj.enabled : ∀ {o : Obj}, MSObj o → o.meta.disabled = false
  | .defn mm _, h => by rw [MSObj] at h; exact h.2.2.2
  | .scope mm _, h => by rw [MSObj] at h; exact h.2.2.1

theorem MSObj.name_ne : ∀ {o : Obj}, MSObj o → o.name ≠ []
  | .defn mm _, h => by rw [MSObj] at h; exact h.2.1
  | .scope mm _, h => by rw [MSObj] at h; exact h.1

theorem MSObj.dotfree : ∀ {o : Obj}, MSObj o → '.' ∉ o.name
  | .defn mm _, h => by rw [MSObj] at h; exact h.2.2.1
  | .scope mm _, h => by rw [MSObj] at h; exact h.2.1

theorem msObj_pathClass : TreePathClass MSObj :=
  ⟨MSObj.dotfree, MSObj.enabled, fun h => (MSMaster.of_scope h).obj⟩

theorem TMObj.toMS : ∀ {o : Obj}, TMObj o → MSObj o
  | .defn mm mws, h => by rw [TMObj] at h; rw [MSObj]; exact h
  | .scope mm kids, h => by
    rw [TMObj] at h; rw [MSObj]
    refine ⟨h.2.1, h.2.2.1, h.2.2.2.1, ?_, h.2.2.2.2.2⟩
    exact (msKids_iff kids).mpr (fun o ho => TMObj.toMS ((tmKids_iff kids).mp h.2.2.2.2.1 o ho))

theorem TreeMultiMaster.toMS {mkids : List Obj} (h : TreeMultiMaster mkids) : MSMaster mkids :=
  ⟨(msKids_iff mkids).mpr (fun o ho => (h.obj o ho).toMS), h.distinct⟩

mutual
theorem msBlock_eq_tm_it2 (e : Envs) : ∀ (mo : Obj) (srcs : List Obj), TMObj mo →
    msBlock e mo srcs = tmBlock e mo srcs
  | .defn mm mws, srcs, _ => by rw [msBlock]
  | .scope mm kids, srcs, h => by
    rw [TMObj] at h
    rw [msBlock, tmBlock]
    simp only [h.1, Bool.false_eq_true, if_false]
    rw [msResult_eq_tm_it2 e kids _ h.2.2.2.2.1]
theorem msResult_eq_tm_it2 (e : Envs) : ∀ (l : List Obj) (srcs : List Obj), TMKids l →
    msResult e l srcs = treeMultiResult e l srcs
  | [], srcs, _ => by rw [msResult, treeMultiResult]
  | mo :: rest, srcs, h => by
    rw [TMKids] at h
    rw [msResult, treeMultiResult, msBlock_eq_tm_it2 e mo srcs h.1, msResult_eq_tm_it2 e rest srcs h.2]
end

theorem masterActive_ms (mkids : List Obj) (hf : MSMaster mkids) :
    masterActiveObjects mkids = .ok (indexed mkids) :=
  masterActive_of_distinct mkids (fun o ho => (hf.obj o ho).enabled) hf.distinct

/-! ### the members of a block; the nesting depth of the result -/

theorem mem_msMultiBlock {mo self : Obj} {k0 : Str} {cks : List (Obj × Str)} {o : Obj}
    (h : o ∈ msMultiBlock mo self k0 cks) :
    o = withTmpl self 0 ∨ (∃ t, o = withTmpl mo t) ∨ ∃ x ∈ cks, o = x.1 := by
  unfold msMultiBlock at h
  rw [List.mem_cons] at h
  rcases h with h | h
  · split at h
    · exact .inl h
    · exact .inr (.inl ⟨_, h⟩)
  · obtain ⟨x, hx, rfl⟩ := List.mem_map.mp h
    exact .inr (.inr ⟨x, (List.mem_filter.mp ((dedupKeepLast_sublist _).subset hx)).1, rfl⟩)

theorem depthT_withTmpl_ms (o : Obj) (t : Int) : depthT (withTmpl o t) = depthT o := by
  cases o with
  | defn m ws => unfold withTmpl Obj.withMeta; rw [depthT, depthT]
  | scope m kids => unfold withTmpl Obj.withMeta; rw [depthT, depthT]

theorem depthL_append_ms : ∀ (a b : List Obj), depthL (a ++ b) = Nat.max (depthL a) (depthL b)
  | [], b => by rw [depthL, List.nil_append]; exact (Nat.zero_max _).symm
  | o :: a, b => by
    rw [List.cons_append, depthL, depthL, depthL_append_ms a b]
    exact (Nat.max_assoc _ _ _).symm

mutual
theorem depthL_msBlock (e : Envs) : ∀ (mo : Obj) (srcs : List Obj), depthL (msBlock e mo srcs) ≤ depthT mo
  | .defn mm mws, srcs => by
    rw [msBlock, tmBlock]
    apply depthL_le_of_forall
    intro o ho
    rcases blockMem_blockL e 0 _ _ o ho with ⟨t, rfl⟩ | ⟨d, _, rfl⟩ <;> exact Nat.le_refl _
  | .scope mm kids, srcs => by
    rw [msBlock]
    split
    · apply depthL_le_of_forall
      intro o ho
      rcases mem_msMultiBlock ho with rfl | ⟨t, rfl⟩ | ⟨x, hx, rfl⟩
      · rw [depthT_withTmpl_ms, depthT, depthT]
        exact Nat.succ_le_succ (depthL_msResult e kids [])
      · rw [depthT_withTmpl_ms]; exact Nat.le_refl _
      · obtain ⟨s, _, rfl⟩ := List.mem_map.mp hx
        show depthT (Obj.scope _ _) ≤ _
        rw [depthT, depthT]
        exact Nat.succ_le_succ (depthL_msResult e kids s.children)
    · rw [depthL, depthL, depthT, depthT]
      exact Nat.max_le.mpr ⟨Nat.succ_le_succ (depthL_msResult e kids _), Nat.zero_le _⟩
theorem depthL_msResult (e : Envs) : ∀ (mkids : List Obj) (srcs : List Obj),
    depthL (msResult e mkids srcs) ≤ depthL mkids
  | [], srcs => by rw [msResult]; exact Nat.le_refl _
  | mo :: rest, srcs => by
    rw [msResult, depthL_append_ms, depthL]
    exact Nat.max_le.mpr ⟨Nat.le_trans (depthL_msBlock e mo srcs) (Nat.le_max_left _ _),
      Nat.le_trans (depthL_msResult e rest srcs) (Nat.le_max_right _ _)⟩
end

/-! ## 4. candidates of a master scope; clashes -/

theorem candOf_scope_ok (F : FetchFn) (e : Envs) (fuel : Nat) (d : Bool) (mm : Meta) (kids : List Obj)
    (b : Bool) (m' : Meta) (sk : List Obj) (ro : Obj) (u : List Nat) (h : F d mm kids sk = .ok (ro, u)) :
    candOf F e fuel d (.scope mm kids) b (.scope m' sk) =
      .ok ((if d && ro.children.isEmpty then none else some ro), if b then [] else u) := by
  unfold candOf
  simp only [h]
  rfl

theorem activeNamed_eq_scopesNamed_ms (n : Str) (l : List Obj) (h : defsNamed n l = []) :
    activeNamed n l = scopesNamed n l := by
  unfold activeNamed scopesNamed
  apply List.filter_congr
  intro o ho
  have : (o.isDefn && !o.meta.disabled && o.name == n) = false := by
    unfold defsNamed at h
    rw [List.filter_eq_nil_iff] at h
    simpa using h o ho
  unfold Obj.isScope
  cases hd : o.isDefn with
  | false => simp
  | true => rw [hd] at this; simpa using this

theorem msNoClash_nil_src : ∀ (mkids : List Obj), msNoClash mkids [] = true
  | [] => by rw [msNoClash]
  | .defn mm mws :: rest => by
    rw [msNoClash, msNoClashObj, msNoClash_nil_src rest]; rfl
  | .scope mm kids :: rest => by
    rw [msNoClash, msNoClashObj, msNoClash_nil_src rest]
    split
    · rfl
    · show (true && msNoClash kids []) && true = true
      rw [msNoClash_nil_src kids]; rfl

/-! ## 5. the instances of a master scope: fuel, key -/

/-- the instance the master scope `.scope mm kids` builds from the source objects `sk` -/
abbrev msCand (e : Envs) (mm : Meta) (kids sk : List Obj) : Obj :=
  .scope { mm with tmpl := 0 } (msResult e kids sk)

theorem extractFormatStr_inst_fuel_ms (e : Envs) (fuel : Nat) (mm : Meta) (kids body : List Obj)
    (hb : depthL body ≤ depthL kids) (hdep : depthL kids + 1 ≤ fuel) :
    extractFormatStr e (fuel + 64) (.scope mm kids) (.scope { mm with tmpl := 0 } body) =
      extractFormatStr e (depthL kids + 1 + 64) (.scope mm kids) (.scope { mm with tmpl := 0 } body) := by
  have h1 : depthT (.scope mm kids) = depthL kids + 1 := by rw [depthT]
  have h2 : depthT (.scope { mm with tmpl := 0 } body) = depthL body + 1 := by rw [depthT]
  exact extractFormatStr_fuel_ms e _ _ _ _ (by omega) (by omega) (by omega) (by omega)

theorem keyMS_ok {e : Envs} {mm : Meta} {kids : List Obj} {c : Obj} {k : Str}
    (h : extractFormatStr e (depthL kids + 1 + 64) (.scope mm kids) c = .ok k) :
    keyMS e (.scope mm kids) c = k := by
  unfold keyMS keyOf
  rw [depthT, h]

/-! ## 6. keys, sources -/

theorem KeysDefinedMS.obj {e : Envs} : ∀ {l : List Obj} {srcs : List Obj}, KeysDefinedMS e l srcs →
    ∀ o ∈ l, KeysDefinedMSObj e o srcs
  | [], _, _, o, ho => by cases ho
  | a :: os, srcs, h, o, ho => by
    rw [KeysDefinedMS] at h
    rw [List.mem_cons] at ho
    rcases ho with rfl | ho
    · exact h.1
    · exact KeysDefinedMS.obj h.2 o ho

theorem SrcTree.child_ms {srcs : List Obj} (h : SrcTree srcs) {s : Obj} (hs : s ∈ srcs)
    (hd : s.meta.disabled = false) : SrcTree s.children :=
  ⟨fun x hx hdef => h.ok x ((ActiveIn.here hs hd).children hx) hdef,
    fun m kids hx => h.named m kids ((ActiveIn.here hs hd).children hx)⟩

/-! ### soundness of the executable checks -/

mutual
theorem msObjB_sound : ∀ (o : Obj), msObjB o = true → MSObj o
  | .defn mm mws, h => by
    rw [msObjB] at h
    simp only [Bool.and_eq_true, Bool.not_eq_true', List.contains_eq_mem, decide_eq_false_iff_not] at h
    rw [MSObj]
    exact ⟨defnMetaB_tm_sound mm h.1.1.1, List.isEmpty_eq_false_iff.mp h.1.1.2, h.1.2, h.2⟩
  | .scope mm kids, h => by
    rw [msObjB] at h
    simp only [Bool.and_eq_true, Bool.not_eq_true', List.contains_eq_mem, decide_eq_false_iff_not,
      decide_eq_true_eq] at h
    rw [MSObj]
    exact ⟨List.isEmpty_eq_false_iff.mp h.1.1.1.1, h.1.1.1.2, h.1.1.2, msKidsB_sound kids h.1.2, h.2⟩
theorem msKidsB_sound : ∀ (l : List Obj), msKidsB l = true → MSKids l
  | [], _ => by rw [MSKids]; trivial
  | o :: os, h => by
    rw [msKidsB, Bool.and_eq_true] at h
    rw [MSKids]
    exact ⟨msObjB_sound o h.1, msKidsB_sound os h.2⟩
end

theorem msMasterB_sound (mkids : List Obj) (h : msMasterB mkids = true) : MSMaster mkids := by
  unfold msMasterB at h
  simp only [Bool.and_eq_true, decide_eq_true_eq] at h
  exact ⟨msKidsB_sound mkids h.1, h.2⟩

mutual
theorem keysDefinedMSObjB_sound (e : Envs) : ∀ (mo : Obj) (srcs : List Obj),
    keysDefinedMSObjB e mo srcs = true → KeysDefinedMSObj e mo srcs
  | .defn mm mws, srcs, h => by
    rw [keysDefinedMSObjB] at h
    rw [KeysDefinedMSObj]
    intro hmult
    rw [hmult] at h
    exact keysDefined_of_B (by simpa using h)
  | .scope mm kids, srcs, h => by
    rw [keysDefinedMSObjB] at h
    rw [KeysDefinedMSObj]
    split
    · rename_i hm
      simp only [hm, if_true, Bool.and_eq_true, List.all_eq_true] at h
      refine ⟨keysDefinedMSB_sound e kids [] h.1.1, ok_of_errOf_none h.1.2, ?_⟩
      intro s hs
      exact ⟨keysDefinedMSB_sound e kids s.children (h.2 s hs).1, ok_of_errOf_none (h.2 s hs).2⟩
    · rename_i hm
      simp only [hm, Bool.false_eq_true, if_false] at h
      exact keysDefinedMSB_sound e kids _ h
theorem keysDefinedMSB_sound (e : Envs) : ∀ (l : List Obj) (srcs : List Obj),
    keysDefinedMSB e l srcs = true → KeysDefinedMS e l srcs
  | [], _, _ => by rw [KeysDefinedMS]; trivial
  | mo :: rest, srcs, h => by
    rw [keysDefinedMSB, Bool.and_eq_true] at h
    rw [KeysDefinedMS]
    exact ⟨keysDefinedMSObjB_sound e mo srcs h.1, keysDefinedMSB_sound e rest srcs h.2⟩
end

/-- executable form of the master-side side conditions: an `MSMaster` nested at most 1000 deep, no
    definition called `include`, definitions fit for re-fetching -/
def masterCheck_ms (mkids : List Obj) : Bool :=
  msMasterB mkids && decide (depthL mkids ≤ 1000) &&
    allActive (fun d => !d.isDefn ||
      (d.name != "include".toList && d.meta.tmpl == 0 && d.meta.varRes.isNone && !hasDollar d.words)) mkids

structure MasterOK_ms (mkids : List Obj) : Prop where
  tree : MSMaster mkids
  depth : depthL mkids ≤ 1000
  noInclude : NoIncludeTree mkids
  refetch : RefetchTree mkids

theorem masterCheck_ms_sound (mkids : List Obj) (h : masterCheck_ms mkids = true) : MasterOK_ms mkids := by
  unfold masterCheck_ms at h
  simp only [Bool.and_eq_true, decide_eq_true_eq] at h
  exact ⟨msMasterB_sound mkids h.1.1, h.1.2, (noInclude_refetch_of_allActive mkids h.2).1,
    (noInclude_refetch_of_allActive mkids h.2).2⟩

/-! ## 7. the members of a block; the view of the result by name -/

theorem msBlock_member_ms (e : Envs) : ∀ (mo : Obj) (srcs : List Obj), ∀ o ∈ msBlock e mo srcs,
    o.name = mo.name ∧ o.meta.disabled = mo.meta.disabled ∧ o.isDefn = mo.isDefn ∧ o.meta.attrs = mo.meta.attrs
  | .defn mm mws, srcs, o, ho => by
    rw [msBlock, tmBlock] at ho
    rcases blockMem_blockL e 0 _ _ o ho with ⟨t, rfl⟩ | ⟨d, _, rfl⟩ <;> exact ⟨rfl, rfl, rfl, rfl⟩
  | .scope mm kids, srcs, o, ho => by
    rw [msBlock] at ho
    split at ho
    · rcases mem_msMultiBlock ho with rfl | ⟨t, rfl⟩ | ⟨x, hx, rfl⟩
      · exact ⟨rfl, rfl, rfl, rfl⟩
      · exact ⟨rfl, rfl, rfl, rfl⟩
      · obtain ⟨s, _, rfl⟩ := List.mem_map.mp hx
        exact ⟨rfl, rfl, rfl, rfl⟩
    · rw [List.mem_singleton] at ho
      subst ho
      exact ⟨rfl, rfl, rfl, rfl⟩

theorem view_ms (e : Envs) (mkids srcs : List Obj) (hf : MSMaster mkids) :
    ∀ mo ∈ mkids, activeNamed mo.name (msResult e mkids srcs) = msBlock e mo srcs := by
  rw [msResult_eq_flatMap]
  exact activeNamed_flatMap_distinct (fun mo => msBlock e mo srcs) mkids hf.distinct
    (fun mo hmo o ho => by
      have h := msBlock_member_ms e mo srcs o ho
      exact ⟨h.1, by rw [h.2.1]; exact (hf.obj mo hmo).enabled⟩)

theorem view_self_ms (mkids : List Obj) (hf : MSMaster mkids) :
    ∀ mo ∈ mkids, activeNamed mo.name mkids = [mo] := by
  have h := activeNamed_map_distinct id (fun _ => rfl) (fun _ => rfl) mkids hf.distinct
    (fun o ho => (hf.obj o ho).enabled)
  rwa [List.map_id] at h

theorem scopesNamed_of_view_ms (n : Str) (R B : List Obj) (hv : activeNamed n R = B)
    (hB : ∀ o ∈ B, o.isDefn = false) : scopesNamed n R = B := by
  rw [scopesNamed_eq_filter_tree, hv, List.filter_eq_self]
  intro o ho
  unfold Obj.isScope
  rw [hB o ho]; rfl

theorem defsNamed_of_view_scope_ms (n : Str) (R B : List Obj) (hv : activeNamed n R = B)
    (hB : ∀ o ∈ B, o.isDefn = false) : defsNamed n R = [] := by
  rw [defsNamed_eq_filter_tree, hv, List.filter_eq_nil_iff]
  intro o ho
  rw [hB o ho]; simp

theorem srcStep_of_view_ms (n : Str) (R B : List Obj) (hv : activeNamed n R = B) :
    srcStep R n = B.flatMap Obj.children := by
  rw [← activeNamed_children_tree, hv]

theorem msMultiBlock_congr_ms (mo self : Obj) (k0 : Str) (cks cks' : List (Obj × Str))
    (h : dedupKeepLast (cks.filter (fun y => y.2 != k0)) = dedupKeepLast (cks'.filter (fun y => y.2 != k0))) :
    msMultiBlock mo self k0 cks = msMultiBlock mo self k0 cks' := by
  unfold msMultiBlock
  rw [h]

/-! ## 8. the block of a `.multiple` scope over its candidates; what makes a result a source tree -/

/-- the candidate (with its key) the `.multiple` master scope builds from the source scope `s` -/
abbrev msCK (e : Envs) (mm : Meta) (kids : List Obj) (s : Obj) : Obj × Str :=
  (msCand e mm kids s.children, keyMS e (.scope mm kids) (msCand e mm kids s.children))

theorem msBlock_multi_eq (e : Envs) (mm : Meta) (kids srcs : List Obj)
    (hmult : (mm.attrs.get "multiple").truthy = true) :
    msBlock e (.scope mm kids) srcs =
      msMultiBlock (.scope mm kids) (msCand e mm kids []) (keyMS e (.scope mm kids) (msCand e mm kids []))
        ((scopesNamed mm.name srcs).map (msCK e mm kids)) := by
  rw [msBlock]; simp only [hmult, if_true]

/-! ### the result is a well-formed source tree -/

/-- what `SrcTree` asks of one object: a definition carries no recorded resolution and variable-free
    words, a scope is named -/
def srcGoodB (o : Obj) : Bool :=
  if o.isDefn then o.meta.varRes.isNone && !hasDollar o.words else !o.name.isEmpty

theorem allActive_append_ms (P : Obj → Bool) : ∀ (a b : List Obj),
    allActive P (a ++ b) = (allActive P a && allActive P b)
  | [], b => by rw [allActive, List.nil_append, Bool.true_and]
  | o :: a, b => by rw [List.cons_append, allActive, allActive, allActive_append_ms P a b, Bool.and_assoc]

theorem allActive_of_forall_ms (P : Obj → Bool) : ∀ (l : List Obj),
    (∀ o ∈ l, allActiveObj P o = true) → allActive P l = true
  | [], _ => by rw [allActive]
  | o :: os, h => by
    rw [allActive, h o List.mem_cons_self,
      allActive_of_forall_ms P os (fun x hx => h x (List.mem_cons_of_mem _ hx))]
    simp

theorem srcTree_of_good_ms (R : List Obj) (h : allActive srcGoodB R = true) : SrcTree R := by
  constructor
  · intro x hx hdef
    have := allActive_sound srcGoodB hx h
    unfold srcGoodB at this
    simp only [hdef, if_true, Bool.and_eq_true, Option.isNone_iff_eq_none, Bool.not_eq_true'] at this
    exact .inr this
  · intro m kids hx
    have := allActive_sound srcGoodB hx h
    unfold srcGoodB at this
    simp only [Obj.isDefn, Bool.false_eq_true, if_false, Bool.not_eq_true'] at this
    exact List.isEmpty_eq_false_iff.mp this

theorem SrcNoDollar.child_ms {srcs : List Obj} (h : SrcNoDollar srcs) {s : Obj} (hs : s ∈ srcs)
    (hd : s.meta.disabled = false) : SrcNoDollar s.children :=
  fun x hx hdef => h x ((ActiveIn.here hs hd).children hx) hdef

theorem allActiveObj_scope_ms (m : Meta) (kids : List Obj) (hn : m.name ≠ [])
    (hk : allActive srcGoodB kids = true) : allActiveObj srcGoodB (.scope m kids) = true := by
  rw [allActiveObj, hk]
  unfold srcGoodB
  simp [Obj.isDefn, Obj.name, Obj.meta, List.isEmpty_eq_false_iff.mpr hn]

theorem good_tmBlock_ms (e : Envs) (mm : Meta) (mws : List Word) (srcs : List Obj)
    (ht : MSObj (.defn mm mws)) (hr : RefetchTree [.defn mm mws]) (hdol : SrcNoDollar srcs) :
    allActive srcGoodB (tmBlock e (.defn mm mws) srcs) = true := by
  rw [MSObj] at ht
  have hr' := hr (.defn mm mws) (.self ht.2.2.2) rfl
  have hg : ∀ t ws, hasDollar ws = false → allActiveObj srcGoodB (.defn { mm with tmpl := t } ws) = true := by
    intro t ws hws
    rw [allActiveObj]
    unfold srcGoodB
    simp only [Obj.isDefn, if_true, Bool.and_eq_true, Option.isNone_iff_eq_none, Bool.not_eq_true']
    exact ⟨hr'.2.1, hws⟩
  apply allActive_of_forall_ms
  intro o ho
  rw [tmBlock] at ho
  -- a member is the master definition up to the template flag, or the candidate of a source definition
  rcases blockMem_blockL e 0 _ _ o ho with ⟨t, rfl⟩ | ⟨d, hd, rfl⟩
  · exact hg t mws hr'.2.2
  · have hd' := mem_defsNamed.mp hd
    exact hg 0 _ (hdol d (.here hd'.1 hd'.2.2.1) hd'.2.1)

/-! ## 9. C06: the consumed ids and `all_definitions` -/

theorem mem_allDefsList_flatMap_ms (q : Str) (x : Str × Meta × List Word) (L : List Obj) :
    x ∈ allDefsObj.allDefsList (L.flatMap Obj.children) q ↔
      ∃ s ∈ L, x ∈ allDefsObj.allDefsList s.children q := by
  simp only [allDefsList_eq, List.filter_flatMap, List.flatMap_assoc, List.mem_flatMap]

theorem SrcPlain.child_ms {srcs : List Obj} (h : SrcPlain srcs) {s : Obj} (hs : s ∈ srcs)
    (hd : s.meta.disabled = false) : SrcPlain s.children :=
  ⟨fun x hx hdef => h.noRefs x ((ActiveIn.here hs hd).children hx) hdef,
    fun x hx => h.dotfree x ((ActiveIn.here hs hd).children hx)⟩

/-- **the ids a master scope consumes**, given what its body consumes (`U`) from any plain source list:
    whether the body is fetched once against all source blocks of the name or against each block in turn,
    they are the ids of the entries of `all_definitions(sources)` whose path is one of the paths `P` the body
    declares below the scope -/
theorem mem_usedScope_ms (mm : Meta) (srcs : List Obj) (p : Str) (i : Nat) (hdot : '.' ∉ mm.name)
    (hs : SrcPlain srcs) (U : List Obj → List Nat) (P : List Str)
    (hU : ∀ S, SrcPlain S → (i ∈ U S ↔
      ∃ x ∈ allDefsObj.allDefsList S (p ++ mm.name ++ ['.']), x.2.1.id = some i ∧ x.1 ∈ P))
    (hP : ∀ q ∈ P, ∃ r, q = p ++ mm.name ++ ['.'] ++ r) :
    (i ∈ (if (mm.attrs.get "multiple").truthy then (scopesNamed mm.name srcs).flatMap (fun s => U s.children)
          else U (srcStep srcs mm.name)) ↔
      ∃ x ∈ allDefsObj.allDefsList srcs p, x.2.1.id = some i ∧ x.1 ∈ P) := by
  have hA := allDefs_srcStep_tree mm.name p hdot srcs (fun o ho hd => hs.dotfree o (.here ho hd))
  have hbody : i ∈ (if (mm.attrs.get "multiple").truthy then
        (scopesNamed mm.name srcs).flatMap (fun s => U s.children) else U (srcStep srcs mm.name)) ↔
      ∃ x ∈ allDefsObj.allDefsList (srcStep srcs mm.name) (p ++ mm.name ++ ['.']), x.2.1.id = some i ∧ x.1 ∈ P := by
    split
    · rw [List.mem_flatMap]
      constructor
      · rintro ⟨s, hs', hi⟩
        have hs'' := mem_scopesNamed.mp hs'
        obtain ⟨x, hx, hid, hp⟩ := (hU s.children (hs.child_ms hs''.1 hs''.2.2.1)).mp hi
        exact ⟨x, (mem_allDefsList_flatMap_ms _ x _).mpr ⟨s, hs', hx⟩, hid, hp⟩
      · rintro ⟨x, hx, hid, hp⟩
        obtain ⟨s, hs', hxs⟩ := (mem_allDefsList_flatMap_ms _ x _).mp hx
        have hs'' := mem_scopesNamed.mp hs'
        exact ⟨s, hs', (hU s.children (hs.child_ms hs''.1 hs''.2.2.1)).mpr ⟨x, hxs, hid, hp⟩⟩
    · exact hU _ (hs.step mm.name)
  rw [hbody, ← hA]
  constructor
  · rintro ⟨x, hx, hid, hpath⟩
    exact ⟨x, (List.mem_filter.mp hx).1, hid, hpath⟩
  · rintro ⟨x, hx, hid, hpath⟩
    exact ⟨x, List.mem_filter.mpr ⟨hx, (startsWith_iff _ _).mpr (hP _ hpath)⟩, hid, hpath⟩

mutual
theorem mem_msUsedObj : ∀ (mo : Obj) (srcs : List Obj) (p : Str) (i : Nat),
    MSObj mo → NoIncludeTree [mo] → SrcPlain srcs →
    (i ∈ msUsedObj mo srcs ↔
      ∃ x ∈ allDefsObj.allDefsList srcs p, x.2.1.id = some i ∧ x.1 ∈ defPathsObj mo p)
  | .defn mm mws, srcs, p, i, ht, hinc, hs => by
    rw [msUsedObj, ← treeUsedObj]
    exact mem_treeUsedObj_tm (.defn mm mws) srcs p i (by rw [MSObj] at ht; rw [TMObj]; exact ht) hinc hs
  | .scope mm kids, srcs, p, i, ht, hinc, hs => by
    have hkids := (MSMaster.of_scope ht).kids
    rw [MSObj] at ht
    have hinck : NoIncludeTree kids := fun d hd hdef =>
      hinc d (hd.kid ht.2.2.1) hdef
    rw [msUsedObj, defPathsObj]
    exact mem_usedScope_ms mm srcs p i ht.2.1 hs (msUsed kids) _
      (fun S hS => mem_msUsed kids S _ i hkids hinck hS) (fun q hq => defPaths_prefix_tree kids _ _ hq)
theorem mem_msUsed : ∀ (mkids : List Obj) (srcs : List Obj) (p : Str) (i : Nat),
    MSKids mkids → NoIncludeTree mkids → SrcPlain srcs →
    (i ∈ msUsed mkids srcs ↔
      ∃ x ∈ allDefsObj.allDefsList srcs p, x.2.1.id = some i ∧ x.1 ∈ defPaths mkids p)
  | [], srcs, p, i, _, _, _ => by
    rw [msUsed, defPaths]
    simp
  | mo :: rest, srcs, p, i, ht, hinc, hs => by
    rw [MSKids] at ht
    rw [msUsed, defPaths, List.mem_append, mem_msUsedObj mo srcs p i ht.1 hinc.head hs,
      mem_msUsed rest srcs p i ht.2 hinc.tail hs]
    simp only [List.mem_append, and_or_left, exists_or]
end

/-- **C06 (consumed ids, exactly).**  The consumed ids are exactly the ids of the entries of
    `all_definitions(sources)` whose full path is the path of a master definition — inside
    `.multiple` scopes too, whichever instance they belong to and whether that instance survives. -/
theorem ms_used_exact (mkids srcs : List Obj) (hf : MSMaster mkids)
    (hinc : NoIncludeTree mkids) (hs : SrcPlain srcs) (i : Nat) :
    i ∈ msUsed mkids srcs ↔
      ∃ x ∈ allDefinitions srcs, x.2.1.id = some i ∧ x.1 ∈ defPaths mkids [] :=
  mem_msUsed mkids srcs [] i hf.kids hinc hs

theorem defPathsObj_eq_allDefs_ms : ∀ (o : Obj) (p : Str), MSObj o → NoIncludeTree [o] →
    defPathsObj o p = (allDefsObj o p).map (·.1) :=
  defPathsObj_eq_allDefs_of msObj_pathClass

theorem defPaths_eq_allDefinitions_ms (mkids : List Obj) (hf : MSMaster mkids)
    (hinc : NoIncludeTree mkids) : defPaths mkids [] = (allDefinitions mkids).map (·.1) :=
  defPaths_eq_allDefs_of msObj_pathClass mkids [] hf.obj hinc

/-! ## 10. C04: the result declares exactly the master's parameter paths -/

theorem msBlock_ne_nil_ms (e : Envs) : ∀ (mo : Obj) (srcs : List Obj), msBlock e mo srcs ≠ []
  | .defn mm mws, srcs => by rw [msBlock]; exact tmBlock_ne_nil_tm e _ srcs
  | .scope mm kids, srcs => by
    rw [msBlock]
    split
    · unfold msMultiBlock; exact List.cons_ne_nil _ _
    · exact List.cons_ne_nil _ _

mutual
theorem mem_defPaths_msBlock (e : Envs) : ∀ (mo : Obj) (srcs : List Obj) (p q : Str),
    q ∈ defPaths (msBlock e mo srcs) p ↔ q ∈ defPathsObj mo p
  | .defn mm mws, srcs, p, q => by
    rw [msBlock]; exact mem_defPaths_tmBlock_tm e (.defn mm mws) srcs p q
  | .scope mm kids, srcs, p, q => by
    rw [defPathsObj]
    apply mem_defPaths_of_block (msBlock_ne_nil_ms e _ srcs)
    intro o ho
    rw [msBlock] at ho
    split at ho
    · rcases mem_msMultiBlock ho with rfl | ⟨t, rfl⟩ | ⟨x, hx, rfl⟩
      · show q ∈ defPathsObj (Obj.scope _ _) p ↔ _
        rw [defPathsObj]
        exact mem_defPaths_msResult e kids [] _ q
      · show q ∈ defPathsObj (Obj.scope _ _) p ↔ _
        rw [defPathsObj]
      · obtain ⟨s, _, rfl⟩ := List.mem_map.mp hx
        show q ∈ defPathsObj (Obj.scope _ _) p ↔ _
        rw [defPathsObj]
        exact mem_defPaths_msResult e kids s.children _ q
    · rw [List.mem_singleton] at ho
      subst ho
      rw [defPathsObj]
      exact mem_defPaths_msResult e kids _ _ q
/-- the result declares exactly the master's parameter paths (inside `.multiple` objects possibly
    several times): no path is lost, none is invented -/
theorem mem_defPaths_msResult (e : Envs) : ∀ (mkids : List Obj) (srcs : List Obj) (p q : Str),
    q ∈ defPaths (msResult e mkids srcs) p ↔ q ∈ defPaths mkids p
  | [], srcs, p, q => by rw [msResult]
  | mo :: rest, srcs, p, q => by
    rw [msResult, defPaths_append_tm, List.mem_append, defPaths, List.mem_append,
      mem_defPaths_msBlock e mo srcs p q, mem_defPaths_msResult e rest srcs p q]
end

theorem msBlock_plain_length (e : Envs) : ∀ (mo : Obj) (srcs : List Obj), isMultiple mo = false →
    (msBlock e mo srcs).length = 1
  | .defn mm mws, srcs, h => by
    rw [msBlock, tmBlock]; simp only [h, Bool.false_eq_true, if_false]; rfl
  | .scope mm kids, srcs, h => by
    have h' : (mm.attrs.get "multiple").truthy = false := h
    rw [msBlock]; simp only [h', Bool.false_eq_true, if_false]; rfl

end Phil
