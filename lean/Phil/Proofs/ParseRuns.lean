/-
  Runs of `collectObjects` without the fuel: the result of a run that ends does not depend on the fuel
  (`collectObjects_fuel`), so a parser theorem is proved about `Runs` — "started here, `collect_objects`
  ends with `r`" — and the fuel `length + 2` of `parseObjs` is met once, in `Runs.parseObjs_ok` / `Runs.parseObjs_error`.
-/
import Phil.Proofs.TotalityLemmas
import Phil.Proofs.ParseLemmas
namespace Phil

theorem collectObjects_succ {fuel : Nat} {st : PState} {stop : Option Word} {prev : Nat}
    {acc : List Obj} {pending : Option Obj} {r : R (List Obj × PState)}
    (h : collectObjects fuel st stop prev acc pending = r) (hr : r ≠ .error .outOfFuel) :
    collectObjects (fuel + 1) st stop prev acc pending = r := by
  fun_induction collectObjects fuel st stop prev acc pending generalizing r
  · exact absurd h.symm hr
  -- one turn with the larger fuel takes the same branch; what is left is the next call
  all_goals (conv => lhs; unfold collectObjects)
  all_goals simp +zetaDelta only [*, ↓reduceIte, Bool.false_eq_true] at *
  all_goals try (rename_i ih; exact ih rfl hr)
  -- a scope: the call for the body, then the call that continues
  · rename_i ih
    subst h
    rw [ih rfl hr]
  · rename_i ihk ih
    rw [ihk rfl (by simp)]; exact ih rfl hr

theorem collectObjects_mono {fuel : Nat} {st : PState} {stop : Option Word} {prev : Nat}
    {acc : List Obj} {pending : Option Obj} {r : R (List Obj × PState)}
    (h : collectObjects fuel st stop prev acc pending = r) (hr : r ≠ .error .outOfFuel) (k : Nat) :
    collectObjects (fuel + k) st stop prev acc pending = r := by
  induction k with
  | zero => exact h
  | succ k ih => exact collectObjects_succ ih hr

/-- `collectObjects_total` (TotalityLemmas) is what bounds the fuel: above the length of the text that is left no run
    ends with `outOfFuel` -/
theorem collectObjects_fuel {f : Nat} {st : PState} {stop : Option Word} {prev : Nat}
    {acc : List Obj} {pending : Option Obj} {r : R (List Obj × PState)}
    (h : collectObjects f st stop prev acc pending = r) (hr : r ≠ .error .outOfFuel)
    {fuel : Nat} (hf : st.ci.rest.length < fuel) :
    collectObjects fuel st stop prev acc pending = r := by
  have h1 := collectObjects_mono h hr fuel
  have h2 := collectObjects_mono rfl (collectObjects_total stop prev acc pending hf) f
  rw [Nat.add_comm, h1] at h2
  exact h2.symm

/-- started in this state, `collect_objects` ends with `r`.  The state is that of `collectObjects` (Phil/Parse.lean):
    `stop` the opening brace of the scope being read (`none` at the outermost level), `prev` the line of the last item (for
    `#phil` directives), `acc` the objects adopted so far, `pending` the definition that may still get attribute lines -/
def Runs (st : PState) (stop : Option Word) (prev : Nat) (acc : List Obj) (pending : Option Obj)
    (r : R (List Obj × PState)) : Prop :=
  r ≠ .error .outOfFuel ∧ ∃ fuel, collectObjects fuel st stop prev acc pending = r

variable {st st' : PState} {stop : Option Word} {prev prev' : Nat} {acc acc' : List Obj}
  {pending pending' : Option Obj} {r : R (List Obj × PState)}

theorem Runs.ok {v : List Obj × PState} (fuel : Nat)
    (h : collectObjects fuel st stop prev acc pending = .ok v) : Runs st stop prev acc pending (.ok v) :=
  ⟨by simp, fuel, h⟩

theorem Runs.runtime {s : String} {l : Option Nat} (fuel : Nat)
    (h : collectObjects fuel st stop prev acc pending = .error (.runtime s l)) :
    Runs st stop prev acc pending (.error (.runtime s l)) :=
  ⟨by simp, fuel, h⟩

/-- `k` turns that change the state and return nothing yet -/
theorem Runs.step (k : Nat)
    (h : ∀ fuel, collectObjects (fuel + k) st stop prev acc pending
      = collectObjects fuel st' stop prev' acc' pending')
    (hr : Runs st' stop prev' acc' pending' r) : Runs st stop prev acc pending r :=
  ⟨hr.1, hr.2.elim fun f hf => ⟨f + k, (h f).trans hf⟩⟩

/-- the turn at a scope header: the body runs, then the enclosing block goes on -/
theorem Runs.scope {m : Meta} {stk : PState} {brace : Word} {l0 : Nat}
    (h : ∀ fuel, collectObjects (fuel + 1) st stop prev acc pending
      = scopeCont fuel stop l0 acc pending m (collectObjects fuel stk (some brace) 0 [] none))
    {children : List Obj} (hk : Runs stk (some brace) 0 [] none (.ok (children, st')))
    (hr : Runs st' stop l0 (adopt (flush acc pending) (.scope m children)) none r) :
    Runs st stop prev acc pending r := by
  obtain ⟨_, f1, h1⟩ := hk
  obtain ⟨hne, f2, h2⟩ := hr
  refine ⟨hne, f1 + f2 + 1, ?_⟩
  rw [h, collectObjects_mono h1 (by simp) f2, scopeCont, Nat.add_comm f1, collectObjects_mono h2 hne f1]

theorem Runs.scope_error {m : Meta} {stk : PState} {brace : Word} {l0 : Nat}
    (h : ∀ fuel, collectObjects (fuel + 1) st stop prev acc pending
      = scopeCont fuel stop l0 acc pending m (collectObjects fuel stk (some brace) 0 [] none))
    {e : Err} (hk : Runs stk (some brace) 0 [] none (.error e)) : Runs st stop prev acc pending (.error e) :=
  ⟨hk.1, hk.2.elim fun f hf => ⟨f + 1, by rw [h, hf, scopeCont]⟩⟩

theorem Runs.parseObjs_ok {text : Str} {objs : List Obj} {st' : PState}
    (h : Runs { ci := ⟨text, 1⟩, nextId := 1 } none 0 [] none (.ok (objs, st'))) : parseObjs text = .ok objs := by
  obtain ⟨hne, f, hf⟩ := h
  rw [parseObjs, collectObjects_fuel hf hne (by simp)]

theorem Runs.parseObjs_error {text : Str} {e : Err}
    (h : Runs { ci := ⟨text, 1⟩, nextId := 1 } none 0 [] none (.error e)) : parseObjs text = .error e := by
  obtain ⟨hne, f, hf⟩ := h
  rw [parseObjs, collectObjects_fuel hf hne (by simp)]

end Phil
