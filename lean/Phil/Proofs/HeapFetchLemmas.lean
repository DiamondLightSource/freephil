/-
  The heap-level fetch, non-diff (`fetchH`, Phil/HeapFetch2.lean) and diff (`fetchDiffH`, Phil/HeapFetchDiff.lean), as
  ONE function `fetchF` with the flag `diff` of `scope.fetch`: it only appends cells, only marks definition cells, and
  its result has the shape `ResShape` (non-diff) / `FreshShape` (diff).  Helper lemmas for
  Phil/Props/C17FetchHeap.lean and Phil/Props/C17FetchDiffHeap.lean.
-/
import Phil.HeapFetchDiff
import Phil.Proofs.HeapLemmas
import Phil.Proofs.FetchLoop
namespace Phil.Heap
open Phil

/-! ### allocation -/

theorem lt_of_getElem?_some {h : Heap} {x : Nat} {n : Node} (hx : h[x]? = some n) : x < h.length :=
  (List.getElem?_eq_some_iff.mp hx).1

theorem getElem?_append_some {h : Heap} {x : Nat} {n : Node} (ext : Heap) (hx : h[x]? = some n) :
    (h ++ ext)[x]? = some n := by
  rw [List.getElem?_append_left (lt_of_getElem?_some hx)]; exact hx

/-- `h'` comes from `h` by allocating cells: no existing cell is written -/
def Grows (h h' : Heap) : Prop := ∃ ext, h' = h ++ ext

theorem Grows.refl (h : Heap) : Grows h h := ⟨[], by simp⟩
theorem Grows.trans {a b c : Heap} (x : Grows a b) (y : Grows b c) : Grows a c := by
  obtain ⟨e1, rfl⟩ := x
  obtain ⟨e2, rfl⟩ := y
  exact ⟨e1 ++ e2, List.append_assoc _ _ _⟩
theorem Grows.alloc (h ext : Heap) : Grows h (h ++ ext) := ⟨ext, rfl⟩
theorem Grows.length_le {h h' : Heap} (g : Grows h h') : h.length ≤ h'.length := by
  obtain ⟨e, rfl⟩ := g
  rw [List.length_append]; omega
theorem Grows.get {h h' : Heap} (g : Grows h h') {x : Nat} {n : Node} (hx : h[x]? = some n) : h'[x]? = some n := by
  obtain ⟨e, rfl⟩ := g
  exact getElem?_append_some e hx
theorem Grows.get_lt {h h' : Heap} (g : Grows h h') {x : Nat} (hx : x < h.length) : h'[x]? = h[x]? := by
  obtain ⟨e, rfl⟩ := g
  exact List.getElem?_append_left hx

theorem ClosedBelow.append {h : Heap} {n0 : Nat} (hc : ClosedBelow h n0) (hn : n0 ≤ h.length) (ext : Heap) :
    ClosedBelow (h ++ ext) n0 := by
  intro i nd hi hnd k hk
  rw [List.getElem?_append_left (by omega)] at hnd
  exact hc i nd hi hnd k hk

theorem Grows.closed {h h' : Heap} (g : Grows h h') {n0 : Nat} (hc : ClosedBelow h n0) (hn : n0 ≤ h.length) :
    ClosedBelow h' n0 := by
  obtain ⟨e, rfl⟩ := g
  exact hc.append hn e

/-- the first `n0` cells are there and refer (through `objects`) to each other only: the OLD cells of a run -/
def Old (n0 : Nat) (h : Heap) : Prop := n0 ≤ h.length ∧ ClosedBelow h n0

theorem Old.grows {n0 : Nat} {h h' : Heap} (o : Old n0 h) (g : Grows h h') : Old n0 h' :=
  ⟨Nat.le_trans o.1 g.length_le, g.closed o.2 o.1⟩

theorem fetchTemplate_eq' {h : Heap} {x : Nat} {t : Int} {h' : Heap} {c : Nat}
    (hf : fetchTemplate h x t = some (h', c)) :
    ∃ n, h[x]? = some n ∧ c = h.length ∧
      h' = h ++ [n.assign (.slot fun m => { m with tmpl := t })] := by
  unfold fetchTemplate at hf
  split at hf
  · cases hf
  · rename_i h1 c1 hc
    obtain ⟨n, hn, rfl, rfl⟩ := copy_eq hc
    cases hf
    exact ⟨n, hn, rfl, assign_last _ _ _⟩

/-! ### what a run may change -/

def IsDefnCell (h : Heap) (i : Nat) : Prop := ∃ m ws p, h[i]? = some (.defn m ws p)

theorem IsDefnCell.append {h : Heap} {i : Nat} (hd : IsDefnCell h i) (ext : Heap) : IsDefnCell (h ++ ext) i := by
  obtain ⟨m, ws, p, hi⟩ := hd
  exact ⟨m, ws, p, getElem?_append_some ext hi⟩

/-- `s'` comes from `s` by allocating cells and by writing `tmp = True` to definition cells: the heap only grows
    (no existing cell is written), the marks are appended and are definition cells -/
structure HExt (s s' : HS) : Prop where
  heap : ∃ ext, s'.heap = s.heap ++ ext
  tmp : ∃ t, s'.tmp = s.tmp ++ t ∧ ∀ i ∈ t, IsDefnCell s'.heap i

theorem HExt.grows {s s' : HS} (a : HExt s s') : Grows s.heap s'.heap := a.heap

theorem HExt.refl (s : HS) : HExt s s := ⟨⟨[], by simp⟩, ⟨[], by simp, by simp⟩⟩

theorem HExt.trans {s1 s2 s3 : HS} (a : HExt s1 s2) (b : HExt s2 s3) : HExt s1 s3 := by
  obtain ⟨⟨e1, h1⟩, ⟨t1, ht1, hd1⟩⟩ := a
  obtain ⟨⟨e2, h2⟩, ⟨t2, ht2, hd2⟩⟩ := b
  refine ⟨⟨e1 ++ e2, by rw [h2, h1, List.append_assoc]⟩, ⟨t1 ++ t2, by rw [ht2, ht1, List.append_assoc], ?_⟩⟩
  intro i hi
  rcases List.mem_append.mp hi with h | h
  · rw [h2]; exact (hd1 i h).append e2
  · exact hd2 i h

theorem HExt.alloc (s : HS) (ext : Heap) : HExt s { s with heap := s.heap ++ ext } :=
  ⟨⟨ext, rfl⟩, ⟨[], by simp, by simp⟩⟩

theorem HExt.closed {s s' : HS} (a : HExt s s') {n0 : Nat} (hc : ClosedBelow s.heap n0) (hn : n0 ≤ s.heap.length) :
    ClosedBelow s'.heap n0 :=
  a.grows.closed hc hn

/-! ### the shape of a fetch result -/

/-- The object graph below a result object, seen from `n0` old cells: every result object is a NEW cell
    (`n0 ≤ x`); it is a definition, or a scope all of whose children are again such result objects, or — the
    sharp edge, finding D21 — a TEMPLATE COPY: a new scope cell equal to an OLD scope cell `y < n0` up to
    `is_template = ±1`, holding that old cell's own child list. -/
inductive ResShape (n0 : Nat) (h : Heap) : Nat → Prop
  | defn {x : Nat} {m : Meta} {ws : List Word} {p : Option Nat} :
      n0 ≤ x → h[x]? = some (.defn m ws p) → ResShape n0 h x
  | scope {x : Nat} {m : Meta} {ks : List Nat} {p : Option Nat} :
      n0 ≤ x → h[x]? = some (.scope m ks p) → (∀ k ∈ ks, ResShape n0 h k) → ResShape n0 h x
  | tmpl {x y : Nat} {m : Meta} {ks : List Nat} {p : Option Nat} {t : Int} :
      n0 ≤ x → y < n0 → h[y]? = some (.scope m ks p) → h[x]? = some (.scope { m with tmpl := t } ks p) →
      (t = 1 ∨ t = -1) → ResShape n0 h x

theorem ResShape.append {n0 : Nat} {h : Heap} {x : Nat} (r : ResShape n0 h x) (ext : Heap) :
    ResShape n0 (h ++ ext) x := by
  induction r with
  | defn hx hc => exact .defn hx (getElem?_append_some ext hc)
  | scope hx hc _ ih => exact .scope hx (getElem?_append_some ext hc) ih
  | tmpl hx hy hcy hcx ht => exact .tmpl hx hy (getElem?_append_some ext hcy) (getElem?_append_some ext hcx) ht

theorem ResShape.ge {n0 : Nat} {h : Heap} {x : Nat} (r : ResShape n0 h x) : n0 ≤ x := by
  cases r <;> assumption

/-- The object graph below a diff result, seen from `n0` old cells: every object is a NEW cell — a definition, or a
    scope all of whose children are again such objects.  No template copy: nothing old is reachable. -/
inductive FreshShape (n0 : Nat) (h : Heap) : Nat → Prop
  | defn {x : Nat} {m : Meta} {ws : List Word} {p : Option Nat} :
      n0 ≤ x → h[x]? = some (.defn m ws p) → FreshShape n0 h x
  | scope {x : Nat} {m : Meta} {ks : List Nat} {p : Option Nat} :
      n0 ≤ x → h[x]? = some (.scope m ks p) → (∀ k ∈ ks, FreshShape n0 h k) → FreshShape n0 h x

theorem FreshShape.append {n0 : Nat} {h : Heap} {x : Nat} (r : FreshShape n0 h x) (ext : Heap) :
    FreshShape n0 (h ++ ext) x := by
  induction r with
  | defn hx hc => exact .defn hx (getElem?_append_some ext hc)
  | scope hx hc _ ih => exact .scope hx (getElem?_append_some ext hc) ih

theorem FreshShape.ge {n0 : Nat} {h : Heap} {x : Nat} (r : FreshShape n0 h x) : n0 ≤ x := by
  cases r <;> assumption

theorem FreshShape.toRes {n0 : Nat} {h : Heap} {x : Nat} (r : FreshShape n0 h x) : ResShape n0 h x := by
  induction r with
  | defn hx hc => exact .defn hx hc
  | scope hx hc _ ih => exact .scope hx hc ih

def Shape : Bool → Nat → Heap → Nat → Prop
  | false => ResShape
  | true => FreshShape

theorem Shape.defn {d : Bool} {n0 : Nat} {h : Heap} {x : Nat} {m : Meta} {ws : List Word} {p : Option Nat}
    (hx : n0 ≤ x) (hc : h[x]? = some (.defn m ws p)) : Shape d n0 h x := by
  cases d
  · exact ResShape.defn hx hc
  · exact FreshShape.defn hx hc

theorem Shape.scope {d : Bool} {n0 : Nat} {h : Heap} {x : Nat} {m : Meta} {ks : List Nat} {p : Option Nat}
    (hx : n0 ≤ x) (hc : h[x]? = some (.scope m ks p)) (hk : ∀ k ∈ ks, Shape d n0 h k) : Shape d n0 h x := by
  cases d
  · exact ResShape.scope hx hc hk
  · exact FreshShape.scope hx hc hk

theorem Shape.grows {d : Bool} {n0 : Nat} {h h' : Heap} {x : Nat} (r : Shape d n0 h x) (g : Grows h h') :
    Shape d n0 h' x := by
  obtain ⟨e, rfl⟩ := g
  cases d
  · exact ResShape.append r e
  · exact FreshShape.append r e

/-- the template copy `obj = object.copy(); obj.is_template = t` of an old object is a result-shaped new cell; the
    copy of a scope shares the children, and is told from an instance by `t = ±1` -/
theorem fetchTemplate_shape {h h' : Heap} {mid c n0 : Nat} {t : Int} (ht : isDefnAt h mid = false → t = 1 ∨ t = -1)
    (hmid : mid < n0) (hlen : n0 ≤ h.length) (hf : fetchTemplate h mid t = some (h', c)) : ResShape n0 h' c := by
  obtain ⟨n, hn, rfl, rfl⟩ := fetchTemplate_eq' hf
  cases n with
  | defn m ws p =>
    exact .defn hlen (p := p) List.getElem?_concat_length
  | scope m ks p =>
    exact .tmpl hlen hmid (getElem?_append_some _ hn) List.getElem?_concat_length
      (ht (by simp [isDefnAt, hn, Node.isScope]))

theorem Shape.ccScope {d : Bool} {n0 : Nat} {h : Heap} {m : Meta} {mk ks : List Nat} {p : Option Nat}
    (hn : n0 ≤ h.length) (hk : ∀ k ∈ ks, Shape d n0 h k) :
    Shape d n0 (h ++ [ccNode (.scope m mk p) none none (some ks)]) h.length :=
  .scope hn (m := { m with tmpl := 0 }) (p := p) List.getElem?_concat_length
    (fun k hk' => (hk k hk').grows (Grows.alloc _ _))

/-! ### folds -/

theorem foldH_eq_foldlM {α σ : Type} (step : σ → α → R σ) : ∀ (l : List α) (s : σ),
    foldH step s l = l.foldlM step s
  | [], _ => rfl
  | a :: as, s => by
    rw [foldH, List.foldlM_cons]
    cases step s a with
    | error e => rfl
    | ok s' => exact foldH_eq_foldlM step as s'

theorem foldH_inv {α σ : Type} (step : σ → α → R σ) (Q : σ → Prop)
    (hstep : ∀ st a st', Q st → step st a = .ok st' → Q st')
    (l : List α) (st st' : σ) (hq : Q st) (hf : foldH step st l = .ok st') : Q st' :=
  foldlM_inv Q step l (fun b a b' _ => hstep b a b') st st' hq (foldH_eq_foldlM step l st ▸ hf)

def OptRel {α β : Type} (R : α → β → Prop) : Option α → Option β → Prop
  | none, none => True
  | some x, some y => R x y
  | _, _ => False

/-! ### `fetchH` and `fetchDiffH` as one function -/

/-- the type of `fetchH e fuel`, the recursive callee -/
abbrev FetchH := Nat → List Nat → HS → R (HS × Nat)

/-- `definition.fetch(source)` / `definition.fetch_diff(source)` -/
def fetchValueF (e : Envs) (fuel : Nat) (d : Bool) (mid sid : Nat) (s : HS) : R (HS × Option Nat) :=
  if d then fetchDiffValueH e fuel mid sid s else fetchValueH mid sid s

/-- `candidate = master_object.fetch(source=matching_source, diff=d)` -/
def candF (e : Envs) (fuel : Nat) (d : Bool) (rec : FetchH) (mid ms : Nat) (s : HS) :
    R (HS × Option Nat) :=
  match s.heap[mid]? with
  | some (.defn _ _ _) => fetchValueF e fuel d mid ms s
  | some (.scope _ _ _) =>
    (match s.heap[ms]? with
     | some (.scope _ sk _) =>
       (match rec mid sk s with
        | .error err => .error err
        | .ok (s1, r) => if d && (kidsOf s1.heap r).isEmpty then .ok (s1, none) else .ok (s1, some r))
     | some (.defn _ _ _) => .error (.runtime "incompatible" none)
     | none => .error .outOfFuel)
  | none => .error .outOfFuel

/-- `bookH` / `bookDiffH` by the flag `d`; `cstepF` below is the candidate step `cstepH` / `cstepDiffH` in the same way -/
def bookF (d fromM : Bool) (robjs : List (Option Nat)) (processed : List (Str × Int)) (cs masterStr : Str) (c : Nat) :
    List (Option Nat) × List (Str × Int) :=
  if d then bookDiffH fromM robjs processed cs masterStr c else bookH robjs processed cs masterStr c

/-- in either mode the bookkeeping is `book`; only a diff run leaves the bare marker, for a candidate from the master -/
theorem bookF_eq (d fromM : Bool) (robjs : List (Option Nat)) (processed : List (Str × Int)) (cs masterStr : Str)
    (c : Nat) :
    bookF d fromM robjs processed cs masterStr c =
      if cs == masterStr then (robjs, processed) else book (d && fromM) robjs processed cs c := by
  unfold bookF bookDiffH bookH book
  cases d <;> cases fromM <;> cases processed.find? (fun (p : Str × Int) => p.1 == cs) <;> rfl

def cstepF (e : Envs) (d : Bool) (rec : FetchH) (fuel : Nat) (mo : Obj) (mid : Nat)
    (masterStr : Str) :
    (HS × List (Option Nat) × List (Str × Int)) → (Bool × Nat) → R (HS × List (Option Nat) × List (Str × Int)) :=
  fun acc fm =>
    match candF e fuel d rec mid fm.2 acc.1 with
    | .error err => .error err
    | .ok (s2, none) => .ok (s2, acc.2.1, acc.2.2)
    | .ok (s2, some c) =>
      match abs s2.heap c with
      | none => .error .outOfFuel
      | some co =>
      match extractFormatStr e (fuel + 64) mo co with
      | .error err => .error err
      | .ok cs => .ok (s2, bookF d fm.1 acc.2.1 acc.2.2 cs masterStr c)

/-- the `.multiple` branch after the master key is known; `recN` is the non-diff `scope.fetch` one level down (the
    default instance of a mandatory scope), `recD` the one with the flag `d` (the candidates) -/
def multiTailF (e : Envs) (d : Bool) (recN recD : FetchH) (fuel : Nat) (mk : List Nat)
    (idx : Nat) (mo : Obj) (mid : Nat) (masterStr : Str) (matching : List Nat) (s1 : HS) (out : List Nat) :
    R (HS × List Nat) :=
  let fromMaster : List Nat :=
    (mk.zipIdx.filter (fun (p : Nat × Nat) => liveB s1.heap p.1 && nameAt s1.heap p.1 == mo.name && p.2 != idx)).map (·.1)
  let cands : List (Bool × Nat) := fromMaster.map (fun x => (true, x)) ++ matching.map (fun x => (false, x))
  match foldH (cstepF e d recD fuel mo mid masterStr) (s1, ([] : List (Option Nat)), ([] : List (Str × Int))) cands with
  | .error err => .error err
  | .ok (s2, robjs, processed) =>
    let insts : List Nat := robjs.filterMap (fun (x : Option Nat) => x)
    if d then .ok (s2, out ++ insts) else
    let t : Int := if (mo.attr "optional").mandatory then 0 else if processed.isEmpty then 1 else -1
    match fetchTemplate s2.heap mid t with
    | none => .error .outOfFuel
    | some (h3, c) =>
      if (mo.attr "optional").mandatory && isDefnAt s2.heap mid == false then
        (match recN mid [] { s2 with heap := h3 } with
         | .error err => .error err
         | .ok (s4, r) => .ok (s4, out ++ [r] ++ insts))
      else .ok ({ s2 with heap := h3 }, out ++ [c] ++ insts)

/-- the body of the loop over the active master objects -/
def stepF (e : Envs) (d : Bool) (recN recD : FetchH) (fuel : Nat) (sm : Meta)
    (mk : List Nat) (src : Nat) : (HS × List Nat) → (Nat × Obj) → R (HS × List Nat) :=
  fun st io =>
    let s0 : HS := st.1
    let out : List Nat := st.2
    let mo : Obj := io.2
    match mk[io.1]? with
    | none => .error .outOfFuel
    | some mid =>
    let matching : List Nat := (getWS (fuel + 64) s0.heap src (pathOf sm mo)).filter (liveB s0.heap)
    if !isMultiple mo then
      match s0.heap[mid]? with
      | some (.defn mm _ _) =>
        (match foldH (fun (acc : HS × Option Nat) (ms : Nat) => fetchValueF e fuel d mid ms acc.1)
            (s0, (none : Option Nat)) matching with
         | .error err => .error err
         | .ok (s1, some r) => .ok (s1, out ++ [r])
         | .ok (s1, none) =>
           if !d && !(mm.attrs.get "deprecated").truthy then
             match copy s1.heap mid with
             | none => .error .outOfFuel
             | some (h2, c) => .ok ({ s1 with heap := h2 }, out ++ [c])
           else .ok (s1, out))
      | some (.scope _ _ _) =>
        if matching.any (isDefnAt s0.heap) then .error (.runtime "incompatible" none) else
        (match recD mid (matching.flatMap (kidsOf s0.heap)) s0 with
         | .error err => .error err
         | .ok (s1, r) => if d && (kidsOf s1.heap r).isEmpty then .ok (s1, out) else .ok (s1, out ++ [r]))
      | none => .error .outOfFuel
    else
      match selfFetchH recN mo mid s0 with
      | .error err => .error err
      | .ok (s1, selfId) =>
      let selfObj : R (Obj × List Nat) :=
        match selfId with
        | some r => (match abs s1.heap r with | some o => .ok (o, []) | none => .error .outOfFuel)
        | none => .error .outOfFuel
      match masterKeyOf e fuel mo selfObj with
      | .error err => .error err
      | .ok masterStr => multiTailF e d recN recD fuel mk io.1 mo mid masterStr matching s1 out

/-- `self.fetch(sources=…, diff=d)` on the heap -/
def fetchF (e : Envs) (d : Bool) : Nat → FetchH
  | 0, _, _, _ => .error .outOfFuel
  | fuel + 1, self, combined, s =>
    match s.heap[self]? with
    | some (.scope sm mk _) =>
      match customizedCopy s.heap self none none (some combined) with
      | none => .error .outOfFuel
      | some (h1, src) =>
      match mapOpt (abs h1) mk with
      | none => .error .outOfFuel
      | some mobjs =>
      match masterActiveObjects mobjs with
      | .error err => .error err
      | .ok actives =>
        match foldH (stepF e d (fetchH e fuel) (fetchF e d fuel) fuel sm mk src)
            ({ s with heap := h1 }, ([] : List Nat)) actives with
        | .error err => .error err
        | .ok (s2, out) =>
          match fetchResult s2.heap self out with
          | none => .error .outOfFuel
          | some (h3, r) => .ok ({ s2 with heap := h3 }, r)
    -- the two strings of `fetchDiffH` and `fetchH`, so that `fetchF_true` and `fetchF_false` hold by `rfl`
    | _ => .error (.unsupported (if d then "fetchDiffH on a non-scope" else "fetchH on a non-scope"))

theorem stepF_false (e : Envs) (rec : FetchH) (fuel : Nat) (sm : Meta) (mk : List Nat)
    (src : Nat) : stepF e false rec rec fuel sm mk src = stepH e rec fuel sm mk src := by
  funext st io; rfl

theorem stepF_true (e : Envs) (recN recD : FetchH) (fuel : Nat) (sm : Meta) (mk : List Nat)
    (src : Nat) : stepF e true recN recD fuel sm mk src = stepDiffH e recN recD fuel sm mk src := by
  funext st io; rfl

theorem fetchF_false (e : Envs) : ∀ fuel, fetchF e false fuel = fetchH e fuel
  | 0 => by funext self combined s; rfl
  | fuel + 1 => by
    funext self combined s
    simp only [fetchF, fetchH, fetchF_false e fuel, stepF_false]
    rfl

theorem fetchF_true (e : Envs) : ∀ fuel, fetchF e true fuel = fetchDiffH e fuel
  | 0 => by funext self combined s; rfl
  | fuel + 1 => by
    funext self combined s
    simp only [fetchF, fetchDiffH, fetchF_true e fuel, stepF_true]
    rfl

/-! ### `definition.fetch` -/

section
variable {e : Envs} {fuel : Nat} {d : Bool} {n0 : Nat} {rec recN recD : FetchH}

theorem fetchValueH_eq {mid sid : Nat} {s s' : HS} {ro : Option Nat} (hf : fetchValueH mid sid s = .ok (s', ro)) :
    ∃ mm mws mp sm sws sp po ext, s.heap[mid]? = some (.defn mm mws mp) ∧ s.heap[sid]? = some (.defn sm sws sp) ∧
      fetchValue (.defn mm mws) (.defn sm sws) = .ok po ∧ s' = { heap := s.heap ++ ext, tmp := s.tmp ++ [sid] } ∧
      OptRel (fun r o => s.heap.length ≤ r ∧
        (s.heap ++ ext)[r]? = some (.defn { mm with tmpl := 0 } (objWords o) mp)) ro po := by
  unfold fetchValueH at hf
  split at hf
  · rename_i mm mws mp sm sws sp hm hs
    split at hf
    · cases hf
    · split at hf
      · cases hf
      · rename_i po hpo
        split at hf
        · cases hf
        · rename_i h2 c2 hcc
          obtain ⟨n, hn, rfl, rfl⟩ := customizedCopy_eq hcc
          split at hf
          · cases hf
            exact ⟨mm, mws, mp, sm, sws, sp, none, _, hm, hs, hpo, rfl, trivial⟩
          · rename_i o
            split at hf
            · cases hf
            · rename_i h3 c hcc3
              obtain ⟨n3, hn3, rfl, rfl⟩ := customizedCopy_eq hcc3
              cases hf
              rw [getElem?_append_some _ hm] at hn3
              cases hn3
              refine ⟨mm, mws, mp, sm, sws, sp, some o, _, hm, hs, hpo, by rw [List.append_assoc], ?_⟩
              rw [← List.append_assoc]
              exact ⟨by simp, List.getElem?_concat_length⟩
  · cases hf
  · cases hf

theorem fetchDiffValueH_eq {mid sid : Nat} {s s' : HS} {ro : Option Nat}
    (hf : fetchDiffValueH e fuel mid sid s = .ok (s', ro)) :
    ∃ ro1, fetchValueH mid sid s = .ok (s', ro1) ∧ (ro = none ∨ ro = ro1) := by
  unfold fetchDiffValueH at hf
  split at hf
  · cases hf
  · rename_i s1 ro1 hv
    split at hf
    · cases hf
    · split at hf
      · cases hf
      · split at hf <;> cases hf
        · exact ⟨_, hv, .inl rfl⟩
        · exact ⟨_, hv, .inr rfl⟩

theorem fetchValueF_spec {mid sid : Nat} {s s' : HS} {ro : Option Nat}
    (hn0 : n0 ≤ s.heap.length) (hf : fetchValueF e fuel d mid sid s = .ok (s', ro)) :
    HExt s s' ∧ ∀ r, ro = some r → Shape d n0 s'.heap r := by
  have hv : ∃ ro1, fetchValueH mid sid s = .ok (s', ro1) ∧ (ro = none ∨ ro = ro1) := by
    cases d
    · exact ⟨ro, hf, .inr rfl⟩
    · exact fetchDiffValueH_eq hf
  obtain ⟨ro1, hv, hro⟩ := hv
  obtain ⟨mm, mws, mp, sm, sws, sp, po, ext, _, hs, _, rfl, hpo⟩ := fetchValueH_eq hv
  refine ⟨⟨⟨ext, rfl⟩, [sid], rfl, fun i hi => List.mem_singleton.mp hi ▸ IsDefnCell.append ⟨_, _, _, hs⟩ ext⟩, ?_⟩
  rintro r rfl
  rcases hro with hro | rfl
  · cases hro
  · cases po with
    | none => exact hpo.elim
    | some o => exact .defn (Nat.le_trans hn0 hpo.1) hpo.2

/-! ### the loops of `scope.fetch` -/

/-- what the callee one level down guarantees.  `self < n0` and `Old`: the master scope is an old cell, and
    the template copies in a result point at old cells, so `Shape` is stated relative to the first `n0` -/
def RecOK (d : Bool) (n0 : Nat) (rec : FetchH) : Prop :=
  ∀ self combined s s' r, Old n0 s.heap → self < n0 →
    rec self combined s = .ok (s', r) → HExt s s' ∧ Shape d n0 s'.heap r

theorem candF_spec (hrec : RecOK d n0 rec) {mid ms : Nat} {s s2 : HS} {co : Option Nat} (hmid : mid < n0)
    (ho : Old n0 s.heap) (hc : candF e fuel d rec mid ms s = .ok (s2, co)) : HExt s s2 ∧ ∀ r, co = some r → Shape d n0 s2.heap r := by
  unfold candF at hc
  split at hc
  · exact fetchValueF_spec ho.1 hc
  · split at hc
    · split at hc
      · cases hc
      · rename_i s3 r3 hr
        obtain ⟨h1, h2⟩ := hrec _ _ _ _ _ ho hmid hr
        split at hc <;> cases hc
        · exact ⟨h1, fun r hr' => nomatch hr'⟩
        · exact ⟨h1, fun r hr' => Option.some.inj hr' ▸ h2⟩
    · cases hc
    · cases hc
  · cases hc

theorem selfFetchH_spec (hrec : RecOK false n0 rec)
    {mo : Obj} {mid : Nat} {s s2 : HS} {co : Option Nat} (hmid : mid < n0) (ho : Old n0 s.heap)
    (hc : selfFetchH rec mo mid s = .ok (s2, co)) : HExt s s2 := by
  unfold selfFetchH at hc
  split at hc
  · split at hc
    · cases hc
    · rename_i s3 r3 hr
      cases hc
      exact (hrec _ _ _ _ _ ho hmid hr).1
  · cases hc
    exact HExt.refl _

theorem bookF_mem {fromM : Bool} {robjs : List (Option Nat)} {processed : List (Str × Int)} {cs ms : Str} {c r : Nat}
    (h : some r ∈ (bookF d fromM robjs processed cs ms c).1) : some r ∈ robjs ∨ r = c := by
  rw [bookF_eq] at h
  split at h
  · exact .inl h
  · exact book_mem h

/-- the state of a loop of `fetchF` started in `sA`: the run so far has only allocated and marked, and the objects
    collected so far are result-shaped -/
def QS (d : Bool) (n0 : Nat) (sA : HS) (st : HS × List Nat) : Prop :=
  HExt sA st.1 ∧ ∀ r ∈ st.2, Shape d n0 st.1.heap r

theorem QS.ext {sA s s1 : HS} {out : List Nat} (q : QS d n0 sA (s, out)) (g : HExt s s1) :
    QS d n0 sA (s1, out) :=
  ⟨q.1.trans g, fun r hr => (q.2 r hr).grows g.grows⟩

theorem QS.app {sA s : HS} {out new : List Nat} (q : QS d n0 sA (s, out))
    (hn : ∀ r ∈ new, Shape d n0 s.heap r) : QS d n0 sA (s, out ++ new) :=
  ⟨q.1, fun r hr => (List.mem_append.mp hr).elim (q.2 r) (hn r)⟩

theorem QS.push {sA s s1 : HS} {out : List Nat} {r : Nat} (q : QS d n0 sA (s, out))
    (g : HExt s s1) (hr : Shape d n0 s1.heap r) : QS d n0 sA (s1, out ++ [r]) :=
  (q.ext g).app (fun _ h => List.mem_singleton.mp h ▸ hr)

/-- invariant of the candidate loop -/
def QC (d : Bool) (n0 : Nat) (sA : HS) (acc : HS × List (Option Nat) × List (Str × Int)) : Prop :=
  HExt sA acc.1 ∧ ∀ r, some r ∈ acc.2.1 → Shape d n0 acc.1.heap r

theorem cstepF_spec (hrec : RecOK d n0 rec)
    {mo : Obj} {mid : Nat} {masterStr : Str} (hmid : mid < n0) {sA : HS} (ho : Old n0 sA.heap)
    (acc : HS × List (Option Nat) × List (Str × Int)) (fm : Bool × Nat)
    (acc' : HS × List (Option Nat) × List (Str × Int))
    (hq : QC d n0 sA acc) (hf : cstepF e d rec fuel mo mid masterStr acc fm = .ok acc') : QC d n0 sA acc' := by
  obtain ⟨hext, hres⟩ := hq
  have hcand := fun s2 co => candF_spec (e := e) (fuel := fuel) (ms := fm.2) (s2 := s2) (co := co) hrec hmid
    (ho.grows hext.grows)
  unfold cstepF at hf
  split at hf
  · cases hf
  · rename_i s2 hc
    cases hf
    obtain ⟨h1, _⟩ := hcand s2 none hc
    exact ⟨hext.trans h1, fun r hr => (hres r hr).grows h1.grows⟩
  · rename_i s2 c hc
    obtain ⟨h1, h2⟩ := hcand s2 (some c) hc
    split at hf
    · cases hf
    · split at hf
      · cases hf
      · cases hf
        refine ⟨hext.trans h1, fun r hr => ?_⟩
        rcases bookF_mem hr with hr | rfl
        · exact (hres r hr).grows h1.grows
        · exact h2 r rfl

theorem multiTailF_spec (hrecN : RecOK false n0 recN) (hrecD : RecOK d n0 recD) {mk : List Nat} {idx : Nat} {mo : Obj}
    {mid : Nat} {masterStr : Str} {matching : List Nat} (hmid : mid < n0) {sA s1 : HS} (ho : Old n0 sA.heap)
    {out : List Nat} {st' : HS × List Nat} (hq : QS d n0 sA (s1, out))
    (hf : multiTailF e d recN recD fuel mk idx mo mid masterStr matching s1 out = .ok st') : QS d n0 sA st' := by
  have ho1 := ho.grows hq.1.grows
  unfold multiTailF at hf
  dsimp only at hf
  split at hf
  · cases hf
  · rename_i s2 robjs processed hfold
    obtain ⟨h12, hres2⟩ := foldH_inv _ (QC d n0 s1)
      (fun acc fm acc' => cstepF_spec hrecD hmid ho1 acc fm acc')
      _ _ _ (show QC d n0 s1 (s1, [], []) from ⟨HExt.refl _, by simp⟩) hfold
    have hq2 := hq.ext h12
    have hinst : ∀ x ∈ robjs.filterMap (fun (x : Option Nat) => x), Shape d n0 s2.heap x := fun x hx => by
      obtain ⟨a, ha, rfl⟩ := List.mem_filterMap.mp hx
      exact hres2 x ha
    split at hf
    · cases hf
      exact hq2.app hinst
    · rename_i hd
      have hd : d = false := by simpa using hd
      subst hd
      split at hf
      · cases hf
      · rename_i h3 c hft
        obtain ⟨n, hn, rfl, rfl⟩ := fetchTemplate_eq' hft
        have h23 := HExt.alloc s2 [n.assign (.slot fun m => { m with tmpl :=
          if (mo.attr "optional").mandatory then 0 else if processed.isEmpty then 1 else -1 })]
        have ho2 := ho1.grows h12.grows
        have hinst3 := fun x hx => (hinst x hx).grows h23.grows
        split at hf
        · split at hf
          · cases hf
          · rename_i s4 r hr
            cases hf
            obtain ⟨h34, hr4⟩ := hrecN _ _ _ _ _ (ho2.grows h23.grows) hmid hr
            exact ((hq2.ext h23).push h34 hr4).app (fun x hx => (hinst3 x hx).grows h34.grows)
        · rename_i hcond
          cases hf
          refine (hq2.push h23 (fetchTemplate_shape (fun hnd => ?_) hmid ho2.1 hft)).app hinst3
          have hman : (mo.attr "optional").mandatory = false := by
            simpa [hnd] using hcond
          cases processed.isEmpty <;> simp [hman]

theorem stepF_spec (hrecN : RecOK false n0 recN) (hrecD : RecOK d n0 recD) {sm : Meta} {mk : List Nat} {src : Nat}
    (hmk : ∀ k ∈ mk, k < n0) {sA : HS} (ho : Old n0 sA.heap) (st : HS × List Nat) (io : Nat × Obj)
    (st' : HS × List Nat) (hq : QS d n0 sA st) (hf : stepF e d recN recD fuel sm mk src st io = .ok st') :
    QS d n0 sA st' := by
  have ho' := ho.grows hq.1.grows
  unfold stepF at hf
  dsimp only at hf
  split at hf
  · cases hf
  · rename_i mid hmidEq
    have hmid : mid < n0 := hmk mid (List.mem_of_getElem? hmidEq)
    split at hf
    · split at hf
      · -- a definition: every matching source is fetched, the last result counts
        rename_i mm mws mp hcell
        split at hf
        · cases hf
        all_goals
          rename_i hfold
          obtain ⟨h1, h2⟩ := foldH_inv (fun (acc : HS × Option Nat) (ms : Nat) => fetchValueF e fuel d mid ms acc.1)
            (fun acc => HExt st.1 acc.1 ∧ ∀ r, acc.2 = some r → Shape d n0 acc.1.heap r)
            (fun a ms a' ha hs =>
              (fetchValueF_spec (Nat.le_trans ho'.1 ha.1.grows.length_le) hs).imp_left ha.1.trans)
            _ _ _ ⟨HExt.refl _, fun r hr => by cases hr⟩ hfold
        · cases hf
          exact hq.push h1 (h2 _ rfl)
        · split at hf
          · split at hf
            · cases hf
            · rename_i h2 c hcopy
              obtain ⟨n, hn, rfl, rfl⟩ := copy_eq hcopy
              cases hf
              rw [h1.grows.get hcell] at hn
              cases hn
              exact (hq.ext h1).push (HExt.alloc _ _)
                (.defn (Nat.le_trans ho'.1 h1.grows.length_le) (p := mp) List.getElem?_concat_length)
          · cases hf
            exact hq.ext h1
      · split at hf
        · cases hf
        · split at hf
          · cases hf
          · rename_i s1 r hr
            obtain ⟨h1, h2⟩ := hrecD _ _ _ _ _ ho' hmid hr
            split at hf <;> cases hf
            · exact hq.ext h1
            · exact hq.push h1 h2
      · cases hf
    · split at hf
      · cases hf
      · rename_i s1 selfId hself
        have h1 : HExt st.1 s1 := selfFetchH_spec hrecN hmid ho' hself
        split at hf
        · cases hf
        · exact multiTailF_spec hrecN hrecD hmid ho (hq.ext h1) hf

end

/-! ### `scope.fetch` -/

theorem fetchF_spec (e : Envs) (n0 : Nat) : ∀ (fuel : Nat) (d : Bool), RecOK d n0 (fetchF e d fuel)
  | 0, _ => fun _ _ _ _ _ _ _ hf => nomatch hf
  | fuel + 1, d => by
    intro self combined s s' r ho hself hf
    simp only [fetchF] at hf
    split at hf
    · rename_i sm mk sp hcell
      split at hf
      · cases hf
      · rename_i h1 src hcc
        obtain ⟨n, hn, rfl, rfl⟩ := customizedCopy_eq hcc
        split at hf
        · cases hf
        · split at hf
          · cases hf
          · split at hf
            · cases hf
            · rename_i s2 out hfold
              split at hf
              · cases hf
              · rename_i h3 r' hres
                obtain ⟨n', hn', rfl, rfl⟩ := customizedCopy_eq hres
                cases hf
                have hA := HExt.alloc s [ccNode n none none (some combined)]
                obtain ⟨h02, hres2⟩ := foldH_inv _ (QS d n0 { s with heap := s.heap ++ [ccNode n none none (some combined)] })
                  (stepF_spec (fetchF_false e fuel ▸ fetchF_spec e n0 fuel false) (fetchF_spec e n0 fuel d)
                    (fun k hk => ho.2 self _ hself hcell k hk) (ho.grows hA.grows))
                  _ _ _ ⟨HExt.refl _, by simp⟩ hfold
                have h02 := hA.trans h02
                rw [h02.grows.get hcell] at hn'
                cases hn'
                exact ⟨h02.trans (HExt.alloc s2 _), .ccScope (Nat.le_trans ho.1 h02.grows.length_le) hres2⟩
    · cases hf

end Phil.Heap
