/-
  Lemmas behind C15: every tokenizer primitive keeps `line = start line + newlines consumed`,
  and the line stored in a word is the line of the word's first character.
-/
import Phil.Tok
import Phil.Proofs.Quote
import Phil.Proofs.Generic
namespace Phil

/-! ### counting newlines -/

@[simp] theorem nlCount_nil : nlCount [] = 0 := rfl

theorem nlCount_append (a b : Str) : nlCount (a ++ b) = nlCount a + nlCount b := by
  simp [nlCount, List.count_append]

theorem nlCount_cons_nl (s : Str) : nlCount ('\n' :: s) = nlCount s + 1 := by
  simp [nlCount]

theorem nlCount_cons_ne (c : Char) (s : Str) (h : c ≠ '\n') : nlCount (c :: s) = nlCount s := by
  simp [nlCount, h]

theorem nlCount_of_no_nl (s : Str) (h : ∀ c ∈ s, c ≠ '\n') : nlCount s = 0 := by
  induction s with
  | nil => rfl
  | cons c cs ih =>
    obtain ⟨hc, hcs⟩ := List.forall_mem_cons.mp h
    rw [nlCount_cons_ne c cs hc, ih hcs]

theorem nlCount_cons (c : Char) (s : Str) : nlCount (c :: s) = nlCount [c] + nlCount s :=
  nlCount_append [c] s

theorem nlCount_take_drop (n : Nat) (s : Str) :
    nlCount s = nlCount (s.take n) + nlCount (s.drop n) := by
  rw [← nlCount_append, List.take_append_drop]

theorem isSpace_nl : isSpace '\n' = true := by rfl

theorem ne_nl_of_not_space {c : Char} (h : isSpace c = false) : c ≠ '\n' := by
  intro hc; subst hc; rw [isSpace_nl] at h; cases h

theorem bump_not_space {c : Char} (h : isSpace c = false) (l : Nat) : bump c l = l := by
  have := ne_nl_of_not_space h
  simp [bump, this]

theorem bump_cons (c : Char) (l : Nat) (k : Str) : bump c l + nlCount k = l + nlCount (c :: k) := by
  rw [bump_eq, nlCount_cons c k]; omega

/-! ### consuming a prefix -/

/-- reading from `(cs, line)` to `(rest, line')` consumes a prefix and counts exactly its newlines -/
def Consumes (cs : Str) (line : Nat) (rest : Str) (line' : Nat) : Prop :=
  ∃ consumed, cs = consumed ++ rest ∧ line' = line + nlCount consumed

theorem Consumes.refl (cs : Str) (line : Nat) : Consumes cs line cs line := ⟨[], rfl, rfl⟩

theorem Consumes.trans {a b c : Str} {l m n : Nat} (h1 : Consumes a l b m) (h2 : Consumes b m c n) :
    Consumes a l c n := by
  obtain ⟨k1, e1, f1⟩ := h1
  obtain ⟨k2, e2, f2⟩ := h2
  exact ⟨k1 ++ k2, by rw [e1, e2, List.append_assoc], by rw [f2, f1, nlCount_append]; omega⟩

theorem Consumes.prefix_noNl {cs k rest : Str} (line : Nat) (h : cs = k ++ rest)
    (hk : nlCount k = 0) : Consumes cs line rest line := ⟨k, h, by rw [hk]; rfl⟩

theorem Consumes.cons_bump (c : Char) (cs : Str) (line : Nat) :
    Consumes (c :: cs) line cs (bump c line) := ⟨[c], rfl, bump_eq c line⟩

theorem Consumes.cons_ne (c : Char) (cs : Str) (line : Nat) (h : c ≠ '\n') :
    Consumes (c :: cs) line cs line := ⟨[c], rfl, by rw [nlCount_cons_ne c [] h]; rfl⟩

theorem Consumes.cons_nl (cs : Str) (line : Nat) : Consumes ('\n' :: cs) line cs (line + 1) :=
  Consumes.cons_bump '\n' cs line

/-- What a tokenizer primitive started at `(cs, line)` guarantees about the line counter: a result has
    consumed a prefix and counted its newlines (`fin` reads the new state off the result); "missing
    closing quote" cites the line at the end of the input (`err` reads the line off the error). -/
def Counts {ε α : Type} (cs : Str) (line : Nat) (fin : α → Str × Nat) (err : ε → Nat) :
    Except ε α → Prop
  | .ok a => Consumes cs line (fin a).1 (fin a).2
  | .error e => err e = line + nlCount cs

theorem Consumes.counts {ε α : Type} {fin : α → Str × Nat} {err : ε → Nat} {a b : Str} {l m : Nat}
    (h : Consumes a l b m) {r : Except ε α} (hr : Counts b m fin err r) : Counts a l fin err r := by
  cases r with
  | ok x => exact h.trans hr
  | error x =>
    obtain ⟨k, e, f⟩ := h
    show err x = _
    rw [hr, f, e, nlCount_append, Nat.add_assoc]

/-! ### the quoted scanner -/

/-- Hypothesis `q ≠ '\n'` is necessary (see the end of the file). -/
theorem scanQ_counts (q : Char) (hq : q ≠ '\n') (triple : Bool) :
    ∀ (cs : Str) (esc : Bool) (line : Nat) (acc : Str),
      Counts cs line (fun r => (r.2.1, r.2.2)) id (scanQ q triple esc cs line acc) := by
  intro cs
  induction cs with
  | nil => intro esc line acc; cases esc <;> exact (Nat.add_zero line).symm
  | cons c cs ih =>
    intro esc line acc
    -- a branch that goes on after `c` with the counter at `line1`
    have go : ∀ line1 e a, Consumes (c :: cs) line cs line1 →
        Counts (c :: cs) line (fun r => (r.2.1, r.2.2)) id (scanQ q triple e cs line1 a) :=
      fun _ e a h => h.counts (ih e _ a)
    have ne_q : ∀ d, (d == q) = true → d ≠ '\n' := fun d h => eq_of_beq h ▸ hq
    have ne_bs : (c == '\\') = true → c ≠ '\n' := fun h => eq_of_beq h ▸ by decide
    cases esc with
    | true =>
      simp only [scanQ]
      split
      · next h => exact go _ _ _ (.cons_ne c cs line (ne_bs h))
      · split
        · next h => exact go _ _ _ (.cons_ne c cs line (ne_q c h))
        · split
          · next h => cases eq_of_beq h; exact go _ _ _ (.cons_nl cs line)
          · next h => exact go _ _ _ (.cons_ne c cs line (by simpa using h))
    | false =>
      simp only [scanQ]
      split
      · next h =>
        have hc := Consumes.cons_ne c cs line (ne_q c h)
        split
        · exact hc
        · split
          · split
            · next a b cs' hab =>
              rw [Bool.and_eq_true] at hab
              exact ((Consumes.cons_ne c _ line (ne_q c h)).trans
                (.cons_ne a _ line (ne_q a hab.1))).trans (.cons_ne b _ line (ne_q b hab.2))
            · exact go _ _ _ hc
          · exact go _ _ _ hc
      · split
        · next h => exact go _ _ _ (.cons_ne c cs line (ne_bs h))
        · exact go _ _ _ (.cons_bump c cs line)

/-! ### the unquoted scanner -/

theorem isSpace_false_of_not_ends {st : Settings} {c : Char} (h : endsUnquoted st c = false) :
    isSpace c = false := by
  unfold endsUnquoted at h
  cases hs : isSpace c
  · rfl
  · rw [hs] at h; simp at h

theorem not_nl_of_not_endsUnquoted {s : Settings} {c : Char} (h : endsUnquoted s c = false) :
    c ≠ '\n' :=
  ne_nl_of_not_space (isSpace_false_of_not_ends h)

/-- an unquoted word never contains a newline -/
theorem scanU_line (s : Settings) :
    ∀ (cs acc v rest : Str), scanU s cs acc = (v, rest) →
      ∃ consumed, cs = consumed ++ rest ∧ nlCount consumed = 0 ∧ v = acc.reverse ++ consumed := by
  intro cs
  induction cs with
  | nil => intro acc v rest h; cases h; exact ⟨[], rfl, rfl, by simp⟩
  | cons c cs ih =>
    intro acc v rest h
    rw [scanU] at h
    split at h
    · cases h; exact ⟨[], rfl, rfl, by simp⟩
    · next he =>
      obtain ⟨k, hk, hn, hv⟩ := ih _ _ _ h
      refine ⟨c :: k, by rw [hk]; rfl, ?_, by rw [hv]; simp⟩
      rw [nlCount_cons_ne c k (not_nl_of_not_endsUnquoted (by simpa using he))]; exact hn

/-! ### one word -/

theorem isTripleOpen_true {c : Char} {cs : Str} (h : isTripleOpen c cs = true) :
    cs = [c, c] ++ cs.drop 2 := by
  match cs, h with
  | a :: b :: cs', h =>
    have : a = c ∧ b = c := by simpa [isTripleOpen] using h
    rw [this.1, this.2]; rfl

theorem quote_ne_nl {c : Char} (h : (c == '"' || c == '\'') = true) : c ≠ '\n' := by
  intro hc; subst hc; revert h; decide

theorem wordAt_counts (s : Settings) (c : Char) (cs : Str) (line : Nat) :
    Counts cs line (fun p => (p.2.rest, p.2.line)) (fun | .missingClosingQuote l => l)
      (wordAt s c cs line) ∧
    ∀ w ci, wordAt s c cs line = .ok (w, ci) → w.line = some line := by
  unfold wordAt
  split
  · next hquote =>
    have hcn := quote_ne_nl hquote
    have hbody : Consumes cs line (if isTripleOpen c cs then cs.drop 2 else cs) line := by
      split
      · next ht =>
        exact Consumes.prefix_noNl line (isTripleOpen_true ht)
          (by rw [nlCount_cons_ne c _ hcn, nlCount_cons_ne c _ hcn]; rfl)
      · exact Consumes.refl _ _
    have := hbody.counts (scanQ_counts c hcn (isTripleOpen c cs) _ false line [])
    simp only
    generalize scanQ c (isTripleOpen c cs) false _ line [] = r at this
    cases r with
    | error l => exact ⟨this, fun _ _ h => nomatch h⟩
    | ok p => exact ⟨this, fun _ _ h => by cases h; rfl⟩
  · split
    · obtain ⟨k, hk, hn, _⟩ := scanU_line s cs [c] _ _ rfl
      exact ⟨Consumes.prefix_noNl line hk hn, fun _ _ h => by cases h; rfl⟩
    · exact ⟨Consumes.refl _ _, fun _ _ h => by cases h; rfl⟩

theorem wordAt_line (s : Settings) (c : Char) (cs : Str) (line : Nat) (w : Word) (rest : Str)
    (line' : Nat) (h : wordAt s c cs line = .ok (w, ⟨rest, line'⟩)) :
    w.line = some line ∧ ∃ consumed, cs = consumed ++ rest ∧ line' = line + nlCount consumed := by
  obtain ⟨h1, h2⟩ := wordAt_counts s c cs line
  rw [h] at h1
  exact ⟨h2 _ _ h, h1⟩

/-! ### the word iterator -/

/-- `nextWordAux` on `cs` from `line` returns the word `w` and the state `(rest, line')`: the input
    splits into skipped blanks/comments `pre`, the word's first character `c` (not a space, hence
    not a newline), the remaining characters `tail` of the word and the untouched `rest`; the word is
    the one `wordAt` reads at `c` with the counter at the line of `c`; that line is recorded in the
    word. -/
def ReadsWord (s : Settings) (cs : Str) (line : Nat) (w : Word) (rest : Str) (line' : Nat) : Prop :=
  ∃ (pre : Str) (c : Char) (tail : Str),
    cs = pre ++ c :: tail ++ rest ∧ isSpace c = false ∧
    wordAt s c (tail ++ rest) (line + nlCount pre) = .ok (w, ⟨rest, line'⟩) ∧
    w.line = some (line + nlCount pre) ∧
    line' = line + nlCount (pre ++ c :: tail)

theorem nextWordAux_counts (s : Settings) :
    ∀ (cs : Str) (b : Bool) (line : Nat),
      match nextWordAux s b cs line with
      | .ok none => True
      | .ok (some (w, ⟨rest, line'⟩)) => ReadsWord s cs line w rest line'
      | .error (.missingClosingQuote l) => l = line + nlCount cs := by
  intro cs
  induction cs with
  | nil => intro b line; cases b <;> trivial
  | cons c cs ih =>
    intro b line
    -- skipping one character `c` that moves the counter from `line` to `line1`
    have skip : ∀ (b1 : Bool) (line1 : Nat), (∀ k, line1 + nlCount k = line + nlCount (c :: k)) →
        nextWordAux s b (c :: cs) line = nextWordAux s b1 cs line1 →
        match nextWordAux s b (c :: cs) line with
        | .ok none => True
        | .ok (some (w, ⟨rest, line'⟩)) => ReadsWord s (c :: cs) line w rest line'
        | .error (.missingClosingQuote l) => l = line + nlCount (c :: cs) := by
      intro b1 line1 hl e
      have := ih b1 line1
      rw [e]
      match nextWordAux s b1 cs line1, this with
      | .ok none, _ => trivial
      | .ok (some (w, ⟨rest, line'⟩)), ⟨pre, c0, tail, hcs, hsp, hw, hwl, hl'⟩ =>
        exact ⟨c :: pre, c0, tail, by rw [hcs]; rfl, hsp, by rw [← hl]; exact hw,
          by rw [← hl]; exact hwl, by rw [hl', List.cons_append, hl]⟩
      | .error (.missingClosingQuote l), h => exact h.trans (hl cs)
    cases b with
    | true =>
      by_cases h1 : c = '\n'
      · subst h1
        exact skip false (line + 1) (fun k => by rw [nlCount_cons_nl]; omega) (by simp [nextWordAux])
      · exact skip true line (fun k => by rw [nlCount_cons_ne c k h1]) (by simp [nextWordAux, h1])
    | false =>
      cases hsp : isSpace c
      · have hcn := ne_nl_of_not_space hsp
        cases hcm : isCommentStart s c cs
        · have e : nextWordAux s false (c :: cs) line = (wordAt s c cs line).map some := by
            simp [nextWordAux, hsp, hcm]
          rw [e]
          obtain ⟨h1, h2⟩ := wordAt_counts s c cs line
          cases hw : wordAt s c cs line with
          | ok p =>
            obtain ⟨w, rest, line'⟩ := p
            rw [hw] at h1
            obtain ⟨k, hk, hl⟩ := h1
            exact ⟨[], c, k, by rw [hk]; rfl, hsp, by rw [← hk]; exact hw, h2 _ _ hw,
              by rw [List.nil_append, nlCount_cons_ne c k hcn]; exact hl⟩
          | error x =>
            obtain ⟨l⟩ := x
            rw [hw] at h1
            show l = _
            rw [nlCount_cons_ne c cs hcn]; exact h1
        · exact skip true line (fun k => by rw [nlCount_cons_ne c k hcn])
            (by simp [nextWordAux, hsp, hcm])
      · exact skip false (bump c line) (fun k => bump_cons c line k) (by simp [nextWordAux, hsp])

/-! ### scan_for_start -/

theorem scanForStart_nl_line :
    ∀ (cs : Str) (l : Nat) (rest : Str) (l' : Nat), scanForStart.nl cs l = (rest, l') →
      Consumes cs l rest l' ∧ ∀ d ds, rest = d :: ds → d ≠ '\n' := by
  intro cs
  induction cs with
  | nil => intro l rest l' h; cases h; exact ⟨.refl _ _, nofun⟩
  | cons c cs ih =>
    intro l rest l' h
    simp only [scanForStart.nl] at h
    split at h
    · next h1 =>
      cases eq_of_beq h1
      obtain ⟨hc, hd⟩ := ih _ _ _ h
      exact ⟨(Consumes.cons_nl cs l).trans hc, hd⟩
    · next h1 =>
      cases h
      exact ⟨.refl _ _, fun d ds e => by cases e; simpa using h1⟩

theorem dropWhileNotSpace_line (cs : Str) (line : Nat) :
    Consumes cs line (dropWhileNotSpace cs) line := by
  induction cs with
  | nil => exact .refl _ _
  | cons c cs ih =>
    simp only [dropWhileNotSpace]
    split
    · exact .refl _ _
    · next h => exact (Consumes.cons_ne c cs line (ne_nl_of_not_space (by simpa using h))).trans ih

theorem dropSpaceCounting_line :
    ∀ (cs : Str) (line : Nat) (rest : Str) (line' : Nat),
      dropSpaceCounting cs line = (rest, line') →
      ∃ consumed, cs = consumed ++ rest ∧ line' = line + nlCount consumed := by
  intro cs
  induction cs with
  | nil => intro line rest line' h; cases h; exact Consumes.refl _ _
  | cons c cs ih =>
    intro line rest line' h
    simp only [dropSpaceCounting] at h
    split at h
    · exact (Consumes.cons_bump c cs line).trans (ih _ _ _ h)
    · cases h; exact Consumes.refl _ _

theorem afterFollowup_line :
    ∀ (cs : Str) (line : Nat) (done : Bool) (rest : Str) (line' : Nat),
      afterFollowup cs line = (done, rest, line') →
      ∃ consumed, cs = consumed ++ rest ∧ line' = line + nlCount consumed := by
  intro cs
  induction cs with
  | nil => intro line done rest line' h; cases h; exact Consumes.refl _ _
  | cons c cs ih =>
    intro line done rest line' h
    simp only [afterFollowup] at h
    split at h
    · next h1 => cases eq_of_beq h1; cases h; exact Consumes.cons_nl _ _
    · next h1 =>
      have hc := Consumes.cons_ne c cs line (by simpa using h1)
      split at h
      · cases h; exact hc
      · exact hc.trans (ih _ _ _ _ h)

theorem startsWith_split {p s : Str} (h : startsWith p s = true) : s = p ++ s.drop p.length :=
  (List.prefix_iff_eq_append.mp (startsWith_iff_prefix.mp h)).symm

theorem matchFollowups_split {cs : Str} {r : Str} :
    ∀ {fs : List Str} {i j : Nat}, matchFollowups.go cs fs i = some (j, r) → ∃ f, f ∈ fs ∧ cs = f ++ r := by
  intro fs
  induction fs with
  | nil => intro i j h; cases h
  | cons f fs ih =>
    intro i j h
    simp only [matchFollowups.go] at h
    split at h
    · next hs =>
      cases h
      exact ⟨f, List.mem_cons_self, startsWith_split hs⟩
    · obtain ⟨g, hg, hcs⟩ := ih h
      exact ⟨g, List.mem_cons_of_mem _ hg, hcs⟩

/-- `scan_for_start` keeps the counter right across a skipped region, provided the intro
    marker and the follow-up markers contain no newline (true of the only call site:
    `#phil`, `__END__`, `__ON__`).  Without these hypotheses the statement is false (end of the file). -/
theorem scanForStart_line (intro : Str) (fs : List Str) (hi : nlCount intro = 0)
    (hf : ∀ f, f ∈ fs → nlCount f = 0) :
    ∀ (fuel : Nat) (cs : Str) (line i : Nat) (rest : Str) (line' : Nat),
      scanForStart intro fs fuel cs line = (i, ⟨rest, line'⟩) →
      ∃ consumed, cs = consumed ++ rest ∧ line' = line + nlCount consumed := by
  intro fuel
  induction fuel with
  | zero => intro cs line i rest line' h; cases h; exact Consumes.refl _ _
  | succ fuel ih =>
    intro cs line i rest line' h
    cases cs with
    | nil => cases h; exact Consumes.refl _ _
    | cons c cs1 =>
      simp only [scanForStart] at h
      split at h
      · next h1 => exact (Consumes.cons_ne c cs1 line (by simpa using h1)).trans (ih _ _ _ _ _ h)
      · next h1 =>
        have hc : c = '\n' := by simpa using h1
        subst hc
        generalize hnl : scanForStart.nl cs1 (line + 1) = p at h
        obtain ⟨cs2, line2⟩ := p
        obtain ⟨C12, hd⟩ := scanForStart_nl_line _ _ _ _ hnl
        have C02 := (Consumes.cons_nl cs1 line).trans C12
        simp only at h
        split at h
        · -- only newlines up to the end of input
          cases h; exact C02
        · next d ds =>
          split at h
          · -- the line does not begin with the intro marker
            exact (C02.trans (.cons_ne d ds line2 (hd d ds rfl))).trans (ih _ _ _ _ _ h)
          · next hsw =>
            have C03 := (C02.trans (.prefix_noNl line2 (startsWith_split (by simpa using hsw)) hi)).trans
              (dropWhileNotSpace_line ((d :: ds).drop intro.length) line2)
            generalize dropWhileNotSpace (List.drop intro.length (d :: ds)) = cs3 at h C03
            split at h
            · cases h; exact C03
            · generalize hdsc : dropSpaceCounting cs3 line2 = p4 at h
              obtain ⟨cs4, line4⟩ := p4
              have C04 := C03.trans (dropSpaceCounting_line _ _ _ _ hdsc)
              simp only at h
              split at h
              · cases h; exact C04
              · split at h
                · exact C04.trans (ih _ _ _ _ _ h)
                · next j cs5 hmf =>
                  obtain ⟨f, hfm, hfe⟩ := matchFollowups_split hmf
                  generalize haf : afterFollowup cs5 line4 = p6 at h
                  obtain ⟨done, cs6, line6⟩ := p6
                  have C06 := (C04.trans (.prefix_noNl line4 hfe (hf f hfm))).trans
                    (afterFollowup_line _ _ _ _ _ haf)
                  simp only at h
                  split at h
                  · cases h; exact C06
                  · exact C06.trans (ih _ _ _ _ _ h)

/-- at the only call site of the parser (`#phil __OFF__` regions): no side conditions -/
theorem scanForStart_phil_line (fuel : Nat) (cs : Str) (line i : Nat) (rest : Str) (line' : Nat)
    (h : scanForStart "#phil".toList ["__END__".toList, "__ON__".toList] fuel cs line
          = (i, ⟨rest, line'⟩)) :
    ∃ consumed, cs = consumed ++ rest ∧ line' = line + nlCount consumed :=
  scanForStart_line _ _ (by decide) (by decide) fuel cs line i rest line' h

/-! ### why the side conditions are needed

  * `scanQ` with `q = '\n'` (never produced by `wordAt`, whose `q` is `"` or `'`): the closing "quote"
    is itself a newline and is not counted.
  * `scanForStart` with a newline inside the intro marker or inside a follow-up marker: the marker
    is skipped by `drop`, not character by character, so its newlines are not counted. -/

example : scanQ '\n' false false "ab\ncd".toList 1 [] = .ok ("ab".toList, "cd".toList, 1) := by rfl

example : scanForStart "a\nb".toList ["X".toList] 100 "\na\nb X\nrest".toList 1
    = (0, ⟨"rest".toList, 3⟩) := by decide +kernel   -- three newlines consumed, counter moved by 2

example : scanForStart "#phil".toList ["X\nY".toList] 100 "zz\n#phil X\nY\nrest".toList 1
    = (0, ⟨"rest".toList, 3⟩) := by decide +kernel   -- three newlines consumed, counter moved by 2

end Phil

