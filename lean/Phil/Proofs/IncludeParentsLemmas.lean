/-
  Lemmas about Phil.IncludeParents: erasure to Phil.Include, full paths of consistently linked trees,
  independence of the spliced objects from the include site.
-/
import Phil.IncludeParents
import Phil.Proofs.IncludeLemmas
namespace Phil

/-! ### erasure -/

attribute [simp] eraseL PObj.erase

theorem eraseL_append (a b : List PObj) : eraseL (a ++ b) = eraseL a ++ eraseL b := by
  induction a with
  | nil => simp
  | cons o os ih => simp [ih]

theorem erase_annotL (objs : List Obj) : ∀ ch, eraseL (annotL ch objs) = objs := by
  induction objs using Obj.rec_1 (motive_1 := fun o => ∀ ch, (annotObj ch o).erase = o) with
  | defn m ws => simp [annotObj]
  | scope m kids ih => simp [annotObj, ih]
  | nil => intro ch; simp [annotL]
  | cons o rest iho ihr => intro ch; simp [annotL, iho, ihr]

theorem includeScopeSel_eq (env : IncEnv) (fuel : Nat) (stack : List Path) (p : Str) (sub : Option Str)
    (line : Option Nat) : includeScopeSel env fuel stack p sub line = includeScope env fuel stack p sub line := by
  unfold includeScopeSel includeScope
  cases sub <;> rfl

section
variable (env : IncEnv) (incl : Path → List Path → R (List PObj)) (fuel : Nat) (refdir : Path)
  (stack : List Path)

theorem processListP_nil (ch : PChain) : processListP env incl fuel refdir stack ch [] = .ok [] := by
  simp [processListP]

theorem processListP_cons (ch : PChain) (o : Obj) (rest : List Obj) :
    processListP env incl fuel refdir stack ch (o :: rest) =
      match processObjP env incl fuel refdir stack ch o with
      | .error e => .error e
      | .ok l => (processListP env incl fuel refdir stack ch rest).map (fun r => l ++ r) := by
  simp only [processListP]
  cases processObjP env incl fuel refdir stack ch o <;> rfl

theorem processObjP_defn (ch : PChain) (m : Meta) (ws : List Word) :
    processObjP env incl fuel refdir stack ch (.defn m ws) =
    if m.disabled then .ok [.defn m ws ch]
    else if m.name != "include".toList then .ok [.defn m ws ch]
    else if containsDollar ws then .error (.unsupported "variable in include")
    else if ws.length < 2 then .error (.runtime "include_two_arguments" m.line)
    else
      if lower (ws.headD default).value == "file".toList then
        if ws.length != 2 then .error (.runtime "include_file_one_argument" m.line)
        else incl (resolvePath refdir (ws.getD 1 default).value) stack
      else if lower (ws.headD default).value == "scope".toList then
        if ws.length > 3 then .error (.runtime "include_scope_arguments" m.line)
        else
          (includeScopeSel env fuel stack (ws.getD 1 default).value
            (if ws.length == 2 then none else some (ws.getD 2 default).value) m.line).map (annotL ch)
      else .error (.runtime "unknown_include_type" m.line) := by
  simp only [processObjP]

theorem processObjP_scope (ch : PChain) (m : Meta) (kids : List Obj) :
    processObjP env incl fuel refdir stack ch (.scope m kids) =
    if m.disabled then .ok [annotObj ch (.scope m kids)]
    else
      (processListP env incl fuel refdir stack ({ name := m.name, objs := kids } :: ch) kids).map
        (fun ks => [PObj.scope { m with tmpl := 0 } ks ch]) := by
  simp only [processObjP]

theorem processListP_cons_ok {ch : PChain} {o : Obj} {rest : List Obj} {r : List PObj}
    (h : processListP env incl fuel refdir stack ch (o :: rest) = .ok r) :
    ∃ l r', processObjP env incl fuel refdir stack ch o = .ok l ∧
      processListP env incl fuel refdir stack ch rest = .ok r' ∧ r = l ++ r' := by
  rw [processListP_cons] at h
  split at h
  · cases h
  · next l ho =>
    obtain ⟨r', hr, rfl⟩ := Except.map_eq_ok.mp h
    exact ⟨l, r', ho, hr, rfl⟩

/-! ### the include statements: what is spliced -/

theorem processObjP_include (ch : PChain) (o : Obj) (name : Str)
    (h : includeTarget o = some name) :
    processObjP env incl fuel refdir stack ch o = incl (resolvePath refdir name) stack := by
  obtain ⟨m, w1, w2, rfl, hd, hn, hdol, hty, rfl⟩ := includeTarget_eq_some h
  rw [processObjP]
  simp [hd, hn, hdol, hty]

/-- a definition that is not a well-formed `include file` statement contributes what `processIncludes`
    makes of it, linked below `ch`: the two functions run through the same checks, and only the leaf of a
    well-formed `include file` differs -/
theorem processObjP_defn_noFile (ch : PChain) (m : Meta) (ws : List Word)
    (ht : includeTarget (.defn m ws) = none) :
    processObjP env incl fuel refdir stack ch (.defn m ws) =
      (includeHere env fuel refdir stack (.defn m ws)).map (annotL ch) := by
  rw [processObjP, includeScopeSel_eq]
  unfold includeHere
  simp only [Obj.meta]
  by_cases hd : m.disabled = true
  · simp only [hd, ↓reduceIte]; rfl
  by_cases hn : (m.name != "include".toList) = true
  · simp only [hd, hn, Bool.false_eq_true, ↓reduceIte]; rfl
  by_cases h1 : containsDollar ws = true
  · simp only [hd, hn, h1, Bool.false_eq_true, ↓reduceIte]; rfl
  by_cases h2 : ws.length < 2
  · simp only [hd, hn, h1, h2, Bool.false_eq_true, ↓reduceIte]; rfl
  simp only [hd, hn, h1, h2, Bool.false_eq_true, ↓reduceIte]
  by_cases h3 : (lower (ws.headD default).value == "file".toList) = true
  · simp only [h3, ↓reduceIte]
    by_cases h4 : (ws.length != 2) = true
    · simp only [h4, ↓reduceIte]; rfl
    · obtain ⟨n, hn⟩ := includeTarget_of_checks m ws hd hn h1 h3 h4
      rw [hn] at ht; cases ht
  simp only [h3, Bool.false_eq_true, ↓reduceIte]
  by_cases h5 : (lower (ws.headD default).value == "scope".toList) = true
  · simp only [h5, ↓reduceIte]
    by_cases h6 : ws.length > 3
    · simp only [h6, ↓reduceIte]; rfl
    · simp only [h6, ↓reduceIte]
  · simp only [h5, Bool.false_eq_true, ↓reduceIte]; rfl

theorem scopeTarget_not_file {o : Obj} {ps : Str × Option Str} (h : scopeTarget o = some ps) :
    includeTarget o = none := by
  obtain ⟨m, w1, w2, tl, rfl, -, -, -, hty, -⟩ := scopeTarget_eq_some h
  cases tl with
  | nil => simp [includeTarget, hty]
  | cons _ _ => rfl

/-- a well-formed `include scope p [q]` statement contributes the selection, linked below the parent chain
    of the statement (`change_primary_parent_scope`) -/
theorem processObjP_scopeTarget (ch : PChain) (o : Obj) (p : Str) (sub : Option Str)
    (h : scopeTarget o = some (p, sub)) :
    processObjP env incl fuel refdir stack ch o =
      (includeScope env fuel stack p sub o.meta.line).map (annotL ch) := by
  have ht := scopeTarget_not_file h
  obtain ⟨m, w1, w2, tl, rfl, -⟩ := scopeTarget_eq_some h
  rw [← includeHere_scope env fuel refdir stack _ p sub h]
  exact processObjP_defn_noFile env incl fuel refdir stack ch m _ ht

/-! ### erasure of the processed list -/

theorem processListP_erase (hincl : ∀ p s, (incl p s).map eraseL = expandFile env fuel p s)
    (objs : List Obj) :
    ∀ ch, (processListP env incl fuel refdir stack ch objs).map eraseL
      = processIncludes env fuel refdir stack objs := by
  induction objs using Obj.rec_1
    (motive_1 := fun o => ∀ ch, (processObjP env incl fuel refdir stack ch o).map eraseL
      = includeHere env fuel refdir stack o) with
  | defn m ws =>
    rename_i ch
    cases ht : includeTarget (.defn m ws) with
    | some n =>
      rw [processObjP_include env incl fuel refdir stack ch _ n ht, hincl,
        includeHere_include' env fuel refdir stack _ n ht]
    | none =>
      rw [processObjP_defn_noFile env incl fuel refdir stack ch m ws ht]
      cases includeHere env fuel refdir stack (.defn m ws) <;> simp [Except.map, erase_annotL]
  | scope m kids ih =>
    rename_i ch
    rw [processObjP]
    unfold includeHere
    simp only [Obj.meta]
    by_cases hd : m.disabled = true
    · simp only [hd, ↓reduceIte]
      exact congrArg Except.ok (erase_annotL [.scope m kids] ch)
    · simp only [hd, Bool.false_eq_true, ↓reduceIte]
      rw [← ih ({ name := m.name, objs := kids } :: ch)]
      cases processListP env incl fuel refdir stack ({ name := m.name, objs := kids } :: ch) kids <;>
        simp [Except.map]
  | nil => intro ch; rw [processIncludes_nil, processListP]; rfl
  | cons o rest iho ihr =>
    intro ch
    rw [processIncludes_cons, ← iho ch, ← ihr ch, processListP]
    cases processObjP env incl fuel refdir stack ch o with
    | error e => rfl
    | ok l =>
      simp only
      cases processListP env incl fuel refdir stack ch rest with
      | error e => rfl
      | ok r => simp [Except.map, eraseL_append]

end

/-- `parse(file_name=…, process_includes=True)` as called from `process_includes` at fuel level `fuel` -/
def inclPAt (env : IncEnv) (fuel : Nat) (p : Path) (s : List Path) : R (List PObj) :=
  match fuel with
  | 0 => .error .outOfFuel
  | _ + 1 => expandFileP env fuel p s

theorem inclPAt_eq (env : IncEnv) (fuel : Nat) : inclPAt env fuel = expandFileP env fuel := by
  funext p s
  cases fuel <;> rfl

theorem expandFileP_succ (env : IncEnv) (fuel : Nat) (path : Path) (stack : List Path) :
    expandFileP env (fuel + 1) path stack =
      match env.fs.read path with
      | none => .error (.stray "FileNotFoundError" "open")
      | some text =>
        match parseObjs text with
        | .error e => .error e
        | .ok objs =>
          if stack.contains path then .error (.runtime "include_cycle" none)
          else processListP env (inclPAt env fuel) fuel path.dropLast (stack ++ [path]) (rootChain objs) objs := by
  rw [expandFileP]
  rfl

theorem expandFileP_erase (env : IncEnv) : ∀ (fuel : Nat) (path : Path) (stack : List Path),
    (expandFileP env fuel path stack).map eraseL = expandFile env fuel path stack := by
  intro fuel
  induction fuel with
  | zero => intro path stack; rw [expandFile_zero]; rfl
  | succ fuel ih =>
    intro path stack
    rw [expandFile_succ, expandFileP_succ, inclPAt_eq]
    cases env.fs.read path with
    | none => rfl
    | some text =>
      simp only
      cases parseObjs text with
      | error e => rfl
      | ok objs =>
        simp only
        cases hc : stack.contains path with
        | true => simp only [↓reduceIte]; rfl
        | false =>
          simp only [Bool.false_eq_true, ↓reduceIte]
          exact processListP_erase env _ fuel _ _ ih objs _

/-! ### full paths -/

/-- what `full_path` makes of one more scope name on the way up -/
def pushName (n : Str) (up : List Str) : List Str := if n.isEmpty then [] else n :: up

mutual
/-- `full_path()` of every object of a consistently linked tree (a parsed text), document order; `up` are the
    names `full_path` collects above the list (innermost first) -/
def pathsUnderObj (up : List Str) : Obj → List Str
  | .defn m _ => [joinWith ['.'] ((m.name :: up).reverse)]
  | .scope m kids => joinWith ['.'] ((m.name :: up).reverse) :: pathsUnder (pushName m.name up) kids
def pathsUnder (up : List Str) : List Obj → List Str
  | [] => []
  | o :: os => pathsUnderObj up o ++ pathsUnder up os
end

attribute [simp] fullPathsP fullPathsObjP pathsUnder pathsUnderObj

theorem fullPathsP_append (a b : List PObj) : fullPathsP (a ++ b) = fullPathsP a ++ fullPathsP b := by
  induction a with
  | nil => simp
  | cons o os ih => simp [ih]

theorem pathsUnder_append (up : List Str) (a b : List Obj) :
    pathsUnder up (a ++ b) = pathsUnder up a ++ pathsUnder up b := by
  induction a with
  | nil => simp
  | cons o os ih => simp [ih]

theorem climbNames_cons (n : Str) (k : List Obj) (ch : PChain) :
    climbNames ({ name := n, objs := k } :: ch) = pushName n (climbNames ch) := by
  simp [climbNames, pushName]

theorem fullPathsP_annotL (objs : List Obj) :
    ∀ ch, fullPathsP (annotL ch objs) = pathsUnder (climbNames ch) objs := by
  induction objs using Obj.rec_1
    (motive_1 := fun o => ∀ ch, fullPathsObjP (annotObj ch o) = pathsUnderObj (climbNames ch) o) with
  | defn m ws => simp [annotObj, fullPathOf]
  | scope m kids ih => simp [annotObj, fullPathOf, ih, climbNames_cons]
  | nil => intro ch; simp [annotL]
  | cons o rest iho ihr => intro ch; simp [annotL, iho, ihr]

/-- a list of linked objects all of whose `full_path()`s are the paths read off the tree below `up` -/
def PathsRight (up : List Str) (l : List PObj) : Prop := fullPathsP l = pathsUnder up (eraseL l)

theorem PathsRight.append {up : List Str} {a b : List PObj} (ha : PathsRight up a) (hb : PathsRight up b) :
    PathsRight up (a ++ b) := by
  unfold PathsRight at *
  rw [fullPathsP_append, eraseL_append, pathsUnder_append, ha, hb]

theorem pathsRight_annotL (ch : PChain) (objs : List Obj) : PathsRight (climbNames ch) (annotL ch objs) := by
  unfold PathsRight
  rw [fullPathsP_annotL, erase_annotL]

/-- without `include file` statements (at any depth) every object is linked consistently below the chain of
    the list: all full paths are right (`include scope` re-parents) -/
theorem processObjP_pathsRight (env : IncEnv) (incl : Path → List Path → R (List PObj)) (fuel : Nat)
    (refdir : Path) (stack : List Path) (o : Obj) :
    ∀ ch r, includeTargetsObj o = [] → processObjP env incl fuel refdir stack ch o = .ok r →
      PathsRight (climbNames ch) r := by
  induction o using Obj.rec
    (motive_2 := fun objs => ∀ ch r, includeTargets objs = [] →
      processListP env incl fuel refdir stack ch objs = .ok r → PathsRight (climbNames ch) r) with
  | defn m ws =>
    intro ch r ht h
    rw [processObjP_defn_noFile env incl fuel refdir stack ch m ws (Option.toList_eq_nil_iff.mp ht)] at h
    obtain ⟨l, _, rfl⟩ := Except.map_eq_ok.mp h
    exact pathsRight_annotL ch l
  | scope m kids ih =>
    intro ch r ht h
    rw [processObjP] at h
    by_cases hd : m.disabled = true
    · simp only [hd, ↓reduceIte, Except.ok.injEq] at h
      subst h
      exact pathsRight_annotL ch [.scope m kids]
    · simp only [hd, Bool.false_eq_true, ↓reduceIte] at h
      simp only [includeTargetsObj, hd, Bool.false_eq_true, ↓reduceIte] at ht
      obtain ⟨ks, hk, rfl⟩ := Except.map_eq_ok.mp h
      have := ih _ ks ht hk
      unfold PathsRight at this ⊢
      rw [climbNames_cons] at this
      simp [fullPathOf, this]
  | nil =>
    rename_i ch r _ h
    rw [processListP] at h
    cases h
    simp [PathsRight]
  | cons o rest iho ihr =>
    rename_i ch r ht h
    simp only [includeTargets, List.append_eq_nil_iff] at ht
    obtain ⟨l, r', ho, hr, rfl⟩ := processListP_cons_ok env incl fuel refdir stack h
    exact (iho ch l ht.1 ho).append (ihr ch r' ht.2 hr)

/-- every object of the list is an `include file` statement or contains none: the text places its
    `include file` statements at top level only -/
def includesAtTop (objs : List Obj) : Bool :=
  objs.all fun o => (includeTarget o).isSome || (includeTargetsObj o).isEmpty

theorem processListP_top_pathsRight (env : IncEnv) (incl : Path → List Path → R (List PObj)) (fuel : Nat)
    (hincl : ∀ p s r, incl p s = .ok r → PathsRight [] r)
    (refdir : Path) (stack : List Path) (ch : PChain) (hch : climbNames ch = []) (objs : List Obj) :
    ∀ r, includesAtTop objs = true → processListP env incl fuel refdir stack ch objs = .ok r →
      PathsRight [] r := by
  induction objs with
  | nil =>
    intro r _ h
    rw [processListP] at h
    cases h
    simp [PathsRight]
  | cons o rest ih =>
    intro r ht h
    simp only [includesAtTop, List.all_cons, Bool.and_eq_true, Bool.or_eq_true] at ht
    obtain ⟨l, r', ho, hr, rfl⟩ := processListP_cons_ok env incl fuel refdir stack h
    refine PathsRight.append ?_ (ih r' (by simpa [includesAtTop] using ht.2) hr)
    rcases ht.1 with hi | hn
    · obtain ⟨name, hname⟩ := Option.isSome_iff_exists.mp hi
      rw [processObjP_include env incl fuel refdir stack ch o name hname] at ho
      exact hincl _ _ _ ho
    · have := processObjP_pathsRight env incl fuel refdir stack o ch l (by simpa using hn) ho
      rwa [hch] at this

/-- the files of `env` place their `include file` statements at top level only -/
def TopLevelIncludes (env : IncEnv) : Prop :=
  ∀ pt ∈ env.fs, ∀ objs, parseObjs pt.2 = .ok objs → includesAtTop objs = true

theorem expandFileP_pathsRight (env : IncEnv) (htop : TopLevelIncludes env) :
    ∀ (fuel : Nat) (path : Path) (stack : List Path) (r : List PObj),
      expandFileP env fuel path stack = .ok r → PathsRight [] r := by
  intro fuel
  induction fuel with
  | zero => intro path stack r h; simp [expandFileP] at h
  | succ fuel ih =>
    intro path stack r h
    -- the erased run succeeds, so the file was read, parsed and is not being expanded
    obtain ⟨_, text, objs, hf, hrd, hp, hnin, _⟩ :=
      expandFile_ok (res := eraseL r) (by rw [← expandFileP_erase, h]; rfl)
    cases hf
    simp only [expandFileP_succ, inclPAt_eq, hrd, hp] at h
    rw [if_neg (by simpa using hnin)] at h
    exact processListP_top_pathsRight env _ fuel ih _ _ (rootChain objs)
      (by simp [rootChain, climbNames]) objs r (htop _ (FS.read_some_mem hrd) objs hp) h

end Phil
