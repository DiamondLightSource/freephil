/-
  Decidable equality of trees (`Obj` is a nested inductive, so `deriving DecidableEq` does not apply).
  Nothing is an instance here: a file that compares trees by kernel evaluation activates `objDecEq`
  locally (`attribute [local instance]`), so that no statement elsewhere changes its meaning.
-/
import Phil.Basic
namespace Phil

mutual
@[instance_reducible]
def objDecEq : (a b : Obj) → Decidable (a = b)
  | .defn m ws, .defn m' ws' =>
    if h : m = m' ∧ ws = ws' then isTrue (by rw [h.1, h.2])
    else isFalse (fun e => h (by cases e; exact ⟨rfl, rfl⟩))
  | .scope m os, .scope m' os' =>
    if h : m = m' then
      match objsDecEq os os' with
      | isTrue h2 => isTrue (by rw [h, h2])
      | isFalse h2 => isFalse (fun e => h2 (by cases e; rfl))
    else isFalse (fun e => h (by cases e; rfl))
  | .defn _ _, .scope _ _ => isFalse (fun e => by cases e)
  | .scope _ _, .defn _ _ => isFalse (fun e => by cases e)
def objsDecEq : (a b : List Obj) → Decidable (a = b)
  | [], [] => isTrue rfl
  | [], _ :: _ => isFalse (fun e => by cases e)
  | _ :: _, [] => isFalse (fun e => by cases e)
  | x :: xs, y :: ys =>
    match objDecEq x y with
    | isTrue h1 =>
      match objsDecEq xs ys with
      | isTrue h2 => isTrue (by rw [h1, h2])
      | isFalse h2 => isFalse (fun e => h2 (by cases e; rfl))
    | isFalse h1 => isFalse (fun e => h1 (by cases e; rfl))
end

end Phil
