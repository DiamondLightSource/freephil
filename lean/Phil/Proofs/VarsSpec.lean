/-
  Denotational specification of `$variable` substitution (property C12) and the lemmas that connect
  it to the operational model Phil/Vars.lean (`lexicalGet`, `resolveWords`, `resolveAt`).

  Part A: the specification (`nearestEarlier`, `denote`, the ids consulted `refsAt`, `Numbered`) — no fuel,
  no lookup loop.
  Part B: lemmas.  One round of `resolveWords` is `mapM substWord` at the reference the
  lookup computes (`resolveWords_succ_nf`, every chain and fuel); the facts about whole words
  (`untouched`, `resolveWords_frame`, `resolveWords_mono`, …) are read off that form, and so is the
  equality with `denote`: on a numbered document that reference and `refOf` agree on every name a
  word can contain (`substWord_congr_vs`).  `resolveRefs` is the same traversal collecting ids, so its
  equality with `refsAt` comes out of the same induction (`resolve_eq_spec_vs`).
-/
import Phil.Proofs.VarsLemmas
set_option linter.unusedVariables false
namespace Phil.C12
open Phil

/-! # Part A — the specification -/

/-- the object at a tree position: `[i]` is the `i`-th object of the document, `i :: p` is position
    `p` inside the scope that is the `i`-th object -/
def objAt : List Obj → List Nat → Option Obj
  | _, [] => none
  | objs, [i] => objs[i]?
  | objs, i :: p =>
    match objs[i]? with
    | some (.scope _ kids) => objAt kids p
    | _ => none

/-- the id (document-order number) of the object at a position -/
def idAt (root : List Obj) (pos : List Nat) : Option Nat := (objAt root pos).bind (·.meta.id)

/-- `o` was numbered before `n`: it appears earlier in the source than the object with id `n` -/
def earlier (n : Nat) (o : Obj) : Bool :=
  match o.meta.id with
  | some i => decide (i < n)
  | none => false

/-- the result of `f i o` for the LAST index `i` (the first object has the index given) at which it is defined -/
def lastSome {β : Type} (f : Nat → Obj → Option β) : Nat → List Obj → Option β
  | _, [] => none
  | i, o :: rest =>
    match lastSome f (i + 1) rest with
    | some b => some b
    | none => f i o

/-- **One scope.**  The position (relative to `objs`) of the nearest preceding object that the
    dotted name with components `comps` denotes inside the object list `objs`: only objects numbered
    before `n` count; a one-component name matches any object of that name; a longer name matches a
    scope named like its first component in which the remaining components are found; among several
    matches the LAST one in document order wins.  Structural recursion on the components. -/
def findIn (n : Nat) : List Str → List Obj → Option (List Nat)
  | [], _ => none
  | [c], objs =>
    lastSome (fun i o => if earlier n o && o.name == c then some [i] else none) 0 objs
  | c :: cs, objs =>
    lastSome (fun i o =>
      match o with
      | .scope m kids => if earlier n o && m.name == c then (findIn n cs kids).map (i :: ·) else none
      | .defn _ _ => none) 0 objs

/-- **Enclosing scopes, innermost first.**  The last argument is the position of a scope (`[]` = the root);
    the name is searched in that scope, and if it is not found there in the scope around it, and so
    on outward.  Structural recursion on the position: the result for the inner scopes is preferred. -/
def searchScopes (n : Nat) (comps : List Str) : List Obj → List Nat → Option (List Nat)
  | objs, [] => findIn n comps objs
  | objs, i :: p =>
    match objs[i]? with
    | some (.scope _ kids) =>
      (match searchScopes n comps kids p with
       | some q => some (i :: q)
       | none => findIn n comps objs)
    | _ => findIn n comps objs

/-- **The object a `$name` refers to.**  `pos` is the position of the referencing definition, `n` its
    id.  A name with a leading '.' is looked up in the root scope only; any other name in the
    enclosing scopes of `pos` from the innermost outward.  The result is the tree position of the
    nearest object that appears earlier in the source (id `< n`), `none` if there is no such object. -/
def nearestEarlier (root : List Obj) (pos : List Nat) (name : Str) : Option (List Nat) :=
  match idAt root pos with
  | none => none
  | some n =>
    if name.take 1 == ['.'] then findIn n (splitOn '.' (name.drop 1)) root
    else searchScopes n (splitOn '.' name) root pos.dropLast

/-- what a variable stands for -/
inductive VarRef
  /-- an earlier definition, with its value -/
  | value (r : R (List Word))
  /-- an earlier object that is a scope -/
  | notDefinition
  /-- no earlier object of that name -/
  | undefined

/-- the words a variable contributes to the word `w` -/
def varWords (env : Env) (diff : Bool) (ref : Str → VarRef) (w : Word) (name : Str) : R (List Word) :=
  match ref name with
  | .value r => r
  | .notDefinition => .error (.runtime "not_a_definition" w.line)
  | .undefined =>
    if diff then .ok [wordDq ('$' :: name)]
    else match env name with
      | some v => .ok [wordDq v]
      | none => .error (.runtime "undefined_variable" w.line)

/-- the text a fragment contributes to a mixture -/
def fragText (env : Env) (diff : Bool) (ref : Str → VarRef) (w : Word) : Fragment → R Str
  | .lit s => .ok s
  | .var name => (varWords env diff ref w name).map (fun ws => joinWith [' '] (ws.map (·.value)))

/-- **One word.**  Single-quoted words and words without variables are kept; a word that is exactly
    one unquoted variable is replaced by the words of that variable as they are; every other mixture
    becomes one double-quoted word: literal text and the blank-joined values of the variables,
    concatenated. -/
def substWord (env : Env) (diff : Bool) (ref : Str → VarRef) (w : Word) : R (List Word) :=
  if w.quote == some .s1 then .ok [w] else
  match fragments w.value with
  | .error site => .error (.runtime site w.line)
  | .ok (frags, haveVars) =>
    if !haveVars then .ok [w] else
    match w.quote, frags with
    | none, [.var name] => varWords env diff ref w name
    | _, _ => (frags.mapM (fragText env diff ref w)).map (fun texts => [wordDq texts.flatten])

/-! ### documents numbered by the parser -/

/-- `a` is numbered no later than `b` (both numbered) -/
def idLe (a b : Obj) : Bool :=
  match a.meta.id, b.meta.id with
  | some i, some j => decide (i ≤ j)
  | _, _ => false

/-- one object list: every object has an id, no name contains a '.', and the ids do not decrease
    in document order (`okObj` adds: the id of a scope is not larger than the ids of its objects) -/
def levelOk : List Obj → Bool
  | [] => true
  | o :: rest => o.meta.id.isSome && !o.name.contains '.' && rest.all (idLe o) && levelOk rest

mutual
def okObj : Obj → Bool
  | .defn _ _ => true
  | .scope m kids => levelOk kids && okList kids && kids.all (idLe (.scope m kids))
def okList : List Obj → Bool
  | [] => true
  | o :: rest => okObj o && okList rest
end

/-- at every level of the tree `levelOk` holds -/
def Numbered (root : List Obj) : Prop := levelOk root = true ∧ okList root = true

mutual
def idsLeObj (b : Nat) : Obj → Bool
  | .defn m _ => (match m.id with | some i => decide (i ≤ b) | none => true)
  | .scope m kids => (match m.id with | some i => decide (i ≤ b) | none => true) && idsLeList b kids
def idsLeList (b : Nat) : List Obj → Bool
  | [] => true
  | o :: rest => idsLeObj b o && idsLeList b rest
end

mutual
/-- number of objects (structural twin of `countObjs`, which the kernel cannot evaluate) -/
def sizeObj : Obj → Nat
  | .defn _ _ => 1
  | .scope _ kids => 1 + sizeList kids
def sizeList : List Obj → Nat
  | [] => 0
  | o :: rest => sizeObj o + sizeList rest
end

theorem sizeList_eq_countObjs_vs : ∀ (l : List Obj), sizeList l = countObjs l
  | [] => by simp [sizeList, countObjs]
  | .defn m ws :: r => by
    simp only [sizeList, sizeObj, countObjs, sizeList_eq_countObjs_vs r]
  | .scope m k :: r => by
    simp only [sizeList, sizeObj, countObjs, sizeList_eq_countObjs_vs r, sizeList_eq_countObjs_vs k]

/-- **Well-formedness of a parsed document** — what the document-order numbering of the parser
    (`primary_id` from a counter starting at 1, `scope.adopt` splitting dotted names into nested
    scopes that share the id of the object they wrap) guarantees:
    at every level of the tree every object has an id, no name contains a '.', and the ids of
    siblings do not decrease in document order, the id of a scope is not larger than the ids of
    its objects (`Numbered`); and no id exceeds the number of objects of the document.  Decidable: `docIdsB`. -/
def DocIds (root : List Obj) : Prop := Numbered root ∧ idsLeList (sizeList root) root = true

def docIdsB (root : List Obj) : Bool := levelOk root && okList root && idsLeList (sizeList root) root

theorem docIdsB_iff_vs (root : List Obj) : docIdsB root = true ↔ DocIds root := by
  simp [docIdsB, DocIds, Numbered, and_assoc]

instance (root : List Obj) : Decidable (DocIds root) :=
  decidable_of_iff _ (docIdsB_iff_vs root)

/-! ### what the lookup finds is an earlier object (this makes `denote` well founded) -/

theorem lastSome_some_vs {β : Type} (f : Nat → Obj → Option β) :
    ∀ (l : List Obj) (k : Nat) (b : β), lastSome f k l = some b →
      ∃ j o, l[j]? = some o ∧ f (k + j) o = some b := by
  intro l
  induction l with
  | nil => intro k b h; simp [lastSome] at h
  | cons o r ih =>
    intro k b h
    simp only [lastSome] at h
    split at h
    · rename_i b' hb'
      cases h
      obtain ⟨j, o', hj, hf⟩ := ih (k + 1) b hb'
      exact ⟨j + 1, o', by simpa using hj, by rw [← hf]; congr 1; omega⟩
    · exact ⟨0, o, by simp, by simpa using h⟩

theorem objAt_cons_vs (objs : List Obj) (i : Nat) (m : Meta) (kids : List Obj) (q : List Nat)
    (hq : q ≠ []) (hi : objs[i]? = some (.scope m kids)) : objAt objs (i :: q) = objAt kids q := by
  cases q with
  | nil => exact absurd rfl hq
  | cons a b => simp [objAt, hi]

theorem objAt_nil_vs (objs : List Obj) : objAt objs [] = none := by
  cases objs <;> rfl

theorem ne_nil_of_objAt_vs {objs : List Obj} {q : List Nat} {o : Obj} (h : objAt objs q = some o) : q ≠ [] := by
  rintro rfl
  rw [objAt_nil_vs] at h
  cases h

theorem findIn_earlier_vs (n : Nat) : ∀ (comps : List Str) (objs : List Obj) (p : List Nat),
    findIn n comps objs = some p → ∃ o, objAt objs p = some o ∧ earlier n o = true := by
  intro comps
  induction comps with
  | nil => intro objs p h; simp [findIn] at h
  | cons c cs ih =>
    intro objs p h
    cases cs with
    | nil =>
      simp only [findIn] at h
      obtain ⟨j, o, hj, hf⟩ := lastSome_some_vs _ _ _ _ h
      split at hf
      · rename_i hc
        cases hf
        simp only [Bool.and_eq_true] at hc
        exact ⟨o, by simpa [objAt] using hj, hc.1⟩
      · cases hf
    | cons c' cs' =>
      simp only [findIn] at h
      obtain ⟨j, o, hj, hf⟩ := lastSome_some_vs _ _ _ _ h
      cases o with
      | defn m ws => cases hf
      | scope m kids =>
        simp only [] at hf
        split at hf
        · cases hq : findIn n (c' :: cs') kids with
          | none => simp [hq] at hf
          | some q =>
            simp only [hq, Option.map_some, Option.some.injEq] at hf
            subst hf
            obtain ⟨o', ho', he⟩ := ih kids q hq
            have hne := ne_nil_of_objAt_vs ho'
            exact ⟨o', by rw [Nat.zero_add, objAt_cons_vs objs j m kids q hne hj]; exact ho', he⟩
        · cases hf

theorem searchScopes_earlier_vs (n : Nat) (comps : List Str) : ∀ (sp : List Nat) (objs : List Obj)
    (p : List Nat), searchScopes n comps objs sp = some p →
      ∃ o, objAt objs p = some o ∧ earlier n o = true := by
  intro sp
  induction sp with
  | nil => intro objs p h; exact findIn_earlier_vs n comps objs p (by simpa [searchScopes] using h)
  | cons i sp ih =>
    intro objs p h
    simp only [searchScopes] at h
    split at h
    · rename_i m kids hi
      split at h
      · rename_i q hq
        cases h
        obtain ⟨o', ho', he⟩ := ih kids q hq
        have hne := ne_nil_of_objAt_vs ho'
        exact ⟨o', by rw [objAt_cons_vs objs i m kids q hne hi]; exact ho', he⟩
      · exact findIn_earlier_vs n comps objs p h
    · exact findIn_earlier_vs n comps objs p h

theorem nearestEarlier_earlier_vs (root : List Obj) (pos : List Nat) (name : Str) (p : List Nat)
    (h : nearestEarlier root pos name = some p) :
    ∃ n o, idAt root pos = some n ∧ objAt root p = some o ∧ earlier n o = true := by
  unfold nearestEarlier at h
  cases hn : idAt root pos with
  | none => simp [hn] at h
  | some n =>
    simp only [hn] at h
    split at h
    · obtain ⟨o, ho, he⟩ := findIn_earlier_vs n _ root p h
      exact ⟨n, o, rfl, ho, he⟩
    · obtain ⟨o, ho, he⟩ := searchScopes_earlier_vs n _ _ root p h
      exact ⟨n, o, rfl, ho, he⟩

theorem earlier_id_vs {n : Nat} {o : Obj} (h : earlier n o = true) : ∃ i, o.meta.id = some i ∧ i < n := by
  unfold earlier at h
  cases hid : o.meta.id with
  | none => simp [hid] at h
  | some i => exact ⟨i, rfl, by simpa [hid] using h⟩

theorem nearestEarlier_id_lt_vs (root : List Obj) (pos : List Nat) (name : Str) (p : List Nat)
    (h : nearestEarlier root pos name = some p) :
    (idAt root p).getD 0 < (idAt root pos).getD 0 := by
  obtain ⟨n, o, hn, ho, he⟩ := nearestEarlier_earlier_vs root pos name p h
  obtain ⟨i, hi, hlt⟩ := earlier_id_vs he
  simp [idAt, ho, hi] at hn ⊢
  rw [hn]
  simpa using hlt

/-- **The value of the definition at `pos`.**  Every word is substituted by `substWord`, where a
    variable refers to the object `nearestEarlier` designates and stands for the value (`denote`) of
    that definition.  The recursion is well founded: the referenced object has a strictly smaller id
    (`nearestEarlier_id_lt_vs`).  `diff` (the `diff_mode` of `resolve_variables`) only concerns the
    definition itself: undefined variables stay as the text `$name`; referenced definitions are
    always evaluated with `diff = false`. -/
def denote (env : Env) (root : List Obj) (pos : List Nat) (diff : Bool := false) : R (List Word) :=
  match objAt root pos with
  | some (.defn _ words) =>
    let ref : Str → VarRef := fun name =>
      match h : nearestEarlier root pos name with
      | none => .undefined
      | some p =>
        match objAt root p with
        | some (.defn _ _) => .value (denote env root p false)
        | _ => .notDefinition
    (words.mapM (substWord env diff ref)).map List.flatten
  | _ => .error (.unsupported "no definition at path")
termination_by (idAt root pos).getD 0
decreasing_by exact nearestEarlier_id_lt_vs _ _ _ _ h

/-- the ids one word's variables refer to, given the ids each variable name stands for -/
def _root_.Phil.wordRefs (ref : Str → List Nat) (w : Word) : List Nat :=
  if w.quote == some .s1 then [] else
  match fragments w.value with
  | .error _ => []
  | .ok (frags, _) =>
    frags.flatMap fun (f : Fragment) =>
      match f with
      | .lit _ => []
      | .var name => ref name

/-- **The definitions consulted for the definition at `pos`**, transitively: for every variable of
    every word (in order) the id of the definition `nearestEarlier` designates, followed by the ids
    that definition consults itself.  Well founded like `denote`. -/
def _root_.Phil.refsAt (root : List Obj) (pos : List Nat) : List Nat :=
  match objAt root pos with
  | some (.defn _ words) =>
    let ref : Str → List Nat := fun name =>
      match h : nearestEarlier root pos name with
      | none => []
      | some p =>
        match objAt root p with
        | some (.defn m _) =>
          (match m.id with
           | some sid => sid :: refsAt root p
           | none => [])
        | _ => []
    words.flatMap (wordRefs ref)
  | _ => []
termination_by (idAt root pos).getD 0
decreasing_by exact nearestEarlier_id_lt_vs _ _ _ _ h

/-! # Part B — lemmas -/

/-! ### splitting a dotted name -/

/-- all components of the dotted path are non-empty -/
def GoodPath (path : Str) : Prop := ∀ c ∈ splitOn '.' path, c ≠ []

theorem goodPath_no_lead_vs {path : Str} (h : GoodPath path) : (path.take 1 == ['.']) = false := by
  cases path with
  | nil => rfl
  | cons x xs =>
    by_cases hx : x = '.'
    · subst hx
      have := splitOn_append_sep '.' [] xs (by simp)
      simp only [List.nil_append] at this
      exact absurd rfl (h [] (by rw [this]; simp))
    · simp [hx]

theorem goodPath_rest_vs {c rest : Str} (hc : '.' ∉ c) (h : GoodPath (c ++ '.' :: rest)) :
    GoodPath rest := by
  intro x hx
  apply h
  rw [splitOn_append_sep '.' c rest hc]
  simp [hx]

/-! ### the combinator `lastSome` -/

theorem lastSome_bind_congr_vs {β γ : Type} (f : Nat → Obj → Option β) (G : β → Option γ)
    (g : Nat → Obj → Option γ) : ∀ (l : List Obj) (k : Nat),
      (∀ j o, l[j]? = some o →
        g (k + j) o = (f (k + j) o).bind G ∧ ((f (k + j) o).isSome = true → (g (k + j) o).isSome = true)) →
      lastSome g k l = (lastSome f k l).bind G := by
  intro l
  induction l with
  | nil => intro k _; rfl
  | cons o r ih =>
    intro k h
    have hr : ∀ j o', r[j]? = some o' → g (k + 1 + j) o' = (f (k + 1 + j) o').bind G ∧
        ((f (k + 1 + j) o').isSome = true → (g (k + 1 + j) o').isSome = true) := fun j o' hj => by
      rw [show k + 1 + j = k + (j + 1) by omega]; exact h (j + 1) o' (by simpa using hj)
    simp only [lastSome]
    rw [ih (k + 1) hr]
    cases hl : lastSome f (k + 1) r with
    | none => simpa using (h 0 o (by simp)).1
    | some b =>
      obtain ⟨j, o', hj, hf⟩ := lastSome_some_vs f r (k + 1) b hl
      have := hr j o' hj
      rw [hf] at this
      cases hg : G b with
      | none =>
        obtain ⟨h1, h2⟩ := this
        rw [h1] at h2
        simp [hg] at h2
      | some c => simp [hg]

/-- the operational candidate loop (`cands.reverse.findSome?`) is `lastSome` -/
theorem findSome_rev_filter_vs {β : Type} (p : Obj → Bool) (t : Obj → Option β) :
    ∀ (l : List Obj) (k : Nat),
      (l.filter p).reverse.findSome? t = lastSome (fun _ o => if p o then t o else none) k l := by
  intro l
  induction l with
  | nil => intro k; rfl
  | cons o r ih =>
    intro k
    simp only [lastSome, ← ih (k + 1), List.filter_cons]
    by_cases hp : p o = true
    · simp only [hp, ↓reduceIte, List.reverse_cons, List.findSome?_append]
      cases (r.filter p).reverse.findSome? t <;> simp [List.findSome?]
      cases t o <;> rfl
    · simp only [hp, Bool.false_eq_true, ↓reduceIte]
      cases (r.filter p).reverse.findSome? t <;> rfl

/-! ### numbered levels: the visible prefix is the set of earlier objects -/

theorem vis_of_idLe_vs {n : Nat} {a o : Obj} (hle : idLe a o = true) (hv : vis n o = true) :
    vis n a = true := by
  unfold idLe at hle
  unfold vis at hv ⊢
  cases h1 : a.meta.id with
  | none => rfl
  | some i =>
    cases h2 : o.meta.id with
    | none => simp [h1, h2] at hle
    | some j =>
      simp only [h1, h2, decide_eq_true_eq] at hle hv ⊢
      omega

theorem vis_eq_earlier_vs {n : Nat} {o : Obj} (hid : o.meta.id.isSome = true) : vis n o = earlier n o := by
  unfold vis earlier
  cases h : o.meta.id with
  | none => simp [h] at hid
  | some i => rfl

theorem levelOk_mem_vs : ∀ (l : List Obj) (o : Obj), levelOk l = true → o ∈ l →
    o.meta.id.isSome = true ∧ '.' ∉ o.name := by
  intro l
  induction l with
  | nil => intro o _ h; cases h
  | cons a r ih =>
    intro o h ho
    simp only [levelOk, Bool.and_eq_true] at h
    obtain ⟨⟨⟨hid, hdot⟩, _⟩, hr⟩ := h
    cases ho with
    | head => exact ⟨hid, by simpa using hdot⟩
    | tail _ ho' => exact ih o hr ho'

theorem visiblePrefix_eq_filter_vs (n : Nat) : ∀ (l : List Obj), levelOk l = true →
    visiblePrefix n l = l.filter (earlier n) := by
  intro l
  induction l with
  | nil => intro _; rfl
  | cons o r ih =>
    intro h
    simp only [levelOk, Bool.and_eq_true] at h
    obtain ⟨⟨⟨hid, _⟩, hall⟩, hr⟩ := h
    unfold visiblePrefix at ih ⊢
    rw [List.takeWhile_cons, List.filter_cons, ← vis_eq_earlier_vs hid]
    by_cases hv : vis n o = true
    · simp only [hv, ↓reduceIte, ih hr]
    · simp only [hv, Bool.false_eq_true, ↓reduceIte]
      symm
      rw [List.filter_eq_nil_iff]
      intro x hx hex
      rw [List.all_eq_true] at hall
      rw [← vis_eq_earlier_vs (levelOk_mem_vs r x hr hx).1] at hex
      exact hv (vis_of_idLe_vs (hall x hx) hex)

theorem okList_mem_vs : ∀ (l : List Obj) (m : Meta) (kids : List Obj), okList l = true →
    Obj.scope m kids ∈ l → Numbered kids ∧ kids.all (idLe (.scope m kids)) = true := by
  intro l
  induction l with
  | nil => intro m kids _ h; cases h
  | cons a r ih =>
    intro m kids h ho
    simp only [okList, Bool.and_eq_true] at h
    cases ho with
    | head =>
      simp only [okObj, Bool.and_eq_true] at h
      exact ⟨⟨h.1.1.1, h.1.1.2⟩, h.1.2⟩
    | tail _ ho' => exact ih m kids h.2 ho'

/-! ### prefix stripping on names without dots -/

theorem strip_no_dot_vs (name path : Str) (h : '.' ∉ path) : stripPrefixDot name path = none := by
  unfold stripPrefixDot startsWith
  split
  · rename_i hs
    have he := eq_of_beq hs
    have : '.' ∈ path.take (name ++ ['.']).length := by rw [he]; simp
    exact absurd (List.mem_of_mem_take this) h
  · rfl

theorem take_prefix_eq_vs (rest : Str) : ∀ (name c : Str), '.' ∉ c → '.' ∉ name →
    (c ++ '.' :: rest).take (name.length + 1) = name ++ ['.'] → name = c := by
  intro name
  induction name with
  | nil =>
    intro c hc _ h
    cases c with
    | nil => rfl
    | cons x xs =>
      simp at h
      exact absurd (by simp [h]) hc
  | cons a as ih =>
    intro c hc hn h
    cases c with
    | nil =>
      simp at h
      exact absurd (by simp [← h.1]) hn
    | cons x xs =>
      simp only [List.cons_append, List.length_cons, List.take_succ_cons, List.cons.injEq] at h
      rw [h.1, ih xs (fun e => hc (by simp [e])) (fun e => hn (by simp [e])) h.2]

theorem strip_decomp_vs (name c rest : Str) (hc : '.' ∉ c) (hn : '.' ∉ name) :
    stripPrefixDot name (c ++ '.' :: rest) = if name = c then some rest else none := by
  unfold stripPrefixDot startsWith
  by_cases e : name = c
  · subst e
    have ht : (name ++ '.' :: rest).take (name ++ ['.']).length = name ++ ['.'] := by
      rw [show name ++ '.' :: rest = (name ++ ['.']) ++ rest by simp, List.take_left']
      rfl
    simp only [List.length_append, List.length_cons, List.length_nil] at ht
    simp [ht]
  · simp only [e, ↓reduceIte]
    split
    · rename_i hs
      have he := eq_of_beq hs
      simp only [List.length_append, List.length_cons, List.length_nil] at he
      exact absurd (take_prefix_eq_vs rest name c hc hn he) e
    · rfl

/-! ### positions and chains -/

theorem chainAt_single_vs (objs : List Obj) (i : Nat) (ch : Chain) :
    chainAt objs [i] ch = (objs[i]?).map (fun o => (o, objs :: ch)) := by
  simp [chainAt]

theorem chainAt_cons_vs (objs : List Obj) (i : Nat) (m : Meta) (kids : List Obj) (q : List Nat)
    (ch : Chain) (hq : q ≠ []) (hi : objs[i]? = some (.scope m kids)) :
    chainAt objs (i :: q) ch = chainAt kids q (objs :: ch) := by
  cases q with
  | nil => exact absurd rfl hq
  | cons a b => simp [chainAt, hi]

/-- the chain of object lists along a scope position (innermost first), on top of `outer` -/
def chainDown : List Obj → List Nat → Chain → Option Chain
  | objs, [], outer => some (objs :: outer)
  | objs, i :: p, outer =>
    match objs[i]? with
    | some (.scope _ kids) => chainDown kids p (objs :: outer)
    | _ => none

theorem chainAt_spec_vs : ∀ (q : List Nat) (objs : List Obj) (ch : Chain),
    (chainAt objs q ch).map (·.1) = objAt objs q ∧
      ∀ o c, chainAt objs q ch = some (o, c) → chainDown objs q.dropLast ch = some c
  | [], objs, ch => by cases objs <;> exact ⟨rfl, fun _ _ h => by cases h⟩
  | [i], objs, ch => by cases h : objs[i]? <;> simp [chainAt, objAt, chainDown, h]
  | i :: a :: b, objs, ch => by
    simp only [chainAt, objAt, List.dropLast_cons_cons, chainDown]
    cases objs[i]? with
    | none => exact ⟨rfl, fun _ _ h => by cases h⟩
    | some o =>
      cases o with
      | defn m ws => exact ⟨rfl, fun _ _ h => by cases h⟩
      | scope m kids => exact chainAt_spec_vs (a :: b) kids _

theorem objAt_chainAt_vs (q : List Nat) (objs : List Obj) (ch : Chain) (o : Obj)
    (h : objAt objs q = some o) : ∃ c, chainAt objs q ch = some (o, c) := by
  rw [← (chainAt_spec_vs q objs ch).1, Option.map_eq_some_iff] at h
  obtain ⟨⟨o', c⟩, hc, rfl⟩ := h
  exact ⟨c, hc⟩

theorem chainAt_objAt_vs (q : List Nat) (objs : List Obj) (ch : Chain) (o : Obj) (c : Chain)
    (h : chainAt objs q ch = some (o, c)) : objAt objs q = some o := by
  rw [← (chainAt_spec_vs q objs ch).1, h]
  rfl

theorem reroot_good_vs {path : Str} (h : GoodPath path) (c : Chain) : reroot c path = (c, path) := by
  unfold reroot
  simp [goodPath_no_lead_vs h]

theorem lookupIn_noup_vs (fuel n : Nat) (objs : List Obj) (outer : Chain) (path : Str) :
    lookupIn fuel n false (objs :: outer) path
      = ((visiblePrefix n objs).filter (isCand path)).reverse.findSome?
          (tryOne fuel n path objs outer) := by
  simp only [lookupIn]
  cases ((visiblePrefix n objs).filter (isCand path)).reverse.findSome?
    (tryOne fuel n path objs outer) <;> rfl

/-! ### one scope: the operational lookup without `search_up` is `findIn` -/

theorem lexicalGet_findIn_vs (n : Nat) : ∀ (fuel : Nat) (path : Str) (objs : List Obj) (outer : Chain),
    2 * path.length + (outer.length + 1) < fuel → GoodPath path → Numbered objs →
    lexicalGet fuel (objs :: outer) path n false
      = (findIn n (splitOn '.' path) objs).bind (fun p => chainAt objs p outer) := by
  intro fuel
  induction fuel with
  | zero => intro path objs outer h; omega
  | succ f ih =>
    intro path objs outer hf hg hd
    rw [lexicalGet_succ, reroot_good_vs hg, lookupIn_noup_vs,
      visiblePrefix_eq_filter_vs n objs hd.1, List.filter_filter, findSome_rev_filter_vs _ _ objs 0]
    rcases path_decomp path with hnd | ⟨c, rest, hp, hc⟩
    · -- a one-component name
      rw [splitOn_of_not_mem '.' path hnd]
      simp only [findIn]
      apply lastSome_bind_congr_vs
      intro j o hj
      have hstrip : stripPrefixDot o.name path = none := strip_no_dot_vs _ _ hnd
      have hcand : isCand path o = (o.name == path) := by
        unfold isCand
        cases o.isDefn <;> simp [hstrip]
      simp only [hcand, tryOne, hstrip]
      by_cases hname : (o.name == path) = true
      · by_cases he : earlier n o = true
        · simp [hname, he, chainAt_single_vs, hj]
        · simp [hname, he]
      · simp [hname]
    · -- `c.rest`
      subst hp
      have hsplit := splitOn_append_sep '.' c rest hc
      rw [hsplit]
      cases hcs : splitOn '.' rest with
      | nil => exact absurd hcs (splitOn_ne_nil '.' rest)
      | cons c' cs' =>
        simp only [findIn]
        apply lastSome_bind_congr_vs
        intro j o hj
        have hmem := List.mem_of_getElem? hj
        have hnd : '.' ∉ o.name := (levelOk_mem_vs objs o hd.1 hmem).2
        have hne : (o.name == c ++ '.' :: rest) = false := by
          apply beq_false_of_ne
          intro e
          exact hnd (by rw [e]; simp)
        have hstrip := strip_decomp_vs o.name c rest hc hnd
        cases o with
        | defn m ws =>
          have : isCand (c ++ '.' :: rest) (Obj.defn m ws) = false := by
            unfold isCand; simp [Obj.isDefn, hne]
          simp [this]
        | scope m kids =>
          have hnm : (Obj.scope m kids).name = m.name := rfl
          rw [hnm] at hne hstrip hnd
          have hcand : isCand (c ++ '.' :: rest) (Obj.scope m kids) = (m.name == c) := by
            unfold isCand
            simp only [Obj.isDefn, Bool.false_eq_true, ↓reduceIte, hnm, hne, Bool.false_or, hstrip]
            by_cases e : m.name = c <;> simp [e]
          simp only [hcand, Nat.zero_add]
          by_cases e : m.name = c
          · by_cases he : earlier n (Obj.scope m kids) = true
            · have hkd : Numbered kids := (okList_mem_vs objs m kids hd.2 hmem).1
              have hfuel : 2 * rest.length + ((objs :: outer).length + 1) < f := by
                simp only [List.length_append, List.length_cons] at hf ⊢
                omega
              have := ih rest kids (objs :: outer) hfuel (goodPath_rest_vs hc hg) hkd
              subst e
              simp only [↓reduceIte] at hstrip
              simp only [he, beq_self_eq_true, Bool.and_self, ↓reduceIte, tryOne, hnm, hne,
                Bool.false_eq_true, hstrip, Obj.children]
              rw [this, hcs]
              cases hq : findIn n (c' :: cs') kids with
              | none => simp
              | some q =>
                -- the position found among the kids exists, so its chain does
                obtain ⟨o', ho', _⟩ := findIn_earlier_vs n _ kids q hq
                obtain ⟨cc, hcc⟩ := objAt_chainAt_vs q kids (objs :: outer) o' ho'
                simp [chainAt_cons_vs objs j m kids q outer (ne_nil_of_objAt_vs ho') hj, hcc]
            · simp [e, he]
          · simp [e]
/-! ### enclosing scopes: the operational lookup with `search_up` is `searchScopes` -/

theorem lastLevel_cons_vs (a : List Obj) (b : List Obj) (c : Chain) :
    lastLevel (a :: b :: c) = lastLevel (b :: c) := by
  unfold lastLevel
  simp only [List.reverse_cons, List.append_assoc]
  cases h : c.reverse with
  | nil => simp
  | cons x xs => simp

theorem chainDown_spec_vs : ∀ (sp : List Nat) (objs : List Obj) (outer c : Chain),
    chainDown objs sp outer = some c →
      c.length = sp.length + outer.length + 1 ∧ lastLevel c = lastLevel (objs :: outer) := by
  intro sp
  induction sp with
  | nil => intro objs outer c h; simp [chainDown] at h; subst h; simp
  | cons i p ih =>
    intro objs outer c h
    simp only [chainDown] at h
    split at h
    · obtain ⟨h1, h2⟩ := ih _ _ _ h
      refine ⟨?_, by rw [h2, lastLevel_cons_vs]⟩
      simp only [List.length_cons] at h1 ⊢
      omega
    · cases h

/-- continue the search in the scopes around (`search_up`) -/
def upFallback (fuel n : Nat) (path : Str) (outer : Chain) : Option (Obj × Chain) :=
  match outer with
  | [] => none
  | _ => lexicalGet fuel outer path n true

def foundOr (objs : List Obj) (outer : Chain) (r : Option (List Nat)) (fb : Option (Obj × Chain)) :
    Option (Obj × Chain) :=
  match r with
  | some q => chainAt objs q outer
  | none => fb

theorem lexicalGet_level_up_vs (n : Nat) (fuel : Nat) (path : Str) (objs : List Obj) (outer : Chain)
    (hf : 2 * path.length + (outer.length + 1) < fuel) (hg : GoodPath path) (hd : Numbered objs) :
    lexicalGet fuel (objs :: outer) path n true
      = foundOr objs outer (findIn n (splitOn '.' path) objs) (upFallback fuel n path outer) := by
  unfold foundOr upFallback
  obtain ⟨f, rfl⟩ : ∃ k, fuel = k + 1 := ⟨fuel - 1, by omega⟩
  have hno := lexicalGet_findIn_vs n (f + 1) path objs outer hf hg hd
  rw [lexicalGet_succ, reroot_good_vs hg, lookupIn_noup_vs] at hno
  rw [lexicalGet_succ, reroot_good_vs hg]
  simp only [lookupIn, hno]
  cases hq : findIn n (splitOn '.' path) objs with
  | none =>
    simp only [Option.bind_none, Bool.not_true, Bool.false_eq_true, ↓reduceIte]
    cases outer with
    | nil => rfl
    | cons a b =>
      simp only []
      apply lexicalGet_fuel_irrelevant
      · simp only [List.length_cons] at hf ⊢; omega
      · simp only [List.length_cons] at hf ⊢; omega
  | some q =>
    obtain ⟨o', ho', _⟩ := findIn_earlier_vs n _ objs q hq
    obtain ⟨cc, hcc⟩ := objAt_chainAt_vs q objs outer o' ho'
    simp [hcc]

theorem lexicalGet_searchScopes_vs (n : Nat) (path : Str) (hg : GoodPath path) :
    ∀ (sp : List Nat) (objs : List Obj) (outer c : Chain) (fuel : Nat),
      chainDown objs sp outer = some c → Numbered objs → 2 * path.length + c.length < fuel →
      lexicalGet fuel c path n true
        = foundOr objs outer (searchScopes n (splitOn '.' path) objs sp)
            (upFallback fuel n path outer) := by
  intro sp
  induction sp with
  | nil =>
    intro objs outer c fuel hc hd hf
    simp only [chainDown, Option.some.injEq] at hc
    subst hc
    simp only [searchScopes]
    exact lexicalGet_level_up_vs n fuel path objs outer (by simp only [List.length_cons] at hf; omega) hg hd
  | cons i p ih =>
    intro objs outer c fuel hc hd hf
    simp only [chainDown] at hc
    split at hc
    · rename_i m kids hi
      have hlen := (chainDown_spec_vs _ _ _ _ hc).1
      have hkd : Numbered kids := (okList_mem_vs objs m kids hd.2 (List.mem_of_getElem? hi)).1
      rw [ih kids (objs :: outer) c fuel hc hkd hf]
      simp only [searchScopes, hi]
      cases hs : searchScopes n (splitOn '.' path) kids p with
      | some q =>
        obtain ⟨o', ho', _⟩ := searchScopes_earlier_vs n _ p kids q hs
        have hne := ne_nil_of_objAt_vs ho'
        simp only [foundOr]
        exact (chainAt_cons_vs objs i m kids q outer hne hi).symm
      | none =>
        simp only [foundOr, upFallback]
        exact lexicalGet_level_up_vs n fuel path objs outer
          (by simp only [List.length_cons] at hlen; omega) hg hd
    · cases hc

/-! ### the whole lookup of `resolve_variables` is `nearestEarlier` -/

/-- variable names produced by `fragments`: after an optional leading '.', non-empty components -/
def GoodName (name : Str) : Prop :=
  if (name.take 1 == ['.']) = true then GoodPath (name.drop 1) else GoodPath name

theorem idAt_of_chainAt_vs (root : List Obj) (pos : List Nat) (d : Obj) (ch : Chain) (n : Nat)
    (hc : chainAt root pos [] = some (d, ch)) (hid : d.meta.id = some n) : idAt root pos = some n := by
  simp [idAt, chainAt_objAt_vs pos root [] d ch hc, hid]

theorem lexicalGet_nearestEarlier_vs (root : List Obj) (hd : Numbered root) (pos : List Nat) (d : Obj)
    (ch : Chain) (n : Nat) (hc : chainAt root pos [] = some (d, ch)) (hid : d.meta.id = some n)
    (name : Str) (hg : GoodName name) :
    lexicalGet (2 * name.length + ch.length + 1) ch name n true
      = foundOr root [] (nearestEarlier root pos name) none := by
  have hdown := (chainAt_spec_vs pos root []).2 d ch hc
  unfold nearestEarlier
  rw [idAt_of_chainAt_vs root pos d ch n hc hid]
  simp only []
  unfold GoodName at hg
  by_cases ha : (name.take 1 == ['.']) = true
  · simp only [ha, ↓reduceIte] at hg ⊢
    rw [lexicalGet_succ]
    have hr : reroot ch name = ([root], name.drop 1) := by
      unfold reroot
      simp only [ha, ↓reduceIte, (chainDown_spec_vs _ _ _ _ hdown).2]
      rfl
    rw [hr]
    have hlen : name.length = (name.drop 1).length + 1 := by
      cases name with
      | nil => simp at ha
      | cons x xs => simp
    have hback := lexicalGet_succ (2 * name.length + ch.length) [root] (name.drop 1) n true
    rw [reroot_good_vs hg] at hback
    rw [← hback, lexicalGet_level_up_vs n _ (name.drop 1) root [] (by simp only [List.length_nil]; omega) hg hd]
    rfl
  · simp only [ha, Bool.false_eq_true, ↓reduceIte] at hg ⊢
    rw [lexicalGet_searchScopes_vs n name hg pos.dropLast root [] ch _ hdown hd (by omega)]
    rfl

/-! ### the variable names `fragments` produces are good names -/

theorem isIdStart_ne_dot_vs {d : Char} (h : isIdStart d = true) : d ≠ '.' := by
  intro e; subst e; revert h; decide

theorem isStdIdent_goodPath_vs (s : Str) (h : isStdIdent s = true) : GoodPath s := by
  cases s with
  | nil => simp [isStdIdent] at h
  | cons c cs =>
    simp only [isStdIdent, Bool.and_eq_true, Bool.or_eq_true, decide_eq_true_eq] at h
    obtain ⟨⟨hc, _⟩, hparts⟩ := h
    have hcd : c ≠ '.' := isIdStart_ne_dot_vs hc
    intro x hx
    cases hparts with
    | inl hlen =>
      -- a single component, and it starts with `c`
      cases hs : splitOn '.' cs with
      | nil => exact absurd hs (splitOn_ne_nil '.' cs)
      | cons p0 ps =>
        have hsp : splitOn '.' (c :: cs) = (c :: p0) :: ps := by
          simp [splitOn, hs, hcd]
        rw [hsp] at hx hlen
        cases ps with
        | nil => simp at hx; subst hx; simp
        | cons _ _ => simp at hlen
    | inr hall =>
      rw [List.all_eq_true] at hall
      have := hall x hx
      intro e; subst e; simp [isSimpleIdent] at this

def GoodFrag : Fragment → Prop
  | .var name => GoodName name
  | .lit _ => True

theorem goodName_paren_vs (name : Str)
    (h : isStdIdent (name.drop (if (name.take 1 == ['.']) = true then 1 else 0)) = true) :
    GoodName name := by
  unfold GoodName
  by_cases ha : (name.take 1 == ['.']) = true
  · simp only [ha, ↓reduceIte] at h ⊢
    exact isStdIdent_goodPath_vs _ h
  · simp only [ha, Bool.false_eq_true, ↓reduceIte, List.drop_zero] at h ⊢
    exact isStdIdent_goodPath_vs _ h

theorem goodName_ident_vs (d : Char) (rest : Str) (h : isIdStart d = true) :
    GoodName (d :: rest.takeWhile (fun x => x != '.' && isIdCont x)) := by
  have hd : d ≠ '.' := isIdStart_ne_dot_vs h
  have hnd : '.' ∉ d :: rest.takeWhile (fun x => x != '.' && isIdCont x) := by
    intro hm
    cases hm with
    | head => exact hd rfl
    | tail _ hm' =>
      have hall := List.all_takeWhile (l := rest) (p := fun x => x != '.' && isIdCont x)
      rw [List.all_eq_true] at hall
      have := hall _ hm'
      simp at this
  unfold GoodName
  have ha : ((d :: rest.takeWhile (fun x => x != '.' && isIdCont x)).take 1 == ['.']) = false := by
    simp [hd]
  simp only [ha, Bool.false_eq_true, ↓reduceIte]
  intro x hx
  rw [splitOn_of_not_mem '.' _ hnd] at hx
  simp at hx
  subst hx
  simp

theorem fragmentsAux_good_vs {fuel : Nat} {cs cur : Str} {acc l : List Fragment} {b : Bool}
    (h : fragmentsAux fuel cs cur acc = .ok (l, b)) (hacc : ∀ f ∈ acc, GoodFrag f) : ∀ f ∈ l, GoodFrag f := by
  have hlit : ∀ {acc : List Fragment} (cur : Str), (∀ f ∈ acc, GoodFrag f) →
      ∀ f ∈ (if cur.isEmpty then acc else acc ++ [Fragment.lit cur]), GoodFrag f := by
    intro acc cur hacc
    split
    · exact hacc
    · exact List.forall_mem_append.2 ⟨hacc, by simp [GoodFrag]⟩
  fun_induction fragmentsAux fuel cs cur acc generalizing l b
  -- a round that fails contradicts `h`
  any_goals contradiction
  -- end of the text; an ordinary character (two cases); `$(name)`; `$name`
  · cases h; exact hlit _ hacc
  · rename_i ih; exact ih h hacc
  · rename_i ih; exact ih h hacc
  · rename_i hstd ih
    obtain ⟨⟨l', b'⟩, ha, hg⟩ := Except.map_eq_ok.mp h
    cases hg
    refine ih ha (List.forall_mem_append.2 ⟨hlit _ hacc, ?_⟩)
    simpa [GoodFrag] using goodName_paren_vs _ (by simp at hstd; exact hstd)
  · rename_i hids _ _ ih
    obtain ⟨⟨l', b'⟩, ha, hg⟩ := Except.map_eq_ok.mp h
    cases hg
    refine ih ha (List.forall_mem_append.2 ⟨hlit _ hacc, ?_⟩)
    simpa [GoodFrag] using goodName_ident_vs _ _ (by simpa using hids)

theorem fragments_good_vs (value : Str) (frags : List Fragment) (hv : Bool)
    (h : fragments value = .ok (frags, hv)) : ∀ name, Fragment.var name ∈ frags → GoodName name := by
  unfold fragments at h
  split at h
  · cases h
  · rename_i l b hl
    simp only [Except.ok.injEq, Prod.mk.injEq] at h
    intro name hn
    rw [← h.1] at hn
    exact fragmentsAux_good_vs hl (by intro f hf; cases hf) _ hn

theorem fragments_sole_vs (value : Str) (frags : List Fragment)
    (h : fragments value = .ok (frags, true)) (hlen : frags.length ≤ 1) :
    ∃ name, frags = [.var name] := by
  unfold fragments at h
  split at h
  · cases h
  · simp only [Except.ok.injEq, Prod.mk.injEq] at h
    obtain ⟨h1, h2⟩ := h
    subst h1
    rename_i l _ _
    cases l with
    | nil => simp at h2
    | cons f r =>
      cases r with
      | nil =>
        cases f with
        | lit s => simp at h2
        | var name => exact ⟨name, rfl⟩
      | cons _ _ => simp at hlen

/-! ### the operational round in normal form

`substWord` leaves open what a name refers to.  `denote` closes it with `refOf`; the fuelled `resolveWords`
closes it with the lookup and the next round (`opRef`).  So one round of `resolveWords` IS `mapM substWord`
(`resolveWords_succ_nf`, for every chain and fuel), and what is known of `substWord` holds of it. -/

/-- what a lookup result means for a variable, `rec` resolving the definition found -/
def refOfLookup (rec : Chain → Nat → List Word → R (List Word)) : Option (Obj × Chain) → VarRef
  | some (.defn m ws, ch) =>
    (match m.id with
     | some sid => .value (rec ch sid ws)
     | none => .value (.error (.unsupported "referenced definition without id")))
  | some (.scope _ _, _) => .notDefinition
  | none => .undefined

/-- the reference `resolveWords` computes: look the name up, resolve what is found with the fuel left.
    The lookup fuel `2 * name.length + chain.length + 1` is what `resolveWords` (Phil/Vars.lean) passes: the
    measure `2*|path| + |chain|` of a lookup falls in every recursive call, so it is enough and any larger
    fuel finds the same (`lexicalGet_fuel_adequate`). -/
def opRef (env : Env) (fuel : Nat) (chain : Chain) (id : Nat) (name : Str) : VarRef :=
  refOfLookup (fun ch sid ws => resolveWords env fuel ch sid ws false)
    (lexicalGet (2 * name.length + chain.length + 1) chain name id true)

theorem resolveVar_spec_vs (env : Env) (fuel : Nat) (chain : Chain) (id : Nat) (diff : Bool) (w : Word)
    (force : Bool) (rs : List (List Word)) (name : Str) :
    resolveVar env fuel chain id diff w force rs name
      = (varWords env diff (opRef env fuel chain id) w name).map (fun vws =>
          rs ++ [if force then [wordDq (joinWith [' '] (vws.map (·.value)))] else vws]) := by
  unfold resolveVar varWords opRef
  cases lexicalGet (2 * name.length + chain.length + 1) chain name id true with
  | none =>
    simp only [foundOf, refOfLookup]
    cases diff with
    | true => rfl
    | false =>
      simp only [Bool.false_eq_true, ↓reduceIte]
      cases env name <;> rfl
  | some p =>
    obtain ⟨o, ch⟩ := p
    cases o with
    | scope m k => rfl
    | defn m ws =>
      cases hid : m.id with
      | none => simp only [foundOf, refOfLookup, hid]; rfl
      | some sid =>
        simp only [foundOf, refOfLookup, hid]
        cases resolveWords env fuel ch sid ws false <;> rfl

theorem foldl_texts_vs : ∀ (texts : List Str) (s0 : Str),
    (texts.map (fun t => [wordDq t])).foldl (fun s r => s ++ (r.headD (wordDq [])).value) s0
      = s0 ++ texts.flatten := by
  intro texts
  induction texts with
  | nil => intro s0; simp
  | cons t ts ih =>
    intro s0
    simp only [List.map_cons, List.foldl_cons, List.headD_cons, List.flatten_cons]
    rw [ih]
    simp [wordDq]

theorem resolveFrag_forced_vs (env : Env) (fuel : Nat) (chain : Chain) (id : Nat) (diff : Bool) (w : Word)
    (rs : List (List Word)) (fr : Fragment) :
    resolveFrag env fuel chain id diff w true rs fr
      = (fragText env diff (opRef env fuel chain id) w fr).map (rs ++ [[wordDq ·]]) := by
  cases fr with
  | lit s => rfl
  | var name =>
    simp only [resolveFrag, fragText]
    rw [resolveVar_spec_vs env fuel chain id diff w true rs name]
    cases varWords env diff _ w name <;> rfl

theorem substWord_forced_vs (env : Env) (diff : Bool) (ref : Str → VarRef) (w : Word)
    (frags : List Fragment) (hq : w.quote ≠ some .s1) (hfr : fragments w.value = .ok (frags, true))
    (hmix : w.quote.isSome ∨ frags.length > 1) :
    substWord env diff ref w
      = (frags.mapM (fragText env diff ref w)).map (fun texts => [wordDq texts.flatten]) := by
  unfold substWord
  simp only [beq_iff_eq, hq, ↓reduceIte, hfr, Bool.not_true, Bool.false_eq_true]
  split
  · simp_all
  · rfl

theorem substWord_sole_vs (env : Env) (diff : Bool) (ref : Str → VarRef) (w : Word) (name : Str)
    (hqn : w.quote = none) (hfr : fragments w.value = .ok ([.var name], true)) :
    substWord env diff ref w = varWords env diff ref w name := by
  unfold substWord
  simp only [hqn, hfr, Bool.not_true, Bool.false_eq_true, ↓reduceIte]
  rfl

/-! ### the errors of a word -/

theorem varWords_error_vs {env : Env} {diff : Bool} {ref : Str → VarRef} {w : Word} {name : Str} {e : Err}
    (h : varWords env diff ref w name = .error e) :
    ref name = .value (.error e) ∨
      e ∈ [Err.runtime "not_a_definition" w.line, .runtime "undefined_variable" w.line] := by
  unfold varWords at h
  split at h
  · rename_i hr; subst h; exact .inl hr
  · cases h; exact .inr (by simp)
  · split at h
    · cases h
    · split at h
      · cases h
      · cases h; exact .inr (by simp)

theorem substWord_error_vs {env : Env} {diff : Bool} {ref : Str → VarRef} {w : Word} {e : Err}
    (h : substWord env diff ref w = .error e) :
    (∃ site, fragments w.value = .error site ∧ e = .runtime site w.line) ∨
      ∃ name, varWords env diff ref w name = .error e := by
  unfold substWord at h
  split at h
  · cases h
  split at h
  · rename_i hfr; cases h; exact .inl ⟨_, hfr, rfl⟩
  split at h
  · cases h
  split at h
  · exact .inr ⟨_, h⟩
  · obtain ⟨fr, _, hfr⟩ := mapM_error_vs (Except.map_eq_error.mp h)
    cases fr with
    | lit s => cases hfr
    | var name => exact .inr ⟨name, Except.map_eq_error.mp hfr⟩

/-- The step of the model's fold, with its accumulators, is the specification's `substWord` at `opRef`
    appended to `acc`: along `resolveStep` — single-quoted, syntax error, no variable, mixture, sole variable. -/
theorem resolveStep_spec_vs (env : Env) (fuel : Nat) (chain : Chain) (id : Nat) (diff : Bool)
    (acc : List Word) (w : Word) :
    resolveStep env fuel chain id diff acc w
      = (substWord env diff (opRef env fuel chain id) w).map (acc ++ ·) := by
  by_cases hq : (w.quote == some Quote.s1) = true
  · unfold resolveStep substWord
    simp [hq, Except.map]
  · cases hfr : fragments w.value with
    | error site =>
      unfold resolveStep substWord
      simp only [hq, Bool.false_eq_true, ↓reduceIte, hfr]
      rfl
    | ok p =>
      obtain ⟨frags, hv⟩ := p
      cases hv with
      | false =>
        unfold resolveStep substWord
        simp [hq, hfr, Except.map]
      | true =>
        have hstep : resolveStep env fuel chain id diff acc w
            = resolveMix env fuel chain id diff w frags acc := by
          unfold resolveStep
          simp only [hq, Bool.false_eq_true, ↓reduceIte, hfr, Bool.not_true]
        rw [hstep]
        unfold resolveMix
        by_cases hforce : (w.quote.isSome || decide (frags.length > 1)) = true
        · -- a mixture: one double-quoted word
          rw [substWord_forced_vs env diff _ w frags (by simpa using hq) hfr (by simpa using hforce)]
          simp only [hforce]
          rw [foldlM_append_vs _ (resolveFrag_forced_vs env fuel chain id diff w) frags []]
          cases frags.mapM (fragText env diff _ w) with
          | error e => rfl
          | ok texts =>
            simp only [Except.map, Bool.not_true, Bool.false_eq_true, ↓reduceIte, List.nil_append,
              ← List.map_eq_flatMap, foldl_texts_vs]
        · -- exactly one unquoted variable
          have hforce' : (w.quote.isSome || decide (frags.length > 1)) = false := by simpa using hforce
          simp only [Bool.or_eq_false_iff, decide_eq_false_iff_not] at hforce'
          obtain ⟨hqn, hlen⟩ := hforce'
          obtain ⟨name, rfl⟩ := fragments_sole_vs _ _ hfr (by omega)
          have hqn' : w.quote = none := by
            cases hw : w.quote with
            | none => rfl
            | some q => simp [hw] at hqn
          rw [substWord_sole_vs env diff _ w name hqn' hfr]
          simp only [hqn', Option.isSome_none, List.length_cons, List.length_nil, Nat.zero_add,
            gt_iff_lt, Nat.lt_irrefl, decide_false, Bool.or_self, List.foldlM_cons, List.foldlM_nil,
            resolveFrag]
          rw [resolveVar_spec_vs env fuel chain id diff w false [] name]
          cases varWords env diff _ w name with
          | error e => rfl
          | ok vws => simp [Except.map, bind, Except.bind, pure, Except.pure]

/-- **Normal form.**  One round of `resolveWords` is `substWord` on every word, the variables meaning what
    the lookup and the next round make of them (`opRef`): for every chain and fuel, no hypothesis on the
    document.  The facts about whole words and the equality with `denote` are read off this form. -/
theorem resolveWords_succ_nf (env : Env) (fuel : Nat) (chain : Chain) (id : Nat) (ws : List Word)
    (diff : Bool) :
    resolveWords env (fuel + 1) chain id ws diff
      = (ws.mapM (substWord env diff (opRef env fuel chain id))).map List.flatten := by
  rw [resolveWords_succ, foldlM_append_vs (fun b => b) (resolveStep_spec_vs env fuel chain id diff) ws []]
  simp only [List.nil_append, List.flatMap_id']

theorem resolveWords_single_nf (env : Env) (fuel : Nat) (chain : Chain) (id : Nat) (w : Word)
    (diff : Bool) :
    resolveWords env (fuel + 1) chain id [w] diff = substWord env diff (opRef env fuel chain id) w := by
  rw [resolveWords_succ_nf, mapM_single_vs]
  cases substWord env diff (opRef env fuel chain id) w with
  | error e => rfl
  | ok b => simp [Except.map]

/-! ### the main equality -/

/-- the meaning of the variables of the definition at `pos` (the `ref` inside `denote`) -/
def refOf (env : Env) (root : List Obj) (pos : List Nat) (name : Str) : VarRef :=
  match nearestEarlier root pos name with
  | none => .undefined
  | some p =>
    match objAt root p with
    | some (.defn _ _) => .value (denote env root p false)
    | _ => .notDefinition

theorem denote_defn_vs (env : Env) (root : List Obj) (pos : List Nat) (diff : Bool) (m : Meta)
    (ws : List Word) (h : objAt root pos = some (.defn m ws)) :
    denote env root pos diff
      = (ws.mapM (substWord env diff (refOf env root pos))).map List.flatten := by
  rw [denote]
  simp only [h]
  congr 2
  funext w
  congr 1
  funext name
  unfold refOf
  split <;> simp_all

theorem denote_other_vs (env : Env) (root : List Obj) (pos : List Nat) (diff : Bool)
    (h : ∀ m ws, objAt root pos ≠ some (.defn m ws)) :
    denote env root pos diff = .error (.unsupported "no definition at path") := by
  rw [denote]
  split
  · rename_i m ws hh; exact absurd hh (h m ws)
  · rfl

theorem substWord_congr_vs (env : Env) (diff : Bool) {ref ref' : Str → VarRef} (w : Word)
    (h : ∀ name, GoodName name → ref name = ref' name) :
    substWord env diff ref w = substWord env diff ref' w := by
  unfold substWord
  split
  · rfl
  cases hfr : fragments w.value with
  | error site => rfl
  | ok p =>
    obtain ⟨frags, hv⟩ := p
    have hgood := fragments_good_vs _ _ _ hfr
    simp only []
    split
    · rfl
    split
    · unfold varWords
      rw [h _ (hgood _ (by simp))]
    · congr 1
      refine mapM_congr_vs _ fun f hf => ?_
      cases f with
      | lit s => rfl
      | var name => simp only [fragText, varWords, h name (hgood name hf)]

/-- … and so do the ids it consults -/
theorem wordRefs_congr_vs {ref ref' : Str → List Nat} (w : Word)
    (h : ∀ name, GoodName name → ref name = ref' name) : wordRefs ref w = wordRefs ref' w := by
  unfold wordRefs
  split
  · rfl
  · cases hfr : fragments w.value with
    | error site => rfl
    | ok pr =>
      obtain ⟨frags, hv⟩ := pr
      refine flatMap_congr_mem _ _ _ fun fr hfrm => ?_
      cases fr with
      | lit s => rfl
      | var name => exact h name (fragments_good_vs _ _ _ hfr name hfrm)

/-- the ids a variable name of the definition at `pos` stands for (the `ref` inside `refsAt`) -/
def _root_.Phil.refIds (root : List Obj) (pos : List Nat) (name : Str) : List Nat :=
  match nearestEarlier root pos name with
  | none => []
  | some p =>
    match objAt root p with
    | some (.defn m _) =>
      (match m.id with
       | some sid => sid :: refsAt root p
       | none => [])
    | _ => []

theorem _root_.Phil.refsAt_defn (root : List Obj) (pos : List Nat) (m : Meta) (ws : List Word)
    (h : objAt root pos = some (.defn m ws)) :
    refsAt root pos = ws.flatMap (wordRefs (refIds root pos)) := by
  rw [refsAt]
  simp only [h]
  congr 1
  funext w
  congr 1
  funext name
  unfold refIds
  split <;> simp_all

/-- the ids `resolveRefs` collects for a variable name: the definition the lookup finds, and what it
    consults with the fuel left -/
def _root_.Phil.opIds (fuel : Nat) (chain : Chain) (id : Nat) (name : Str) : List Nat :=
  match lexicalGet (2 * name.length + chain.length + 1) chain name id true with
  | some (.defn m ws, ch) =>
    (match m.id with
     | some sid => sid :: resolveRefs fuel ch sid ws
     | none => [])
  | _ => []

theorem _root_.Phil.resolveRefs_succ (fuel : Nat) (chain : Chain) (id : Nat) (words : List Word) :
    resolveRefs (fuel + 1) chain id words = words.flatMap (wordRefs (opIds fuel chain id)) := by
  rw [resolveRefs]
  rfl

/-- **the fuelled traversals compute the specification**: on a numbered document, with any fuel beyond
    the id of the definition, `resolveWords` yields the denotation and `resolveRefs` the ids `refsAt` lists.
    One induction on the id: what the lookup finds is what `nearestEarlier` designates, and it has a smaller id. -/
theorem resolve_eq_spec_vs (env : Env) (root : List Obj) (hd : Numbered root) :
    ∀ (n : Nat) (pos : List Nat) (m : Meta) (ws : List Word) (ch : Chain),
      chainAt root pos [] = some (.defn m ws, ch) → m.id = some n →
      ∀ (fuel : Nat), n < fuel →
        (∀ diff, resolveWords env fuel ch n ws diff = denote env root pos diff) ∧
          resolveRefs fuel ch n ws = refsAt root pos := by
  intro n
  induction n using Nat.strongRecOn with
  | ind n ih =>
    intro pos m ws ch hc hid fuel hfuel
    obtain ⟨f, rfl⟩ : ∃ k, fuel = k + 1 := ⟨fuel - 1, by omega⟩
    have hobj := chainAt_objAt_vs pos root [] _ ch hc
    have hH : ∀ name, GoodName name →
        opRef env f ch n name = refOf env root pos name ∧ opIds f ch n name = refIds root pos name := by
      intro name hg
      unfold opRef opIds
      rw [lexicalGet_nearestEarlier_vs root hd pos (.defn m ws) ch n hc hid name hg]
      unfold refOf refIds foundOr
      cases hne : nearestEarlier root pos name with
      | none => exact ⟨rfl, rfl⟩
      | some p =>
        obtain ⟨n', o, hn', ho, he⟩ := nearestEarlier_earlier_vs root pos name p hne
        rw [idAt_of_chainAt_vs root pos _ ch n hc hid] at hn'
        cases hn'
        obtain ⟨cc, hcc⟩ := objAt_chainAt_vs p root [] o ho
        simp only [hcc, ho]
        cases o with
        | scope m' k' => exact ⟨rfl, rfl⟩
        | defn m' ws' =>
          obtain ⟨i, hi, hlt⟩ := earlier_id_vs he
          have hi' : m'.id = some i := hi
          obtain ⟨h1, h2⟩ := ih i hlt p m' ws' cc hcc hi' f (by omega)
          simp only [refOfLookup, hi', h1, h2, and_self]
    refine ⟨fun diff => ?_, ?_⟩
    · rw [resolveWords_succ_nf, denote_defn_vs env root pos diff m ws hobj,
        mapM_congr_vs ws fun w _ => substWord_congr_vs env diff w fun name hg => (hH name hg).1]
    · rw [resolveRefs_succ, refsAt_defn root pos m ws hobj]
      exact flatMap_congr_mem _ _ _ fun w _ => wordRefs_congr_vs w fun name hg => (hH name hg).2

/-! ### `resolveAt` -/

theorem objAt_level_vs {P : List Obj → Prop}
    (down : ∀ (objs : List Obj) (m : Meta) (kids : List Obj), P objs → Obj.scope m kids ∈ objs → P kids)
    {objs : List Obj} {pos : List Nat} {o : Obj} (h : objAt objs pos = some o) (hP : P objs) :
    ∃ lvl, P lvl ∧ o ∈ lvl := by
  fun_induction objAt objs pos
  · cases h
  · exact ⟨_, hP, List.mem_of_getElem? h⟩
  · rename_i hi ih
    exact ih h (down _ _ _ hP (List.mem_of_getElem? hi))
  · cases h

theorem idsLeList_mem_vs (b : Nat) : ∀ (l : List Obj) (o : Obj), idsLeList b l = true → o ∈ l →
    idsLeObj b o = true := by
  intro l
  induction l with
  | nil => intro o _ h; cases h
  | cons a r ih =>
    intro o h ho
    simp only [idsLeList, Bool.and_eq_true] at h
    cases ho with
    | head => exact h.1
    | tail _ ho => exact ih o h.2 ho

theorem idsLe_objAt_vs (b : Nat) (pos : List Nat) (objs : List Obj) (o : Obj) (n : Nat)
    (hb : idsLeList b objs = true) (h : objAt objs pos = some o) (hid : o.meta.id = some n) : n ≤ b := by
  obtain ⟨lvl, hl, ho⟩ := objAt_level_vs (P := fun l => idsLeList b l = true)
    (fun l m kids hl hm => by
      have := idsLeList_mem_vs b l _ hl hm
      simp only [idsLeObj, Bool.and_eq_true] at this
      exact this.2) h hb
  have := idsLeList_mem_vs b lvl o hl ho
  cases o with
  | defn m ws => simpa [idsLeObj, show m.id = some n from hid] using this
  | scope m k =>
    simp only [idsLeObj, show m.id = some n from hid, Bool.and_eq_true, decide_eq_true_eq] at this
    exact this.1

theorem numbered_id_some_vs (pos : List Nat) (objs : List Obj) (o : Obj)
    (hd : Numbered objs) (h : objAt objs pos = some o) : o.meta.id.isSome = true := by
  obtain ⟨lvl, hl, ho⟩ := objAt_level_vs (P := Numbered) (fun l m kids hl hm => (okList_mem_vs l m kids hl.2 hm).1) h hd
  exact (levelOk_mem_vs lvl o hl.1 ho).1

theorem resolveAt_eq_denote_vs (env : Env) (root : List Obj) (hd : DocIds root) (pos : List Nat)
    (diff : Bool) : resolveAt env root pos diff = denote env root pos diff := by
  unfold resolveAt
  cases hc : chainAt root pos [] with
  | none =>
    simp only []
    rw [denote_other_vs]
    intro m ws ho
    obtain ⟨c, hcc⟩ := objAt_chainAt_vs pos root [] _ ho
    rw [hc] at hcc; cases hcc
  | some r =>
    obtain ⟨o, ch⟩ := r
    have ho := chainAt_objAt_vs pos root [] o ch hc
    cases o with
    | scope m k =>
      simp only []
      rw [denote_other_vs]
      intro m' ws' ho'
      rw [ho] at ho'; cases ho'
    | defn m ws =>
      have hsome := numbered_id_some_vs pos root _ hd.1 ho
      cases hid : m.id with
      | none => simp [Obj.meta, hid] at hsome
      | some n =>
        simp only [hid]
        have hle := idsLe_objAt_vs (sizeList root) pos root _ n hd.2 ho hid
        rw [sizeList_eq_countObjs_vs] at hle
        exact (resolve_eq_spec_vs env root hd.1 n pos m ws ch hc hid _ (by omega)).1 diff

theorem substWord_untouched_vs (env : Env) (diff : Bool) (ref : Str → VarRef) (w : Word)
    (h : w.quote = some .s1 ∨ '$' ∉ w.value) : substWord env diff ref w = .ok [w] := by
  unfold substWord
  cases h with
  | inl hq => simp [hq]
  | inr hd =>
    by_cases hq : (w.quote == some Quote.s1) = true
    · simp [hq]
    · simp [hq, no_dollar_no_vars _ hd]

theorem mapM_untouched_vs (env : Env) (diff : Bool) (ref : Str → VarRef) :
    ∀ (ws : List Word), (∀ w ∈ ws, w.quote = some .s1 ∨ '$' ∉ w.value) →
      ws.mapM (substWord env diff ref) = .ok (ws.map (fun w => [w])) := by
  intro ws
  induction ws with
  | nil => intro _; exact mapM_nil_R _
  | cons w ws ih =>
    intro h
    rw [mapM_cons_R, ih (fun x hx => h x (by simp [hx])), substWord_untouched_vs env diff ref w (h w (by simp))]
    rfl

theorem flatten_singletons_vs (ws : List Word) : (ws.map (fun w => [w])).flatten = ws := by
  induction ws with
  | nil => rfl
  | cons w ws ih => simp [ih]

/-! ### a success stays: more environment, more fuel -/

/-- `env1 ≤ env2`: every variable set in `env1` has the same value in `env2` -/
def _root_.Phil.EnvLe (env1 env2 : Env) : Prop := ∀ name v, env1 name = some v → env2 name = some v

/-- the same kind of reference, with a value that stays when it is a success -/
inductive VarRef.Le : VarRef → VarRef → Prop
  | value {r1 r2} (h : OkLe r1 r2) : Le (.value r1) (.value r2)
  | notDefinition : Le .notDefinition .notDefinition
  | undefined : Le .undefined .undefined

theorem refOfLookup_le_vs {rec1 rec2 : Chain → Nat → List Word → R (List Word)}
    (h : ∀ ch sid ws, OkLe (rec1 ch sid ws) (rec2 ch sid ws)) :
    ∀ L, (refOfLookup rec1 L).Le (refOfLookup rec2 L)
  | none => .undefined
  | some (.scope _ _, _) => .notDefinition
  | some (.defn m ws, ch) => by
    simp only [refOfLookup]
    cases m.id with
    | none => exact .value (fun _ h => h)
    | some sid => exact .value (h ch sid ws)

theorem varWords_okLe_vs {env1 env2 : Env} (henv : EnvLe env1 env2) {ref1 ref2 : Str → VarRef}
    (href : ∀ name, (ref1 name).Le (ref2 name)) (diff : Bool) (w : Word) (name : Str) :
    OkLe (varWords env1 diff ref1 w name) (varWords env2 diff ref2 w name) := by
  unfold varWords
  have h := href name
  generalize ref1 name = a, ref2 name = b at h
  cases h with
  | value h' => exact h'
  | notDefinition => exact fun _ h => h
  | undefined =>
    cases diff with
    | true => exact fun _ h => h
    | false =>
      intro r hr
      simp only [Bool.false_eq_true, ↓reduceIte] at hr ⊢
      cases he : env1 name with
      | none => rw [he] at hr; cases hr
      | some v => rw [he] at hr; rw [henv _ _ he]; exact hr

theorem substWord_okLe_vs {env1 env2 : Env} (henv : EnvLe env1 env2) {ref1 ref2 : Str → VarRef}
    (href : ∀ name, (ref1 name).Le (ref2 name)) (diff : Bool) (w : Word) :
    OkLe (substWord env1 diff ref1 w) (substWord env2 diff ref2 w) := by
  unfold substWord
  split
  · exact fun _ h => h
  · split
    · exact fun _ h => h
    · split
      · exact fun _ h => h
      · split
        · exact varWords_okLe_vs henv href diff w _
        · refine OkLe.map (mapM_okLe_vs _ fun f _ => ?_) _
          cases f with
          | lit s => exact fun _ h => h
          | var name => exact (varWords_okLe_vs henv href diff w name).map _

end Phil.C12

/-! ### what follows for `resolveWords`, for every chain and fuel -/

namespace Phil
open C12

/-- single-quoted words and words without '$' are passed through untouched -/
theorem untouched (env : Env) (fuel : Nat) (chain : Chain) (id : Nat) (words : List Word)
    (diff : Bool) (h : ∀ w ∈ words, w.quote = some .s1 ∨ '$' ∉ w.value) :
    resolveWords env (fuel + 1) chain id words diff = .ok words := by
  rw [resolveWords_succ_nf, mapM_untouched_vs env diff _ words h]
  simp [Except.map, flatten_singletons_vs]

theorem map_len_eq {α β : Type} {g : α → β} {l1 l2 : List α} (h : l1.map g = l2.map g) :
    l1.length = l2.length := by
  have := congrArg List.length h
  simpa using this

/-- **Frame property of resolution.**  If two chains agree after pruning — at every level and at
    every depth — everything from the first object with id ≥ `id` onwards, then the definition with
    primary id `id` resolves identically in both (same words or same error), for every environment.
    Of the fuel only `min fuel (id + 1)` counts: every reference goes to a smaller id. -/
theorem resolveWords_frame (env : Env) : ∀ (f f' : Nat) (c1 c2 : Chain) (id : Nat) (ws : List Word)
    (diff : Bool), min f (id + 1) = min f' (id + 1) →
    c1.map (pruneBeforeList id) = c2.map (pruneBeforeList id) →
    resolveWords env f c1 id ws diff = resolveWords env f' c2 id ws diff := by
  intro f
  induction f with
  | zero =>
    intro f' c1 c2 id ws diff hf _
    obtain rfl : f' = 0 := by omega
    rfl
  | succ f ih =>
    intro f' c1 c2 id ws diff hf h
    obtain ⟨g, rfl⟩ : ∃ k, f' = k + 1 := ⟨f' - 1, by omega⟩
    rw [resolveWords_succ_nf, resolveWords_succ_nf]
    congr 3
    funext name
    unfold opRef
    rw [map_len_eq h]
    have hfr := lexicalGet_frame_deep (2 * name.length + c2.length + 1) c1 c2 name id true h
    cases h1 : lexicalGet (2 * name.length + c2.length + 1) c1 name id true with
    | none =>
      cases h2 : lexicalGet (2 * name.length + c2.length + 1) c2 name id true with
      | none => rfl
      | some r2 => rw [h1, h2] at hfr; cases hfr
    | some r1 =>
      cases h2 : lexicalGet (2 * name.length + c2.length + 1) c2 name id true with
      | none => rw [h1, h2] at hfr; cases hfr
      | some r2 =>
        obtain ⟨o1, ch1⟩ := r1
        obtain ⟨o2, ch2⟩ := r2
        simp only [h1, h2, Option.map_some, Option.some.injEq, Prod.mk.injEq] at hfr
        obtain ⟨ho, hch⟩ := hfr
        cases o1 <;> cases o2 <;> simp only [pruneBeforeObj, Obj.defn.injEq, reduceCtorEq] at ho
        · rename_i m ws1 _ _
          obtain ⟨rfl, rfl⟩ := ho
          simp only [refOfLookup]
          cases hid : m.id with
          | none => rfl
          | some sid =>
            have hlt : sid < id := lexicalGet_id_lt _ _ _ _ _ _ _ _ h1 hid
            simp only []
            rw [ih g ch1 ch2 sid ws1 false (by omega) (pruneChain_mono (Nat.le_of_lt hlt) _ _ hch)]
        · rfl

theorem resolveWords_mono (env1 env2 : Env) (henv : EnvLe env1 env2) :
    ∀ (f1 f2 : Nat) (chain : Chain) (id : Nat) (ws : List Word) (diff : Bool),
      f1 ≤ f2 → OkLe (resolveWords env1 f1 chain id ws diff) (resolveWords env2 f2 chain id ws diff) := by
  intro f1
  induction f1 with
  | zero => intro f2 chain id ws diff _ r h; simp [resolveWords] at h
  | succ f1 ih =>
    intro f2 chain id ws diff hle
    obtain ⟨f2', rfl⟩ : ∃ k, f2 = k + 1 := ⟨f2 - 1, by omega⟩
    rw [resolveWords_succ_nf, resolveWords_succ_nf]
    exact (mapM_okLe_vs _ fun w _ => substWord_okLe_vs henv
      (fun name => refOfLookup_le_vs (fun ch sid ws => ih f2' ch sid ws false (by omega)) _) diff w).map _

/-! ### the failures of `resolveWords`; termination: every reference goes to a strictly smaller id -/

/-- the failures of `resolve_variables` with fuel `f` for the definition numbered `id`: a RuntimeError at
    one of five sites (with the line of the word), a referenced definition without id, or the loop
    bound, and that only with fuel not above `id` -/
def ResolveErr (f id : Nat) (e : Err) : Prop :=
  (∃ s ∈ ["dollar_identifier", "missing_paren", "improper_variable_name", "not_a_definition",
    "undefined_variable"], ∃ l, e = .runtime s l) ∨
  e = .unsupported "referenced definition without id" ∨ (e = .outOfFuel ∧ f ≤ id)

theorem resolveWords_error_cases (env : Env) : ∀ (f : Nat) (chain : Chain) (id : Nat) (ws : List Word)
    (diff : Bool) (e : Err), resolveWords env f chain id ws diff = .error e → ResolveErr f id e := by
  intro f
  induction f with
  | zero => intro chain id ws diff e h; cases h; exact .inr (.inr ⟨rfl, Nat.zero_le _⟩)
  | succ f ih =>
    intro chain id ws diff e h
    rw [resolveWords_succ_nf] at h
    obtain ⟨w, _, hw⟩ := mapM_error_vs (Except.map_eq_error.mp h)
    rcases substWord_error_vs hw with ⟨site, hfr, rfl⟩ | ⟨name, hv⟩
    · exact .inl ⟨site, List.mem_append_left ["not_a_definition", "undefined_variable"] (fragments_error_sites hfr),
        _, rfl⟩
    rcases varWords_error_vs hv with href | he
    · -- the error of the definition found, resolved with less fuel for a smaller id
      unfold opRef refOfLookup at href
      split at href
      · split at href
        · rename_i hl _ sid hid
          have hlt := lexicalGet_id_lt _ _ _ _ _ _ _ _ hl hid
          rcases ih _ _ _ _ _ (VarRef.value.inj href) with h1 | h1 | ⟨h1, h2⟩
          · exact .inl h1
          · exact .inr (.inl h1)
          · exact .inr (.inr ⟨h1, by omega⟩)
        · cases href; exact .inr (.inl rfl)
      · cases href
      · cases href
    · simp only [List.mem_cons, List.not_mem_nil, or_false] at he
      rcases he with rfl | rfl
      · exact .inl ⟨"not_a_definition", by simp, _, rfl⟩
      · exact .inl ⟨"undefined_variable", by simp, _, rfl⟩

theorem resolveWords_not_outOfFuel (env : Env) (f : Nat) (chain : Chain) (id : Nat)
    (ws : List Word) (diff : Bool) (hf : id < f) :
    resolveWords env f chain id ws diff ≠ .error .outOfFuel := by
  intro h
  rcases resolveWords_error_cases env _ _ _ _ _ _ h with ⟨_, _, _, h1⟩ | h1 | ⟨_, h1⟩
  · cases h1
  · cases h1
  · omega

end Phil

namespace Phil.C12
open Phil

theorem resolveAt_ne_outOfFuel_vs (env : Env) (root : List Obj) (hd : DocIds root) (pos : List Nat)
    (diff : Bool) : resolveAt env root pos diff ≠ .error .outOfFuel := by
  unfold resolveAt
  cases hc : chainAt root pos [] with
  | none => simp
  | some x =>
    obtain ⟨o, ch⟩ := x
    cases o with
    | scope m k => simp
    | defn m ws =>
      have ho := chainAt_objAt_vs pos root [] _ ch hc
      cases hid : m.id with
      | none => simp [hid]
      | some n =>
        have hle := idsLe_objAt_vs (sizeList root) pos root _ n hd.2 ho hid
        rw [sizeList_eq_countObjs_vs] at hle
        simp only [hid]
        exact resolveWords_not_outOfFuel env _ ch n ws diff (by omega)

/-! ### later objects are irrelevant: pruned documents have pruned chains -/

theorem pruneList_get_vs (n : Nat) : ∀ (l : List Obj) (i : Nat) (o : Obj), levelOk l = true →
    l[i]? = some o →
    (pruneBeforeList n l)[i]? = if vis n o = true then some (pruneBeforeObj n o) else none := by
  intro l
  induction l with
  | nil => intro i o _ h; simp at h
  | cons a r ih =>
    intro i o hl hi
    simp only [levelOk, Bool.and_eq_true] at hl
    obtain ⟨⟨_, hall⟩, hr⟩ := hl
    cases i with
    | zero =>
      simp at hi; subst hi
      by_cases hv : vis n a = true <;> simp [pruneBeforeList, hv]
    | succ j =>
      have hj : r[j]? = some o := by simpa using hi
      by_cases hva : vis n a = true
      · simp only [pruneBeforeList, hva, ↓reduceIte, List.getElem?_cons_succ]
        exact ih j o hr hj
      · -- nothing after an invisible object is visible
        rw [List.all_eq_true] at hall
        have hvo : ¬ vis n o = true := fun hv => hva (vis_of_idLe_vs (hall o (List.mem_of_getElem? hj)) hv)
        simp [pruneBeforeList, hva, hvo]

theorem pruneList_nil_of_le_vs (n : Nat) (s : Obj) (kids : List Obj) (hs : vis n s = false)
    (hall : kids.all (idLe s) = true) : pruneBeforeList n kids = [] := by
  cases kids with
  | nil => rfl
  | cons a r =>
    rw [List.all_eq_true] at hall
    have hle := hall a (by simp)
    have : vis n a = false := by
      cases hv : vis n a with
      | false => rfl
      | true => rw [vis_of_idLe_vs hle hv] at hs; cases hs
    simp [pruneBeforeList, this]

theorem pruneList_kids_vs (n : Nat) (l : List Obj) (hl : Numbered l) (i : Nat) (m : Meta) (k : List Obj)
    (hi : l[i]? = some (.scope m k)) :
    pruneBeforeList n k = ((pruneBeforeList n l)[i]?).elim [] Obj.children := by
  rw [pruneList_get_vs n l i _ hl.1 hi]
  cases hv : vis n (.scope m k) with
  | true => simp [pruneBeforeObj, Obj.children]
  | false =>
    rw [pruneList_nil_of_le_vs n _ k hv (okList_mem_vs l m k hl.2 (List.mem_of_getElem? hi)).2]
    rfl

theorem prune_kids_agree_vs (n : Nat) (objs1 objs2 : List Obj) (h1 : Numbered objs1)
    (h2 : Numbered objs2) (hp : pruneBeforeList n objs1 = pruneBeforeList n objs2) (i : Nat) (m1 m2 : Meta)
    (k1 k2 : List Obj) (hi1 : objs1[i]? = some (.scope m1 k1)) (hi2 : objs2[i]? = some (.scope m2 k2)) :
    pruneBeforeList n k1 = pruneBeforeList n k2 := by
  rw [pruneList_kids_vs n objs1 h1 i m1 k1 hi1, pruneList_kids_vs n objs2 h2 i m2 k2 hi2, hp]

theorem prune_chain_agree_vs (n : Nat) : ∀ (sp : List Nat) (objs1 objs2 : List Obj)
    (outer1 outer2 c1 c2 : Chain), Numbered objs1 → Numbered objs2 →
    pruneBeforeList n objs1 = pruneBeforeList n objs2 →
    outer1.map (pruneBeforeList n) = outer2.map (pruneBeforeList n) →
    chainDown objs1 sp outer1 = some c1 → chainDown objs2 sp outer2 = some c2 →
    c1.map (pruneBeforeList n) = c2.map (pruneBeforeList n) := by
  intro sp
  induction sp with
  | nil =>
    intro objs1 objs2 outer1 outer2 c1 c2 _ _ hp ho hc1 hc2
    cases hc1; cases hc2
    simp [hp, ho]
  | cons i q ih =>
    intro objs1 objs2 outer1 outer2 c1 c2 h1 h2 hp ho hc1 hc2
    simp only [chainDown] at hc1 hc2
    split at hc1
    · rename_i m1 k1 hi1
      split at hc2
      · rename_i m2 k2 hi2
        exact ih k1 k2 (objs1 :: outer1) (objs2 :: outer2) c1 c2
          (okList_mem_vs objs1 m1 k1 h1.2 (List.mem_of_getElem? hi1)).1
          (okList_mem_vs objs2 m2 k2 h2.2 (List.mem_of_getElem? hi2)).1
          (prune_kids_agree_vs n objs1 objs2 h1 h2 hp i m1 m2 k1 k2 hi1 hi2)
          (by simp [hp, ho]) hc1 hc2
      · cases hc2
    · cases hc1

theorem resolveAt_defn_vs (env : Env) (root : List Obj) (hd : DocIds root) (pos : List Nat)
    (diff : Bool) (m : Meta) (ws : List Word) (n : Nat) (ho : objAt root pos = some (.defn m ws))
    (hid : m.id = some n) :
    ∃ ch, chainAt root pos [] = some (.defn m ws, ch) ∧
      denote env root pos diff = resolveWords env (n + 1) ch n ws diff := by
  obtain ⟨ch, hch⟩ := objAt_chainAt_vs pos root [] _ ho
  exact ⟨ch, hch, ((resolve_eq_spec_vs env root hd.1 n pos m ws ch hch hid _ (by omega)).1 diff).symm⟩

/-! ### the environment is only a fallback -/

theorem env_closed_vs (env : Env) (root : List Obj) (hd : DocIds root) (pos : List Nat) (diff : Bool)
    (r : List Word) (h : denote (fun _ => none) root pos diff = .ok r) :
    denote env root pos diff = .ok r := by
  rw [← resolveAt_eq_denote_vs _ root hd] at h ⊢
  unfold resolveAt at h ⊢
  cases hc : chainAt root pos [] with
  | none => simp [hc] at h
  | some x =>
    obtain ⟨o, ch⟩ := x
    cases o with
    | scope m k => simp [hc] at h
    | defn m ws =>
      cases hid : m.id with
      | none => simp [hc, hid] at h
      | some n =>
        simp only [hc, hid] at h ⊢
        exact resolveWords_mono (fun _ => none) env (fun _ _ h => by cases h) _ _ _ _ _ _ (Nat.le_refl _) _ h

end Phil.C12
