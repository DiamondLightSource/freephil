/-
  The print → parse round trip (C01) for NESTED scopes, the statements without the two inductions: the text
  `scope.show` prints for a tree of attribute-free scopes and definitions (any depth, any print width,
  dotted ("merged") scope chains included), the class of trees, the ids the parser will assign, the exact
  condition on wrapped values, what may follow a value.  That `show` prints this text and that
  `collect_objects` reads it back are the inductions of Proofs/AttrTrees.lean (trees with attributes);
  Proofs/NestedRoundTrip.lean instantiates them for this class.
-/
import Phil.Proofs.PrintParse
import Phil.Proofs.DottedNames
namespace Phil

/-! ### the printed text of a tree -/

/-- the dotted name `scope.show` / `definition.show` print: the pending merged names and the own name -/
def dottedName (ms : List Str) (nm : Str) : Str := joinWith ['.'] (ms ++ [nm])

/-- indentation of the children of a proper scope -/
def deeper (ind : Str) : Str := ind ++ [' ', ' ']

mutual
/-- the text printed for one object at print width `w`, with pending merged names `ms`, at
    indentation `ind` (every line ends with a newline) -/
def treeText (w : Int) : Obj → List Str → Str → Str
  | .defn m ws, ms, ind =>
    ind ++ dottedName ms m.name ++ [' ', '='] ++
      wrapTail w (ind ++ defIndent (dottedName ms m.name)) ws (ind ++ defHead (dottedName ms m.name)) ++ ['\n']
  | .scope m os, ms, ind =>
    if firstMerges os then kidsText w os (ms ++ [m.name]) ind
    else ind ++ dottedName ms m.name ++ [' ', '{', '\n'] ++ kidsText w os [] (deeper ind) ++ ind ++ ['}', '\n']
def kidsText (w : Int) : List Obj → List Str → Str → Str
  | [], _, _ => []
  | x :: xs, ms, ind => treeText w x ms ind ++ kidsText w xs ms ind
end

/-! ### the class of trees -/

/-- object data of an enabled object without attributes; `mg` is its `merge_names` flag, `primary_id`
    and source line are arbitrary -/
def PlainMetaPP (mg : Bool) (m : Meta) : Prop :=
  m = { name := m.name, id := m.id, line := m.line, mergeNames := mg }

mutual
/-- `RTNode ms x`: `x` is a tree of enabled attribute-free definitions and scopes with good undotted
    names, standing below the chain `ms` of scopes that merge their names into its printed name
    (`ms = []`: an ordinary child; then `merge_names` of `x` is False, else True).  The children of a
    scope are either any number (also none) of such trees with `merge_names = False` — a proper scope,
    printed `name {` … `}` — or exactly one such tree with `merge_names = True` (the scope is printed
    as part of the dotted name `a.b …` of that child, as `scope.adopt` builds it for a dotted name).
    A printed dotted name must not be a reserved identifier (`__a.b__`). -/
def RTNode : List Str → Obj → Prop
  | ms, .defn m ws => PlainMetaPP (!ms.isEmpty) m ∧ goodName m.name = true ∧
      isReserved (dottedName ms m.name) = false ∧ ws ≠ [] ∧ ∀ w ∈ ws, goodWord w = true
  | ms, .scope m os => PlainMetaPP (!ms.isEmpty) m ∧ goodName m.name = true ∧
      ((isReserved (dottedName ms m.name) = false ∧ RTAll os) ∨ RTOne (ms ++ [m.name]) os)
def RTAll : List Obj → Prop
  | [] => True
  | x :: xs => RTNode [] x ∧ RTAll xs
def RTOne : List Str → List Obj → Prop
  | _, [] => False
  | ms, x :: xs => RTNode ms x ∧ xs = []
end

theorem RTAll_iff (os : List Obj) : RTAll os ↔ ∀ x ∈ os, RTNode [] x := by
  induction os with
  | nil => simp [RTAll]
  | cons x xs ih => simp [RTAll, ih]

theorem RTOne_iff {ms : List Str} {os : List Obj} : RTOne ms os ↔ ∃ c, os = [c] ∧ RTNode ms c := by
  cases os with
  | nil => unfold RTOne; simp
  | cons x xs =>
    unfold RTOne
    exact ⟨fun ⟨h, e⟩ => ⟨x, by rw [e], h⟩, fun ⟨c, e, h⟩ => by cases e; exact ⟨h, rfl⟩⟩

theorem RTNode.kids {ms : List Str} {m : Meta} {os : List Obj} (h : RTNode ms (.scope m os)) :
    ∀ c ∈ os, ∃ ms', RTNode ms' c := by
  unfold RTNode at h
  intro c hc
  rcases h.2.2 with ⟨_, hk⟩ | hk
  · exact ⟨[], (RTAll_iff os).mp hk c hc⟩
  · obtain ⟨c', rfl, h'⟩ := RTOne_iff.mp hk
    exact ⟨_, List.mem_singleton.mp hc ▸ h'⟩

theorem RTNode.meta {ms : List Str} {x : Obj} (h : RTNode ms x) : PlainMetaPP (!ms.isEmpty) x.meta := by
  cases x <;> (unfold RTNode at h; exact h.1)

theorem RTNode.goodName {ms : List Str} {x : Obj} (h : RTNode ms x) : goodName x.name = true := by
  cases x <;> (unfold RTNode at h; exact h.2.1)

theorem PlainMetaPP.merge {mg : Bool} {m : Meta} (h : PlainMetaPP mg m) : m.mergeNames = mg := by
  rw [h]

theorem RTAll.firstMerges {os : List Obj} (h : RTAll os) : firstMerges os = false := by
  cases os with
  | nil => rfl
  | cons x xs => unfold RTAll at h; exact h.1.meta.merge

theorem RTOne.firstMerges {ms : List Str} {n : Str} {os : List Obj} (h : RTOne (ms ++ [n]) os) :
    firstMerges os = true := by
  cases os with
  | nil => unfold RTOne at h; exact h.elim
  | cons x xs =>
    unfold RTOne at h
    have := h.1.meta.merge
    have e : (!(ms ++ [n]).isEmpty) = true := by cases ms <;> rfl
    rw [e] at this
    exact this

/-! ### names -/

theorem dotted_nil (nm : Str) : dottedName [] nm = nm := rfl

theorem goodName_ne_nil {nm : Str} (h : goodName nm = true) : nm ≠ [] := by
  obtain ⟨c, w, e, _⟩ := goodName_cases h
  rw [e]; simp

/-! ### the word iterator on `{`, `}` and the name of an item -/

theorem nextWord_struct_open (sp rest : Str) (l : Nat) (hsp : ∀ d ∈ sp, isSpace d = true) :
    nextWord structSettings ⟨sp ++ '{' :: rest, l⟩
      = .ok (some ({ value := ['{'], quote := none, line := some (l + nlCount sp) },
                   ⟨rest, l + nlCount sp⟩)) :=
  nextWord_single structSettings sp '{' rest l hsp rfl rfl rfl rfl

theorem nextWord_struct_close (sp rest : Str) (l : Nat) (hsp : ∀ d ∈ sp, isSpace d = true) :
    nextWord structSettings ⟨sp ++ '}' :: rest, l⟩
      = .ok (some ({ value := ['}'], quote := none, line := some (l + nlCount sp) },
                   ⟨rest, l + nlCount sp⟩)) :=
  nextWord_single structSettings sp '}' rest l hsp rfl rfl rfl rfl

theorem nextWordAux_lead (pre nm rest : Str) (d : Char) (b : Bool) (l : Nat)
    (hpre : ∀ c ∈ pre, isSpace c = true) (hd : isSpace d = true) (hn : ItemName nm) :
    nextWordAux structSettings false (pre ++ ((if b then ['!'] else []) ++ nm) ++ d :: rest) l
      = .ok (some ({ value := (if b then ['!'] else []) ++ nm, quote := none, line := some (l + nlCount pre) },
                   ⟨d :: rest, l + nlCount pre⟩)) := by
  rw [List.append_assoc, nextWordAux_skip structSettings pre _ hpre, List.append_assoc, ← bangText_eq]
  exact nextWordAux_bang_name_gen_l2 b nm _ _ hn (ends_of_isSpace _ hd)

/-! ### sizes, ids -/

mutual
/-- number of printed items (definitions and `name {` headers) of a tree: a scope that merges its
    name into the name of its child has no header of its own -/
def Obj.items : Obj → Nat
  | .defn _ _ => 1
  | .scope _ os => if firstMerges os then itemsList os else 1 + itemsList os
def itemsList : List Obj → Nat
  | [] => 0
  | x :: xs => x.items + itemsList xs
end

mutual
/-- the `primary_id`s of a tree in document order (a scope before its children) -/
def Obj.ids : Obj → List (Option Nat)
  | .defn m _ => [m.id]
  | .scope m os => m.id :: idsList os
def idsList : List Obj → List (Option Nat)
  | [] => []
  | x :: xs => x.ids ++ idsList xs
end

mutual
/-- the ids the parser assigns when the first printed item of the tree is item number `i`: one id per
    printed item, in document order; the scopes of a dotted chain share the id of the item -/
def expIds : Nat → Obj → List Nat
  | i, .defn _ _ => [i]
  | i, .scope _ os => i :: (if firstMerges os then expIdsSame i os else expIdsSeq (i + 1) os)
def expIdsSeq : Nat → List Obj → List Nat
  | _, [] => []
  | i, x :: xs => expIds i x ++ expIdsSeq (i + x.items) xs
def expIdsSame : Nat → List Obj → List Nat
  | _, [] => []
  | i, x :: xs => expIds i x ++ expIdsSame i xs
end

theorem nestIn_erase (id : Option Nat) (ms : List Str) (y : Obj) :
    ∀ b, (nestIn id b ms y).erase = nestIn none b ms y.erase := by
  induction ms with
  | nil => intro b; rfl
  | cons n ns ih =>
    intro b
    rw [nestIn, nestIn, Obj.erase_scope, eraseList_cons, eraseList_nil, ih]
    rfl

theorem nestIn_ids (id : Option Nat) (ms : List Str) (y : Obj) :
    ∀ b, (nestIn id b ms y).ids = List.replicate ms.length id ++ y.ids := by
  induction ms with
  | nil => intro b; rfl
  | cons n ns ih =>
    intro b
    rw [nestIn, Obj.ids, idsList, idsList, ih]
    simp [List.replicate_succ]

/-! ### the conditions on wrapped values -/

mutual
/-- the exact condition under which every printed value of the tree is read back at print width `w`:
    `wrapOK` for every definition, with the indentation and the (dottedName) name it is printed with -/
def WrapsOK (w : Int) : Obj → List Str → Str → Prop
  | .defn m ws, ms, ind =>
    wrapOK w (ind ++ defIndent (dottedName ms m.name)) ws (ind ++ defHead (dottedName ms m.name)) true = true
  | .scope m os, ms, ind =>
    if firstMerges os then WrapsOKs w os (ms ++ [m.name]) ind else WrapsOKs w os [] (deeper ind)
def WrapsOKs (w : Int) : List Obj → List Str → Str → Prop
  | [], _, _ => True
  | x :: xs, ms, ind => WrapsOK w x ms ind ∧ WrapsOKs w xs ms ind
end

theorem WrapsOKs_iff (w : Int) (os : List Obj) (ms : List Str) (ind : Str) :
    WrapsOKs w os ms ind ↔ ∀ y ∈ os, WrapsOK w y ms ind := by
  induction os with
  | nil => simp [WrapsOKs]
  | cons x xs ih => simp [WrapsOKs, ih]

/-! ### what may follow a value -/

/-- the first non-blank character of the text after a value does not continue the value -/
def NextOK (s : Str) : Prop :=
  ∀ c, firstNonSpace s = some c → isQuoteChar c = false ∧ c ≠ ';' ∧ c ≠ '#'

def Blank (ind : Str) : Prop := ∀ d ∈ ind, d = ' '

theorem Blank.isSpace {ind : Str} (h : Blank ind) : ∀ d ∈ ind, isSpace d = true := by
  intro d hd; rw [h d hd]; rfl

theorem allSpace_append {a b : Str} (ha : ∀ d ∈ a, isSpace d = true) (hb : ∀ d ∈ b, isSpace d = true) :
    ∀ d ∈ a ++ b, isSpace d = true :=
  fun d hd => (List.mem_append.mp hd).elim (ha d) (hb d)

theorem Blank.nlCount {ind : Str} (h : Blank ind) : nlCount ind = 0 :=
  nlCount_of_no_nl ind (fun c hc => by rw [h c hc]; decide)

theorem Blank.deeper {ind : Str} (h : Blank ind) : Blank (deeper ind) := by
  intro d hd
  simp only [Phil.deeper, List.mem_append, List.mem_cons, List.not_mem_nil, or_false] at hd
  rcases hd with hd | rfl | rfl
  · exact h d hd
  · rfl
  · rfl

theorem firstNonSpace_skip (sp rest : Str) (h : ∀ d ∈ sp, isSpace d = true) :
    firstNonSpace (sp ++ rest) = firstNonSpace rest := by
  induction sp with
  | nil => rfl
  | cons c cs ih =>
    have hc := h c (by simp)
    rw [List.cons_append, firstNonSpace, if_pos hc, ih (fun d hd => h d (by simp [hd]))]

theorem NextOK_nil : NextOK [] := by
  intro c hc; simp [firstNonSpace] at hc

theorem NextOK_head (sp rest : Str) (c : Char) (hsp : ∀ d ∈ sp, isSpace d = true) (hc : isSpace c = false)
    (h : isQuoteChar c = false ∧ c ≠ ';' ∧ c ≠ '#') : NextOK (sp ++ c :: rest) := by
  intro c' hc'
  rw [firstNonSpace_skip sp _ hsp, firstNonSpace, if_neg (by simp [hc])] at hc'
  cases hc'
  exact h

def GoodPath (ms : List Str) : Prop := ∀ n ∈ ms, goodName n = true

theorem GoodPath.snoc {ms : List Str} {n : Str} (h : GoodPath ms) (hn : goodName n = true) :
    GoodPath (ms ++ [n]) := by
  intro x hx
  simp only [List.mem_append, List.mem_singleton] at hx
  rcases hx with hx | rfl
  · exact h x hx
  · exact hn

theorem itemName_dotted {ms : List Str} {nm : Str} (hp : GoodPath ms) (hn : goodName nm = true)
    (hres : isReserved (dottedName ms nm) = false) : ItemName (dottedName ms nm) :=
  itemName_joined (ms ++ [nm]) (by simp) (hp.snoc hn) hres

/-! ### the end of a block -/

/-- how the text of a block ends: with the end of the input (outermost level), or with the closing
    brace of the enclosing scope at some indentation, followed by `after` -/
def Closes (stop : Option Word) (tail after : Str) : Prop :=
  (stop = none ∧ tail = []) ∨ (∃ sw ind, stop = some sw ∧ Blank ind ∧ tail = ind ++ '}' :: after)

theorem Closes.nextOK {stop : Option Word} {tail after : Str} (h : Closes stop tail after) :
    NextOK tail := by
  rcases h with ⟨_, rfl⟩ | ⟨sw, ind, _, hb, rfl⟩
  · exact NextOK_nil
  · exact NextOK_head ind after '}' hb.isSpace rfl ⟨rfl, by decide, by decide⟩

theorem GoodPath.noDots {ms : List Str} (h : GoodPath ms) : ∀ n ∈ ms, '.' ∉ n := by
  intro n hn
  obtain ⟨_, _, _, _, _, _, hd⟩ := goodName_cases (h n hn)
  exact hd

/-! ### sufficient conditions for `WrapsOK` -/

mutual
/-- a property of the word list of every definition of a tree -/
def Obj.allDefns (P : List Word → Prop) : Obj → Prop
  | .defn _ ws => P ws
  | .scope _ os => allDefnsList P os
def allDefnsList (P : List Word → Prop) : List Obj → Prop
  | [] => True
  | x :: xs => x.allDefns P ∧ allDefnsList P xs
end

theorem allDefnsList_iff (P : List Word → Prop) (os : List Obj) :
    allDefnsList P os ↔ ∀ x ∈ os, x.allDefns P := by
  induction os with
  | nil => simp [allDefnsList]
  | cons x xs ih => simp [allDefnsList, ih]

/-- width-independent: in every definition only the last word may contain a newline -/
def NlOnlyLast (ws : List Word) : Prop := ∀ w ∈ ws.dropLast, '\n' ∉ w.value

theorem wrapsOK_of_nlOnlyLast (w : Int) (x : Obj) :
    ∀ (ms : List Str) (ind : Str), x.allDefns NlOnlyLast → WrapsOK w x ms ind := by
  induction x using Obj.rec
    (motive_2 := fun os => ∀ (ms : List Str) (ind : Str), allDefnsList NlOnlyLast os →
      WrapsOKs w os ms ind) with
  | defn m ws =>
    intro ms ind h
    unfold Obj.allDefns at h
    unfold WrapsOK
    exact wrapOK_of_noNl w _ ws _ true (fun _ => rfl) (fun v hv => nlCount_of_not_mem (h v hv))
  | scope m os ih =>
    intro ms ind h
    unfold Obj.allDefns at h
    unfold WrapsOK
    split
    · exact ih _ _ h
    · exact ih _ _ h
  | nil => rename_i ms ind h; unfold WrapsOKs; trivial
  | cons x xs ihx ihxs =>
    rename_i ms ind h
    unfold allDefnsList at h
    unfold WrapsOKs
    exact ⟨ihx ms ind h.1, ihxs ms ind h.2⟩

/-! ### no wrapping -/

theorem wrap_nowrap (w : Int) (indent : Str) (ws : List Word) :
    ∀ line, ((line ++ wordsText ws).length : Int) ≤ w - 2 →
      wrapTail w indent ws line = wordsText ws ∧ ∀ same, wrapOK w indent ws line same = chainOK same ws := by
  induction ws with
  | nil => intro line _; exact ⟨rfl, fun _ => rfl⟩
  | cons wd ws ih =>
    intro line h
    obtain ⟨h1, h2⟩ := ih _ (fits_step w line wd ws h)
    constructor
    · rw [wrapTail, wraps_false_of_fits w indent line wd ws h, h1]
      simp [wordsText]
    · intro same
      rw [wrapOK, wraps_false_of_fits w indent line wd ws h, chainOK, h2]
      simp

mutual
/-- every printed definition line (indentation, dotted name, `=`, all words) fits into `w - 2` columns -/
def Fits (w : Int) : Obj → List Str → Str → Prop
  | .defn m ws, ms, ind => ((ind ++ defHead (dottedName ms m.name) ++ wordsText ws).length : Int) ≤ w - 2
  | .scope m os, ms, ind =>
    if firstMerges os then FitsAll w os (ms ++ [m.name]) ind else FitsAll w os [] (deeper ind)
def FitsAll (w : Int) : List Obj → List Str → Str → Prop
  | [], _, _ => True
  | x :: xs, ms, ind => Fits w x ms ind ∧ FitsAll w xs ms ind
end

mutual
/-- the text of a tree when nothing is wrapped -/
def flatText : Obj → List Str → Str → Str
  | .defn m ws, ms, ind => ind ++ dottedName ms m.name ++ [' ', '='] ++ wordsText ws ++ ['\n']
  | .scope m os, ms, ind =>
    if firstMerges os then flatKids os (ms ++ [m.name]) ind
    else ind ++ dottedName ms m.name ++ [' ', '{', '\n'] ++ flatKids os [] (deeper ind) ++ ind ++ ['}', '\n']
def flatKids : List Obj → List Str → Str → Str
  | [], _, _ => []
  | x :: xs, ms, ind => flatText x ms ind ++ flatKids xs ms ind
end

/-- no unquoted word directly after a word that contains a newline -/
def ChainOK (ws : List Word) : Prop := chainOK true ws = true

theorem FitsAll_iff (w : Int) (os : List Obj) (ms : List Str) (ind : Str) :
    FitsAll w os ms ind ↔ ∀ x ∈ os, Fits w x ms ind := by
  induction os with
  | nil => simp [FitsAll]
  | cons x xs ih => simp [FitsAll, ih]

mutual
theorem fits_tree (w : Int) : ∀ (x : Obj) (ms : List Str) (ind : Str), Fits w x ms ind →
    treeText w x ms ind = flatText x ms ind ∧ (x.allDefns ChainOK → WrapsOK w x ms ind)
  | .defn m ws, ms, ind, h => by
    unfold Fits at h
    constructor
    · rw [treeText, flatText, (wrap_nowrap w _ ws _ h).1]
    · intro hc
      unfold Obj.allDefns at hc
      unfold WrapsOK
      rw [(wrap_nowrap w _ ws _ h).2 true]
      exact hc
  | .scope m os, ms, ind, h => by
    unfold Fits at h
    rw [treeText, flatText]
    unfold WrapsOK Obj.allDefns
    split
    · rename_i hfm
      rw [if_pos hfm] at h
      exact fits_kids w os _ _ h
    · rename_i hfm
      rw [if_neg hfm] at h
      obtain ⟨h1, h2⟩ := fits_kids w os _ _ h
      exact ⟨by rw [h1], h2⟩
theorem fits_kids (w : Int) : ∀ (os : List Obj) (ms : List Str) (ind : Str), FitsAll w os ms ind →
    kidsText w os ms ind = flatKids os ms ind ∧ (allDefnsList ChainOK os → WrapsOKs w os ms ind)
  | [], _, _, _ => ⟨rfl, fun _ => by unfold WrapsOKs; trivial⟩
  | x :: xs, ms, ind, h => by
    unfold FitsAll at h
    obtain ⟨a1, a2⟩ := fits_tree w x ms ind h.1
    obtain ⟨b1, b2⟩ := fits_kids w xs ms ind h.2
    refine ⟨by rw [kidsText, flatKids, a1, b1], fun hc => ?_⟩
    unfold allDefnsList at hc
    unfold WrapsOKs
    exact ⟨a2 hc.1, b2 hc.2⟩
end

/-! ### ids of trees without dotted chains -/

mutual
/-- number of objects of a tree -/
def Obj.nodes : Obj → Nat
  | .defn _ _ => 1
  | .scope _ os => 1 + nodesList os
def nodesList : List Obj → Nat
  | [] => 0
  | x :: xs => x.nodes + nodesList xs
end

mutual
/-- no scope of the tree merges its name into the name of its first child -/
def Obj.noChains : Obj → Prop
  | .defn _ _ => True
  | .scope _ os => firstMerges os = false ∧ noChainsList os
def noChainsList : List Obj → Prop
  | [] => True
  | x :: xs => x.noChains ∧ noChainsList xs
end

theorem noChainsList_iff (os : List Obj) : noChainsList os ↔ ∀ x ∈ os, x.noChains := by
  induction os with
  | nil => simp [noChainsList]
  | cons x xs ih => simp [noChainsList, ih]

theorem expIds_noChains :
    (∀ x : Obj, x.noChains → x.items = x.nodes ∧ ∀ i, expIds i x = List.range' i x.nodes) ∧
    (∀ os : List Obj, noChainsList os →
      itemsList os = nodesList os ∧ ∀ i, expIdsSeq i os = List.range' i (nodesList os)) := by
  refine Obj.both (fun m ws _ => ⟨rfl, fun i => rfl⟩) (fun m os ih h => ?_) (fun _ => ⟨rfl, fun i => rfl⟩)
    (fun x xs ihx ihxs h => ?_)
  · unfold Obj.noChains at h
    obtain ⟨h1, h2⟩ := ih h.2
    refine ⟨by rw [Obj.items, Obj.nodes, h.1, ← h1]; rfl, fun i => ?_⟩
    rw [expIds, Obj.nodes, h.1, Nat.add_comm 1, List.range'_succ, ← h2]
    rfl
  · unfold noChainsList at h
    obtain ⟨a1, a2⟩ := ihx h.1
    obtain ⟨b1, b2⟩ := ihxs h.2
    refine ⟨by rw [itemsList, nodesList, a1, b1], fun i => ?_⟩
    rw [expIdsSeq, nodesList, a2, b2, a1, ← List.range'_append_1]

/-! ### the predicates are decidable (used by the concrete examples, `decide +kernel`) -/

instance (mg : Bool) (m : Meta) : Decidable (PlainMetaPP mg m) := by unfold PlainMetaPP; exact inferInstance

mutual
def decRTNode : (ms : List Str) → (x : Obj) → Decidable (RTNode ms x)
  | ms, .defn m ws =>
    show Decidable (PlainMetaPP (!ms.isEmpty) m ∧ goodName m.name = true ∧
      isReserved (dottedName ms m.name) = false ∧ ws ≠ [] ∧ ∀ w ∈ ws, goodWord w = true) from inferInstance
  | ms, .scope m os =>
    have : Decidable (RTAll os) := decRTAll os
    have : Decidable (RTOne (ms ++ [m.name]) os) := decRTOne (ms ++ [m.name]) os
    show Decidable (PlainMetaPP (!ms.isEmpty) m ∧ goodName m.name = true ∧
      ((isReserved (dottedName ms m.name) = false ∧ RTAll os) ∨ RTOne (ms ++ [m.name]) os)) from inferInstance
def decRTAll : (os : List Obj) → Decidable (RTAll os)
  | [] => isTrue trivial
  | x :: xs =>
    have : Decidable (RTNode [] x) := decRTNode [] x
    have : Decidable (RTAll xs) := decRTAll xs
    show Decidable (RTNode [] x ∧ RTAll xs) from inferInstance
def decRTOne : (ms : List Str) → (os : List Obj) → Decidable (RTOne ms os)
  | _, [] => isFalse (fun h => h)
  | ms, x :: xs =>
    have : Decidable (RTNode ms x) := decRTNode ms x
    show Decidable (RTNode ms x ∧ xs = []) from inferInstance
end
instance (ms : List Str) (x : Obj) : Decidable (RTNode ms x) := decRTNode ms x

mutual
def decWrapsOK (w : Int) : (x : Obj) → (ms : List Str) → (ind : Str) → Decidable (WrapsOK w x ms ind)
  | .defn m ws, ms, ind =>
    show Decidable (wrapOK w (ind ++ defIndent (dottedName ms m.name)) ws
      (ind ++ defHead (dottedName ms m.name)) true = true) from inferInstance
  | .scope m os, ms, ind =>
    have : Decidable (WrapsOKs w os (ms ++ [m.name]) ind) := decWrapsOKs w os _ _
    have : Decidable (WrapsOKs w os [] (deeper ind)) := decWrapsOKs w os _ _
    show Decidable (if firstMerges os then WrapsOKs w os (ms ++ [m.name]) ind
      else WrapsOKs w os [] (deeper ind)) from inferInstance
def decWrapsOKs (w : Int) : (os : List Obj) → (ms : List Str) → (ind : Str) →
    Decidable (WrapsOKs w os ms ind)
  | [], _, _ => isTrue trivial
  | x :: xs, ms, ind =>
    have : Decidable (WrapsOK w x ms ind) := decWrapsOK w x ms ind
    have : Decidable (WrapsOKs w xs ms ind) := decWrapsOKs w xs ms ind
    show Decidable (WrapsOK w x ms ind ∧ WrapsOKs w xs ms ind) from inferInstance
end
instance (w : Int) (x : Obj) (ms : List Str) (ind : Str) : Decidable (WrapsOK w x ms ind) :=
  decWrapsOK w x ms ind

mutual
def decAllDefns (P : List Word → Prop) [DecidablePred P] : (x : Obj) → Decidable (x.allDefns P)
  | .defn _ ws => show Decidable (P ws) from inferInstance
  | .scope _ os => show Decidable (allDefnsList P os) from decAllDefnsList P os
def decAllDefnsList (P : List Word → Prop) [DecidablePred P] : (os : List Obj) →
    Decidable (allDefnsList P os)
  | [] => isTrue trivial
  | x :: xs =>
    have : Decidable (x.allDefns P) := decAllDefns P x
    have : Decidable (allDefnsList P xs) := decAllDefnsList P xs
    show Decidable (x.allDefns P ∧ allDefnsList P xs) from inferInstance
end
instance (P : List Word → Prop) [DecidablePred P] (x : Obj) : Decidable (x.allDefns P) := decAllDefns P x
instance : DecidablePred NlOnlyLast := fun ws => by unfold NlOnlyLast; exact inferInstance
instance : DecidablePred ChainOK := fun ws => by unfold ChainOK; exact inferInstance

mutual
def decFits (w : Int) : (x : Obj) → (ms : List Str) → (ind : Str) → Decidable (Fits w x ms ind)
  | .defn m ws, ms, ind =>
    show Decidable (((ind ++ defHead (dottedName ms m.name) ++ wordsText ws).length : Int) ≤ w - 2)
      from inferInstance
  | .scope m os, ms, ind =>
    have : Decidable (FitsAll w os (ms ++ [m.name]) ind) := decFitsAll w os _ _
    have : Decidable (FitsAll w os [] (deeper ind)) := decFitsAll w os _ _
    show Decidable (if firstMerges os then FitsAll w os (ms ++ [m.name]) ind
      else FitsAll w os [] (deeper ind)) from inferInstance
def decFitsAll (w : Int) : (os : List Obj) → (ms : List Str) → (ind : Str) →
    Decidable (FitsAll w os ms ind)
  | [], _, _ => isTrue trivial
  | x :: xs, ms, ind =>
    have : Decidable (Fits w x ms ind) := decFits w x ms ind
    have : Decidable (FitsAll w xs ms ind) := decFitsAll w xs ms ind
    show Decidable (Fits w x ms ind ∧ FitsAll w xs ms ind) from inferInstance
end
instance (w : Int) (x : Obj) (ms : List Str) (ind : Str) : Decidable (Fits w x ms ind) :=
  decFits w x ms ind

mutual
def decNoChains : (x : Obj) → Decidable x.noChains
  | .defn _ _ => isTrue trivial
  | .scope _ os =>
    have : Decidable (noChainsList os) := decNoChainsList os
    show Decidable (firstMerges os = false ∧ noChainsList os) from inferInstance
def decNoChainsList : (os : List Obj) → Decidable (noChainsList os)
  | [] => isTrue trivial
  | x :: xs =>
    have : Decidable x.noChains := decNoChains x
    have : Decidable (noChainsList xs) := decNoChainsList xs
    show Decidable (x.noChains ∧ noChainsList xs) from inferInstance
end
instance (x : Obj) : Decidable x.noChains := decNoChains x

end Phil
