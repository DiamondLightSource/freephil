/-
  Phil.Proofs.FetchTree — closed form of scope.fetch for NESTED masters whose scopes are not `.multiple`: trees of
  enabled, non-multiple scopes with dot-free, non-empty, pairwise distinct sibling names, over definitions that
  are neither `.deprecated` nor choices (`TreeMultiMaster`; `TreeMaster`: none of them `.multiple`).  On ARBITRARY
  source trees `fetchScope` is the error of the first offending source object in master order (`firstErr`: a
  recorded `resolve_variables` error of a matching definition, or the clash of kinds), else the specification
  (`treeMultiFetch`, `fetch_tree_multi_vars_total`); on sources whose definitions all resolve (`SrcTree`) the
  only error is the clash (`fetch_tree_multi_total`; §5).  C07 goes through trees of blocks (`gTree_dt`, §8), which also
  serve the difference in Phil/Proofs/DiffTree.lean.  The corollaries for a `TreeMaster` are here, those for a
  `TreeMultiMaster` in Phil/Proofs/FetchTreeMulti.lean.
-/
import Phil.Proofs.FetchSpec
set_option linter.unusedVariables false
namespace Phil

/-! ## 1. specification functions -/

/-- the enabled scopes of `l` called `n` -/
def scopesNamed (n : Str) (l : List Obj) : List Obj :=
  l.filter (fun o => o.isScope && !o.meta.disabled && o.name == n)

/-- the last enabled definition called `n` among `objs` -/
def lastDef (objs : List Obj) (n : Str) : Option Obj := (defsNamed n objs).getLast?

/-- one step down: the children of all enabled scopes called `n`, in document order -/
def srcStep (objs : List Obj) (n : Str) : List Obj := (scopesNamed n objs).flatMap Obj.children

/-- the active source objects reached by following a path of scope names -/
def srcAt : List Obj → List Str → List Obj
  | objs, [] => objs
  | objs, n :: p => srcAt (srcStep objs n) p

mutual
/-- the result object for one master object, given the source objects at its level -/
def treeObj : Obj → List Obj → Obj
  | .defn mm mws, srcs =>
    match lastDef srcs mm.name with
    | some d => .defn { mm with tmpl := 0 } d.srcWords
    | none => .defn mm mws
  | .scope mm kids, srcs => .scope { mm with tmpl := 0 } (treeResult kids (srcStep srcs mm.name))
/-- the children of the result scope: one object per master child -/
def treeResult : List Obj → List Obj → List Obj
  | [], _ => []
  | mo :: rest, srcs => treeObj mo srcs :: treeResult rest srcs
end

mutual
def treeUsedObj : Obj → List Obj → List Nat
  | .defn mm _, srcs => (defsNamed mm.name srcs).flatMap marksOf
  | .scope mm kids, srcs => treeUsed kids (srcStep srcs mm.name)
/-- the ids consumed by the fetch: those of all enabled source definitions whose path names a master
    definition (with the ids consulted for their variables), in master order -/
def treeUsed : List Obj → List Obj → List Nat
  | [], _ => []
  | mo :: rest, srcs => treeUsedObj mo srcs ++ treeUsed rest srcs
end

mutual
def noClashObj : Obj → List Obj → Bool
  | .defn mm _, srcs => (scopesNamed mm.name srcs).isEmpty
  | .scope mm kids, srcs => (defsNamed mm.name srcs).isEmpty && noClash kids (srcStep srcs mm.name)
/-- no enabled source scope where the master has a definition, no enabled source definition where
    the master has a scope — at every depth -/
def noClash : List Obj → List Obj → Bool
  | [], _ => true
  | mo :: rest, srcs => noClashObj mo srcs && noClash rest srcs
end

mutual
def defPathsObj : Obj → Str → List Str
  | .defn mm _, p => [p ++ mm.name]
  | .scope mm kids, p => defPaths kids (p ++ mm.name ++ ['.'])
/-- the full (dotted) paths of the definitions of a master tree, below the prefix `p` -/
def defPaths : List Obj → Str → List Str
  | [], _ => []
  | o :: os, p => defPathsObj o p ++ defPaths os p
end

mutual
def depthT : Obj → Nat
  | .defn _ _ => 0
  | .scope _ kids => depthL kids + 1
/-- nesting depth of a list of master objects (0 for definitions only) -/
def depthL : List Obj → Nat
  | [] => 0
  | o :: os => Nat.max (depthT o) (depthL os)
end

mutual
def TreeObj : Obj → Prop
  | .defn mm _ => PlainMeta mm ∧ mm.name ≠ [] ∧ '.' ∉ mm.name ∧ mm.disabled = false
  | .scope mm kids =>
    (mm.attrs.get "multiple").truthy = false ∧ mm.name ≠ [] ∧ '.' ∉ mm.name ∧ mm.disabled = false ∧
      TreeKids kids ∧ (kids.map Obj.name).Pairwise (· ≠ ·)
def TreeKids : List Obj → Prop
  | [] => True
  | o :: os => TreeObj o ∧ TreeKids os
end

/-- a master tree without `.multiple`: enabled plain definitions (not `.multiple`, not `.deprecated`,
    not choices; typed or not) and enabled non-multiple scopes of such objects to any depth, names
    non-empty and dot-free, sibling names pairwise distinct -/
structure TreeMaster (mkids : List Obj) : Prop where
  kids : TreeKids mkids
  distinct : (mkids.map Obj.name).Pairwise (· ≠ ·)

mutual
/-- the block one master object contributes to the result, given the source objects at its level:
    a non-multiple definition — itself with the words of the last enabled source definition of its
    name (`lastWins`); a `.multiple` definition — the list rule `multiBlock` over the enabled source
    definitions of its name (template, then the `dedupKeepLast` survivors whose key differs from the
    master's); a scope — itself, rebuilt from the children of the enabled source scopes of its name.
    The keys are taken at fuel 0: the key of a definition does not depend on the fuel
    (`keyOf_fuel_tm`). -/
def tmBlock (e : Envs) : Obj → List Obj → List Obj
  | .defn mm mws, srcs =>
    if isMultiple (.defn mm mws) then
      multiBlock (.defn mm mws) (keyOf e 0 (.defn mm mws) (.defn mm mws))
        (candsOf e 0 (.defn mm mws) (defsNamed mm.name srcs))
    else [lastWins (.defn mm mws) (defsNamed mm.name srcs)]
  | .scope mm kids, srcs => [.scope { mm with tmpl := 0 } (treeMultiResult e kids (srcStep srcs mm.name))]
/-- the children of the result scope: the blocks of the master children, in master order -/
def treeMultiResult (e : Envs) : List Obj → List Obj → List Obj
  | [], _ => []
  | mo :: rest, srcs => tmBlock e mo srcs ++ treeMultiResult e rest srcs
end

/-- the consumed ids: as for masters without `.multiple` — every enabled source definition whose path
    names a master definition is consumed, `.multiple` or not -/
abbrev treeMultiUsed (mkids srcs : List Obj) : List Nat := treeUsed mkids srcs

mutual
def KeysDefinedObj (e : Envs) : Obj → List Obj → Prop
  | .defn mm mws, srcs =>
    isMultiple (.defn mm mws) = true → KeysDefined e 0 (.defn mm mws) (defsNamed mm.name srcs)
  | .scope mm kids, srcs => KeysDefinedTree e kids (srcStep srcs mm.name)
/-- the keys the list rule compares are defined at every `.multiple` master definition: the master's
    own and those of the candidates built from the enabled source definitions reached by its path -/
def KeysDefinedTree (e : Envs) : List Obj → List Obj → Prop
  | [], _ => True
  | mo :: rest, srcs => KeysDefinedObj e mo srcs ∧ KeysDefinedTree e rest srcs
end

mutual
def TMObj : Obj → Prop
  | .defn mm _ => DefnMeta mm ∧ mm.name ≠ [] ∧ '.' ∉ mm.name ∧ mm.disabled = false
  | .scope mm kids =>
    (mm.attrs.get "multiple").truthy = false ∧ mm.name ≠ [] ∧ '.' ∉ mm.name ∧ mm.disabled = false ∧
      TMKids kids ∧ (kids.map Obj.name).Pairwise (· ≠ ·)
def TMKids : List Obj → Prop
  | [] => True
  | o :: os => TMObj o ∧ TMKids os
end

/-- a master tree whose definitions may be `.multiple`: enabled definitions (not `.deprecated`, not
    choices; `.multiple` or not, typed or not) and enabled NON-multiple scopes of such objects to any
    depth, names non-empty and dot-free, sibling names pairwise distinct -/
structure TreeMultiMaster (mkids : List Obj) : Prop where
  kids : TMKids mkids
  distinct : (mkids.map Obj.name).Pairwise (· ≠ ·)

/-! ## 2. list forms of the mutual definitions, projections -/

theorem treeResult_eq_map (srcs : List Obj) : ∀ (mkids : List Obj),
    treeResult mkids srcs = mkids.map (fun mo => treeObj mo srcs)
  | [] => by rw [treeResult]; rfl
  | mo :: rest => by rw [treeResult, treeResult_eq_map srcs rest]; rfl

theorem treeUsed_eq_flatMap (srcs : List Obj) : ∀ (mkids : List Obj),
    treeUsed mkids srcs = mkids.flatMap (fun mo => treeUsedObj mo srcs)
  | [] => by rw [treeUsed]; rfl
  | mo :: rest => by rw [treeUsed, treeUsed_eq_flatMap srcs rest]; rfl

theorem noClash_eq_all (srcs : List Obj) : ∀ (mkids : List Obj),
    noClash mkids srcs = mkids.all (fun mo => noClashObj mo srcs)
  | [] => by rw [noClash]; rfl
  | mo :: rest => by rw [noClash, noClash_eq_all srcs rest]; rfl

theorem defPaths_eq_flatMap (p : Str) : ∀ (mkids : List Obj),
    defPaths mkids p = mkids.flatMap (fun mo => defPathsObj mo p)
  | [] => by rw [defPaths]; rfl
  | mo :: rest => by rw [defPaths, defPaths_eq_flatMap p rest]; rfl

theorem treeMultiResult_eq_flatMap (e : Envs) (srcs : List Obj) : ∀ (mkids : List Obj),
    treeMultiResult e mkids srcs = mkids.flatMap (fun mo => tmBlock e mo srcs)
  | [] => by rw [treeMultiResult]; rfl
  | mo :: rest => by rw [treeMultiResult, treeMultiResult_eq_flatMap e srcs rest]; rfl

theorem treeKids_iff : ∀ (l : List Obj), TreeKids l ↔ ∀ o ∈ l, TreeObj o
  | [] => by rw [TreeKids]; simp
  | o :: os => by rw [TreeKids, treeKids_iff os]; simp

theorem tmKids_iff : ∀ (l : List Obj), TMKids l ↔ ∀ o ∈ l, TMObj o
  | [] => by rw [TMKids]; simp
  | o :: os => by rw [TMKids, tmKids_iff os]; simp

theorem depthT_le_depthL : ∀ (l : List Obj) (o : Obj), o ∈ l → depthT o ≤ depthL l
  | [], o, h => by cases h
  | a :: os, o, h => by
    rw [depthL]
    rw [List.mem_cons] at h
    rcases h with rfl | h
    · exact Nat.le_max_left _ _
    · exact Nat.le_trans (depthT_le_depthL os o h) (Nat.le_max_right _ _)

theorem TreeMaster.of_scope {mm : Meta} {kids : List Obj} (h : TreeObj (.scope mm kids)) :
    TreeMaster kids := by
  rw [TreeObj] at h
  exact ⟨h.2.2.2.2.1, h.2.2.2.2.2⟩

theorem TreeMaster.obj {mkids : List Obj} (h : TreeMaster mkids) : ∀ o ∈ mkids, TreeObj o :=
  (treeKids_iff mkids).mp h.kids

theorem TreeMultiMaster.of_scope {mm : Meta} {kids : List Obj} (h : TMObj (.scope mm kids)) :
    TreeMultiMaster kids := by
  rw [TMObj] at h
  exact ⟨h.2.2.2.2.1, h.2.2.2.2.2⟩

theorem TreeMultiMaster.obj {mkids : List Obj} (h : TreeMultiMaster mkids) : ∀ o ∈ mkids, TMObj o :=
  (tmKids_iff mkids).mp h.kids

theorem TMObj.enabled : ∀ {o : Obj}, TMObj o → o.meta.disabled = false
  | .defn mm _, h => by rw [TMObj] at h; exact h.2.2.2
  | .scope mm _, h => by rw [TMObj] at h; exact h.2.2.2.1

theorem TMObj.name_ne : ∀ {o : Obj}, TMObj o → o.name ≠ []
  | .defn mm _, h => by rw [TMObj] at h; exact h.2.1
  | .scope mm _, h => by rw [TMObj] at h; exact h.2.1

theorem TMObj.dotfree : ∀ {o : Obj}, TMObj o → '.' ∉ o.name
  | .defn mm _, h => by rw [TMObj] at h; exact h.2.2.1
  | .scope mm _, h => by rw [TMObj] at h; exact h.2.2.1

theorem TreeObj.toTM : ∀ {o : Obj}, TreeObj o → TMObj o
  | .defn mm mws, h => by
    rw [TreeObj] at h; rw [TMObj]
    exact ⟨⟨h.1.notDeprecated, h.1.notChoice⟩, h.2⟩
  | .scope mm kids, h => by
    rw [TreeObj] at h; rw [TMObj]
    refine ⟨h.1, h.2.1, h.2.2.1, h.2.2.2.1, ?_, h.2.2.2.2.2⟩
    exact (tmKids_iff kids).mpr (fun o ho => TreeObj.toTM ((treeKids_iff kids).mp h.2.2.2.2.1 o ho))

theorem TreeMaster.toMulti {mkids : List Obj} (h : TreeMaster mkids) : TreeMultiMaster mkids :=
  ⟨(tmKids_iff mkids).mpr (fun o ho => (h.obj o ho).toTM), h.distinct⟩

theorem TreeObj.enabled : ∀ {o : Obj}, TreeObj o → o.meta.disabled = false
  | _, h => h.toTM.enabled

theorem TreeObj.name_ne : ∀ {o : Obj}, TreeObj o → o.name ≠ []
  | _, h => h.toTM.name_ne

theorem TreeObj.dotfree : ∀ {o : Obj}, TreeObj o → '.' ∉ o.name
  | _, h => h.toTM.dotfree

theorem TreeObj.notMultiple : ∀ {o : Obj}, TreeObj o → isMultiple o = false
  | .defn mm _, h => by rw [TreeObj] at h; exact h.1.notMultiple
  | .scope mm _, h => by rw [TreeObj] at h; exact h.1

theorem masterActive_tm (mkids : List Obj) (hf : TreeMultiMaster mkids) :
    masterActiveObjects mkids = .ok (indexed mkids) :=
  masterActive_of_distinct mkids (fun o ho => (hf.obj o ho).enabled) hf.distinct

/-! ## 3. the sources matching one master child -/

theorem mem_scopesNamed {n : Str} {l : List Obj} {d : Obj} :
    d ∈ scopesNamed n l ↔ d ∈ l ∧ d.isDefn = false ∧ d.meta.disabled = false ∧ d.name = n := by
  unfold scopesNamed Obj.isScope
  rw [List.mem_filter]
  simp [and_assoc]

theorem srcOK_defsNamed {l : List Obj} (h : ∀ o ∈ l, o.meta.disabled = false → o.isDefn = true → SrcOK o)
    (n : Str) : ∀ o ∈ defsNamed n l, SrcOK o :=
  fun o ho => h o (mem_defsNamed.mp ho).1 (mem_defsNamed.mp ho).2.2.1 (mem_defsNamed.mp ho).2.1

theorem defsNamed_eq_filter_tree (n : Str) (l : List Obj) :
    defsNamed n l = (activeNamed n l).filter Obj.isDefn := by
  unfold defsNamed activeNamed
  rw [List.filter_filter]
  apply List.filter_congr
  intro o _
  cases o.isDefn <;> simp

theorem scopesNamed_eq_filter_tree (n : Str) (l : List Obj) :
    scopesNamed n l = (activeNamed n l).filter Obj.isScope := by
  unfold scopesNamed activeNamed
  rw [List.filter_filter]
  apply List.filter_congr
  intro o _
  cases o.isScope <;> simp

theorem all_isDefn_eq_isEmpty : ∀ (A : List Obj), A.all Obj.isDefn = (A.filter Obj.isScope).isEmpty
  | [] => rfl
  | o :: A => by
    rw [List.all_cons, List.filter_cons, all_isDefn_eq_isEmpty A]
    unfold Obj.isScope
    cases o.isDefn <;> rfl

theorem activeNamed_eq_defsNamed (n : Str) (l : List Obj) (h : scopesNamed n l = []) :
    activeNamed n l = defsNamed n l := by
  rw [defsNamed_eq_filter_tree]
  symm
  rw [List.filter_eq_self, ← List.all_eq_true, all_isDefn_eq_isEmpty, ← scopesNamed_eq_filter_tree, h]
  rfl

theorem activeNamed_children_tree (n : Str) : ∀ (l : List Obj),
    (activeNamed n l).flatMap Obj.children = srcStep l n := by
  intro l
  unfold srcStep
  rw [scopesNamed_eq_filter_tree]
  induction activeNamed n l with
  | nil => rfl
  | cons o A ih =>
    rw [List.filter_cons, List.flatMap_cons, ih]
    cases o <;> rfl

theorem scopeBranch_activeNamed (F : FetchFn) (d : Bool) (mm : Meta) (kids combined out : List Obj)
    (used : List Nat) :
    scopeBranch F d mm kids (activeNamed mm.name combined) out used =
      if (defsNamed mm.name combined).isEmpty then
        match F d mm kids (srcStep combined mm.name) with
        | .error err => .error err
        | .ok (ro, u2) =>
          if d && ro.children.isEmpty then .ok (out, used ++ u2) else .ok (out ++ [ro], used ++ u2)
      else .error incompatibleErr := by
  unfold scopeBranch
  rw [← List.head?_filter, ← defsNamed_eq_filter_tree, activeNamed_children_tree]
  cases defsNamed mm.name combined <;> rfl

theorem all_isDefn_activeNamed (n : Str) (l : List Obj) :
    (activeNamed n l).all Obj.isDefn = (scopesNamed n l).isEmpty := by
  rw [scopesNamed_eq_filter_tree]
  exact all_isDefn_eq_isEmpty _

theorem treeObj_defn_eq_lastWins (mm : Meta) (mws : List Word) (srcs : List Obj) :
    treeObj (.defn mm mws) srcs = lastWins (.defn mm mws) (defsNamed mm.name srcs) := by
  rw [treeObj]
  unfold lastWins lastDef
  cases (defsNamed mm.name srcs).getLast? <;> rfl

mutual
theorem tmBlock_of_treeObj (e : Envs) : ∀ (mo : Obj) (srcs : List Obj), TreeObj mo →
    tmBlock e mo srcs = [treeObj mo srcs]
  | .defn mm mws, srcs, h => by
    rw [TreeObj] at h
    have hm : isMultiple (.defn mm mws) = false := h.1.notMultiple
    rw [tmBlock, treeObj_defn_eq_lastWins]
    simp only [hm, Bool.false_eq_true, if_false]
  | .scope mm kids, srcs, h => by
    rw [TreeObj] at h
    rw [tmBlock, treeObj, treeMultiResult_eq_treeResult_tm e kids _ h.2.2.2.2.1]
theorem treeMultiResult_eq_treeResult_tm (e : Envs) : ∀ (mkids srcs : List Obj), TreeKids mkids →
    treeMultiResult e mkids srcs = treeResult mkids srcs
  | [], srcs, _ => by rw [treeMultiResult, treeResult]
  | mo :: rest, srcs, h => by
    rw [TreeKids] at h
    rw [treeMultiResult, treeResult, tmBlock_of_treeObj e mo srcs h.1,
      treeMultiResult_eq_treeResult_tm e rest srcs h.2]
    rfl
end

mutual
theorem keysDefinedObj_of_treeObj (e : Envs) : ∀ (mo : Obj) (srcs : List Obj), TreeObj mo →
    KeysDefinedObj e mo srcs
  | .defn mm mws, srcs, h => by
    rw [TreeObj] at h
    rw [KeysDefinedObj, show isMultiple (.defn mm mws) = false from h.1.notMultiple]
    intro hm
    cases hm
  | .scope mm kids, srcs, h => by
    rw [TreeObj] at h
    rw [KeysDefinedObj]
    exact keysDefinedTree_of_treeKids e kids _ h.2.2.2.2.1
theorem keysDefinedTree_of_treeKids (e : Envs) : ∀ (l srcs : List Obj), TreeKids l →
    KeysDefinedTree e l srcs
  | [], _, _ => by rw [KeysDefinedTree]; trivial
  | mo :: rest, srcs, h => by
    rw [TreeKids] at h
    rw [KeysDefinedTree]
    exact ⟨keysDefinedObj_of_treeObj e mo srcs h.1, keysDefinedTree_of_treeKids e rest srcs h.2⟩
end

/-! ## 4. one step of the master loop -/

/-! the keys of definitions do not depend on the fuel -/

theorem extractFormatStr_fuel_tm (e : Envs) (fuel : Nat) (mm : Meta) (mws : List Word) (cm : Meta)
    (cws : List Word) :
    extractFormatStr e (fuel + 64) (.defn mm mws) (.defn cm cws) =
      extractFormatStr e (0 + 64) (.defn mm mws) (.defn cm cws) :=
  extractFormatStr_defn_fuel e (fuel + 63) 63 mm mws cm cws

theorem keyOf_fuel_tm (e : Envs) (fuel : Nat) (mm : Meta) (mws : List Word) (cm : Meta) (cws : List Word) :
    keyOf e fuel (.defn mm mws) (.defn cm cws) = keyOf e 0 (.defn mm mws) (.defn cm cws) := by
  unfold keyOf
  rw [extractFormatStr_fuel_tm]

theorem candsOf_fuel_tm (e : Envs) (fuel : Nat) (mm : Meta) (mws : List Word) (l : List Obj) :
    candsOf e fuel (.defn mm mws) l = candsOf e 0 (.defn mm mws) l := by
  unfold candsOf
  apply List.map_congr_left
  intro d _
  exact congrArg _ (keyOf_fuel_tm e fuel mm mws _ _)

theorem keysDefined_fuel_tm (e : Envs) (fuel : Nat) (mm : Meta) (mws : List Word) (l : List Obj)
    (h : KeysDefined e 0 (.defn mm mws) l) : KeysDefined e fuel (.defn mm mws) l := by
  refine ⟨?_, ?_⟩
  · rw [extractFormatStr_fuel_tm]; exact h.1
  · intro d hd
    obtain ⟨k, hk⟩ := h.2 d hd
    exact ⟨k, (extractFormatStr_fuel_tm e fuel mm mws _ _).trans hk⟩

/-! ### the candidate loop over flagged candidates (master-provided ones first) -/

theorem cstepG_clink_ok (F : FetchFn) (e : Envs) (fuel : Nat) (d : Bool) (mo : Obj) (k0 : Str)
    (fm : Bool × Obj) (x : Option (Obj × Str) × List Nat) (hl : CLink F e fuel d mo fm x) (acc : CAcc) :
    ∃ b', cstepG F e fuel d mo k0 acc fm = .ok b' := by
  obtain ⟨xo, u⟩ := x
  unfold cstepG
  cases xo with
  | none =>
    simp only [show candOf F e fuel d mo fm.1 fm.2 = .ok (none, u) from hl, ite_self]
    exact ⟨_, rfl⟩
  | some ck =>
    obtain ⟨hc, hk⟩ : candOf F e fuel d mo fm.1 fm.2 = .ok (some ck.1, u) ∧ _ := hl
    simp only [hc, hk]
    split
    · exact ⟨_, rfl⟩
    · exact ⟨_, cAccept_eq _ _ _ _ _ _ _ _⟩

theorem activeNamed_append_named (n : Str) (FM l : List Obj)
    (hFM : ∀ x ∈ FM, x.meta.disabled = false ∧ x.name = n) :
    activeNamed n (FM ++ l) = FM ++ activeNamed n l := by
  unfold activeNamed
  rw [List.filter_append, List.filter_eq_self.mpr]
  intro x hx
  simp [hFM x hx]

/-- the flagged candidates of a first occurrence: its further master occurrences, then the sources -/
def candsFl (FM A : List Obj) : List (Bool × Obj) :=
  FM.map (fun x => (true, x)) ++ A.map (fun (o : Obj) => (false, o))

theorem candsFl_snd (FM A : List Obj) : (candsFl FM A).map (fun p => p.2) = FM ++ A := by
  unfold candsFl
  rw [List.map_append, List.map_map, List.map_map]
  show List.map id FM ++ List.map id A = _
  rw [List.map_id, List.map_id]

theorem candsFl_used (u : Obj → List Nat) (FM A : List Obj) :
    ((candsFl FM A).map (fun fm => (if fm.1 then [] else u fm.2 : List Nat))).flatten = A.flatMap u := by
  unfold candsFl
  rw [List.map_append, List.flatten_append, List.map_map, List.map_map]
  have h1 : (List.map ((fun (fm : Bool × Obj) => (if fm.1 then [] else u fm.2 : List Nat)) ∘ fun x => (true, x)) FM).flatten = [] := by
    induction FM with
    | nil => rfl
    | cons a l ih => rw [List.map_cons, List.flatten_cons, ih]; rfl
  rw [h1, List.nil_append, List.flatMap_def]
  rfl

theorem ite_none_eq {b : Bool} {E : Err} (h : (if b then none else some E) = none) : b = true := by
  cases b
  · cases h
  · rfl

theorem ite_some_eq {b : Bool} {E E' : Err} (h : (if b then none else some E) = some E') : b = false ∧ E = E' := by
  cases b
  · exact ⟨rfl, Option.some.inj h⟩
  · cases h

theorem match_ite_none {α : Type} (b : Bool) (E : Err) (A : R α) :
    (match (if b then none else some E : Option Err) with
      | some E => .error E
      | none => A) = if b then A else .error E := by
  cases b <;> rfl

/-- **the step for a `.multiple` master object `mo` (called `n`) of either kind, in either mode, with further
    master occurrences `FM`**: its candidates are the enabled objects called `n` among `FM ++ sources`.  When
    `c` tells which of them stop the loop, and with which error, and the others are linked (`cand`: instance and
    key; `us`: the ids consumed when it comes from the sources), the step is the error of the first of the former,
    else the `.multiple` branch with all candidates linked. -/
theorem stepG_multi_cases (F : FetchFn) (e : Envs) (fuel : Nat) (d : Bool) (sm : Meta)
    (mkids combined : List Obj) (st : List Obj × List Nat) (idx : Nat) (mo : Obj) (n : Str) (FM : List Obj)
    (k0 : Str) (c : Obj → Option Err) (cand : Obj → Option (Obj × Str)) (us : Obj → List Nat)
    (res : R (List Obj × List Nat))
    (hn : mo.name = n) (hmult : isMultiple mo = true)
    (hfm : fromMasterOf mkids idx mo = FM.map (fun x => (true, x)))
    (hFM : ∀ x ∈ FM, x.meta.disabled = false ∧ x.name = n)
    (hmatch : fetchMatching fuel sm combined mo = activeNamed n combined)
    (hk0 : masterKeyG F e fuel mo = .ok k0)
    (hgood : ∀ o ∈ activeNamed n (FM ++ combined), c o = none → ∀ b,
      CLink F e fuel d mo (b, o) (cand o, if b then [] else us o))
    (hbad : ∀ o ∈ activeNamed n (FM ++ combined), ∀ E, c o = some E → ∀ b acc,
      cstepG F e fuel d mo k0 acc (b, o) = .error E)
    (hres : (∀ fm ∈ candsFl FM (activeNamed n combined), c fm.2 = none) →
      (∀ fm ∈ candsFl FM (activeNamed n combined),
        CLink F e fuel d mo fm (cand fm.2, if fm.1 then [] else us fm.2)) →
      multiBranch F e fuel d mkids idx mo (activeNamed n combined) st.1 st.2 = res) :
    stepG F e fuel d sm mkids combined st (idx, mo) =
      match (activeNamed n (FM ++ combined)).findSome? c with
      | some E => .error E
      | none => res := by
  have hA : activeNamed n (FM ++ combined) = (candsFl FM (activeNamed n combined)).map (fun p => p.2) := by
    rw [candsFl_snd, activeNamed_append_named n FM combined hFM]
  have hmem : ∀ fm ∈ candsFl FM (activeNamed n combined), fm.2 ∈ activeNamed n (FM ++ combined) :=
    fun fm h => by rw [hA]; exact List.mem_map.mpr ⟨fm, h, rfl⟩
  rw [stepG_multi _ _ _ _ _ _ _ _ _ _ hmult, hmatch]
  cases hall : (activeNamed n (FM ++ combined)).findSome? c with
  | none =>
    rw [List.findSome?_eq_none_iff] at hall
    exact hres (fun fm h => hall _ (hmem fm h)) (fun fm h => hgood _ (hmem fm h) (hall _ (hmem fm h)) fm.1)
  | some E =>
    rw [hA, List.findSome?_map] at hall
    have hC : fromMasterOf mkids idx mo ++ (activeNamed n combined).map (fun (o : Obj) => (false, o)) =
        candsFl FM (activeNamed n combined) := by rw [hfm]; rfl
    unfold multiBranch
    rw [hk0, hC]
    simp only
    rw [foldlM_first_error (cstepG F e fuel d mo k0) (fun fm => c fm.2) _ _ E hall]
    exact fun a ha b => ⟨fun h => cstepG_clink_ok F e fuel d mo k0 _ _ (hgood _ (hmem a ha) h a.1) b,
      fun E hE => hbad _ (hmem a ha) E hE a.1 b⟩

/-- **the same step outside diff mode**: `cand` is the instance (with its key) built from a candidate without error,
    `us` the ids it consumes when it comes from the sources; the step appends the template object and the
    survivors of the list rule over all candidates -/
theorem stepG_multi_gen (F : FetchFn) (e : Envs) (fuel : Nat) (sm : Meta)
    (mkids combined : List Obj) (st : List Obj × List Nat) (idx : Nat) (mo : Obj) (n : Str) (FM : List Obj)
    (k0 : Str) (c : Obj → Option Err) (cand : Obj → Obj × Str) (us : Obj → List Nat)
    (hn : mo.name = n) (hmult : isMultiple mo = true)
    (hfm : fromMasterOf mkids idx mo = FM.map (fun x => (true, x)))
    (hFM : ∀ x ∈ FM, x.meta.disabled = false ∧ x.name = n)
    (hmatch : fetchMatching fuel sm combined mo = activeNamed n combined)
    (hk0 : masterKeyG F e fuel mo = .ok k0)
    (hgood : ∀ o ∈ activeNamed n (FM ++ combined), c o = none → ∀ b,
      CLink F e fuel false mo (b, o) (some (cand o), if b then [] else us o))
    (hbad : ∀ o ∈ activeNamed n (FM ++ combined), ∀ E, c o = some E → ∀ b acc,
      cstepG F e fuel false mo k0 acc (b, o) = .error E) :
    stepG F e fuel false sm mkids combined st (idx, mo) =
      match (activeNamed n (FM ++ combined)).findSome? c with
      | some E => .error E
      | none =>
        .ok (st.1 ++ multiBlockG mo (selfFetchOf F mo) k0 ((activeNamed n (FM ++ combined)).map cand),
             st.2 ++ (activeNamed n combined).flatMap us) := by
  apply stepG_multi_cases F e fuel false sm mkids combined st idx mo n FM k0 c (fun o => some (cand o)) us _
    hn hmult hfm hFM hmatch hk0 hgood hbad
  intro _ hlink
  rw [multiBranch_clinks F e fuel false mkids idx mo k0 _ _ st.1 st.2 hk0 (by rw [hfm]; exact forall2_map _ _ _ hlink)
      (fun _ _ => rfl), List.filterMap_map, List.flatMap_def, List.map_map,
    activeNamed_append_named n FM combined hFM, ← candsFl_snd FM (activeNamed n combined), List.map_map]
  show Except.ok (_ ++ multiBlockG _ _ _ _, _) = _
  congr 2
  · exact congrArg _ (congrArg _ (congrFun (List.filterMap_eq_map (f := fun (fm : Bool × Obj) => cand fm.2)) _))
  · exact congrArg _ (candsFl_used us FM (activeNamed n combined))

theorem cstepG_srcErr (F : FetchFn) (e : Envs) (fuel : Nat) (diff : Bool) (mm : Meta) (mws : List Word)
    (k0 : Str) (o : Obj) (E : Err) (h : srcErrOf o = some E) (b : Bool) (acc : CAcc) :
    cstepG F e fuel diff (.defn mm mws) k0 acc (b, o) = .error E := by
  unfold cstepG candOf fetchDefn
  cases o with
  | scope m k => cases h; rfl
  | defn dm dws => simp only [fetchValue_defn, srcWordsR_of_srcErrOf h]; rfl

theorem firstErr_none_facts (n : Str) (combined : List Obj)
    (hfs : (activeNamed n combined).findSome? srcErrOf = none) :
    scopesNamed n combined = [] ∧ ∀ o ∈ defsNamed n combined, SrcOK o := by
  rw [List.findSome?_eq_none_iff] at hfs
  constructor
  · rw [List.eq_nil_iff_forall_not_mem]
    intro x hx
    have hx' := mem_scopesNamed.mp hx
    have := hfs x (mem_activeNamed.mpr ⟨hx'.1, hx'.2.2.1, hx'.2.2.2⟩)
    cases x with
    | defn m ws => cases hx'.2.1
    | scope m k => cases this
  · intro o ho
    have ho' := mem_defsNamed.mp ho
    cases o with
    | scope m k => cases ho'.2.1
    | defn dm dws =>
      exact srcOK_of_srcErrOf_none dm dws (hfs _ (mem_activeNamed.mpr ⟨ho'.1, ho'.2.2.1, ho'.2.2.2⟩))

/-- **the step for a `.multiple` master definition with further master occurrences `FM`, ANY sources at this level**:
    the first error among the enabled objects of its name (a recorded resolution error, or the clash of kinds for a
    scope), else the list rule over the definitions among `FM ++ sources` -/
theorem stepG_multi_defn (F : FetchFn) (e : Envs) (fuel : Nat) (sm : Meta)
    (mkids combined : List Obj) (st : List Obj × List Nat) (idx : Nat) (mm : Meta) (mws : List Word)
    (FM : List Obj)
    (hp : DefnMeta mm) (hmult : isMultiple (.defn mm mws) = true)
    (hfm : fromMasterOf mkids idx (.defn mm mws) = FM.map (fun x => (true, x)))
    (hFM : ∀ x ∈ FM, x.meta.disabled = false ∧ x.name = mm.name)
    (hmatch : fetchMatching fuel sm combined (.defn mm mws) = activeNamed mm.name combined)
    (hkeys : KeysDefined e 0 (.defn mm mws) (defsNamed mm.name (FM ++ combined))) :
    stepG F e fuel false sm mkids combined st (idx, .defn mm mws) =
      match (activeNamed mm.name (FM ++ combined)).findSome? srcErrOf with
      | some E => .error E
      | none =>
        .ok (st.1 ++ tmBlock e (.defn mm mws) (FM ++ combined), st.2 ++ treeUsedObj (.defn mm mws) combined) := by
  obtain ⟨⟨k0, hk0⟩, hcand⟩ := keysDefined_fuel_tm e fuel mm mws _ hkeys
  rw [stepG_multi_gen F e fuel sm mkids combined st idx (.defn mm mws) mm.name FM k0 srcErrOf
    (fun d => (candOfSrc (.defn mm mws) d, keyOf e fuel (.defn mm mws) (candOfSrc (.defn mm mws) d))) marksOf
    rfl hmult hfm hFM hmatch hk0]
  · cases hfs : (activeNamed mm.name (FM ++ combined)).findSome? srcErrOf with
    | some E => rfl
    | none =>
      have hsc := (firstErr_none_facts mm.name (FM ++ combined) hfs).1
      have hsc2 : scopesNamed mm.name combined = [] := by
        unfold scopesNamed at hsc ⊢
        rw [List.filter_append, List.append_eq_nil_iff] at hsc
        exact hsc.2
      rw [tmBlock, treeUsedObj, activeNamed_eq_defsNamed _ _ hsc, activeNamed_eq_defsNamed _ _ hsc2, multiBlockG_defn,
        ← keyOf_fuel_tm e fuel, keyOf_ok hk0, ← candsOf_fuel_tm e fuel]
      simp only [hmult, if_true]
      rfl
  · intro o ho h b
    have hm' := mem_activeNamed.mp ho
    cases o with
    | scope m k => cases h
    | defn dm dws =>
      obtain ⟨k, hk⟩ := hcand (.defn dm dws) (mem_defsNamed.mpr ⟨hm'.1, rfl, hm'.2.1, hm'.2.2⟩)
      exact (candLink_candOfSrc hp rfl (srcOK_of_srcErrOf_none dm dws h) hk).clink b
  · exact fun o _ E h b acc => cstepG_srcErr F e fuel false mm mws k0 o E h b acc

section
variable (F : FetchFn) (e : Envs) (fuel : Nat) (sm : Meta) (mkids combined : List Obj)
  (st : List Obj × List Nat) (idx : Nat) (mm : Meta) (mws : List Word)

/-- **the step for a non-multiple master scope**, in either mode, from the outcome of the callee on the next
    level (`cK`: its error; `K`, `U`: the children of its result and the ids it consumes): the scope with
    these children — dropped in diff mode if there are none — or the callee's error, or the clash error if
    there is an enabled source definition of its name -/
theorem stepG_scope_of_outcome (d : Bool) (kids : List Obj) (cK : Option Err) (K : List Obj) (U : List Nat)
    (hmult : (mm.attrs.get "multiple").truthy = false)
    (hmatch : fetchMatching fuel sm combined (.scope mm kids) = activeNamed mm.name combined)
    (hF : F d mm kids (srcStep combined mm.name) =
      match cK with
      | some E => .error E
      | none => .ok (.scope { mm with tmpl := 0 } K, U)) :
    stepG F e fuel d sm mkids combined st (idx, .scope mm kids) =
      match (if (defsNamed mm.name combined).isEmpty then cK else some incompatibleErr) with
      | some E => .error E
      | none => .ok (st.1 ++ (if d && K.isEmpty then [] else [.scope { mm with tmpl := 0 } K]), st.2 ++ U) := by
  rw [stepG_scope _ _ _ _ _ _ _ _ _ _ _ hmult, hmatch, scopeBranch_activeNamed, hF]
  cases (defsNamed mm.name combined).isEmpty
  · rfl
  · cases cK with
    | some E => rfl
    | none => cases hde : d && K.isEmpty <;> simp [hde, Obj.children]

/-- … when the only error of the callee is the clash of kinds (`nc`: no clash on the next level) -/
theorem stepG_scope_of_callee (d : Bool) (kids : List Obj) (nc : Bool) (K : List Obj) (U : List Nat)
    (hmult : (mm.attrs.get "multiple").truthy = false)
    (hmatch : fetchMatching fuel sm combined (.scope mm kids) = activeNamed mm.name combined)
    (hF : F d mm kids (srcStep combined mm.name) =
      if nc then .ok (.scope { mm with tmpl := 0 } K, U) else .error incompatibleErr) :
    stepG F e fuel d sm mkids combined st (idx, .scope mm kids) =
      if (defsNamed mm.name combined).isEmpty && nc then
        .ok (st.1 ++ (if d && K.isEmpty then [] else [.scope { mm with tmpl := 0 } K]), st.2 ++ U)
      else .error incompatibleErr := by
  rw [stepG_scope_of_outcome F e fuel sm mkids combined st idx mm d kids (if nc then none else some incompatibleErr)
    K U hmult hmatch (by rw [hF]; cases nc <;> rfl)]
  cases (defsNamed mm.name combined).isEmpty <;> cases nc <;> rfl

end

/-! ## 5. the whole fetch -/

/-- what the analysis needs of the sources, at every depth below enabled scopes: enabled
    definitions resolve (`SrcOK`), enabled scopes are named (`named` is `ScopesNamed srcs`) -/
structure SrcTree (srcs : List Obj) : Prop where
  ok : ∀ x, ActiveIn x srcs → x.isDefn = true → SrcOK x
  named : ∀ m kids, ActiveIn (.scope m kids) srcs → m.name ≠ []

theorem activeIn_srcStep {x : Obj} {l : List Obj} {n : Str} (h : ActiveIn x (srcStep l n)) :
    ActiveIn x l := by
  have key : ∀ y, y ∈ srcStep l n → ∃ m kids, Obj.scope m kids ∈ l ∧ m.disabled = false ∧ y ∈ kids := by
    intro y hy
    unfold srcStep at hy
    rw [List.mem_flatMap] at hy
    obtain ⟨s, hs, hys⟩ := hy
    have hs' := mem_scopesNamed.mp hs
    cases s with
    | defn m ws => cases hys
    | scope m kids => exact ⟨m, kids, hs'.1, hs'.2.2.1, hys⟩
  cases h with
  | here hm hd =>
    obtain ⟨m, kids, hl, hdis, hy⟩ := key _ hm
    exact .deeper hl hdis (.here hy hd)
  | deeper hm hd hk =>
    obtain ⟨m, kids, hl, hdis, hy⟩ := key _ hm
    exact .deeper hl hdis (.deeper hy hd hk)

theorem SrcTree.step {srcs : List Obj} (h : SrcTree srcs) (n : Str) : SrcTree (srcStep srcs n) :=
  ⟨fun x hx hd => h.ok x (activeIn_srcStep hx) hd,
   fun m kids hx => h.named m kids (activeIn_srcStep hx)⟩

theorem srcTree_nil : SrcTree [] :=
  ⟨fun x hx _ => hx.not_nil.elim, fun m kids hx => hx.not_nil.elim⟩

theorem srcTree_append {a b : List Obj} (ha : SrcTree a) (hb : SrcTree b) : SrcTree (a ++ b) :=
  ⟨fun x hx hd => hx.of_append.elim (fun h => ha.ok x h hd) (fun h => hb.ok x h hd),
   fun m kids hx => hx.of_append.elim (fun h => ha.named m kids h) (fun h => hb.named m kids h)⟩

theorem keysDefinedTree_iff (e : Envs) (srcs : List Obj) : ∀ (l : List Obj),
    KeysDefinedTree e l srcs ↔ ∀ o ∈ l, KeysDefinedObj e o srcs
  | [] => by rw [KeysDefinedTree]; simp
  | o :: os => by rw [KeysDefinedTree, keysDefinedTree_iff e srcs os]; simp

theorem KeysDefinedTree.of_forall {e : Envs} : ∀ {l : List Obj} {srcs : List Obj},
    (∀ o ∈ l, KeysDefinedObj e o srcs) → KeysDefinedTree e l srcs :=
  (keysDefinedTree_iff _ _ _).mpr

/-! ### errors of the sources: the first offending source object in master order -/

mutual
/-- the first error met while one master object is fetched from the source objects of its level -/
def firstErrObj : Obj → List Obj → Option Err
  | .defn mm _, srcs => (activeNamed mm.name srcs).findSome? srcErrOf
  | .scope mm kids, srcs =>
    if (defsNamed mm.name srcs).isEmpty then firstErr kids (srcStep srcs mm.name)
    else some incompatibleErr
/-- the first error in master order -/
def firstErr : List Obj → List Obj → Option Err
  | [], _ => none
  | mo :: rest, srcs =>
    match firstErrObj mo srcs with
    | some e => some e
    | none => firstErr rest srcs
end

/-- **the specification of `fetch` on a nested master without `.multiple`**: the first error in master
    order, else the tree result with the consumed ids -/
def treeFetch (sm : Meta) (mkids srcs : List Obj) : R (Obj × List Nat) :=
  match firstErr mkids srcs with
  | some e => .error e
  | none => .ok (.scope { sm with tmpl := 0 } (treeResult mkids srcs), treeUsed mkids srcs)

/-! ### the step for a non-multiple master definition -/

theorem stepG_plain_vars (F : FetchFn) (e : Envs) (fuel : Nat) (sm : Meta)
    (mkids combined : List Obj) (st : List Obj × List Nat) (idx : Nat) (mm : Meta) (mws : List Word)
    (hp : DefnMeta mm) (hmult : isMultiple (.defn mm mws) = false)
    (hmatch : fetchMatching fuel sm combined (.defn mm mws) = activeNamed mm.name combined) :
    stepG F e fuel false sm mkids combined st (idx, .defn mm mws) =
      match firstErrObj (.defn mm mws) combined with
      | some err => .error err
      | none =>
        .ok (st.1 ++ tmBlock e (.defn mm mws) combined, st.2 ++ treeUsedObj (.defn mm mws) combined) := by
  rw [stepG_plain_of_matching F e fuel sm mkids combined _ st idx mm mws (hp.plain hmult) hmatch, firstErrObj]
  cases hfs : (activeNamed mm.name combined).findSome? srcErrOf with
  | some err => rfl
  | none =>
    rw [tmBlock, treeUsedObj, activeNamed_eq_defsNamed _ _ (firstErr_none_facts mm.name combined hfs).1]
    simp only [hmult, Bool.false_eq_true, if_false]

theorem stepG_plain_tm (F : FetchFn) (e : Envs) (fuel : Nat) (sm : Meta)
    (mkids combined : List Obj) (st : List Obj × List Nat) (idx : Nat) (mm : Meta) (mws : List Word)
    (hp : DefnMeta mm) (hmult : isMultiple (.defn mm mws) = false)
    (hmatch : fetchMatching fuel sm combined (.defn mm mws) = activeNamed mm.name combined)
    (hsrc : ∀ o ∈ combined, o.meta.disabled = false → o.isDefn = true → SrcOK o) :
    stepG F e fuel false sm mkids combined st (idx, .defn mm mws) =
      if noClashObj (.defn mm mws) combined then
        .ok (st.1 ++ tmBlock e (.defn mm mws) combined, st.2 ++ treeUsedObj (.defn mm mws) combined)
      else .error incompatibleErr := by
  rw [stepG_plain_vars F e fuel sm mkids combined st idx mm mws hp hmult hmatch, firstErrObj, noClashObj,
    findSome_srcErrOf_ok _ (fun o ho => hsrc o (mem_activeNamed.mp ho).1 (mem_activeNamed.mp ho).2.1),
    all_isDefn_activeNamed]
  cases (scopesNamed mm.name combined).isEmpty <;> rfl

/-! ### the loop over the master's children -/

theorem firstErr_eq_findSome (srcs : List Obj) : ∀ (mkids : List Obj),
    firstErr mkids srcs = mkids.findSome? (fun mo => firstErrObj mo srcs)
  | [] => by rw [firstErr]; rfl
  | mo :: rest => by
    rw [firstErr, List.findSome?_cons, firstErr_eq_findSome srcs rest]
    cases firstErrObj mo srcs <;> rfl

/-- every enabled source scope below enabled scopes is named (true of every parser output) -/
def ScopesNamed (srcs : List Obj) : Prop := ∀ m kids, ActiveIn (.scope m kids) srcs → m.name ≠ []

theorem ScopesNamed.step {srcs : List Obj} (h : ScopesNamed srcs) (n : Str) : ScopesNamed (srcStep srcs n) :=
  fun m kids hx => h m kids (activeIn_srcStep hx)

theorem fetchScope_firstErr (e : Envs) (fuel : Nat) (diff : Bool) (sm : Meta) (mkids srcs : List Obj)
    (B : Obj → List Obj) (hact : masterActiveObjects mkids = .ok (indexed mkids))
    (hstep : ∀ st i mo, (i, mo) ∈ indexed mkids → mo ∈ mkids →
      stepG (fetchScope e fuel) e fuel diff sm mkids srcs st (i, mo) =
        match firstErrObj mo srcs with
        | some err => .error err
        | none => .ok (st.1 ++ B mo, st.2 ++ treeUsedObj mo srcs)) :
    fetchScope e (fuel + 1) diff sm mkids srcs =
      match firstErr mkids srcs with
      | some E => .error E
      | none => .ok (.scope { sm with tmpl := 0 } (mkids.flatMap B), treeUsed mkids srcs) := by
  rw [fetchScope_of_active e fuel diff sm mkids srcs _ (fun io => firstErrObj io.2 srcs) (fun io => B io.2)
      (fun io => treeUsedObj io.2 srcs) hact
      (fun st a ha => hstep st a.1 a.2 ha (snd_mem_of_mem_indexed ha)),
    firstErr_eq_findSome, flatMap_snd B, flatMap_snd (fun mo => treeUsedObj mo srcs), treeUsed_eq_flatMap]
  conv => rhs; rw [← indexed_map_snd mkids, List.findSome?_map]
  rfl

mutual
theorem firstErrObj_of_srcTree : ∀ (mo : Obj) (srcs : List Obj), SrcTree srcs →
    firstErrObj mo srcs = if noClashObj mo srcs then none else some incompatibleErr
  | .defn mm mws, srcs, hs => by
    rw [firstErrObj, noClashObj, findSome_srcErrOf_ok _ (fun o ho hd =>
      hs.ok o (.here (mem_activeNamed.mp ho).1 (mem_activeNamed.mp ho).2.1) hd),
      all_isDefn_activeNamed]
  | .scope mm kids, srcs, hs => by
    rw [firstErrObj, noClashObj, firstErr_of_srcTree kids (srcStep srcs mm.name) (hs.step mm.name)]
    cases (defsNamed mm.name srcs).isEmpty <;> simp
/-- on sources whose definitions all resolve (`SrcTree`) the first error in master order is the clash of kinds, if
    there is one: `firstErr` is `none` exactly when `noClash` -/
theorem firstErr_of_srcTree : ∀ (mkids srcs : List Obj), SrcTree srcs →
    firstErr mkids srcs = if noClash mkids srcs then none else some incompatibleErr
  | [], srcs, _ => by rw [firstErr, noClash]; rfl
  | mo :: rest, srcs, hs => by
    rw [firstErr, noClash, firstErrObj_of_srcTree mo srcs hs, firstErr_of_srcTree rest srcs hs]
    cases noClashObj mo srcs <;> simp
end

/-- **the specification of `fetch` on a nested master whose definitions may be `.multiple`**: the first
    error in master order, else `treeMultiResult` with the consumed ids -/
def treeMultiFetch (e : Envs) (sm : Meta) (mkids srcs : List Obj) : R (Obj × List Nat) :=
  match firstErr mkids srcs with
  | some E => .error E
  | none => .ok (.scope { sm with tmpl := 0 } (treeMultiResult e mkids srcs), treeUsed mkids srcs)

/-- **closed form of the fetch of a nested master whose definitions may be `.multiple`, ANY annotated
    sources** (non-diff mode, no `SrcTree`/`SrcNoDollar`): the error of the first offending source
    object in master order, else `treeMultiResult` (candidates = the resolved words) and `treeUsed`. -/
theorem fetch_tree_multi_vars_total (e : Envs) : ∀ (fuel : Nat) (sm : Meta) (mkids srcs : List Obj),
    TreeMultiMaster mkids → depthL mkids < fuel → sm.disabled = false → ScopesNamed srcs →
    KeysDefinedTree e mkids srcs →
    fetchScope e fuel false sm mkids srcs = treeMultiFetch e sm mkids srcs := by
  intro fuel
  induction fuel with
  | zero => intro sm mkids srcs _ hd; exact absurd hd (Nat.not_lt_zero _)
  | succ fuel ih =>
    intro sm mkids srcs hf hdepth hsd hsrc hkeys
    rw [fetchScope_firstErr e fuel false sm mkids srcs (fun mo => tmBlock e mo srcs) (masterActive_tm mkids hf),
      treeMultiFetch, treeMultiResult_eq_flatMap]
    intro st i mo ha hmem
    have hto := hf.obj _ hmem
    have hko := (keysDefinedTree_iff e srcs mkids).mp hkeys _ hmem
    have hmatch := fetchMatching_tree fuel sm srcs mo hsd hto.name_ne hto.dotfree
      (fun m kids hm hd => hsrc m kids (.here hm hd))
    cases mo with
    | defn mm mws =>
      rw [TMObj] at hto
      rw [KeysDefinedObj] at hko
      cases hmult : isMultiple (.defn mm mws) with
      | false => exact stepG_plain_vars _ e fuel sm mkids srcs st i mm mws hto.1 hmult hmatch
      | true =>
        exact stepG_multi_defn _ e fuel sm mkids srcs st i mm mws [] hto.1 hmult
          (fromMasterOf_nil mkids hf.distinct i _ ha) (fun _ hx => by cases hx) hmatch (hko hmult)
    | scope mm kids =>
      have hkids := TreeMultiMaster.of_scope hto
      have hd1 := depthT_le_depthL mkids _ hmem
      rw [depthT] at hd1
      rw [TMObj] at hto
      rw [KeysDefinedObj] at hko
      rw [firstErrObj, treeUsedObj]
      exact stepG_scope_of_outcome _ e fuel sm mkids srcs st i mm false kids _ _ _ hto.1 hmatch
        (ih mm kids (srcStep srcs mm.name) hkids (by omega) hto.2.2.2.1 (hsrc.step mm.name) hko)

/-- **closed form of the fetch of a nested master whose definitions may be `.multiple`** (non-diff
    mode): with fuel beyond the nesting depth and defined keys, the fetch succeeds exactly when there
    is no clash of kinds (`noClash`); its result is `treeMultiResult`, the consumed ids are
    `treeMultiUsed` (= `treeUsed`); a clash makes it fail with RuntimeError ("incompatible").  `sm` is
    the meta data of the master scope fetched (empty name at the root, any name below). -/
theorem fetch_tree_multi_total (e : Envs) : ∀ (fuel : Nat) (sm : Meta) (mkids srcs : List Obj),
    TreeMultiMaster mkids → depthL mkids < fuel → sm.disabled = false → SrcTree srcs →
    KeysDefinedTree e mkids srcs →
    fetchScope e fuel false sm mkids srcs =
      if noClash mkids srcs then
        .ok (.scope { sm with tmpl := 0 } (treeMultiResult e mkids srcs), treeMultiUsed mkids srcs)
      else .error incompatibleErr := by
  intro fuel sm mkids srcs hf hdepth hsd hsrc hkeys
  -- on sources whose definitions all resolve the only error is the clash of kinds
  rw [fetch_tree_multi_vars_total e fuel sm mkids srcs hf hdepth hsd hsrc.named hkeys, treeMultiFetch,
    firstErr_of_srcTree mkids srcs hsrc]
  cases noClash mkids srcs <;> rfl

/-- **closed form of the fetch of a nested master without `.multiple`** (non-diff mode): with fuel
    beyond the nesting depth, the fetch succeeds exactly when there is no clash of kinds
    (`noClash`), its result is `treeResult` and the consumed ids are `treeUsed`; a clash makes it
    fail with RuntimeError ("incompatible").  `sm` is the meta data of the master scope fetched
    (empty name at the root, any name below).  The corollaries below state the fuel as
    `depthL mkids + 1 ≤ fuel`, which unfolds to the `depthL mkids < fuel` used here. -/
theorem fetch_tree_total (e : Envs) : ∀ (fuel : Nat) (sm : Meta) (mkids srcs : List Obj),
    TreeMaster mkids → depthL mkids < fuel → sm.disabled = false → SrcTree srcs →
    fetchScope e fuel false sm mkids srcs =
      if noClash mkids srcs then
        .ok (.scope { sm with tmpl := 0 } (treeResult mkids srcs), treeUsed mkids srcs)
      else .error incompatibleErr := by
  intro fuel sm mkids srcs hf hdepth hsd hsrc
  rw [fetch_tree_multi_total e fuel sm mkids srcs hf.toMulti hdepth hsd hsrc
    (keysDefinedTree_of_treeKids e mkids srcs hf.kids), treeMultiResult_eq_treeResult_tm e mkids srcs hf.kids]

/-- **closed form of the fetch of a nested master without `.multiple`, ANY annotated sources** (non-diff
    mode): with fuel beyond the nesting depth the fetch is `treeFetch` — the error of the first
    offending source object in master order (the recorded `resolve_variables` error of a matching
    definition, or "incompatible" for a clash of kinds), else `treeResult` with the consumed ids
    `treeUsed`. -/
theorem fetch_tree_vars_total (e : Envs) : ∀ (fuel : Nat) (sm : Meta) (mkids srcs : List Obj),
    TreeMaster mkids → depthL mkids < fuel → sm.disabled = false → ScopesNamed srcs →
    fetchScope e fuel false sm mkids srcs = treeFetch sm mkids srcs := by
  intro fuel sm mkids srcs hf hdepth hsd hsrc
  rw [fetch_tree_multi_vars_total e fuel sm mkids srcs hf.toMulti hdepth hsd hsrc
    (keysDefinedTree_of_treeKids e mkids srcs hf.kids), treeMultiFetch, treeFetch,
    treeMultiResult_eq_treeResult_tm e mkids srcs hf.kids]

/-- **`fetch_tree`** — the success case: no clash of kinds. -/
theorem fetch_tree (e : Envs) (fuel : Nat) (sm : Meta) (mkids srcs : List Obj)
    (hf : TreeMaster mkids) (hfuel : depthL mkids + 1 ≤ fuel) (hsd : sm.disabled = false)
    (hsrc : SrcTree srcs) (hnc : noClash mkids srcs = true) :
    fetchScope e fuel false sm mkids srcs =
      .ok (.scope { sm with tmpl := 0 } (treeResult mkids srcs), treeUsed mkids srcs) := by
  rw [fetch_tree_total e fuel sm mkids srcs hf hfuel hsd hsrc, hnc]
  rfl

/-! ### the entry point `fetchRoot` and its fuel -/

theorem foldl_max_ge_tree (g : Obj → Nat) : ∀ (l : List Obj) (init : Nat),
    init ≤ l.foldl (fun a k => Nat.max a (g k)) init ∧
      ∀ k ∈ l, g k ≤ l.foldl (fun a k => Nat.max a (g k)) init := by
  intro l
  induction l with
  | nil => intro init; exact ⟨Nat.le_refl _, fun k hk => by cases hk⟩
  | cons a l ih =>
    intro init
    rw [List.foldl_cons]
    have h := ih (Nat.max init (g a))
    refine ⟨Nat.le_trans (Nat.le_max_left _ _) h.1, ?_⟩
    intro k hk
    rw [List.mem_cons] at hk
    rcases hk with rfl | hk
    · exact Nat.le_trans (Nat.le_max_right _ _) h.1
    · exact h.2 k hk

theorem depthL_le_of_forall : ∀ (l : List Obj) (b : Nat), (∀ o ∈ l, depthT o ≤ b) → depthL l ≤ b
  | [], b, _ => by rw [depthL]; exact Nat.zero_le _
  | o :: os, b, h => by
    rw [depthL]
    exact Nat.max_le.mpr ⟨h o List.mem_cons_self,
      depthL_le_of_forall os b (fun o' ho' => h o' (List.mem_cons_of_mem _ ho'))⟩

/-- `depthObj` (the fuel computation of `fetchRoot`) dominates the nesting depth, up to its cap -/
theorem depthT_le_depthObj : ∀ (f : Nat) (o : Obj), depthT o ≤ f → depthT o ≤ depthObj f o := by
  intro f
  induction f with
  | zero => intro o h; exact Nat.le_trans h (Nat.zero_le _)
  | succ f ih =>
    intro o h
    cases o with
    | defn m ws => rw [depthT]; exact Nat.zero_le _
    | scope m kids =>
      rw [depthT] at h ⊢
      rw [depthObj]
      have hk : depthL kids ≤ f := by omega
      have : depthL kids ≤ kids.foldl (fun a k => Nat.max a (depthObj f k)) 0 := by
        apply depthL_le_of_forall
        intro k hkm
        have h1 := depthT_le_depthL kids k hkm
        exact Nat.le_trans (ih k (by omega)) ((foldl_max_ge_tree (depthObj f) kids 0).2 k hkm)
      omega

theorem depthL_le_rootFold (master : List Obj) (hd : depthL master ≤ 1000) :
    depthL master ≤ master.foldl (fun a k => Nat.max a (depthObj 1000 k)) 0 :=
  depthL_le_of_forall _ _ fun k hk =>
    Nat.le_trans (depthT_le_depthObj 1000 k (Nat.le_trans (depthT_le_depthL master k hk) hd))
      ((foldl_max_ge_tree (depthObj 1000) master 0).2 k hk)

/-- the fuel `fetchRoot` provides is adequate for masters nested at most 1000 deep -/
theorem fetchRoot_fuel_tree (master : List Obj) (hd : depthL master ≤ 1000) :
    depthL master + 1 ≤ (master.foldl (fun a k => Nat.max a (depthObj 1000 k)) 0) + 3 := by
  have := depthL_le_rootFold master hd
  omega

/-- **`master.fetch(sources)`** on parsed roots, nested master without `.multiple` -/
theorem fetchRoot_tree (e : Envs) (master : List Obj) (ss : List (List Obj))
    (hf : TreeMaster master) (hd : depthL master ≤ 1000) (hsrc : SrcTree ss.flatten) :
    fetchRoot e false master ss =
      if noClash master ss.flatten then
        .ok (.scope { name := [], id := some 0 } (treeResult master ss.flatten), treeUsed master ss.flatten)
      else .error incompatibleErr :=
  fetch_tree_total e _ _ master ss.flatten hf (fetchRoot_fuel_tree master hd) rfl hsrc

/-! ## 6. C04: the result has exactly the master's structure -/

mutual
/-- the declaration skeleton of an object: values (words) and template marks erased, everything
    else — kinds, names, attributes, order, nesting — kept -/
def shapeObj : Obj → Obj
  | .defn m _ => .defn { m with tmpl := 0 } []
  | .scope m kids => .scope { m with tmpl := 0 } (shapeList kids)
def shapeList : List Obj → List Obj
  | [] => []
  | o :: os => shapeObj o :: shapeList os
end

mutual
theorem shapeObj_treeObj : ∀ (mo : Obj) (srcs : List Obj), shapeObj (treeObj mo srcs) = shapeObj mo
  | .defn mm mws, srcs => by
    rw [treeObj]
    cases lastDef srcs mm.name with
    | none => rfl
    | some d => simp only [shapeObj]
  | .scope mm kids, srcs => by
    rw [treeObj, shapeObj, shapeObj, shapeList_treeResult kids (srcStep srcs mm.name)]
/-- **C04.**  The children of the result are the master's children with other values: same kinds,
    names, attributes, order and nesting at every depth. -/
theorem shapeList_treeResult : ∀ (mkids : List Obj) (srcs : List Obj),
    shapeList (treeResult mkids srcs) = shapeList mkids
  | [], srcs => by rw [treeResult]
  | mo :: rest, srcs => by
    rw [treeResult, shapeList, shapeList, shapeObj_treeObj mo srcs, shapeList_treeResult rest srcs]
end

theorem shapeList_eq_map : ∀ (l : List Obj), shapeList l = l.map shapeObj
  | [] => by rw [shapeList]; rfl
  | o :: os => by rw [shapeList, shapeList_eq_map os]; rfl

theorem shapeObj_name (o : Obj) : (shapeObj o).name = o.name := by
  cases o <;> rw [shapeObj] <;> rfl

theorem shapeObj_isDefn (o : Obj) : (shapeObj o).isDefn = o.isDefn := by
  cases o <;> rw [shapeObj] <;> rfl

theorem shapeObj_attrs (o : Obj) : (shapeObj o).meta.attrs = o.meta.attrs := by
  cases o <;> rw [shapeObj] <;> rfl

mutual
theorem defPathsObj_shape : ∀ (o : Obj) (p : Str), defPathsObj (shapeObj o) p = defPathsObj o p
  | .defn m ws, p => by rw [shapeObj, defPathsObj, defPathsObj]
  | .scope m kids, p => by rw [shapeObj, defPathsObj, defPathsObj]; exact defPaths_shape kids _
theorem defPaths_shape : ∀ (l : List Obj) (p : Str), defPaths (shapeList l) p = defPaths l p
  | [], p => by rw [shapeList]
  | o :: os, p => by rw [shapeList, defPaths, defPaths, defPathsObj_shape o p, defPaths_shape os p]
end

theorem defPaths_treeResult (mkids srcs : List Obj) (p : Str) :
    defPaths (treeResult mkids srcs) p = defPaths mkids p := by
  rw [← defPaths_shape (treeResult mkids srcs), shapeList_treeResult, defPaths_shape]

theorem treeResult_names (mkids srcs : List Obj) :
    (treeResult mkids srcs).map Obj.name = mkids.map Obj.name := by
  have h := congrArg (fun l => l.map Obj.name) (shapeList_treeResult mkids srcs)
  simp only [shapeList_eq_map, List.map_map] at h
  have hn : (Obj.name ∘ shapeObj) = Obj.name := by funext o; exact shapeObj_name o
  rw [hn] at h
  exact h

/-! ## 7. C06: the consumed ids and `all_definitions` -/

theorem allDefsList_append_tree (p : Str) (a b : List Obj) :
    allDefsObj.allDefsList (a ++ b) p = allDefsObj.allDefsList a p ++ allDefsObj.allDefsList b p := by
  simp only [allDefsList_eq, List.filter_append, List.flatMap_append]

theorem srcStep_cons_tree (o : Obj) (os : List Obj) (n : Str) :
    srcStep (o :: os) n =
      (if o.isScope && !o.meta.disabled && o.name == n then o.children else []) ++ srcStep os n := by
  unfold srcStep scopesNamed
  rw [List.filter_cons]
  split
  · rw [List.flatMap_cons]
  · rfl

theorem allDefs_srcStep_tree (n p : Str) (hn : '.' ∉ n) : ∀ (l : List Obj),
    (∀ o ∈ l, o.meta.disabled = false → '.' ∉ o.name) →
    (allDefsObj.allDefsList l p).filter (fun x => startsWith (p ++ n ++ ['.']) x.1) =
      allDefsObj.allDefsList (srcStep l n) (p ++ n ++ ['.']) := by
  intro l
  induction l with
  | nil => intro _; rfl
  | cons o os ih =>
    intro hl
    have ih' := ih (fun o' ho' => hl o' (List.mem_cons_of_mem _ ho'))
    rw [allDefsObj.allDefsList, List.filter_append, ih', srcStep_cons_tree, allDefsList_append_tree]
    congr 1
    cases hd : o.meta.disabled with
    | true => simp [allDefsObj.allDefsList]
    | false =>
      have hdot := hl o List.mem_cons_self hd
      simp only [Bool.false_eq_true, if_false, Bool.not_false, Bool.and_true]
      cases o with
      | defn m ws =>
        have h1 : (Obj.defn m ws).isScope = false := rfl
        simp only [h1, Bool.false_and, Bool.false_eq_true, if_false, allDefsObj.allDefsList]
        rw [List.filter_eq_nil_iff]
        intro x hx hsw
        rw [allDefsObj] at hx
        split at hx
        · cases hx
        · simp only [List.mem_singleton] at hx
          subst hx
          obtain ⟨r, hr⟩ := (startsWith_iff _ _).mp hsw
          simp only [List.append_assoc, List.append_cancel_left_eq] at hr
          apply hdot
          show '.' ∈ m.name
          rw [hr]
          simp
      | scope m kids =>
        have h1 : (Obj.scope m kids).isScope = true := rfl
        have h2 : (Obj.scope m kids).name = m.name := rfl
        have h3 : (Obj.scope m kids).children = kids := rfl
        simp only [h1, h2, h3, Bool.true_and]
        rw [allDefsObj]
        by_cases hmn : m.name = n
        · subst hmn
          simp only [BEq.rfl, if_true]
          rw [List.filter_eq_self]
          intro x hx
          obtain ⟨r, hr⟩ := allDefsList_prefix kids _ x hx
          exact (startsWith_iff _ _).mpr ⟨r, hr⟩
        · have hne : (m.name == n) = false := beq_eq_false_iff_ne.mpr hmn
          simp only [hne, Bool.false_eq_true, if_false, allDefsObj.allDefsList]
          rw [List.filter_eq_nil_iff]
          intro x hx hsw
          obtain ⟨r, hr⟩ := allDefsList_prefix kids _ x hx
          obtain ⟨r', hr'⟩ := (startsWith_iff _ _).mp hsw
          rw [hr] at hr'
          simp only [List.append_assoc, List.append_cancel_left_eq, List.cons_append, List.nil_append] at hr'
          exact hmn (dotfree_prefix_unique _ _ _ _ hdot hn hr').1

mutual
theorem defPathsObj_prefix_tree : ∀ (o : Obj) (p q : Str), q ∈ defPathsObj o p → ∃ r, q = p ++ r
  | .defn m ws, p, q, h => by
    rw [defPathsObj, List.mem_singleton] at h
    exact ⟨m.name, h⟩
  | .scope m kids, p, q, h => by
    rw [defPathsObj] at h
    obtain ⟨r, hr⟩ := defPaths_prefix_tree kids _ q h
    exact ⟨m.name ++ ['.'] ++ r, by rw [hr]; simp⟩
theorem defPaths_prefix_tree : ∀ (l : List Obj) (p q : Str), q ∈ defPaths l p → ∃ r, q = p ++ r
  | [], p, q, h => by rw [defPaths] at h; cases h
  | o :: os, p, q, h => by
    rw [defPaths, List.mem_append] at h
    rcases h with h | h
    · exact defPathsObj_prefix_tree o p q h
    · exact defPaths_prefix_tree os p q h
end

/-- what the exact account of the consumed ids needs of the sources, at every depth below enabled
    scopes: no ids consulted for variables (`srcRefs = []`: variable-free sources), dot-free names
    (the parser nests dotted spellings) -/
structure SrcPlain (srcs : List Obj) : Prop where
  noRefs : ∀ x, ActiveIn x srcs → x.isDefn = true → srcRefs x = []
  dotfree : ∀ x, ActiveIn x srcs → '.' ∉ x.name

theorem SrcPlain.step {srcs : List Obj} (h : SrcPlain srcs) (n : Str) : SrcPlain (srcStep srcs n) :=
  ⟨fun x hx hd => h.noRefs x (activeIn_srcStep hx) hd,
   fun x hx => h.dotfree x (activeIn_srcStep hx)⟩

/-- no master definition, at any depth, is called `include` (`all_definitions` skips those) -/
def NoIncludeTree (mkids : List Obj) : Prop :=
  ∀ d, ActiveIn d mkids → d.isDefn = true → d.name ≠ "include".toList

theorem NoIncludeTree.head {mo : Obj} {rest : List Obj} (h : NoIncludeTree (mo :: rest)) : NoIncludeTree [mo] :=
  fun d hd => h d hd.head

theorem NoIncludeTree.tail {mo : Obj} {rest : List Obj} (h : NoIncludeTree (mo :: rest)) : NoIncludeTree rest :=
  fun d hd => h d hd.tail

/-- all that the account of the consumed ids uses of a class of master objects: it is closed under
    taking children, and its members are enabled and have dot-free names -/
structure TreePathClass (P : Obj → Prop) : Prop where
  dotfree : ∀ {o}, P o → '.' ∉ o.name
  enabled : ∀ {o}, P o → o.meta.disabled = false
  kids : ∀ {mm kids}, P (.scope mm kids) → ∀ k ∈ kids, P k

theorem TreePathClass.of_activeIn {P : Obj → Prop} (hP : TreePathClass P) {mo : Obj} {l : List Obj}
    (h : ActiveIn mo l) : (∀ o ∈ l, P o) → P mo := by
  induction h with
  | here hm _ => exact fun ht => ht _ hm
  | deeper hm _ _ ih => exact fun ht => ih (hP.kids (ht _ hm))

/-- dot-free names on the enabled objects below enabled scopes (the parser nests dotted spellings) -/
def SrcDotfree (srcs : List Obj) : Prop := ∀ x, ActiveIn x srcs → '.' ∉ x.name

theorem SrcDotfree.step {srcs : List Obj} (h : SrcDotfree srcs) (n : Str) : SrcDotfree (srcStep srcs n) :=
  fun x hx => h x (activeIn_srcStep hx)

theorem SrcPlain.marks {srcs : List Obj} (hs : SrcPlain srcs) (i : Nat) (m : Meta) (ws : List Word)
    (hd : ActiveIn (.defn m ws) srcs) : i ∈ marksOf (.defn m ws) ↔ m.id = some i :=
  mem_marksOf_noRefs (hs.noRefs _ hd rfl)

mutual
theorem mem_treeUsedObj_of {P : Obj → Prop} (hP : TreePathClass P) (i : Nat) (W : Meta → List Word → Prop) :
    ∀ (mo : Obj) (srcs : List Obj) (p : Str), P mo → NoIncludeTree [mo] → SrcDotfree srcs →
    (∀ m ws, ActiveIn (.defn m ws) srcs → (i ∈ marksOf (.defn m ws) ↔ W m ws)) →
    (i ∈ treeUsedObj mo srcs ↔
      ∃ x ∈ allDefsObj.allDefsList srcs p, W x.2.1 x.2.2 ∧ x.1 ∈ defPathsObj mo p)
  | .defn mm mws, srcs, p, ht, hinc, hs, hW => by
    have hB := allDefs_defsNamed mm.name p (hP.dotfree ht) (hinc _ (.self (hP.enabled ht)) rfl) srcs
    have hx : ∀ x, (x ∈ allDefsObj.allDefsList srcs p ∧ W x.2.1 x.2.2 ∧ x.1 ∈ [p ++ mm.name]) ↔
        x ∈ (defsNamed mm.name srcs).map (fun d => (p ++ mm.name, d.meta, d.words)) ∧ W x.2.1 x.2.2 := by
      intro x
      rw [← hB, List.mem_filter, List.mem_singleton, beq_iff_eq]
      exact ⟨fun h => ⟨⟨h.1, h.2.2⟩, h.2.1⟩, fun h => ⟨h.1.1, h.2, h.1.2⟩⟩
    have hm : ∀ d ∈ defsNamed mm.name srcs, (i ∈ marksOf d ↔ W d.meta d.words) := fun d hd => by
      have hd' := mem_defsNamed.mp hd
      cases d with
      | scope m k => cases hd'.2.1
      | defn m ws => exact hW m ws (.here hd'.1 hd'.2.2.1)
    rw [treeUsedObj, defPathsObj, List.mem_flatMap]
    simp only [hx, List.mem_map]
    constructor
    · rintro ⟨d, hd, hid⟩
      exact ⟨_, ⟨d, hd, rfl⟩, (hm d hd).mp hid⟩
    · rintro ⟨_, ⟨d, hd, rfl⟩, hid⟩
      exact ⟨d, hd, (hm d hd).mpr hid⟩
  | .scope mm kids, srcs, p, ht, hinc, hs, hW => by
    have hA := allDefs_srcStep_tree mm.name p (hP.dotfree ht) srcs (fun o ho hd => hs o (.here ho hd))
    rw [treeUsedObj, defPathsObj,
      mem_treeUsed_of hP i W kids (srcStep srcs mm.name) (p ++ mm.name ++ ['.']) (hP.kids ht)
        (fun d hd => hinc d (hd.kid (hP.enabled ht))) (hs.step mm.name)
        (fun m ws hd => hW m ws (activeIn_srcStep hd)),
      ← hA]
    constructor
    · rintro ⟨x, hx, hid, hpath⟩
      exact ⟨x, (List.mem_filter.mp hx).1, hid, hpath⟩
    · rintro ⟨x, hx, hid, hpath⟩
      obtain ⟨r, hr⟩ := defPaths_prefix_tree kids _ _ hpath
      exact ⟨x, List.mem_filter.mpr ⟨hx, (startsWith_iff _ _).mpr ⟨r, hr⟩⟩, hid, hpath⟩
/-- the consumed ids are those marked (`W`: what a source definition marks, given by its meta data and words)
    by the `all_definitions(sources)` entries whose path is the path of a master definition: for every class
    of masters with enabled objects and dot-free names -/
theorem mem_treeUsed_of {P : Obj → Prop} (hP : TreePathClass P) (i : Nat) (W : Meta → List Word → Prop) :
    ∀ (mkids : List Obj) (srcs : List Obj) (p : Str),
    (∀ o ∈ mkids, P o) → NoIncludeTree mkids → SrcDotfree srcs →
    (∀ m ws, ActiveIn (.defn m ws) srcs → (i ∈ marksOf (.defn m ws) ↔ W m ws)) →
    (i ∈ treeUsed mkids srcs ↔
      ∃ x ∈ allDefsObj.allDefsList srcs p, W x.2.1 x.2.2 ∧ x.1 ∈ defPaths mkids p)
  | [], srcs, p, _, _, _, _ => by
    rw [treeUsed, defPaths]
    simp
  | mo :: rest, srcs, p, ht, hinc, hs, hW => by
    rw [treeUsed, defPaths, List.mem_append,
      mem_treeUsedObj_of hP i W mo srcs p (ht mo List.mem_cons_self) hinc.head hs hW,
      mem_treeUsed_of hP i W rest srcs p (fun o ho => ht o (List.mem_cons_of_mem _ ho)) hinc.tail hs hW]
    simp only [List.mem_append, and_or_left, exists_or]
end

theorem tmObj_pathClass : TreePathClass TMObj :=
  ⟨TMObj.dotfree, TMObj.enabled, fun h => (TreeMultiMaster.of_scope h).obj⟩

theorem mem_treeUsedObj_tm (mo : Obj) (srcs : List Obj) (p : Str) (i : Nat) :
    TMObj mo → NoIncludeTree [mo] → SrcPlain srcs →
    (i ∈ treeUsedObj mo srcs ↔
      ∃ x ∈ allDefsObj.allDefsList srcs p, x.2.1.id = some i ∧ x.1 ∈ defPathsObj mo p) :=
  fun ht hinc hs => mem_treeUsedObj_of tmObj_pathClass i (fun m _ => m.id = some i) mo srcs p ht hinc hs.dotfree (hs.marks i)

theorem mem_treeUsed_tm (mkids : List Obj) (srcs : List Obj) (p : Str) (i : Nat) (ht : TMKids mkids) :
    NoIncludeTree mkids → SrcPlain srcs →
    (i ∈ treeUsed mkids srcs ↔
      ∃ x ∈ allDefsObj.allDefsList srcs p, x.2.1.id = some i ∧ x.1 ∈ defPaths mkids p) :=
  fun hinc hs => mem_treeUsed_of tmObj_pathClass i (fun m _ => m.id = some i) mkids srcs p ((tmKids_iff mkids).mp ht) hinc
    hs.dotfree (hs.marks i)

theorem mem_treeUsedObj_tree : ∀ (mo : Obj) (srcs : List Obj) (p : Str) (i : Nat),
    TreeObj mo → NoIncludeTree [mo] → SrcPlain srcs →
    (i ∈ treeUsedObj mo srcs ↔
      ∃ x ∈ allDefsObj.allDefsList srcs p, x.2.1.id = some i ∧ x.1 ∈ defPathsObj mo p) :=
  fun mo srcs p i ht => mem_treeUsedObj_tm mo srcs p i ht.toTM

/-- **C06 (consumed ids, exactly).**  The consumed ids are exactly the ids of the entries of
    `all_definitions(sources)` whose full path is the path of a master definition. -/
theorem tree_used_exact (mkids srcs : List Obj) (hf : TreeMaster mkids) (hinc : NoIncludeTree mkids)
    (hs : SrcPlain srcs) (i : Nat) :
    i ∈ treeUsed mkids srcs ↔
      ∃ x ∈ allDefinitions srcs, x.2.1.id = some i ∧ x.1 ∈ defPaths mkids [] :=
  mem_treeUsed_tm mkids srcs [] i hf.toMulti.kids hinc hs

/-- **C06 (unused list, exactly).**  Whenever the fetch of a tree master succeeds and the entries of
    `all_definitions(sources)` carry pairwise distinct ids, the entries that were not consumed are
    exactly those whose full path is not the path of a master definition. -/
theorem tree_unused_exact (e : Envs) (fuel : Nat) (sm : Meta) (mkids srcs : List Obj)
    (hf : TreeMaster mkids) (hfuel : depthL mkids + 1 ≤ fuel) (hsd : sm.disabled = false)
    (hinc : NoIncludeTree mkids) (hsrc : SrcTree srcs) (hs : SrcPlain srcs)
    (hsome : ∀ x ∈ allDefinitions srcs, x.2.1.id ≠ none)
    (hids : ((allDefinitions srcs).map (fun x => x.2.1.id)).Nodup)
    (ro : Obj) (used : List Nat)
    (h : fetchScope e fuel false sm mkids srcs = .ok (ro, used)) :
    (allDefinitions srcs).filter (notConsumed used) =
      (allDefinitions srcs).filter (fun x => !(defPaths mkids []).contains x.1) := by
  obtain ⟨_, _, rfl⟩ := ok_of_total (fetch_tree_total e fuel sm mkids srcs hf hfuel hsd hsrc) h
  exact unused_filter_exact_tree _ srcs _ hsome hids (tree_used_exact mkids srcs hf hinc hs)

/-! ## 8. C07: re-fetching the result -/

theorem shapeObj_disabled (o : Obj) : (shapeObj o).meta.disabled = o.meta.disabled := by
  cases o <;> rw [shapeObj] <;> rfl

theorem treeObj_name (mo : Obj) (srcs : List Obj) : (treeObj mo srcs).name = mo.name := by
  rw [← shapeObj_name, shapeObj_treeObj, shapeObj_name]

theorem treeObj_disabled (mo : Obj) (srcs : List Obj) :
    (treeObj mo srcs).meta.disabled = mo.meta.disabled := by
  rw [← shapeObj_disabled, shapeObj_treeObj, shapeObj_disabled]

theorem treeObj_isDefn (mo : Obj) (srcs : List Obj) : (treeObj mo srcs).isDefn = mo.isDefn := by
  rw [← shapeObj_isDefn, shapeObj_treeObj, shapeObj_isDefn]

/-- master definitions fit for re-fetching in the model, at every depth: not template-marked, no
    recorded variable resolution, variable-free default -/
def RefetchTree (mkids : List Obj) : Prop :=
  ∀ d, ActiveIn d mkids → d.isDefn = true →
    d.meta.tmpl = 0 ∧ d.meta.varRes = none ∧ hasDollar d.words = false

theorem RefetchTree.head {mo : Obj} {rest : List Obj} (h : RefetchTree (mo :: rest)) : RefetchTree [mo] :=
  fun d hd => h d hd.head

theorem RefetchTree.tail {mo : Obj} {rest : List Obj} (h : RefetchTree (mo :: rest)) : RefetchTree rest :=
  fun d hd => h d hd.tail

theorem RefetchTree.kids {mm : Meta} {kids : List Obj} (h : RefetchTree [.scope mm kids])
    (hd : mm.disabled = false) : RefetchTree kids :=
  fun d hdk => h d (hdk.kid hd)

/-! ### trees of blocks

The working set (`treeMultiResult`) and, in Phil/Proofs/DiffTree.lean, the difference and the restored working
set are instances of one construction: a tree rebuilt along the master from a per-definition block function,
scopes with an empty content dropped or not. -/

/-- a block function: master definition, enabled source definitions of its name ↦ result objects -/
abbrev DefBlock_dt := Obj → List Obj → List Obj

mutual
def gBlock_dt (B : DefBlock_dt) (drop : Bool) : Obj → List Obj → List Obj
  | .defn mm mws, srcs => B (.defn mm mws) (defsNamed mm.name srcs)
  | .scope mm kids, srcs =>
    if drop && (gTree_dt B drop kids (srcStep srcs mm.name)).isEmpty then []
    else [.scope { mm with tmpl := 0 } (gTree_dt B drop kids (srcStep srcs mm.name))]
def gTree_dt (B : DefBlock_dt) (drop : Bool) : List Obj → List Obj → List Obj
  | [], _ => []
  | mo :: rest, srcs => gBlock_dt B drop mo srcs ++ gTree_dt B drop rest srcs
end

theorem gTree_eq_flatMap_dt (B : DefBlock_dt) (drop : Bool) (srcs : List Obj) : ∀ (mkids : List Obj),
    gTree_dt B drop mkids srcs = mkids.flatMap (fun mo => gBlock_dt B drop mo srcs)
  | [] => by rw [gTree_dt]; rfl
  | mo :: rest => by rw [gTree_dt, gTree_eq_flatMap_dt B drop srcs rest]; rfl

mutual
theorem tmBlock_eq_gBlock_dt (e : Envs) : ∀ (mo : Obj) (srcs : List Obj),
    tmBlock e mo srcs = gBlock_dt (blockL e 0) false mo srcs
  | .defn mm mws, srcs => by rw [tmBlock, gBlock_dt]; rfl
  | .scope mm kids, srcs => by
    rw [tmBlock, gBlock_dt, treeMultiResult_eq_gTree_dt e kids]
    simp
theorem treeMultiResult_eq_gTree_dt (e : Envs) : ∀ (l : List Obj) (srcs : List Obj),
    treeMultiResult e l srcs = gTree_dt (blockL e 0) false l srcs
  | [], srcs => by rw [treeMultiResult, gTree_dt]
  | mo :: rest, srcs => by
    rw [treeMultiResult, gTree_dt, tmBlock_eq_gBlock_dt e mo srcs, treeMultiResult_eq_gTree_dt e rest srcs]
end

/-- what the analysis needs of a block function: its objects are definitions named and enabled like
    the master definition; they are fit to be fetched again (`SrcOK`); the candidates built from them
    are the master definition or candidates of the original sources (`CandClosed`) -/
structure GoodFam_dt (B : DefBlock_dt) : Prop where
  basic : ∀ mm mws l, ∀ o ∈ B (.defn mm mws) l,
    o.name = mm.name ∧ o.meta.disabled = mm.disabled ∧ o.isDefn = true
  srcOK : ∀ mm mws l, mm.varRes = none → hasDollar mws = false →
    (∀ d ∈ l, hasDollar d.srcWords = false) → ∀ o ∈ B (.defn mm mws) l, SrcOK o
  closed : ∀ mm mws l, mm.tmpl = 0 → mm.varRes = none →
    ∀ o ∈ B (.defn mm mws) l, CandClosed (.defn mm mws) l o

theorem BlockMem.goodFam {B : DefBlock_dt} (hB : BlockMem B) : GoodFam_dt B where
  basic := by
    intro mm mws l o ho
    rcases hB _ _ o ho with ⟨t, rfl⟩ | ⟨d, _, rfl⟩ <;> exact ⟨rfl, rfl, rfl⟩
  srcOK := by
    intro mm mws l hv hmd hdol o ho
    rcases hB _ _ o ho with ⟨t, rfl⟩ | ⟨d, hd, rfl⟩
    · exact .inr ⟨hv, hmd⟩
    · exact .inr ⟨hv, hdol d hd⟩
  closed := by
    intro mm mws l ht hv o ho
    rcases hB _ _ o ho with ⟨t, rfl⟩ | ⟨d, hd, rfl⟩
    · exact .inl (candOfSrc_tmpl mm mws ht hv t)
    · exact .inr ⟨d, hd, candOfSrc_cand mm mws hv d⟩

theorem goodFam_blockL_dt (e : Envs) (f : Nat) : GoodFam_dt (blockL e f) := (blockMem_blockL e f).goodFam

/-- the resolved words of the source definitions are variable-free, at every depth -/
def SrcNoDollar (srcs : List Obj) : Prop :=
  ∀ x, ActiveIn x srcs → x.isDefn = true → hasDollar x.srcWords = false

theorem SrcNoDollar.nil : SrcNoDollar [] := fun x hx _ => hx.not_nil.elim

theorem gBlock_member_dt {B : DefBlock_dt} (hB : GoodFam_dt B) (drop : Bool) :
    ∀ (mo : Obj) (srcs : List Obj), ∀ o ∈ gBlock_dt B drop mo srcs,
      o.name = mo.name ∧ o.meta.disabled = mo.meta.disabled ∧ o.isDefn = mo.isDefn
  | .defn mm mws, srcs, o, ho => by
    rw [gBlock_dt] at ho
    exact hB.basic mm mws _ o ho
  | .scope mm kids, srcs, o, ho => by
    rw [gBlock_dt] at ho
    split at ho
    · cases ho
    · rw [List.mem_singleton] at ho
      subst ho
      exact ⟨rfl, rfl, rfl⟩

/-- in a tree of blocks over a `TreeMultiMaster`, the enabled objects called like a master child are
    the block of that child.  This equation is what the `_view_` lemmas assume of a source list `R`
    (their hypothesis `hv`): seen from the master child, `R` looks like the result. -/
theorem view_dt {B : DefBlock_dt} (hB : GoodFam_dt B) (drop : Bool) (mkids srcs : List Obj)
    (hf : TreeMultiMaster mkids) :
    ∀ mo ∈ mkids, activeNamed mo.name (gTree_dt B drop mkids srcs) = gBlock_dt B drop mo srcs := by
  rw [gTree_eq_flatMap_dt]
  exact activeNamed_flatMap_distinct (fun mo => gBlock_dt B drop mo srcs) mkids hf.distinct
    (fun mo hmo o ho => by
      have h := gBlock_member_dt hB drop mo srcs o ho
      exact ⟨h.1, by rw [h.2.1]; exact (hf.obj mo hmo).enabled⟩)

theorem defsNamed_of_view_dt {B : DefBlock_dt} (hB : GoodFam_dt B) (mm : Meta) (mws : List Word)
    {l R : List Obj} (hv : activeNamed mm.name R = B (.defn mm mws) l) :
    defsNamed mm.name R = B (.defn mm mws) l := by
  rw [defsNamed_eq_filter_tree, hv, List.filter_eq_self]
  intro o ho
  exact (hB.basic mm mws _ o ho).2.2

theorem scopesNamed_of_view_dt {B : DefBlock_dt} (hB : GoodFam_dt B) (mm : Meta) (mws : List Word)
    {l R : List Obj} (hv : activeNamed mm.name R = B (.defn mm mws) l) :
    scopesNamed mm.name R = [] := by
  rw [scopesNamed_eq_filter_tree, hv, List.filter_eq_nil_iff]
  intro o ho
  unfold Obj.isScope
  rw [(hB.basic mm mws _ o ho).2.2]
  simp

theorem RefetchTree.defn_dt {mm : Meta} {mws : List Word} (h : RefetchTree [.defn mm mws])
    (hen : mm.disabled = false) : mm.tmpl = 0 ∧ mm.varRes = none ∧ hasDollar mws = false :=
  h (.defn mm mws) (.self hen) rfl

theorem srcStep_of_view_dt (B : DefBlock_dt) (drop : Bool) (mm : Meta) (kids : List Obj)
    (srcs R : List Obj) (hv : activeNamed mm.name R = gBlock_dt B drop (.scope mm kids) srcs) :
    srcStep R mm.name = gTree_dt B drop kids (srcStep srcs mm.name) := by
  rw [← activeNamed_children_tree, hv, gBlock_dt]
  split
  · rename_i h
    rw [Bool.and_eq_true, List.isEmpty_iff] at h
    rw [h.2]
    rfl
  · simp [Obj.children]

theorem defsNamed_scope_of_view_dt (B : DefBlock_dt) (drop : Bool) (mm : Meta) (kids : List Obj)
    (srcs R : List Obj) (hv : activeNamed mm.name R = gBlock_dt B drop (.scope mm kids) srcs) :
    defsNamed mm.name R = [] := by
  rw [defsNamed_eq_filter_tree, hv, gBlock_dt]
  split <;> rfl

/-! ### composition: a tree of blocks taken as the source of another one -/

mutual
theorem gBlock_comp_dt {B1 B2 B12 : DefBlock_dt} (hB2 : GoodFam_dt B2) (d1 d2 : Bool)
    (hcomp : ∀ mm mws l, mm.tmpl = 0 → mm.varRes = none →
      B1 (.defn mm mws) (B2 (.defn mm mws) l) = B12 (.defn mm mws) l) :
    ∀ (mo : Obj) (srcs R : List Obj), TMObj mo → RefetchTree [mo] →
      activeNamed mo.name R = gBlock_dt B2 d2 mo srcs → gBlock_dt B1 d1 mo R = gBlock_dt B12 d1 mo srcs
  | .defn mm mws, srcs, R, ht, hr, hv => by
    rw [TMObj] at ht
    rw [gBlock_dt] at hv
    rw [gBlock_dt, gBlock_dt, defsNamed_of_view_dt hB2 mm mws hv]
    exact hcomp mm mws _ (hr.defn_dt ht.2.2.2).1 (hr.defn_dt ht.2.2.2).2.1
  | .scope mm kids, srcs, R, ht, hr, hv => by
    have hk := TreeMultiMaster.of_scope ht
    rw [TMObj] at ht
    rw [gBlock_dt, gBlock_dt, srcStep_of_view_dt B2 d2 mm kids srcs R hv,
      gTree_comp_dt hB2 d1 d2 hcomp kids (srcStep srcs mm.name) _ hk.kids (hr.kids ht.2.2.2.1)
        (view_dt hB2 d2 kids _ hk)]
theorem gTree_comp_dt {B1 B2 B12 : DefBlock_dt} (hB2 : GoodFam_dt B2) (d1 d2 : Bool)
    (hcomp : ∀ mm mws l, mm.tmpl = 0 → mm.varRes = none →
      B1 (.defn mm mws) (B2 (.defn mm mws) l) = B12 (.defn mm mws) l) :
    ∀ (l : List Obj) (srcs R : List Obj), TMKids l → RefetchTree l →
      (∀ mo ∈ l, activeNamed mo.name R = gBlock_dt B2 d2 mo srcs) →
      gTree_dt B1 d1 l R = gTree_dt B12 d1 l srcs
  | [], srcs, R, _, _, _ => by rw [gTree_dt, gTree_dt]
  | mo :: rest, srcs, R, ht, hr, hv => by
    rw [TMKids] at ht
    rw [gTree_dt, gTree_dt,
      gBlock_comp_dt hB2 d1 d2 hcomp mo srcs R ht.1 hr.head (hv mo List.mem_cons_self),
      gTree_comp_dt hB2 d1 d2 hcomp rest srcs R ht.2 hr.tail (fun o ho => hv o (List.mem_cons_of_mem _ ho))]
end

/-- **composition**: the tree of `B1`-blocks computed from a tree of `B2`-blocks is the tree of
    `B12`-blocks of the original sources, whenever `B1 ∘ B2 = B12` on every definition -/
theorem gTree_comp_self_dt {B1 B2 B12 : DefBlock_dt} (hB2 : GoodFam_dt B2) (d1 d2 : Bool)
    (hcomp : ∀ mm mws l, mm.tmpl = 0 → mm.varRes = none →
      B1 (.defn mm mws) (B2 (.defn mm mws) l) = B12 (.defn mm mws) l)
    (mkids srcs : List Obj) (hf : TreeMultiMaster mkids) (hr : RefetchTree mkids) :
    gTree_dt B1 d1 mkids (gTree_dt B2 d2 mkids srcs) = gTree_dt B12 d1 mkids srcs :=
  gTree_comp_dt hB2 d1 d2 hcomp mkids srcs _ hf.kids hr (view_dt hB2 d2 mkids srcs hf)

/-! ### a tree of blocks is a well-formed source for its master -/

mutual
theorem noClashObj_view_dt {B : DefBlock_dt} (hB : GoodFam_dt B) (drop : Bool) :
    ∀ (mo : Obj) (srcs R : List Obj), TMObj mo →
      activeNamed mo.name R = gBlock_dt B drop mo srcs → noClashObj mo R = true
  | .defn mm mws, srcs, R, ht, hv => by
    rw [gBlock_dt] at hv
    rw [noClashObj, scopesNamed_of_view_dt hB mm mws hv]
    rfl
  | .scope mm kids, srcs, R, ht, hv => by
    have hk := TreeMultiMaster.of_scope ht
    rw [noClashObj, defsNamed_scope_of_view_dt B drop mm kids srcs R hv,
      srcStep_of_view_dt B drop mm kids srcs R hv,
      noClash_view_dt hB drop kids (srcStep srcs mm.name) _ hk.kids (view_dt hB drop kids _ hk)]
    rfl
theorem noClash_view_dt {B : DefBlock_dt} (hB : GoodFam_dt B) (drop : Bool) :
    ∀ (l : List Obj) (srcs R : List Obj), TMKids l →
      (∀ mo ∈ l, activeNamed mo.name R = gBlock_dt B drop mo srcs) → noClash l R = true
  | [], srcs, R, _, _ => by rw [noClash]
  | mo :: rest, srcs, R, ht, hv => by
    rw [TMKids] at ht
    rw [noClash, noClashObj_view_dt hB drop mo srcs R ht.1 (hv mo List.mem_cons_self),
      noClash_view_dt hB drop rest srcs R ht.2 (fun o ho => hv o (List.mem_cons_of_mem _ ho))]
    rfl
end

theorem noClash_gTree_dt {B : DefBlock_dt} (hB : GoodFam_dt B) (drop : Bool) (mkids srcs : List Obj)
    (hf : TreeMultiMaster mkids) : noClash mkids (gTree_dt B drop mkids srcs) = true :=
  noClash_view_dt hB drop mkids srcs _ hf.kids (view_dt hB drop mkids srcs hf)

theorem activeIn_gTree_dt {B : DefBlock_dt} (hB : GoodFam_dt B) (drop : Bool) {x : Obj} {R : List Obj}
    (h : ActiveIn x R) :
    ∀ (mkids srcs : List Obj), R = gTree_dt B drop mkids srcs → TMKids mkids →
      ∃ mo S, ActiveIn mo mkids ∧ (∀ y, ActiveIn y S → ActiveIn y srcs) ∧ x ∈ gBlock_dt B drop mo S := by
  induction h with
  | @here R hm hd =>
    intro mkids srcs hR ht
    rw [hR, gTree_eq_flatMap_dt, List.mem_flatMap] at hm
    obtain ⟨mo, hmo, hx⟩ := hm
    rw [(gBlock_member_dt hB drop mo srcs _ hx).2.1] at hd
    exact ⟨mo, srcs, .here hmo hd, fun y hy => hy, hx⟩
  | @deeper R m kids' hm hd _ ih =>
    intro mkids srcs hR ht
    rw [hR, gTree_eq_flatMap_dt, List.mem_flatMap] at hm
    obtain ⟨mo, hmo, hx⟩ := hm
    have hmem := gBlock_member_dt hB drop mo srcs _ hx
    cases mo with
    | defn mm mws => cases hmem.2.2
    | scope mm mk =>
      rw [gBlock_dt] at hx
      split at hx
      · cases hx
      · rw [List.mem_singleton] at hx
        injection hx with hm1 hk1
        have hto := (tmKids_iff _).mp ht _ hmo
        have hmd : mm.disabled = false := hto.enabled
        obtain ⟨mo', S, ha, hS, hx'⟩ := ih mk (srcStep srcs mm.name) hk1 (TreeMultiMaster.of_scope hto).kids
        exact ⟨mo', S, .deeper hmo hmd ha, fun y hy => activeIn_srcStep (hS y hy), hx'⟩

theorem srcTree_gTree_dt {B : DefBlock_dt} (hB : GoodFam_dt B) (drop : Bool) (mkids srcs : List Obj)
    (hf : TreeMultiMaster mkids) (hr : RefetchTree mkids) (hdol : SrcNoDollar srcs) :
    SrcTree (gTree_dt B drop mkids srcs) := by
  constructor
  · intro x hx hdef
    obtain ⟨mo, S, ha, hS, hxb⟩ := activeIn_gTree_dt hB drop hx mkids srcs rfl hf.kids
    have hmem := gBlock_member_dt hB drop mo S x hxb
    rw [hdef] at hmem
    have hr' := hr mo ha hmem.2.2.symm
    cases mo with
    | scope mm mk => cases hmem.2.2
    | defn mm mws =>
      rw [gBlock_dt] at hxb
      refine hB.srcOK mm mws _ hr'.2.1 hr'.2.2 ?_ x hxb
      intro d hd
      have hd' := mem_defsNamed.mp hd
      exact hdol d (hS d (.here hd'.1 hd'.2.2.1)) hd'.2.1
  · intro m kids hx
    obtain ⟨mo, S, ha, hS, hxb⟩ := activeIn_gTree_dt hB drop hx mkids srcs rfl hf.kids
    have hto := tmObj_pathClass.of_activeIn ha hf.obj
    have hn := (gBlock_member_dt hB drop mo S _ hxb).1
    have : m.name = mo.name := hn
    rw [this]
    exact hto.name_ne

/-! ### the working set as a tree of blocks -/

theorem tmBlock_member_tm (e : Envs) (mo : Obj) (srcs : List Obj) : ∀ o ∈ tmBlock e mo srcs,
    o.name = mo.name ∧ o.meta.disabled = mo.meta.disabled ∧ o.isDefn = mo.isDefn := by
  rw [tmBlock_eq_gBlock_dt]
  exact gBlock_member_dt (goodFam_blockL_dt e 0) false mo srcs

theorem tmBlock_ne_nil_tm (e : Envs) : ∀ (mo : Obj) (srcs : List Obj), tmBlock e mo srcs ≠ []
  | .defn mm mws, srcs => by
    rw [tmBlock]
    split
    · unfold multiBlock; exact List.cons_ne_nil _ _
    · exact List.cons_ne_nil _ _
  | .scope mm kids, srcs => by rw [tmBlock]; exact List.cons_ne_nil _ _

theorem view_tm (e : Envs) (mkids srcs : List Obj) (hf : TreeMultiMaster mkids) :
    ∀ mo ∈ mkids, activeNamed mo.name (treeMultiResult e mkids srcs) = tmBlock e mo srcs := by
  intro mo hmo
  rw [treeMultiResult_eq_gTree_dt, tmBlock_eq_gBlock_dt]
  exact view_dt (goodFam_blockL_dt e 0) false mkids srcs hf mo hmo

theorem defsNamed_of_view_tm (e : Envs) (mm : Meta) (mws : List Word) (srcs R : List Obj)
    (hv : activeNamed mm.name R = tmBlock e (.defn mm mws) srcs) :
    defsNamed mm.name R = tmBlock e (.defn mm mws) srcs := by
  rw [tmBlock_eq_gBlock_dt, gBlock_dt] at hv ⊢
  exact defsNamed_of_view_dt (goodFam_blockL_dt e 0) mm mws hv

theorem srcStep_of_view_tm (e : Envs) (mm : Meta) (kids : List Obj) (srcs R : List Obj)
    (hv : activeNamed mm.name R = tmBlock e (.scope mm kids) srcs) :
    srcStep R mm.name = treeMultiResult e kids (srcStep srcs mm.name) := by
  rw [tmBlock_eq_gBlock_dt] at hv
  rw [treeMultiResult_eq_gTree_dt]
  exact srcStep_of_view_dt _ false mm kids srcs R hv

theorem tmBlock_view_idem_tm (e : Envs) (mo : Obj) (srcs R : List Obj) (ht : TMObj mo) (hr : RefetchTree [mo])
    (hv : activeNamed mo.name R = tmBlock e mo srcs) : tmBlock e mo R = tmBlock e mo srcs := by
  rw [tmBlock_eq_gBlock_dt] at hv
  rw [tmBlock_eq_gBlock_dt, tmBlock_eq_gBlock_dt]
  exact gBlock_comp_dt (goodFam_blockL_dt e 0) false false
    (fun mm mws l ht hv => blockL_idem e 0 mm mws l ht hv) mo srcs R ht hr hv

theorem treeMultiResult_idem_tm (e : Envs) (mkids srcs : List Obj) (hf : TreeMultiMaster mkids)
    (hr : RefetchTree mkids) :
    treeMultiResult e mkids (treeMultiResult e mkids srcs) = treeMultiResult e mkids srcs := by
  rw [treeMultiResult_eq_gTree_dt, treeMultiResult_eq_gTree_dt]
  exact gTree_comp_self_dt (goodFam_blockL_dt e 0) false false
    (fun mm mws l ht hv => blockL_idem e 0 mm mws l ht hv) mkids srcs hf hr

theorem noClash_treeMultiResult_tm (e : Envs) (mkids srcs : List Obj) (hf : TreeMultiMaster mkids) :
    noClash mkids (treeMultiResult e mkids srcs) = true := by
  rw [treeMultiResult_eq_gTree_dt]
  exact noClash_gTree_dt (goodFam_blockL_dt e 0) false mkids srcs hf

theorem srcTree_treeMultiResult_tm (e : Envs) (mkids srcs : List Obj) (hf : TreeMultiMaster mkids)
    (hr : RefetchTree mkids) (hdol : SrcNoDollar srcs) : SrcTree (treeMultiResult e mkids srcs) := by
  rw [treeMultiResult_eq_gTree_dt]
  exact srcTree_gTree_dt (goodFam_blockL_dt e 0) false mkids srcs hf hr hdol

/-! ### masters without `.multiple` -/

-- `envNone` stands for any environment: without a `.multiple` definition `tmBlock` never looks at `e`
-- (`tmBlock_of_treeObj`).
theorem treeObj_view_idem : ∀ (mo : Obj) (srcs R : List Obj), TreeObj mo → RefetchTree [mo] →
    activeNamed mo.name R = [treeObj mo srcs] → treeObj mo R = treeObj mo srcs := by
  intro mo srcs R ht hr hv
  have h := tmBlock_view_idem_tm envNone mo srcs R ht.toTM hr (by rw [tmBlock_of_treeObj _ _ _ ht]; exact hv)
  rw [tmBlock_of_treeObj _ _ _ ht, tmBlock_of_treeObj _ _ _ ht] at h
  exact List.singleton_inj.mp h

theorem treeResult_idem (mkids srcs : List Obj) (hf : TreeMaster mkids) (hr : RefetchTree mkids) :
    treeResult mkids (treeResult mkids srcs) = treeResult mkids srcs := by
  have h := treeMultiResult_idem_tm envNone mkids srcs hf.toMulti hr
  rwa [treeMultiResult_eq_treeResult_tm _ _ _ hf.kids, treeMultiResult_eq_treeResult_tm _ _ _ hf.kids] at h

theorem noClashObj_view_tree : ∀ (mo : Obj) (srcs R : List Obj), TreeObj mo →
    activeNamed mo.name R = [treeObj mo srcs] → noClashObj mo R = true :=
  fun mo srcs R ht hv =>
    noClashObj_view_dt (goodFam_blockL_dt envNone 0) false mo srcs R ht.toTM
      (by rw [← tmBlock_eq_gBlock_dt, tmBlock_of_treeObj _ _ _ ht]; exact hv)

theorem noClash_treeResult (mkids srcs : List Obj) (hf : TreeMaster mkids) :
    noClash mkids (treeResult mkids srcs) = true := by
  have h := noClash_treeMultiResult_tm envNone mkids srcs hf.toMulti
  rwa [treeMultiResult_eq_treeResult_tm _ _ _ hf.kids] at h

theorem srcTree_treeResult (mkids srcs : List Obj) (hf : TreeMaster mkids) (hr : RefetchTree mkids)
    (hdol : SrcNoDollar srcs) : SrcTree (treeResult mkids srcs) := by
  have h := srcTree_treeMultiResult_tm envNone mkids srcs hf.toMulti hr hdol
  rwa [treeMultiResult_eq_treeResult_tm _ _ _ hf.kids] at h

/-- **C07.**  Fetching the result again, as the only source, returns the same result (and cannot
    fail). -/
theorem tree_refetch_idempotent (e : Envs) (fuel : Nat) (sm : Meta) (mkids srcs : List Obj)
    (hf : TreeMaster mkids) (hfuel : depthL mkids + 1 ≤ fuel) (hsd : sm.disabled = false)
    (hr : RefetchTree mkids) (hdol : SrcNoDollar srcs) :
    fetchScope e fuel false sm mkids (treeResult mkids srcs) =
      .ok (.scope { sm with tmpl := 0 } (treeResult mkids srcs),
           treeUsed mkids (treeResult mkids srcs)) := by
  rw [fetch_tree e fuel sm mkids _ hf hfuel hsd (srcTree_treeResult mkids srcs hf hr hdol)
    (noClash_treeResult mkids srcs hf), treeResult_idem mkids srcs hf hr]

/-! ## 9. C05: last value wins at every depth -/

/-- the first object called `n` -/
def findNamedTree (objs : List Obj) (n : Str) : Option Obj := objs.find? (fun o => o.name == n)

/-- the definition at a path: follow the scope names `ps`, then take the definition called `n` -/
def defAt : List Obj → List Str → Str → Option Obj
  | objs, [], n =>
    match findNamedTree objs n with
    | some (.defn m ws) => some (.defn m ws)
    | _ => none
  | objs, s :: ps, n =>
    match findNamedTree objs s with
    | some (.scope _ kids) => defAt kids ps n
    | _ => none

/-- the dotted spelling of a path -/
def dottedPath : List Str → Str → Str
  | [], n => n
  | s :: ps, n => s ++ '.' :: dottedPath ps n

theorem findNamed_treeResult (mkids srcs : List Obj) (n : Str) :
    findNamedTree (treeResult mkids srcs) n = (findNamedTree mkids n).map (fun mo => treeObj mo srcs) := by
  unfold findNamedTree
  rw [treeResult_eq_map, List.find?_map]
  have hfun : ((fun (o : Obj) => o.name == n) ∘ fun mo => treeObj mo srcs) = (fun o => o.name == n) := by
    funext o
    show ((treeObj o srcs).name == n) = (o.name == n)
    rw [treeObj_name]
  rw [hfun]

theorem findNamed_name {l : List Obj} {n : Str} {o : Obj} (h : findNamedTree l n = some o) : o.name = n := by
  unfold findNamedTree at h
  have := List.find?_some h
  simpa using this

theorem defAt_treeResult : ∀ (ps : List Str) (mkids srcs : List Obj) (n : Str),
    defAt (treeResult mkids srcs) ps n = (defAt mkids ps n).map (fun mo => treeObj mo (srcAt srcs ps))
  | [], mkids, srcs, n => by
    rw [defAt, defAt, findNamed_treeResult, srcAt]
    cases findNamedTree mkids n with
    | none => rfl
    | some mo =>
      cases mo with
      | scope mm kids => simp only [Option.map_some, treeObj]; rfl
      | defn mm mws =>
        simp only [Option.map_some]
        rw [treeObj]
        cases lastDef srcs mm.name <;> rfl
  | s :: ps, mkids, srcs, n => by
    rw [defAt, defAt, findNamed_treeResult, srcAt]
    cases hfn : findNamedTree mkids s with
    | none => rfl
    | some mo =>
      cases mo with
      | defn mm mws =>
        simp only [Option.map_some]
        rw [treeObj]
        cases lastDef srcs mm.name <;> rfl
      | scope mm kids =>
        have hname : mm.name = s := findNamed_name hfn
        simp only [Option.map_some, treeObj]
        rw [defAt_treeResult ps kids (srcStep srcs mm.name) n, hname]

theorem defAt_nil_eq_some {l : List Obj} {n : Str} {o : Obj} (h : defAt l [] n = some o) :
    findNamedTree l n = some o ∧ o.isDefn = true := by
  rw [defAt] at h
  split at h
  · cases h
    exact ⟨‹_›, rfl⟩
  · cases h

theorem defAt_cons_eq_some {l : List Obj} {s : Str} {ps : List Str} {n : Str} {o : Obj}
    (h : defAt l (s :: ps) n = some o) :
    ∃ m kids, findNamedTree l s = some (.scope m kids) ∧ defAt kids ps n = some o := by
  rw [defAt] at h
  split at h
  · exact ⟨_, _, ‹_›, h⟩
  · cases h

theorem defAt_name : ∀ (ps : List Str) (l : List Obj) (n : Str) (o : Obj),
    defAt l ps n = some o → o.name = n ∧ o.isDefn = true
  | [], l, n, o, h => ⟨findNamed_name (defAt_nil_eq_some h).1, (defAt_nil_eq_some h).2⟩
  | s :: ps, l, n, o, h => by
    obtain ⟨m, kids, _, h'⟩ := defAt_cons_eq_some h
    exact defAt_name ps kids n o h'

/-- **C05 (last value wins at every depth).**  Where the master has the definition `mm` at the path
    `ps.n`, the result has, at the same path, that definition with the (resolved) words of the LAST
    enabled source definition reached by that path — over all sources and all spellings — or the
    master definition itself if there is none. -/
theorem last_value_wins_at_depth_tree (mkids srcs : List Obj) (ps : List Str) (n : Str)
    (mm : Meta) (mws : List Word) (h : defAt mkids ps n = some (.defn mm mws)) :
    defAt (treeResult mkids srcs) ps n =
      some (match lastDef (srcAt srcs ps) n with
            | some d => .defn { mm with tmpl := 0 } d.srcWords
            | none => .defn mm mws) := by
  have hn : mm.name = n := (defAt_name ps mkids n _ h).1
  rw [defAt_treeResult, h, Option.map_some, treeObj, hn]

theorem allDefs_at_path_tree (n : Str) (hn : '.' ∉ n) (hinc : n ≠ "include".toList) :
    ∀ (ps : List Str) (srcs : List Obj) (p : Str), (∀ s ∈ ps, '.' ∉ s) →
    (∀ x, ActiveIn x srcs → '.' ∉ x.name) →
    (allDefsObj.allDefsList srcs p).filter (fun x => x.1 == p ++ dottedPath ps n) =
      (defsNamed n (srcAt srcs ps)).map (fun d => (p ++ dottedPath ps n, d.meta, d.words))
  | [], srcs, p, _, _ => by
    rw [srcAt, dottedPath]
    exact allDefs_defsNamed n p hn hinc srcs
  | s :: ps, srcs, p, hps, hs => by
    have hA := allDefs_srcStep_tree s p (hps s List.mem_cons_self) srcs (fun o ho hd => hs o (.here ho hd))
    have hpath : p ++ dottedPath (s :: ps) n = (p ++ s ++ ['.']) ++ dottedPath ps n := by
      rw [dottedPath]; simp
    have hsplit : (allDefsObj.allDefsList srcs p).filter (fun x => x.1 == p ++ dottedPath (s :: ps) n) =
        ((allDefsObj.allDefsList srcs p).filter (fun x => startsWith (p ++ s ++ ['.']) x.1)).filter
          (fun x => x.1 == (p ++ s ++ ['.']) ++ dottedPath ps n) := by
      rw [List.filter_filter, hpath]
      apply List.filter_congr
      intro x _
      cases heq : x.1 == (p ++ s ++ ['.']) ++ dottedPath ps n with
      | false => rfl
      | true =>
        have : x.1 = (p ++ s ++ ['.']) ++ dottedPath ps n := by simpa using heq
        rw [(startsWith_iff _ _).mpr ⟨_, this⟩]
        rfl
    rw [hsplit, hA, srcAt, hpath]
    exact allDefs_at_path_tree n hn hinc ps (srcStep srcs s) (p ++ s ++ ['.'])
      (fun s' hs' => hps s' (List.mem_cons_of_mem _ hs')) (fun x hx => hs x (activeIn_srcStep hx))

theorem defsNamed_of_allDefs_tm (n : Str) (hn : '.' ∉ n) (hinc : n ≠ "include".toList)
    (ps : List Str) (srcs : List Obj) (hps : ∀ s ∈ ps, '.' ∉ s)
    (hs : ∀ x, ActiveIn x srcs → '.' ∉ x.name) :
    ((allDefinitions srcs).filter (fun x => x.1 == dottedPath ps n)).map (fun x => Obj.defn x.2.1 x.2.2) =
      defsNamed n (srcAt srcs ps) := by
  have h := allDefs_at_path_tree n hn hinc ps srcs [] hps hs
  simp only [List.nil_append] at h
  unfold allDefinitions
  rw [h, List.map_map]
  calc (defsNamed n (srcAt srcs ps)).map _ = (defsNamed n (srcAt srcs ps)).map id := by
        apply List.map_congr_left
        intro d hd
        have hdef := (mem_defsNamed.mp hd).2.1
        cases d with
        | scope m k => cases hdef
        | defn m ws => rfl
    _ = _ := List.map_id _

theorem findNamed_mem {l : List Obj} {n : Str} {o : Obj} (h : findNamedTree l n = some o) : o ∈ l := by
  unfold findNamedTree at h
  exact List.mem_of_find?_eq_some h

theorem gBlock_at_path_dt {B : DefBlock_dt} (hB : GoodFam_dt B) (drop : Bool) :
    ∀ (ps : List Str) (mkids srcs : List Obj) (n : Str) (mm : Meta) (mws : List Word),
      TreeMultiMaster mkids → defAt mkids ps n = some (.defn mm mws) →
      activeNamed n (srcAt (gTree_dt B drop mkids srcs) ps) = B (.defn mm mws) (defsNamed n (srcAt srcs ps))
  | [], mkids, srcs, n, mm, mws, hf, h => by
    have hfn := (defAt_nil_eq_some h).1
    have hn : mm.name = n := findNamed_name hfn
    have := view_dt hB drop mkids srcs hf _ (findNamed_mem hfn)
    rw [gBlock_dt] at this
    rw [srcAt, srcAt, ← hn]
    exact this
  | s :: ps, mkids, srcs, n, mm, mws, hf, h => by
    obtain ⟨m, kids, hfn, h'⟩ := defAt_cons_eq_some h
    have hs : m.name = s := findNamed_name hfn
    have hmem := findNamed_mem hfn
    rw [srcAt, srcAt, ← hs,
      srcStep_of_view_dt B drop m kids srcs _ (view_dt hB drop mkids srcs hf _ hmem)]
    exact gBlock_at_path_dt hB drop ps kids (srcStep srcs m.name) n mm mws
      (TreeMultiMaster.of_scope (hf.obj _ hmem)) h'

theorem defAt_dotfree_tm : ∀ (ps : List Str) (l : List Obj) (n : Str) (o : Obj), TMKids l →
    defAt l ps n = some o → '.' ∉ n ∧ ∀ s ∈ ps, '.' ∉ s
  | [], l, n, o, ht, h => by
    have hfn := (defAt_nil_eq_some h).1
    have hd := ((tmKids_iff l).mp ht o (findNamed_mem hfn)).dotfree
    rw [findNamed_name hfn] at hd
    exact ⟨hd, fun s hs => by cases hs⟩
  | s :: ps, l, n, o, ht, h => by
    obtain ⟨m, kids, hfn, h'⟩ := defAt_cons_eq_some h
    have hto := (tmKids_iff l).mp ht _ (findNamed_mem hfn)
    have hd := hto.dotfree
    rw [findNamed_name hfn] at hd
    have ih := defAt_dotfree_tm ps kids n o (TreeMultiMaster.of_scope hto).kids h'
    exact ⟨ih.1, fun s' hs' => (List.mem_cons.mp hs').elim (fun h => h ▸ hd) (ih.2 s')⟩

/-- **C05, in terms of `all_definitions(sources)`**: the words of the result definition at the path
    `ps.n` are the (resolved) words of the LAST entry of `all_definitions(sources)` whose dotted path
    is `ps.n`, or the master's words if there is none. -/
theorem last_value_wins_allDefs_tree (mkids srcs : List Obj) (hf : TreeMaster mkids)
    (hs : ∀ x, ActiveIn x srcs → '.' ∉ x.name)
    (ps : List Str) (n : Str) (hinc : n ≠ "include".toList)
    (mm : Meta) (mws : List Word) (h : defAt mkids ps n = some (.defn mm mws)) :
    (defAt (treeResult mkids srcs) ps n).map Obj.words =
      some (match ((allDefinitions srcs).filter (fun x => x.1 == dottedPath ps n)).getLast? with
            | some x => (Obj.defn x.2.1 x.2.2).srcWords
            | none => mws) := by
  obtain ⟨hn, hps⟩ := defAt_dotfree_tm ps mkids n _ hf.toMulti.kids h
  rw [last_value_wins_at_depth_tree mkids srcs ps n mm mws h, lastDef,
    ← defsNamed_of_allDefs_tm n hn hinc ps srcs hps hs, List.getLast?_map]
  cases ((allDefinitions srcs).filter (fun x => x.1 == dottedPath ps n)).getLast? <;> rfl

/-! ## 10. executable checks of the hypotheses (for concrete and parsed instances) -/

mutual
def allActiveObj (P : Obj → Bool) : Obj → Bool
  | .defn m ws => P (.defn m ws)
  | .scope m kids => P (.scope m kids) && allActive P kids
/-- `P` holds for every object that is enabled and lies below enabled scopes only -/
def allActive (P : Obj → Bool) : List Obj → Bool
  | [] => true
  | o :: os => (o.meta.disabled || allActiveObj P o) && allActive P os
end

theorem allActive_mem (P : Obj → Bool) : ∀ (l : List Obj), allActive P l = true →
    ∀ o ∈ l, o.meta.disabled = false → allActiveObj P o = true
  | [], _, o, ho, _ => by cases ho
  | a :: os, h, o, ho, hd => by
    rw [allActive, Bool.and_eq_true] at h
    rw [List.mem_cons] at ho
    rcases ho with rfl | ho
    · have := h.1
      rw [hd] at this
      simpa using this
    · exact allActive_mem P os h.2 o ho hd

theorem allActiveObj_self (P : Obj → Bool) (o : Obj) (h : allActiveObj P o = true) : P o = true := by
  cases o with
  | defn m ws => rw [allActiveObj] at h; exact h
  | scope m kids => rw [allActiveObj, Bool.and_eq_true] at h; exact h.1

theorem allActive_sound (P : Obj → Bool) {x : Obj} {l : List Obj} (hx : ActiveIn x l) :
    allActive P l = true → P x = true := by
  induction hx with
  | here hm hd => intro h; exact allActiveObj_self P _ (allActive_mem P _ h _ hm hd)
  | deeper hm hd _ ih =>
    intro h
    have := allActive_mem P _ h _ hm hd
    rw [allActiveObj, Bool.and_eq_true] at this
    exact ih this.2

def plainMetaB (mm : Meta) : Bool :=
  !(mm.attrs.get "multiple").truthy && !(mm.attrs.get "deprecated").truthy &&
    (match mm.attrs.get "type" with
     | .conv (.choice _) => false
     | _ => true)

theorem plainMetaB_sound (mm : Meta) (h : plainMetaB mm = true) : PlainMeta mm := by
  unfold plainMetaB at h
  simp only [Bool.and_eq_true, Bool.not_eq_true'] at h
  refine ⟨h.1.1, h.1.2, ?_⟩
  intro b hb
  rw [hb] at h
  exact absurd h.2 (by simp)

mutual
def treeObjB : Obj → Bool
  | .defn mm _ => plainMetaB mm && !mm.name.isEmpty && !mm.name.contains '.' && !mm.disabled
  | .scope mm kids =>
    !(mm.attrs.get "multiple").truthy && !mm.name.isEmpty && !mm.name.contains '.' && !mm.disabled &&
      treeKidsB kids && decide ((kids.map Obj.name).Pairwise (· ≠ ·))
def treeKidsB : List Obj → Bool
  | [] => true
  | o :: os => treeObjB o && treeKidsB os
end

mutual
theorem treeObjB_sound : ∀ (o : Obj), treeObjB o = true → TreeObj o
  | .defn mm mws, h => by
    rw [treeObjB] at h
    simp only [Bool.and_eq_true, Bool.not_eq_true', List.contains_eq_mem, decide_eq_false_iff_not] at h
    rw [TreeObj]
    exact ⟨plainMetaB_sound mm h.1.1.1, List.isEmpty_eq_false_iff.mp h.1.1.2, h.1.2, h.2⟩
  | .scope mm kids, h => by
    rw [treeObjB] at h
    simp only [Bool.and_eq_true, Bool.not_eq_true', List.contains_eq_mem, decide_eq_false_iff_not,
      decide_eq_true_eq] at h
    rw [TreeObj]
    exact ⟨h.1.1.1.1.1, List.isEmpty_eq_false_iff.mp h.1.1.1.1.2, h.1.1.1.2, h.1.1.2,
      treeKidsB_sound kids h.1.2, h.2⟩
theorem treeKidsB_sound : ∀ (l : List Obj), treeKidsB l = true → TreeKids l
  | [], _ => by rw [TreeKids]; trivial
  | o :: os, h => by
    rw [treeKidsB, Bool.and_eq_true] at h
    rw [TreeKids]
    exact ⟨treeObjB_sound o h.1, treeKidsB_sound os h.2⟩
end

/-- executable form of `TreeMaster` -/
def treeMasterB (mkids : List Obj) : Bool :=
  treeKidsB mkids && decide ((mkids.map Obj.name).Pairwise (· ≠ ·))

theorem treeMasterB_sound (mkids : List Obj) (h : treeMasterB mkids = true) : TreeMaster mkids := by
  unfold treeMasterB at h
  simp only [Bool.and_eq_true, decide_eq_true_eq] at h
  exact ⟨treeKidsB_sound mkids h.1, h.2⟩

/-- executable form of the master-side side conditions: a `TreeMaster` nested at most 1000 deep, no
    definition called `include`, fit for re-fetching -/
def masterCheck (mkids : List Obj) : Bool :=
  treeMasterB mkids && decide (depthL mkids ≤ 1000) &&
    allActive (fun d => !d.isDefn ||
      (d.name != "include".toList && d.meta.tmpl == 0 && d.meta.varRes.isNone && !hasDollar d.words)) mkids

/-- executable form of the source-side side conditions, at every depth below enabled scopes:
    definitions variable-free without recorded resolution, names dot-free, scopes named -/
def srcCheck (srcs : List Obj) : Bool :=
  allActive (fun o => !o.name.contains '.' &&
    (if o.isDefn then o.meta.varRes.isNone && !hasDollar o.words else !o.name.isEmpty)) srcs

/-- what `masterCheck` establishes: the hypotheses on the master of the C04–C07 corollaries for a
    `TreeMaster`; `depth` keeps the nesting within the fuel `fetchRoot` computes (`depthObj 1000`) -/
structure MasterOK (mkids : List Obj) : Prop where
  tree : TreeMaster mkids
  depth : depthL mkids ≤ 1000
  noInclude : NoIncludeTree mkids
  refetch : RefetchTree mkids

/-- what `srcCheck` establishes of a source list -/
structure SrcsOK (srcs : List Obj) : Prop where
  tree : SrcTree srcs
  plain : SrcPlain srcs
  noDollar : SrcNoDollar srcs

theorem noInclude_refetch_of_allActive (mkids : List Obj)
    (h : allActive (fun d => !d.isDefn ||
      (d.name != "include".toList && d.meta.tmpl == 0 && d.meta.varRes.isNone && !hasDollar d.words))
      mkids = true) : NoIncludeTree mkids ∧ RefetchTree mkids := by
  have key : ∀ d, ActiveIn d mkids → d.isDefn = true →
      d.name ≠ "include".toList ∧ d.meta.tmpl = 0 ∧ d.meta.varRes = none ∧ hasDollar d.words = false := by
    intro d hd hdef
    have := allActive_sound _ hd h
    simpa [hdef, and_assoc] using this
  exact ⟨fun d hd hdef => (key d hd hdef).1, fun d hd hdef => (key d hd hdef).2⟩

theorem masterCheck_sound (mkids : List Obj) (h : masterCheck mkids = true) : MasterOK mkids := by
  unfold masterCheck at h
  simp only [Bool.and_eq_true, decide_eq_true_eq] at h
  exact ⟨treeMasterB_sound mkids h.1.1, h.1.2, (noInclude_refetch_of_allActive mkids h.2).1,
    (noInclude_refetch_of_allActive mkids h.2).2⟩

theorem srcCheck_sound (srcs : List Obj) (h : srcCheck srcs = true) : SrcsOK srcs := by
  unfold srcCheck at h
  have key : ∀ x, ActiveIn x srcs →
      '.' ∉ x.name ∧ (x.isDefn = true → x.meta.varRes = none ∧ hasDollar x.words = false) ∧
        (x.isDefn = false → x.name ≠ []) := by
    intro x hx
    have := allActive_sound _ hx h
    simp only [Bool.and_eq_true, Bool.not_eq_true', List.contains_eq_mem, decide_eq_false_iff_not] at this
    refine ⟨this.1, ?_, ?_⟩
    · intro hdef
      have h2 := this.2
      simp only [hdef, if_true, Bool.and_eq_true, Option.isNone_iff_eq_none, Bool.not_eq_true'] at h2
      exact h2
    · intro hdef
      have h2 := this.2
      simp only [hdef, Bool.false_eq_true, if_false, Bool.not_eq_true'] at h2
      exact List.isEmpty_eq_false_iff.mp h2
  refine ⟨⟨?_, ?_⟩, ⟨?_, ?_⟩, ?_⟩
  · intro x hx hdef
    have := (key x hx).2.1 hdef
    exact .inr this
  · intro m kids hx
    exact (key _ hx).2.2 rfl
  · intro x hx hdef
    exact srcRefs_of_varRes_none x ((key x hx).2.1 hdef).1
  · intro x hx
    exact (key x hx).1
  · intro x hx hdef
    have := (key x hx).2.1 hdef
    rw [srcWords_of_varRes_none x this.1]
    exact this.2

/-! ## 11. the master's definition paths are the paths of `all_definitions(master)` -/

mutual
theorem defPathsObj_eq_allDefs_of {P : Obj → Prop} (hP : TreePathClass P) :
    ∀ (o : Obj) (p : Str), P o → NoIncludeTree [o] → defPathsObj o p = (allDefsObj o p).map (·.1)
  | .defn mm mws, p, ht, hinc => by
    have : (mm.name == "include".toList) = false :=
      beq_eq_false_iff_ne.mpr (hinc _ (.self (hP.enabled ht)) rfl)
    rw [defPathsObj, allDefsObj, this]
    rfl
  | .scope mm kids, p, ht, hinc => by
    rw [defPathsObj, allDefsObj]
    exact defPaths_eq_allDefs_of hP kids _ (hP.kids ht) (fun d hd => hinc d (hd.kid (hP.enabled ht)))
theorem defPaths_eq_allDefs_of {P : Obj → Prop} (hP : TreePathClass P) :
    ∀ (l : List Obj) (p : Str), (∀ o ∈ l, P o) → NoIncludeTree l →
    defPaths l p = (allDefsObj.allDefsList l p).map (·.1)
  | [], p, _, _ => by rw [defPaths, allDefsObj.allDefsList]; rfl
  | o :: os, p, ht, hinc => by
    rw [defPaths, allDefsObj.allDefsList, hP.enabled (ht o List.mem_cons_self), List.map_append,
      defPathsObj_eq_allDefs_of hP o p (ht o List.mem_cons_self) hinc.head,
      defPaths_eq_allDefs_of hP os p (fun x hx => ht x (List.mem_cons_of_mem _ hx)) hinc.tail]
    rfl
end

theorem defPathsObj_eq_allDefs_tree : ∀ (o : Obj) (p : Str), TreeObj o → NoIncludeTree [o] →
    defPathsObj o p = (allDefsObj o p).map (·.1) :=
  fun o p ht => defPathsObj_eq_allDefs_of tmObj_pathClass o p ht.toTM

theorem defPaths_eq_allDefinitions (mkids : List Obj) (hf : TreeMaster mkids) (hinc : NoIncludeTree mkids) :
    defPaths mkids [] = (allDefinitions mkids).map (·.1) :=
  defPaths_eq_allDefs_of tmObj_pathClass mkids [] hf.toMulti.obj hinc

end Phil
