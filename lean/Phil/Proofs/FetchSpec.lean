/-
  Phil.Proofs.FetchSpec — exact specifications of scope.fetch for flat masters: (A) sources mixing root-level
  definitions and scopes, with the consumed ids and the unused list characterised exactly (C06); (B) `.multiple`
  definitions: the candidate loop in closed form (`cand_fold`, `multiBranch_clinks`) and the list rule (C05);
  (C) re-fetching the result (C07), through families of blocks taken as the source of a fetch (`GoodBlocks`).
-/
import Phil.Proofs.FetchLemmas
set_option linter.unusedVariables false
namespace Phil

/-! ## A. flat masters, sources with root-level definitions and scopes (C06) -/

/-- the root-level definitions of a source list -/
def defnsOf (l : List Obj) : List Obj := l.filter Obj.isDefn

theorem activeNamed_defnsOf (p : Str) (l : List Obj)
    (h : ∀ m kids, Obj.scope m kids ∈ l → m.disabled = false → m.name ≠ p) :
    activeNamed p l = activeNamed p (defnsOf l) := by
  unfold activeNamed defnsOf
  rw [List.filter_filter]
  apply List.filter_congr
  intro o ho
  cases o with
  | defn m ws => simp [Obj.isDefn]
  | scope m kids =>
    simp only [Obj.isDefn, Bool.and_false]
    cases hd : m.disabled with
    | true => simp [Obj.meta, hd]
    | false =>
      have := h m kids ho hd
      simp [Obj.meta, Obj.name, hd, this]

/-- sources consisting of root-level definitions and named scopes, no enabled scope bearing one of
    the names `names` -/
structure MixedSrc (names : List Str) (combined : List Obj) : Prop where
  scopeNamed : ∀ m kids, Obj.scope m kids ∈ combined → m.name ≠ []
  noClash : ∀ m kids, Obj.scope m kids ∈ combined → m.disabled = false → m.name ∉ names

theorem mem_defnsOf {l : List Obj} {o : Obj} : o ∈ defnsOf l ↔ o ∈ l ∧ o.isDefn = true := by
  unfold defnsOf; rw [List.mem_filter]

theorem MixedSrc.activeNamed {names : List Str} {combined : List Obj} (h : MixedSrc names combined)
    {n : Str} (hn : n ∈ names) : activeNamed n combined = activeNamed n (defnsOf combined) :=
  activeNamed_defnsOf n combined (fun m kids hm hd heq => h.noClash m kids hm hd (heq ▸ hn))

theorem mem_activeNamed {p : Str} {l : List Obj} {d : Obj} :
    d ∈ activeNamed p l ↔ d ∈ l ∧ d.meta.disabled = false ∧ d.name = p := by
  unfold activeNamed
  rw [List.mem_filter]
  simp

/-- the enabled definitions of `l` called `n` -/
def defsNamed (n : Str) (l : List Obj) : List Obj :=
  l.filter (fun o => o.isDefn && !o.meta.disabled && o.name == n)

theorem mem_defsNamed {n : Str} {l : List Obj} {d : Obj} :
    d ∈ defsNamed n l ↔ d ∈ l ∧ d.isDefn = true ∧ d.meta.disabled = false ∧ d.name = n := by
  unfold defsNamed
  rw [List.mem_filter]
  simp [and_assoc]

/-! ### an enabled source scope bearing a master name makes the fetch fail -/

/-- **flat masters (dot-free names), sources of definitions and named scopes at the same level:
    complete description of the fetch.**  It fails ("incompatible") exactly when an enabled source
    scope bears the name of a master definition. -/
theorem fetch_flat_mixed_total (e : Envs) (fuel : Nat) (sm : Meta) (mkids combined : List Obj)
    (hf : FlatMaster mkids) (hdot : ∀ mo ∈ mkids, '.' ∉ mo.name)
    (hsd : sm.disabled = false)
    (hsc : ∀ m kids, Obj.scope m kids ∈ combined → m.name ≠ [])
    (hsrc : ∀ o ∈ combined, o.isDefn = true → SrcOK o) :
    fetchScope e (fuel + 1) false sm mkids combined =
      if mkids.all (fun mo => (activeNamed mo.name combined).all Obj.isDefn) then
        .ok (.scope { sm with tmpl := 0 } (flatResult mkids combined), flatUsed mkids combined)
      else .error incompatibleErr := by
  unfold flatResult
  rw [List.map_eq_flatMap]
  refine fetchScope_of_steps e fuel false sm mkids combined _ _ _ _ (masterActive_flat mkids hf) ?_
  intro st i mo hmem
  have hmo : mo ∈ mkids := snd_mem_of_mem_indexed hmem
  obtain ⟨mm, mws, rfl, hp, hname, _⟩ := hf.plain mo hmo
  rw [stepG_plain_of_matching _ e fuel sm mkids combined _ st i mm mws hp
      (fetchMatching_tree fuel sm combined _ hsd hname (hdot _ hmo) (fun m kids hm _ => hsc m kids hm)),
    findSome_srcErrOf_ok _ (fun o ho => hsrc o (mem_activeNamed.mp ho).1)]
  cases (activeNamed (Obj.defn mm mws).name combined).all Obj.isDefn <;> rfl

/-- **flat masters, mixed sources: complete description of the result.**  Source scopes whose name
    is no master name are ignored altogether. -/
theorem fetch_flat_mixed (e : Envs) (fuel : Nat) (sm : Meta) (mkids combined : List Obj)
    (hf : FlatMaster mkids) (hdot : ∀ mo ∈ mkids, '.' ∉ mo.name)
    (hsd : sm.disabled = false)
    (hmix : MixedSrc (mkids.map Obj.name) combined)
    (hsrc : ∀ o ∈ combined, o.isDefn = true → SrcOK o) :
    fetchScope e (fuel + 1) false sm mkids combined =
      .ok (.scope { sm with tmpl := 0 } (flatResult mkids (defnsOf combined)),
           flatUsed mkids (defnsOf combined)) := by
  have hact : ∀ mo ∈ mkids, activeNamed mo.name combined = activeNamed mo.name (defnsOf combined) :=
    fun mo hmo => hmix.activeNamed (List.mem_map.mpr ⟨mo, hmo, rfl⟩)
  rw [fetch_flat_mixed_total e fuel sm mkids combined hf hdot hsd hmix.scopeNamed hsrc, if_pos]
  · unfold flatResult flatUsed
    rw [List.map_congr_left (fun mo hmo => by rw [hact mo hmo]),
      flatMap_congr_mem _ _ mkids (fun mo hmo => by rw [hact mo hmo])]
  · rw [List.all_eq_true]
    intro mo hmo
    rw [hact mo hmo, List.all_eq_true]
    exact fun o ho => (mem_defnsOf.mp (mem_activeNamed.mp ho).1).2

/-- **clash.**  Flat master: an enabled source scope at the same level bearing the name of a
    master definition makes the fetch fail with `RuntimeError` ("incompatible"). -/
theorem fetch_flat_clash (e : Envs) (fuel : Nat) (sm : Meta) (mkids combined : List Obj)
    (hf : FlatMaster mkids) (hdot : ∀ mo ∈ mkids, '.' ∉ mo.name)
    (hsd : sm.disabled = false)
    (hsc : ∀ m kids, Obj.scope m kids ∈ combined → m.name ≠ [])
    (hsrc : ∀ o ∈ combined, o.isDefn = true → SrcOK o)
    (m : Meta) (k : List Obj) (hm : Obj.scope m k ∈ combined) (hmd : m.disabled = false)
    (hmn : m.name ∈ mkids.map Obj.name) :
    fetchScope e (fuel + 1) false sm mkids combined = .error incompatibleErr := by
  rw [fetch_flat_mixed_total e fuel sm mkids combined hf hdot hsd hsc hsrc, if_neg]
  intro hall
  obtain ⟨mo, hmo, hmon⟩ := List.mem_map.mp hmn
  have := List.all_eq_true.mp (List.all_eq_true.mp hall mo hmo) (.scope m k)
    (mem_activeNamed.mpr ⟨hm, hmd, hmon.symm⟩)
  cases this

/-! ### the consumed ids, exactly -/

theorem mem_flatUsed {mkids D : List Obj} {i : Nat} :
    i ∈ flatUsed mkids D ↔
      ∃ mo ∈ mkids, ∃ d ∈ D, d.meta.disabled = false ∧ d.name = mo.name ∧ i ∈ marksOf d := by
  unfold flatUsed
  simp only [List.mem_flatMap, mem_activeNamed]
  constructor
  · rintro ⟨mo, hmo, d, ⟨hd, hdis, hn⟩, hi⟩
    exact ⟨mo, hmo, d, hd, hdis, hn, hi⟩
  · rintro ⟨mo, hmo, d, hd, hdis, hn, hi⟩
    exact ⟨mo, hmo, d, ⟨hd, hdis, hn⟩, hi⟩

theorem mem_marksOf_noRefs {d : Obj} {i : Nat} (h : srcRefs d = []) :
    i ∈ marksOf d ↔ d.meta.id = some i := by
  unfold marksOf idOf
  rw [h, List.append_nil]
  cases d.meta.id with
  | none => simp
  | some j => simp [eq_comm]

theorem mem_flatUsed_defnsOf (mkids combined : List Obj) (hrefs : ∀ o ∈ combined, srcRefs o = []) (i : Nat) :
    i ∈ flatUsed mkids (defnsOf combined) ↔
      ∃ d ∈ combined, d.isDefn = true ∧ d.meta.disabled = false ∧ d.meta.id = some i ∧
        d.name ∈ mkids.map Obj.name := by
  rw [mem_flatUsed]
  constructor
  · rintro ⟨mo, hmo, d, hd, hdis, hn, hi⟩
    obtain ⟨hdc, hdd⟩ := mem_defnsOf.mp hd
    exact ⟨d, hdc, hdd, hdis, (mem_marksOf_noRefs (hrefs d hdc)).mp hi,
      hn ▸ List.mem_map.mpr ⟨mo, hmo, rfl⟩⟩
  · rintro ⟨d, hdc, hdd, hdis, hid, hn⟩
    obtain ⟨mo, hmo, hmn⟩ := List.mem_map.mp hn
    exact ⟨mo, hmo, d, mem_defnsOf.mpr ⟨hdc, hdd⟩, hdis, hmn.symm,
      (mem_marksOf_noRefs (hrefs d hdc)).mpr hid⟩

/-- **C06 (consumed ids, exactly; success case).**  Flat master at the root (dot-free names),
    sources made of root-level definitions and named scopes, variable-free.  Whenever the fetch
    succeeds, the consumed ids are exactly the ids of the enabled root-level source definitions
    named like a master child. -/
theorem flat_used_exact (e : Envs) (fuel : Nat) (sm : Meta) (mkids combined : List Obj)
    (hf : FlatMaster mkids) (hdot : ∀ mo ∈ mkids, '.' ∉ mo.name)
    (hsm : sm.name = []) (hsd : sm.disabled = false)
    (hsc : ∀ m kids, Obj.scope m kids ∈ combined → m.name ≠ [])
    (hsrc : ∀ o ∈ combined, o.isDefn = true → SrcOK o)
    (hrefs : ∀ o ∈ combined, srcRefs o = [])
    (ro : Obj) (used : List Nat)
    (h : fetchScope e fuel false sm mkids combined = .ok (ro, used)) (i : Nat) :
    i ∈ used ↔ ∃ d ∈ combined, d.isDefn = true ∧ d.meta.disabled = false ∧ d.meta.id = some i ∧
      d.name ∈ mkids.map Obj.name := by
  cases fuel with
  | zero => cases h
  | succ fuel =>
    -- success rules out an enabled source scope bearing a master name
    have hmix : MixedSrc (mkids.map Obj.name) combined := ⟨hsc, fun m kids hm hmd hmn => by
      rw [fetch_flat_clash e fuel sm mkids combined hf hdot hsd hsc hsrc m kids hm hmd hmn] at h
      cases h⟩
    rw [fetch_flat_mixed e fuel sm mkids combined hf hdot hsd hmix hsrc] at h
    cases h
    exact mem_flatUsed_defnsOf mkids combined hrefs i

/-! ### the unused list, exactly -/

mutual
theorem allDefsObj_prefix : ∀ (o : Obj) (p : Str) (x : Str × Meta × List Word),
    x ∈ allDefsObj o p → ∃ rest, x.1 = p ++ rest
  | .defn m ws, p, x, h => by
    rw [allDefsObj] at h
    split at h
    · cases h
    · simp only [List.mem_singleton] at h
      subst h
      exact ⟨m.name, rfl⟩
  | .scope m os, p, x, h => by
    rw [allDefsObj] at h
    obtain ⟨r, hr⟩ := allDefsList_prefix os _ x h
    exact ⟨m.name ++ ['.'] ++ r, by rw [hr]; simp⟩
theorem allDefsList_prefix : ∀ (l : List Obj) (p : Str) (x : Str × Meta × List Word),
    x ∈ allDefsObj.allDefsList l p → ∃ rest, x.1 = p ++ rest
  | [], p, x, h => by rw [allDefsObj.allDefsList] at h; cases h
  | o :: os, p, x, h => by
    rw [allDefsObj.allDefsList, List.mem_append] at h
    rcases h with h | h
    · split at h
      · cases h
      · exact allDefsObj_prefix o p x h
    · exact allDefsList_prefix os p x h
end

theorem defsNamed_cons (o : Obj) (os : List Obj) (n : Str) :
    defsNamed n (o :: os) =
      (if o.isDefn && !o.meta.disabled && o.name == n then [o] else []) ++ defsNamed n os := by
  unfold defsNamed
  rw [List.filter_cons]
  split <;> rfl

theorem allDefs_defsNamed (n p : Str) (hn : '.' ∉ n) (hinc : n ≠ "include".toList) :
    ∀ (l : List Obj),
    (allDefsObj.allDefsList l p).filter (fun x => x.1 == p ++ n) =
      (defsNamed n l).map (fun d => (p ++ n, d.meta, d.words)) := by
  intro l
  induction l with
  | nil => rfl
  | cons o os ih =>
    rw [allDefsObj.allDefsList, List.filter_append, ih, defsNamed_cons, List.map_append]
    congr 1
    cases hd : o.meta.disabled with
    | true => simp
    | false =>
      simp only [Bool.false_eq_true, if_false, Bool.not_false, Bool.and_true]
      cases o with
      | defn m ws =>
        have h1 : (Obj.defn m ws).isDefn = true := rfl
        have h2 : (Obj.defn m ws).name = m.name := rfl
        simp only [h1, h2, Bool.true_and]
        rw [allDefsObj]
        by_cases hmn : m.name = n
        · subst hmn
          have : (m.name == "include".toList) = false := beq_eq_false_iff_ne.mpr hinc
          rw [this]
          simp [Obj.meta, Obj.words]
        · have hne : (m.name == n) = false := beq_eq_false_iff_ne.mpr hmn
          simp only [hne, Bool.false_eq_true, if_false, List.map_nil]
          rw [List.filter_eq_nil_iff]
          intro x hx
          split at hx
          · cases hx
          · simp only [List.mem_singleton] at hx
            subst hx
            simpa using hmn
      | scope m kids =>
        have h1 : (Obj.scope m kids).isDefn = false := rfl
        simp only [h1, Bool.false_and, Bool.false_eq_true, if_false, List.map_nil]
        rw [List.filter_eq_nil_iff]
        intro x hx heq
        rw [allDefsObj] at hx
        obtain ⟨r, hr⟩ := allDefsList_prefix kids _ x hx
        have heq' : x.1 = p ++ n := by simpa using heq
        rw [hr] at heq'
        simp only [List.append_assoc, List.append_cancel_left_eq] at heq'
        apply hn
        rw [← heq']
        simp

theorem pairwise_map_eq {α β : Type} (f : α → β) : ∀ (l : List α), (l.map f).Pairwise (· ≠ ·) →
    ∀ x ∈ l, ∀ y ∈ l, f x = f y → x = y := by
  intro l
  induction l with
  | nil => intro _ x hx; cases hx
  | cons a l ih =>
    intro hn x hx y hy hxy
    rw [List.map_cons, List.pairwise_cons] at hn
    rw [List.mem_cons] at hx hy
    rcases hx with rfl | hx <;> rcases hy with rfl | hy
    · rfl
    · exact absurd hxy (hn.1 _ (List.mem_map.mpr ⟨y, hy, rfl⟩))
    · exact absurd hxy.symm (hn.1 _ (List.mem_map.mpr ⟨x, hx, rfl⟩))
    · exact ih hn.2 x hx y hy hxy

/-- the filter the driver applies to `all_definitions(sources)`: keep what was not consumed -/
def notConsumed (used : List Nat) (x : Str × Meta × List Word) : Bool :=
  match x.2.1.id with
  | some i => !used.contains i
  | none => true

theorem unused_filter_exact_tree (paths : List Str) (srcs : List Obj) (used : List Nat)
    (hsome : ∀ x ∈ allDefinitions srcs, x.2.1.id ≠ none)
    (hids : ((allDefinitions srcs).map (fun x => x.2.1.id)).Nodup)
    (hused : ∀ i, i ∈ used ↔ ∃ x ∈ allDefinitions srcs, x.2.1.id = some i ∧ x.1 ∈ paths) :
    (allDefinitions srcs).filter (notConsumed used) =
      (allDefinitions srcs).filter (fun x => !paths.contains x.1) := by
  apply List.filter_congr
  intro x hx
  cases hid : x.2.1.id with
  | none => exact absurd hid (hsome x hx)
  | some j =>
    have key : j ∈ used ↔ x.1 ∈ paths := by
      rw [hused]
      constructor
      · rintro ⟨y, hy, hyid, hyp⟩
        rw [pairwise_map_eq _ _ hids x hx y hy (by rw [hid, hyid])]
        exact hyp
      · exact fun hp => ⟨x, hx, hid, hp⟩
    unfold notConsumed
    rw [hid]
    simp only [List.contains_eq_mem]
    by_cases hj : j ∈ used
    · simp [hj, key.mp hj]
    · simp [hj, mt key.mpr hj]

theorem unused_filter_exact (names : List Str) (combined : List Obj) (used : List Nat)
    (hdot : ∀ n ∈ names, '.' ∉ n) (hinc : "include".toList ∉ names)
    (hsome : ∀ x ∈ allDefinitions combined, x.2.1.id ≠ none)
    (hids : ((allDefinitions combined).map (fun x => x.2.1.id)).Nodup)
    (hused : ∀ i, i ∈ used ↔ ∃ d ∈ combined, d.isDefn = true ∧ d.meta.disabled = false ∧
      d.meta.id = some i ∧ d.name ∈ names) :
    (allDefinitions combined).filter (notConsumed used) =
      (allDefinitions combined).filter (fun x => !names.contains x.1) := by
  refine unused_filter_exact_tree names combined used hsome hids (fun i => ?_)
  rw [hused]
  have key : ∀ n ∈ names, (allDefinitions combined).filter (fun x => x.1 == n) =
      (defsNamed n combined).map (fun d => (n, d.meta, d.words)) :=
    fun n hn => allDefs_defsNamed n [] (hdot n hn) (fun h => hinc (h ▸ hn)) combined
  constructor
  · rintro ⟨d, hd, hdd, hdis, hdi, hdn⟩
    have hx : (d.name, d.meta, d.words) ∈ (allDefinitions combined).filter (fun x => x.1 == d.name) := by
      rw [key _ hdn]
      exact List.mem_map.mpr ⟨d, mem_defsNamed.mpr ⟨hd, hdd, hdis, rfl⟩, rfl⟩
    exact ⟨_, (List.mem_filter.mp hx).1, hdi, hdn⟩
  · rintro ⟨⟨p, y⟩, hx, hid, hn⟩
    have hx' := (key p hn) ▸ List.mem_filter.mpr ⟨hx, beq_self_eq_true p⟩
    obtain ⟨d, hd, hxd⟩ := List.mem_map.mp hx'
    obtain ⟨hdc, hdd, hdis, hdn⟩ := mem_defsNamed.mp hd
    cases hxd
    exact ⟨d, hdc, hdd, hdis, hid, hdn ▸ hn⟩

/-- **C06 (unused list, exactly).**  Flat master at the root (dot-free names, none called
    `include`), sources made of root-level definitions and named scopes (of any content),
    variable-free, the definitions listed by `all_definitions(sources)` carrying pairwise distinct
    ids.  Whenever the fetch succeeds, the entries of `all_definitions(sources)` that were not
    consumed are exactly those whose full path is not the name of a master parameter. -/
theorem flat_unused_exact (e : Envs) (fuel : Nat) (sm : Meta) (mkids combined : List Obj)
    (hf : FlatMaster mkids) (hdot : ∀ mo ∈ mkids, '.' ∉ mo.name)
    (hinc : "include".toList ∉ mkids.map Obj.name)
    (hsm : sm.name = []) (hsd : sm.disabled = false)
    (hsc : ∀ m kids, Obj.scope m kids ∈ combined → m.name ≠ [])
    (hsrc : ∀ o ∈ combined, o.isDefn = true → SrcOK o)
    (hrefs : ∀ o ∈ combined, srcRefs o = [])
    (hsome : ∀ x ∈ allDefinitions combined, x.2.1.id ≠ none)
    (hids : ((allDefinitions combined).map (fun x => x.2.1.id)).Nodup)
    (ro : Obj) (used : List Nat)
    (h : fetchScope e fuel false sm mkids combined = .ok (ro, used)) :
    (allDefinitions combined).filter (notConsumed used) =
      (allDefinitions combined).filter (fun x => !(mkids.map Obj.name).contains x.1) :=
  unused_filter_exact (mkids.map Obj.name) combined used
    (by intro n hn; obtain ⟨mo, hmo, rfl⟩ := List.mem_map.mp hn; exact hdot mo hmo)
    hinc hsome hids
    (flat_used_exact e fuel sm mkids combined hf hdot hsm hsd hsc hsrc hrefs ro used h)

/-! ## B. flat masters with `.multiple` definitions: the list rule (C05) -/

/-- of the entries with equal keys keep only the last one (the survivors keep their order, i.e. are
    ordered by the position of their last occurrence) -/
def dedupKeepLast {α : Type} : List (α × Str) → List (α × Str)
  | [] => []
  | x :: xs => if xs.any (fun y => y.2 == x.2) then dedupKeepLast xs else x :: dedupKeepLast xs

theorem dedupKeepLast_snoc {α : Type} (x : α × Str) : ∀ (l : List (α × Str)),
    dedupKeepLast (l ++ [x]) = (dedupKeepLast l).filter (fun y => y.2 != x.2) ++ [x] := by
  intro l
  induction l with
  | nil => simp [dedupKeepLast]
  | cons a l ih =>
    rw [List.cons_append, dedupKeepLast, dedupKeepLast, List.any_append, ih]
    cases hany : l.any (fun y => y.2 == a.2) with
    | true => simp
    | false =>
      by_cases hxa : a.2 = x.2
      · simp [hxa]
      · simp [hxa, Ne.symm hxa]

/-- the left-to-right form of the rule: a candidate whose key is the master's is dropped; any other
    one replaces the earlier survivor with the same key and goes to the end -/
def accStep {α : Type} (k0 : Str) (A : List (α × Str)) (x : α × Str) : List (α × Str) :=
  if x.2 == k0 then A else A.filter (fun y => y.2 != x.2) ++ [x]

theorem foldl_accStep {α : Type} (k0 : Str) : ∀ (cks pre : List (α × Str)),
    cks.foldl (accStep k0) (dedupKeepLast (pre.filter (fun y => y.2 != k0))) =
      dedupKeepLast ((pre ++ cks).filter (fun y => y.2 != k0)) := by
  intro cks
  induction cks with
  | nil => intro pre; simp
  | cons x cks ih =>
    intro pre
    rw [List.foldl_cons]
    have hstep : accStep k0 (dedupKeepLast (pre.filter (fun y => y.2 != k0))) x =
        dedupKeepLast ((pre ++ [x]).filter (fun y => y.2 != k0)) := by
      unfold accStep
      rw [List.filter_append]
      by_cases hk : x.2 = k0
      · simp [hk]
      · simp [hk, dedupKeepLast_snoc]
    rw [hstep, ih (pre ++ [x])]
    simp

theorem foldl_accStep_nil {α : Type} (k0 : Str) (cks : List (α × Str)) :
    cks.foldl (accStep k0) [] = dedupKeepLast (cks.filter (fun y => y.2 != k0)) := by
  have := foldl_accStep k0 cks []
  simpa [dedupKeepLast] using this

/-- the `some` entries of the candidate list with their positions -/
def someIdx : List (Option Obj) → Nat → List (Obj × Nat)
  | [], _ => []
  | none :: r, s => someIdx r (s + 1)
  | some c :: r, s => (c, s) :: someIdx r (s + 1)

theorem someIdx_fst : ∀ (r : List (Option Obj)) (s : Nat),
    (someIdx r s).map (·.1) = r.filterMap (fun (x : Option Obj) => x) := by
  intro r
  induction r with
  | nil => intro s; rfl
  | cons a r ih =>
    intro s
    cases a with
    | none => rw [someIdx, ih]; simp
    | some c => rw [someIdx, List.map_cons, ih]; simp

theorem someIdx_append : ∀ (r r' : List (Option Obj)) (s : Nat),
    someIdx (r ++ r') s = someIdx r s ++ someIdx r' (s + r.length)
  | [], r', s => by simp [someIdx]
  | none :: r, r', s => by
    simp [someIdx, someIdx_append r r' (s + 1), Nat.add_assoc, Nat.add_comm 1]
  | some c :: r, r', s => by
    simp [someIdx, someIdx_append r r' (s + 1), Nat.add_assoc, Nat.add_comm 1]

theorem someIdx_bounds : ∀ (r : List (Option Obj)) (s : Nat) (a : Obj × Nat),
    a ∈ someIdx r s → s ≤ a.2 ∧ a.2 < s + r.length
  | [], s, a, h => by cases h
  | none :: r, s, a, h => by
    have := someIdx_bounds r (s + 1) a h
    simp only [List.length_cons]
    omega
  | some c :: r, s, a, h => by
    rw [someIdx, List.mem_cons] at h
    simp only [List.length_cons]
    rcases h with rfl | h
    · omega
    · have := someIdx_bounds r (s + 1) a h
      omega

theorem someIdx_pairwise : ∀ (r : List (Option Obj)) (s : Nat),
    (someIdx r s).Pairwise (fun a b => a.2 ≠ b.2)
  | [], s => by simp [someIdx]
  | none :: r, s => someIdx_pairwise r (s + 1)
  | some c :: r, s => by
    rw [someIdx, List.pairwise_cons]
    refine ⟨fun b hb => ?_, someIdx_pairwise r (s + 1)⟩
    have := someIdx_bounds r (s + 1) b hb
    simp only
    omega

theorem someIdx_null (j : Nat) : ∀ (r : List (Option Obj)) (s : Nat),
    someIdx ((r.zipIdx s).map (fun (xi : Option Obj × Nat) => if (xi.2 : Int) == (j : Int) then none else xi.1)) s =
      (someIdx r s).filter (fun a => a.2 != j) := by
  intro r
  induction r with
  | nil => intro s; rfl
  | cons x r ih =>
    intro s
    rw [List.zipIdx_cons, List.map_cons]
    cases x with
    | none =>
      simp only [ite_self]
      rw [someIdx, someIdx, ih]
    | some c =>
      by_cases hsj : s = j
      · subst hsj
        simp only [BEq.rfl, if_true]
        rw [someIdx, someIdx, ih, List.filter_cons]
        simp
      · have h1 : ((s : Int) == (j : Int)) = false := by
          rw [beq_eq_false_iff_ne]; intro h; exact hsj (by omega)
        have h2 : (s != j) = true := by simpa using hsj
        simp only [h1, Bool.false_eq_true, if_false]
        rw [someIdx, someIdx, ih, List.filter_cons]
        simp [h2]

/-- the invariant of the candidate loop on the part of its state that no blocked key touches (`cand_fold` keeps the
    blocked prefix of `processed` apart): `T` lists the survivors `(candidate, key, position in robjs)` in order -/
structure MInv (robjs : List (Option Obj)) (processed : List (Str × Int)) (T : List (Obj × Str × Nat)) : Prop where
  proc : processed = T.map (fun t => (t.2.1, (t.2.2 : Int)))
  idx : someIdx robjs 0 = T.map (fun t => (t.1, t.2.2))
  keys : (T.map (fun t => t.2.1)).Pairwise (· ≠ ·)

theorem MInv.nil : MInv [] [] [] := ⟨rfl, rfl, by simp⟩

theorem MInv.idx_inj {robjs processed T} (h : MInv robjs processed T) :
    ∀ x ∈ T, ∀ y ∈ T, x.2.2 = y.2.2 → x = y := by
  have hp := someIdx_pairwise robjs 0
  rw [h.idx] at hp
  have hp' : (T.map (fun t => t.2.2)).Pairwise (· ≠ ·) := by
    rw [List.pairwise_map] at hp ⊢
    exact hp
  exact pairwise_map_eq _ T hp'

theorem MInv.idx_lt {robjs processed T} (h : MInv robjs processed T) : ∀ x ∈ T, x.2.2 < robjs.length := by
  intro x hx
  have : (x.1, x.2.2) ∈ someIdx robjs 0 := by rw [h.idx]; exact List.mem_map.mpr ⟨x, hx, rfl⟩
  have := someIdx_bounds robjs 0 _ this
  simpa using this.2

theorem MInv.book {robjs : List (Option Obj)} {processed : List (Str × Int)} {T : List (Obj × Str × Nat)}
    (hinv : MInv robjs processed T) (k : Str) (c : Obj) :
    MInv (book false robjs processed k c).1 (book false robjs processed k c).2
      (T.filter (fun t => t.2.1 != k) ++ [(c, k, robjs.length)]) := by
  -- the state after blanking the earlier survivor with key `k`, if any
  have hmain : ∀ (robjs1 : List (Option Obj)), robjs1.length = robjs.length →
      someIdx robjs1 0 = (T.filter (fun t => t.2.1 != k)).map (fun t => (t.1, t.2.2)) →
      MInv (robjs1 ++ [some c])
        (processed.filter (fun (p : Str × Int) => p.1 != k) ++ [(k, (robjs1.length : Int))])
        (T.filter (fun t => t.2.1 != k) ++ [(c, k, robjs.length)]) := by
    intro robjs1 hlen hidx
    refine ⟨?_, ?_, ?_⟩
    · rw [hinv.proc, List.filter_map, List.map_append, hlen]
      rfl
    · rw [someIdx_append, hidx, List.map_append, hlen]
      simp [someIdx]
    · rw [List.map_append, List.pairwise_append]
      refine ⟨?_, by simp, ?_⟩
      · exact (hinv.keys.sublist ((List.filter_sublist).map _))
      · intro a ha b hb
        simp only [List.map_cons, List.map_nil, List.mem_singleton] at hb
        subst hb
        obtain ⟨t, ht, rfl⟩ := List.mem_map.mp ha
        have := (List.mem_filter.mp ht).2
        simpa using this
  unfold Phil.book bookKeep
  cases hprev : processed.find? (fun (p : Str × Int) => p.1 == k) with
  | none =>
    refine hmain robjs rfl ?_
    have hall : ∀ t ∈ T, (t.2.1 != k) = true := by
      intro t ht
      have := List.find?_eq_none.mp hprev (t.2.1, (t.2.2 : Int))
        (by rw [hinv.proc]; exact List.mem_map.mpr ⟨t, ht, rfl⟩)
      simpa [bne] using this
    rw [List.filter_eq_self.mpr hall]
    exact hinv.idx
  | some p =>
    have hpm := List.mem_of_find?_eq_some hprev
    have hpk := List.find?_some hprev
    rw [hinv.proc] at hpm
    obtain ⟨t0, ht0, hpe⟩ := List.mem_map.mp hpm
    subst hpe
    have hk0 : t0.2.1 = k := by simpa using hpk
    have hne : (((t0.2.2 : Nat) : Int) == -1) = false := by
      rw [beq_eq_false_iff_ne]; omega
    simp only [hne, Bool.false_eq_true, if_false]
    refine hmain _ (by simp [dropAt]) ?_
    rw [dropAt, someIdx_null, hinv.idx, List.filter_map]
    congr 1
    apply List.filter_congr
    intro t ht
    show ((t.2.2 != t0.2.2) = (t.2.1 != k))
    by_cases htk : t.2.1 = k
    · have : t = t0 := pairwise_map_eq _ T hinv.keys t ht t0 ht0 (htk.trans hk0.symm)
      subst this
      rw [htk, bne_self_eq_false, bne_self_eq_false]
    · have : t.2.2 ≠ t0.2.2 := fun h => htk ((hinv.idx_inj t ht t0 ht0 h) ▸ hk0)
      rw [bne_iff_ne.mpr this, bne_iff_ne.mpr htk]

theorem extractFormatStr_defn_fuel (e : Envs) (n k : Nat) (mm : Meta) (mws : List Word)
    (cm : Meta) (cws : List Word) :
    extractFormatStr e (n + 1) (.defn mm mws) (.defn cm cws) =
      extractFormatStr e (k + 1) (.defn mm mws) (.defn cm cws) :=
  -- at a definition `extractObj` and `formatObj` are `extractDefn` and `formatDefn`, which take no fuel
  rfl

/-- what is known about one matching source `ms` of the `.multiple` master definition `mo`: the
    candidate `fetch_value` builds and its key `master.extract_format(candidate).as_str()` -/
def CandLink (e : Envs) (fuel : Nat) (mo : Obj) (ms : Obj) (ck : Obj × Str) : Prop :=
  fetchValue mo ms = .ok (some ck.1) ∧ extractFormatStr e (fuel + 64) mo ck.1 = .ok ck.2

/-- the survivors with their keys -/
def survOf (T : List (Obj × Str × Nat)) : List (Obj × Str) := T.map (fun t => (t.1, t.2.1))

theorem survOf_filter (T : List (Obj × Str × Nat)) (k : Str) :
    survOf (T.filter (fun t => t.2.1 != k)) = (survOf T).filter (fun y => y.2 != k) := by
  unfold survOf
  rw [List.filter_map]
  rfl

/-- every entry carries the marker `-1` (a key provided by a further master occurrence) -/
def AllNeg (PB : List (Str × Int)) : Prop := ∀ p ∈ PB, p.2 = -1

theorem find_none_of_not_key (PB : List (Str × Int)) (cs : Str) (hk : cs ∉ PB.map (·.1)) :
    PB.find? (fun (p : Str × Int) => p.1 == cs) = none := by
  rw [List.find?_eq_none]
  intro p hp hpe
  exact hk (List.mem_map.mpr ⟨p, hp, by simpa using hpe⟩)

theorem filter_self_of_not_key (PB : List (Str × Int)) (cs : Str) (hk : cs ∉ PB.map (·.1)) :
    PB.filter (fun (p : Str × Int) => p.1 != cs) = PB := by
  rw [List.filter_eq_self]
  intro p hp
  rw [bne_iff_ne]
  intro hpe
  exact hk (List.mem_map.mpr ⟨p, hp, hpe⟩)

theorem book_blocked {α : Type} (mark : Bool) (robjs : List (Option α)) (PB P : List (Str × Int)) (cs : Str) (c : α)
    (hneg : AllNeg PB) (hk : cs ∈ PB.map (·.1)) : book mark robjs (PB ++ P) cs c = (robjs, PB ++ P) := by
  obtain ⟨p0, hp0, hp0e⟩ := List.mem_map.mp hk
  cases hfind : PB.find? (fun (p : Str × Int) => p.1 == cs) with
  | none =>
    have := List.find?_eq_none.mp hfind p0 hp0
    simp [hp0e] at this
  | some q =>
    unfold book
    rw [List.find?_append, hfind, Option.some_or]
    simp only [hneg q (List.mem_of_find?_eq_some hfind), beq_self_eq_true, if_true]

theorem bookKeep_prefix {α : Type} (mark : Bool) (PB P : List (Str × Int)) (cs : Str) (c : α) (robjs : List (Option α)) :
    bookKeep mark (PB ++ P) cs c robjs = ((bookKeep mark P cs c robjs).1, PB ++ (bookKeep mark P cs c robjs).2) := by
  unfold bookKeep
  cases mark
  · simp only [Bool.false_eq_true, if_false, List.append_assoc]
  · simp only [if_true, List.append_assoc]

theorem book_prefix {α : Type} (mark : Bool) (robjs : List (Option α)) (PB P : List (Str × Int)) (cs : Str) (c : α)
    (hk : cs ∉ PB.map (·.1)) :
    book mark robjs (PB ++ P) cs c = ((book mark robjs P cs c).1, PB ++ (book mark robjs P cs c).2) := by
  unfold book
  rw [List.find?_append, find_none_of_not_key PB cs hk, Option.none_or, List.filter_append,
    filter_self_of_not_key PB cs hk]
  cases P.find? (fun (p : Str × Int) => p.1 == cs) with
  | none => exact bookKeep_prefix ..
  | some p =>
    dsimp only
    split
    · rfl
    · exact bookKeep_prefix ..

/-- what is known about one flagged candidate `fm` of the `.multiple` master object `mo`, in either mode:
    skipped (`x.1 = none`: in diff mode, an empty difference) or the instance `ck.1` with its key `ck.2`;
    `x.2` are the ids consumed.  The fixed `CandLink` is the case of a source definition of a master definition
    outside diff mode: no `from_master` flag, no mode, never skipped (`CandLink.clink`) -/
def CLink (F : FetchFn) (e : Envs) (fuel : Nat) (d : Bool) (mo : Obj) (fm : Bool × Obj)
    (x : Option (Obj × Str) × List Nat) : Prop :=
  match x.1 with
  | none => candOf F e fuel d mo fm.1 fm.2 = .ok (none, x.2)
  | some ck => candOf F e fuel d mo fm.1 fm.2 = .ok (some ck.1, x.2) ∧
      extractFormatStr e (fuel + 64) mo ck.1 = .ok ck.2

theorem cstepG_of_clink (F : FetchFn) (e : Envs) (fuel : Nat) (d : Bool) (mo : Obj) (k0 : Str) (fm : Bool × Obj)
    (ck : Obj × Str) (u : List Nat) (hl : CLink F e fuel d mo fm (some ck, u)) (hfm : (d && fm.1) = false)
    (robjs : List (Option Obj)) (P : List (Str × Int)) (used : List Nat) :
    cstepG F e fuel d mo k0 (robjs, P, used) fm =
      if ck.2 == k0 then .ok (robjs, P, used ++ u)
      else .ok ((book false robjs P ck.2 ck.1).1, (book false robjs P ck.2 ck.1).2, used ++ u) := by
  obtain ⟨hc, hk⟩ : candOf F e fuel d mo fm.1 fm.2 = .ok (some ck.1, u) ∧ _ := hl
  unfold cstepG
  simp only [hc, hk, cAccept_eq, hfm]

theorem cstepG_clink (F : FetchFn) (e : Envs) (fuel : Nat) (d : Bool) (mo : Obj) (k0 : Str)
    (PB : List (Str × Int)) (hneg : AllNeg PB) (fm : Bool × Obj) (x : Option (Obj × Str) × List Nat)
    (hl : CLink F e fuel d mo fm x) (hfm : (d && fm.1) = false)
    (robjs : List (Option Obj)) (P : List (Str × Int)) (used : List Nat)
    (T : List (Obj × Str × Nat)) (hinv : MInv robjs P T) :
    ∃ r1 P1 T1, cstepG F e fuel d mo k0 (robjs, PB ++ P, used) fm =
        .ok (r1, PB ++ P1, used ++ x.2) ∧ MInv r1 P1 T1 ∧
      survOf T1 = match x.1 with
        | some ck => if (PB.map (·.1)).contains ck.2 then survOf T else accStep k0 (survOf T) ck
        | none => survOf T := by
  obtain ⟨xo, u⟩ := x
  cases xo with
  | none =>
    refine ⟨robjs, P, T, ?_, hinv, rfl⟩
    unfold cstepG
    simp only [show candOf F e fuel d mo fm.1 fm.2 = .ok (none, u) from hl, ite_self]
  | some ck =>
    rw [cstepG_of_clink F e fuel d mo k0 fm ck u hl hfm]
    dsimp only
    by_cases hin : ck.2 ∈ PB.map (·.1)
    · refine ⟨robjs, P, T, ?_, hinv, by simp [hin]⟩
      rw [book_blocked false robjs PB P ck.2 ck.1 hneg hin, ite_self]
    · have hnb : (PB.map (·.1)).contains ck.2 = false := by simp [hin]
      rw [hnb, book_prefix false robjs PB P ck.2 ck.1 hin]
      unfold accStep
      cases hk : ck.2 == k0 with
      | true => exact ⟨robjs, P, T, rfl, hinv, rfl⟩
      | false =>
        refine ⟨_, _, _, rfl, hinv.book ck.2 ck.1, ?_⟩
        unfold survOf
        rw [List.map_append, ← survOf.eq_1, survOf_filter]
        rfl

/-- **the candidate loop, in either mode, behind a prefix of blocked keys**: over candidates that are not
    master-provided ones in diff mode, it is the list rule over those whose key is not blocked -/
theorem cand_fold (F : FetchFn) (e : Envs) (fuel : Nat) (d : Bool) (mo : Obj) (k0 : Str)
    (PB : List (Str × Int)) (hneg : AllNeg PB) :
    ∀ (C : List (Bool × Obj)) (X : List (Option (Obj × Str) × List Nat)),
    Forall2 (CLink F e fuel d mo) C X → (∀ fm ∈ C, (d && fm.1) = false) →
    ∀ (robjs : List (Option Obj)) (P : List (Str × Int)) (used : List Nat)
      (T : List (Obj × Str × Nat)), MInv robjs P T →
    ∃ robjs' P' T',
      C.foldlM (cstepG F e fuel d mo k0) (robjs, PB ++ P, used) =
        .ok (robjs', PB ++ P', used ++ X.flatMap (fun x => x.2)) ∧
      MInv robjs' P' T' ∧
      survOf T' = ((X.filterMap (fun x => x.1)).filter (fun y => !(PB.map (·.1)).contains y.2)).foldl
        (accStep k0) (survOf T) := by
  intro C X h
  induction h with
  | nil =>
    intro _ robjs P used T hinv
    exact ⟨robjs, P, T, by simp; rfl, hinv, rfl⟩
  | @cons fm x C X hl _ ih =>
    intro hC robjs P used T hinv
    obtain ⟨r1, p1, T1, h1, hinv1, hs1⟩ :=
      cstepG_clink F e fuel d mo k0 PB hneg fm x hl (hC fm List.mem_cons_self) robjs P used T hinv
    obtain ⟨r', p', T', hf, hi, hs⟩ := ih (fun y hy => hC y (List.mem_cons_of_mem _ hy)) r1 p1 (used ++ x.2) T1 hinv1
    refine ⟨r', p', T', ?_, hi, ?_⟩
    · rw [List.foldlM_cons, h1]
      show List.foldlM _ _ _ = _
      rw [hf]; simp
    · rw [hs, hs1]
      obtain ⟨xo, u⟩ := x
      cases xo with
      | none => rfl
      | some ck =>
        rw [List.filterMap_cons_some (rfl : (fun (x : Option (Obj × Str) × List Nat) => x.1) (some ck, u) = some ck),
          List.filter_cons]
        cases hc : (PB.map (·.1)).contains ck.2 with
        | true => simp only [hc, if_true, Bool.not_true, Bool.false_eq_true, if_false]
        | false => simp only [hc, Bool.false_eq_true, if_false, Bool.not_false, if_true, List.foldl_cons]

theorem CandLink.clink {F : FetchFn} {e : Envs} {fuel : Nat} {mm : Meta} {mws : List Word} {ms : Obj} {ck : Obj × Str}
    (hl : CandLink e fuel (.defn mm mws) ms ck) (b : Bool) :
    CLink F e fuel false (.defn mm mws) (b, ms) (some ck, if b then [] else marksOf ms) := by
  refine ⟨?_, hl.2⟩
  show candOf F e fuel false (.defn mm mws) b ms = _
  rw [candOf_defn, fetchDefn_nodiff, hl.1]
  rfl

theorem CandLink.clinks {F : FetchFn} {e : Envs} {fuel : Nat} {mm : Meta} {mws : List Word} {M : List Obj}
    {cks : List (Obj × Str)} (h : Forall2 (CandLink e fuel (.defn mm mws)) M cks) :
    ∃ X, Forall2 (CLink F e fuel false (.defn mm mws)) (M.map (fun (o : Obj) => (false, o))) X ∧
      X.filterMap (fun x => x.1) = cks ∧ X.flatMap (fun x => x.2) = M.flatMap marksOf := by
  induction h with
  | nil => exact ⟨[], .nil, rfl, rfl⟩
  | @cons ms ck M cks hl _ ih =>
    obtain ⟨X, hX, h1, h2⟩ := ih
    exact ⟨(some ck, marksOf ms) :: X, .cons (hl.clink false) hX, by simp [h1], by simp [h2]⟩

theorem MInv.survivors {r : List (Option Obj)} {p : List (Str × Int)} {T : List (Obj × Str × Nat)}
    (hi : MInv r p T) (k0 : Str) (cks : List (Obj × Str))
    (hs : survOf T = cks.foldl (accStep k0) (survOf [])) :
    r.filterMap (fun (x : Option Obj) => x) =
        (dedupKeepLast (cks.filter (fun y => y.2 != k0))).map (·.1) ∧
      p.isEmpty = (dedupKeepLast (cks.filter (fun y => y.2 != k0))).isEmpty := by
  have hs' : survOf T = dedupKeepLast (cks.filter (fun y => y.2 != k0)) :=
    hs.trans (foldl_accStep_nil k0 cks)
  rw [← hs', ← someIdx_fst r 0, hi.idx, hi.proc]
  unfold survOf
  exact ⟨by simp [List.map_map], by cases T <;> rfl⟩

/-- the template flag of a `.multiple` block -/
def multiTmpl (mo : Obj) (noSurvivors : Bool) : Int :=
  if (mo.attr "optional").mandatory then 0 else if noSurvivors then 1 else -1

/-- **the list rule**: the block a `.multiple` master definition contributes to the result, given
    the master's key `k0` and the candidates with their keys `cks` in source order — the template
    (flag `0` if the definition is mandatory, else `1` if nothing survives, else `-1`) followed by
    the survivors: candidates with the master's key are dropped, of candidates with equal keys
    only the last one stays, in the order of those last occurrences -/
def multiBlock (mo : Obj) (k0 : Str) (cks : List (Obj × Str)) : List Obj :=
  withTmpl mo (multiTmpl mo (dedupKeepLast (cks.filter (fun y => y.2 != k0))).isEmpty) ::
    (dedupKeepLast (cks.filter (fun y => y.2 != k0))).map (·.1)

/-- the block a `.multiple` master object of either kind contributes, given its own fetch `self` (looked at
    for a mandatory scope only), its key `k0` and the candidates with their keys in loop order: the template
    object, then the survivors of the list rule -/
def multiBlockG (mo : Obj) (self : R (Obj × List Nat)) (k0 : Str) (cks : List (Obj × Str)) : List Obj :=
  (if (mo.attr "optional").mandatory then defaultInstOf mo self
   else withTmpl mo (if (dedupKeepLast (cks.filter (fun y => y.2 != k0))).isEmpty then 1 else -1)) ::
    (dedupKeepLast (cks.filter (fun y => y.2 != k0))).map (·.1)

theorem multiBlockG_defn (mm : Meta) (mws : List Word) (self : R (Obj × List Nat)) (k0 : Str)
    (cks : List (Obj × Str)) : multiBlockG (.defn mm mws) self k0 cks = multiBlock (.defn mm mws) k0 cks := by
  unfold multiBlockG multiBlock multiTmpl
  rw [defaultInstOf_defn]
  split <;> rfl

/-- **the whole `.multiple` branch** for a master object of either kind, in either mode, further master
    occurrences allowed (none of them a candidate in diff mode), all candidates linked: the survivors of the
    list rule, outside diff mode behind the template object -/
theorem multiBranch_clinks (F : FetchFn) (e : Envs) (fuel : Nat) (d : Bool) (mkids : List Obj) (idx : Nat)
    (mo : Obj) (k0 : Str) (M : List Obj) (X : List (Option (Obj × Str) × List Nat)) (out : List Obj) (used : List Nat)
    (hk0 : masterKeyG F e fuel mo = .ok k0)
    (hl : Forall2 (CLink F e fuel d mo) (fromMasterOf mkids idx mo ++ M.map (fun (o : Obj) => (false, o))) X)
    (hC : ∀ fm ∈ fromMasterOf mkids idx mo ++ M.map (fun (o : Obj) => (false, o)), (d && fm.1) = false) :
    multiBranch F e fuel d mkids idx mo M out used =
      .ok (out ++ (if d then (dedupKeepLast ((X.filterMap (fun x => x.1)).filter (fun y => y.2 != k0))).map (·.1)
                   else multiBlockG mo (selfFetchOf F mo) k0 (X.filterMap (fun x => x.1))),
           used ++ X.flatMap (fun x => x.2)) := by
  -- no key is blocked
  obtain ⟨r', p', T', hf, hi, hs⟩ :=
    cand_fold F e fuel d mo k0 [] (fun _ hp => by cases hp) _ X hl hC [] [] used [] MInv.nil
  simp only [List.nil_append, List.map_nil, List.contains_nil, Bool.not_false] at hf hs
  rw [List.filter_eq_self.mpr (fun _ _ => rfl)] at hs
  obtain ⟨h1, h2⟩ := hi.survivors k0 _ hs
  unfold multiBranch
  rw [hk0]
  simp only
  rw [hf]
  simp only
  rw [h1]
  unfold tmplObjsOf multiBlockG
  rw [h2]
  cases d
  · simp only [Bool.false_eq_true, if_false, List.append_assoc]
    split <;> rfl
  · simp only [if_true, List.append_nil]

/-- **C05 (one `.multiple` master child).**  The step of the master loop for a `.multiple` master
    definition without further master occurrences of its name appends `multiBlock` and marks every
    matching source (`marksOf`). -/
theorem multi_step (F : FetchFn) (e : Envs) (fuel : Nat) (sm : Meta) (mkids combined : List Obj)
    (st : List Obj × List Nat) (idx : Nat) (mm : Meta) (mws : List Word) (k0 : Str)
    (cks : List (Obj × Str))
    (hmult : isMultiple (.defn mm mws) = true)
    (hfm : fromMasterOf mkids idx (.defn mm mws) = [])
    (hk0 : extractFormatStr e (fuel + 64) (.defn mm mws) (.defn mm mws) = .ok k0)
    (hl : Forall2 (CandLink e fuel (.defn mm mws)) (fetchMatching fuel sm combined (.defn mm mws)) cks) :
    stepG F e fuel false sm mkids combined st (idx, .defn mm mws) =
      .ok (st.1 ++ multiBlock (.defn mm mws) k0 cks,
           st.2 ++ (fetchMatching fuel sm combined (.defn mm mws)).flatMap marksOf) := by
  obtain ⟨X, hX, h1, h2⟩ := CandLink.clinks (F := F) hl
  rw [stepG_multi _ _ _ _ _ _ _ _ _ _ hmult, multiBranch_clinks F e fuel false mkids idx (.defn mm mws) k0 _ X st.1 st.2 hk0
    (by rw [hfm]; exact hX) (fun _ _ => rfl), h1, h2, multiBlockG_defn]
  rfl

/-! ### the whole result for flat masters with `.multiple` definitions -/

/-- a flat master whose definitions may be `.multiple`: enabled definitions with non-empty,
    pairwise distinct names (so no master definition has further master occurrences), not
    `.deprecated`, not choices -/
structure FlatMultiMaster (mkids : List Obj) : Prop where
  defn : ∀ mo ∈ mkids, ∃ mm mws, mo = .defn mm mws ∧ DefnMeta mm ∧ mm.name ≠ [] ∧ mm.disabled = false
  distinct : (mkids.map Obj.name).Pairwise (· ≠ ·)

theorem FlatMaster.toMulti {mkids : List Obj} (h : FlatMaster mkids) : FlatMultiMaster mkids where
  defn := fun mo hmo => by
    obtain ⟨mm, mws, h1, hp, h3, h4⟩ := h.plain mo hmo
    exact ⟨mm, mws, h1, ⟨hp.notDeprecated, hp.notChoice⟩, h3, h4⟩
  distinct := h.distinct

theorem masterActive_flatMulti (mkids : List Obj) (hf : FlatMultiMaster mkids) :
    masterActiveObjects mkids = .ok (indexed mkids) :=
  masterActive_of_distinct mkids (fun o ho => by obtain ⟨mm, mws, rfl, _, _, hd⟩ := hf.defn o ho; exact hd)
    hf.distinct

theorem fromMasterOf_nil (mkids : List Obj) (hd : (mkids.map Obj.name).Pairwise (· ≠ ·))
    (idx : Nat) (mo : Obj) (hmem : (idx, mo) ∈ indexed mkids) : fromMasterOf mkids idx mo = [] := by
  unfold fromMasterOf
  rw [List.map_eq_nil_iff, List.filter_eq_nil_iff]
  intro p hp hpred
  obtain ⟨o, j⟩ := p
  have hj : mkids[j]? = some o := List.mk_mem_zipIdx_iff_getElem?.mp hp
  have hi : mkids[idx]? = some mo := mem_indexed.mp hmem
  simp only [Bool.and_eq_true, Bool.not_eq_true', beq_iff_eq, bne_iff_ne, ne_eq] at hpred
  refine hpred.2 ((List.getElem?_inj (l := mkids.map Obj.name) ?_ hd).mp ?_)
  · rw [List.length_map]; exact (List.getElem?_eq_some_iff.mp hj).1
  · rw [List.getElem?_map, List.getElem?_map, hj, hi]; exact congrArg some hpred.1.2

/-- the candidate `fetch_value` builds from the source definition `d` for the master definition `mo` -/
def candOfSrc (mo d : Obj) : Obj := .defn { mo.meta with tmpl := 0 } d.srcWords

/-- `master.extract_format(candidate).as_str()` as a total function (`[]` where it fails) -/
def keyOf (e : Envs) (fuel : Nat) (mo c : Obj) : Str :=
  match extractFormatStr e (fuel + 64) mo c with
  | .ok s => s
  | .error _ => []

/-- the candidates of `mo` with their keys, in source order -/
def candsOf (e : Envs) (fuel : Nat) (mo : Obj) (l : List Obj) : List (Obj × Str) :=
  l.map (fun d => (candOfSrc mo d, keyOf e fuel mo (candOfSrc mo d)))

/-- the keys the list rule compares are defined: the master's and those of the candidates -/
def KeysDefined (e : Envs) (fuel : Nat) (mo : Obj) (l : List Obj) : Prop :=
  (∃ k, extractFormatStr e (fuel + 64) mo mo = .ok k) ∧
  ∀ d ∈ l, ∃ k, extractFormatStr e (fuel + 64) mo (candOfSrc mo d) = .ok k

theorem keyOf_ok {e : Envs} {fuel : Nat} {mo c : Obj} {k : Str}
    (h : extractFormatStr e (fuel + 64) mo c = .ok k) : keyOf e fuel mo c = k := by
  unfold keyOf; rw [h]

theorem candLink_candOfSrc {e : Envs} {fuel : Nat} {mm : Meta} {mws : List Word} (hp : DefnMeta mm) {d : Obj}
    (hd : d.isDefn = true) (hok : SrcOK d) {k : Str}
    (hk : extractFormatStr e (fuel + 64) (.defn mm mws) (candOfSrc (.defn mm mws) d) = .ok k) :
    CandLink e fuel (.defn mm mws) d
      (candOfSrc (.defn mm mws) d, keyOf e fuel (.defn mm mws) (candOfSrc (.defn mm mws) d)) := by
  cases d with
  | scope m k => cases hd
  | defn dm dws => exact ⟨fetchValue_defnMeta mm mws dm dws hp hok, by rw [keyOf_ok hk]; exact hk⟩

/-- the block the master child `mo` contributes to the result, sources `D` -/
def blockOf (e : Envs) (fuel : Nat) (D : List Obj) (mo : Obj) : List Obj :=
  if isMultiple mo then multiBlock mo (keyOf e fuel mo mo) (candsOf e fuel mo (activeNamed mo.name D))
  else [lastWins mo (activeNamed mo.name D)]

theorem forall2_map {α β : Type} (Q : α → β → Prop) (f : α → β) : ∀ (l : List α),
    (∀ a ∈ l, Q a (f a)) → Forall2 Q l (l.map f) := by
  intro l
  induction l with
  | nil => intro _; exact .nil
  | cons a l ih =>
    intro h
    exact .cons (h a List.mem_cons_self) (ih (fun a' ha' => h a' (List.mem_cons_of_mem _ ha')))

/-- **C05, flat masters with `.multiple` definitions: complete description of the result**, given
    what the matching sources of every master child are (`hmatch`). -/
theorem fetch_flat_multi_of_matching (e : Envs) (fuel : Nat) (sm : Meta) (mkids combined D : List Obj)
    (hf : FlatMultiMaster mkids)
    (hmatch : ∀ mo ∈ mkids, fetchMatching fuel sm combined mo = activeNamed mo.name D)
    (hdef : ∀ o ∈ D, o.isDefn = true) (hsrc : ∀ o ∈ D, SrcOK o)
    (hkeys : ∀ mo ∈ mkids, isMultiple mo = true → KeysDefined e fuel mo (activeNamed mo.name D)) :
    fetchScope e (fuel + 1) false sm mkids combined =
      .ok (.scope { sm with tmpl := 0 } (mkids.flatMap (blockOf e fuel D)), flatUsed mkids D) := by
  refine fetchScope_of_steps_ok e fuel false sm mkids combined _ _ (masterActive_flatMulti mkids hf) ?_
  intro st i mo ha
  have hmem : mo ∈ mkids := snd_mem_of_mem_indexed ha
  obtain ⟨mm, mws, rfl, hp, hname, _⟩ := hf.defn mo hmem
  have hm : fetchMatching fuel sm combined (.defn mm mws) = activeNamed mm.name D := hmatch _ hmem
  have hD : ∀ o ∈ activeNamed mm.name D, o ∈ D := fun o ho => (List.mem_filter.mp ho).1
  unfold blockOf
  cases hmult : isMultiple (.defn mm mws) with
  | false =>
    rw [stepG_plain_of_matching _ e fuel sm mkids combined _ st i mm mws (hp.plain hmult) hm,
      findSome_srcErrOf_ok _ (fun o ho _ => hsrc o (hD o ho)),
      if_pos (List.all_eq_true.mpr (fun o ho => hdef o (hD o ho)))]
    rfl
  | true =>
    obtain ⟨⟨k0, hk0⟩, hcand⟩ := hkeys _ hmem hmult
    have hl : Forall2 (CandLink e fuel (.defn mm mws)) (fetchMatching fuel sm combined (.defn mm mws))
        (candsOf e fuel (.defn mm mws) (activeNamed mm.name D)) := by
      rw [hm]
      apply forall2_map
      intro d hd
      obtain ⟨k, hk⟩ := hcand d hd
      exact candLink_candOfSrc hp (hdef _ (hD _ hd)) (hsrc _ (hD _ hd)) hk
    rw [multi_step (fetchScope e fuel) e fuel sm mkids combined st i mm mws k0 _ hmult
      (fromMasterOf_nil mkids hf.distinct i _ ha) hk0 hl, hm, keyOf_ok hk0]
    rfl

theorem FlatMultiMaster.matching {mkids : List Obj} (hf : FlatMultiMaster mkids) (fuel : Nat) (sm : Meta)
    (combined : List Obj) (hsd : sm.disabled = false)
    (hdef : ∀ o ∈ combined, o.isDefn = true) :
    ∀ mo ∈ mkids, fetchMatching fuel sm combined mo = activeNamed mo.name combined := by
  intro mo hmo
  obtain ⟨mm, mws, rfl, _, hname, _⟩ := hf.defn mo hmo
  exact fetchMatching_flat fuel sm combined _ hsd hname hdef

theorem FlatMultiMaster.matching_mixed {mkids : List Obj} (hf : FlatMultiMaster mkids) (fuel : Nat)
    (sm : Meta) (combined : List Obj) (hdot : ∀ mo ∈ mkids, '.' ∉ mo.name)
    (hsd : sm.disabled = false) (hmix : MixedSrc (mkids.map Obj.name) combined) :
    ∀ mo ∈ mkids, fetchMatching fuel sm combined mo = activeNamed mo.name (defnsOf combined) := by
  intro mo hmo
  obtain ⟨mm, mws, rfl, _, hname, _⟩ := hf.defn mo hmo
  rw [fetchMatching_tree fuel sm combined (.defn mm mws) hsd hname (hdot _ hmo)
    (fun m kids hm _ => hmix.scopeNamed m kids hm)]
  exact hmix.activeNamed (List.mem_map.mpr ⟨_, hmo, rfl⟩)

/-- **C05, flat masters with `.multiple` definitions, definition-only sources.** -/
theorem fetch_flat_multi (e : Envs) (fuel : Nat) (sm : Meta) (mkids combined : List Obj)
    (hf : FlatMultiMaster mkids) (hsd : sm.disabled = false)
    (hdef : ∀ o ∈ combined, o.isDefn = true) (hsrc : ∀ o ∈ combined, SrcOK o)
    (hkeys : ∀ mo ∈ mkids, isMultiple mo = true → KeysDefined e fuel mo (activeNamed mo.name combined)) :
    fetchScope e (fuel + 1) false sm mkids combined =
      .ok (.scope { sm with tmpl := 0 } (mkids.flatMap (blockOf e fuel combined)), flatUsed mkids combined) :=
  fetch_flat_multi_of_matching e fuel sm mkids combined combined hf
    (hf.matching fuel sm combined hsd hdef) hdef hsrc hkeys

/-- … and sources mixing root-level definitions and named scopes (master names dot-free) -/
theorem fetch_flat_multi_mixed (e : Envs) (fuel : Nat) (sm : Meta) (mkids combined : List Obj)
    (hf : FlatMultiMaster mkids) (hdot : ∀ mo ∈ mkids, '.' ∉ mo.name)
    (hsd : sm.disabled = false)
    (hmix : MixedSrc (mkids.map Obj.name) combined)
    (hsrc : ∀ o ∈ combined, o.isDefn = true → SrcOK o)
    (hkeys : ∀ mo ∈ mkids, isMultiple mo = true →
      KeysDefined e fuel mo (activeNamed mo.name (defnsOf combined))) :
    fetchScope e (fuel + 1) false sm mkids combined =
      .ok (.scope { sm with tmpl := 0 } (mkids.flatMap (blockOf e fuel (defnsOf combined))),
           flatUsed mkids (defnsOf combined)) :=
  fetch_flat_multi_of_matching e fuel sm mkids combined (defnsOf combined) hf
    (hf.matching_mixed fuel sm combined hdot hsd hmix) (fun o ho => (mem_defnsOf.mp ho).2)
    (fun o ho => hsrc o (mem_defnsOf.mp ho).1 (mem_defnsOf.mp ho).2) hkeys

/-! ### properties of `dedupKeepLast` -/

theorem dedupKeepLast_sublist {α : Type} : ∀ (l : List (α × Str)), (dedupKeepLast l).Sublist l := by
  intro l
  induction l with
  | nil => exact List.Sublist.refl _
  | cons x xs ih =>
    rw [dedupKeepLast]
    split
    · exact ih.cons _
    · exact ih.cons_cons _

theorem dedupKeepLast_keys_distinct {α : Type} : ∀ (l : List (α × Str)),
    ((dedupKeepLast l).map (·.2)).Pairwise (· ≠ ·) := by
  intro l
  induction l with
  | nil => simp [dedupKeepLast]
  | cons x xs ih =>
    rw [dedupKeepLast]
    split
    · exact ih
    · rename_i hany
      rw [List.map_cons, List.pairwise_cons]
      refine ⟨?_, ih⟩
      intro k hk heq
      obtain ⟨y, hy, rfl⟩ := List.mem_map.mp hk
      apply hany
      rw [List.any_eq_true]
      exact ⟨y, (dedupKeepLast_sublist xs).subset hy, by simp [heq]⟩

theorem dedupKeepLast_of_distinct {α : Type} : ∀ (l : List (α × Str)),
    (l.map (·.2)).Pairwise (· ≠ ·) → dedupKeepLast l = l := by
  intro l
  induction l with
  | nil => intro _; rfl
  | cons x xs ih =>
    intro h
    rw [List.map_cons, List.pairwise_cons] at h
    have : xs.any (fun y => y.2 == x.2) = false := by
      rw [List.any_eq_false]
      exact fun y hy => by simpa using (h.1 _ (List.mem_map.mpr ⟨y, hy, rfl⟩)).symm
    simp [dedupKeepLast, this, ih h.2]

theorem dedupKeepLast_idem {α : Type} (l : List (α × Str)) :
    dedupKeepLast (dedupKeepLast l) = dedupKeepLast l :=
  dedupKeepLast_of_distinct _ (dedupKeepLast_keys_distinct l)

theorem dedup_drop_prefix {α : Type} : ∀ (X Y : List (α × Str)), (∀ x ∈ X, ∃ y ∈ Y, y.2 = x.2) →
    dedupKeepLast (X ++ Y) = dedupKeepLast Y
  | [], Y, _ => rfl
  | x :: X, Y, h => by
    rw [List.cons_append, dedupKeepLast]
    have hany : (X ++ Y).any (fun y => y.2 == x.2) = true := by
      obtain ⟨y, hy, hyx⟩ := h x List.mem_cons_self
      rw [List.any_eq_true]
      exact ⟨y, List.mem_append_right _ hy, by simpa using hyx⟩
    simp only [hany, if_true]
    exact dedup_drop_prefix X Y (fun x' hx' => h x' (List.mem_cons_of_mem _ hx'))

theorem dedupKeepLast_keys {α : Type} : ∀ (Y : List (α × Str)) (k : Str),
    (dedupKeepLast Y).any (fun y => y.2 == k) = Y.any (fun y => y.2 == k)
  | [], _ => rfl
  | x :: Y, k => by
    rw [dedupKeepLast, List.any_cons]
    split
    · rename_i hany
      rw [dedupKeepLast_keys Y k]
      by_cases hk : x.2 = k
      · rw [← hk, hany, Bool.or_true]
      · rw [beq_eq_false_iff_ne.mpr hk, Bool.false_or]
    · rw [List.any_cons, dedupKeepLast_keys Y k]

theorem dedup_keys {α : Type} (Z : List (α × Str)) (z : α × Str) (hz : z ∈ Z) :
    ∃ z' ∈ dedupKeepLast Z, z'.2 = z.2 := by
  have h : (dedupKeepLast Z).any (fun y => y.2 == z.2) = true := by
    rw [dedupKeepLast_keys, List.any_eq_true]
    exact ⟨z, hz, beq_self_eq_true _⟩
  obtain ⟨z', hz', hk⟩ := List.any_eq_true.mp h
  exact ⟨z', hz', beq_iff_eq.mp hk⟩

/-- **the list rule is a fixed point with leading master-provided candidates**: re-running it over the
    master-provided candidates `A`, the template (rendering `k0`) and the survivors gives the survivors -/
theorem listRule_refetch (CK : Obj → Obj × Str) (k0 : Str) (T : Obj) (A Bs : List (Obj × Str))
    (hT : (CK T).2 = k0) (hfix : ∀ x ∈ A ++ Bs, CK x.1 = x) :
    dedupKeepLast ((A ++ (T :: (dedupKeepLast ((A ++ Bs).filter (fun y => y.2 != k0))).map (·.1)).map CK).filter
      (fun y => y.2 != k0)) = dedupKeepLast ((A ++ Bs).filter (fun y => y.2 != k0)) := by
  generalize hS : dedupKeepLast ((A ++ Bs).filter (fun y => y.2 != k0)) = S
  have hSmem : ∀ x ∈ S, x ∈ A ++ Bs ∧ (x.2 != k0) = true := by
    intro x hx
    rw [← hS] at hx
    exact List.mem_filter.mp ((dedupKeepLast_sublist _).subset hx)
  have hSmap : (S.map (·.1)).map CK = S := by
    rw [List.map_map]
    calc S.map _ = S.map id := by
          apply List.map_congr_left
          intro x hx
          exact hfix x (hSmem x hx).1
      _ = S := List.map_id _
  have hTk : ((CK T).2 != k0) = false := by rw [hT]; simp
  rw [List.map_cons, hSmap, List.filter_append, List.filter_cons]
  simp only [hTk, Bool.false_eq_true, if_false]
  rw [List.filter_eq_self.mpr (fun x hx => (hSmem x hx).2)]
  rw [dedup_drop_prefix, ← hS, dedupKeepLast_idem]
  intro x hx
  have hx' : x ∈ (A ++ Bs).filter (fun y => y.2 != k0) := by
    rw [List.filter_append]; exact List.mem_append_left _ hx
  rw [← hS]
  exact dedup_keys _ x hx'

theorem listRule_self (k0 : Str) (t : Obj × Str) (A : List (Obj × Str)) (ht : t.2 = k0) :
    dedupKeepLast ((A ++ t :: A).filter (fun y => y.2 != k0)) =
      dedupKeepLast (A.filter (fun y => y.2 != k0)) := by
  have htk : (t.2 != k0) = false := by rw [ht]; simp
  rw [List.filter_append, List.filter_cons]
  simp only [htk, Bool.false_eq_true, if_false]
  exact dedup_drop_prefix _ _ (fun x hx => ⟨x, hx, rfl⟩)

theorem dedupKeepLast_append_dedup {α : Type} : ∀ (X Y : List (α × Str)),
    dedupKeepLast (X ++ dedupKeepLast Y) = dedupKeepLast (X ++ Y)
  | [], Y => dedupKeepLast_idem Y
  | x :: X, Y => by
    rw [List.cons_append, List.cons_append, dedupKeepLast, dedupKeepLast, List.any_append, List.any_append,
      dedupKeepLast_keys Y x.2, dedupKeepLast_append_dedup X Y]

/-! ## C. re-fetching the result (C07) -/

theorem withTmpl_name (mo : Obj) (t : Int) : (withTmpl mo t).name = mo.name := by cases mo <;> rfl
theorem withTmpl_disabled (mo : Obj) (t : Int) : (withTmpl mo t).meta.disabled = mo.meta.disabled := by
  cases mo <;> rfl
theorem withTmpl_varRes (mo : Obj) (t : Int) : (withTmpl mo t).meta.varRes = mo.meta.varRes := by
  cases mo <;> rfl
theorem withTmpl_words (mo : Obj) (t : Int) : (withTmpl mo t).words = mo.words := by cases mo <;> rfl
theorem withTmpl_isDefn (mo : Obj) (t : Int) : (withTmpl mo t).isDefn = mo.isDefn := by cases mo <;> rfl

/-- what the re-fetch needs to know about a result object `o` of the master child `mo` -/
structure ResObj (mo o : Obj) : Prop where
  name : o.name = mo.name
  enabled : o.meta.disabled = false
  isDefn : o.isDefn = true
  varRes : o.meta.varRes = none
  noDollar : hasDollar o.words = false

theorem ResObj.srcOK {mo o : Obj} (h : ResObj mo o) : SrcOK o := .inr ⟨h.varRes, h.noDollar⟩
theorem ResObj.srcWords {mo o : Obj} (h : ResObj mo o) : o.srcWords = o.words :=
  srcWords_of_varRes_none o h.varRes

theorem mem_surv {e : Envs} {fuel : Nat} {mo : Obj} {k0 : Str} {l : List Obj} {x : Obj × Str}
    (hx : x ∈ dedupKeepLast ((candsOf e fuel mo l).filter (fun y => y.2 != k0))) :
    (∃ d ∈ l, x.1 = candOfSrc mo d) ∧ x.2 = keyOf e fuel mo x.1 ∧ x.2 ≠ k0 := by
  have h1 := (dedupKeepLast_sublist _).subset hx
  rw [List.mem_filter] at h1
  obtain ⟨h1, h2⟩ := h1
  unfold candsOf at h1
  obtain ⟨d, hd, rfl⟩ := List.mem_map.mp h1
  exact ⟨⟨d, hd, rfl⟩, rfl, by simpa using h2⟩

theorem candOfSrc_cand (mm : Meta) (mws : List Word) (hv : mm.varRes = none) (d : Obj) :
    candOfSrc (.defn mm mws) (candOfSrc (.defn mm mws) d) = candOfSrc (.defn mm mws) d := by
  have : (candOfSrc (.defn mm mws) d).srcWords = d.srcWords :=
    srcWords_of_varRes_none _ hv
  show Obj.defn _ (candOfSrc (.defn mm mws) d).srcWords = _
  rw [this]
  rfl

theorem candOfSrc_tmpl (mm : Meta) (mws : List Word) (ht : mm.tmpl = 0) (hv : mm.varRes = none) (t : Int) :
    candOfSrc (.defn mm mws) (withTmpl (.defn mm mws) t) = .defn mm mws := by
  have : (withTmpl (.defn mm mws) t).srcWords = mws := srcWords_of_varRes_none _ hv
  show Obj.defn _ (withTmpl (.defn mm mws) t).srcWords = _
  rw [this]
  show Obj.defn { mm with tmpl := 0 } mws = _
  rw [meta_tmpl0 mm ht]

theorem multiBlock_congr (mo : Obj) (k0 : Str) (cks cks' : List (Obj × Str))
    (h : dedupKeepLast (cks.filter (fun y => y.2 != k0)) = dedupKeepLast (cks'.filter (fun y => y.2 != k0))) :
    multiBlock mo k0 cks = multiBlock mo k0 cks' := by
  unfold multiBlock
  rw [h]

theorem multiBlock_refetch (e : Envs) (fuel : Nat) (mm : Meta) (mws : List Word) (l : List Obj)
    (ht : mm.tmpl = 0) (hv : mm.varRes = none) :
    multiBlock (.defn mm mws) (keyOf e fuel (.defn mm mws) (.defn mm mws))
      (candsOf e fuel (.defn mm mws)
        (multiBlock (.defn mm mws) (keyOf e fuel (.defn mm mws) (.defn mm mws)) (candsOf e fuel (.defn mm mws) l))) =
    multiBlock (.defn mm mws) (keyOf e fuel (.defn mm mws) (.defn mm mws)) (candsOf e fuel (.defn mm mws) l) := by
  apply multiBlock_congr
  exact listRule_refetch
    (fun d => (candOfSrc (.defn mm mws) d, keyOf e fuel (.defn mm mws) (candOfSrc (.defn mm mws) d))) _
    (withTmpl (.defn mm mws) _) [] (candsOf e fuel (.defn mm mws) l)
    (by simp only; rw [candOfSrc_tmpl mm mws ht hv])
    (fun x hx => by
      obtain ⟨d, _, rfl⟩ := List.mem_map.mp hx
      simp only
      rw [candOfSrc_cand mm mws hv])

theorem mem_multiBlock_tm {e : Envs} {f : Nat} {mo : Obj} {k0 : Str} {l : List Obj}
    {o : Obj} (ho : o ∈ multiBlock mo k0 (candsOf e f mo l)) :
    (∃ t, o = withTmpl mo t) ∨ (∃ d ∈ l, o = candOfSrc mo d) := by
  unfold multiBlock at ho
  rw [List.mem_cons] at ho
  rcases ho with rfl | ho
  · exact .inl ⟨_, rfl⟩
  · obtain ⟨x, hx, rfl⟩ := List.mem_map.mp ho
    exact .inr (mem_surv hx).1

/-- the block of a non-diff fetch as a function of the matching sources -/
def blockL (e : Envs) (fuel : Nat) (mo : Obj) (l : List Obj) : List Obj :=
  if isMultiple mo then multiBlock mo (keyOf e fuel mo mo) (candsOf e fuel mo l) else [lastWins mo l]

theorem blockOf_eq_blockL (e : Envs) (fuel : Nat) (D : List Obj) (mo : Obj) :
    blockOf e fuel D mo = blockL e fuel mo (activeNamed mo.name D) := rfl

theorem blockL_plain (e : Envs) (fuel : Nat) (mo : Obj) (l : List Obj) (h : isMultiple mo = false) :
    blockL e fuel mo l = [lastWins mo l] := by
  unfold blockL; rw [h]; rfl

theorem blockL_multi (e : Envs) (fuel : Nat) (mo : Obj) (l : List Obj) (h : isMultiple mo = true) :
    blockL e fuel mo l = multiBlock mo (keyOf e fuel mo mo) (candsOf e fuel mo l) := by
  unfold blockL; rw [h]; rfl

/-- the candidate built from `o` is the master definition or the candidate of one of `l` -/
def CandClosed (mo : Obj) (l : List Obj) (o : Obj) : Prop :=
  candOfSrc mo o = mo ∨ ∃ d ∈ l, candOfSrc mo o = candOfSrc mo d

/-- what the working set, the difference and the restored working set have in common: every object
    of the block of `mo` is `mo` itself up to the template flag, or the candidate of one of the sources -/
def BlockMem (B : Obj → List Obj → List Obj) : Prop :=
  ∀ mo l, ∀ o ∈ B mo l, (∃ t, o = withTmpl mo t) ∨ ∃ d ∈ l, o = candOfSrc mo d

theorem blockMem_blockL (e : Envs) (fuel : Nat) : BlockMem (blockL e fuel) := by
  intro mo l o ho
  unfold blockL at ho
  split at ho
  · exact mem_multiBlock_tm ho
  · rw [List.mem_singleton.mp ho]
    unfold lastWins
    cases hg : l.getLast? with
    | none => exact .inl ⟨_, (withTmpl_self mo).symm⟩
    | some d => exact .inr ⟨d, List.mem_of_getLast? hg, rfl⟩

theorem keysDefined_multiBlock {e : Envs} {f : Nat} {mm : Meta} {mws : List Word} {l : List Obj}
    {k0 : Str} (ht : mm.tmpl = 0) (hv : mm.varRes = none) (hk : KeysDefined e f (.defn mm mws) l) :
    KeysDefined e f (.defn mm mws) (multiBlock (.defn mm mws) k0 (candsOf e f (.defn mm mws) l)) := by
  refine ⟨hk.1, fun d hd => ?_⟩
  rcases mem_multiBlock_tm hd with ⟨t, rfl⟩ | ⟨d0, hd0, rfl⟩
  · rw [candOfSrc_tmpl mm mws ht hv]
    exact hk.1
  · rw [candOfSrc_cand mm mws hv]
    exact hk.2 d0 hd0

/-! ### fetching from a list of blocks -/

theorem KeysDefined.of_closed {e : Envs} {fuel : Nat} {mo : Obj} {l l' : List Obj}
    (h : KeysDefined e fuel mo l) (hc : ∀ o ∈ l', CandClosed mo l o) : KeysDefined e fuel mo l' := by
  refine ⟨h.1, ?_⟩
  intro o ho
  rcases hc o ho with h1 | ⟨d, hd, h1⟩
  · rw [h1]; exact h.1
  · rw [h1]; exact h.2 d hd

/-- a family of blocks, one per master definition, fit to serve as the source of a fetch: result-like
    objects whose candidates are the master definition or candidates of the original sources `L mo` -/
structure GoodBlocks (mkids : List Obj) (L : Obj → List Obj) (B : Obj → List Obj) : Prop where
  res : ∀ mo ∈ mkids, ∀ o ∈ B mo, ResObj mo o
  closed : ∀ mo ∈ mkids, ∀ o ∈ B mo, CandClosed mo (L mo) o

theorem GoodBlocks.active {mkids : List Obj} {L B : Obj → List Obj} (hB : GoodBlocks mkids L B)
    (hf : FlatMultiMaster mkids) : ∀ mo ∈ mkids, activeNamed mo.name (mkids.flatMap B) = B mo :=
  activeNamed_flatMap_distinct B mkids hf.distinct
    (fun mo hmo o ho => ⟨(hB.res mo hmo o ho).name, (hB.res mo hmo o ho).enabled⟩)

theorem GoodBlocks.mem {mkids : List Obj} {L B : Obj → List Obj} (hB : GoodBlocks mkids L B) :
    ∀ o ∈ mkids.flatMap B, ∃ mo ∈ mkids, ResObj mo o := by
  intro o ho
  obtain ⟨mo, hmo, ho'⟩ := List.mem_flatMap.mp ho
  exact ⟨mo, hmo, hB.res mo hmo o ho'⟩

theorem GoodBlocks.keys {e : Envs} {fuel : Nat} {mkids : List Obj} {L B : Obj → List Obj}
    (hB : GoodBlocks mkids L B) (hf : FlatMultiMaster mkids)
    (hkeys : ∀ mo ∈ mkids, KeysDefined e fuel mo (L mo)) :
    ∀ mo ∈ mkids, KeysDefined e fuel mo (activeNamed mo.name (mkids.flatMap B)) := by
  intro mo hmo
  rw [hB.active hf mo hmo]
  exact (hkeys mo hmo).of_closed (hB.closed mo hmo)

theorem BlockMem.goodBlocks {B : Obj → List Obj → List Obj} (hB : BlockMem B) {mkids : List Obj}
    (combined : List Obj) (hf : FlatMultiMaster mkids) (hr : RefetchOK mkids)
    (hdol : ∀ o ∈ combined, hasDollar o.srcWords = false) :
    GoodBlocks mkids (fun mo => activeNamed mo.name combined)
      (fun mo => B mo (activeNamed mo.name combined)) where
  res := by
    intro mo hmo o ho
    obtain ⟨mm, mws, rfl, _, _, hen⟩ := hf.defn mo hmo
    rcases hB _ _ o ho with ⟨t, rfl⟩ | ⟨d, hd, rfl⟩
    · exact ⟨rfl, hen, rfl, (hr _ hmo).2.1, (hr _ hmo).2.2⟩
    · exact ⟨rfl, hen, rfl, (hr _ hmo).2.1, hdol d (List.mem_filter.mp hd).1⟩
  closed := by
    intro mo hmo o ho
    obtain ⟨mm, mws, rfl, _⟩ := hf.defn mo hmo
    rcases hB _ _ o ho with ⟨t, rfl⟩ | ⟨d, hd, rfl⟩
    · exact .inl (candOfSrc_tmpl mm mws (hr _ hmo).1 (hr _ hmo).2.1 t)
    · exact .inr ⟨d, hd, candOfSrc_cand mm mws (hr _ hmo).2.1 d⟩

theorem blockL_idem (e : Envs) (f : Nat) (mm : Meta) (mws : List Word) (l : List Obj) (ht : mm.tmpl = 0)
    (hv : mm.varRes = none) :
    blockL e f (.defn mm mws) (blockL e f (.defn mm mws) l) = blockL e f (.defn mm mws) l := by
  cases hmult : isMultiple (.defn mm mws) with
  | true => simp only [blockL_multi _ _ _ _ hmult]; exact multiBlock_refetch e f mm mws l ht hv
  | false => simp only [blockL_plain _ _ _ _ hmult]; rw [lastWins_idem mm mws l ht hv]

/-- **C07, flat masters with `.multiple` definitions.**  Fetching again with the children of the
    result as the only source gives the same result.  (Keys are stable for free: under `RefetchOK`
    the re-fetch of a surviving candidate is that candidate itself.) -/
theorem fetch_flat_multi_idempotent (e : Envs) (fuel : Nat) (sm : Meta) (mkids combined : List Obj)
    (hf : FlatMultiMaster mkids) (hr : RefetchOK mkids) (hsd : sm.disabled = false)
    (hdef : ∀ o ∈ combined, o.isDefn = true) (hsrc : ∀ o ∈ combined, SrcOK o)
    (hdol : ∀ o ∈ combined, hasDollar o.srcWords = false)
    (hkeys : ∀ mo ∈ mkids, isMultiple mo = true → KeysDefined e fuel mo (activeNamed mo.name combined))
    (rm : Meta) (out : List Obj) (used : List Nat)
    (h : fetchScope e (fuel + 1) false sm mkids combined = .ok (.scope rm out, used)) :
    ∃ used', fetchScope e (fuel + 1) false sm mkids out = .ok (.scope rm out, used') := by
  rw [fetch_flat_multi e fuel sm mkids combined hf hsd hdef hsrc hkeys] at h
  cases h
  have hG := (blockMem_blockL e fuel).goodBlocks combined hf hr hdol
  have hact : ∀ mo ∈ mkids, activeNamed mo.name (mkids.flatMap (blockOf e fuel combined)) =
      blockL e fuel mo (activeNamed mo.name combined) := hG.active hf
  refine ⟨flatUsed mkids (mkids.flatMap (blockOf e fuel combined)), ?_⟩
  rw [fetch_flat_multi e fuel sm mkids _ hf hsd
    (fun o ho => by obtain ⟨mo, _, h⟩ := hG.mem o ho; exact h.isDefn)
    (fun o ho => by obtain ⟨mo, _, h⟩ := hG.mem o ho; exact h.srcOK)]
  · -- the blocks are reproduced
    rw [flatMap_congr_mem (blockOf e fuel (mkids.flatMap (blockOf e fuel combined)))
      (blockOf e fuel combined) mkids]
    intro mo hmo
    obtain ⟨mm, mws, rfl, _⟩ := hf.defn mo hmo
    rw [blockOf_eq_blockL, hact _ hmo]
    exact blockL_idem e fuel mm mws _ (hr _ hmo).1 (hr _ hmo).2.1
  · -- the keys of the re-fetch are defined
    intro mo hmo hmult
    rw [hact _ hmo]
    exact (hkeys mo hmo hmult).of_closed (hG.closed mo hmo)

/-! ### checking `KeysDefined` by evaluation -/

def keysDefinedB (e : Envs) (fuel : Nat) (mo : Obj) (l : List Obj) : Bool :=
  (errOf (extractFormatStr e (fuel + 64) mo mo)).isNone &&
  l.all (fun d => (errOf (extractFormatStr e (fuel + 64) mo (candOfSrc mo d))).isNone)

theorem ok_of_errOf_none {α : Type} {r : R α} (h : (errOf r).isNone = true) : ∃ a, r = .ok a := by
  cases r with
  | error err => cases h
  | ok a => exact ⟨a, rfl⟩

theorem keysDefined_of_B {e : Envs} {fuel : Nat} {mo : Obj} {l : List Obj}
    (h : keysDefinedB e fuel mo l = true) : KeysDefined e fuel mo l := by
  unfold keysDefinedB at h
  rw [Bool.and_eq_true, List.all_eq_true] at h
  exact ⟨ok_of_errOf_none h.1, fun d hd => ok_of_errOf_none (h.2 d hd)⟩

/-- the fuel `fetchRoot` starts with, minus one -/
def rootFuel (master : List Obj) : Nat := (master.foldl (fun a k => Nat.max a (depthObj 1000 k)) 0) + 2

theorem fetchRoot_eq (e : Envs) (diff : Bool) (master : List Obj) (ss : List (List Obj)) :
    fetchRoot e diff master ss =
      fetchScope e (rootFuel master + 1) diff { name := [], id := some 0 } master ss.flatten := rfl

/-- C07 for flat masters and sources of definitions only: fetching the children of a result `W`
    against the same master gives `W` again (`fetch_flat_multi_idempotent` on a master without `.multiple`) -/
theorem fetch_flat_idempotent_partial (e : Envs) (fuel : Nat) (mkids combined : List Obj)
    (hf : FlatMaster mkids) (hr : RefetchOK mkids)
    (hdef : ∀ o ∈ combined, o.isDefn = true) (hsrc : ∀ o ∈ combined, SrcOK o)
    (hdol : ∀ o ∈ combined, hasDollar o.srcWords = false)
    (rm : Meta) (out : List Obj) (used : List Nat)
    (h : fetchScope e (fuel + 1) false { name := [] } mkids combined = .ok (.scope rm out, used)) :
    ∃ used', fetchScope e (fuel + 1) false { name := [] } mkids out = .ok (.scope rm out, used') :=
  fetch_flat_multi_idempotent e fuel _ mkids combined hf.toMulti hr rfl hdef hsrc hdol
    (fun mo hmo hm => by
      obtain ⟨mm, mws, rfl, hp, _⟩ := hf.plain mo hmo
      rw [show isMultiple (.defn mm mws) = false from hp.notMultiple] at hm
      cases hm)
    rm out used h

end Phil
