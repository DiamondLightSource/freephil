/-
  Phil.Proofs.ExtractTree — `scope.extract` and `scope.format` on WHOLE TREES without `.multiple`, in closed
  form: the structural specifications `extractSpec` / `formatSpec`; the fuelled `extractObj` equals the first
  (`extractObj_eq_spec_xt` on `DObj_xt`), the master loop of `formatObj` is the second (`formatFold_spec_xt` on
  `FObj_xt`; the closed form itself is `C09.format_closed`).  On them: the value at a path is the conversion of
  the words of the definition at that path (what Props/C10Tree needs to lift `fromWords_in_domain`), an error is
  the error of a leaf, and the per-converter round trips of Props/C09 (`RoundTripLeaf`, `leaf_round_trip_xt`) lift
  to whole objects (`format_extract_obj_xt`).  The loops themselves are in ExtractLoop (`xstep_xt`,
  `xfold_blocks`) and FormatLoop (`fstepP`).
-/
import Phil.Proofs.ExtractLoop
import Phil.Props.C09
import Phil.Proofs.FormatLoop
namespace Phil

/-! ## 1. extraction in closed form -/

mutual
/-- `scope.extract` / `definition.extract` by structural recursion -/
def extractSpec (e : Envs) : Obj → R PVal
  | .defn m ws => extractDefn e m ws
  | .scope _ kids => (extractSpecKids e kids).map PVal.record
/-- the fields of the `scope_extract`, in document order: template placeholders (`is_template < 0`)
    contribute nothing, disabled objects and templates (`is_template > 0`) contribute `None`, every
    other child its own extraction; the first failing child (document order) decides the error -/
def extractSpecKids (e : Envs) : List Obj → R (List (Str × PVal))
  | [] => .ok []
  | o :: os =>
    if o.meta.tmpl < 0 then extractSpecKids e os
    else if o.meta.disabled || o.meta.tmpl > 0 then
      (extractSpecKids e os).map (fun r => (o.name, PVal.none) :: r)
    else
      match extractSpec e o with
      | .error err => .error err
      | .ok v => (extractSpecKids e os).map (fun r => (o.name, v) :: r)
end

mutual
/-- no `.multiple` anywhere, sibling names pairwise distinct at every depth (enabled or not, template
    or not, with or without words) -/
def DObj_xt : Obj → Prop
  | .defn m _ => (m.attrs.get "multiple").truthy = false
  | .scope m kids =>
    (m.attrs.get "multiple").truthy = false ∧ DKids_xt kids ∧ (kids.map Obj.name).Pairwise (· ≠ ·)
def DKids_xt : List Obj → Prop
  | [] => True
  | o :: os => DObj_xt o ∧ DKids_xt os
end

theorem dkids_iff_xt : ∀ (l : List Obj), DKids_xt l ↔ ∀ o ∈ l, DObj_xt o
  | [] => by rw [DKids_xt]; simp
  | o :: os => by rw [DKids_xt, dkids_iff_xt os]; simp

theorem DObj_xt.notMultiple : ∀ {o : Obj}, DObj_xt o → isMultiple o = false
  | .defn m ws, h => by rw [DObj_xt] at h; exact h
  | .scope m kids, h => by rw [DObj_xt] at h; exact h.1

mutual
theorem dobj_of_xobj_xt : ∀ (o : Obj), XObj_ns o → DObj_xt o
  | .defn m ws, h => by rw [XObj_ns] at h; rw [DObj_xt]; exact h.2
  | .scope m kids, h => by
    rw [XObj_ns] at h; rw [DObj_xt]; exact ⟨h.1, dkids_of_xkids_xt kids h.2.1, h.2.2⟩
theorem dkids_of_xkids_xt : ∀ (l : List Obj), XKids_ns l → DKids_xt l
  | [], _ => by rw [DKids_xt]; trivial
  | o :: os, h => by
    rw [XKids_ns] at h; rw [DKids_xt]; exact ⟨dobj_of_xobj_xt o h.1, dkids_of_xkids_xt os h.2⟩
end

theorem extractSpec_scope_record_xt (e : Envs) (m : Meta) (kids : List Obj) (v : PVal)
    (h : extractSpec e (.scope m kids) = .ok v) : ∃ fs, v = .record fs ∧ extractSpecKids e kids = .ok fs := by
  rw [extractSpec] at h
  obtain ⟨fs, hfs, rfl⟩ := Except.map_eq_ok.mp h
  exact ⟨fs, rfl, hfs⟩

/-- children without `.multiple`, one block each: the blocks' attributes are the specification -/
theorem scopeFieldsB_singles_xt (e : Envs) (X : Obj → R PVal) : ∀ (kids : List Obj),
    (∀ k ∈ kids, X k = extractSpec e k) → scopeFieldsB X (kids.map .single) = extractSpecKids e kids
  | [], _ => by rw [extractSpecKids]; rfl
  | o :: os, hX => by
    rw [List.map_cons, scopeFieldsB, blockFields, extractSpecKids,
      scopeFieldsB_singles_xt e X os (fun k hk => hX k (List.mem_cons_of_mem _ hk)), hX o List.mem_cons_self]
    by_cases ht : o.meta.tmpl < 0
    · simp only [ht, if_true]; cases extractSpecKids e os <;> rfl
    · by_cases hd : (o.meta.disabled || decide (o.meta.tmpl > 0)) = true
      · simp only [ht, hd, if_true, if_false]; rfl
      · simp only [ht, hd, if_false, Bool.false_eq_true]; cases extractSpec e o <;> rfl

theorem extractObj_scope_spec_xt (e : Envs) (fuel : Nat) (m : Meta) (kids : List Obj)
    (hpw : (kids.map Obj.name).Pairwise (· ≠ ·))
    (hx : ∀ k ∈ kids, isMultiple k = false ∧ extractObj e fuel k = extractSpec e k) :
    extractObj e (fuel + 1) (.scope m kids) = extractSpec e (.scope m kids) := by
  have := extractObj_blocks e fuel m (kids.map .single) (by simpa [KidBlock.OK] using fun k hk => (hx k hk).1)
    (by simpa [List.map_map, Function.comp_def, KidBlock.name] using hpw)
  rw [List.flatMap_map] at this
  simp only [KidBlock.objs, List.flatMap_singleton'] at this
  rw [this, scopeFieldsB_singles_xt e _ kids (fun k hk => (hx k hk).2), extractSpec]

/-- **closed form of `scope.extract`**: on a tree without `.multiple` whose sibling names are
    pairwise distinct, with fuel beyond the depth, the fuelled model is the structural
    specification — values and errors alike. -/
theorem extractObj_eq_spec_xt (e : Envs) : ∀ (fuel : Nat) (o : Obj), DObj_xt o → depthT o < fuel →
    extractObj e fuel o = extractSpec e o := by
  intro fuel
  induction fuel with
  | zero => intro o _ h; exact absurd h (Nat.not_lt_zero _)
  | succ fuel ih =>
    intro o hx hd
    cases o with
    | defn m ws => rw [extractObj, extractSpec]
    | scope m kids =>
      rw [DObj_xt] at hx
      rw [depthT] at hd
      refine extractObj_scope_spec_xt e fuel m kids hx.2.2 (fun k hk => ?_)
      have hk' := (dkids_iff_xt kids).1 hx.2.1 k hk
      have := depthT_le_depthL kids k hk
      exact ⟨hk'.notMultiple, ih k hk' (by omega)⟩

/-- the root scope: its own meta data play no role -/
theorem extractObj_root_eq_spec_xt (e : Envs) (fuel : Nat) (m : Meta) (kids : List Obj)
    (hk : DKids_xt kids) (hpw : (kids.map Obj.name).Pairwise (· ≠ ·)) (hd : depthL kids + 1 < fuel) :
    extractObj e fuel (.scope m kids) = extractSpec e (.scope m kids) := by
  cases fuel with
  | zero => exact absurd hd (Nat.not_lt_zero _)
  | succ fuel =>
    refine extractObj_scope_spec_xt e fuel m kids hpw (fun k hk' => ?_)
    have hk'' := (dkids_iff_xt kids).1 hk k hk'
    have := depthT_le_depthL kids k hk'
    exact ⟨hk''.notMultiple, extractObj_eq_spec_xt e fuel k hk'' (by omega)⟩

/-! ### the specification as a map over the live children -/

/-- the children that contribute a field: everything but template placeholders -/
def liveKids (kids : List Obj) : List Obj := kids.filter (fun o => !decide (o.meta.tmpl < 0))

/-- the value a live child contributes -/
def kidValue (e : Envs) (o : Obj) : R PVal :=
  if o.meta.disabled || o.meta.tmpl > 0 then .ok .none else extractSpec e o

theorem extractSpecKids_eq_mapR_xt (e : Envs) : ∀ (kids : List Obj),
    extractSpecKids e kids = mapR (fun o => (kidValue e o).map (fun v => (o.name, v))) (liveKids kids)
  | [] => by rw [extractSpecKids]; rfl
  | o :: os => by
    rw [extractSpecKids, extractSpecKids_eq_mapR_xt e os]
    unfold liveKids
    rw [List.filter_cons]
    by_cases ht : o.meta.tmpl < 0
    · simp [ht]
    · simp only [ht, if_false, decide_false, Bool.not_false, if_true, mapR]
      generalize mapR (fun o => (kidValue e o).map (fun v => (o.name, v))) (List.filter _ os) = M
      unfold kidValue
      by_cases hdis : (o.meta.disabled || decide (o.meta.tmpl > 0)) = true
      · simp only [hdis, if_true]
        cases M <;> rfl
      · simp only [hdis, if_false, Bool.false_eq_true]
        cases extractSpec e o with
        | error err => rfl
        | ok v => cases M <;> rfl

theorem extractSpecKids_names_st (e : Envs) (kids : List Obj) (fs : List (Str × PVal))
    (h : extractSpecKids e kids = .ok fs) : fs.map (fun p => p.1) = (liveKids kids).map Obj.name := by
  rw [extractSpecKids_eq_mapR_xt] at h
  refine mapR_names _ Obj.name (fun p => p.1) (fun o y hy => ?_) _ _ h
  obtain ⟨_, _, rfl⟩ := Except.map_eq_ok.mp hy
  rfl

/-! ## 2. the value at a path; errors come from leaves -/

/-- the value stored in an extracted record under a path of scope names and a final name -/
def valueAt : PVal → List Str → Str → Option PVal
  | .record fs, [], n => fieldGet fs n
  | .record fs, s :: ps, n =>
    match fieldGet fs s with
    | some sub => valueAt sub ps n
    | none => none
  | _, _, _ => none

/-- the converter a definition declares: `strings` when it declares no `.type` -/
def declConv (m : Meta) : Option Conv :=
  match m.attrs.get "type" with
  | .none => some .strings
  | .conv c => some c
  | _ => none

theorem extractDefn_ok_conv_xt (e : Envs) (m : Meta) (ws : List Word) (v : PVal)
    (h : extractDefn e m ws = .ok v) :
    ∃ c, declConv m = some c ∧ fromWords c e.eval (m.attrs.get "optional") ws = .ok v := by
  unfold extractDefn at h
  unfold declConv
  cases ht : m.attrs.get "type" <;> rw [ht] at h <;> first | exact ⟨_, rfl, h⟩ | cases h

/-- enabled and not a template: the object contributes its own extraction -/
def liveObjB_xt (o : Obj) : Bool := !o.meta.disabled && o.meta.tmpl == 0

/-- every object on the path (the scopes and the final object) is enabled and not a template -/
def livePath_xt : List Obj → List Str → Str → Bool
  | objs, [], n =>
    match findNamedTree objs n with
    | some o => liveObjB_xt o
    | none => false
  | objs, s :: ps, n =>
    match findNamedTree objs s with
    | some (.scope m kids) => liveObjB_xt (.scope m kids) && livePath_xt kids ps n
    | _ => false

theorem kidValue_live_xt (e : Envs) (o : Obj) (h : liveObjB_xt o = true) : kidValue e o = extractSpec e o := by
  unfold liveObjB_xt at h
  simp only [Bool.and_eq_true, Bool.not_eq_true', beq_iff_eq] at h
  unfold kidValue
  simp [h.1, h.2]

theorem live_not_placeholder_xt (o : Obj) (h : liveObjB_xt o = true) : ¬ o.meta.tmpl < 0 := by
  unfold liveObjB_xt at h
  simp only [Bool.and_eq_true, Bool.not_eq_true', beq_iff_eq] at h
  omega

/-- the third branch of the loop body: neither a placeholder nor disabled nor a template -/
theorem live_of_not_dead_xt {o : Obj} (ht : ¬ o.meta.tmpl < 0)
    (hdis : ¬ (o.meta.disabled || decide (o.meta.tmpl > 0)) = true) : liveObjB_xt o = true := by
  unfold liveObjB_xt
  simp only [Bool.or_eq_true, decide_eq_true_eq, not_or, Bool.not_eq_true] at hdis
  simp only [Bool.and_eq_true, Bool.not_eq_true', beq_iff_eq]
  exact ⟨hdis.1, by omega⟩

/-- in a list whose keys are pairwise distinct, looking up the key of a member finds that member
    (`fieldGet` and `findNamedTree` are both such a lookup) -/
theorem find?_key_of_mem_xt {α β : Type} [BEq β] [LawfulBEq β] (f : α → β) (l : List α)
    (hpw : (l.map f).Pairwise (· ≠ ·)) (x : α) (hx : x ∈ l) : l.find? (fun a => f a == f x) = some x := by
  cases hf : l.find? (fun a => f a == f x) with
  | none => exact absurd (List.find?_eq_none.mp hf x hx) (by simp)
  | some y =>
    rw [pairwise_map_eq f l hpw y (List.mem_of_find?_eq_some hf) x hx (by simpa using List.find?_some hf)]

theorem fieldGet_of_distinct_xt (fs : List (Str × PVal))
    (hpw : (fs.map (fun p => p.1)).Pairwise (· ≠ ·)) (p : Str × PVal) (hp : p ∈ fs) :
    fieldGet fs p.1 = some p.2 := by
  unfold fieldGet
  rw [find?_key_of_mem_xt (fun p => p.1) fs hpw p hp]
  rfl

theorem findNamed_of_mem_distinct_xt (kids : List Obj) (o : Obj)
    (hpw : (kids.map Obj.name).Pairwise (· ≠ ·)) (h : o ∈ kids) : findNamedTree kids o.name = some o :=
  find?_key_of_mem_xt Obj.name kids hpw o h

theorem fieldGet_extractSpecKids_xt (e : Envs) (kids : List Obj) (fs : List (Str × PVal))
    (hpw : (kids.map Obj.name).Pairwise (· ≠ ·)) (h : extractSpecKids e kids = .ok fs) (o : Obj)
    (ho : o ∈ kids) (ht : ¬ o.meta.tmpl < 0) :
    ∃ v, kidValue e o = .ok v ∧ fieldGet fs o.name = some v := by
  have hkeys := extractSpecKids_names_st e kids fs h
  rw [extractSpecKids_eq_mapR_xt] at h
  obtain ⟨p, hp, hg⟩ := mapR_mem _ _ _ h o (List.mem_filter.mpr ⟨ho, by simpa using ht⟩)
  obtain ⟨v, hv, rfl⟩ := Except.map_eq_ok.mp hg
  refine ⟨v, hv, fieldGet_of_distinct_xt fs ?_ (o.name, v) hp⟩
  rw [hkeys]
  exact hpw.sublist (List.filter_sublist.map _)

theorem fieldGet_live_xt (e : Envs) (kids : List Obj) (fs : List (Str × PVal))
    (hpw : (kids.map Obj.name).Pairwise (· ≠ ·)) (hfs : extractSpecKids e kids = .ok fs) {n : Str} {o : Obj}
    (hfn : findNamedTree kids n = some o) (hl : liveObjB_xt o = true) :
    ∃ v, extractSpec e o = .ok v ∧ fieldGet fs n = some v := by
  obtain rfl := findNamed_name hfn
  obtain ⟨v, hv, hg⟩ := fieldGet_extractSpecKids_xt e kids fs hpw hfs o (findNamed_mem hfn)
    (live_not_placeholder_xt o hl)
  rw [kidValue_live_xt e o hl] at hv
  exact ⟨v, hv, hg⟩

/-- **the value at a live path is the extraction of the definition at that path** -/
theorem valueAt_extract_xt (e : Envs) : ∀ (ps : List Str) (kids : List Obj) (fs : List (Str × PVal))
    (n : Str) (dm : Meta) (dws : List Word),
    DKids_xt kids → (kids.map Obj.name).Pairwise (· ≠ ·) → extractSpecKids e kids = .ok fs →
    defAt kids ps n = some (.defn dm dws) → livePath_xt kids ps n = true →
    ∃ leaf, valueAt (.record fs) ps n = some leaf ∧ extractDefn e dm dws = .ok leaf
  | [], kids, fs, n, dm, dws, hk, hpw, hfs, hd, hl => by
    have hfn := (defAt_nil_eq_some hd).1
    rw [livePath_xt, hfn] at hl
    obtain ⟨v, hv, hg⟩ := fieldGet_live_xt e kids fs hpw hfs hfn hl
    rw [extractSpec] at hv
    exact ⟨v, by rw [valueAt]; exact hg, hv⟩
  | s :: ps, kids, fs, n, dm, dws, hk, hpw, hfs, hd, hl => by
    obtain ⟨m, k', hfn, hd⟩ := defAt_cons_eq_some hd
    rw [livePath_xt, hfn] at hl
    simp only [Bool.and_eq_true] at hl
    obtain ⟨v, hv, hg⟩ := fieldGet_live_xt e kids fs hpw hfs hfn hl.1
    obtain ⟨fs', rfl, hr⟩ := extractSpec_scope_record_xt e m k' v hv
    have hdo := (dkids_iff_xt kids).1 hk _ (findNamed_mem hfn)
    rw [DObj_xt] at hdo
    obtain ⟨leaf, h1, h2⟩ := valueAt_extract_xt e ps k' fs' n dm dws hdo.2.1 hdo.2.2 hr hd hl.2
    exact ⟨leaf, by rw [valueAt, hg]; exact h1, h2⟩

/-! ### an error of the extraction is the error of a live definition -/

theorem extractSpecKids_error_mem_xt (e : Envs) (kids : List Obj) (err : Err)
    (h : extractSpecKids e kids = .error err) :
    ∃ o ∈ kids, liveObjB_xt o = true ∧ extractSpec e o = .error err := by
  rw [extractSpecKids_eq_mapR_xt] at h
  obtain ⟨o, ho, hg⟩ := mapR_error h
  obtain ⟨ho, ht⟩ := List.mem_filter.mp ho
  have hv := Except.map_eq_error.mp hg
  unfold kidValue at hv
  by_cases hdis : (o.meta.disabled || decide (o.meta.tmpl > 0)) = true
  · rw [if_pos hdis] at hv
    cases hv
  · rw [if_neg hdis] at hv
    exact ⟨o, ho, live_of_not_dead_xt (by simpa using ht) hdis, hv⟩

/-- the failing child is found under its name (sibling names are distinct); below a scope the path
    goes on -/
theorem extractSpec_error_leaf_xt (e : Envs) : ∀ (m : Meta) (kids : List Obj) (err : Err),
    (kids.map Obj.name).Pairwise (· ≠ ·) → DKids_xt kids →
    extractSpec e (.scope m kids) = .error err →
    ∃ ps n dm dws, defAt kids ps n = some (.defn dm dws) ∧ livePath_xt kids ps n = true ∧
      extractDefn e dm dws = .error err
  | m, kids, err, hpw, hk, h => by
    rw [extractSpec] at h
    obtain ⟨o, ho, hlive, hv⟩ := extractSpecKids_error_mem_xt e kids err (Except.map_eq_error.mp h)
    cases o with
    | defn dm dws =>
      have hfind : findNamedTree kids dm.name = _ := findNamed_of_mem_distinct_xt kids _ hpw ho
      rw [extractSpec] at hv
      exact ⟨[], dm.name, dm, dws, by rw [defAt, hfind], by rw [livePath_xt, hfind]; exact hlive, hv⟩
    | scope sm k' =>
      have hfind : findNamedTree kids sm.name = _ := findNamed_of_mem_distinct_xt kids _ hpw ho
      have hdo := (dkids_iff_xt kids).1 hk _ ho
      rw [DObj_xt] at hdo
      obtain ⟨ps, n, dm, dws, h1, h2, h3⟩ := extractSpec_error_leaf_xt e sm k' err hdo.2.2 hdo.2.1 hv
      refine ⟨sm.name :: ps, n, dm, dws, by rw [defAt, hfind]; exact h1, ?_, h3⟩
      rw [livePath_xt, hfind]
      exact Bool.and_eq_true_iff.mpr ⟨hlive, h2⟩
termination_by _ kids => sizeOf kids
decreasing_by
  have := List.sizeOf_lt_of_mem ho
  simp only [Obj.scope.sizeOf_spec] at this
  omega

/-! ### on trees with non-empty word lists the extraction fails only where a converter does -/

theorem extractSpec_benign_xt (e : Envs) : ∀ (o : Obj), XObj_ns o → OkOrBenign (extractSpec e o)
  | .defn m ws, hx => by
    rw [XObj_ns] at hx; rw [extractSpec]; exact extractDefn_benign_ns e m hx.1
  | .scope m kids, hx => by
    rw [XObj_ns] at hx; rw [extractSpec]
    refine OkOrBenign.map _ ?_
    cases h : extractSpecKids e kids with
    | ok fs => trivial
    | error err =>
      obtain ⟨o, ho, _, hv⟩ := extractSpecKids_error_mem_xt e kids err h
      exact (extractSpec_benign_xt e o ((xkids_iff_ns kids).1 hx.2.1 o ho)).error hv
termination_by o => sizeOf o
decreasing_by
  have := List.sizeOf_lt_of_mem ho
  simp only [Obj.scope.sizeOf_spec]
  omega

theorem extract_xobj_benign_ns (e : Envs) (fuel : Nat) (o : Obj) (hx : XObj_ns o) (hd : depthT o < fuel) :
    OkOrBenign (extractObj e fuel o) := by
  rw [extractObj_eq_spec_xt e fuel o (dobj_of_xobj_xt o hx) hd]
  exact extractSpec_benign_xt e o hx

theorem extract_treeResult_benign_ns (e : Envs) (fuel : Nat) (m : Meta) (mkids srcs : List Obj)
    (hf : TreeMaster mkids) (hw : wordsKidsB_ns mkids = true) (hs : SrcWords_ns srcs)
    (hfuel : depthL mkids + 1 < fuel) :
    OkOrBenign (extractObj e fuel (.scope m (treeResult mkids srcs))) := by
  have hx : XObj_ns (.scope { m with attrs := [] } (treeResult mkids srcs)) := by
    rw [XObj_ns, treeResult_names]
    exact ⟨rfl, xkids_treeResult_ns mkids srcs hf.kids hw hs, hf.distinct⟩
  have := extract_xobj_benign_ns e fuel _ hx (by rw [depthT, depthL_treeResult_ns]; omega)
  -- `scope.extract` does not look at the attributes of the scope itself
  cases fuel with
  | zero => exact absurd hfuel (Nat.not_lt_zero _)
  | succ fuel =>
    rw [extractObj] at this ⊢
    exact this

theorem extract_of_fetch_tree_benign_ns (e : Envs) (fuel xfuel : Nat) (sm : Meta) (mkids srcs : List Obj)
    (hf : TreeMaster mkids) (hfuel : depthL mkids < fuel) (hsd : sm.disabled = false)
    (hsrc : SrcTree srcs) (hw : wordsKidsB_ns mkids = true) (hs : SrcWords_ns srcs)
    (hx : depthL mkids + 1 < xfuel) (ro : Obj) (used : List Nat)
    (h : fetchScope e fuel false sm mkids srcs = .ok (ro, used)) :
    OkOrBenign (extractObj e xfuel ro) := by
  rw [fetch_tree_total e fuel sm mkids srcs hf hfuel hsd hsrc] at h
  split at h
  · cases h
    exact extract_treeResult_benign_ns e xfuel _ mkids srcs hf hw hs hx
  · cases h

/-! ### the result of a tree fetch -/

mutual
theorem dobj_treeObj_xt : ∀ (mo : Obj) (srcs : List Obj), TreeObj mo → DObj_xt (treeObj mo srcs)
  | .defn mm mws, srcs, ht => by
    rw [TreeObj] at ht
    rw [treeObj]
    cases lastDef srcs mm.name with
    | none => dsimp only; rw [DObj_xt]; exact ht.1.notMultiple
    | some d => dsimp only; rw [DObj_xt]; exact ht.1.notMultiple
  | .scope mm kids, srcs, ht => by
    rw [TreeObj] at ht
    rw [treeObj, DObj_xt]
    refine ⟨ht.1, dkids_treeResult_xt kids (srcStep srcs mm.name) ht.2.2.2.2.1, ?_⟩
    rw [treeResult_names]
    exact ht.2.2.2.2.2
theorem dkids_treeResult_xt : ∀ (mkids : List Obj) (srcs : List Obj), TreeKids mkids →
    DKids_xt (treeResult mkids srcs)
  | [], srcs, _ => by rw [treeResult, DKids_xt]; trivial
  | mo :: rest, srcs, ht => by
    rw [TreeKids] at ht
    rw [treeResult, DKids_xt]
    exact ⟨dobj_treeObj_xt mo srcs ht.1, dkids_treeResult_xt rest srcs ht.2⟩
end

/-- the words of the result definition: those of the last enabled source definition of that name at
    that level, the master's own if there is none -/
def treeWords_xt (mm : Meta) (mws : List Word) (srcs : List Obj) : List Word :=
  match lastDef srcs mm.name with
  | some d => d.srcWords
  | none => mws

theorem extractDefn_tmpl_xt (e : Envs) (mm : Meta) (t : Int) (ws : List Word) :
    extractDefn e { mm with tmpl := t } ws = extractDefn e mm ws := rfl

theorem treeObj_defn_xt (mm : Meta) (mws : List Word) (srcs : List Obj) :
    ∃ mm', treeObj (.defn mm mws) srcs = .defn mm' (treeWords_xt mm mws srcs) ∧
      (mm' = mm ∨ mm' = { mm with tmpl := 0 }) := by
  rw [treeObj]
  unfold treeWords_xt
  cases lastDef srcs mm.name with
  | none => exact ⟨mm, rfl, .inl rfl⟩
  | some d => exact ⟨_, rfl, .inr rfl⟩

theorem livePath_treeResult_xt : ∀ (ps : List Str) (mkids srcs : List Obj) (n : Str) (mm : Meta)
    (mws : List Word), TreeKids mkids → defAt mkids ps n = some (.defn mm mws) → mm.tmpl = 0 →
    livePath_xt (treeResult mkids srcs) ps n = true
  | [], mkids, srcs, n, mm, mws, ht, hd, h0 => by
    have hfn := (defAt_nil_eq_some hd).1
    have hto := (treeKids_iff mkids).1 ht _ (findNamed_mem hfn)
    rw [TreeObj] at hto
    obtain ⟨mm', heq, hmm⟩ := treeObj_defn_xt mm mws srcs
    rw [livePath_xt, findNamed_treeResult, hfn, Option.map_some, heq]
    unfold liveObjB_xt
    rcases hmm with rfl | rfl <;> simp [Obj.meta, hto.2.2.2, h0]
  | s :: ps, mkids, srcs, n, mm, mws, ht, hd, h0 => by
    obtain ⟨sm, k', hfn, hd⟩ := defAt_cons_eq_some hd
    have hto := (treeKids_iff mkids).1 ht _ (findNamed_mem hfn)
    rw [TreeObj] at hto
    rw [livePath_xt, findNamed_treeResult, hfn]
    simp only [Option.map_some, treeObj, Bool.and_eq_true]
    refine ⟨?_, livePath_treeResult_xt ps k' (srcStep srcs sm.name) n mm mws hto.2.2.2.2.1 hd h0⟩
    unfold liveObjB_xt
    simp [Obj.meta, hto.2.2.2.1]

/-- **extraction of the closed-form result of a tree fetch**: an error is the converter's error on
    the final words of some master definition; a success holds, at the path of every master
    definition (not a template), the conversion of that definition's final words. -/
theorem extract_treeResult_xt (e : Envs) (m : Meta) (mkids srcs : List Obj) (hf : TreeMaster mkids) :
    (∀ err, extractSpec e (.scope m (treeResult mkids srcs)) = .error err →
      ∃ ps n mm mws, defAt mkids ps n = some (.defn mm mws) ∧
        extractDefn e mm (treeWords_xt mm mws (srcAt srcs ps)) = .error err) ∧
    (∀ v, extractSpec e (.scope m (treeResult mkids srcs)) = .ok v →
      ∀ ps n mm mws, defAt mkids ps n = some (.defn mm mws) → mm.tmpl = 0 →
        ∃ leaf, valueAt v ps n = some leaf ∧
          extractDefn e mm (treeWords_xt mm mws (srcAt srcs ps)) = .ok leaf) := by
  have hdk := dkids_treeResult_xt mkids srcs hf.kids
  have hpw : ((treeResult mkids srcs).map Obj.name).Pairwise (· ≠ ·) := by
    rw [treeResult_names]; exact hf.distinct
  constructor
  · intro err h
    obtain ⟨ps, n, dm, dws, h1, _, h3⟩ := extractSpec_error_leaf_xt e m _ err hpw hdk h
    rw [defAt_treeResult] at h1
    cases hd : defAt mkids ps n with
    | none => rw [hd] at h1; cases h1
    | some mo =>
      rw [hd] at h1
      simp only [Option.map_some, Option.some.injEq] at h1
      cases mo with
      | scope sm k' => rw [treeObj] at h1; cases h1
      | defn mm mws =>
        obtain ⟨mm', heq, hmm⟩ := treeObj_defn_xt mm mws (srcAt srcs ps)
        rw [heq] at h1
        simp only [Obj.defn.injEq] at h1
        obtain ⟨rfl, rfl⟩ := h1
        refine ⟨ps, n, mm, mws, hd, ?_⟩
        rcases hmm with rfl | rfl
        · exact h3
        · rw [extractDefn_tmpl_xt] at h3; exact h3
  · intro v h ps n mm mws hd h0
    obtain ⟨fs, rfl, hfs⟩ := extractSpec_scope_record_xt e m _ v h
    obtain ⟨mm', heq, hmm⟩ := treeObj_defn_xt mm mws (srcAt srcs ps)
    have hd' : defAt (treeResult mkids srcs) ps n = some (.defn mm' (treeWords_xt mm mws (srcAt srcs ps))) := by
      rw [defAt_treeResult, hd, Option.map_some, heq]
    obtain ⟨leaf, h1, h2⟩ := valueAt_extract_xt e ps _ fs n _ _ hdk hpw hfs hd'
      (livePath_treeResult_xt ps mkids srcs n mm mws hf.kids hd h0)
    refine ⟨leaf, h1, ?_⟩
    rcases hmm with rfl | rfl
    · exact h2
    · rw [extractDefn_tmpl_xt] at h2; exact h2

/-! ## 3. `scope.format` in closed form -/

/-- the objects one element of that iteration contributes for the master child called `nm`: none if
    the element has no such attribute, the child formatted with the attribute's value otherwise -/
def itemFormat_xt (F : PVal → R Obj) (nm : Str) (pi : PVal) : R (List Obj) :=
  match pi with
  | .record fs =>
    (match fieldGet fs nm with
     | none => .ok []
     | some sub => (F sub).map (fun r => [r]))
  | _ => .error (.stray "AttributeError" "phil_get")

/-- the objects a non-multiple master child called `nm` contributes to `scope.format(v)`; `F` formats
    the child itself -/
def kidFormat_xt (F : PVal → R Obj) (nm : Str) (v : PVal) : R (List Obj) :=
  match v with
  | .none => (F .none).map (fun r => [r])
  | .auto => (F .auto).map (fun r => [r])
  | _ =>
    match pobjsOf_xt v with
    | .error err => .error err
    | .ok ps => (mapR (itemFormat_xt F nm) ps).map List.flatten

mutual
/-- `scope.format` / `definition.format` by structural recursion, for masters without `.multiple`
    whose objects are enabled and whose sibling names are pairwise distinct -/
def formatSpec (e : Envs) : Obj → PVal → R Obj
  | .defn m ws, v => formatDefn e m ws v
  | .scope m kids, v => (formatSpecKids e kids v).map (fun out => Obj.scope { m with tmpl := 0 } out)
/-- the objects of the formatted scope: the contributions of the master's children, in order -/
def formatSpecKids (e : Envs) : List Obj → PVal → R (List Obj)
  | [], _ => .ok []
  | o :: os, v =>
    match kidFormat_xt (formatSpec e o) o.name v with
    | .error err => .error err
    | .ok rs => (formatSpecKids e os v).map (fun rest => rs ++ rest)
end

theorem kidFormat_record_xt (F : PVal → R Obj) (nm : Str) (fs : List (Str × PVal)) :
    kidFormat_xt F nm (.record fs) =
      match fieldGet fs nm with
      | none => .ok []
      | some sub => (F sub).map (fun r => [r]) := by
  unfold kidFormat_xt pobjsOf_xt
  simp only [mapR, itemFormat_xt]
  cases fieldGet fs nm with
  | none => rfl
  | some sub =>
    simp only []
    cases F sub <;> rfl

theorem finner_fold_xt (F : Obj → PVal → R Obj) (o : Obj) (done : List (Str × Bool)) :
    ∀ (ps : List PVal) (out : List Obj),
      ps.foldlM (finnerP F o false) (out, done)
        = (mapR (itemFormat_xt (F o) o.name) ps).map (fun rs => (out ++ rs.flatten, done)) := by
  intro ps
  induction ps with
  | nil => intro out; simp [mapR, Except.map, pure, Except.pure]
  | cons pi ps ih =>
    intro out
    rw [List.foldlM_cons]
    simp only [mapR]
    cases pi with
    | record fs =>
      simp only [itemFormat_xt, finnerP]
      cases hg : fieldGet fs o.name with
      | none =>
        show ps.foldlM _ (out, done) = _
        rw [ih out]
        cases mapR (itemFormat_xt (F o) o.name) ps <;> simp [Except.map]
      | some sub =>
        simp only []
        cases hF : F o sub with
        | error err => rfl
        | ok r =>
          show ps.foldlM _ (out ++ [r], done) = _
          rw [ih (out ++ [r])]
          cases mapR (itemFormat_xt (F o) o.name) ps <;> simp [Except.map]
    | _ => rfl

theorem fstep_plain_xt (F : Obj → PVal → R Obj) (v : PVal) (out : List Obj) (done : List (Str × Bool))
    (i : Nat) (o : Obj) (hm : isMultiple o = false) :
    fstepP F v (out, done) (i, o) =
      (kidFormat_xt (F o) o.name v).map (fun rs => (out ++ rs, done)) := by
  have hin := finner_fold_xt F o done
  unfold fstepP kidFormat_xt pobjsOf_xt
  simp only [hm, Bool.false_and, Bool.false_eq_true, if_false]
  cases v with
  | none => simp only; cases F o .none <;> simp [Except.map]
  | auto => simp only; cases F o .auto <;> simp [Except.map]
  | record fs =>
    simp only
    rw [hin]
    cases mapR (itemFormat_xt (F o) o.name) [PVal.record fs] <;> simp [Except.map]
  | multi opt l =>
    simp only
    rw [hin]
    cases mapR (itemFormat_xt (F o) o.name) l <;> simp [Except.map]
  | list l =>
    simp only
    rw [hin]
    cases mapR (itemFormat_xt (F o) o.name) l <;> simp [Except.map]
  | _ => rfl

mutual
/-- a master without `.multiple`: every object enabled, sibling names pairwise distinct at every
    depth; definitions of any type (choices included), with or without `.deprecated` -/
def FObj_xt : Obj → Prop
  | .defn m _ => (m.attrs.get "multiple").truthy = false ∧ m.disabled = false
  | .scope m kids =>
    (m.attrs.get "multiple").truthy = false ∧ m.disabled = false ∧ FKids_xt kids ∧
      (kids.map Obj.name).Pairwise (· ≠ ·)
def FKids_xt : List Obj → Prop
  | [] => True
  | o :: os => FObj_xt o ∧ FKids_xt os
end

theorem fkids_iff_xt : ∀ (l : List Obj), FKids_xt l ↔ ∀ o ∈ l, FObj_xt o
  | [] => by rw [FKids_xt]; simp
  | o :: os => by rw [FKids_xt, fkids_iff_xt os]; simp

theorem FObj_xt.notMultiple : ∀ {o : Obj}, FObj_xt o → isMultiple o = false
  | .defn m ws, h => by rw [FObj_xt] at h; exact h.1
  | .scope m kids, h => by rw [FObj_xt] at h; exact h.1

theorem FObj_xt.enabled : ∀ {o : Obj}, FObj_xt o → o.meta.disabled = false
  | .defn m ws, h => by rw [FObj_xt] at h; exact h.2
  | .scope m kids, h => by rw [FObj_xt] at h; exact h.2.1

mutual
theorem fobj_of_treeObj_xt : ∀ (o : Obj), TreeObj o → FObj_xt o
  | .defn m ws, h => by rw [TreeObj] at h; rw [FObj_xt]; exact ⟨h.1.notMultiple, h.2.2.2⟩
  | .scope m kids, h => by
    rw [TreeObj] at h; rw [FObj_xt]
    exact ⟨h.1, h.2.2.2.1, fkids_of_treeKids_xt kids h.2.2.2.2.1, h.2.2.2.2.2⟩
theorem fkids_of_treeKids_xt : ∀ (l : List Obj), TreeKids l → FKids_xt l
  | [], _ => by rw [FKids_xt]; trivial
  | o :: os, h => by
    rw [TreeKids] at h; rw [FKids_xt]; exact ⟨fobj_of_treeObj_xt o h.1, fkids_of_treeKids_xt os h.2⟩
end

theorem formatFold_spec_xt (e : Envs) (F : Obj → PVal → R Obj) (v : PVal) :
    ∀ (l : List (Nat × Obj)) (out : List Obj),
      (∀ p ∈ l, isMultiple p.2 = false ∧ F p.2 = formatSpec e p.2) →
      l.foldlM (fstepP F v) (out, ([] : List (Str × Bool))) =
        (formatSpecKids e (l.map (fun p => p.2)) v).map (fun rs => (out ++ rs, ([] : List (Str × Bool)))) := by
  intro l
  induction l with
  | nil => intro out _; rw [List.map_nil, formatSpecKids]; simp [Except.map, pure, Except.pure]
  | cons p l ih =>
    intro out h
    obtain ⟨i, o⟩ := p
    have ho := h (i, o) List.mem_cons_self
    simp only at ho
    rw [List.foldlM_cons, fstep_plain_xt F v out [] i o ho.1, ho.2, List.map_cons, formatSpecKids]
    cases hk : kidFormat_xt (formatSpec e o) o.name v with
    | error err => rfl
    | ok rs =>
      show l.foldlM (fstepP F v) (out ++ rs, []) = _
      rw [ih (out ++ rs) (fun p hp => h p (List.mem_cons_of_mem _ hp))]
      cases formatSpecKids e (l.map (fun p => p.2)) v <;> simp [Except.map]

/-! ## 4. the round trip of one leaf -/

/-- the word `as_words` writes for the master alternative `w` when `s` is the selected name -/
def starAt_xt (s : Str) (w : Word) : Word :=
  { value := if (stripStar w.value).1 == s then '*' :: (stripStar w.value).1 else (stripStar w.value).1,
    quote := w.quote }

theorem starredNames_starAt_xt (s : Str) (mws : List Word) (hds : NoDoubleStar mws) :
    starredNames (mws.map (starAt_xt s)) =
      (mws.filter (fun w => (stripStar w.value).1 == s)).map (fun _ => s) := by
  rw [starredNames_map_draw (fun w => (stripStar w.value).1 == s) _ mws hds (fun _ _ => rfl)]
  apply List.map_congr_left
  intro w hw
  exact eq_of_beq (List.mem_filter.mp hw).2

theorem isPlainAuto_false_of_star_xt (ws : List Word) (hstar : ∃ w ∈ ws, (stripStar w.value).2 = true) :
    isPlainAuto ws = false :=
  match ws, hstar with
  | [], _ => rfl
  | [w], ⟨_, hw', hs⟩ => by
    cases List.mem_singleton.mp hw'
    rw [isPlainAuto, eq_cons_of_star _ hs]
    exact Bool.and_false _
  | _ :: _ :: _, _ => rfl

/-- **a selected alternative of a single `choice` round-trips** (not among the per-converter
    theorems of `Phil.C09`): if `as_words` accepts the name `s` (exactly one alternative of the
    master is called `s`) and no alternative of the master carries two stars, the written words
    read back as `s`. -/
theorem choice_str_round_trip_xt (fmt : FmtEnv) (env : EvalEnv) (opt : AttrVal) (mws ws : List Word)
    (s : Str) (hds : NoDoubleStar mws) (h : asWords (.choice false) fmt opt mws (.str s) = .ok ws) :
    ws = mws.map (starAt_xt s) ∧ fromWords (.choice false) env opt ws = .ok (.str s) := by
  rw [asWords_choice_str] at h
  simp only at h
  split at h
  · cases h
  · rename_i hle
    split at h
    · cases h
    · rename_i hne
      have hws : ws = mws.map (starAt_xt s) := by cases h; rfl
      refine ⟨hws, ?_⟩
      have hlen : (mws.filter (fun w => (stripStar w.value).1 == s)).length = 1 := by
        have h1 : (mws.filter (fun w => (stripStar w.value).1 == s)) ≠ [] := by
          intro h0; rw [h0] at hne; exact hne rfl
        have h2 := List.length_pos_iff.mpr h1
        omega
      have hsn : starredNames ws = [s] := by
        rw [hws, starredNames_starAt_xt s mws hds]
        obtain ⟨x, hx⟩ := List.length_eq_one_iff.mp hlen
        rw [hx]; rfl
      have hpa : isPlainAuto ws = false := by
        apply isPlainAuto_false_of_star_xt
        have hmem : s ∈ starredNames ws := by rw [hsn]; simp
        unfold starredNames at hmem
        rw [List.mem_filterMap] at hmem
        obtain ⟨w, hw, hv⟩ := hmem
        refine ⟨w, hw, ?_⟩
        by_cases hb : (stripStar w.value).2 = true
        · exact hb
        · simp [hb] at hv
      rw [fromWords_choice_eq, hpa, hsn]
      rfl

/-- **the hypotheses of the per-converter round-trip theorems**, one constructor per theorem:
    `RoundTripLeaf c mws x` says that theorem applies to the Python value `x` for a definition of
    type `c` whose master words are `mws`.  Not covered (no per-converter theorem): `float`,
    `floats`, `qstr`, `words`, a non-empty selection of a multi `choice`, `True`/`False` held by an
    `int` (written `1`/`0`, read back as the int), the lists `[]`, `[None]`, `[Auto]` of `ints`. -/
inductive RoundTripLeaf : Conv → List Word → PVal → Prop
  /-- `Phil.C09.auto_round_trip` -/
  | auto (c : Conv) (mws : List Word) : RoundTripLeaf c mws .auto
  /-- `Phil.C09.none_round_trip` -/
  | none (c : Conv) (mws : List Word) (hc : ∀ m, c ≠ .choice m) : RoundTripLeaf c mws .none
  /-- `Phil.C09.choice_none_round_trip` -/
  | choiceNone (mws : List Word) (hds : NoDoubleStar mws) (hpa : isPlainAuto (mws.map unstar) = false) :
      RoundTripLeaf (.choice false) mws .none
  /-- `Phil.C09.multi_choice_empty_round_trip` -/
  | multiEmpty (mws : List Word) (hds : NoDoubleStar mws) (hpa : isPlainAuto (mws.map unstar) = false) :
      RoundTripLeaf (.choice true) mws (.list [])
  /-- `Phil.choice_str_round_trip_xt` -/
  | choiceStr (mws : List Word) (s : Str) (hds : NoDoubleStar mws) : RoundTripLeaf (.choice false) mws (.str s)
  /-- `Phil.C09.bool_round_trip` -/
  | bool (mws : List Word) (b : Bool) : RoundTripLeaf .bool mws (.bool b)
  /-- `Phil.C09.str_round_trip` -/
  | str (c : Conv) (mws : List Word) (s : Str) (hc : c = .str ∨ c = .key) : RoundTripLeaf c mws (.str s)
  /-- `Phil.C09.path_round_trip` -/
  | path (mws : List Word) (s : Str) (hs : s.take 1 ≠ ['~']) : RoundTripLeaf .path mws (.str s)
  /-- `Phil.C09.strings_round_trip` -/
  | strings (mws : List Word) (l : List Str) : RoundTripLeaf .strings mws (.list (l.map PVal.str))
  /-- `Phil.C09.int_round_trip` -/
  | int (a : NumArgs) (mws : List Word) (i : Int) : RoundTripLeaf (.int a) mws (.num (.int i))
  /-- `Phil.C09.ints_round_trip` -/
  | ints (a : ListArgs) (mws : List Word) (l : List PVal)
      (hne : 2 ≤ l.length ∨ ∃ i, l = [.num (.int i)]) : RoundTripLeaf (.ints a) mws (.list l)

/-- **one leaf**: whatever `as_words` writes for a value covered by a per-converter theorem,
    `from_words` reads back as that value (same `.optional`, any `"%.10g"` oracle, an evaluator that
    reads decimal integer literals). -/
theorem leaf_round_trip_xt (c : Conv) (fmt : FmtEnv) (env : EvalEnv) (opt : AttrVal) (mws ws : List Word)
    (x : PVal) (henv : EnvDecimal env) (hx : RoundTripLeaf c mws x)
    (h : asWords c fmt opt mws x = .ok ws) : fromWords c env opt ws = .ok x := by
  cases hx with
  | auto _ _ =>
    rw [asWords_auto] at h; cases h
    exact fromWords_auto_word c env opt
  | none _ _ hc =>
    obtain ⟨rfl, hn⟩ := asWords_none_cases c hc fmt opt mws ws h
    exact fromWords_none_word c hc hn env opt
  | choiceNone _ hds hpa =>
    obtain ⟨rfl, hr⟩ := choice_none_round_trip fmt env opt mws ws hds h
    exact hr hpa
  | multiEmpty _ hds hpa =>
    obtain ⟨rfl, hr⟩ := multi_choice_empty_round_trip fmt env opt mws ws hds h
    exact hr hpa
  | choiceStr _ s hds => exact (choice_str_round_trip_xt fmt env opt mws ws s hds h).2
  | bool _ b =>
    rw [asWords_bool] at h; cases h
    exact fromWords_bool_word env opt b
  | str _ _ s hc =>
    rw [asWords_str c (by rcases hc with h | h <;> simp [h]) fmt opt mws s] at h
    cases h
    exact fromWords_str_quoted c hc env opt .d1 none s
  | path _ s hs =>
    rw [asWords_str .path (.inr (.inr rfl)) fmt opt mws s] at h
    cases h
    exact fromWords_path_quoted env opt .d1 none s hs
  | strings _ l => exact (C09.strings_round_trip fmt env opt opt mws ws l h).2
  | int a _ i => exact (C09.int_round_trip a fmt env opt opt mws ws i henv h).2
  | ints a _ l hne => exact (C09.ints_round_trip a fmt env opt opt mws ws l henv hne h).2

/-! ## 5. format, then extract: the whole tree -/

mutual
/-- `RTObj master v`: the Python object `v` has exactly the master's shape — for a scope a
    `scope_extract` holding one attribute per master child, in the master's order, for a definition
    a value covered by a per-converter round-trip theorem for the declared type (`strings` when no
    type is declared) -/
def RTObj : Obj → PVal → Prop
  | .defn m ws, x => ∃ c, declConv m = some c ∧ RoundTripLeaf c ws x
  | .scope _ kids, v => ∃ fs, v = .record fs ∧ RTKids kids fs
def RTKids : List Obj → List (Str × PVal) → Prop
  | [], fs => fs = []
  | o :: os, fs => ∃ x rest, fs = (o.name, x) :: rest ∧ RTObj o x ∧ RTKids os rest
end

theorem rtkids_keys_xt : ∀ (os : List Obj) (rest : List (Str × PVal)), RTKids os rest →
    rest.map (fun p => p.1) = os.map Obj.name
  | [], rest, h => by rw [RTKids] at h; subst h; rfl
  | o :: os, rest, h => by
    rw [RTKids] at h
    obtain ⟨x, rest', rfl, _, hr⟩ := h
    rw [List.map_cons, List.map_cons, rtkids_keys_xt os rest' hr]

theorem rtkids_get_xt (os : List Obj) (fs : List (Str × PVal)) (hk : RTKids os fs)
    (hpw : (os.map Obj.name).Pairwise (· ≠ ·)) : ∀ p ∈ fs, fieldGet fs p.1 = some p.2 :=
  fieldGet_of_distinct_xt fs (by rw [rtkids_keys_xt os fs hk]; exact hpw)

theorem extractSpecKids_cons_live_xt (e : Envs) (o : Obj) (os : List Obj) (h : liveObjB_xt o = true) :
    extractSpecKids e (o :: os) =
      match extractSpec e o with
      | .error err => .error err
      | .ok v => (extractSpecKids e os).map (fun r => (o.name, v) :: r) := by
  unfold liveObjB_xt at h
  simp only [Bool.and_eq_true, Bool.not_eq_true', beq_iff_eq] at h
  rw [extractSpecKids]
  simp [h.1, h.2]

theorem formatDefn_extract_xt (e : Envs) (henv : EnvDecimal e.eval) (m : Meta) (mws : List Word) (x : PVal)
    (w : Obj) (c : Conv) (hc : declConv m = some c) (hleaf : RoundTripLeaf c mws x)
    (h : formatDefn e m mws x = .ok w) :
    ∃ nws, w = .defn { m with tmpl := 0 } nws ∧ extractDefn e m nws = .ok x := by
  unfold declConv at hc
  unfold formatDefn at h
  unfold extractDefn
  cases ht : m.attrs.get "type" <;> rw [ht] at hc h <;> simp only [Option.some.injEq, reduceCtorEq] at hc
  all_goals
    subst hc
    simp only at h
    cases ha : asWords _ e.fmt (m.attrs.get "optional") mws x with
    | error err => rw [ha] at h; cases h
    | ok nws =>
      rw [ha] at h
      simp only [Except.map, Except.ok.injEq] at h
      exact ⟨nws, h.symm, leaf_round_trip_xt _ e.fmt e.eval _ mws nws x henv hleaf ha⟩

mutual
theorem format_extract_obj_xt (e : Envs) (henv : EnvDecimal e.eval) : ∀ (o : Obj) (x : PVal) (w : Obj),
    FObj_xt o → RTObj o x → formatSpec e o x = .ok w →
    extractSpec e w = .ok x ∧ DObj_xt w ∧ w.name = o.name ∧ depthT w = depthT o ∧ liveObjB_xt w = true
  | .defn m mws, x, w, hf, hr, h => by
    rw [FObj_xt] at hf
    rw [RTObj] at hr
    obtain ⟨c, hc, hleaf⟩ := hr
    rw [formatSpec] at h
    obtain ⟨nws, rfl, hx⟩ := formatDefn_extract_xt e henv m mws x w c hc hleaf h
    refine ⟨?_, ?_, rfl, ?_, ?_⟩
    · rw [extractSpec, extractDefn_tmpl_xt]
      exact hx
    · rw [DObj_xt]; exact hf.1
    · rw [depthT, depthT]
    · unfold liveObjB_xt; simp [Obj.meta, hf.2]
  | .scope m kids, x, w, hf, hr, h => by
    rw [FObj_xt] at hf
    rw [RTObj] at hr
    obtain ⟨fs, rfl, hk⟩ := hr
    rw [formatSpec] at h
    obtain ⟨ws, hfk, rfl⟩ := Except.map_eq_ok.mp h
    have hks := format_kids_xt e kids fs fs hf.2.2.1 hk (rtkids_get_xt kids fs hk hf.2.2.2)
    rw [hfk] at hks
    obtain ⟨h1, h2, h3, h4⟩ := hks henv
    refine ⟨?_, ?_, rfl, ?_, ?_⟩
    · rw [extractSpec, h1]; rfl
    · rw [DObj_xt]; exact ⟨hf.1, h2, by rw [h3]; exact hf.2.2.2⟩
    · rw [depthT, depthT, h4]
    · unfold liveObjB_xt; simp [Obj.meta, hf.2.1]
/-- the children, success and refusal in one walk: what `format` returns extracts back to the record's
    values (this half alone needs the evaluator); a refusal is the refusal of one child, for the value
    the record holds under the child's name -/
theorem format_kids_xt (e : Envs) : ∀ (os : List Obj) (fs rest : List (Str × PVal)),
    FKids_xt os → RTKids os rest → (∀ p ∈ rest, fieldGet fs p.1 = some p.2) →
    match formatSpecKids e os (.record fs) with
    | .ok ws => EnvDecimal e.eval →
        extractSpecKids e ws = .ok rest ∧ DKids_xt ws ∧ ws.map Obj.name = os.map Obj.name ∧
          depthL ws = depthL os
    | .error err => ∃ o ∈ os, ∃ x, fieldGet fs o.name = some x ∧ RTObj o x ∧ formatSpec e o x = .error err
  | [], fs, rest, _, hr, _ => by
    rw [RTKids] at hr
    subst hr
    rw [formatSpecKids]
    exact fun _ => ⟨by rw [extractSpecKids], by rw [DKids_xt]; trivial, rfl, rfl⟩
  | o :: os, fs, rest, hf, hr, hget => by
    rw [FKids_xt] at hf
    rw [RTKids] at hr
    obtain ⟨x, rest', rfl, hox, hrest⟩ := hr
    have hgo : fieldGet fs o.name = some x := hget (o.name, x) List.mem_cons_self
    have ih := format_kids_xt e os fs rest' hf.2 hrest (fun p hp => hget p (List.mem_cons_of_mem _ hp))
    rw [formatSpecKids, kidFormat_record_xt, hgo]
    simp only
    cases hfo : formatSpec e o x with
    | error err => exact ⟨o, List.mem_cons_self, x, hgo, hox, hfo⟩
    | ok w =>
      cases hfk : formatSpecKids e os (.record fs) with
      | error err =>
        rw [hfk] at ih
        obtain ⟨o', ho', hx'⟩ := ih
        exact ⟨o', List.mem_cons_of_mem _ ho', hx'⟩
      | ok ws' =>
        rw [hfk] at ih
        intro henv
        obtain ⟨a1, a2, a3, a4, a5⟩ := format_extract_obj_xt e henv o x w hf.1 hox hfo
        obtain ⟨b1, b2, b3, b4⟩ := ih henv
        simp only [List.cons_append, List.nil_append]
        refine ⟨?_, ?_, ?_, ?_⟩
        · rw [extractSpecKids_cons_live_xt e w ws' a5, a1, b1, a3]; rfl
        · rw [DKids_xt]; exact ⟨a2, b2⟩
        · rw [List.map_cons, List.map_cons, a3, b3]
        · rw [depthL, depthL, a4, b4]
end

theorem format_extract_kids_xt (e : Envs) (henv : EnvDecimal e.eval) :
    ∀ (os : List Obj) (fs rest : List (Str × PVal)) (ws : List Obj),
    FKids_xt os → RTKids os rest → (∀ p ∈ rest, fieldGet fs p.1 = some p.2) →
    formatSpecKids e os (.record fs) = .ok ws →
    extractSpecKids e ws = .ok rest ∧ DKids_xt ws ∧ ws.map Obj.name = os.map Obj.name ∧
      depthL ws = depthL os := by
  intro os fs rest ws hf hr hget h
  have hks := format_kids_xt e os fs rest hf hr hget
  rw [h] at hks
  exact hks henv

/-! ### a refusal of `format` is the refusal of a leaf -/

theorem formatSpecKids_error_leaf_xt (e : Envs) : ∀ (os : List Obj) (fs rest : List (Str × PVal))
    (err : Err), FKids_xt os → (os.map Obj.name).Pairwise (· ≠ ·) → RTKids os rest →
    (∀ p ∈ rest, fieldGet fs p.1 = some p.2) →
    formatSpecKids e os (.record fs) = .error err →
    ∃ ps n dm dws x, defAt os ps n = some (.defn dm dws) ∧ valueAt (.record fs) ps n = some x ∧
      formatDefn e dm dws x = .error err
  | os, fs, rest, err, hf, hpw, hr, hget, h => by
    have hks := format_kids_xt e os fs rest hf hr hget
    rw [h] at hks
    obtain ⟨o, ho, x, hgo, hox, hfo⟩ := hks
    cases o with
    | defn dm dws =>
      have hfind : findNamedTree os dm.name = _ := findNamed_of_mem_distinct_xt os _ hpw ho
      rw [formatSpec] at hfo
      exact ⟨[], dm.name, dm, dws, x, by rw [defAt, hfind], by rw [valueAt]; exact hgo, hfo⟩
    | scope sm k' =>
      have hfind : findNamedTree os sm.name = _ := findNamed_of_mem_distinct_xt os _ hpw ho
      have hgo' : fieldGet fs sm.name = some x := hgo
      have hfo' := (fkids_iff_xt os).1 hf _ ho
      rw [FObj_xt] at hfo'
      rw [RTObj] at hox
      obtain ⟨fs', rfl, hk'⟩ := hox
      rw [formatSpec] at hfo
      obtain ⟨ps, n, dm, dws, x', h1, h2, h3⟩ := formatSpecKids_error_leaf_xt e k' fs' fs' err hfo'.2.2.1
        hfo'.2.2.2 hk' (rtkids_get_xt k' fs' hk' hfo'.2.2.2) (Except.map_eq_error.mp hfo)
      exact ⟨sm.name :: ps, n, dm, dws, x', by rw [defAt, hfind]; exact h1, by rw [valueAt, hgo']; exact h2, h3⟩
termination_by os => sizeOf os
decreasing_by
  have := List.sizeOf_lt_of_mem ho
  simp only [Obj.scope.sizeOf_spec] at this
  omega

/-! ## 6. executable forms of the hypotheses (for parsed instances) -/

mutual
/-- structural equality test on extracted values (`PVal` derives no `DecidableEq`) -/
def pvalBeq_xt : PVal → PVal → Bool
  | .none, .none => true
  | .auto, .auto => true
  | .bool a, .bool b => a == b
  | .num a, .num b => a == b
  | .str a, .str b => a == b
  | .list a, .list b => pvalsBeq_xt a b
  | .words a, .words b => a == b
  | .record a, .record b => fieldsBeq_xt a b
  | .multi o a, .multi o' b => o == o' && pvalsBeq_xt a b
  | _, _ => false
def pvalsBeq_xt : List PVal → List PVal → Bool
  | [], [] => true
  | x :: xs, y :: ys => pvalBeq_xt x y && pvalsBeq_xt xs ys
  | _, _ => false
def fieldsBeq_xt : List (Str × PVal) → List (Str × PVal) → Bool
  | [], [] => true
  | (k, x) :: xs, (k', y) :: ys => k == k' && pvalBeq_xt x y && fieldsBeq_xt xs ys
  | _, _ => false
end

mutual
theorem pvalBeq_sound_xt : ∀ (a b : PVal), pvalBeq_xt a b = true → a = b
  | .none, b, h => by cases b <;> simp [pvalBeq_xt] at h ⊢
  | .auto, b, h => by cases b <;> simp [pvalBeq_xt] at h ⊢
  | .bool a, b, h => by cases b <;> simp [pvalBeq_xt] at h ⊢; exact h
  | .num a, b, h => by cases b <;> simp [pvalBeq_xt] at h ⊢; exact h
  | .str a, b, h => by cases b <;> simp [pvalBeq_xt] at h ⊢; exact h
  | .words a, b, h => by cases b <;> simp [pvalBeq_xt] at h ⊢; exact h
  | .list a, b, h => by
    cases b <;> simp [pvalBeq_xt] at h ⊢
    exact pvalsBeq_sound_xt _ _ h
  | .record a, b, h => by
    cases b <;> simp [pvalBeq_xt] at h ⊢
    exact fieldsBeq_sound_xt _ _ h
  | .multi o a, b, h => by
    cases b <;> simp [pvalBeq_xt] at h ⊢
    exact ⟨h.1, pvalsBeq_sound_xt _ _ h.2⟩
theorem pvalsBeq_sound_xt : ∀ (a b : List PVal), pvalsBeq_xt a b = true → a = b
  | [], b, h => by cases b <;> simp [pvalsBeq_xt] at h ⊢
  | x :: xs, b, h => by
    cases b with
    | nil => simp [pvalsBeq_xt] at h
    | cons y ys =>
      simp [pvalsBeq_xt] at h ⊢
      exact ⟨pvalBeq_sound_xt _ _ h.1, pvalsBeq_sound_xt _ _ h.2⟩
theorem fieldsBeq_sound_xt : ∀ (a b : List (Str × PVal)), fieldsBeq_xt a b = true → a = b
  | [], b, h => by cases b <;> simp [fieldsBeq_xt] at h ⊢
  | (k, x) :: xs, b, h => by
    cases b with
    | nil => simp [fieldsBeq_xt] at h
    | cons p ys =>
      obtain ⟨k', y⟩ := p
      simp [fieldsBeq_xt] at h ⊢
      exact ⟨⟨h.1.1, pvalBeq_sound_xt _ _ h.1.2⟩, fieldsBeq_sound_xt _ _ h.2⟩
end

mutual
def dobjB_xt : Obj → Bool
  | .defn m _ => !(m.attrs.get "multiple").truthy
  | .scope m kids =>
    !(m.attrs.get "multiple").truthy && dkidsB_xt kids && decide ((kids.map Obj.name).Pairwise (· ≠ ·))
def dkidsB_xt : List Obj → Bool
  | [] => true
  | o :: os => dobjB_xt o && dkidsB_xt os
end

mutual
theorem dobjB_sound_xt : ∀ (o : Obj), dobjB_xt o = true → DObj_xt o
  | .defn m ws, h => by
    rw [dobjB_xt] at h; rw [DObj_xt]; simpa using h
  | .scope m kids, h => by
    rw [dobjB_xt] at h; rw [DObj_xt]
    simp only [Bool.and_eq_true, Bool.not_eq_true', decide_eq_true_eq] at h
    exact ⟨h.1.1, dkidsB_sound_xt kids h.1.2, h.2⟩
theorem dkidsB_sound_xt : ∀ (l : List Obj), dkidsB_xt l = true → DKids_xt l
  | [], _ => by rw [DKids_xt]; trivial
  | o :: os, h => by
    rw [dkidsB_xt, Bool.and_eq_true] at h; rw [DKids_xt]
    exact ⟨dobjB_sound_xt o h.1, dkidsB_sound_xt os h.2⟩
end

mutual
def fobjB_xt : Obj → Bool
  | .defn m _ => !(m.attrs.get "multiple").truthy && !m.disabled
  | .scope m kids =>
    !(m.attrs.get "multiple").truthy && !m.disabled && fkidsB_xt kids &&
      decide ((kids.map Obj.name).Pairwise (· ≠ ·))
def fkidsB_xt : List Obj → Bool
  | [] => true
  | o :: os => fobjB_xt o && fkidsB_xt os
end

mutual
theorem fobjB_sound_xt : ∀ (o : Obj), fobjB_xt o = true → FObj_xt o
  | .defn m ws, h => by
    rw [fobjB_xt] at h; rw [FObj_xt]; simpa using h
  | .scope m kids, h => by
    rw [fobjB_xt] at h; rw [FObj_xt]
    simp only [Bool.and_eq_true, Bool.not_eq_true', decide_eq_true_eq] at h
    exact ⟨h.1.1.1, h.1.1.2, fkidsB_sound_xt kids h.1.2, h.2⟩
theorem fkidsB_sound_xt : ∀ (l : List Obj), fkidsB_xt l = true → FKids_xt l
  | [], _ => by rw [FKids_xt]; trivial
  | o :: os, h => by
    rw [fkidsB_xt, Bool.and_eq_true] at h; rw [FKids_xt]
    exact ⟨fobjB_sound_xt o h.1, fkidsB_sound_xt os h.2⟩
end

def noDoubleStarB_xt (mws : List Word) : Bool :=
  mws.all (fun w => !(stripStar (stripStar w.value).1).2)

theorem noDoubleStarB_sound_xt (mws : List Word) (h : noDoubleStarB_xt mws = true) : NoDoubleStar mws := by
  intro w hw
  unfold noDoubleStarB_xt at h
  rw [List.all_eq_true] at h
  simpa using h w hw

def strsOf_xt : List PVal → Option (List Str)
  | [] => some []
  | .str s :: r => (strsOf_xt r).map (fun l => s :: l)
  | _ :: _ => none

theorem strsOf_sound_xt : ∀ (l : List PVal) (ss : List Str), strsOf_xt l = some ss → l = ss.map PVal.str
  | [], ss, h => by simp only [strsOf_xt, Option.some.injEq] at h; subst h; rfl
  | x :: r, ss, h => by
    cases x with
    | str s =>
      simp only [strsOf_xt] at h
      cases hr : strsOf_xt r with
      | none => rw [hr] at h; cases h
      | some l' =>
        rw [hr] at h
        simp only [Option.map_some, Option.some.injEq] at h
        subst h
        rw [List.map_cons, ← strsOf_sound_xt r l' hr]
    | _ => simp [strsOf_xt] at h

def isIntSingleton_xt : List PVal → Bool
  | [.num (.int _)] => true
  | _ => false

theorem isIntSingleton_sound_xt (l : List PVal) (h : isIntSingleton_xt l = true) : ∃ i, l = [.num (.int i)] := by
  unfold isIntSingleton_xt at h
  split at h
  · exact ⟨_, rfl⟩
  · cases h

/-- executable sufficient condition for `RoundTripLeaf` -/
def rtLeafB_xt (c : Conv) (mws : List Word) (x : PVal) : Bool :=
  match x with
  | .auto => true
  | .none =>
    (match c with
     | .choice false => noDoubleStarB_xt mws && !isPlainAuto (mws.map unstar)
     | .choice true => false
     | _ => true)
  | .bool _ => (match c with | .bool => true | _ => false)
  | .str s =>
    (match c with
     | .str => true
     | .key => true
     | .path => s.take 1 != ['~']
     | .choice false => noDoubleStarB_xt mws
     | _ => false)
  | .num (.int _) => (match c with | .int _ => true | _ => false)
  | .list l =>
    (match c with
     | .strings => (strsOf_xt l).isSome
     | .ints _ => decide (2 ≤ l.length) || isIntSingleton_xt l
     | .choice true => l.isEmpty && noDoubleStarB_xt mws && !isPlainAuto (mws.map unstar)
     | _ => false)
  | _ => false

theorem rtLeafB_sound_xt (c : Conv) (mws : List Word) (x : PVal) (h : rtLeafB_xt c mws x = true) :
    RoundTripLeaf c mws x := by
  cases x with
  | auto => exact .auto _ _
  | none =>
    cases c with
    | choice b =>
      cases b with
      | false =>
        simp only [rtLeafB_xt, Bool.and_eq_true, Bool.not_eq_true'] at h
        exact .choiceNone _ (noDoubleStarB_sound_xt _ h.1) h.2
      | true => simp [rtLeafB_xt] at h
    | _ => exact .none _ _ (fun m hm => by cases hm)
  | bool b => cases c <;> first | exact .bool _ _ | simp [rtLeafB_xt] at h
  | str s =>
    cases c with
    | str => exact .str _ _ _ (.inl rfl)
    | key => exact .str _ _ _ (.inr rfl)
    | path =>
      simp only [rtLeafB_xt, bne_iff_ne, ne_eq] at h
      exact .path _ _ h
    | choice b =>
      cases b with
      | false =>
        simp only [rtLeafB_xt] at h
        exact .choiceStr _ _ (noDoubleStarB_sound_xt _ h)
      | true => simp [rtLeafB_xt] at h
    | _ => simp [rtLeafB_xt] at h
  | num n =>
    cases n with
    | int i => cases c <;> first | exact .int _ _ _ | simp [rtLeafB_xt] at h
    | _ => simp [rtLeafB_xt] at h
  | list l =>
    cases c with
    | strings =>
      simp only [rtLeafB_xt] at h
      cases hs : strsOf_xt l with
      | none => rw [hs] at h; cases h
      | some ss => rw [strsOf_sound_xt l ss hs]; exact .strings _ _
    | ints a =>
      simp only [rtLeafB_xt, Bool.or_eq_true, decide_eq_true_eq] at h
      rcases h with h | h
      · exact RoundTripLeaf.ints a mws l (.inl h)
      · exact RoundTripLeaf.ints a mws l (.inr (isIntSingleton_sound_xt l h))
    | choice b =>
      cases b with
      | true =>
        simp only [rtLeafB_xt, Bool.and_eq_true, Bool.not_eq_true', List.isEmpty_iff] at h
        obtain ⟨⟨rfl, h2⟩, h3⟩ := h
        exact .multiEmpty _ (noDoubleStarB_sound_xt _ h2) h3
      | false => simp [rtLeafB_xt] at h
    | _ => simp [rtLeafB_xt] at h
  | _ => simp [rtLeafB_xt] at h

def rtDefnB_xt (m : Meta) (ws : List Word) (x : PVal) : Bool :=
  match declConv m with
  | some c => rtLeafB_xt c ws x
  | none => false

theorem rtDefnB_sound_xt (m : Meta) (ws : List Word) (x : PVal) (h : rtDefnB_xt m ws x = true) :
    ∃ c, declConv m = some c ∧ RoundTripLeaf c ws x := by
  unfold rtDefnB_xt at h
  cases hc : declConv m with
  | none => rw [hc] at h; cases h
  | some c => rw [hc] at h; exact ⟨c, rfl, rtLeafB_sound_xt c ws x h⟩

mutual
/-- executable sufficient condition for `RTObj` -/
def rtObjB_xt : Obj → PVal → Bool
  | .defn m ws, x => rtDefnB_xt m ws x
  | .scope _ kids, .record fs => rtKidsB_xt kids fs
  | .scope _ _, _ => false
def rtKidsB_xt : List Obj → List (Str × PVal) → Bool
  | [], fs => fs.isEmpty
  | o :: os, (k, x) :: rest => k == o.name && rtObjB_xt o x && rtKidsB_xt os rest
  | _ :: _, [] => false
end

mutual
theorem rtObjB_sound_xt : ∀ (o : Obj) (v : PVal), rtObjB_xt o v = true → RTObj o v
  | .defn m ws, x, h => by
    rw [rtObjB_xt] at h
    rw [RTObj]
    exact rtDefnB_sound_xt m ws x h
  | .scope m kids, v, h => by
    cases v with
    | record fs =>
      rw [rtObjB_xt] at h
      rw [RTObj]
      exact ⟨fs, rfl, rtKidsB_sound_xt kids fs h⟩
    | _ => simp [rtObjB_xt] at h
theorem rtKidsB_sound_xt : ∀ (os : List Obj) (fs : List (Str × PVal)), rtKidsB_xt os fs = true → RTKids os fs
  | [], fs, h => by
    rw [rtKidsB_xt] at h; rw [RTKids]; simpa using h
  | o :: os, [], h => by rw [rtKidsB_xt] at h; cases h
  | o :: os, (k, x) :: rest, h => by
    rw [rtKidsB_xt] at h
    rw [RTKids]
    simp only [Bool.and_eq_true, beq_iff_eq] at h
    obtain ⟨⟨rfl, h2⟩, h3⟩ := h
    exact ⟨x, rest, rfl, rtObjB_sound_xt o x h2, rtKidsB_sound_xt os rest h3⟩
end

end Phil
