/-
  Phil.Proofs.ArgTransfer — lemmas behind the value-transfer clause of C14: what the successful result
  of `argument_interpreter.process_arg` IS.  `processArg` is restated as "one text per definition of the
  argument, first refusal wins, parse the concatenation" (`processArg_eq_at`); the text printed for a
  definition renamed to a dotted target path is the text of the chain of scopes a file line
  `a.b.c = …` parses to (`treeText_chain_at`), so the nested print → parse theorems
  (Phil/Proofs/NestedRoundTrip.lean) give the parsed result.
  Every declaration carries the suffix `_at`.  Property statements: Phil/Props/C14Transfer.lean.
-/
import Phil.CmdLine
import Phil.Proofs.NestedRoundTrip
import Phil.Proofs.NestIn
import Phil.Proofs.FetchLemmas
import Phil.Proofs.CmdLineLemmas
namespace Phil

/-! ### 1. `process_arg` restated -/

/-- one entry of `scope.all_definitions()`: full path, object data, words -/
abbrev ArgDef_at := Str × Meta × List Word

/-- what `process_arg` does with ONE definition of the argument: the text it contributes to
    `complete_definitions` (the definition renamed to the chosen full target path, printed with
    `as_str()` at the default width), or the refusal -/
def argDefnText_at (home : Option Str) (targets : List Str) (experts : List Int) (d : ArgDef_at) :
    Except ArgOutcome Str :=
  match choosePath home targets experts d.1 with
  | .unknown => .error (.sorry_ "unknown" [])
  | .ambiguous best => .error (.sorry_ "ambiguous" (best.filterMap (targets[·]?)))
  | .chosen i _ =>
    match targets[i]? with
    | none => .error (.runtime (.stray "IndexError" "target_paths"))
    | some tp =>
      match showDefn {} { d.2.1 with name := tp, tmpl := 0 } d.2.2 [] [] with
      | .error e => .error (.runtime e)
      | .ok lines => .ok (unlines lines)

/-- the texts of the definitions of the argument in order, concatenated; the FIRST refusal wins -/
def argTexts_at (home : Option Str) (targets : List Str) (experts : List Int) :
    List ArgDef_at → Except ArgOutcome Str
  | [] => .ok []
  | d :: ds =>
    match argDefnText_at home targets experts d with
    | .error out => .error out
    | .ok t =>
      match argTexts_at home targets experts ds with
      | .error out => .error out
      | .ok ts => .ok (t ++ ts)

/-- `process_arg` after the argument has been parsed, as a function of its definitions -/
def processDefs_at (home : Option Str) (targets : List Str) (experts : List Int)
    (defs : List ArgDef_at) : ArgOutcome :=
  match argTexts_at home targets experts defs with
  | .error out => out
  | .ok text =>
    if text.isEmpty then .sorry_ "no_effect" []
    else (match parseObjs text with
      | .ok r => .ok r
      | .error e => .runtime e)

theorem argFold_at (home : Option Str) (targets : List Str) (experts : List Int)
    {step : Option (Except ArgOutcome Str) → ArgDef_at → Option (Except ArgOutcome Str)}
    (herr : ∀ e x, step (some (.error e)) x = some (.error e))
    (hok : ∀ t x, step (some (.ok t)) x
      = some ((argDefnText_at home targets experts x).map (t ++ ·)))
    (defs : List ArgDef_at) (acc : Str) :
    defs.foldl step (some (.ok acc))
      = some ((argTexts_at home targets experts defs).map (acc ++ ·)) := by
  induction defs generalizing acc with
  | nil => simp [argTexts_at, Except.map]
  | cons d ds ih =>
    rw [List.foldl_cons, hok, argTexts_at]
    cases argDefnText_at home targets experts d with
    | error e =>
      show ds.foldl step (some (.error e)) = _
      clear ih
      induction ds with
      | nil => rfl
      | cons _ _ ih => rw [List.foldl_cons, herr, ih]
    | ok t =>
      show ds.foldl step (some (.ok (acc ++ t))) = _
      rw [ih]
      cases argTexts_at home targets experts ds <;> simp [Except.map]

/-- **`processArg` restated**: parse the argument, then `processDefs_at` of its definitions -/
theorem processArg_eq_at (home : Option Str) (targets : List Str) (experts : List Int) (arg : Str) :
    processArg home targets experts arg =
      match parseObjs arg with
      | .error (.unsupported w) => .runtime (.unsupported w)
      | .error _ => .sorry_ "arg_syntax" []
      | .ok objs => processDefs_at home targets experts (allDefinitions objs) := by
  unfold processArg
  cases parseObjs arg with
  | error e => cases e <;> rfl
  | ok objs =>
    dsimp only
    rw [argFold_at home targets experts]
    · unfold processDefs_at
      cases argTexts_at home targets experts (allDefinitions objs) <;> rfl
    · intro e x
      rfl
    · intro t ⟨p, m, ws⟩
      unfold argDefnText_at
      dsimp only
      cases choosePath home targets experts p with
      | unknown => rfl
      | ambiguous => rfl
      | chosen i _ =>
        dsimp only
        cases targets[i]? with
        | none => rfl
        | some tp =>
          dsimp only
          cases showDefn {} { m with name := tp, tmpl := 0 } ws [] [] <;> rfl

theorem processDefs_ok_at {α : Type} (home : Option Str) (targets : List Str) (experts : List Int)
    (d : α → ArgDef_at) (f : α → Str) (l : List α) (hne : l ≠ []) (hf : ∀ p, f p ≠ [])
    (h : ∀ p ∈ l, argDefnText_at home targets experts (d p) = .ok (f p)) :
    processDefs_at home targets experts (l.map d) =
      match parseObjs (l.flatMap f) with
      | .ok r => .ok r
      | .error e => .runtime e := by
  have htexts : argTexts_at home targets experts (l.map d) = .ok (l.flatMap f) := by
    clear hne
    induction l with
    | nil => rfl
    | cons p ps ih =>
      rw [List.map_cons, argTexts_at, h p (by simp), ih (fun q hq => h q (by simp [hq]))]
      rfl
  have hnil : (l.flatMap f).isEmpty = false := by
    cases l with
    | nil => exact absurd rfl hne
    | cons p ps =>
      rw [List.flatMap_cons]
      cases hl : f p with
      | nil => exact absurd hl (hf p)
      | cons _ _ => rfl
  rw [processDefs_at, htexts]
  dsimp only
  rw [hnil]
  rfl

/-! ### 2. the text printed for one definition of the argument -/

/-- the print width `as_str()` uses inside `process_arg`: the default, 79 -/
def argWidth_at : Int := ({} : ShowOpts).width

theorem argWidth_eq_at : argWidth_at = 79 := rfl

/-- `customized_copy(name=tp).as_str()` of an enabled definition that is not `.deprecated`: the
    value lines of `tp = w1 … wk` at the default width.  Attributes are not printed (attributes level
    0), ids, source positions and `merge_names` play no role. -/
theorem showDefn_arg_at (m : Meta) (tp : Str) (ws : List Word)
    (hdis : m.disabled = false) (hdep : (m.attrs.get "deprecated").truthy = false)
    (hinc : tp ≠ "include".toList) :
    showDefn {} { m with name := tp, tmpl := 0 } ws [] []
      = .ok (showWords argWidth_at (defIndent tp) ws (defHead tp) []) := by
  have hline : defnLine { m with name := tp, tmpl := 0 } [] [] = tp ++ [' ', '='] := by
    have hinc' : ¬ tp = ['i', 'n', 'c', 'l', 'u', 'd', 'e'] := hinc
    simp [defnLine, hdis, hinc', joinWith]
  rw [showDefn_eq, showDefnBody, hline]
  have h0 : ¬ ((0 : Int) < 0) := by omega
  simp only [h0, decide_false, Bool.false_and, Bool.false_eq_true, ↓reduceIte, hdep,
    expertHidden_none, expertGate_false, showAttributes_level_nonpos _ _ _ _ _ (Int.le_refl 0)]
  simp [defIndent, defHead, argWidth_at]

/-- the text of that definition -/
def argLineText_at (w : Int) (tp : Str) (ws : List Word) : Str :=
  tp ++ [' ', '='] ++ wrapTail w (defIndent tp) ws (defHead tp) ++ ['\n']

theorem argDefnText_chosen_at (home : Option Str) (targets : List Str) (experts : List Int)
    (d : ArgDef_at) (i : Nat) (wn : Bool) (tp : Str)
    (hch : choosePath home targets experts d.1 = .chosen i wn) (ht : targets[i]? = some tp)
    (hdis : d.2.1.disabled = false) (hdep : (d.2.1.attrs.get "deprecated").truthy = false)
    (hinc : tp ≠ "include".toList) :
    argDefnText_at home targets experts d = .ok (argLineText_at argWidth_at tp d.2.2) := by
  unfold argDefnText_at
  rw [hch]
  dsimp only
  rw [ht]
  dsimp only
  rw [showDefn_arg_at d.2.1 tp d.2.2 hdis hdep hinc]
  dsimp only
  rw [unlines_showWords]
  simp [argLineText_at, unlines, defHead]

/-! ### 3. the chain of scopes of a dotted path -/

/-- `(ms, nm, ws)`: the definition `nm = ws` below the scopes `ms` (outermost first); the full path is
    `dottedName ms nm` -/
abbrev ChainSpec_at := List Str × Str × List Word

/-- the tree a file line `m1.….mk.nm = ws` parses to, up to ids and source positions: the scopes
    `m1 { … mk { nm = ws } }` as `scope.adopt` builds them for a dotted name (`merge_names` True below
    the outermost scope) -/
def chainOf_at (c : ChainSpec_at) : Obj :=
  nestIn none false c.1 (.defn { name := c.2.1, mergeNames := !c.1.isEmpty } c.2.2)

/-- the full dotted path of a chain -/
def chainPath_at (c : ChainSpec_at) : Str := dottedName c.1 c.2.1

theorem allDefns_nestIn_at (P : List Word → Prop) (id : Option Nat) (leaf : Obj) :
    ∀ (ms : List Str) (b : Bool), ((nestIn id b ms leaf).allDefns P ↔ leaf.allDefns P) :=
  fun ms b => allDefns_nestIn_l2 P id ms leaf b

theorem items_nestIn_at (id : Option Nat) (leaf : Obj) :
    ∀ (ms : List Str) (b : Bool), (ms ≠ [] → leaf.meta.mergeNames = true) →
      (nestIn id b ms leaf).items = leaf.items :=
  fun ms b h => (expIds_nestIn_l2 id 0 ms leaf b h).2

/-! ### 4. parsing the texts of chains -/

/-- the hypotheses on one chain at print width `w`: good undotted components, the full path not a
    reserved identifier, at least one word, good words, and the exact wrapping condition of the round
    trip for the line `path = words` at width `w` -/
structure ChainGood_at (w : Int) (c : ChainSpec_at) : Prop where
  path : GoodPath c.1
  name : goodName c.2.1 = true
  notReserved : isReserved (chainPath_at c) = false
  nonempty : c.2.2 ≠ []
  words : ∀ x ∈ c.2.2, goodWord x = true
  wraps : wrapOK w (defIndent (chainPath_at c)) c.2.2 (defHead (chainPath_at c)) true = true

/-- the same for the unwrapped file line `path = words` -/
structure ChainGoodFile_at (c : ChainSpec_at) : Prop where
  path : GoodPath c.1
  name : goodName c.2.1 = true
  notReserved : isReserved (chainPath_at c) = false
  nonempty : c.2.2 ≠ []
  words : ∀ x ∈ c.2.2, goodWord x = true
  chain : chainOK true c.2.2 = true

theorem ChainGood_at.toFile {w : Int} {c : ChainSpec_at} (h : ChainGood_at w c) : ChainGoodFile_at c :=
  ⟨h.path, h.name, h.notReserved, h.nonempty, h.words,
    gapsOK3_chainOK _ _ true true (wrapOK_gaps w _ (defIndent_blank _) _ _ true true h.wraps)⟩

/-- the file line `path = w1 … wk` -/
def fileLine_at (tp : Str) (ws : List Word) : Str := tp ++ [' ', '='] ++ wordsText ws ++ ['\n']

theorem chains_rt_at (cs : List ChainSpec_at) (h : ∀ c ∈ cs, ChainGoodFile_at c) :
    RTAll (cs.map chainOf_at) := by
  rw [RTAll_iff]
  intro x hx
  obtain ⟨c, hc, rfl⟩ := List.mem_map.mp hx
  have g := h c hc
  exact rtnode_nestIn_l2 c.1 _ [] g.path (by
    unfold RTNode; exact ⟨rfl, g.name, g.notReserved, g.nonempty, g.words⟩)

theorem chainOf_merge_at (c : ChainSpec_at) :
    c.1 ≠ [] → (Obj.defn { name := c.2.1, mergeNames := !c.1.isEmpty } c.2.2).meta.mergeNames = true := by
  intro h
  cases hc : c.1 with
  | nil => exact absurd hc h
  | cons _ _ => rfl

theorem treeText_chain_at (w : Int) (c : ChainSpec_at) :
    treeText w (chainOf_at c) [] [] = argLineText_at w (chainPath_at c) c.2.2 := by
  unfold chainOf_at
  rw [nestIn_path (fun x pre => treeText w x pre []) none _ _ c.1 [] false (chainOf_merge_at c), treeText]
  · simp [argLineText_at, chainPath_at]
  · intro b n k pre h
    rw [treeText, h, if_pos rfl, kidsText, kidsText, List.append_nil]

theorem kidsText_chains_at (w : Int) (cs : List ChainSpec_at) :
    kidsText w (cs.map chainOf_at) [] []
      = cs.flatMap (fun c => argLineText_at w (chainPath_at c) c.2.2) := by
  induction cs with
  | nil => rfl
  | cons c cs ih => rw [List.map_cons, kidsText, treeText_chain_at, ih, List.flatMap_cons]

/-- **Parsing the printed lines of chains** (width `w`, wrapped where `definition.show` wraps): the
    chains, in order, up to ids and source positions. -/
theorem parse_chains_at (w : Int) (cs : List ChainSpec_at) (h : ∀ c ∈ cs, ChainGood_at w c) :
    ∃ r, parseObjs (cs.flatMap (fun c => argLineText_at w (chainPath_at c) c.2.2)) = .ok r ∧
      eraseList r = eraseList (cs.map chainOf_at) ∧
      idsList r = (expIdsSeq 1 (cs.map chainOf_at)).map some := by
  rw [← kidsText_chains_at]
  refine parseObjs_trees w (cs.map chainOf_at) (chains_rt_at cs fun c hc => (h c hc).toFile) ?_
  · rw [WrapsOKs_iff]
    intro x hx
    obtain ⟨c, hc, rfl⟩ := List.mem_map.mp hx
    have g := h c hc
    unfold chainOf_at
    rw [nestIn_path (fun x pre => WrapsOK w x pre []) none _ _ c.1 [] false (chainOf_merge_at c), WrapsOK]
    · simpa [chainPath_at] using g.wraps
    · intro b n k pre h
      rw [WrapsOK, h, if_pos rfl, WrapsOKs, WrapsOKs, and_true]

theorem fits_chain_at (W : Int) (c : ChainSpec_at) :
    Fits W (chainOf_at c) [] [] ↔
      ((defHead (chainPath_at c) ++ wordsText c.2.2).length : Int) ≤ W - 2 := by
  unfold chainOf_at
  rw [nestIn_path (fun x pre => Fits W x pre []) none _ _ c.1 [] false (chainOf_merge_at c), Fits]
  · simp [chainPath_at]
  · intro b n k pre h
    rw [Fits, h, if_pos rfl, FitsAll, FitsAll, and_true]

theorem flatKids_chains_at (cs : List ChainSpec_at) :
    flatKids (cs.map chainOf_at) [] [] = cs.flatMap (fun c => fileLine_at (chainPath_at c) c.2.2) := by
  induction cs with
  | nil => rfl
  | cons c cs ih =>
    rw [List.map_cons, flatKids, ih, List.flatMap_cons, chainOf_at,
      flatText_nestIn_l2 none _ [] c.1 [] false (chainOf_merge_at c), flatText]
    simp [fileLine_at, chainPath_at]

/-- **Parsing the file lines of chains** (`path = w1 … wk`, one line each, nothing wrapped): the
    same chains.  The lines are the canonical unwrapped text of the chains. -/
theorem parse_fileLines_at (cs : List ChainSpec_at) (h : ∀ c ∈ cs, ChainGoodFile_at c) :
    ∃ r, parseObjs (cs.flatMap (fun c => fileLine_at (chainPath_at c) c.2.2)) = .ok r ∧
      eraseList r = eraseList (cs.map chainOf_at) ∧
      idsList r = (expIdsSeq 1 (cs.map chainOf_at)).map some := by
  rw [← flatKids_chains_at]
  refine parseObjs_flatKids_l2 (cs.map chainOf_at) (chains_rt_at cs h) ?_
  rw [allDefnsList_iff]
  intro x hx
  obtain ⟨c, hc, rfl⟩ := List.mem_map.mp hx
  exact (allDefns_nestIn_l2 _ _ _ _ _).mpr (h c hc).chain

/-! ### 5. the definitions of an argument that are transferred -/

theorem chainPath_ne_include_at {ms : List Str} {nm : Str} (hp : GoodPath ms) (hn : goodName nm = true)
    (hres : isReserved (dottedName ms nm) = false) : dottedName ms nm ≠ "include".toList := by
  have h := (itemName_dotted hp hn hres).defName
  simp only [plainDefName, Bool.and_eq_true, bne_iff_ne, ne_eq] at h
  exact h.1.2

/-- `Transfers_at home targets experts d tc`: the definition `d = (path, object data, words)` of the
    argument is addressed to the target path `tc = (scopes, name)`:
    the selection step chooses an index whose target path is the dotted path of `tc`; the
    definition is enabled and not `.deprecated` (an argument never is, unless it says so itself);
    the components of the target path are good names, the words are good words and satisfy the exact
    wrapping condition for the line `full.path = words` at the default width 79. -/
structure Transfers_at (home : Option Str) (targets : List Str) (experts : List Int)
    (d : ArgDef_at) (tc : List Str × Str) : Prop where
  chosen : ∃ i wn, choosePath home targets experts d.1 = .chosen i wn ∧
    targets[i]? = some (dottedName tc.1 tc.2)
  enabled : d.2.1.disabled = false
  notDeprecated : (d.2.1.attrs.get "deprecated").truthy = false
  good : ChainGood_at argWidth_at (tc.1, tc.2, d.2.2)

/-- the chain a transferred definition ends up as -/
def chainSpecOf_at (p : ArgDef_at × (List Str × Str)) : ChainSpec_at := (p.2.1, p.2.2, p.1.2.2)

theorem argDefnText_transfer_at {home : Option Str} {targets : List Str} {experts : List Int}
    {d : ArgDef_at} {tc : List Str × Str} (h : Transfers_at home targets experts d tc) :
    argDefnText_at home targets experts d
      = .ok (argLineText_at argWidth_at (dottedName tc.1 tc.2) d.2.2) := by
  obtain ⟨i, wn, hch, ht⟩ := h.chosen
  exact argDefnText_chosen_at home targets experts d i wn _ hch ht h.enabled h.notDeprecated
    (chainPath_ne_include_at h.good.path h.good.name h.good.notReserved)

theorem argLineText_ne_nil_at (w : Int) (tp : Str) (ws : List Word) : argLineText_at w tp ws ≠ [] := by
  simp [argLineText_at]

/-- **The successful result of `process_arg`, as a function of the argument's definitions**: when
    every definition is transferred, the result is the list of the chains — the target paths holding
    the argument's words — in order, up to ids and source positions. -/
theorem processDefs_transfer_at (home : Option Str) (targets : List Str) (experts : List Int)
    (dts : List (ArgDef_at × (List Str × Str))) (hne : dts ≠ [])
    (h : ∀ p ∈ dts, Transfers_at home targets experts p.1 p.2) :
    ∃ r, processDefs_at home targets experts (dts.map (·.1)) = .ok r ∧
      eraseList r = eraseList ((dts.map chainSpecOf_at).map chainOf_at) ∧
      idsList r = (expIdsSeq 1 ((dts.map chainSpecOf_at).map chainOf_at)).map some := by
  obtain ⟨r, hr, he, hi⟩ := parse_chains_at argWidth_at (dts.map chainSpecOf_at) (by
    intro c hc
    obtain ⟨p, hp, rfl⟩ := List.mem_map.mp hc
    exact (h p hp).good)
  rw [List.flatMap_map] at hr
  refine ⟨r, ?_, he, hi⟩
  rw [processDefs_ok_at home targets experts (·.1)
    (fun p => argLineText_at argWidth_at (chainPath_at (chainSpecOf_at p)) (chainSpecOf_at p).2.2) dts hne
    (fun _ => argLineText_ne_nil_at _ _ _) (fun p hp => argDefnText_transfer_at (h p hp)), hr]

theorem processDefs_refusal_at (home : Option Str) (targets : List Str) (experts : List Int)
    (pre post : List ArgDef_at) (d : ArgDef_at) (out : ArgOutcome)
    (hpre : ∀ x ∈ pre, ∃ t, argDefnText_at home targets experts x = .ok t)
    (hd : argDefnText_at home targets experts d = .error out) :
    processDefs_at home targets experts (pre ++ d :: post) = out := by
  have : argTexts_at home targets experts (pre ++ d :: post) = .error out := by
    induction pre with
    | nil => rw [List.nil_append, argTexts_at, hd]
    | cons x xs ih =>
      obtain ⟨t, ht⟩ := hpre x (by simp)
      rw [List.cons_append, argTexts_at, ht, ih (fun y hy => hpre y (by simp [hy]))]
  unfold processDefs_at
  rw [this]

/-! ### 6. erasure: the result depends on the words up to their source lines -/

theorem chainOf_erase_at (c : ChainSpec_at) :
    (chainOf_at c).erase = chainOf_at (c.1, c.2.1, c.2.2.map Word.erase) := by
  unfold chainOf_at
  rw [nestIn_erase, Obj.erase_defn]
  rfl

theorem chainOf_erase_congr_at (ms : List Str) (nm : Str) (ws ws' : List Word)
    (h : ws.map Word.erase = ws'.map Word.erase) :
    (chainOf_at (ms, nm, ws)).erase = (chainOf_at (ms, nm, ws')).erase := by
  rw [chainOf_erase_at, chainOf_erase_at, h]

theorem expIds_chain_at (i : Nat) (c : ChainSpec_at) :
    expIds i (chainOf_at c) = List.replicate (c.1.length + 1) i := by
  unfold chainOf_at
  rw [(expIds_nestIn_l2 none i c.1 _ false (chainOf_merge_at c)).1, expIds, List.replicate_succ']

/-! ### 7. `all_definitions` of a chain, and of a tree known up to ids and source positions -/

/-- an entry of `all_definitions` without id and source positions -/
def argDefErase_at (d : ArgDef_at) : ArgDef_at := (d.1, d.2.1.erase, d.2.2.map Word.erase)

mutual
theorem allDefs_erase_at : ∀ (o : Obj) (p : Str),
    allDefsObj o.erase p = (allDefsObj o p).map argDefErase_at
  | .defn m ws, p => by
    rw [Obj.erase_defn, allDefsObj, allDefsObj]
    show (if m.name == "include".toList then [] else [(p ++ m.name, m.erase, ws.map Word.erase)]) = _
    split <;> rfl
  | .scope m os, p => by
    rw [Obj.erase_scope, allDefsObj, allDefsObj]
    exact allDefsList_erase_at os _
theorem allDefsList_erase_at : ∀ (os : List Obj) (p : Str),
    allDefsObj.allDefsList (eraseList os) p = (allDefsObj.allDefsList os p).map argDefErase_at
  | [], p => by rw [eraseList_nil]; rfl
  | x :: xs, p => by
    rw [eraseList_cons, allDefsObj.allDefsList, allDefsObj.allDefsList, List.map_append,
      allDefs_erase_at x, allDefsList_erase_at xs]
    have : x.erase.meta.disabled = x.meta.disabled := by cases x <;> rfl
    rw [this]
    split <;> rfl
end

theorem allDefinitions_erase_at (objs : List Obj) :
    allDefinitions (eraseList objs) = (allDefinitions objs).map argDefErase_at :=
  allDefsList_erase_at objs []

theorem dottedName_cons_at (n : Str) (ns : List Str) (nm : Str) :
    dottedName (n :: ns) nm = n ++ ['.'] ++ dottedName ns nm := by
  cases ns <;> rfl

theorem flatMap_dots_at (ms : List Str) (nm : Str) :
    ms.flatMap (· ++ ['.']) ++ nm = dottedName ms nm := by
  induction ms with
  | nil => rfl
  | cons n ns ih => rw [List.flatMap_cons, List.append_assoc, ih, dottedName_cons_at]

theorem allDefinitions_chain_at (c : ChainSpec_at) (hinc : c.2.1 ≠ "include".toList) :
    allDefinitions [chainOf_at c]
      = [(chainPath_at c, { name := c.2.1, mergeNames := !c.1.isEmpty }, c.2.2)] := by
  have hinc' : (c.2.1 == "include".toList) = false := by simpa using hinc
  -- `all_definitions` of a one-element list goes down a chain with the dotted prefix
  refine (nestIn_path (fun x ms => allDefsObj.allDefsList [x] (ms.flatMap (· ++ ['.']))) none _
    (fun b n k ms _ => ?_) c.1 [] false (chainOf_merge_at c)).trans ?_
  · show allDefsObj.allDefsList [Obj.scope _ [k]] _ = _
    rw [allDefsObj.allDefsList, allDefsObj.allDefsList, allDefsObj]
    simp [Obj.meta]
  · show allDefsObj.allDefsList [Obj.defn _ _] _ = _
    rw [allDefsObj.allDefsList, allDefsObj.allDefsList, allDefsObj]
    simp only [hinc', Bool.false_eq_true, ↓reduceIte, List.nil_append, List.append_nil]
    rw [flatMap_dots_at]
    rfl

theorem wrapOK_erase_at (w : Int) (indent : Str) (ws : List Word) :
    ∀ (line : Str) (same : Bool),
      wrapOK w indent (ws.map Word.erase) line same = wrapOK w indent ws line same := by
  induction ws with
  | nil => intro _ _; rfl
  | cons x xs ih =>
    intro line same
    have h1 : wraps w indent line x.erase = wraps w indent line x := rfl
    have h2 : x.erase.str = x.str := rfl
    have h3 : x.erase.value = x.value := rfl
    have h4 : x.erase.quote = x.quote := rfl
    rw [List.map_cons, wrapOK, wrapOK, h1, h2, h3, h4, ih, ih]

theorem chainGood_congr_at {w : Int} {ms : List Str} {nm : Str} {ws ws' : List Word}
    (he : ws'.map Word.erase = ws.map Word.erase) (h : ChainGood_at w (ms, nm, ws)) :
    ChainGood_at w (ms, nm, ws') := by
  refine ⟨h.path, h.name, h.notReserved, ?_, ?_, ?_⟩
  · intro (e : ws' = [])
    subst e
    exact h.nonempty (by simpa using he.symm)
  · intro x (hx : x ∈ ws')
    obtain ⟨y, hy, hxy⟩ := List.mem_map.mp (he ▸ List.mem_map_of_mem (f := Word.erase) hx)
    -- `goodWord` does not look at the source line
    exact (congrArg goodWord hxy : goodWord y.erase = goodWord x.erase) ▸ h.words y hy
  · show wrapOK w _ ws' _ true = true
    rw [← wrapOK_erase_at, he, wrapOK_erase_at]
    exact h.wraps

/-! ### 8. an argument given in the printed form `src = w1 … wk` -/

/-- what the argument `src = w1 … wk` (one line, `src` possibly dotted) parses to, as far as
    `process_arg` looks at it: one definition, under the path `src`, enabled, without attributes,
    with the words up to their source lines -/
theorem allDefinitions_fileLine_at (c : ChainSpec_at) (h : ChainGoodFile_at c) :
    ∃ objs d, parseObjs (fileLine_at (chainPath_at c) c.2.2) = .ok objs ∧
      allDefinitions objs = [d] ∧ d.1 = chainPath_at c ∧ d.2.1.disabled = false ∧ d.2.1.attrs = [] ∧
      d.2.2.map Word.erase = c.2.2.map Word.erase := by
  obtain ⟨objs, hobjs, herase, _⟩ := parse_fileLines_at [c] (by
    intro x hx; rw [List.mem_singleton.mp hx]; exact h)
  simp only [List.flatMap_cons, List.flatMap_nil, List.append_nil] at hobjs
  have hall : (allDefinitions objs).map argDefErase_at
      = [(chainPath_at c, { name := c.2.1, mergeNames := !c.1.isEmpty }, c.2.2.map Word.erase)] := by
    rw [← allDefinitions_erase_at, herase, List.map_cons, List.map_nil, eraseList_cons, eraseList_nil,
      chainOf_erase_at]
    exact allDefinitions_chain_at (c.1, c.2.1, c.2.2.map Word.erase) (goodName_not_include h.name)
  obtain ⟨d, hd, h1⟩ := List.map_eq_singleton_iff.1 hall
  exact ⟨objs, d, hobjs, hd, congrArg (·.1) h1, congrArg (·.2.1.disabled) h1,
    congrArg (·.2.1.attrs) h1, congrArg (·.2.2) h1⟩

theorem attrs_nil_notDeprecated_at (m : Meta) (h : m.attrs = []) :
    (m.attrs.get "deprecated").truthy = false := by
  rw [h]; rfl

theorem expIdsSeq_single_chain_at (c : ChainSpec_at) :
    (expIdsSeq 1 ([c].map chainOf_at)).map some = List.replicate (c.1.length + 1) (some 1) := by
  rw [List.map_cons, List.map_nil, expIdsSeq, expIdsSeq, List.append_nil, expIds_chain_at]
  simp

/-! ### 9. every entry of `all_definitions` is enabled -/

mutual
theorem allDefs_enabled_at : ∀ (o : Obj) (p : Str), o.meta.disabled = false →
    ∀ d ∈ allDefsObj o p, d.2.1.disabled = false
  | .defn m ws, p, hm, d, hd => by
    rw [allDefsObj] at hd
    split at hd
    · cases hd
    · rw [List.mem_singleton.mp hd]; exact hm
  | .scope m os, p, _, d, hd => by
    rw [allDefsObj] at hd
    exact allDefsList_enabled_at os _ d hd
theorem allDefsList_enabled_at : ∀ (os : List Obj) (p : Str),
    ∀ d ∈ allDefsObj.allDefsList os p, d.2.1.disabled = false
  | [], p, d, hd => by cases hd
  | x :: xs, p, d, hd => by
    rw [allDefsObj.allDefsList, List.mem_append] at hd
    rcases hd with hd | hd
    · split at hd
      · cases hd
      · rename_i hx
        exact allDefs_enabled_at x p (by simpa using hx) d hd
    · exact allDefsList_enabled_at xs p d hd
end

theorem allDefinitions_enabled_at (objs : List Obj) :
    ∀ d ∈ allDefinitions objs, d.2.1.disabled = false :=
  allDefsList_enabled_at objs []

/-! ### 10. one definition; several definitions against the individual arguments; refusals -/

theorem processArg_single_at (home : Option Str) (targets : List Str) (experts : List Int) (arg : Str)
    (objs : List Obj) (d : ArgDef_at) (tc : List Str × Str)
    (hparse : parseObjs arg = .ok objs) (hone : allDefinitions objs = [d])
    (h : Transfers_at home targets experts d tc) :
    ∃ r, processArg home targets experts arg = .ok r ∧
      eraseList r = [chainOf_at (tc.1, tc.2, d.2.2.map Word.erase)] ∧
      idsList r = List.replicate (tc.1.length + 1) (some 1) := by
  obtain ⟨r, hr, he, hi⟩ := processDefs_transfer_at home targets experts [(d, tc)] (by simp)
    (by intro p hp; rw [List.mem_singleton.mp hp]; exact h)
  refine ⟨r, ?_, ?_, ?_⟩
  · rw [processArg_eq_at, hparse]
    dsimp only
    rw [hone]
    exact hr
  · rw [he, List.map_cons, List.map_nil, List.map_cons, List.map_nil, eraseList_cons, eraseList_nil,
      chainOf_erase_at]
    rfl
  · rw [hi]
    exact expIdsSeq_single_chain_at (chainSpecOf_at (d, tc))

theorem eraseList_append_at (a b : List Obj) : eraseList (a ++ b) = eraseList a ++ eraseList b := by
  rw [eraseList_eq_map, eraseList_eq_map, eraseList_eq_map, List.map_append]

/-- two lists of the same length whose elements are related position by position -/
inductive ListRel_at {α β : Type} (R : α → β → Prop) : List α → List β → Prop
  | nil : ListRel_at R [] []
  | cons {a : α} {b : β} {as : List α} {bs : List β} :
      R a b → ListRel_at R as bs → ListRel_at R (a :: as) (b :: bs)

/-- the individual arguments: for every definition `p` of the joint argument an argument text that
    parses to that one definition (same words up to source lines) and is transferred to the same
    target.  Their results, concatenated in order, are the chains of the joint argument. -/
theorem processArg_individual_at (home : Option Str) (targets : List Str) (experts : List Int)
    (args : List Str) (dts : List (ArgDef_at × (List Str × Str)))
    (hF : ListRel_at (fun (a : Str) (p : ArgDef_at × (List Str × Str)) =>
      ∃ o d', parseObjs a = .ok o ∧ allDefinitions o = [d'] ∧
        Transfers_at home targets experts d' p.2 ∧
        d'.2.2.map Word.erase = p.1.2.2.map Word.erase) args dts) :
    ∃ rs, ListRel_at (fun a rk => processArg home targets experts a = .ok rk) args rs ∧
      eraseList rs.flatten = eraseList ((dts.map chainSpecOf_at).map chainOf_at) := by
  induction hF with
  | nil => exact ⟨[], .nil, rfl⟩
  | @cons a p as ps hap _ ih =>
    obtain ⟨o, d', ho, hd', ht, hw⟩ := hap
    obtain ⟨rs, hrs, hers⟩ := ih
    obtain ⟨rk, hrk, hek, _⟩ := processArg_single_at home targets experts a o d' p.2 ho hd' ht
    refine ⟨rk :: rs, .cons hrk hrs, ?_⟩
    rw [List.flatten_cons, eraseList_append_at, hek, hers, List.map_cons, List.map_cons, eraseList_cons,
      chainOf_erase_at, hw]
    rfl

theorem argDefnText_ok_of_chosen_at (home : Option Str) (targets : List Str) (experts : List Int)
    (d : ArgDef_at) (i : Nat) (wn : Bool) (h : choosePath home targets experts d.1 = .chosen i wn) :
    ∃ t, argDefnText_at home targets experts d = .ok t := by
  obtain ⟨tp, htp, _⟩ := choose_sound h
  obtain ⟨l, hl⟩ := showDefn_default_ok_ns { d.2.1 with name := tp, tmpl := 0 } d.2.2 [] []
  refine ⟨unlines l, ?_⟩
  unfold argDefnText_at
  rw [h]
  dsimp only
  rw [htp]
  dsimp only
  rw [hl]

/-! ### 11. lines that fit: the text handed to the parser IS the file text -/

/-- `Addressed_at home targets experts d tp`: the selection step addresses the definition `d` of the
    argument to the target path `tp` (ANY string other than `include`), `d` is not `.deprecated`, and
    the line `tp = words` fits into the 77 columns `definition.show` fills at the default width -/
structure Addressed_at (home : Option Str) (targets : List Str) (experts : List Int)
    (d : ArgDef_at) (tp : Str) : Prop where
  chosen : ∃ i wn, choosePath home targets experts d.1 = .chosen i wn ∧ targets[i]? = some tp
  enabled : d.2.1.disabled = false
  notDeprecated : (d.2.1.attrs.get "deprecated").truthy = false
  notInclude : tp ≠ "include".toList
  fits : ((tp ++ [' ', '='] ++ wordsText d.2.2).length : Int) ≤ 77

theorem argDefnText_fits_at {home : Option Str} {targets : List Str} {experts : List Int}
    {d : ArgDef_at} {tp : Str} (h : Addressed_at home targets experts d tp) :
    argDefnText_at home targets experts d = .ok (fileLine_at tp d.2.2) := by
  obtain ⟨i, wn, hch, ht⟩ := h.chosen
  rw [argDefnText_chosen_at home targets experts d i wn tp hch ht h.enabled h.notDeprecated h.notInclude,
    argLineText_at, fileLine_at, (wrap_nowrap argWidth_at _ _ _ (by
      have := h.fits
      simp only [defHead, argWidth_eq_at]
      omega)).1]

/-- a computation that evaluates to some `.ok _` (for `decide +kernel` on a closed term whose value is
    not spelt out) -/
theorem exists_ok_of_toBool_at {ε α : Type} (x : Except ε α) (h : x.toBool = true) : ∃ a, x = .ok a := by
  cases x with
  | ok a => exact ⟨a, rfl⟩
  | error e => cases h

#print axioms processArg_eq_at
#print axioms showDefn_arg_at
#print axioms parse_chains_at
#print axioms parse_fileLines_at
#print axioms processDefs_transfer_at
#print axioms processDefs_refusal_at
#print axioms allDefinitions_erase_at
#print axioms allDefinitions_chain_at
#print axioms allDefinitions_fileLine_at
#print axioms allDefinitions_enabled_at
#print axioms processArg_single_at
#print axioms processArg_individual_at

end Phil
