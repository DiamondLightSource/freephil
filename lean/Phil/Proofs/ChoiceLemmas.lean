/-
  Lemmas behind C11: `choice_converters.fetch` (`choiceFetch`) keeps the master's alternatives and
  flags only what the source selects; extraction of a choice.
-/
import Phil.Conv
import Phil.Proofs.Generic
namespace Phil

/-! ### `choiceFetch` cut into named pieces -/

abbrev Flags := List (Str × Bool)

/-- the flag table before the source is looked at: every alternative, unset -/
def flags0Of (mwords : List Word) : Flags :=
  mwords.foldl (fun fl w => flagSet fl (lower (stripStar w.value).1) false) []

/-- the Sorry of `fetch`: carries all the alternatives of the master as written -/
def altsErr (mwords : List Word) : Err := .sorry_ "not_a_possible_choice" (mwords.map (·.value))

/-- does `fetch` take the `a+b+c` branch for this source? -/
def plusMode (src : List Word) : Bool :=
  match choiceFetch.scan src false with
  | (haveQS, havePlus) =>
    if !haveQS && havePlus then
      let values := splitOn '+' (src.foldr (fun w acc => w.value ++ acc) [])
      (values.drop 1).all (fun v => !(strip v).isEmpty)
    else false

def plusStep (mwords : List Word) (fl : Flags) (w : Word) : R Flags :=
  (splitOn '+' w.value).foldlM (init := fl) (fun fl value =>
    if value.isEmpty then .ok fl
    else if (flagGet fl value).isNone then .error (altsErr mwords)
    else .ok (flagSet fl (lower value) true))

def starStep (mwords : List Word) (single ign : Bool) (fl : Flags) (w : Word) : R Flags :=
  match stripStar w.value with
  | (value, star) =>
    let flag := star || single
    if flag && (flagGet (flags0Of mwords) (lower value)).isNone then
      (if ign then .ok fl else .error (altsErr mwords))
    else .ok (flagSet fl (lower value) flag)

def fetchFlags (mwords : List Word) (opt : AttrVal) (src : List Word) (ign : Bool) : R Flags :=
  if opt.mandatory || !isPlainNone src then
    if plusMode src then src.foldlM (plusStep mwords) (flags0Of mwords)
    else src.foldlM (starStep mwords (src.length == 1) ign) (flags0Of mwords)
  else .ok (flags0Of mwords)

/-- one word of the result: the master's alternative, starred iff its flag is set -/
def renderStar (flags : Flags) (w : Word) : Word :=
  let value := (stripStar w.value).1
  let on := (flagGet flags (lower value)).getD false
  { value := if on then '*' :: value else value, quote := w.quote, line := w.line }

theorem choiceFetch_eq (mwords : List Word) (opt : AttrVal) (src : List Word) (ign : Bool) :
    choiceFetch mwords opt src ign =
      if isPlainNone mwords || isPlainAuto mwords then .error (.stray "AssertionError" "choice_fetch")
      else if isPlainAuto src then .ok [wordOf "Auto"]
      else match fetchFlags mwords opt src ign with
        | .error e => .error e
        | .ok flags => .ok (mwords.map (renderStar flags)) := by
  unfold choiceFetch fetchFlags plusMode plusStep starStep renderStar flags0Of altsErr
  rfl

/-! ### the flag table -/

theorem flagGet_map_replace (fl : Flags) (k k' : Str) (v : Bool) :
    flagGet (fl.map (fun p => if p.1 == k then (k, v) else p)) k' =
      if k' = k then (if fl.any (·.1 == k) then some v else Option.none) else flagGet fl k' := by
  induction fl with
  | nil => simp [flagGet]
  | cons p ps ih =>
    unfold flagGet at ih ⊢
    by_cases h1 : p.1 = k <;> by_cases h2 : k' = k <;> grind

theorem flagGet_flagSet (fl : Flags) (k k' : Str) (v : Bool) :
    flagGet (flagSet fl k v) k' = if k' = k then some v else flagGet fl k' := by
  unfold flagSet
  split
  · rename_i h
    rw [flagGet_map_replace, h]; simp
  · rename_i h
    unfold flagGet
    grind

def altKeys (mwords : List Word) : List Str := mwords.map (fun w => lower (stripStar w.value).1)

theorem flagGet_flags0 (mwords : List Word) (k : Str) :
    flagGet (flags0Of mwords) k = if k ∈ altKeys mwords then some false else Option.none := by
  -- for the induction the fold starts from any table
  show flagGet (mwords.foldl _ []) k = if _ then _ else flagGet [] k
  generalize ([] : Flags) = fl
  induction mwords generalizing fl with
  | nil => rfl
  | cons w ws ih =>
    rw [List.foldl_cons, ih, flagGet_flagSet]
    by_cases h : k = lower (stripStar w.value).1 <;> simp [altKeys, h]

theorem flagGet_flags0_isNone (mwords : List Word) (k : Str) :
    (flagGet (flags0Of mwords) k).isNone = true ↔ k ∉ altKeys mwords := by
  rw [flagGet_flags0]
  split <;> simp [*]

/-! ### errors of the folds -/

theorem plusStep_error (mwords : List Word) (fl : Flags) (w : Word) (e : Err)
    (h : plusStep mwords fl w = .error e) : e = altsErr mwords := by
  refine foldlM_error_of_step (P := (· = altsErr mwords)) (fun fl value e h' => ?_) h
  split at h'
  · cases h'
  · split at h'
    · cases h'; rfl
    · cases h'

theorem starStep_error (mwords : List Word) (single ign : Bool) (fl : Flags) (w : Word) (e : Err)
    (h : starStep mwords single ign fl w = .error e) : e = altsErr mwords := by
  unfold starStep at h
  simp only at h
  split at h
  · split at h
    · cases h
    · cases h; rfl
  · cases h

theorem fetchFlags_error {mwords : List Word} {opt : AttrVal} {src : List Word} {ign : Bool} {e : Err}
    (h : fetchFlags mwords opt src ign = .error e) : e = altsErr mwords := by
  unfold fetchFlags at h
  split at h
  · split at h
    · exact foldlM_error_of_step (P := (· = altsErr mwords)) (plusStep_error mwords) h
    · exact foldlM_error_of_step (P := (· = altsErr mwords)) (starStep_error mwords _ _) h
  · cases h

/-- **C11.3**: the only failures of `fetch` -/
theorem choiceFetch_error (mwords : List Word) (opt : AttrVal) (src : List Word) (ign : Bool) (e : Err)
    (h : choiceFetch mwords opt src ign = .error e) :
    ((isPlainNone mwords || isPlainAuto mwords) = true ∧ e = .stray "AssertionError" "choice_fetch") ∨
    ((isPlainNone mwords || isPlainAuto mwords) = false ∧ isPlainAuto src = false ∧
      e = .sorry_ "not_a_possible_choice" (mwords.map (·.value))) := by
  rw [choiceFetch_eq] at h
  split at h
  next h1 => cases h; exact .inl ⟨h1, rfl⟩
  next h1 =>
    split at h
    next => cases h
    next h2 =>
      split at h
      next e' he =>
        cases h
        exact .inr ⟨eq_false_of_ne_true h1, eq_false_of_ne_true h2, fetchFlags_error he⟩
      next => cases h

/-! ### shape of the result -/

/-- **C11.1 (general form)**: every successful `fetch` on a source other than plain `Auto` is the
    master's word list with stars re-drawn from some flag table -/
theorem choiceFetch_ok_shape (mwords : List Word) (opt : AttrVal) (src : List Word) (ign : Bool)
    (out : List Word) (h : choiceFetch mwords opt src ign = .ok out) :
    (isPlainAuto src = true ∧ out = [wordOf "Auto"]) ∨
    (isPlainAuto src = false ∧ ∃ flags, fetchFlags mwords opt src ign = .ok flags ∧
      out = mwords.map (renderStar flags)) := by
  rw [choiceFetch_eq] at h
  split at h
  next => cases h
  next =>
    split at h
    next h2 => cases h; exact .inl ⟨h2, rfl⟩
    next h2 =>
      split at h
      next => cases h
      next flags hf => cases h; exact .inr ⟨eq_false_of_ne_true h2, flags, hf, rfl⟩

/-- no alternative of the master is written with two leading stars -/
def NoDoubleStar (mwords : List Word) : Prop :=
  ∀ w ∈ mwords, (stripStar (stripStar w.value).1).2 = false

theorem stripStar_cons_star (v : Str) : stripStar ('*' :: v) = (v, true) := rfl

theorem stripStar_of_not_star (v : Str) (h : (stripStar v).2 = false) : stripStar v = (v, false) := by
  unfold stripStar at h ⊢
  split
  · cases h
  · rfl

theorem eq_cons_of_star (v : Str) (h : (stripStar v).2 = true) : v = '*' :: (stripStar v).1 := by
  unfold stripStar at h
  split at h
  · rfl
  · cases h

theorem stripStar_ite (c : Prop) [Decidable c] (v : Str) (h : (stripStar v).2 = false) :
    stripStar (if c then '*' :: v else v) = (v, decide c) := by
  split
  · simp [stripStar_cons_star, *]
  · simp [stripStar_of_not_star v h, *]

theorem render_name (flags : Flags) (w : Word) :
    (renderStar flags w).quote = w.quote ∧ (renderStar flags w).line = w.line ∧
    ((renderStar flags w).value = (stripStar w.value).1 ∨
     (renderStar flags w).value = '*' :: (stripStar w.value).1) := by
  refine ⟨rfl, rfl, ?_⟩
  unfold renderStar
  simp only
  split
  · exact .inr rfl
  · exact .inl rfl

/-! ### which branch -/

theorem scan_no_plus (l : List Word) (h : ∀ w ∈ l, w.value.contains '+' = false) :
    (choiceFetch.scan l false).2 = false := by
  induction l with
  | nil => rfl
  | cons w ws ih =>
    simp only [choiceFetch.scan]
    split
    · rfl
    · rw [h w List.mem_cons_self]
      exact ih (fun x hx => h x (List.mem_cons_of_mem _ hx))

theorem plusMode_false_of_no_plus (src : List Word) (h : ∀ w ∈ src, w.value.contains '+' = false) :
    plusMode src = false := by
  simp [plusMode, scan_no_plus src h]

theorem plusMode_false_of_head (w : Word) (ws : List Word)
    (h : w.quote.isSome = true ∨ (stripStar w.value).2 = true) : plusMode (w :: ws) = false := by
  have h' : (w.quote.isSome || w.value.take 1 == ['*']) = true := by
    rcases h with h | h
    · simp [h]
    · rw [eq_cons_of_star _ h]
      exact Bool.or_true _
  simp [plusMode, choiceFetch.scan, h']

/-! ### unknown alternative -/

/-- a source word that selects (starred, or the only word) a name the master does not have -/
def BadWord (mwords : List Word) (single : Bool) (w : Word) : Prop :=
  ((stripStar w.value).2 || single) = true ∧ lower (stripStar w.value).1 ∉ altKeys mwords

theorem foldlM_starStep_bad {mwords : List Word} {single : Bool} {w : Word}
    (hb : BadWord mwords single w) {l : List Word} (hw : w ∈ l) (fl : Flags) :
    l.foldlM (starStep mwords single false) fl = .error (altsErr mwords) := by
  induction l generalizing fl with
  | nil => cases hw
  | cons x xs ih =>
    rw [List.foldlM_cons]
    cases hc : starStep mwords single false fl x with
    | error e => rw [starStep_error _ _ _ _ _ _ hc]; rfl
    | ok fl' =>
      rcases List.mem_cons.mp hw with rfl | hw'
      · unfold starStep at hc
        simp only [hb.1, (flagGet_flags0_isNone mwords _).mpr hb.2, Bool.and_self, ↓reduceIte,
          Bool.false_eq_true] at hc
        cases hc
      · exact ih hw' fl'

/-! ### star-only sources -/

theorem foldlM_starStep_allstar {mwords : List Word} {single ign : Bool} {l : List Word}
    (hstar : ∀ w ∈ l, (stripStar w.value).2 = true) {fl out : Flags}
    (h : l.foldlM (starStep mwords single ign) fl = .ok out) {k : Str} (hk : k ∈ altKeys mwords) :
    flagGet out k =
      if k ∈ l.map (fun w => lower (stripStar w.value).1) then some true else flagGet fl k := by
  induction l generalizing fl with
  | nil => cases h; rfl
  | cons w ws ih =>
    rw [List.foldlM_cons] at h
    cases hc : starStep mwords single ign fl w with
    | error e => rw [hc] at h; cases h
    | ok fl' =>
      rw [hc] at h
      rw [ih (fun x hx => hstar x (List.mem_cons_of_mem _ hx)) h]
      unfold starStep at hc
      simp only [hstar w List.mem_cons_self, Bool.true_or, Bool.true_and] at hc
      split at hc
      next hnone =>
        -- `w` names no alternative, so `k` is another name and (with `ign`) its flag stays
        have hne : k ≠ lower (stripStar w.value).1 :=
          fun heq => (flagGet_flags0_isNone mwords _).mp hnone (heq ▸ hk)
        split at hc
        · cases hc
          simp [hne]
        · cases hc
      next =>
        cases hc
        rw [flagGet_flagSet]
        by_cases heq : k = lower (stripStar w.value).1 <;> simp [heq]

/-- a source whose words all carry a star is neither plain `None` nor plain `Auto` (both start with a
    letter) and is not read as an `a+b+c` list -/
theorem star_only_guards (src : List Word) (hstar : ∀ w ∈ src, (stripStar w.value).2 = true) :
    isPlainNone src = false ∧ isPlainAuto src = false ∧ plusMode src = false :=
  match src, hstar with
  | [], _ => ⟨rfl, rfl, rfl⟩
  | [w], hstar => by
    have hw := hstar w List.mem_cons_self
    simp only [isPlainNone, isPlainAuto]
    rw [eq_cons_of_star _ hw]
    exact ⟨Bool.and_false _, Bool.and_false _, plusMode_false_of_head w [] (.inr hw)⟩
  | w :: _ :: _, hstar => ⟨rfl, rfl, plusMode_false_of_head w _ (.inr (hstar w List.mem_cons_self))⟩

/-! ### extraction of a choice -/

def starredNames (ws : List Word) : List Str :=
  ws.filterMap (fun w => if (stripStar w.value).2 then some (stripStar w.value).1 else Option.none)

/-- extraction reads back what was drawn: when each word of `mws` is re-drawn as its name, starred
    iff `on`, the starred names of the result are the names of the words that are `on` -/
theorem starredNames_map_draw (on : Word → Bool) (f : Word → Word) (mws : List Word)
    (hm : NoDoubleStar mws)
    (hf : ∀ w ∈ mws, (f w).value = if on w then '*' :: (stripStar w.value).1 else (stripStar w.value).1) :
    starredNames (mws.map f) = (mws.filter on).map (fun w => (stripStar w.value).1) := by
  induction mws with
  | nil => rfl
  | cons w ws ih =>
    have := ih (fun x hx => hm x (List.mem_cons_of_mem _ hx)) (fun x hx => hf x (List.mem_cons_of_mem _ hx))
    unfold starredNames at this ⊢
    rw [List.map_cons, List.filterMap_cons, hf w List.mem_cons_self,
      stripStar_ite _ _ (hm w List.mem_cons_self), List.filter_cons, this]
    cases on w <;> rfl

theorem fromWords_choice_eq (multi : Bool) (env : EvalEnv) (opt : AttrVal) (ws : List Word) :
    fromWords (.choice multi) env opt ws =
      if isPlainAuto ws then .ok .auto
      else if multi then
        if (starredNames ws).isEmpty && opt.mandatory then .error (wordsErr "choice_unspecified" ws)
        else .ok (.list ((starredNames ws).map PVal.str))
      else
        match starredNames ws with
        | [] => if opt.mandatory then .error (wordsErr "choice_unspecified" ws) else .ok .none
        | [v] => .ok (.str v)
        | _ => .error (wordsErr "choice_multiple" ws) := by
  unfold fromWords starredNames
  rfl

end Phil
