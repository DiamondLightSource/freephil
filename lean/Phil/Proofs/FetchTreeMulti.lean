/-
  Phil.Proofs.FetchTreeMulti — nested masters whose DEFINITIONS may be `.multiple` (`TreeMultiMaster`,
  Phil/Proofs/FetchTree.lean): executable forms of the hypotheses and what the theorems of Props/C05TreeMulti.lean
  read off `fetch_tree_multi_total`: C04 (`tmShape`, paths), C05 (the block at a path, the list rule at every depth),
  C06 (the paths `all_definitions(master)` lists), C07 (the keys stay defined on the result).
-/
import Phil.Proofs.FetchTree
namespace Phil

/-! ## 1. executable forms (for concrete and parsed instances) -/

def defnMetaB_tm (mm : Meta) : Bool :=
  !(mm.attrs.get "deprecated").truthy &&
    (match mm.attrs.get "type" with
     | .conv (.choice _) => false
     | _ => true)

mutual
def tmObjB : Obj → Bool
  | .defn mm _ => defnMetaB_tm mm && !mm.name.isEmpty && !mm.name.contains '.' && !mm.disabled
  | .scope mm kids =>
    !(mm.attrs.get "multiple").truthy && !mm.name.isEmpty && !mm.name.contains '.' && !mm.disabled &&
      tmKidsB kids && decide ((kids.map Obj.name).Pairwise (· ≠ ·))
def tmKidsB : List Obj → Bool
  | [] => true
  | o :: os => tmObjB o && tmKidsB os
end

/-- executable form of `TreeMultiMaster` -/
def treeMultiMasterB (mkids : List Obj) : Bool :=
  tmKidsB mkids && decide ((mkids.map Obj.name).Pairwise (· ≠ ·))

mutual
def keysDefinedObjB (e : Envs) : Obj → List Obj → Bool
  | .defn mm mws, srcs =>
    !isMultiple (.defn mm mws) || keysDefinedB e 0 (.defn mm mws) (defsNamed mm.name srcs)
  | .scope mm kids, srcs => keysDefinedTreeB e kids (srcStep srcs mm.name)
/-- executable form of `KeysDefinedTree` -/
def keysDefinedTreeB (e : Envs) : List Obj → List Obj → Bool
  | [], _ => true
  | mo :: rest, srcs => keysDefinedObjB e mo srcs && keysDefinedTreeB e rest srcs
end

/-- executable form of the master-side side conditions: a `TreeMultiMaster` nested at most 1000
    deep, no definition called `include`, fit for re-fetching -/
def masterCheck_tm (mkids : List Obj) : Bool :=
  treeMultiMasterB mkids && decide (depthL mkids ≤ 1000) &&
    allActive (fun d => !d.isDefn ||
      (d.name != "include".toList && d.meta.tmpl == 0 && d.meta.varRes.isNone && !hasDollar d.words)) mkids

/-! ## 2. the result, one level down -/

theorem srcStep_treeMultiResult_tm (e : Envs) (mkids srcs : List Obj) (hf : TreeMultiMaster mkids)
    (mm : Meta) (kids : List Obj) (hmem : Obj.scope mm kids ∈ mkids) :
    srcStep (treeMultiResult e mkids srcs) mm.name = treeMultiResult e kids (srcStep srcs mm.name) :=
  srcStep_of_view_tm e mm kids srcs _ (view_tm e mkids srcs hf _ hmem)

theorem defsNamed_treeMultiResult_tm (e : Envs) (mkids srcs : List Obj) (hf : TreeMultiMaster mkids)
    (mm : Meta) (mws : List Word) (hmem : Obj.defn mm mws ∈ mkids) :
    defsNamed mm.name (treeMultiResult e mkids srcs) = tmBlock e (.defn mm mws) srcs :=
  defsNamed_of_view_tm e mm mws srcs _ (view_tm e mkids srcs hf _ hmem)

/-! ## 3. C04: the result has the master's structure, `.multiple` definitions repeated -/

/-- the survivors of the list rule for the `.multiple` master definition `mo`, sources `srcs` at its
    level -/
def survivorsOf_tm (e : Envs) (mo : Obj) (srcs : List Obj) : List (Obj × Str) :=
  dedupKeepLast ((candsOf e 0 mo (defsNamed mo.name srcs)).filter (fun y => y.2 != keyOf e 0 mo mo))

mutual
def tmShapeObj (e : Envs) : Obj → List Obj → List Obj
  | .defn mm mws, srcs =>
    List.replicate
      (if isMultiple (.defn mm mws) then (survivorsOf_tm e (.defn mm mws) srcs).length + 1 else 1)
      (shapeObj (.defn mm mws))
  | .scope mm kids, srcs => [.scope { mm with tmpl := 0 } (tmShape e kids (srcStep srcs mm.name))]
/-- the skeleton of the result: the master's skeleton in which a `.multiple` definition stands once
    for its template and once per surviving instance, everything else exactly once -/
def tmShape (e : Envs) : List Obj → List Obj → List Obj
  | [], _ => []
  | mo :: rest, srcs => tmShapeObj e mo srcs ++ tmShape e rest srcs
end

theorem shapeList_append_tm (a b : List Obj) : shapeList (a ++ b) = shapeList a ++ shapeList b := by
  rw [shapeList_eq_map, shapeList_eq_map, shapeList_eq_map, List.map_append]

theorem shapeObj_withTmpl_tm (mm : Meta) (mws : List Word) (t : Int) :
    shapeObj (withTmpl (.defn mm mws) t) = shapeObj (.defn mm mws) := by
  unfold withTmpl Obj.withMeta
  simp only [shapeObj]

theorem shapeObj_candOfSrc_tm (mm : Meta) (mws : List Word) (d : Obj) :
    shapeObj (candOfSrc (.defn mm mws) d) = shapeObj (.defn mm mws) := by
  unfold candOfSrc
  simp only [shapeObj, Obj.meta]

theorem shapeObj_lastWins_tm (mm : Meta) (mws : List Word) (l : List Obj) :
    shapeObj (lastWins (.defn mm mws) l) = shapeObj (.defn mm mws) := by
  unfold lastWins
  cases l.getLast? with
  | none => rfl
  | some d => simp only [shapeObj, Obj.meta]

theorem shapeList_multiBlock_tm (e : Envs) (mm : Meta) (mws : List Word) (k0 : Str) (l : List Obj) :
    shapeList (multiBlock (.defn mm mws) k0 (candsOf e 0 (.defn mm mws) l)) =
      List.replicate
        ((dedupKeepLast ((candsOf e 0 (.defn mm mws) l).filter (fun y => y.2 != k0))).length + 1)
        (shapeObj (.defn mm mws)) := by
  unfold multiBlock
  rw [shapeList_eq_map, List.map_cons, shapeObj_withTmpl_tm, List.replicate_succ]
  congr 1
  rw [List.eq_replicate_iff]
  refine ⟨by simp, ?_⟩
  intro b hb
  rw [List.map_map, List.mem_map] at hb
  obtain ⟨x, hx, rfl⟩ := hb
  obtain ⟨⟨d, _, hxd⟩, _, _⟩ := mem_surv hx
  show shapeObj x.1 = _
  rw [hxd, shapeObj_candOfSrc_tm]

mutual
theorem shapeList_tmBlock_tm (e : Envs) : ∀ (mo : Obj) (srcs : List Obj),
    shapeList (tmBlock e mo srcs) = tmShapeObj e mo srcs
  | .defn mm mws, srcs => by
    rw [tmBlock, tmShapeObj]
    cases hmult : isMultiple (.defn mm mws) with
    | false =>
      simp only [Bool.false_eq_true, if_false]
      rw [shapeList, shapeList, shapeObj_lastWins_tm]
      rfl
    | true =>
      simp only [if_true]
      exact shapeList_multiBlock_tm e mm mws _ _
  | .scope mm kids, srcs => by
    rw [tmBlock, tmShapeObj, shapeList, shapeList, shapeObj, shapeList_treeMultiResult_tm e kids _]
/-- **C04.**  The skeleton of the result is `tmShape`: the master's skeleton, `.multiple` definitions
    repeated once per surviving instance. -/
theorem shapeList_treeMultiResult_tm (e : Envs) : ∀ (mkids : List Obj) (srcs : List Obj),
    shapeList (treeMultiResult e mkids srcs) = tmShape e mkids srcs
  | [], srcs => by rw [treeMultiResult, tmShape, shapeList]
  | mo :: rest, srcs => by
    rw [treeMultiResult, tmShape, shapeList_append_tm, shapeList_tmBlock_tm e mo srcs,
      shapeList_treeMultiResult_tm e rest srcs]
end

theorem defPaths_append_tm (a b : List Obj) (p : Str) : defPaths (a ++ b) p = defPaths a p ++ defPaths b p := by
  rw [defPaths_eq_flatMap, defPaths_eq_flatMap, defPaths_eq_flatMap, List.flatMap_append]

theorem mem_defPaths_of_block {l : List Obj} {p q : Str} {P : Prop} (hne : l ≠ [])
    (h : ∀ o ∈ l, (q ∈ defPathsObj o p ↔ P)) : q ∈ defPaths l p ↔ P := by
  rw [defPaths_eq_flatMap, List.mem_flatMap]
  constructor
  · rintro ⟨o, ho, hq⟩
    exact (h o ho).mp hq
  · intro hq
    obtain ⟨o, ho⟩ := List.exists_mem_of_ne_nil l hne
    exact ⟨o, ho, (h o ho).mpr hq⟩

mutual
theorem mem_defPaths_tmBlock_tm (e : Envs) : ∀ (mo : Obj) (srcs : List Obj) (p q : Str),
    q ∈ defPaths (tmBlock e mo srcs) p ↔ q ∈ defPathsObj mo p
  | .defn mm mws, srcs, p, q => by
    refine mem_defPaths_of_block (tmBlock_ne_nil_tm e _ srcs) ?_
    intro o ho
    have h := tmBlock_member_tm e _ srcs o ho
    cases o with
    | scope m k => cases h.2.2
    | defn m ws => rw [defPathsObj, defPathsObj, show m.name = mm.name from h.1]
  | .scope mm kids, srcs, p, q => by
    rw [tmBlock, defPaths, defPaths, List.append_nil, defPathsObj, defPathsObj]
    exact mem_defPaths_treeMultiResult_tm e kids _ _ q
theorem mem_defPaths_treeMultiResult_tm (e : Envs) : ∀ (mkids : List Obj) (srcs : List Obj) (p q : Str),
    q ∈ defPaths (treeMultiResult e mkids srcs) p ↔ q ∈ defPaths mkids p
  | [], srcs, p, q => by rw [treeMultiResult]
  | mo :: rest, srcs, p, q => by
    rw [treeMultiResult, defPaths_append_tm, List.mem_append, defPaths, List.mem_append,
      mem_defPaths_tmBlock_tm e mo srcs p q, mem_defPaths_treeMultiResult_tm e rest srcs p q]
end

/-! ## 4. C05: the block at a path -/

theorem block_at_path_tm (e : Envs) (ps : List Str) (mkids srcs : List Obj) (n : Str)
    (mm : Meta) (mws : List Word) (hf : TreeMultiMaster mkids) (h : defAt mkids ps n = some (.defn mm mws)) :
    activeNamed n (srcAt (treeMultiResult e mkids srcs) ps) = tmBlock e (.defn mm mws) (srcAt srcs ps) := by
  have hn : mm.name = n := (defAt_name ps mkids n _ h).1
  rw [treeMultiResult_eq_gTree_dt, tmBlock_eq_gBlock_dt, gBlock_dt, hn]
  exact gBlock_at_path_dt (goodFam_blockL_dt e 0) false ps mkids srcs n mm mws hf h

/-- **C05 (the list rule at every depth).**  Where the master has the `.multiple` definition `mo` at
    the path `ps.n`, the result has at that path the template followed by the survivors of the list
    rule over the enabled source definitions reached by that path — over all sources and all
    spellings, in document order. -/
theorem multiple_list_rule_at_depth_tm (e : Envs) (mkids srcs : List Obj) (hf : TreeMultiMaster mkids)
    (ps : List Str) (n : Str) (mm : Meta) (mws : List Word)
    (h : defAt mkids ps n = some (.defn mm mws)) (hmult : isMultiple (.defn mm mws) = true) :
    activeNamed n (srcAt (treeMultiResult e mkids srcs) ps) =
      multiBlock (.defn mm mws) (keyOf e 0 (.defn mm mws) (.defn mm mws))
        (candsOf e 0 (.defn mm mws) (defsNamed n (srcAt srcs ps))) := by
  have hn : mm.name = n := (defAt_name ps mkids n _ h).1
  rw [block_at_path_tm e ps mkids srcs n mm mws hf h, tmBlock, hn]
  simp only [hmult, if_true]

/-! ## 5. C06: the master's paths and `all_definitions` -/

theorem defPaths_eq_allDefinitions_tm (mkids : List Obj) (hf : TreeMultiMaster mkids)
    (hinc : NoIncludeTree mkids) : defPaths mkids [] = (allDefinitions mkids).map (·.1) :=
  defPaths_eq_allDefs_of tmObj_pathClass mkids [] hf.obj hinc

/-! ## 6. C07: the keys stay defined when the result is fetched again -/

mutual
theorem keysDefinedObj_view_tm (e : Envs) : ∀ (mo : Obj) (srcs R : List Obj), TMObj mo → RefetchTree [mo] →
    KeysDefinedObj e mo srcs → activeNamed mo.name R = tmBlock e mo srcs → KeysDefinedObj e mo R
  | .defn mm mws, srcs, R, ht, hr, hk, hv => by
    rw [TMObj] at ht
    have hr' := hr.defn_dt ht.2.2.2
    rw [KeysDefinedObj] at hk ⊢
    intro hmult
    rw [defsNamed_of_view_tm e mm mws srcs R hv, tmBlock, if_pos hmult]
    exact keysDefined_multiBlock hr'.1 hr'.2.1 (hk hmult)
  | .scope mm kids, srcs, R, ht, hr, hk, hv => by
    have hkm := TreeMultiMaster.of_scope ht
    rw [TMObj] at ht
    rw [KeysDefinedObj] at hk ⊢
    rw [srcStep_of_view_tm e mm kids srcs R hv]
    exact keysDefinedTree_view_tm e kids (srcStep srcs mm.name) _ hkm.kids (hr.kids ht.2.2.2.1) hk
      (view_tm e kids _ hkm)
theorem keysDefinedTree_view_tm (e : Envs) : ∀ (l : List Obj) (srcs R : List Obj), TMKids l →
    RefetchTree l → KeysDefinedTree e l srcs →
    (∀ mo ∈ l, activeNamed mo.name R = tmBlock e mo srcs) → KeysDefinedTree e l R
  | [], srcs, R, _, _, _, _ => by rw [KeysDefinedTree]; trivial
  | mo :: rest, srcs, R, ht, hr, hk, hv => by
    rw [TMKids] at ht
    rw [KeysDefinedTree] at hk ⊢
    exact ⟨keysDefinedObj_view_tm e mo srcs R ht.1 hr.head hk.1 (hv mo List.mem_cons_self),
      keysDefinedTree_view_tm e rest srcs R ht.2 hr.tail hk.2 (fun o ho => hv o (List.mem_cons_of_mem _ ho))⟩
end

theorem keysDefined_treeMultiResult_tm (e : Envs) (mkids srcs : List Obj) (hf : TreeMultiMaster mkids)
    (hr : RefetchTree mkids) (hk : KeysDefinedTree e mkids srcs) :
    KeysDefinedTree e mkids (treeMultiResult e mkids srcs) :=
  keysDefinedTree_view_tm e mkids srcs _ hf.kids hr hk (view_tm e mkids srcs hf)

/-! ## 7. soundness of the executable checks -/

theorem defnMetaB_tm_sound (mm : Meta) (h : defnMetaB_tm mm = true) : DefnMeta mm := by
  unfold defnMetaB_tm at h
  simp only [Bool.and_eq_true, Bool.not_eq_true'] at h
  refine ⟨h.1, ?_⟩
  intro b hb
  rw [hb] at h
  exact absurd h.2 (by simp)

mutual
theorem tmObjB_sound : ∀ (o : Obj), tmObjB o = true → TMObj o
  | .defn mm mws, h => by
    rw [tmObjB] at h
    simp only [Bool.and_eq_true, Bool.not_eq_true', List.contains_eq_mem, decide_eq_false_iff_not] at h
    rw [TMObj]
    exact ⟨defnMetaB_tm_sound mm h.1.1.1, List.isEmpty_eq_false_iff.mp h.1.1.2, h.1.2, h.2⟩
  | .scope mm kids, h => by
    rw [tmObjB] at h
    simp only [Bool.and_eq_true, Bool.not_eq_true', List.contains_eq_mem, decide_eq_false_iff_not,
      decide_eq_true_eq] at h
    rw [TMObj]
    exact ⟨h.1.1.1.1.1, List.isEmpty_eq_false_iff.mp h.1.1.1.1.2, h.1.1.1.2, h.1.1.2,
      tmKidsB_sound kids h.1.2, h.2⟩
theorem tmKidsB_sound : ∀ (l : List Obj), tmKidsB l = true → TMKids l
  | [], _ => by rw [TMKids]; trivial
  | o :: os, h => by
    rw [tmKidsB, Bool.and_eq_true] at h
    rw [TMKids]
    exact ⟨tmObjB_sound o h.1, tmKidsB_sound os h.2⟩
end

theorem treeMultiMasterB_sound (mkids : List Obj) (h : treeMultiMasterB mkids = true) :
    TreeMultiMaster mkids := by
  unfold treeMultiMasterB at h
  simp only [Bool.and_eq_true, decide_eq_true_eq] at h
  exact ⟨tmKidsB_sound mkids h.1, h.2⟩

mutual
theorem keysDefinedObjB_sound (e : Envs) : ∀ (mo : Obj) (srcs : List Obj),
    keysDefinedObjB e mo srcs = true → KeysDefinedObj e mo srcs
  | .defn mm mws, srcs, h => by
    rw [keysDefinedObjB] at h
    rw [KeysDefinedObj]
    intro hmult
    rw [hmult] at h
    exact keysDefined_of_B (by simpa using h)
  | .scope mm kids, srcs, h => by
    rw [keysDefinedObjB] at h
    rw [KeysDefinedObj]
    exact keysDefinedTreeB_sound e kids _ h
theorem keysDefinedTreeB_sound (e : Envs) : ∀ (l : List Obj) (srcs : List Obj),
    keysDefinedTreeB e l srcs = true → KeysDefinedTree e l srcs
  | [], _, _ => by rw [KeysDefinedTree]; trivial
  | mo :: rest, srcs, h => by
    rw [keysDefinedTreeB, Bool.and_eq_true] at h
    rw [KeysDefinedTree]
    exact ⟨keysDefinedObjB_sound e mo srcs h.1, keysDefinedTreeB_sound e rest srcs h.2⟩
end

structure MasterOK_tm (mkids : List Obj) : Prop where
  tree : TreeMultiMaster mkids
  depth : depthL mkids ≤ 1000
  noInclude : NoIncludeTree mkids
  refetch : RefetchTree mkids

theorem masterCheck_tm_sound (mkids : List Obj) (h : masterCheck_tm mkids = true) : MasterOK_tm mkids := by
  unfold masterCheck_tm at h
  simp only [Bool.and_eq_true, decide_eq_true_eq] at h
  exact ⟨treeMultiMasterB_sound mkids h.1.1, h.1.2, (noInclude_refetch_of_allActive mkids h.2).1,
    (noInclude_refetch_of_allActive mkids h.2).2⟩

end Phil
