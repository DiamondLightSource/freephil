/-
  Phil.Proofs.NoStray2 — no-stray / totality lemmas behind Props/C16More.lean.  The printer (`Phil.Show`) gets an
  exact failure function `showFail` (first failing site in print order, `errOf (showObj …) = showFail …`); every
  failure has a witness in the tree (`ShowWitness`), from which the width bound in terms of `showDepth` is read
  off; parser outputs (`PShape`, an invariant of `collectObjects`) carry only None / Auto / integer expert levels
  and template flag 0.  Variable resolution (`Phil.Vars`) and include expansion (`Phil.Include`) fail at named
  sites only.
-/
import Phil.Proofs.ShowLaws
import Phil.Proofs.FetchLemmas
import Phil.Proofs.TotalityLemmas
import Phil.Proofs.ParseIds
import Phil.Proofs.IncludeLemmas
import Phil.Proofs.NoStray
namespace Phil

/-! ## A. the printer -/

theorem errOf_ok_n2 {α : Type} (a : α) : errOf (Except.ok a : R α) = none := rfl
theorem errOf_error_n2 {α : Type} (e : Err) : errOf (Except.error e : R α) = some e := rfl
theorem errOf_eq_some_n2 {α : Type} {r : R α} {e : Err} : errOf r = some e ↔ r = .error e :=
  ⟨eq_error_of_errOf, fun h => h ▸ rfl⟩
theorem errOf_eq_none_n2 {α : Type} {r : R α} : errOf r = none ↔ ∃ a, r = .ok a := by
  cases r <;> simp [errOf]

abbrev widthErr : Err := .stray "ValueError" "textwrap_width"
abbrev expertErr : Err := .stray "TypeError" "expert_level_compare"
abbrev tabErr : Err := .unsupported "tab in wrapped attribute"

/-- does `show_attributes` put the string value `v` between quotes? (`ind` = length of the indent) -/
def needsQuote (ind : Nat) (width : Int) (v : Str) : Bool :=
  !isStdIdent v || lower v == "none".toList || lower v == "auto".toList ||
    !decide (((ind + v.length : Nat) : Int) < width)

/-- the failure of printing one shown attribute, if any: `textwrap.wrap` is called with a width
    `≤ 0` (ValueError) exactly when the value has to be quoted and `width ≤ indent + 2`; a tab in a
    value that has to be wrapped is outside the model -/
def attrFail (plen : Nat) (width : Int) (name : String) : AttrVal → Option Err
  | .str s =>
    let ind := plen + (3 + name.length + 3)
    if needsQuote ind width s then
      if width ≤ ((ind + 2 : Nat) : Int) then some widthErr
      else if decide (width ≤ ((ind + (quoteStr .d1 s).length : Nat) : Int)) && (quoteStr .d1 s).contains '\t'
        then some tabErr
      else none
    else none
  | _ => none

theorem quoteStr_d1_length_n2 (s : Str) : 2 ≤ (quoteStr .d1 s).length := by
  simp [quoteStr, Quote.token, Quote.triple]

theorem attrIndent_length_n2 (pre : Str) (name : String) :
    (attrIndent pre name).length = pre.length + (3 + name.length + 3) := by
  simp [attrIndent, spaces]

theorem attrFits_eq_n2 (pre : Str) (name : String) (width : Int) (s : Str) :
    attrFits (attrIndent pre name) width s
      = decide (((pre.length + (3 + name.length + 3) + s.length : Nat) : Int) < width) := by
  simp only [attrFits, List.length_append, attrIndent_length_n2]

theorem attrLines_fail_n2 (pre : Str) (width : Int) (name : String) (v : AttrVal) :
    errOf (attrLines pre width name v) = attrFail pre.length width name v := by
  cases v with
  | str s =>
    simp only [attrLines, attrFail, attrFits_eq_n2, attrIndent_length_n2]
    generalize hind : pre.length + (3 + name.length + 3) = ind
    rw [show (!isStdIdent s || lower s == "none".toList || lower s == "auto".toList ||
        !decide (((ind + s.length : Nat) : Int) < width)) = needsQuote ind width s from rfl]
    by_cases hq : needsQuote ind width s = true
    · rw [hq]
      simp only [if_true]
      have h2 := quoteStr_d1_length_n2 s
      by_cases hf : ((ind + (quoteStr Quote.d1 s).length : Nat) : Int) < width
      · have h1 : ¬ (width ≤ ((ind + 2 : Nat) : Int)) := by omega
        have h3 : ¬ (width ≤ ((ind + (quoteStr Quote.d1 s).length : Nat) : Int)) := by omega
        rw [if_pos (decide_eq_true hf), if_neg h1, decide_eq_false h3]
        rfl
      · rw [if_neg (by simpa using hf)]
        by_cases hw : width ≤ ((ind + 2 : Nat) : Int)
        · have hw' : width - 2 - (ind : Int) ≤ 0 := by omega
          rw [if_pos hw', if_pos hw]
          rfl
        · have hw' : ¬ (width - 2 - (ind : Int) ≤ 0) := by omega
          have h3 : width ≤ ((ind + (quoteStr Quote.d1 s).length : Nat) : Int) := by omega
          rw [if_neg hw', if_neg hw, decide_eq_true h3, Bool.true_and]
          by_cases ht : (quoteStr Quote.d1 s).contains '\t' = true
          · rw [if_pos ht, if_pos ht]; rfl
          · rw [if_neg ht, if_neg ht]; rfl
    · have hq' : needsQuote ind width s = false := by simpa using hq
      rw [hq']
      simp only [Bool.false_eq_true, if_false]
      unfold needsQuote at hq
      have hfit : ((ind + s.length : Nat) : Int) < width := by
        simp only [Bool.or_eq_true, Bool.not_eq_true', decide_eq_false_iff_not, not_or] at hq
        have := hq.2
        simpa using this
      rw [if_pos (decide_eq_true hfit)]
      rfl
  | none => rfl
  | auto => rfl
  | bool b => rfl
  | int i => rfl
  | conv c => rfl

/-- first failure over the attribute names, in print order -/
def attrsFailAux (plen : Nat) (level width : Int) (attrs : Attrs) : List String → Option Err
  | [] => none
  | n :: ns =>
    match (if attrShown level n (attrs.get n) then attrFail plen width n (attrs.get n) else none) with
    | some e => some e
    | none => attrsFailAux plen level width attrs ns

def attrsFail (plen : Nat) (level width : Int) (attrs : Attrs) (names : List String) : Option Err :=
  if level ≤ 0 then none else attrsFailAux plen level width attrs names

theorem attrAll_fail_n2 (attrs : Attrs) (pre : Str) (level width : Int) : ∀ (names : List String),
    errOf (attrAll attrs pre level width names) = attrsFailAux pre.length level width attrs names
  | [] => rfl
  | n :: ns => by
    have ih := attrAll_fail_n2 attrs pre level width ns
    simp only [attrAll, attrsFailAux, attrOne]
    by_cases hs : attrShown level n (attrs.get n) = true
    · rw [if_pos hs, if_pos hs, ← attrLines_fail_n2]
      cases h1 : attrLines pre width n (attrs.get n) with
      | error e => simp [errOf]
      | ok l =>
        simp only [errOf]
        rw [← ih]
        cases attrAll attrs pre level width ns <;> simp [errOf]
    · rw [if_neg hs, if_neg hs]
      simp only
      rw [← ih]
      cases attrAll attrs pre level width ns <;> simp [errOf]

theorem showAttributes_fail_n2 (names : List String) (attrs : Attrs) (pre : Str) (level width : Int) :
    errOf (showAttributes names attrs pre level width) = attrsFail pre.length level width attrs names := by
  rw [showAttributes_all, attrsFail]
  split
  · rfl
  · exact attrAll_fail_n2 attrs pre level width names

mutual
/-- the first failing site of `show`, in print order; `plen` is the length of the prefix -/
def showFail (o : ShowOpts) : Obj → Nat → Option Err
  | .defn m _, plen =>
    if m.tmpl < 0 && o.level < 2 then none
    else if (m.attrs.get "deprecated").truthy && o.level < 3 then none
    else match expertHidden (m.attrs.get "expert_level") o.expert with
      | .error e => some e
      | .ok true => none
      | .ok false => attrsFail plen o.level o.width m.attrs defAttrNames
  | .scope m objs, plen =>
    if m.tmpl < 0 && o.level < 2 then none
    else match expertHidden (m.attrs.get "expert_level") o.expert with
      | .error e => some e
      | .ok true => none
      | .ok false =>
        if m.name.isEmpty then showFails o objs plen
        else if firstMerges objs then showFails o objs plen
        else match attrsFail plen o.level o.width m.attrs scopeAttrNames with
          | some e => some e
          | none => showFails o objs (plen + 2)
def showFails (o : ShowOpts) : List Obj → Nat → Option Err
  | [], _ => none
  | x :: xs, plen =>
    match showFail o x plen with
    | some e => some e
    | none => showFails o xs plen
end

theorem showDefn_fail_n2 (o : ShowOpts) (m : Meta) (ws : List Word) (merged : List Str) (pre : Str) :
    errOf (showDefn o m ws merged pre) = showFail o (.defn m ws) pre.length := by
  rw [showDefn_eq, showFail]
  split
  · rfl
  · split
    · rfl
    · cases hh : expertHidden (m.attrs.get "expert_level") o.expert with
      | error e => rfl
      | ok b =>
        cases b with
        | true => rfl
        | false =>
          simp only [expertGate_false, showDefnBody]
          rw [← showAttributes_fail_n2]
          cases showAttributes defAttrNames m.attrs pre o.level o.width <;> rfl

mutual
theorem showObj_fail_n2 (o : ShowOpts) : ∀ (x : Obj) (merged : List Str) (pre : Str),
    errOf (showObj o x merged pre) = showFail o x pre.length
  | .defn m ws, merged, pre => by rw [showObj_defn_eq]; exact showDefn_fail_n2 o m ws merged pre
  | .scope m objs, merged, pre => by
    rw [showObj_scope_eq, showFail]
    split
    · rfl
    · cases hh : expertHidden (m.attrs.get "expert_level") o.expert with
      | error e => rfl
      | ok b =>
        cases b with
        | true => rfl
        | false =>
          simp only [expertGate_false, showScopeBody]
          split
          · exact showObjs_fail_n2 o objs merged pre
          · split
            · exact showObjs_fail_n2 o objs _ pre
            · rw [← showAttributes_fail_n2]
              cases showAttributes scopeAttrNames m.attrs pre o.level o.width with
              | error e => rfl
              | ok attrs =>
                simp only [errOf]
                have ih := showObjs_fail_n2 o objs [] (pre ++ "  ".toList)
                have hl : (pre ++ "  ".toList).length = pre.length + 2 := by simp
                rw [hl] at ih
                rw [← ih]
                cases showObjs o objs [] (pre ++ "  ".toList) <;> rfl
theorem showObjs_fail_n2 (o : ShowOpts) : ∀ (xs : List Obj) (merged : List Str) (pre : Str),
    errOf (showObjs o xs merged pre) = showFails o xs pre.length
  | [], merged, pre => rfl
  | x :: xs, merged, pre => by
    rw [showObjs_cons, showFails, ← showObj_fail_n2 o x merged pre, ← showObjs_fail_n2 o xs merged pre]
    cases showObj o x merged pre <;> cases showObjs o xs merged pre <;> rfl
end

theorem asStr_fail_n2 (o : ShowOpts) (root : Obj) (pre : Str) :
    errOf (asStr o root pre) = showFail o root pre.length := by
  rw [← showObj_fail_n2 o root [] pre]
  unfold asStr
  cases showObj o root [] pre <;> rfl

/-! ### parser outputs: template flag 0, expert levels None / Auto / integer -/

/-- the values `int_from_words` delivers for `.expert_level` -/
def expertShape : AttrVal → Bool
  | .none => true
  | .auto => true
  | .int _ => true
  | _ => false

def attrsShape (a : Attrs) : Bool := a.all (fun p => p.1 != "expert_level" || expertShape p.2)

def metaShape (m : Meta) : Bool := decide (m.tmpl = 0) && attrsShape m.attrs

mutual
/-- what the parser builds: `is_template = 0` everywhere and every `.expert_level` is None, Auto or an
    integer -/
def PShape : Obj → Bool
  | .defn m _ => metaShape m
  | .scope m os => metaShape m && PShapes os
def PShapes : List Obj → Bool
  | [] => true
  | x :: xs => PShape x && PShapes xs
end

theorem pshapes_iff_n2 : ∀ (l : List Obj), PShapes l = true ↔ ∀ o ∈ l, PShape o = true
  | [] => by simp [PShapes]
  | x :: xs => by simp [PShapes, pshapes_iff_n2 xs]

mutual
/-- parser-shaped means: every attribute carrier is -/
theorem pshape_eq_all_n2 : ∀ (x : Obj), PShape x = (metasOf x).all metaShape
  | .defn m _ => by rw [PShape, metasOf, List.all_cons, List.all_nil, Bool.and_true]
  | .scope m os => by rw [PShape, metasOf, List.all_cons, pshapes_eq_all_n2 os]
theorem pshapes_eq_all_n2 : ∀ (xs : List Obj), PShapes xs = (metasOfs xs).all metaShape
  | [] => rfl
  | x :: xs => by rw [PShapes, metasOfs, List.all_append, pshape_eq_all_n2 x, pshapes_eq_all_n2 xs]
end

theorem attrsShape_get_n2 {a : Attrs} (h : attrsShape a = true) : expertShape (a.get "expert_level") = true := by
  unfold Attrs.get
  cases hf : a.reverse.find? (fun p => p.1 == "expert_level") with
  | none => rfl
  | some p =>
    simp only
    have hm : p ∈ a := by
      have := List.mem_of_find?_eq_some hf
      simpa using this
    have hp : (p.1 == "expert_level") = true :=
      List.find?_some (p := fun (q : String × AttrVal) => q.1 == "expert_level") hf
    unfold attrsShape at h
    rw [List.all_eq_true] at h
    have := h p hm
    simp only [bne, hp, Bool.not_true, Bool.false_or] at this
    exact this

theorem attrsShape_snoc_n2 {a : Attrs} (h : attrsShape a = true) (n : String) (v : AttrVal)
    (hv : n = "expert_level" → expertShape v = true) : attrsShape (a ++ [(n, v)]) = true := by
  unfold attrsShape at h ⊢
  rw [List.all_append, h]
  simp only [List.all_cons, List.all_nil, Bool.and_true, Bool.true_and, Bool.or_eq_true, bne_iff_ne, ne_eq]
  by_cases hn : n = "expert_level"
  · exact .inr (hv hn)
  · exact .inl hn

theorem strFromWords_shape_n2 (ws : List Word) :
    strFromWords ws = .none ∨ strFromWords ws = .auto ∨ ∃ s, strFromWords ws = .str s := by
  unfold strFromWords
  split
  · exact .inl rfl
  · split
    · exact .inr (.inl rfl)
    · exact .inr (.inr ⟨_, rfl⟩)

theorem intFromWordsLit_shape_n2 (ws : List Word) (v : AttrVal) (h : intFromWordsLit ws = .ok v) :
    expertShape v = true := by
  unfold intFromWordsLit at h
  rcases strFromWords_shape_n2 ws with h1 | h1 | ⟨s, h1⟩
  · rw [h1] at h; cases h; rfl
  · rw [h1] at h; cases h; rfl
  · rw [h1] at h
    simp only at h
    split at h
    · cases h
    · split at h
      · cases h; rfl
      · split at h
        · cases h; rfl
        · split at h
          · cases h; rfl
          · cases h

theorem scopeAttrsLoop_shape_n2 {fuel : Nat} {ci : CI} {w : Word} {attrs attrs' : Attrs} {b : Word} {ci' : CI}
    (h : scopeAttrsLoop fuel ci w attrs = .ok (attrs', b, ci')) (ha : attrsShape attrs = true) :
    attrsShape attrs' = true := by
  fun_induction scopeAttrsLoop fuel ci w attrs
  -- a round that fails contradicts `h`; what is left is `{` and the round that reads an attribute
  any_goals contradiction
  · cases h; exact ha
  · rename_i hat _ _ _ ih
    refine ih h ?_
    split at hat
    · cases hat; exact ha
    · obtain ⟨v, hv, rfl⟩ := Except.map_eq_ok.mp hat
      -- at "expert_level" `scopeAttrValue` (and `defAttrValue`) is `intFromWordsLit` by definition
      exact attrsShape_snoc_n2 ha _ v fun hn => intFromWordsLit_shape_n2 _ v (hn ▸ hv)

theorem parseObjs_pshape_n2 (text : Str) (objs : List Obj) (h : parseObjs text = .ok objs) :
    PShapes objs = true := by
  obtain ⟨_, hc⟩ := C12.parseObjs_collects h
  rw [pshapes_eq_all_n2, List.all_eq_true]
  refine hc.metas_pid (Q := fun m => metaShape m = true) ?_ ?_ ?_ ?_ ?_ (fun _ e => nomatch e) (fun _ e => nomatch e)
  · intro nm dis ln attrs n k ci ci3 w brace _ h3
    simp only [metaShape, scopeAttrsLoop_shape_n2 h3 rfl, Bool.and_true, decide_eq_true_eq]
  · intros; simp [metaShape, attrsShape]
  · intro m an ws v hv hm
    simp only [metaShape, Bool.and_eq_true] at hm ⊢
    exact ⟨hm.1, attrsShape_snoc_n2 hm.2 _ v fun hn => intFromWordsLit_shape_n2 _ v (hn ▸ hv)⟩
  · intro m last hm _; simpa [metaShape] using hm
  · intros; simp [metaShape, attrsShape]


/-! ### which sites can fire -/

theorem attrFail_cases_n2 (plen : Nat) (width : Int) (name : String) (v : AttrVal) (e : Err)
    (h : attrFail plen width name v = some e) :
    (e = widthErr ∧ ∃ s, v = .str s ∧ needsQuote (plen + (3 + name.length + 3)) width s = true ∧
        width ≤ ((plen + (3 + name.length + 3) + 2 : Nat) : Int)) ∨ e = tabErr := by
  cases v with
  | str s =>
    simp only [attrFail] at h
    split at h
    · split at h
      · rename_i hq hw
        cases h
        exact .inl ⟨rfl, s, rfl, hq, hw⟩
      · split at h
        · cases h; exact .inr rfl
        · cases h
    · cases h
  | none => cases h
  | auto => cases h
  | bool b => cases h
  | int i => cases h
  | conv c => cases h

theorem attrsFailAux_mem_n2 (plen : Nat) (level width : Int) (attrs : Attrs) (e : Err) : ∀ (names : List String),
    attrsFailAux plen level width attrs names = some e →
    ∃ n ∈ names, attrFail plen width n (attrs.get n) = some e
  | [], h => by cases h
  | n :: ns, h => by
    rw [attrsFailAux] at h
    split at h
    · rename_i e' he
      cases h
      split at he
      · exact ⟨n, List.mem_cons_self, he⟩
      · cases he
    · obtain ⟨m, hm, hf⟩ := attrsFailAux_mem_n2 plen level width attrs e ns h
      exact ⟨m, List.mem_cons_of_mem _ hm, hf⟩

def expertOkVal : AttrVal → Bool
  | .none => true
  | .int _ => true
  | _ => false

theorem expertHidden_error_n2 (own : AttrVal) (k : Option Int) (e : Err) (h : expertHidden own k = .error e) :
    e = expertErr ∧ (∃ k', k = some k' ∧ 0 ≤ k') ∧ expertOkVal own = false := by
  cases own <;> cases k <;> simp only [expertHidden] at h <;> try cases h
  all_goals (split at h <;> cases h; rename_i hk; exact ⟨rfl, ⟨_, rfl, hk⟩, rfl⟩)

mutual
/-- the number of nested proper scope blocks (`name {`): unnamed scopes and dotted-name prefixes do not
    indent -/
def showDepth : Obj → Nat
  | .defn _ _ => 0
  | .scope m os => if m.name.isEmpty || firstMerges os then showDepths os else showDepths os + 1
def showDepths : List Obj → Nat
  | [] => 0
  | x :: xs => Nat.max (showDepth x) (showDepths xs)
end

/-- a failure of the printer and where it comes from: a carrier `m ∈ ms` whose expert level is neither
    unset nor an integer while the gate is on; or a string attribute `n` of a carrier printed at an
    indent `≤ bound` with `width ≤ bound + |n| + 8`; or a tab in a wrapped value (outside the model); the
    last two only when attributes are shown -/
def ShowWitness (o : ShowOpts) (ms : List Meta) (bound : Nat) (e : Err) : Prop :=
  (e = expertErr ∧ (∃ k, o.expert = some k ∧ 0 ≤ k) ∧
      ∃ m ∈ ms, expertOkVal (m.attrs.get "expert_level") = false) ∨
  (e = widthErr ∧ 0 < o.level ∧ ∃ m ∈ ms, ∃ n ∈ defAttrNames ++ scopeAttrNames, ∃ s,
      m.attrs.get n = .str s ∧ o.width ≤ ((bound + n.length + 8 : Nat) : Int)) ∨
  (e = tabErr ∧ 0 < o.level)

theorem ShowWitness.mono_n2 {o : ShowOpts} {ms ms' : List Meta} {b b' : Nat} {e : Err}
    (hm : ∀ m ∈ ms, m ∈ ms') (hb : b ≤ b') (h : ShowWitness o ms b e) : ShowWitness o ms' b' e := by
  rcases h with ⟨h1, h2, m, hmm, h3⟩ | ⟨h1, h2, m, hmm, n, hn, s, h3, h4⟩ | h1
  · exact .inl ⟨h1, h2, m, hm m hmm, h3⟩
  · exact .inr (.inl ⟨h1, h2, m, hm m hmm, n, hn, s, h3, by omega⟩)
  · exact .inr (.inr h1)

theorem showWitness_expert_n2 (o : ShowOpts) (m : Meta) (ms : List Meta) (b : Nat) (e : Err) (hm : m ∈ ms)
    (h : expertHidden (m.attrs.get "expert_level") o.expert = .error e) : ShowWitness o ms b e := by
  obtain ⟨h1, h2, h3⟩ := expertHidden_error_n2 _ _ _ h
  exact .inl ⟨h1, h2, m, hm, h3⟩

theorem showWitness_attrs_n2 (o : ShowOpts) (m : Meta) (ms : List Meta) (plen b : Nat) (names : List String)
    (e : Err) (hm : m ∈ ms) (hn : ∀ n ∈ names, n ∈ defAttrNames ++ scopeAttrNames) (hb : plen ≤ b)
    (h : attrsFail plen o.level o.width m.attrs names = some e) : ShowWitness o ms b e := by
  unfold attrsFail at h
  split at h
  · cases h
  · obtain ⟨n, hnn, hf⟩ := attrsFailAux_mem_n2 _ _ _ _ _ _ h
    rcases attrFail_cases_n2 _ _ _ _ _ hf with ⟨h1, s, h2, _, h3⟩ | h1
    · exact .inr (.inl ⟨h1, by omega, m, hm, n, hn n hnn, s, h2, by omega⟩)
    · exact .inr (.inr ⟨h1, by omega⟩)

mutual
/-- **every failure of the printer has a witness in the tree** (any tree, any options) -/
theorem showFail_witness_obj_n2 (o : ShowOpts) : ∀ (x : Obj) (plen : Nat) (e : Err),
    showFail o x plen = some e → ShowWitness o (metasOf x) (plen + 2 * showDepth x) e
  | .defn m ws, plen, e, h => by
    rw [showFail] at h
    split at h
    · cases h
    · split at h
      · cases h
      · split at h
        · cases h
          exact showWitness_expert_n2 o m _ _ _ (by simp [metasOf]) (by assumption)
        · cases h
        · exact showWitness_attrs_n2 o m _ plen _ _ e (by simp [metasOf])
            (fun n hn => List.mem_append_left _ hn) (by omega) h
  | .scope m objs, plen, e, h => by
    have hsub : ∀ m' ∈ metasOfs objs, m' ∈ metasOf (.scope m objs) := by
      intro m' hm'; simp [metasOf, hm']
    rw [showFail] at h
    split at h
    · cases h
    · split at h
      · cases h
        exact showWitness_expert_n2 o m _ _ _ (by simp [metasOf]) (by assumption)
      · cases h
      · split at h
        · rename_i hne
          exact (showFail_witness_objs_n2 o objs _ _ h).mono_n2 hsub (by simp [showDepth, hne])
        · split at h
          · rename_i hfm
            exact (showFail_witness_objs_n2 o objs _ _ h).mono_n2 hsub (by simp [showDepth, hfm])
          · rename_i hne hfm
            have hd : showDepth (.scope m objs) = showDepths objs + 1 := by
              rw [showDepth, if_neg]
              simp only [Bool.or_eq_true, not_or]
              exact ⟨hne, hfm⟩
            split at h
            · cases h
              exact showWitness_attrs_n2 o m _ plen _ _ _ (by simp [metasOf])
                (fun n hn => List.mem_append_right _ hn) (by omega) (by assumption)
            · exact (showFail_witness_objs_n2 o objs _ _ h).mono_n2 hsub (by rw [hd]; omega)
theorem showFail_witness_objs_n2 (o : ShowOpts) : ∀ (xs : List Obj) (plen : Nat) (e : Err),
    showFails o xs plen = some e → ShowWitness o (metasOfs xs) (plen + 2 * showDepths xs) e
  | [], plen, e, h => by rw [showFails] at h; cases h
  | a :: b, plen, e, h => by
    rw [showFails] at h
    have h1 : showDepth a ≤ showDepths (a :: b) := by rw [showDepths]; exact Nat.le_max_left _ _
    have h2 : showDepths b ≤ showDepths (a :: b) := by rw [showDepths]; exact Nat.le_max_right _ _
    split at h
    · cases h
      exact (showFail_witness_obj_n2 o a _ _ (by assumption)).mono_n2 (fun m hm => by simp [metasOfs, hm])
        (by omega)
    · exact (showFail_witness_objs_n2 o b _ _ h).mono_n2 (fun m hm => by simp [metasOfs, hm]) (by omega)
end

/-- attribute names are at most 17 characters long (`sequential_format`) -/
theorem attrName_length_n2 : ∀ n ∈ defAttrNames ++ scopeAttrNames, n.length ≤ 17 := by decide


/-! ## B. variable resolution -/

/-- the RuntimeError sites of `variable_substitution_proxy` / `resolve_variables` -/
def varsSites : List String :=
  ["dollar_identifier", "missing_paren", "improper_variable_name", "not_a_definition", "undefined_variable"]

/-- the outcomes of `resolve_variables` other than a value: RuntimeError at one of five named sites
    (with the line of the word), a referenced definition without id (outside the domain), or the loop
    bound -/
def VarsErr (e : Err) : Prop :=
  (∃ s ∈ varsSites, ∃ l, e = .runtime s l) ∨ e = .unsupported "referenced definition without id" ∨
    e = .outOfFuel

theorem resolveWords_errors_n2 (env : Env) (f : Nat) (chain : Chain) (id : Nat) (ws : List Word)
    (diff : Bool) (e : Err) (h : resolveWords env f chain id ws diff = .error e) : VarsErr e :=
  (resolveWords_error_cases env f chain id ws diff e h).imp_right (.imp_right And.left)

/-- `definition.resolve_variables()` at a position of a document: the same, plus the two "no such
    definition" answers of the model's addressing (outside the domain) -/
theorem resolveAt_errors_n2 (env : Env) (root : List Obj) (pos : List Nat) (diff : Bool) (e : Err)
    (h : resolveAt env root pos diff = .error e) :
    VarsErr e ∨ e = .unsupported "definition without id" ∨ e = .unsupported "no definition at path" := by
  unfold resolveAt at h
  split at h
  · split at h
    · exact .inl (resolveWords_errors_n2 env _ _ _ _ _ _ h)
    · cases h; exact .inr (.inl rfl)
  · cases h; exact .inr (.inr rfl)


/-! ## C. include expansion -/

abbrev fileErr : Err := .stray "FileNotFoundError" "open"

/-- the outcomes of `parse(file_name=…, process_includes=True)` other than a tree: RuntimeError (syntax
    errors of a file, include syntax, cycle, scope not found), outside the domain, the loop bound, or
    `open()` of a file that does not exist -/
def IncErr (e : Err) : Prop :=
  (∃ s l, e = .runtime s l) ∨ (∃ w, e = .unsupported w) ∨ e = .outOfFuel ∨ e = fileErr

theorem IncErr.of_benign_n2 {e : Err} (h : e.benign = true) : IncErr e := by
  rcases (Err.benign_iff e).1 h with h | h
  · exact .inl h
  · exact .inr (.inl h)

/-- Every error of include expansion is an `IncErr`.  An error of a list has a source
    (`processIncludes_error_source`): raised on the spot, the loop bound, a followed file, or an imported
    scope one unit of fuel below; an error of a file is classified by `expandFile_error`. -/
theorem include_errors_n2 (env : IncEnv) : ∀ (fuel : Nat),
    (∀ (path : Path) (stack : List Path) (e : Err), expandFile env fuel path stack = .error e → IncErr e) ∧
    (∀ (objs : List Obj) (refdir : Path) (stack : List Path) (e : Err),
      processIncludes env fuel refdir stack objs = .error e → IncErr e) := by
  refine include_fuel_induct ?_ ?_ ?_
  · intro path stack e h; rw [expandFile_zero] at h; cases h; exact .inr (.inr (.inl rfl))
  · intro f ih path stack e h
    rcases expandFile_error h with ⟨_, he⟩ | ⟨text, _, hp | ⟨objs, _, ⟨_, he⟩ | ⟨_, hx⟩⟩⟩
    · exact .inr (.inr (.inr he))
    · exact IncErr.of_benign_n2 (parseObjs_benign _ _ hp)
    · exact .inl ⟨_, _, he⟩
    · exact ih _ _ _ _ hx
  · intro fuel hE hS objs refdir stack e h
    rcases processIncludes_error_source env fuel refdir stack objs h with
      hl | ⟨_, he⟩ | ⟨n, _, hx⟩ | ⟨q, _, text, _, hp | ⟨src, f, _, hf, hx⟩⟩
    · exact hl.1.elim .inl (.inr ∘ .inl)
    · exact .inr (.inr (.inl he))
    · exact hE _ _ _ hx
    · exact IncErr.of_benign_n2 (parseObjs_benign _ _ hp)
    · exact hS f hf _ _ _ _ hx

end Phil
