/-
  The heap-level `formatH` (Phil/HeapFormat.lean) against the pure `formatObj` (Phil/Fetch.lean), in ONE walk, loop
  body by loop body (`fmtAppH`/`finnerH`/`fstepH` against `fmtAppP`/`finnerP`/`fstepP` of FormatLoop): whenever
  `formatH` returns, it has only appended cells, `formatObj` returns on the abstraction of the master object and the
  result cell denotes the pure result (`formatH_sim`); in a heap closed below `n0` the result moreover has the shape
  `ResShape n0` (Phil/Proofs/HeapFetchLemmas.lean; `formatH_spec`).
  Helper lemmas for Phil/Props/C17FormatHeap.lean and Phil/Props/C17FormatAbs.lean.
-/
import Phil.HeapFormat
import Phil.Proofs.HeapFetchAbs
import Phil.Proofs.FormatLoop
namespace Phil.Heap
open Phil

theorem formatDefn_shape {e : Envs} {m : Meta} {ws : List Word} {v : PVal} {o' : Obj}
    (h : formatDefn e m ws v = .ok o') : ∃ nws, o' = .defn { m with tmpl := 0 } nws := by
  unfold formatDefn at h
  dsimp only at h
  split at h
  · cases h
  · rename_i c _
    cases ha : asWords c e.fmt (m.attrs.get "optional") ws v with
    | error err => rw [ha] at h; cases h
    | ok nws =>
      rw [ha] at h
      simp only [Except.map, Except.ok.injEq] at h
      exact ⟨nws, h.symm⟩

/-! ### simulation -/

/-- what the callee one level down guarantees: it only allocates, its result denotes the pure result and, seen from
    `n0` old cells closed under `objects`, is made of new cells and template copies -/
def RecSimF (F : Obj → PVal → R Obj) (rec : Nat → PVal → Heap → R (Heap × Nat)) : Prop :=
  ∀ x v h h' r o, Abs h x o → rec x v h = .ok (h', r) →
    Grows h h' ∧ (∃ ro, F o v = .ok ro ∧ Abs h' r ro) ∧ ∀ n0, Old n0 h → x < n0 → ResShape n0 h' r

/-- invariant of the loops of `scope.format` over the children `mk` of a master scope, started in `hA`: the heap has
    grown, the ids written so far denote the pure output and, when `hA` is closed below `n0` and `mk` lies below `n0`,
    have the shape `ResShape n0` -/
def RelA (mk : List Nat) (hA : Heap) (acc : Heap × List Nat) (acc' : List Obj) : Prop :=
  Grows hA acc.1 ∧ AbsL acc.1 acc.2 acc' ∧
    ∀ n0, Old n0 hA → (∀ k ∈ mk, k < n0) → ∀ r ∈ acc.2, ResShape n0 acc.1 r

def RelI (mk : List Nat) (hA : Heap) (st : Heap × List Nat × List (Str × Bool)) (st' : List Obj × List (Str × Bool)) :
    Prop :=
  RelA mk hA (st.1, st.2.1) st'.1 ∧ st.2.2 = st'.2

section
variable {F : Obj → PVal → R Obj} {rec : Nat → PVal → Heap → R (Heap × Nat)} {hA : Heap} {mk : List Nat}
  {mid : Nat} {o : Obj} {h h1 : Heap} {out : List Nat} {pout : List Obj}

theorem RelA.push {r : Nat} {ro : Obj} (q : RelA mk hA (h, out) pout) (g : Grows h h1) (a : Abs h1 r ro)
    (s : ∀ n0, Old n0 hA → (∀ k ∈ mk, k < n0) → ResShape n0 h1 r) : RelA mk hA (h1, out ++ [r]) (pout ++ [ro]) :=
  ⟨q.1.trans g, Rel2.append (q.2.1.grows g) ⟨a, trivial⟩, fun n0 ho hk x hx =>
    (List.mem_append.mp hx).elim (fun hx => Shape.grows (d := false) (q.2.2 n0 ho hk x hx) g)
      (fun hx => List.mem_singleton.mp hx ▸ s n0 ho hk)⟩

/-- `result.append(object.format(w))` -/
theorem RelA.call (hsim : RecSimF F rec) (hmo : Abs hA mid o) (hmid : mid ∈ mk) (q : RelA mk hA (h, out) pout)
    {w : PVal} {r : Nat} (hr : rec mid w h = .ok (h1, r)) :
    ∃ ro, F o w = .ok ro ∧ RelA mk hA (h1, out ++ [r]) (pout ++ [ro]) := by
  obtain ⟨g1, ⟨ro, hro, habs⟩, hs⟩ := hsim _ _ _ _ _ _ (hmo.grows q.1) hr
  exact ⟨ro, hro, q.push g1 habs (fun n0 ho hk => hs n0 (ho.grows q.1) (hk mid hmid))⟩

/-- `obj = object.copy(); obj.is_template = t; result.append(obj)` -/
theorem RelA.tmpl (hmo : Abs hA mid o) (hmid : mid ∈ mk) (q : RelA mk hA (h, out) pout) {t : Int} {c : Nat}
    (ht : t = 1 ∨ t = -1) (hft : fetchTemplate h mid t = some (h1, c)) :
    RelA mk hA (h1, out ++ [c]) (pout ++ [withTmpl o t]) := by
  obtain ⟨g1, habs⟩ := fetchTemplate_abs (hmo.grows q.1) hft
  exact q.push g1 habs (fun n0 ho hk => fetchTemplate_shape (fun _ => ht) (hk mid hmid) (ho.grows q.1).1 hft)

theorem fmtAppH_sim (hsim : RecSimF F rec) (hmo : Abs hA mid o) (hmid : mid ∈ mk) (acc acc2 : Heap × List Nat)
    (acc' : List Obj) (x : PVal) (hq : RelA mk hA acc acc') (hf : fmtAppH rec mid acc x = .ok acc2) :
    ∃ acc2', fmtAppP F o acc' x = .ok acc2' ∧ RelA mk hA acc2 acc2' := by
  unfold fmtAppH at hf
  split at hf
  · cases hf
  · rename_i h1 r hr
    cases hf
    obtain ⟨ro, hro, q⟩ := hq.call hsim hmo hmid hr
    exact ⟨acc' ++ [ro], by simp only [fmtAppP, hro, Except.map], q⟩

theorem finnerH_sim (hsim : RecSimF F rec) (hmo : Abs hA mid o) (hmid : mid ∈ mk) (mult : Bool)
    (st st2 : Heap × List Nat × List (Str × Bool)) (st' : List Obj × List (Str × Bool)) (pi : PVal)
    (hq : RelI mk hA st st') (hf : finnerH rec o mid mult st pi = .ok st2) :
    ∃ st2', finnerP F o mult st' pi = .ok st2' ∧ RelI mk hA st2 st2' := by
  obtain ⟨h, out, done⟩ := st
  obtain ⟨pout, pdone⟩ := st'
  obtain ⟨hq, hd⟩ := hq
  simp only at hq hd
  subst hd
  unfold finnerH at hf
  unfold finnerP
  dsimp only at hf ⊢
  -- the pure body in the heap model's words
  rw [show elemsOfM = fmtElems from rfl, show needTmplP = fmtNeedTmpl from rfl]
  -- which branch is taken depends on the python object and on `done` only, the same on both sides; a branch
  -- appends nothing, the result of one recursive call (`RelA.call`), one template copy (`RelA.tmpl`), or, for a
  -- non-empty `.multiple` value, the template copy `done` asks for and then one recursive call per element
  -- (`foldSim` over `fmtAppH_sim`)
  split at hf
  · rename_i fs
    dsimp only
    cases hfg : fieldGet fs o.name with
    | none =>
      simp only [hfg, Except.ok.injEq] at hf ⊢
      subst hf
      exact ⟨_, rfl, hq, rfl⟩
    | some sub =>
      simp only [hfg] at hf ⊢
      cases mult with
      | false =>
        simp only [Bool.not_false, ↓reduceIte] at hf ⊢
        split at hf
        · cases hf
        · rename_i h1 r hr
          cases hf
          obtain ⟨ro, hro, q⟩ := hq.call hsim hmo hmid hr
          exact ⟨(pout ++ [ro], done), by simp only [hro, Except.map], q, rfl⟩
      | true =>
        simp only [Bool.not_true, Bool.false_eq_true, ↓reduceIte] at hf ⊢
        cases hel : fmtElems sub with
        | error err => simp only [hel] at hf; cases hf
        | ok l =>
          cases l with
          | nil =>
            simp only [hel] at hf ⊢
            split at hf
            · cases hf
            · rename_i h1 c hft
              cases hf
              exact ⟨_, rfl, hq.tmpl hmo hmid (.inl rfl) hft, rfl⟩
          | cons x xs =>
            simp only [hel] at hf ⊢
            -- the template copy before the first instance
            have hpre : ∀ acc, (if fmtNeedTmpl done o.name = true then
                  (match fetchTemplate h mid (-1) with
                   | none => (Except.error Err.outOfFuel : R (Heap × List Nat))
                   | some (h1, c) => .ok (h1, out ++ [c]))
                else .ok (h, out)) = .ok acc →
                RelA mk hA acc (if fmtNeedTmpl done o.name = true then pout ++ [withTmpl o (-1)] else pout) := by
              intro acc hp
              by_cases hn : fmtNeedTmpl done o.name = true
              · simp only [hn, ↓reduceIte] at hp ⊢
                split at hp
                · cases hp
                · rename_i h1 c hft
                  cases hp
                  exact hq.tmpl hmo hmid (.inr rfl) hft
              · simp only [hn, Bool.false_eq_true, ↓reduceIte, Except.ok.injEq] at hp ⊢
                subst hp
                exact hq
            split at hf
            · cases hf
            · rename_i acc hacc
              have hqa := hpre acc hacc
              split at hf
              · cases hf
              · rename_i h3 out3 hfold
                cases hf
                obtain ⟨t', ht, q3⟩ := foldSim (fmtAppH rec mid) (fmtAppP F o) (RelA mk hA) (fun a b => a = b)
                  (fun acc acc' a b acc2 hq hab hs => by
                    subst hab
                    exact fmtAppH_sim hsim hmo hmid acc acc2 acc' a hq hs)
                  (x :: xs) (x :: xs) _ _ _ (Rel2.diag (fun _ _ => rfl)) hqa hfold
                refine ⟨(t', _), ?_, q3, rfl⟩
                simp only [ht, Except.map]
  · cases hf

theorem fstepH_sim (hsim : RecSimF F rec) (mobjs : List Obj) (v : PVal) (hmk : AbsL hA mk mobjs)
    (st st2 : Heap × List Nat × List (Str × Bool)) (st' : List Obj × List (Str × Bool)) (io : Nat × Obj)
    (hq : RelI mk hA st st') (hio : mobjs[io.1]? = some io.2) (hf : fstepH rec mk v st io = .ok st2) :
    ∃ st2', fstepP F v st' io = .ok st2' ∧ RelI mk hA st2 st2' := by
  obtain ⟨h, out, done⟩ := st
  obtain ⟨pout, pdone⟩ := st'
  obtain ⟨idx, o⟩ := io
  obtain ⟨hq, hd⟩ := hq
  simp only at hq hd hio
  subst hd
  unfold fstepH at hf
  unfold fstepP
  dsimp only at hf ⊢
  cases hmidEq : mk[idx]? with
  | none => simp only [hmidEq] at hf; cases hf
  | some mid =>
    simp only [hmidEq] at hf
    have hmo : Abs hA mid o := Rel2.get hmk hmidEq hio
    have hmid : mid ∈ mk := List.mem_of_getElem? hmidEq
    by_cases hskip : (isMultiple o && o.isScope && done.any (·.1 == o.name)) = true
    · simp only [hskip, ↓reduceIte, Except.ok.injEq] at hf ⊢
      subst hf
      exact ⟨_, rfl, hq, rfl⟩
    · simp only [hskip, Bool.false_eq_true, ↓reduceIte] at hf ⊢
      generalize (if (isMultiple o && o.isScope) = true then done ++ [(o.name, false)] else done) = done1 at hf ⊢
      -- the python object `v` decides the shape of the step: `None` / `Auto` is one recursive call (`hrecv`), a
      -- scope_extract, a scope_extract_list or a list is the inner loop over its elements (`hloop`: `foldSim` over `finnerH_sim`),
      -- anything else is refused by `fmtPobjs` on both sides
      have hrecv : ∀ w, (match rec mid w h with
            | .error err => (Except.error err : R (Heap × List Nat × List (Str × Bool)))
            | .ok (h1, r) => .ok (h1, out ++ [r], done1)) = .ok st2 →
          ∃ st2', Except.map (fun r => (pout ++ [r], done1)) (F o w) = .ok st2' ∧ RelI mk hA st2 st2' := by
        intro w hw
        split at hw
        · cases hw
        · rename_i h1 r hr
          cases hw
          obtain ⟨ro, hro, q⟩ := hq.call hsim hmo hmid hr
          exact ⟨(pout ++ [ro], done1), by simp only [hro, Except.map], q, rfl⟩
      have hloop : ∀ pobjs, foldH (finnerH rec o mid (isMultiple o)) (h, out, done1) pobjs = .ok st2 →
          ∃ st2', pobjs.foldlM (finnerP F o (isMultiple o)) (pout, done1) = .ok st2' ∧ RelI mk hA st2 st2' := by
        intro pobjs hfold
        exact foldSim (finnerH rec o mid (isMultiple o)) (finnerP F o (isMultiple o)) (RelI mk hA) (fun a b => a = b)
          (fun st st' a b st2 hq hab hs => by
            subst hab
            exact finnerH_sim hsim hmo hmid (isMultiple o) st st2 st' a hq hs)
          pobjs pobjs _ _ _ (Rel2.diag (fun _ _ => rfl)) ⟨hq, rfl⟩ hfold
      cases v with
      | none => exact hrecv _ hf
      | auto => exact hrecv _ hf
      | record fs => exact hloop _ hf
      | multi opt l => exact hloop _ hf
      | list l => exact hloop _ hf
      | bool b => simp only [fmtPobjs] at hf; cases hf
      | num n => simp only [fmtPobjs] at hf; cases hf
      | str s => simp only [fmtPobjs] at hf; cases hf
      | words ws => simp only [fmtPobjs] at hf; cases hf

end

theorem formatH_sim (e : Envs) : ∀ (fuel : Nat), RecSimF (formatObj e fuel) (formatH e fuel)
  | 0 => by
    intro x v h h' r o _ hf
    simp only [formatH] at hf
    cases hf
  | fuel + 1 => by
    intro x v h h' r o ha hf
    have ih := formatH_sim e fuel
    simp only [formatH] at hf
    -- by the kind of cell of the master object.  A definition: `formatDefn` decides the words on both sides, the
    -- result is ONE new definition cell.  A scope: its children denote `os`, so both sides loop over the same
    -- active list; `foldSim` over `fstepH_sim` (callee: `ih`) relates the outputs, and the result cell
    -- `customized_copy(objects = out)` denotes the pure scope and is result-shaped because its children are
    rcases Abs_cell ha with ⟨m, ws, p, hx, rfl⟩ | ⟨m, ks, p, os, hx, rfl, hk⟩
    · simp only [hx] at hf
      cases hd : formatDefn e m ws v with
      | error err => simp only [hd] at hf; cases hf
      | ok o' =>
        simp only [hd] at hf
        obtain ⟨nws, rfl⟩ := formatDefn_shape hd
        split at hf
        · cases hf
        · rename_i h1 c hcc
          cases hf
          obtain ⟨n, hn, rfl, rfl⟩ := customizedCopy_eq hcc
          rw [hx] at hn
          cases hn
          refine ⟨Grows.alloc _ _, ⟨.defn { m with tmpl := 0 } nws, ?_, ?_⟩,
            fun n0 ho _ => .defn ho.1 (p := p) List.getElem?_concat_length⟩
          · simp only [formatObj]
            exact hd
          · exact Abs_defn_intro (p := p) List.getElem?_concat_length
    · simp only [hx] at hf
      cases hmo : mapOpt (abs h) ks with
      | none => simp only [hmo] at hf; cases hf
      | some mobjs =>
        simp only [hmo] at hf
        have hEq : mobjs = os := AbsL_unique (AbsL_of_mapOpt hmo) hk
        subst hEq
        cases hact : masterActiveObjects mobjs with
        | error err => simp only [hact] at hf; cases hf
        | ok actives =>
          simp only [hact] at hf
          split at hf
          · cases hf
          · rename_i h2 out done hfold
            obtain ⟨st2', hp, ⟨g2, hout, hsh⟩, _⟩ := foldSim (fstepH (formatH e fuel) ks v)
              (fstepP (formatObj e fuel) v) (RelI ks h)
              (fun (a b : Nat × Obj) => a = b ∧ mobjs[a.1]? = some a.2)
              (fun st st' a b st2 hq hab hs => by
                obtain ⟨rfl, hio⟩ := hab
                exact fstepH_sim ih mobjs v hk st st2 st' a hq hio hs)
              actives actives _ (([] : List Obj), ([] : List (Str × Bool))) _
              (Rel2.diag (fun a ha => ⟨rfl, ((masterActive_sound _ _ hact).1 a.1 a.2 ha).1⟩))
              (show RelI ks h (h, [], []) ([], []) from
                ⟨⟨Grows.refl _, trivial, fun _ _ _ r hr => nomatch hr⟩, rfl⟩) hfold
            obtain ⟨pout, pdone⟩ := st2'
            simp only at g2 hout hsh
            split at hf
            · cases hf
            · rename_i h3 r' hres
              unfold fetchResult at hres
              obtain ⟨n', hn', rfl, rfl⟩ := customizedCopy_eq hres
              cases hf
              rw [g2.get hx] at hn'
              cases hn'
              refine ⟨g2.trans (Grows.alloc _ _), ⟨.scope { m with tmpl := 0 } pout, ?_, ?_⟩, fun n0 ho hxn =>
                Shape.ccScope (d := false) (Nat.le_trans ho.1 g2.length_le)
                  (hsh n0 ho (fun k hk => ho.2 x _ hxn hx k hk))⟩
              · rw [formatObj_scope_xt]
                simp only [hact, hp]
              · exact Abs_scope_intro (p := p) List.getElem?_concat_length (hout.grows (Grows.alloc _ _))

theorem formatH_master_abs {e : Envs} {fuel x : Nat} {v : PVal} {h h' : Heap} {r : Nat}
    (hf : formatH e fuel x v h = .ok (h', r)) : ∃ o, Abs h x o := by
  cases fuel with
  | zero => simp only [formatH] at hf; cases hf
  | succ fuel =>
    simp only [formatH] at hf
    split at hf
    · cases hf
    · rename_i m ws p hx
      exact ⟨_, Abs_defn_intro hx⟩
    · rename_i m mk p hx
      split at hf
      · cases hf
      · rename_i mobjs hm
        exact ⟨_, Abs_scope_intro hx (AbsL_of_mapOpt hm)⟩

theorem formatH_spec (e : Envs) (n0 fuel x : Nat) (v : PVal) (h h' : Heap) (r : Nat) (ho : Old n0 h) (hx : x < n0)
    (hf : formatH e fuel x v h = .ok (h', r)) : Grows h h' ∧ ResShape n0 h' r := by
  obtain ⟨o, ha⟩ := formatH_master_abs hf
  obtain ⟨g, _, hs⟩ := formatH_sim e fuel x v h h' r o ha hf
  exact ⟨g, hs n0 ho hx⟩

end Phil.Heap
