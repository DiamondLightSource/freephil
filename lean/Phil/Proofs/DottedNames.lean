/-
  Phil.Proofs.DottedNames — dotted names: `str.split('.')` against `'.'.join`, the chain of scopes
  `scope.adopt` builds for a dotted name, and what the parser needs to know about a printed dotted name.
-/
import Phil.Proofs.PrintParse
namespace Phil

/-! ### split / join -/

theorem splitOn_joinWith (comps : List Str) (hne : comps ≠ []) (h : ∀ n ∈ comps, '.' ∉ n) :
    splitOn '.' (joinWith ['.'] comps) = comps := by
  induction comps with
  | nil => exact absurd rfl hne
  | cons x rest ih =>
    cases rest with
    | nil => exact splitOn_of_not_mem '.' x (h x (by simp))
    | cons y rest =>
      have hx : '.' ∉ x := h x (by simp)
      have ih' := ih (by simp) (fun n hn => h n (by simp [hn]))
      show splitOn '.' (x ++ ['.'] ++ joinWith ['.'] (y :: rest)) = _
      rw [List.append_assoc, List.singleton_append, splitOn_append_sep '.' x _ hx, ih']

/-! ### scope.adopt for dotted names -/

/-- the chain of scopes `scope.adopt` builds around an object for the leading name components:
    `merge_names` is False for the outermost scope only; every scope carries the id of the object -/
def nestIn (id : Option Nat) : Bool → List Str → Obj → Obj
  | _, [], x => x
  | b, n :: ns, x => .scope { name := n, id := id, mergeNames := b } [nestIn id true ns x]

theorem nestIn_snoc (id : Option Nat) (b : Bool) (ms : List Str) (n : Str) (x : Obj) :
    nestIn id b (ms ++ [n]) x
      = nestIn id b ms (.scope { name := n, id := id, mergeNames := b || !ms.isEmpty } [x]) := by
  induction ms generalizing b with
  | nil => simp [nestIn]
  | cons m ms ih => simp [nestIn, ih]

theorem wrapDotted_build (o : Obj) (initRev : List Str) (acc : Obj) :
    wrapDotted.build o initRev acc = nestIn o.meta.id false initRev.reverse acc := by
  induction initRev generalizing acc with
  | nil => simp [wrapDotted.build, nestIn]
  | cons n more ih =>
    rw [wrapDotted.build, ih, List.reverse_cons, nestIn_snoc]
    simp

theorem withMeta_self (o : Obj) (nm : Str) (hname : o.name = nm) (hmg : o.meta.mergeNames = false) :
    o.withMeta (fun m => { m with name := nm, mergeNames := false }) = o := by
  cases o with
  | defn m w =>
    simp only [Obj.name, Obj.meta] at hname hmg
    simp only [Obj.withMeta, ← hname, ← hmg]
  | scope m os =>
    simp only [Obj.name, Obj.meta] at hname hmg
    simp only [Obj.withMeta, ← hname, ← hmg]

theorem wrapDotted_dotted (o : Obj) (ms : List Str) (nm : Str)
    (hname : o.name = joinWith ['.'] (ms ++ [nm])) (h : ∀ n ∈ ms ++ [nm], '.' ∉ n)
    (hmg : o.meta.mergeNames = false) :
    wrapDotted o = nestIn o.meta.id false ms
      (o.withMeta (fun m => { m with name := nm, mergeNames := !ms.isEmpty })) := by
  have hs : splitOn '.' o.name = ms ++ [nm] := by
    rw [hname]; exact splitOn_joinWith _ (by simp) h
  cases hms : ms.reverse with
  | nil =>
    have : ms = [] := by simpa using hms
    subst this
    have hn : o.name = nm := by simpa [joinWith] using hname
    unfold wrapDotted
    simp only [hs, List.nil_append, List.reverse_cons, List.reverse_nil, nestIn, List.isEmpty_nil,
      Bool.not_true]
    exact (withMeta_self o nm hn hmg).symm
  | cons a as =>
    have hne : ms.isEmpty = false := by
      cases ms with
      | nil => simp at hms
      | cons _ _ => rfl
    unfold wrapDotted
    simp only [hs, List.reverse_append, List.reverse_cons, List.reverse_nil, List.nil_append,
      List.singleton_append, hms]
    rw [wrapDotted_build, ← hms, List.reverse_reverse, hne]
    rfl

/-! ### the printed name of an item -/

/-- what the parser needs to know about the (possibly dotted) name of a printed item -/
structure ItemName (nm : Str) : Prop where
  defName : plainDefName nm = true
  stdIdent : isStdIdent nm = true
  notReserved : reservedName false nm = false
  chars : ∃ c w, nm = c :: w ∧ isIdStart c = true ∧ ∀ d ∈ c :: w, isIdCont d = true

theorem goodName_not_reserved {nm : Str} (h : goodName nm = true) : isReserved nm = false := by
  obtain ⟨_, _, _, _, _, hp, _⟩ := goodName_cases h
  simp only [plainDefName, Bool.and_eq_true, Bool.not_eq_true', reservedName, reservedFull,
    Bool.or_eq_false_iff] at hp
  exact hp.2.1.1

theorem goodName_simpleIdent {nm : Str} (h : goodName nm = true) : isSimpleIdent nm = true := by
  obtain ⟨c, w, e, hs, hall, _, hdot⟩ := goodName_cases h
  subst e
  simp only [isSimpleIdent, Bool.and_eq_true, List.all_eq_true, hs, true_and]
  intro d hd
  have hc := hall d (by simp [hd])
  have hne : d ≠ '.' := fun e => hdot (by subst e; simp [hd])
  simpa [isIdCont, hne] using hc

theorem joinWith_head_dn (c : Char) (w : Str) (rest : List Str) :
    ∃ w', joinWith ['.'] ((c :: w) :: rest) = c :: w' := by
  cases rest with
  | nil => exact ⟨w, rfl⟩
  | cons y rest => exact ⟨w ++ ['.'] ++ joinWith ['.'] (y :: rest), rfl⟩

theorem itemName_joined (comps : List Str) (hne : comps ≠ []) (hg : ∀ n ∈ comps, goodName n = true)
    (hres : isReserved (joinWith ['.'] comps) = false) : ItemName (joinWith ['.'] comps) := by
  have hdot : ∀ n ∈ comps, '.' ∉ n := fun n hn => by
    obtain ⟨_, _, _, _, _, _, hd⟩ := goodName_cases (hg n hn); exact hd
  have hsplit := splitOn_joinWith comps hne hdot
  have hninc : "include".toList ∉ comps := fun hm => goodName_not_include (hg _ hm) rfl
  have hchars : ∃ c w, joinWith ['.'] comps = c :: w ∧ isIdStart c = true ∧
      ∀ d ∈ c :: w, isIdCont d = true := by
    cases comps with
    | nil => exact absurd rfl hne
    | cons x rest =>
      obtain ⟨c, w, e, hs, _, _, _⟩ := goodName_cases (hg x (by simp))
      subst e
      obtain ⟨w', hw'⟩ := joinWith_head_dn c w rest
      refine ⟨c, w', hw', hs, ?_⟩
      intro d hd
      rw [← hw'] at hd
      rcases (mem_joinWith _ _ d hd).imp_left List.mem_singleton.mp with rfl | ⟨n, hn, hdn⟩
      · rfl
      · obtain ⟨c2, w2, e2, _, hall, _, _⟩ := goodName_cases (hg n hn)
        subst e2
        exact hall d hdn
  obtain ⟨c, w, enm, hs, hall⟩ := hchars
  have hstd : isStdIdent (joinWith ['.'] comps) = true := by
    have hparts : (splitOn '.' (c :: w)).all isSimpleIdent = true := by
      rw [← enm, hsplit, List.all_eq_true]
      exact fun n hn => goodName_simpleIdent (hg n hn)
    rw [enm]
    simp only [isStdIdent, Bool.and_eq_true, hs, true_and, Bool.or_eq_true]
    exact ⟨List.all_eq_true.mpr (fun d hd => hall d (by simp [hd])), Or.inr hparts⟩
  have hcomp : reservedComponent (joinWith ['.'] comps) = false := by
    simp only [reservedComponent, hsplit, List.any_eq_false]
    intro n hn
    simp [goodName_not_reserved (hg n (List.dropLast_subset _ hn))]
  have hcont : ¬ ['i', 'n', 'c', 'l', 'u', 'd', 'e'] ∈ splitOn '.' (joinWith ['.'] comps) := by
    rw [hsplit]; simpa using hninc
  have hrF : reservedName false (joinWith ['.'] comps) = false := by
    simp [reservedName, reservedFull, hres, hcont, hcomp]
  have hrT : reservedName true (joinWith ['.'] comps) = false := by
    simp [reservedName, reservedFull, hres, hcont, hcomp]
  have hc := idStart_cont hs
  obtain ⟨f1, f2, _, _, f5, _, _, _, f9⟩ := idCont_facts hc
  have fdot : c ≠ '.' := by
    intro e; subst e; exact absurd hs (by decide)
  have hinc : joinWith ['.'] comps ≠ "include".toList := by
    intro e
    have : splitOn '.' (joinWith ['.'] comps) = ["include".toList] := by rw [e]; rfl
    rw [hsplit] at this
    exact hninc (by simp [this])
  refine ⟨?_, hstd, hrF, c, w, enm, hs, hall⟩
  simp only [plainDefName, Bool.and_eq_true, bne_iff_ne, ne_eq, Bool.not_eq_true']
  refine ⟨⟨⟨⟨⟨⟨⟨?_, ?_⟩, ?_⟩, ?_⟩, ?_⟩, hstd⟩, hinc⟩, hrT⟩
  · rw [enm]; intro e; simp at e; exact f5 e.1
  · rw [enm]; intro e; simp at e; exact f2 e.1
  · rw [enm]; intro e; simp at e; exact f1 e.1
  · rw [enm]; simpa using f9
  · rw [enm]; simpa using fdot

theorem nextWordAux_bang_name_gen_l2 (b : Bool) (nm rest : Str) (l : Nat) (hit : ItemName nm)
    (hstop : stopsAt structSettings rest = true) :
    nextWordAux structSettings false (bangText_l2 b ++ (nm ++ rest)) l
      = .ok (some ({ value := bangText_l2 b ++ nm, quote := none, line := some l }, ⟨rest, l⟩)) := by
  obtain ⟨c, w, rfl, hs, hall⟩ := hit.chars
  have hcont := idStart_cont hs
  obtain ⟨_, _, _, _, h5, _⟩ := idCont_facts hcont
  exact nextWordAux_bang_word_l2 b c w rest l (idCont_not_ends hcont) (idCont_not_quote hcont)
    (by simp [structSettings, Gen.structComment, h5])
    (fun x hx => idCont_not_ends (hall x (by simp [hx]))) hstop

theorem bangText_eq (b : Bool) : bangText_l2 b = if b then ['!'] else [] := by cases b <;> rfl

#print axioms splitOn_joinWith
#print axioms nestIn_snoc
#print axioms wrapDotted_dotted
#print axioms goodName_not_reserved
#print axioms itemName_joined

end Phil
