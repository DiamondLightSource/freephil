/-
  Phil.Proofs.ScopeExtractTree — the `scope_extract` theorems of C18 (Phil/Props/C18.lean: path of a node,
  assignment guard, inject-once) lifted from ONE node to WHOLE extracted trees: the node paths below an extraction
  are the dotted paths of the enabled scopes of the tree (`scopePaths`, pre-order); the node reached through the
  names `p` (`nodeAt`) is the extraction of the scope reached through `p`, and conversely; the same for values
  with `.multi` lists of records, and for the result of a tree fetch, whose scopes are the master's whatever the
  sources.
-/
import Phil.Proofs.ExtractTree
import Phil.Props.C18
namespace Phil
open Phil.C18

/-! ## 0. the node reached from the root through the names `p` -/

theorem chainOf_snoc_st (p : List Str) (n : Str) :
    some n :: chainOf p.reverse = chainOf (p ++ [n]).reverse := by
  simp [chainOf]

theorem snoc_named_st (q : List Str) (n : Str) (hq : ∀ s ∈ q, s ≠ []) (hn : n ≠ []) :
    ∀ s ∈ q ++ [n], s ≠ [] := by
  intro s hs
  rcases List.mem_append.mp hs with hs | hs
  · exact hq s hs
  · simp only [List.mem_singleton] at hs; rw [hs]; exact hn

theorem philPath_node_st (p : List Str) (hp : ∀ s ∈ p, s ≠ []) :
    philPath (chainOf p.reverse) none = dotted p := by
  cases p with
  | nil => simp [chainOf, philPath, dotted]
  | cons a t =>
    have := phil_path_correct (a :: t).reverse (by intro n hn; exact hp n (List.mem_reverse.mp hn)) (by simp)
    simpa using this

/-- the path spelled by the AttributeError of the node at `p` for the attribute `name` -/
theorem errPath_node_st (p : List Str) (hp : ∀ s ∈ p, s ≠ []) (name : Str) :
    errPath (chainOf p.reverse) name = dotted (p ++ [name]) := by
  cases p with
  | nil => simp [errPath, chainOf, philPath, dotted]
  | cons a t =>
    have := setattr_error_path (a :: t).reverse (by intro n hn; exact hp n (List.mem_reverse.mp hn)) (by simp) name
    simpa using this

theorem philPath_param_st (p : List Str) (hp : ∀ s ∈ p, s ≠ []) (name : Str) :
    philPath (chainOf p.reverse) (some name) = dotted (p ++ [name]) := by
  cases p with
  | nil => simp [chainOf, philPath, dotted]
  | cons a t =>
    have := phil_path_of_parameter (a :: t).reverse (by intro n hn; exact hp n (List.mem_reverse.mp hn)) (by simp) name
    simpa using this

/-! ## 1. node paths of an extraction -/

mutual
def scopePathsObj_st : Obj → List Str → List Str
  | .defn _ _, _ => []
  | .scope m kids, p =>
    if !m.disabled && m.tmpl == 0 then dotted (p ++ [m.name]) :: scopePathsKids_st kids (p ++ [m.name])
    else []
/-- the dotted paths of the enabled, non-template scopes below the scope with path `p`, pre-order -/
def scopePathsKids_st : List Obj → List Str → List Str
  | [], _ => []
  | o :: os, p => scopePathsObj_st o p ++ scopePathsKids_st os p
end

/-- the dotted paths of the enabled scopes of a tree in pre-order: the scope itself (path `p`, given
    root first; `[]` for the root, whose dotted path is empty), then those of its children -/
def scopePaths (kids : List Obj) (p : List Str) : List Str := dotted p :: scopePathsKids_st kids p

mutual
/-- every scope of the tree has a non-empty name -/
def ScopeNamed_st : Obj → Prop
  | .defn _ _ => True
  | .scope m kids => m.name ≠ [] ∧ ScopeNamedKids_st kids
def ScopeNamedKids_st : List Obj → Prop
  | [] => True
  | o :: os => ScopeNamed_st o ∧ ScopeNamedKids_st os
end

theorem scopeNamedKids_iff_st : ∀ (l : List Obj), ScopeNamedKids_st l ↔ ∀ o ∈ l, ScopeNamed_st o
  | [] => by rw [ScopeNamedKids_st]; simp
  | o :: os => by rw [ScopeNamedKids_st, scopeNamedKids_iff_st os]; simp

mutual
def scopeNamedB_st : Obj → Bool
  | .defn _ _ => true
  | .scope m kids => !m.name.isEmpty && scopeNamedKidsB_st kids
def scopeNamedKidsB_st : List Obj → Bool
  | [] => true
  | o :: os => scopeNamedB_st o && scopeNamedKidsB_st os
end

mutual
theorem scopeNamedB_sound_st : ∀ (o : Obj), scopeNamedB_st o = true → ScopeNamed_st o
  | .defn _ _, _ => by rw [ScopeNamed_st]; trivial
  | .scope m kids, h => by
    rw [scopeNamedB_st, Bool.and_eq_true] at h
    rw [ScopeNamed_st]
    refine ⟨?_, scopeNamedKidsB_sound_st kids h.2⟩
    intro hn
    rw [hn] at h
    simp at h
theorem scopeNamedKidsB_sound_st : ∀ (l : List Obj), scopeNamedKidsB_st l = true → ScopeNamedKids_st l
  | [], _ => by rw [ScopeNamedKids_st]; trivial
  | o :: os, h => by
    rw [scopeNamedKidsB_st, Bool.and_eq_true] at h
    rw [ScopeNamedKids_st]
    exact ⟨scopeNamedB_sound_st o h.1, scopeNamedKidsB_sound_st os h.2⟩
end

/-- what one field contributes to `nodePaths` (the function mapped over the fields) -/
def kidPaths_st (fuel : Nat) (chain : List (Option Str)) (kv : Str × PVal) : List Str :=
  match kv.2 with
  | .record _ => nodePaths fuel (some kv.1 :: chain) kv.2
  | .multi _ l => l.flatMap (fun x => match x with
      | .record _ => nodePaths fuel (some kv.1 :: chain) x
      | _ => [])
  | _ => []

theorem nodePaths_record_st (fuel : Nat) (chain : List (Option Str)) (fs : List (Str × PVal)) :
    nodePaths (fuel + 1) chain (.record fs) = philPath chain none :: fs.flatMap (kidPaths_st fuel chain) := by
  rw [nodePaths]; rfl

/-- a definition never extracts to a `scope_extract` or a `scope_extract_list` -/
theorem extractDefn_atomic_st (e : Envs) (m : Meta) (ws : List Word) (v : PVal)
    (h : extractDefn e m ws = .ok v) : v.atomic = true := by
  obtain ⟨c, _, hfw⟩ := extractDefn_ok_conv_xt e m ws v h
  exact inDomain_atomic c v (fromWords_in_domain c _ _ ws v hfw)

theorem kidPaths_leaf_st (fuel : Nat) (chain : List (Option Str)) (n : Str) (v : PVal)
    (h : v.atomic = true) : kidPaths_st fuel chain (n, v) = [] := by
  cases v <;> first | rfl | cases h

theorem liveObjB_scope_st (m : Meta) (kids : List Obj) :
    liveObjB_xt (.scope m kids) = (!m.disabled && m.tmpl == 0) := rfl

theorem not_live_st (o : Obj) (h : (o.meta.disabled || decide (o.meta.tmpl > 0)) = true ∨ o.meta.tmpl < 0) :
    liveObjB_xt o = false := by
  unfold liveObjB_xt
  rcases h with h | h
  · simp only [Bool.or_eq_true, decide_eq_true_eq] at h
    rcases h with h | h
    · simp [h]
    · have : (o.meta.tmpl == 0) = false := by simp; omega
      simp [this]
  · have : (o.meta.tmpl == 0) = false := by simp; omega
    simp [this]

theorem scopePathsObj_dead_st (o : Obj) (p : List Str) (h : liveObjB_xt o = false) :
    scopePathsObj_st o p = [] := by
  cases o with
  | defn m ws => rw [scopePathsObj_st]
  | scope m kids =>
    rw [liveObjB_scope_st] at h
    rw [scopePathsObj_st, h]; rfl

mutual
theorem kidPaths_extractSpec_st (e : Envs) : ∀ (o : Obj) (v : PVal) (q : List Str) (fuel : Nat),
    ScopeNamed_st o → (∀ s ∈ q, s ≠ []) → liveObjB_xt o = true → extractSpec e o = .ok v →
    depthT o ≤ fuel → kidPaths_st fuel (chainOf q.reverse) (o.name, v) = scopePathsObj_st o q
  | .defn m ws, v, q, fuel, _, _, _, hv, _ => by
    rw [extractSpec] at hv
    rw [kidPaths_leaf_st fuel _ _ v (extractDefn_atomic_st e m ws v hv), scopePathsObj_st]
  | .scope m kids, v, q, fuel, hn, hq, hl, hv, hd => by
    obtain ⟨fs, rfl, hfs⟩ := extractSpec_scope_record_xt e m kids v hv
    rw [ScopeNamed_st] at hn
    rw [depthT] at hd
    rw [liveObjB_scope_st] at hl
    rw [scopePathsObj_st, hl]
    simp only [if_true]
    cases fuel with
    | zero => omega
    | succ f =>
      have hq' := snoc_named_st q m.name hq hn.1
      show nodePaths (f + 1) (some m.name :: chainOf q.reverse) (.record fs) = _
      rw [nodePaths_record_st, chainOf_snoc_st, philPath_node_st _ hq',
        kidsPaths_extractSpec_st e kids fs (q ++ [m.name]) f hn.2 hq' hfs (by omega)]
theorem kidsPaths_extractSpec_st (e : Envs) : ∀ (kids : List Obj) (fs : List (Str × PVal)) (q : List Str)
    (fuel : Nat), ScopeNamedKids_st kids → (∀ s ∈ q, s ≠ []) → extractSpecKids e kids = .ok fs →
    depthL kids ≤ fuel → fs.flatMap (kidPaths_st fuel (chainOf q.reverse)) = scopePathsKids_st kids q
  | [], fs, q, fuel, _, _, h, _ => by
    rw [extractSpecKids] at h
    cases h
    rw [scopePathsKids_st]; rfl
  | o :: os, fs, q, fuel, hn, hq, h, hd => by
    rw [ScopeNamedKids_st] at hn
    rw [depthL] at hd
    have hdo : depthT o ≤ fuel := Nat.le_trans (Nat.le_max_left _ _) hd
    have hds : depthL os ≤ fuel := Nat.le_trans (Nat.le_max_right _ _) hd
    rw [extractSpecKids] at h
    rw [scopePathsKids_st]
    split at h
    · rename_i ht
      rw [scopePathsObj_dead_st o q (not_live_st o (.inr ht)), List.nil_append]
      exact kidsPaths_extractSpec_st e os fs q fuel hn.2 hq h hds
    · split at h
      · rename_i hdis
        obtain ⟨rest, hr, rfl⟩ := Except.map_eq_ok.mp h
        rw [scopePathsObj_dead_st o q (not_live_st o (.inl hdis)), List.nil_append, List.flatMap_cons,
          kidsPaths_extractSpec_st e os rest q fuel hn.2 hq hr hds]
        rfl
      · have hlive := live_of_not_dead_xt (by assumption) (by assumption)
        split at h
        · cases h
        · rename_i v hv
          obtain ⟨rest, hr, rfl⟩ := Except.map_eq_ok.mp h
          rw [List.flatMap_cons, kidPaths_extractSpec_st e o v q fuel hn.1 hq hlive hv hdo,
            kidsPaths_extractSpec_st e os rest q fuel hn.2 hq hr hds]
end

/-! ## 2. navigation: the node at a path is the extraction of the scope at that path -/

/-- the fields of the `scope_extract` reached from `v` through the attribute names `p` -/
def nodeAt : PVal → List Str → Option (List (Str × PVal))
  | .record fs, [] => some fs
  | .record fs, s :: ps =>
    (match fieldGet fs s with
     | some sub => nodeAt sub ps
     | none => none)
  | _, _ => none

/-- the children of the scope reached through the names `p`, every scope on the way enabled and not a
    template -/
def scopeAt_st : List Obj → List Str → Option (List Obj)
  | kids, [] => some kids
  | kids, s :: ps =>
    match findNamedTree kids s with
    | some (.scope m k') => if liveObjB_xt (.scope m k') then scopeAt_st k' ps else none
    | _ => none

theorem nodeAt_some_record_st (v : PVal) (p : List Str) (fields : List (Str × PVal))
    (h : nodeAt v p = some fields) : ∃ fs, v = .record fs := by
  cases v with
  | record fs => exact ⟨fs, rfl⟩
  | _ => cases p <;> simp [nodeAt] at h

theorem fieldGet_some_mem_st (fs : List (Str × PVal)) (s : Str) (v : PVal) (h : fieldGet fs s = some v) :
    s ∈ fs.map (fun p => p.1) := by
  apply Classical.byContradiction
  intro hn
  rw [(fieldGet_none_iff_ns fs s).2 (fun p hp e => hn (List.mem_map.mpr ⟨p, hp, e⟩))] at h
  cases h

theorem fieldGet_extract_kid_st (e : Envs) (kids : List Obj) (fs : List (Str × PVal)) (s : Str) (sub : PVal)
    (hpw : (kids.map Obj.name).Pairwise (· ≠ ·)) (hfs : extractSpecKids e kids = .ok fs)
    (hg : fieldGet fs s = some sub) :
    ∃ o, o ∈ kids ∧ findNamedTree kids s = some o ∧ ¬ o.meta.tmpl < 0 ∧ kidValue e o = .ok sub := by
  have hmem := fieldGet_some_mem_st fs s sub hg
  rw [extractSpecKids_names_st e kids fs hfs] at hmem
  obtain ⟨o, ho, hname⟩ := List.mem_map.mp hmem
  unfold liveKids at ho
  rw [List.mem_filter] at ho
  have ht : ¬ o.meta.tmpl < 0 := by simpa using ho.2
  obtain ⟨v, hv, hg'⟩ := fieldGet_extractSpecKids_xt e kids fs hpw hfs o ho.1 ht
  rw [hname, hg] at hg'
  cases hg'
  refine ⟨o, ho.1, ?_, ht, hv⟩
  rw [← hname]
  exact findNamed_of_mem_distinct_xt kids o hpw ho.1

theorem kidValue_record_st (e : Envs) (o : Obj) (x : List (Str × PVal)) (ht : ¬ o.meta.tmpl < 0)
    (h : kidValue e o = .ok (.record x)) :
    ∃ m k', o = .scope m k' ∧ liveObjB_xt o = true ∧ extractSpecKids e k' = .ok x := by
  unfold kidValue at h
  by_cases hdis : (o.meta.disabled || decide (o.meta.tmpl > 0)) = true
  · simp only [hdis, if_true] at h; cases h
  · simp only [hdis, if_false, Bool.false_eq_true] at h
    have hlive := live_of_not_dead_xt ht hdis
    cases o with
    | defn m ws =>
      rw [extractSpec] at h
      cases extractDefn_atomic_st e m ws _ h
    | scope m k' =>
      obtain ⟨fs, hr, hfs⟩ := extractSpec_scope_record_xt e m k' _ h
      cases hr
      exact ⟨m, k', rfl, hlive, hfs⟩

/-- **every node of the extraction is the extraction of a scope of the tree**: the node reached
    through the attribute names `p` holds the fields extracted from the children `mk` of the scope
    reached through the same names -/
theorem nodeAt_extractSpec_st (e : Envs) : ∀ (p : List Str) (kids : List Obj) (fs fields : List (Str × PVal)),
    DKids_xt kids → (kids.map Obj.name).Pairwise (· ≠ ·) → extractSpecKids e kids = .ok fs →
    nodeAt (.record fs) p = some fields →
    ∃ mk, scopeAt_st kids p = some mk ∧ extractSpecKids e mk = .ok fields
  | [], kids, fs, fields, _, _, hfs, h => by
    rw [nodeAt] at h
    cases h
    exact ⟨kids, by rw [scopeAt_st], hfs⟩
  | s :: ps, kids, fs, fields, hk, hpw, hfs, h => by
    rw [nodeAt] at h
    cases hg : fieldGet fs s with
    | none => rw [hg] at h; cases h
    | some sub =>
      rw [hg] at h
      simp only at h
      obtain ⟨x, rfl⟩ := nodeAt_some_record_st sub ps fields h
      obtain ⟨o, hmem, hfind, ht, hkv⟩ := fieldGet_extract_kid_st e kids fs s _ hpw hfs hg
      obtain ⟨m, k', rfl, hlive, hx⟩ := kidValue_record_st e o x ht hkv
      have hdo := (dkids_iff_xt kids).1 hk _ hmem
      rw [DObj_xt] at hdo
      obtain ⟨mk, h1, h2⟩ := nodeAt_extractSpec_st e ps k' x fields hdo.2.1 hdo.2.2 hx h
      refine ⟨mk, ?_, h2⟩
      rw [scopeAt_st, hfind]
      simp only [hlive, if_true]
      exact h1

theorem scopeAt_cons_st {kids : List Obj} {s : Str} {ps : List Str} {mk : List Obj}
    (h : scopeAt_st kids (s :: ps) = some mk) :
    ∃ m k', findNamedTree kids s = some (.scope m k') ∧ liveObjB_xt (.scope m k') = true ∧
      scopeAt_st k' ps = some mk := by
  rw [scopeAt_st] at h
  cases hfn : findNamedTree kids s with
  | none => rw [hfn] at h; cases h
  | some o =>
    rw [hfn] at h
    cases o with
    | defn m ws => cases h
    | scope m k' =>
      simp only at h
      by_cases hlive : liveObjB_xt (.scope m k') = true
      · simp only [hlive, if_true] at h
        exact ⟨m, k', rfl, hlive, h⟩
      · simp only [hlive, if_false, Bool.false_eq_true] at h
        cases h

/-- conversely, every enabled scope of the tree has its node -/
theorem scopeAt_has_node_st (e : Envs) : ∀ (p : List Str) (kids mk : List Obj) (fs : List (Str × PVal)),
    DKids_xt kids → (kids.map Obj.name).Pairwise (· ≠ ·) → extractSpecKids e kids = .ok fs →
    scopeAt_st kids p = some mk →
    ∃ fields, nodeAt (.record fs) p = some fields ∧ extractSpecKids e mk = .ok fields
  | [], kids, mk, fs, _, _, hfs, h => by
    rw [scopeAt_st] at h
    cases h
    exact ⟨fs, by rw [nodeAt], hfs⟩
  | s :: ps, kids, mk, fs, hk, hpw, hfs, h => by
    obtain ⟨m, k', hfn, hlive, h⟩ := scopeAt_cons_st h
    obtain ⟨v, hv, hg⟩ := fieldGet_live_xt e kids fs hpw hfs hfn hlive
    obtain ⟨x, rfl, hx⟩ := extractSpec_scope_record_xt e m k' v hv
    have hdo := (dkids_iff_xt kids).1 hk _ (findNamed_mem hfn)
    rw [DObj_xt] at hdo
    obtain ⟨fields, h1, h2⟩ := scopeAt_has_node_st e ps k' mk x hdo.2.1 hdo.2.2 hx h
    refine ⟨fields, ?_, h2⟩
    rw [nodeAt, hg]
    exact h1

theorem scopeAt_names_st : ∀ (p : List Str) (kids mk : List Obj), ScopeNamedKids_st kids →
    scopeAt_st kids p = some mk → ∀ s ∈ p, s ≠ []
  | [], _, _, _, _ => by intro s hs; cases hs
  | s :: ps, kids, mk, hn, h => by
    obtain ⟨m, k', hfn, _, h⟩ := scopeAt_cons_st h
    have hname := findNamed_name hfn
    have hso := (scopeNamedKids_iff_st kids).1 hn _ (findNamed_mem hfn)
    rw [ScopeNamed_st] at hso
    intro t ht
    rcases List.mem_cons.mp ht with rfl | ht
    · rw [← hname]; exact hso.1
    · exact scopeAt_names_st ps k' mk hso.2 h t ht

theorem any_fst_iff_st (fields : List (Str × PVal)) (name : Str) :
    fields.any (fun p => p.1 == name) = true ↔ name ∈ fields.map (fun p => p.1) := by
  simp only [List.any_eq_true, beq_iff_eq, List.mem_map]

theorem setAttr_node_st (p : List Str) (hp : ∀ s ∈ p, s ≠ []) (fields : List (Str × PVal)) (name : Str)
    (x : PVal) :
    (name ∈ fields.map (fun q => q.1) →
      setAttr (chainOf p.reverse) fields name x = .ok (fieldSet fields name x)) ∧
    (name ∉ fields.map (fun q => q.1) → builtinAttrs.contains (String.ofList name) = false →
      setAttr (chainOf p.reverse) fields name x = .attributeError (dotted (p ++ [name]))) := by
  constructor
  · intro h
    exact setattr_declared _ fields name x ((any_fst_iff_st fields name).2 h)
  · intro h hb
    have : fields.any (fun q => q.1 == name) = false := by
      rw [← Bool.not_eq_true, any_fst_iff_st]
      exact h
    rw [setattr_guard _ fields name x this hb, errPath_node_st p hp]

theorem inject_node_st (p : List Str) (hp : ∀ s ∈ p, s ≠ []) (fields : List (Str × PVal)) (name : Str)
    (x x' : PVal) (h : name ∉ fields.map (fun q => q.1))
    (hb : builtinAttrs.contains (String.ofList name) = false) :
    ∃ fields', inject (chainOf p.reverse) fields name x = .ok fields' ∧
      fields' = fields ++ [(name, x)] ∧
      inject (chainOf p.reverse) fields' name x' = .attributeError (dotted (p ++ [name])) := by
  have hany : fields.any (fun q => q.1 == name) = false := by
    rw [← Bool.not_eq_true, any_fst_iff_st]
    exact h
  obtain ⟨fields', h1, h2⟩ := inject_once (chainOf p.reverse) fields name x x' hany hb
  refine ⟨fields', h1, ?_, ?_⟩
  · have hb' : String.ofList name ∉ builtinAttrs := by simpa using hb
    simp only [inject, hasAttr, hany, hb', List.contains_eq_mem, decide_false, Bool.or_self,
      Bool.false_eq_true, if_false, SetResult.ok.injEq] at h1
    rw [← h1]
    simp [fieldSet, hany]
  · rw [h2, errPath_node_st p hp]

/-! ## 3. extracted values with `scope_extract_list`s: records and `.multi` lists of records -/

mutual
/-- the paths reported below a node with path `p` (root first): a record field `n` is a node with path
    `p.n`; EVERY record element of a `.multi` field `n` is a node with that same path `p.n` -/
def fieldsPaths_st : List (Str × PVal) → List Str → List Str
  | [], _ => []
  | (n, x) :: rest, p =>
    (match x with
     | .record fs => dotted (p ++ [n]) :: fieldsPaths_st fs (p ++ [n])
     | .multi _ l => elemsPaths_st l (p ++ [n])
     | _ => []) ++ fieldsPaths_st rest p
/-- the elements of a `scope_extract_list` whose path is `q` -/
def elemsPaths_st : List PVal → List Str → List Str
  | [], _ => []
  | x :: xs, q =>
    (match x with
     | .record fs => dotted q :: fieldsPaths_st fs q
     | _ => []) ++ elemsPaths_st xs q
end

/-- the paths of all nodes of a value whose own path is `p` -/
def valPaths_st (v : PVal) (p : List Str) : List Str :=
  match v with
  | .record fs => dotted p :: fieldsPaths_st fs p
  | _ => []

mutual
def valDepth_st : PVal → Nat
  | .record fs => fieldsDepth_st fs + 1
  | .multi _ l => elemsDepth_st l
  | _ => 0
def fieldsDepth_st : List (Str × PVal) → Nat
  | [] => 0
  | (_, x) :: rest => Nat.max (valDepth_st x) (fieldsDepth_st rest)
def elemsDepth_st : List PVal → Nat
  | [] => 0
  | x :: xs => Nat.max (valDepth_st x) (elemsDepth_st xs)
end

mutual
/-- every attribute name at every depth is non-empty (Python attribute names are) -/
def NamedVal_st : PVal → Prop
  | .record fs => NamedFields_st fs
  | .multi _ l => NamedElems_st l
  | _ => True
def NamedFields_st : List (Str × PVal) → Prop
  | [] => True
  | (n, x) :: rest => n ≠ [] ∧ NamedVal_st x ∧ NamedFields_st rest
def NamedElems_st : List PVal → Prop
  | [] => True
  | x :: xs => NamedVal_st x ∧ NamedElems_st xs
end

mutual
def namedValB_st : PVal → Bool
  | .record fs => namedFieldsB_st fs
  | .multi _ l => namedElemsB_st l
  | _ => true
def namedFieldsB_st : List (Str × PVal) → Bool
  | [] => true
  | (n, x) :: rest => !n.isEmpty && namedValB_st x && namedFieldsB_st rest
def namedElemsB_st : List PVal → Bool
  | [] => true
  | x :: xs => namedValB_st x && namedElemsB_st xs
end

mutual
theorem namedValB_sound_st : ∀ (v : PVal), namedValB_st v = true → NamedVal_st v
  | .record fs, h => by rw [namedValB_st] at h; rw [NamedVal_st]; exact namedFieldsB_sound_st fs h
  | .multi _ l, h => by rw [namedValB_st] at h; rw [NamedVal_st]; exact namedElemsB_sound_st l h
  | .none, _ | .auto, _ | .bool _, _ | .num _, _ | .str _, _ | .list _, _ | .words _, _ => by simp [NamedVal_st]
theorem namedFieldsB_sound_st : ∀ (fs : List (Str × PVal)), namedFieldsB_st fs = true → NamedFields_st fs
  | [], _ => by rw [NamedFields_st]; trivial
  | (n, x) :: rest, h => by
    rw [namedFieldsB_st] at h
    simp only [Bool.and_eq_true] at h
    rw [NamedFields_st]
    refine ⟨?_, namedValB_sound_st x h.1.2, namedFieldsB_sound_st rest h.2⟩
    intro hn
    rw [hn] at h
    simp at h
theorem namedElemsB_sound_st : ∀ (l : List PVal), namedElemsB_st l = true → NamedElems_st l
  | [], _ => by rw [NamedElems_st]; trivial
  | x :: xs, h => by
    rw [namedElemsB_st, Bool.and_eq_true] at h
    rw [NamedElems_st]
    exact ⟨namedValB_sound_st x h.1, namedElemsB_sound_st xs h.2⟩
end

/-- the function `nodePaths` maps over the elements of a `.multi` field named `n` -/
def elemPaths_st (fuel : Nat) (chain : List (Option Str)) (n : Str) (x : PVal) : List Str :=
  match x with
  | .record _ => nodePaths fuel (some n :: chain) x
  | _ => []

theorem kidPaths_multi_st (fuel : Nat) (chain : List (Option Str)) (n : Str) (o : AttrVal) (l : List PVal) :
    kidPaths_st fuel chain (n, .multi o l) = l.flatMap (elemPaths_st fuel chain n) := rfl

theorem fieldsPaths_cons_st (n : Str) (x : PVal) (rest : List (Str × PVal)) (p : List Str) :
    fieldsPaths_st ((n, x) :: rest) p =
      (match x with
       | .record fs => dotted (p ++ [n]) :: fieldsPaths_st fs (p ++ [n])
       | .multi _ l => elemsPaths_st l (p ++ [n])
       | _ => []) ++ fieldsPaths_st rest p := by
  cases x <;> simp [fieldsPaths_st]

theorem elemsPaths_cons_st (x : PVal) (xs : List PVal) (q : List Str) :
    elemsPaths_st (x :: xs) q =
      (match x with
       | .record fs => dotted q :: fieldsPaths_st fs q
       | _ => []) ++ elemsPaths_st xs q := by
  cases x <;> simp [elemsPaths_st]

mutual
theorem valPaths_nodePaths_st : ∀ (x : PVal) (q : List Str) (n : Str) (fuel : Nat),
    NamedVal_st x → (∀ s ∈ q, s ≠ []) → n ≠ [] → valDepth_st x ≤ fuel →
    elemPaths_st fuel (chainOf q.reverse) n x = valPaths_st x (q ++ [n])
  | x, q, n, fuel, hnx, hq, hn, hdx => by
    cases x with
    | record fs' =>
      rw [valDepth_st] at hdx
      rw [NamedVal_st] at hnx
      have hq' := snoc_named_st q n hq hn
      cases fuel with
      | zero => omega
      | succ f =>
        show nodePaths (f + 1) (some n :: chainOf q.reverse) (.record fs') = _
        rw [nodePaths_record_st, chainOf_snoc_st, philPath_node_st _ hq',
          fieldsPaths_nodePaths_st fs' (q ++ [n]) f hnx hq' (by omega)]
        rfl
    | _ => rfl
theorem fieldsPaths_nodePaths_st : ∀ (fs : List (Str × PVal)) (q : List Str) (fuel : Nat),
    NamedFields_st fs → (∀ s ∈ q, s ≠ []) → fieldsDepth_st fs ≤ fuel →
    fs.flatMap (kidPaths_st fuel (chainOf q.reverse)) = fieldsPaths_st fs q
  | [], q, fuel, _, _, _ => by rw [fieldsPaths_st]; rfl
  | (n, x) :: rest, q, fuel, hn, hq, hd => by
    rw [NamedFields_st] at hn
    rw [fieldsDepth_st] at hd
    have hdx : valDepth_st x ≤ fuel := Nat.le_trans (Nat.le_max_left _ _) hd
    have hdr : fieldsDepth_st rest ≤ fuel := Nat.le_trans (Nat.le_max_right _ _) hd
    rw [List.flatMap_cons, fieldsPaths_cons_st, fieldsPaths_nodePaths_st rest q fuel hn.2.2 hq hdr]
    congr 1
    cases x with
    | record fs' => exact valPaths_nodePaths_st (.record fs') q n fuel hn.2.1 hq hn.1 hdx
    | multi o l =>
      rw [valDepth_st] at hdx
      have hnx := hn.2.1
      rw [NamedVal_st] at hnx
      rw [kidPaths_multi_st]
      exact elemsPaths_nodePaths_st l q n fuel hnx hq hn.1 hdx
    | _ => rfl
theorem elemsPaths_nodePaths_st : ∀ (l : List PVal) (q : List Str) (n : Str) (fuel : Nat),
    NamedElems_st l → (∀ s ∈ q, s ≠ []) → n ≠ [] → elemsDepth_st l ≤ fuel →
    l.flatMap (elemPaths_st fuel (chainOf q.reverse) n) = elemsPaths_st l (q ++ [n])
  | [], q, n, fuel, _, _, _, _ => by rw [elemsPaths_st]; rfl
  | x :: xs, q, n, fuel, hl, hq, hn, hd => by
    rw [NamedElems_st] at hl
    rw [elemsDepth_st] at hd
    have hdx : valDepth_st x ≤ fuel := Nat.le_trans (Nat.le_max_left _ _) hd
    have hdr : elemsDepth_st xs ≤ fuel := Nat.le_trans (Nat.le_max_right _ _) hd
    rw [List.flatMap_cons, elemsPaths_cons_st, elemsPaths_nodePaths_st xs q n fuel hl.2 hq hn hdr]
    congr 1
    exact valPaths_nodePaths_st x q n fuel hl.1 hq hn hdx
end

theorem elemsPaths_eq_flatMap_st : ∀ (l : List PVal) (q : List Str),
    elemsPaths_st l q = l.flatMap (fun x => valPaths_st x q)
  | [], q => by rw [elemsPaths_st]; rfl
  | x :: xs, q => by
    rw [elemsPaths_cons_st, List.flatMap_cons, elemsPaths_eq_flatMap_st xs q]
    congr 1

/-- a record none of whose fields is a node -/
def LeafRecord_st (x : PVal) : Prop := ∃ fs, x = .record fs ∧ fieldsPaths_st fs = fun _ => []

theorem elemsPaths_leaves_st : ∀ (l : List PVal) (q : List Str), (∀ x ∈ l, LeafRecord_st x) →
    elemsPaths_st l q = List.replicate l.length (dotted q)
  | [], q, _ => by rw [elemsPaths_st]; rfl
  | x :: xs, q, h => by
    obtain ⟨fs, rfl, hfs⟩ := h x List.mem_cons_self
    rw [elemsPaths_cons_st, elemsPaths_leaves_st xs q (fun y hy => h y (List.mem_cons_of_mem _ hy))]
    simp only [hfs, List.length_cons, List.replicate_succ]
    rfl

/-! ## 4. the result of a tree fetch: its scopes are the master's, whatever the sources -/

mutual
def masterScopePathsObj_st : Obj → List Str → List Str
  | .defn _ _, _ => []
  | .scope m kids, p => dotted (p ++ [m.name]) :: masterScopePathsKids_st kids (p ++ [m.name])
/-- the dotted paths of ALL scopes below the scope with path `p`, pre-order -/
def masterScopePathsKids_st : List Obj → List Str → List Str
  | [], _ => []
  | o :: os, p => masterScopePathsObj_st o p ++ masterScopePathsKids_st os p
end

/-- the dotted paths of all scopes of a master (every scope of a `TreeMaster` is enabled) -/
def masterScopePaths_st (kids : List Obj) (p : List Str) : List Str :=
  dotted p :: masterScopePathsKids_st kids p

mutual
/-- every scope is enabled and not a template -/
def scopesLiveB_st : Obj → Bool
  | .defn _ _ => true
  | .scope m kids => !m.disabled && m.tmpl == 0 && scopesLiveKidsB_st kids
def scopesLiveKidsB_st : List Obj → Bool
  | [] => true
  | o :: os => scopesLiveB_st o && scopesLiveKidsB_st os
end

mutual
theorem masterScopePathsObj_live_st : ∀ (o : Obj) (p : List Str), scopesLiveB_st o = true →
    masterScopePathsObj_st o p = scopePathsObj_st o p
  | .defn _ _, p, _ => by rw [masterScopePathsObj_st, scopePathsObj_st]
  | .scope m kids, p, h => by
    rw [scopesLiveB_st, Bool.and_eq_true] at h
    rw [masterScopePathsObj_st, scopePathsObj_st, h.1, masterScopePathsKids_live_st kids _ h.2]
    rfl
theorem masterScopePathsKids_live_st : ∀ (l : List Obj) (p : List Str), scopesLiveKidsB_st l = true →
    masterScopePathsKids_st l p = scopePathsKids_st l p
  | [], p, _ => by rw [masterScopePathsKids_st, scopePathsKids_st]
  | o :: os, p, h => by
    rw [scopesLiveKidsB_st, Bool.and_eq_true] at h
    rw [masterScopePathsKids_st, scopePathsKids_st, masterScopePathsObj_live_st o p h.1,
      masterScopePathsKids_live_st os p h.2]
end

/-- when every scope of the master is enabled and not a template (what the parser delivers for a
    `TreeMaster`), all its scopes are its enabled scopes -/
theorem masterScopePaths_live_st (kids : List Obj) (p : List Str) (h : scopesLiveKidsB_st kids = true) :
    masterScopePaths_st kids p = scopePaths kids p := by
  unfold masterScopePaths_st scopePaths
  rw [masterScopePathsKids_live_st kids p h]

mutual
theorem scopePathsObj_treeObj_st : ∀ (mo : Obj) (srcs : List Obj) (p : List Str), TreeObj mo →
    scopePathsObj_st (treeObj mo srcs) p = masterScopePathsObj_st mo p
  | .defn mm mws, srcs, p, _ => by
    rw [treeObj, masterScopePathsObj_st]
    cases lastDef srcs mm.name <;> (dsimp only; rw [scopePathsObj_st])
  | .scope mm kids, srcs, p, ht => by
    rw [TreeObj] at ht
    rw [treeObj, scopePathsObj_st, masterScopePathsObj_st]
    simp only [ht.2.2.2.1, Bool.not_false, beq_self_eq_true, Bool.and_self, if_true]
    rw [scopePathsKids_treeResult_st kids _ _ ht.2.2.2.2.1]
theorem scopePathsKids_treeResult_st : ∀ (mkids : List Obj) (srcs : List Obj) (p : List Str),
    TreeKids mkids → scopePathsKids_st (treeResult mkids srcs) p = masterScopePathsKids_st mkids p
  | [], srcs, p, _ => by rw [treeResult, scopePathsKids_st, masterScopePathsKids_st]
  | mo :: rest, srcs, p, ht => by
    rw [TreeKids] at ht
    rw [treeResult, scopePathsKids_st, masterScopePathsKids_st, scopePathsObj_treeObj_st mo srcs p ht.1,
      scopePathsKids_treeResult_st rest srcs p ht.2]
end

mutual
theorem scopeNamed_treeObj_st : ∀ (mo : Obj) (srcs : List Obj), TreeObj mo → ScopeNamed_st (treeObj mo srcs)
  | .defn mm mws, srcs, _ => by
    rw [treeObj]
    cases lastDef srcs mm.name <;> (dsimp only; rw [ScopeNamed_st]; trivial)
  | .scope mm kids, srcs, ht => by
    rw [TreeObj] at ht
    rw [treeObj, ScopeNamed_st]
    exact ⟨ht.2.1, scopeNamedKids_treeResult_st kids _ ht.2.2.2.2.1⟩
theorem scopeNamedKids_treeResult_st : ∀ (mkids : List Obj) (srcs : List Obj), TreeKids mkids →
    ScopeNamedKids_st (treeResult mkids srcs)
  | [], srcs, _ => by rw [treeResult, ScopeNamedKids_st]; trivial
  | mo :: rest, srcs, ht => by
    rw [TreeKids] at ht
    rw [treeResult, ScopeNamedKids_st]
    exact ⟨scopeNamed_treeObj_st mo srcs ht.1, scopeNamedKids_treeResult_st rest srcs ht.2⟩
end

mutual
theorem scopeNamed_of_treeObj_st : ∀ (mo : Obj), TreeObj mo → ScopeNamed_st mo
  | .defn mm mws, _ => by rw [ScopeNamed_st]; trivial
  | .scope mm kids, ht => by
    rw [TreeObj] at ht
    rw [ScopeNamed_st]
    exact ⟨ht.2.1, scopeNamedKids_of_treeKids_st kids ht.2.2.2.2.1⟩
theorem scopeNamedKids_of_treeKids_st : ∀ (mkids : List Obj), TreeKids mkids → ScopeNamedKids_st mkids
  | [], _ => by rw [ScopeNamedKids_st]; trivial
  | mo :: rest, ht => by
    rw [TreeKids] at ht
    rw [ScopeNamedKids_st]
    exact ⟨scopeNamed_of_treeObj_st mo ht.1, scopeNamedKids_of_treeKids_st rest ht.2⟩
end

/-- the children of the master scope reached through the names `p` -/
def masterAt_st : List Obj → List Str → Option (List Obj)
  | kids, [] => some kids
  | kids, s :: ps =>
    match findNamedTree kids s with
    | some (.scope _ k') => masterAt_st k' ps
    | _ => none

/-- the scope of the result at a path is the result of the master scope at that path, computed from
    the sources reached by that path -/
theorem scopeAt_treeResult_st : ∀ (ps : List Str) (mkids srcs : List Obj), TreeKids mkids →
    scopeAt_st (treeResult mkids srcs) ps = (masterAt_st mkids ps).map (fun mk => treeResult mk (srcAt srcs ps))
  | [], mkids, srcs, _ => by rw [scopeAt_st, masterAt_st, srcAt]; rfl
  | s :: ps, mkids, srcs, ht => by
    rw [scopeAt_st, masterAt_st, findNamed_treeResult, srcAt]
    cases hfn : findNamedTree mkids s with
    | none => rfl
    | some mo =>
      have hto := (treeKids_iff mkids).1 ht mo (findNamed_mem hfn)
      cases mo with
      | defn mm mws =>
        simp only [Option.map_some]
        rw [treeObj]
        cases lastDef srcs mm.name <;> rfl
      | scope mm kids =>
        have hname : mm.name = s := findNamed_name hfn
        rw [TreeObj] at hto
        simp only [Option.map_some, treeObj]
        have hlive : liveObjB_xt (.scope { mm with tmpl := 0 } (treeResult kids (srcStep srcs mm.name))) = true := by
          rw [liveObjB_scope_st]; simp [hto.2.2.2.1]
        simp only [hlive, if_true]
        rw [scopeAt_treeResult_st ps kids (srcStep srcs mm.name) hto.2.2.2.2.1, hname]

theorem masterAt_treeKids_st : ∀ (ps : List Str) (mkids mk : List Obj), TreeKids mkids →
    masterAt_st mkids ps = some mk → TreeKids mk
  | [], mkids, mk, ht, h => by rw [masterAt_st] at h; cases h; exact ht
  | s :: ps, mkids, mk, ht, h => by
    rw [masterAt_st] at h
    cases hfn : findNamedTree mkids s with
    | none => rw [hfn] at h; cases h
    | some mo =>
      rw [hfn] at h
      have hto := (treeKids_iff mkids).1 ht mo (findNamed_mem hfn)
      cases mo with
      | defn mm mws => cases h
      | scope mm kids =>
        rw [TreeObj] at hto
        exact masterAt_treeKids_st ps kids mk hto.2.2.2.2.1 h

theorem treeObj_tmpl_st (mo : Obj) (srcs : List Obj) (h : ¬ mo.meta.tmpl < 0) :
    ¬ (treeObj mo srcs).meta.tmpl < 0 := by
  cases mo with
  | defn mm mws =>
    rw [treeObj]
    cases lastDef srcs mm.name with
    | none => exact h
    | some d => simp [Obj.meta]
  | scope mm kids => rw [treeObj]; simp [Obj.meta]

/-- the fields of a node of `master.fetch(sources).extract()` carry the names of the master's
    children (none of them a template placeholder), whatever the sources -/
theorem liveKids_treeResult_names_st (mk srcs : List Obj) (h : ∀ o ∈ mk, ¬ o.meta.tmpl < 0) :
    (liveKids (treeResult mk srcs)).map Obj.name = mk.map Obj.name := by
  have : liveKids (treeResult mk srcs) = treeResult mk srcs := by
    unfold liveKids
    rw [List.filter_eq_self]
    intro o ho
    rw [treeResult_eq_map] at ho
    obtain ⟨mo, hmo, rfl⟩ := List.mem_map.mp ho
    have := treeObj_tmpl_st mo srcs (h mo hmo)
    simpa using this
  rw [this, treeResult_names]

/-- a successful fetch against a `TreeMaster` returns the closed form, which meets what the extraction
    lemmas ask of a tree -/
theorem fetchRoot_result_st (e : Envs) (master : List Obj) (ss : List (List Obj)) (hf : TreeMaster master)
    (hd : depthL master ≤ 1000) (hsrc : SrcTree ss.flatten) (ro : Obj) (used : List Nat)
    (h : fetchRoot e false master ss = .ok (ro, used)) :
    ∃ root, ro = .scope root (treeResult master ss.flatten) ∧ DKids_xt (treeResult master ss.flatten) ∧
      ((treeResult master ss.flatten).map Obj.name).Pairwise (· ≠ ·) ∧
      ScopeNamedKids_st (treeResult master ss.flatten) ∧
      depthL (treeResult master ss.flatten) = depthL master := by
  rw [fetchRoot_tree e master ss hf hd hsrc] at h
  cases hnc : noClash master ss.flatten with
  | false => rw [hnc] at h; simp at h
  | true =>
    rw [hnc] at h
    simp only [if_true, Except.ok.injEq, Prod.mk.injEq] at h
    refine ⟨_, h.1.symm, dkids_treeResult_xt master ss.flatten hf.kids, ?_,
      scopeNamedKids_treeResult_st master ss.flatten hf.kids, depthL_treeResult_ns master ss.flatten⟩
    rw [treeResult_names]
    exact hf.distinct

end Phil
