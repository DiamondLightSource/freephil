/-
  Phil.Proofs.DiffTree — closed form of `scope.fetch(diff=True)` (fetch_diff) for NESTED masters whose
  definitions may be `.multiple` (`TreeMultiMaster`), and the laws of C08 derived from it; combines
  Phil/Proofs/DiffSpec.lean (flat masters) with Phil/Proofs/FetchTree.lean and FetchTreeMulti.lean (non-diff
  fetch of nested masters).
  On ARBITRARY sources `fetchScope … true …` is the error of the first offending source object in master order,
  else the specification (`treeDiffFetch`, `diff_tree_vars_total`; fuel `depthL mkids + 1 < fuel`); on sources
  that resolve, the clash error or the specification (`diff_tree_total`).  The difference and the restored
  working set are trees of blocks (`gTree_dt`), so the laws hold on the specification first and are then carried
  to `fetchScope` (`DiffTreeSetting`) and `fetchRoot`.
-/
import Phil.Proofs.DiffSpec
import Phil.Proofs.FetchTreeMulti
namespace Phil

/-! ## 1. specification -/

mutual
/-- the block one master object contributes to a difference, given the source objects at its level:
    a definition — `diffBlockL` over the enabled source definitions of its name (not `.multiple`: the
    candidate of the LAST one iff its key differs from the master definition's; `.multiple`: the
    survivors of the list rule, no template); a scope — itself with the difference of its children,
    rebuilt from the children of the enabled source scopes of its name, UNLESS that difference is
    empty: empty scopes are dropped -/
def tdBlock (e : Envs) : Obj → List Obj → List Obj
  | .defn mm mws, srcs => diffBlockL e 0 (.defn mm mws) (defsNamed mm.name srcs)
  | .scope mm kids, srcs =>
    if (treeDiff e kids (srcStep srcs mm.name)).isEmpty then []
    else [.scope { mm with tmpl := 0 } (treeDiff e kids (srcStep srcs mm.name))]
/-- **the difference**: the children of `master.fetch_diff(sources)` — the blocks of the master
    children, in master order -/
def treeDiff (e : Envs) : List Obj → List Obj → List Obj
  | [], _ => []
  | mo :: rest, srcs => tdBlock e mo srcs ++ treeDiff e rest srcs
end

mutual
/-- the block one master object contributes to `master.fetch(D)`, `D` the difference of the sources
    `srcs`: a definition — `restoredBlockL` (`.multiple`: the block of the working set itself;
    otherwise the working value, except that a working value whose key is the master's comes back as
    the master definition); a scope — itself, rebuilt -/
def trBlock (e : Envs) : Obj → List Obj → List Obj
  | .defn mm mws, srcs => restoredBlockL e 0 (.defn mm mws) (defsNamed mm.name srcs)
  | .scope mm kids, srcs => [.scope { mm with tmpl := 0 } (treeRestored e kids (srcStep srcs mm.name))]
/-- **the restored working set**: the children of `master.fetch(master.fetch_diff(sources))` -/
def treeRestored (e : Envs) : List Obj → List Obj → List Obj
  | [], _ => []
  | mo :: rest, srcs => trBlock e mo srcs ++ treeRestored e rest srcs
end

mutual
def KeysAllObj_dt (e : Envs) : Obj → List Obj → Prop
  | .defn mm mws, srcs => KeysDefined e 0 (.defn mm mws) (defsNamed mm.name srcs)
  | .scope mm kids, srcs => KeysAll_dt e kids (srcStep srcs mm.name)
/-- the keys a difference compares are defined at EVERY master definition (`.multiple` or not): the
    master's own and those of the candidates built from the enabled source definitions reached by
    its path -/
def KeysAll_dt (e : Envs) : List Obj → List Obj → Prop
  | [], _ => True
  | mo :: rest, srcs => KeysAllObj_dt e mo srcs ∧ KeysAll_dt e rest srcs
end

mutual
def keysAllObjB_dt (e : Envs) : Obj → List Obj → Bool
  | .defn mm mws, srcs => keysDefinedB e 0 (.defn mm mws) (defsNamed mm.name srcs)
  | .scope mm kids, srcs => keysAllB_dt e kids (srcStep srcs mm.name)
/-- executable form of `KeysAll_dt` -/
def keysAllB_dt (e : Envs) : List Obj → List Obj → Bool
  | [], _ => true
  | mo :: rest, srcs => keysAllObjB_dt e mo srcs && keysAllB_dt e rest srcs
end

/-! ## 2. list forms, projections -/

theorem srcStep_nil_dt (n : Str) : srcStep [] n = [] := rfl

theorem scopesNamed_nil_dt (n : Str) : scopesNamed n [] = [] := rfl

theorem treeDiff_eq_flatMap_dt (e : Envs) (srcs : List Obj) : ∀ (mkids : List Obj),
    treeDiff e mkids srcs = mkids.flatMap (fun mo => tdBlock e mo srcs)
  | [] => by rw [treeDiff]; rfl
  | mo :: rest => by rw [treeDiff, treeDiff_eq_flatMap_dt e srcs rest]; rfl

theorem treeRestored_eq_flatMap_dt (e : Envs) (srcs : List Obj) : ∀ (mkids : List Obj),
    treeRestored e mkids srcs = mkids.flatMap (fun mo => trBlock e mo srcs)
  | [] => by rw [treeRestored]; rfl
  | mo :: rest => by rw [treeRestored, treeRestored_eq_flatMap_dt e srcs rest]; rfl

theorem KeysAll_dt.obj {e : Envs} : ∀ {l : List Obj} {srcs : List Obj}, KeysAll_dt e l srcs →
    ∀ o ∈ l, KeysAllObj_dt e o srcs
  | [], _, _, o, ho => by cases ho
  | a :: os, srcs, h, o, ho => by
    rw [KeysAll_dt] at h
    rw [List.mem_cons] at ho
    rcases ho with rfl | ho
    · exact h.1
    · exact KeysAll_dt.obj h.2 o ho

mutual
theorem KeysAllObj_dt.toMulti {e : Envs} : ∀ {mo : Obj} {srcs : List Obj}, KeysAllObj_dt e mo srcs →
    KeysDefinedObj e mo srcs
  | .defn mm mws, srcs, h => by
    rw [KeysAllObj_dt] at h
    rw [KeysDefinedObj]
    exact fun _ => h
  | .scope mm kids, srcs, h => by
    rw [KeysAllObj_dt] at h
    rw [KeysDefinedObj]
    exact KeysAll_dt.toMulti h
theorem KeysAll_dt.toMulti {e : Envs} : ∀ {l : List Obj} {srcs : List Obj}, KeysAll_dt e l srcs →
    KeysDefinedTree e l srcs
  | [], _, _ => by rw [KeysDefinedTree]; trivial
  | mo :: rest, srcs, h => by
    rw [KeysAll_dt] at h
    rw [KeysDefinedTree]
    exact ⟨KeysAllObj_dt.toMulti h.1, KeysAll_dt.toMulti h.2⟩
end

mutual
theorem keysAllObjB_dt_sound (e : Envs) : ∀ (mo : Obj) (srcs : List Obj),
    keysAllObjB_dt e mo srcs = true → KeysAllObj_dt e mo srcs
  | .defn mm mws, srcs, h => by
    rw [keysAllObjB_dt] at h
    rw [KeysAllObj_dt]
    exact keysDefined_of_B h
  | .scope mm kids, srcs, h => by
    rw [keysAllObjB_dt] at h
    rw [KeysAllObj_dt]
    exact keysAllB_dt_sound e kids _ h
theorem keysAllB_dt_sound (e : Envs) : ∀ (l : List Obj) (srcs : List Obj),
    keysAllB_dt e l srcs = true → KeysAll_dt e l srcs
  | [], _, _ => by rw [KeysAll_dt]; trivial
  | mo :: rest, srcs, h => by
    rw [keysAllB_dt, Bool.and_eq_true] at h
    rw [KeysAll_dt]
    exact ⟨keysAllObjB_dt_sound e mo srcs h.1, keysAllB_dt_sound e rest srcs h.2⟩
end

/-! ## 3. the blocks of a definition do not depend on the fuel of the keys -/


theorem diffBlockL_fuel_dt (e : Envs) (fuel : Nat) (mm : Meta) (mws : List Word) (l : List Obj) :
    diffBlockL e fuel (.defn mm mws) l = diffBlockL e 0 (.defn mm mws) l := by
  unfold diffBlockL
  rw [candsOf_fuel_tm, keyOf_fuel_tm e fuel]
  cases l.getLast? with
  | none => rfl
  | some d =>
    simp only [show keyOf e fuel _ (candOfSrc _ d) = keyOf e 0 _ (candOfSrc _ d) from keyOf_fuel_tm e fuel mm mws _ _]

/-! ## 4. one step of the master loop in diff mode, sources of any kind -/

/-- **the specification of `fetch_diff` on a nested master, any annotated sources**: the first error in
    master order, else the difference `treeDiff` (built from the RESOLVED words) with the consumed ids -/
def treeDiffFetch (e : Envs) (sm : Meta) (mkids srcs : List Obj) : R (Obj × List Nat) :=
  match firstErr mkids srcs with
  | some E => .error E
  | none => .ok (.scope { sm with tmpl := 0 } (treeDiff e mkids srcs), treeUsed mkids srcs)

theorem stepG_defn_diff_vars (F : FetchFn) (e : Envs) (f : Nat) (sm : Meta)
    (mkids combined : List Obj) (st : List Obj × List Nat) (idx : Nat) (mm : Meta) (mws : List Word)
    (hp : DefnMeta mm)
    (hfm : isMultiple (.defn mm mws) = true → fromMasterOf mkids idx (.defn mm mws) = [])
    (hmatch : fetchMatching (f + 1) sm combined (.defn mm mws) = activeNamed mm.name combined)
    (hkeys : KeysDefined e 0 (.defn mm mws) (defsNamed mm.name combined)) :
    stepG F e (f + 1) true sm mkids combined st (idx, .defn mm mws) =
      match firstErrObj (.defn mm mws) combined with
      | some err => .error err
      | none =>
        .ok (st.1 ++ tdBlock e (.defn mm mws) combined, st.2 ++ treeUsedObj (.defn mm mws) combined) := by
  obtain ⟨⟨k0, hk0⟩, hcand⟩ := keysDefined_fuel_tm e (f + 1) mm mws _ hkeys
  have hin : ∀ d ∈ activeNamed mm.name combined, d.isDefn = true → d ∈ defsNamed mm.name combined :=
    fun d hd hdef => mem_defsNamed.mpr ⟨(mem_activeNamed.mp hd).1, hdef, (mem_activeNamed.mp hd).2⟩
  rw [firstErrObj, tdBlock, treeUsedObj]
  cases hmult : isMultiple (.defn mm mws) with
  | false =>
    rw [diff_plain_step F e f sm mkids combined _ st idx mm mws hp hmult hmatch k0 hk0
      (fun d hd hdef => hcand d (hin d hd hdef))]
    cases hfs : (activeNamed mm.name combined).findSome? srcErrOf with
    | some err => rfl
    | none =>
      rw [activeNamed_eq_defsNamed _ _ (firstErr_none_facts mm.name combined hfs).1, diffBlockL_fuel_dt]
  | true =>
    refine stepG_multi_cases F e (f + 1) true sm mkids combined st idx (.defn mm mws) mm.name [] k0 srcErrOf
      (fun o => if keyOf e (f + 1) (.defn mm mws) (candOfSrc (.defn mm mws) o) == k0 then none
        else some (candOfSrc (.defn mm mws) o, keyOf e (f + 1) (.defn mm mws) (candOfSrc (.defn mm mws) o)))
      marksOf _ rfl hmult (hfm hmult) (fun _ h => by cases h) hmatch hk0 ?_
      (fun o _ E h b acc => cstepG_srcErr F e (f + 1) true mm mws k0 o E h b acc) ?_
    · intro o ho h b
      cases o with
      | scope m' k' => cases h
      | defn dm dws =>
        obtain ⟨k, hk⟩ := hcand _ (hin _ ho rfl)
        exact (candLink_candOfSrc hp rfl (srcOK_of_srcErrOf_none dm dws h) hk).clink_diff hk0 b
    · intro hall _
      obtain ⟨hsc, hok⟩ := firstErr_none_facts mm.name combined
        (List.findSome?_eq_none_iff.mpr fun o ho => hall (false, o) (List.mem_map.mpr ⟨o, ho, rfl⟩))
      rw [← hmatch, ← stepG_multi F e (f + 1) true sm mkids combined st idx _ hmult,
        diff_defn_step F e f sm mkids combined (defsNamed mm.name combined) st idx mm mws hp hfm
        (by rw [hmatch, activeNamed_eq_defsNamed _ _ hsc])
        (fun o ho => (mem_defsNamed.mp ho).2.1) hok ⟨⟨k0, hk0⟩, hcand⟩, diffBlockL_fuel_dt]

theorem stepG_plain_diff_dt (F : FetchFn) (e : Envs) (f : Nat) (sm : Meta)
    (mkids combined : List Obj) (st : List Obj × List Nat) (idx : Nat) (mm : Meta) (mws : List Word)
    (hp : DefnMeta mm) (hmult : isMultiple (.defn mm mws) = false)
    (hmatch : fetchMatching (f + 1) sm combined (.defn mm mws) = activeNamed mm.name combined)
    (hok : ∀ o ∈ defsNamed mm.name combined, SrcOK o)
    (hkeys : KeysDefined e 0 (.defn mm mws) (defsNamed mm.name combined)) :
    stepG F e (f + 1) true sm mkids combined st (idx, .defn mm mws) =
      if noClashObj (.defn mm mws) combined then
        .ok (st.1 ++ tdBlock e (.defn mm mws) combined, st.2 ++ treeUsedObj (.defn mm mws) combined)
      else .error incompatibleErr := by
  rw [stepG_defn_diff_vars F e f sm mkids combined st idx mm mws hp (fun h => by rw [hmult] at h; cases h)
    hmatch hkeys, firstErrObj, noClashObj,
    findSome_srcErrOf_ok _ (fun o ho hd =>
      hok o (mem_defsNamed.mpr ⟨(mem_activeNamed.mp ho).1, hd, (mem_activeNamed.mp ho).2⟩)),
    all_isDefn_activeNamed]
  cases (scopesNamed mm.name combined).isEmpty <;> rfl

/-! ## 5. the whole difference -/

/-- **closed form of `fetch_diff` of a nested master whose definitions may be `.multiple`, ANY annotated
    sources** (no `SrcTree`): with fuel beyond the nesting depth plus one and defined keys, the
    difference is `treeDiffFetch` — the error of the first offending source object in master order (the
    recorded `resolve_variables` error of a matching definition, or "incompatible" for a clash of kinds),
    else `treeDiff` over the RESOLVED words with the consumed ids `treeUsed`. -/
theorem diff_tree_vars_total (e : Envs) : ∀ (fuel : Nat) (sm : Meta) (mkids srcs : List Obj),
    TreeMultiMaster mkids → depthL mkids + 1 < fuel → sm.disabled = false → ScopesNamed srcs →
    KeysAll_dt e mkids srcs →
    fetchScope e fuel true sm mkids srcs = treeDiffFetch e sm mkids srcs := by
  intro fuel
  induction fuel with
  | zero => intro sm mkids srcs _ hd; exact absurd hd (Nat.not_lt_zero _)
  | succ fuel ih =>
    intro sm mkids srcs hf hdepth hsd hsrc hkeys
    obtain ⟨f, rfl⟩ : ∃ f, fuel = f + 1 := ⟨fuel - 1, by omega⟩
    rw [fetchScope_firstErr e (f + 1) true sm mkids srcs (fun mo => tdBlock e mo srcs) (masterActive_tm mkids hf),
      treeDiffFetch, treeDiff_eq_flatMap_dt]
    · rfl
    intro st i mo ha hmem
    have hto := hf.obj _ hmem
    have hko := hkeys.obj _ hmem
    have hmatch := fetchMatching_tree (f + 1) sm srcs mo hsd hto.name_ne hto.dotfree
      (fun m kids hm hd => hsrc m kids (.here hm hd))
    cases mo with
    | defn mm mws =>
      rw [TMObj] at hto
      rw [KeysAllObj_dt] at hko
      exact stepG_defn_diff_vars _ e f sm mkids srcs st i mm mws hto.1
        (fun _ => fromMasterOf_nil mkids hf.distinct i _ ha) hmatch hko
    | scope mm kids =>
      have hkids := TreeMultiMaster.of_scope hto
      have hd1 := depthT_le_depthL mkids _ hmem
      rw [depthT] at hd1
      rw [TMObj] at hto
      rw [KeysAllObj_dt] at hko
      rw [firstErrObj, treeUsedObj]
      exact stepG_scope_of_outcome _ e (f + 1) sm mkids srcs st i mm true kids _ _ _ hto.1 hmatch
        (ih mm kids (srcStep srcs mm.name) hkids (by omega) hto.2.2.2.1 (hsrc.step mm.name) hko)

theorem treeDiffFetch_of_srcTree (e : Envs) (sm : Meta) (mkids srcs : List Obj) (hs : SrcTree srcs) :
    treeDiffFetch e sm mkids srcs =
      if noClash mkids srcs then .ok (.scope { sm with tmpl := 0 } (treeDiff e mkids srcs), treeUsed mkids srcs)
      else .error incompatibleErr := by
  unfold treeDiffFetch
  rw [firstErr_of_srcTree mkids srcs hs]
  cases noClash mkids srcs <;> rfl

/-- **closed form of the difference of a nested master whose definitions may be `.multiple`**
    (`scope.fetch(diff=True)`, i.e. `fetch_diff`): with fuel beyond the nesting depth PLUS ONE (the
    diff branch of `definition.fetch` renders with the fuel of its loop iteration, which must be
    positive at the deepest level) and defined keys, the difference succeeds exactly when there is no
    clash of kinds (`noClash`); its children are `treeDiff`, the consumed ids are those of the
    non-diff fetch (`treeMultiUsed` = `treeUsed`); a clash makes it fail with RuntimeError
    ("incompatible"). -/
theorem diff_tree_total (e : Envs) : ∀ (fuel : Nat) (sm : Meta) (mkids srcs : List Obj),
    TreeMultiMaster mkids → depthL mkids + 1 < fuel → sm.disabled = false → SrcTree srcs →
    KeysAll_dt e mkids srcs →
    fetchScope e fuel true sm mkids srcs =
      if noClash mkids srcs then
        .ok (.scope { sm with tmpl := 0 } (treeDiff e mkids srcs), treeMultiUsed mkids srcs)
      else .error incompatibleErr := by
  intro fuel sm mkids srcs hf hdepth hsd hsrc hkeys
  rw [diff_tree_vars_total e fuel sm mkids srcs hf hdepth hsd hsrc.named hkeys,
    treeDiffFetch_of_srcTree e sm mkids srcs hsrc]

/-! ## 6. the difference and the restored working set as trees of blocks -/

mutual
theorem tdBlock_eq_gBlock_dt (e : Envs) : ∀ (mo : Obj) (srcs : List Obj),
    tdBlock e mo srcs = gBlock_dt (diffBlockL e 0) true mo srcs
  | .defn mm mws, srcs => by rw [tdBlock, gBlock_dt]
  | .scope mm kids, srcs => by
    rw [tdBlock, gBlock_dt, treeDiff_eq_gTree_dt e kids]
    simp
theorem treeDiff_eq_gTree_dt (e : Envs) : ∀ (l : List Obj) (srcs : List Obj),
    treeDiff e l srcs = gTree_dt (diffBlockL e 0) true l srcs
  | [], srcs => by rw [treeDiff, gTree_dt]
  | mo :: rest, srcs => by
    rw [treeDiff, gTree_dt, tdBlock_eq_gBlock_dt e mo srcs, treeDiff_eq_gTree_dt e rest srcs]
end

mutual
theorem trBlock_eq_gBlock_dt (e : Envs) : ∀ (mo : Obj) (srcs : List Obj),
    trBlock e mo srcs = gBlock_dt (restoredBlockL e 0) false mo srcs
  | .defn mm mws, srcs => by rw [trBlock, gBlock_dt]
  | .scope mm kids, srcs => by
    rw [trBlock, gBlock_dt, treeRestored_eq_gTree_dt e kids]
    simp
theorem treeRestored_eq_gTree_dt (e : Envs) : ∀ (l : List Obj) (srcs : List Obj),
    treeRestored e l srcs = gTree_dt (restoredBlockL e 0) false l srcs
  | [], srcs => by rw [treeRestored, gTree_dt]
  | mo :: rest, srcs => by
    rw [treeRestored, gTree_dt, trBlock_eq_gBlock_dt e mo srcs, treeRestored_eq_gTree_dt e rest srcs]
end

theorem goodFam_diffBlockL_dt (e : Envs) (f : Nat) : GoodFam_dt (diffBlockL e f) := (blockMem_diffBlockL e f).goodFam

theorem goodFam_restoredBlockL_dt (e : Envs) (f : Nat) : GoodFam_dt (restoredBlockL e f) :=
  (blockMem_restoredBlockL e f).goodFam

mutual
theorem keysAllObj_view_dt {B : DefBlock_dt} (hB : GoodFam_dt B) (drop : Bool) (e : Envs) :
    ∀ (mo : Obj) (srcs R : List Obj), TMObj mo → RefetchTree [mo] → KeysAllObj_dt e mo srcs →
      activeNamed mo.name R = gBlock_dt B drop mo srcs → KeysAllObj_dt e mo R
  | .defn mm mws, srcs, R, ht, hr, hk, hv => by
    rw [TMObj] at ht
    rw [gBlock_dt] at hv
    rw [KeysAllObj_dt] at hk ⊢
    rw [defsNamed_of_view_dt hB mm mws hv]
    exact hk.of_closed (hB.closed mm mws _ (hr.defn_dt ht.2.2.2).1 (hr.defn_dt ht.2.2.2).2.1)
  | .scope mm kids, srcs, R, ht, hr, hk, hv => by
    have hkm := TreeMultiMaster.of_scope ht
    rw [TMObj] at ht
    rw [KeysAllObj_dt] at hk ⊢
    rw [srcStep_of_view_dt B drop mm kids srcs R hv]
    exact keysAll_view_dt hB drop e kids (srcStep srcs mm.name) _ hkm.kids (hr.kids ht.2.2.2.1) hk
      (view_dt hB drop kids _ hkm)
theorem keysAll_view_dt {B : DefBlock_dt} (hB : GoodFam_dt B) (drop : Bool) (e : Envs) :
    ∀ (l : List Obj) (srcs R : List Obj), TMKids l → RefetchTree l → KeysAll_dt e l srcs →
      (∀ mo ∈ l, activeNamed mo.name R = gBlock_dt B drop mo srcs) → KeysAll_dt e l R
  | [], srcs, R, _, _, _, _ => by rw [KeysAll_dt]; trivial
  | mo :: rest, srcs, R, ht, hr, hk, hv => by
    rw [TMKids] at ht
    rw [KeysAll_dt] at hk ⊢
    exact ⟨keysAllObj_view_dt hB drop e mo srcs R ht.1 hr.head hk.1 (hv mo List.mem_cons_self),
      keysAll_view_dt hB drop e rest srcs R ht.2 hr.tail hk.2 (fun o ho => hv o (List.mem_cons_of_mem _ ho))⟩
end

theorem keysAll_gTree_dt {B : DefBlock_dt} (hB : GoodFam_dt B) (drop : Bool) (e : Envs) (mkids srcs : List Obj)
    (hf : TreeMultiMaster mkids) (hr : RefetchTree mkids) (hk : KeysAll_dt e mkids srcs) :
    KeysAll_dt e mkids (gTree_dt B drop mkids srcs) :=
  keysAll_view_dt hB drop e mkids srcs _ hf.kids hr hk (view_dt hB drop mkids srcs hf)

/-! ## 7. the laws of C08 on the specification -/

/-- **the working set has the difference of the sources it was fetched from** -/
theorem treeDiff_working_dt (e : Envs) (mkids srcs : List Obj) (hf : TreeMultiMaster mkids)
    (hr : RefetchTree mkids) :
    treeDiff e mkids (treeMultiResult e mkids srcs) = treeDiff e mkids srcs := by
  rw [treeDiff_eq_gTree_dt, treeDiff_eq_gTree_dt, treeMultiResult_eq_gTree_dt]
  exact gTree_comp_self_dt (goodFam_blockL_dt e 0) true false
    (fun mm mws l ht hv => diffBlockL_blockL e 0 mm mws ht hv l) mkids srcs hf hr

/-- **restoring**: the working set fetched from the difference is `treeRestored` -/
theorem treeMultiResult_treeDiff_dt (e : Envs) (mkids srcs : List Obj) (hf : TreeMultiMaster mkids)
    (hr : RefetchTree mkids) :
    treeMultiResult e mkids (treeDiff e mkids srcs) = treeRestored e mkids srcs := by
  rw [treeMultiResult_eq_gTree_dt, treeDiff_eq_gTree_dt, treeRestored_eq_gTree_dt]
  exact gTree_comp_self_dt (goodFam_diffBlockL_dt e 0) false true
    (fun mm mws l ht hv => blockL_diffBlockL e 0 mm mws ht hv l) mkids srcs hf hr

/-- **the difference of the restored working set is the difference again** -/
theorem treeDiff_treeRestored_dt (e : Envs) (mkids srcs : List Obj) (hf : TreeMultiMaster mkids)
    (hr : RefetchTree mkids) :
    treeDiff e mkids (treeRestored e mkids srcs) = treeDiff e mkids srcs := by
  rw [treeDiff_eq_gTree_dt, treeDiff_eq_gTree_dt, treeRestored_eq_gTree_dt]
  exact gTree_comp_self_dt (goodFam_restoredBlockL_dt e 0) true false
    (fun mm mws l ht hv => diffBlockL_restoredBlockL e 0 mm mws ht hv l) mkids srcs hf hr

/-- the restored working set is a fixed point of the fetch -/
theorem treeMultiResult_treeRestored_dt (e : Envs) (mkids srcs : List Obj) (hf : TreeMultiMaster mkids)
    (hr : RefetchTree mkids) :
    treeMultiResult e mkids (treeRestored e mkids srcs) = treeRestored e mkids srcs := by
  rw [treeMultiResult_eq_gTree_dt, treeRestored_eq_gTree_dt]
  exact gTree_comp_self_dt (goodFam_restoredBlockL_dt e 0) false false
    (fun mm mws l ht hv => blockL_restoredBlockL e 0 mm mws ht hv l) mkids srcs hf hr

/-! ### no sources: empty difference -/

mutual
theorem tdBlock_nil_dt (e : Envs) : ∀ (mo : Obj), tdBlock e mo [] = []
  | .defn mm mws => by
    rw [tdBlock]
    exact diffBlockL_nil e 0 _
  | .scope mm kids => by
    rw [tdBlock]
    rw [srcStep_nil_dt, treeDiff_nil_dt e kids]
    rfl
theorem treeDiff_nil_dt (e : Envs) : ∀ (l : List Obj), treeDiff e l [] = []
  | [] => by rw [treeDiff]
  | mo :: rest => by rw [treeDiff, tdBlock_nil_dt e mo, treeDiff_nil_dt e rest]; rfl
end

mutual
theorem treeUsedObj_nil_dt : ∀ (mo : Obj), treeUsedObj mo [] = []
  | .defn mm mws => by rw [treeUsedObj]; rfl
  | .scope mm kids => by
    rw [treeUsedObj]
    rw [srcStep_nil_dt, treeUsed_nil_dt kids]
theorem treeUsed_nil_dt : ∀ (l : List Obj), treeUsed l [] = []
  | [] => by rw [treeUsed]
  | mo :: rest => by rw [treeUsed, treeUsedObj_nil_dt mo, treeUsed_nil_dt rest]; rfl
end

mutual
theorem noClashObj_nil_dt : ∀ (mo : Obj), noClashObj mo [] = true
  | .defn mm mws => by rw [noClashObj]; rfl
  | .scope mm kids => by
    rw [noClashObj]
    rw [srcStep_nil_dt, noClash_nil_dt kids]
    rfl
theorem noClash_nil_dt : ∀ (l : List Obj), noClash l [] = true
  | [] => by rw [noClash]
  | mo :: rest => by rw [noClash, noClashObj_nil_dt mo, noClash_nil_dt rest]; rfl
end

/-! ### minimality, no empty scopes -/

/-- **minimality**: every definition of a difference, at any depth, is the candidate built from an
    enabled source definition for a master definition `mo` of its name, and its key
    (`mo.extract_format(source=candidate).as_str()`) differs from the key of `mo` -/
theorem treeDiff_minimal_dt (e : Envs) (mkids srcs : List Obj) (hf : TreeMultiMaster mkids) :
    ∀ x, ActiveIn x (treeDiff e mkids srcs) → x.isDefn = true →
      ∃ mo, ActiveIn mo mkids ∧ mo.isDefn = true ∧ (∃ d, ActiveIn d srcs ∧ x = candOfSrc mo d) ∧
        keyOf e 0 mo x ≠ keyOf e 0 mo mo := by
  intro x hx hdef
  rw [treeDiff_eq_gTree_dt] at hx
  obtain ⟨mo, S, ha, hS, hxb⟩ := activeIn_gTree_dt (goodFam_diffBlockL_dt e 0) true hx mkids srcs rfl hf.kids
  have hmem := gBlock_member_dt (goodFam_diffBlockL_dt e 0) true mo S x hxb
  cases mo with
  | scope mm mk => rw [hdef] at hmem; cases hmem.2.2
  | defn mm mws =>
    rw [gBlock_dt] at hxb
    obtain ⟨⟨d, hd, hxd⟩, hk⟩ := mem_diffBlockL hxb
    have hd' := mem_defsNamed.mp hd
    exact ⟨_, ha, rfl, ⟨d, hS d (.here hd'.1 hd'.2.2.1), hxd⟩, hk⟩

/-- **empty scopes are dropped**: every scope of a difference, at any depth, has children -/
theorem treeDiff_no_empty_scope_dt (e : Envs) (mkids srcs : List Obj) (hf : TreeMultiMaster mkids) :
    ∀ m kids, ActiveIn (.scope m kids) (treeDiff e mkids srcs) → kids ≠ [] := by
  intro m kids hx
  rw [treeDiff_eq_gTree_dt] at hx
  obtain ⟨mo, S, ha, hS, hxb⟩ := activeIn_gTree_dt (goodFam_diffBlockL_dt e 0) true hx mkids srcs rfl hf.kids
  have hmem := gBlock_member_dt (goodFam_diffBlockL_dt e 0) true mo S _ hxb
  cases mo with
  | defn mm mws => cases hmem.2.2
  | scope mm mk =>
    rw [gBlock_dt] at hxb
    split at hxb
    · cases hxb
    · rename_i hne
      rw [List.mem_singleton] at hxb
      injection hxb with _ hk
      rw [hk]
      intro h0
      rw [h0] at hne
      exact hne rfl

theorem treeDiff_at_path_dt (e : Envs) (mkids srcs : List Obj) (hf : TreeMultiMaster mkids)
    (ps : List Str) (n : Str) (mm : Meta) (mws : List Word) (h : defAt mkids ps n = some (.defn mm mws)) :
    activeNamed n (srcAt (treeDiff e mkids srcs) ps) =
      diffBlockL e 0 (.defn mm mws) (defsNamed n (srcAt srcs ps)) := by
  rw [treeDiff_eq_gTree_dt]
  exact gBlock_at_path_dt (goodFam_diffBlockL_dt e 0) true ps mkids srcs n mm mws hf h

theorem treeRestored_at_path_dt (e : Envs) (mkids srcs : List Obj) (hf : TreeMultiMaster mkids)
    (ps : List Str) (n : Str) (mm : Meta) (mws : List Word) (h : defAt mkids ps n = some (.defn mm mws)) :
    activeNamed n (srcAt (treeRestored e mkids srcs) ps) =
      restoredBlockL e 0 (.defn mm mws) (defsNamed n (srcAt srcs ps)) := by
  rw [treeRestored_eq_gTree_dt]
  exact gBlock_at_path_dt (goodFam_restoredBlockL_dt e 0) false ps mkids srcs n mm mws hf h

/-! ### the restored working set against the working set -/

mutual
/-- how an object `o'` of the restored working set relates to the object `o` of the working set at
    the same position, both belonging to the master object `mo`: for a definition the relation of
    the flat case (`RestoredAs`: equal, unless `o` is a non-multiple working value with the key of
    `mo` — then `o' = mo`); for a scope both are copies of `mo` whose children are related -/
def RestoredObj_dt (e : Envs) : Obj → Obj → Obj → Prop
  | .defn mm mws, o, o' => RestoredAs e 0 (.defn mm mws) o o'
  | .scope mm kids, o, o' =>
    ∃ K K', o = .scope { mm with tmpl := 0 } K ∧ o' = .scope { mm with tmpl := 0 } K' ∧
      RestoredKids_dt e kids K K'
/-- `W` and `W'` split into consecutive blocks, one per master child in master order, which
    correspond object by object (`RestoredObj_dt`) -/
def RestoredKids_dt (e : Envs) : List Obj → List Obj → List Obj → Prop
  | [], W, W' => W = [] ∧ W' = []
  | mo :: rest, W, W' =>
    ∃ A A' C C', W = A ++ C ∧ W' = A' ++ C' ∧ Forall2 (RestoredObj_dt e mo) A A' ∧
      RestoredKids_dt e rest C C'
end

mutual
theorem restoredObj_blocks_dt (e : Envs) : ∀ (mo : Obj) (srcs : List Obj), TMObj mo → RefetchTree [mo] →
    Forall2 (RestoredObj_dt e mo) (tmBlock e mo srcs) (trBlock e mo srcs)
  | .defn mm mws, srcs, ht, hr => by
    rw [TMObj] at ht
    rw [trBlock, tmBlock_eq_gBlock_dt, gBlock_dt]
    exact (restoredBlockL_restoredAs e 0 mm mws (hr.defn_dt ht.2.2.2).1 _).imp
      (fun o o' hq => by rw [RestoredObj_dt]; exact hq)
  | .scope mm kids, srcs, ht, hr => by
    have hk := TreeMultiMaster.of_scope ht
    rw [TMObj] at ht
    rw [tmBlock, trBlock]
    refine .cons ?_ .nil
    rw [RestoredObj_dt]
    exact ⟨_, _, rfl, rfl, restoredKids_dt e kids (srcStep srcs mm.name) hk.kids (hr.kids ht.2.2.2.1)⟩
/-- **`W'` against `W`**, as trees -/
theorem restoredKids_dt (e : Envs) : ∀ (l : List Obj) (srcs : List Obj), TMKids l → RefetchTree l →
    RestoredKids_dt e l (treeMultiResult e l srcs) (treeRestored e l srcs)
  | [], srcs, _, _ => by rw [RestoredKids_dt, treeMultiResult, treeRestored]; exact ⟨rfl, rfl⟩
  | mo :: rest, srcs, ht, hr => by
    rw [TMKids] at ht
    rw [RestoredKids_dt, treeMultiResult, treeRestored]
    exact ⟨_, _, _, _, rfl, rfl, restoredObj_blocks_dt e mo srcs ht.1 hr.head,
      restoredKids_dt e rest srcs ht.2 hr.tail⟩
end

mutual
def NoRedundantObj_dt (e : Envs) : Obj → List Obj → Prop
  | .defn mm mws, srcs =>
    isMultiple (.defn mm mws) = false →
      keyOf e 0 (.defn mm mws) (lastWins (.defn mm mws) (defsNamed mm.name srcs)) =
        keyOf e 0 (.defn mm mws) (.defn mm mws) →
      lastWins (.defn mm mws) (defsNamed mm.name srcs) = .defn mm mws
  | .scope mm kids, srcs => NoRedundantTree_dt e kids (srcStep srcs mm.name)
/-- no working value merely re-spells its default, at any depth: a non-multiple working value whose
    key is the key of the master definition IS the master definition -/
def NoRedundantTree_dt (e : Envs) : List Obj → List Obj → Prop
  | [], _ => True
  | mo :: rest, srcs => NoRedundantObj_dt e mo srcs ∧ NoRedundantTree_dt e rest srcs
end

mutual
theorem trBlock_eq_tmBlock_dt (e : Envs) : ∀ (mo : Obj) (srcs : List Obj), NoRedundantObj_dt e mo srcs →
    trBlock e mo srcs = tmBlock e mo srcs
  | .defn mm mws, srcs, h => by
    rw [NoRedundantObj_dt] at h
    rw [trBlock, tmBlock_eq_gBlock_dt, gBlock_dt]
    exact restoredBlockL_eq_blockL e 0 _ _ h
  | .scope mm kids, srcs, h => by
    rw [NoRedundantObj_dt] at h
    rw [trBlock, tmBlock, treeRestored_eq_treeMultiResult_dt e kids _ h]
/-- **exact restoration**: under `NoRedundantTree_dt` the restored working set IS the working set -/
theorem treeRestored_eq_treeMultiResult_dt (e : Envs) : ∀ (l : List Obj) (srcs : List Obj),
    NoRedundantTree_dt e l srcs → treeRestored e l srcs = treeMultiResult e l srcs
  | [], srcs, _ => by rw [treeRestored, treeMultiResult]
  | mo :: rest, srcs, h => by
    rw [NoRedundantTree_dt] at h
    rw [treeRestored, treeMultiResult, trBlock_eq_tmBlock_dt e mo srcs h.1,
      treeRestored_eq_treeMultiResult_dt e rest srcs h.2]
end

mutual
def FaithfulObj_dt (e : Envs) : Obj → List Obj → Prop
  | .defn mm mws, srcs =>
    isMultiple (.defn mm mws) = false →
      keyOf e 0 (.defn mm mws) (lastWins (.defn mm mws) (defsNamed mm.name srcs)) =
        keyOf e 0 (.defn mm mws) (.defn mm mws) →
      extractObj e 1 (lastWins (.defn mm mws) (defsNamed mm.name srcs)) = extractObj e 1 (.defn mm mws)
  | .scope mm kids, srcs => FaithfulTree_dt e kids (srcStep srcs mm.name)
/-- equal keys mean equal values where the difference relies on it, at any depth: a non-multiple
    working value with the key of the master definition extracts to the value of the master
    definition -/
def FaithfulTree_dt (e : Envs) : List Obj → List Obj → Prop
  | [], _ => True
  | mo :: rest, srcs => FaithfulObj_dt e mo srcs ∧ FaithfulTree_dt e rest srcs
end

/-- same meta data, same extracted value with every fuel -/
def SameValue_dt (e : Envs) (o o' : Obj) : Prop :=
  o'.meta = o.meta ∧ ∀ n, extractObj e n o' = extractObj e n o

theorem sameValue_refl_dt (e : Envs) (o : Obj) : SameValue_dt e o o := ⟨rfl, fun _ => rfl⟩

mutual
theorem sameValue_blocks_dt (e : Envs) : ∀ (mo : Obj) (srcs : List Obj), TMObj mo → RefetchTree [mo] →
    FaithfulObj_dt e mo srcs → Forall2 (SameValue_dt e) (tmBlock e mo srcs) (trBlock e mo srcs)
  | .defn mm mws, srcs, ht, hr, hfa => by
    rw [TMObj] at ht
    have hr' := hr.defn_dt ht.2.2.2
    rw [FaithfulObj_dt] at hfa
    rw [trBlock, tmBlock_eq_gBlock_dt, gBlock_dt]
    cases hmult : isMultiple (.defn mm mws) with
    | true =>
      rw [restoredBlockL_multi _ _ _ _ hmult]
      exact Forall2.of_refl _ (fun a _ => sameValue_refl_dt e a)
    | false =>
      rw [restoredBlockL_plain _ _ _ _ hmult, blockL_plain _ _ _ _ hmult]
      refine .cons ?_ .nil
      split
      · rename_i hk
        exact ⟨(lastWins_meta mm mws hr'.1 _).symm,
          extractObj_defn_all e (lastWins_isDefn _ _ rfl) rfl (hfa hmult (by simpa using hk)).symm⟩
      · exact sameValue_refl_dt e _
  | .scope mm kids, srcs, ht, hr, hfa => by
    have hk := TreeMultiMaster.of_scope ht
    rw [TMObj] at ht
    rw [FaithfulObj_dt] at hfa
    rw [tmBlock, trBlock]
    refine .cons ⟨rfl, ?_⟩ .nil
    intro n
    cases n with
    | zero => rfl
    | succ n =>
      apply extractObj_scope_congr
      exact (sameValue_tree_dt e kids (srcStep srcs mm.name) hk.kids (hr.kids ht.2.2.2.1) hfa).imp
        (fun o o' h => ⟨h.1, h.2 n⟩)
theorem sameValue_tree_dt (e : Envs) : ∀ (l : List Obj) (srcs : List Obj), TMKids l → RefetchTree l →
    FaithfulTree_dt e l srcs →
    Forall2 (SameValue_dt e) (treeMultiResult e l srcs) (treeRestored e l srcs)
  | [], srcs, _, _, _ => by rw [treeMultiResult, treeRestored]; exact .nil
  | mo :: rest, srcs, ht, hr, hfa => by
    rw [TMKids] at ht
    rw [FaithfulTree_dt] at hfa
    rw [treeMultiResult, treeRestored]
    exact (sameValue_blocks_dt e mo srcs ht.1 hr.head hfa.1).append
      (sameValue_tree_dt e rest srcs ht.2 hr.tail hfa.2)
end

/-- **values restored**: under `FaithfulTree_dt` the restored working set and the working set extract
    to the same Python values, whatever the enclosing scope and the fuel -/
theorem treeRestored_values_dt (e : Envs) (mkids srcs : List Obj) (hf : TreeMultiMaster mkids)
    (hr : RefetchTree mkids) (hfa : FaithfulTree_dt e mkids srcs) (m : Meta) (n : Nat) :
    extractObj e n (.scope m (treeRestored e mkids srcs)) =
      extractObj e n (.scope m (treeMultiResult e mkids srcs)) := by
  cases n with
  | zero => rfl
  | succ n =>
    apply extractObj_scope_congr
    exact (sameValue_tree_dt e mkids srcs hf.kids hr hfa).imp (fun o o' h => ⟨h.1, h.2 n⟩)

/-! ## 8. the chain `W = fetch(sources)`, `D = fetch_diff(W)`, `W' = fetch(D)`, `D' = fetch_diff(W')` -/

/-- the setting of the laws: a nested master whose definitions may be `.multiple`
    (`TreeMultiMaster`), fit for re-fetching (`RefetchTree`: definitions not template-marked,
    `$`-free defaults); fuel beyond the nesting depth plus one; well-formed `$`-free source trees;
    the keys a difference compares are defined (`KeysAll_dt`) -/
structure DiffTreeSetting (e : Envs) (fuel : Nat) (sm : Meta) (mkids srcs : List Obj) : Prop where
  tree : TreeMultiMaster mkids
  refetch : RefetchTree mkids
  fuel : depthL mkids + 1 < fuel
  enabled : sm.disabled = false
  src : SrcTree srcs
  noDollar : SrcNoDollar srcs
  keys : KeysAll_dt e mkids srcs

section chain
variable {e : Envs} {fuel : Nat} {sm : Meta} {mkids srcs : List Obj}

/-- `master.fetch(sources)` -/
theorem DiffTreeSetting.fetch_sources_total (S : DiffTreeSetting e fuel sm mkids srcs) :
    fetchScope e fuel false sm mkids srcs =
      if noClash mkids srcs then
        .ok (.scope { sm with tmpl := 0 } (treeMultiResult e mkids srcs), treeMultiUsed mkids srcs)
      else .error incompatibleErr :=
  fetch_tree_multi_total e fuel sm mkids srcs S.tree (by have := S.fuel; omega) S.enabled S.src S.keys.toMulti

/-- `master.fetch_diff(sources)` -/
theorem DiffTreeSetting.diff_sources_total (S : DiffTreeSetting e fuel sm mkids srcs) :
    fetchScope e fuel true sm mkids srcs =
      if noClash mkids srcs then
        .ok (.scope { sm with tmpl := 0 } (treeDiff e mkids srcs), treeMultiUsed mkids srcs)
      else .error incompatibleErr :=
  diff_tree_total e fuel sm mkids srcs S.tree S.fuel S.enabled S.src S.keys

theorem DiffTreeSetting.fetch_gTree (S : DiffTreeSetting e fuel sm mkids srcs) {B : DefBlock_dt}
    (hB : GoodFam_dt B) (drop : Bool) :
    fetchScope e fuel false sm mkids (gTree_dt B drop mkids srcs) =
      .ok (.scope { sm with tmpl := 0 } (treeMultiResult e mkids (gTree_dt B drop mkids srcs)),
           treeMultiUsed mkids (gTree_dt B drop mkids srcs)) := by
  rw [fetch_tree_multi_total e fuel sm mkids _ S.tree (by have := S.fuel; omega) S.enabled
    (srcTree_gTree_dt hB drop mkids srcs S.tree S.refetch S.noDollar)
    (keysAll_gTree_dt hB drop e mkids srcs S.tree S.refetch S.keys).toMulti,
    noClash_gTree_dt hB drop mkids srcs S.tree]
  rfl

theorem DiffTreeSetting.diff_gTree (S : DiffTreeSetting e fuel sm mkids srcs) {B : DefBlock_dt}
    (hB : GoodFam_dt B) (drop : Bool) :
    fetchScope e fuel true sm mkids (gTree_dt B drop mkids srcs) =
      .ok (.scope { sm with tmpl := 0 } (treeDiff e mkids (gTree_dt B drop mkids srcs)),
           treeMultiUsed mkids (gTree_dt B drop mkids srcs)) := by
  rw [diff_tree_total e fuel sm mkids _ S.tree S.fuel S.enabled
    (srcTree_gTree_dt hB drop mkids srcs S.tree S.refetch S.noDollar)
    (keysAll_gTree_dt hB drop e mkids srcs S.tree S.refetch S.keys),
    noClash_gTree_dt hB drop mkids srcs S.tree]
  rfl

/-- **the difference of the working set is the difference of the sources**:
    `master.fetch_diff(master.fetch(sources))` has the children of `master.fetch_diff(sources)` -/
theorem DiffTreeSetting.diff_working (S : DiffTreeSetting e fuel sm mkids srcs) :
    fetchScope e fuel true sm mkids (treeMultiResult e mkids srcs) =
      .ok (.scope { sm with tmpl := 0 } (treeDiff e mkids srcs),
           treeMultiUsed mkids (treeMultiResult e mkids srcs)) := by
  have h := S.diff_gTree (goodFam_blockL_dt e 0) false
  rw [← treeMultiResult_eq_gTree_dt] at h
  rw [h, treeDiff_working_dt e mkids srcs S.tree S.refetch]

/-- **restoring**: `master.fetch(D)` in closed form -/
theorem DiffTreeSetting.fetch_diff (S : DiffTreeSetting e fuel sm mkids srcs) :
    fetchScope e fuel false sm mkids (treeDiff e mkids srcs) =
      .ok (.scope { sm with tmpl := 0 } (treeRestored e mkids srcs),
           treeMultiUsed mkids (treeDiff e mkids srcs)) := by
  have h := S.fetch_gTree (goodFam_diffBlockL_dt e 0) true
  rw [← treeDiff_eq_gTree_dt] at h
  rw [h, treeMultiResult_treeDiff_dt e mkids srcs S.tree S.refetch]

/-- **the difference of the restored working set is `D` again** -/
theorem DiffTreeSetting.diff_restored (S : DiffTreeSetting e fuel sm mkids srcs) :
    fetchScope e fuel true sm mkids (treeRestored e mkids srcs) =
      .ok (.scope { sm with tmpl := 0 } (treeDiff e mkids srcs),
           treeMultiUsed mkids (treeRestored e mkids srcs)) := by
  have h := S.diff_gTree (goodFam_restoredBlockL_dt e 0) false
  rw [← treeRestored_eq_gTree_dt] at h
  rw [h, treeDiff_treeRestored_dt e mkids srcs S.tree S.refetch]

/-- the restored working set is a fixed point of the fetch -/
theorem DiffTreeSetting.fetch_restored (S : DiffTreeSetting e fuel sm mkids srcs) :
    fetchScope e fuel false sm mkids (treeRestored e mkids srcs) =
      .ok (.scope { sm with tmpl := 0 } (treeRestored e mkids srcs),
           treeMultiUsed mkids (treeRestored e mkids srcs)) := by
  have h := S.fetch_gTree (goodFam_restoredBlockL_dt e 0) false
  rw [← treeRestored_eq_gTree_dt] at h
  rw [h, treeMultiResult_treeRestored_dt e mkids srcs S.tree S.refetch]

theorem DiffTreeSetting.working_inv (S : DiffTreeSetting e fuel sm mkids srcs)
    {rm : Meta} {W : List Obj} {u : List Nat}
    (hW : fetchScope e fuel false sm mkids srcs = .ok (.scope rm W, u)) :
    noClash mkids srcs = true ∧ rm = { sm with tmpl := 0 } ∧ W = treeMultiResult e mkids srcs := by
  rw [S.fetch_sources_total] at hW
  cases hnc : noClash mkids srcs with
  | false => rw [hnc] at hW; cases hW
  | true =>
    rw [hnc] at hW
    simp only [if_true] at hW
    cases hW
    exact ⟨rfl, rfl, rfl⟩

end chain

/-- the fuel `fetchRoot` provides is adequate for the difference of masters nested at most 1000 deep -/
theorem fetchRoot_fuel_dt (master : List Obj) (hd : depthL master ≤ 1000) :
    depthL master + 1 < (master.foldl (fun a k => Nat.max a (depthObj 1000 k)) 0) + 3 := by
  have := depthL_le_rootFold master hd
  omega

/-- the fuel `fetchRoot` starts with -/
def rootFuel_dt (master : List Obj) : Nat := (master.foldl (fun a k => Nat.max a (depthObj 1000 k)) 0) + 3

theorem fetchRoot_eq_dt (e : Envs) (diff : Bool) (master : List Obj) (ss : List (List Obj)) :
    fetchRoot e diff master ss =
      fetchScope e (rootFuel_dt master) diff { name := [], id := some 0 } master ss.flatten := rfl

/-- **`master.fetch_diff(sources=…)`** on parsed roots -/
theorem fetchRoot_diff_tree (e : Envs) (master : List Obj) (ss : List (List Obj))
    (hf : TreeMultiMaster master) (hd : depthL master ≤ 1000) (hsrc : SrcTree ss.flatten)
    (hkeys : KeysAll_dt e master ss.flatten) :
    fetchRoot e true master ss =
      if noClash master ss.flatten then
        .ok (.scope { name := [], id := some 0 } (treeDiff e master ss.flatten),
             treeMultiUsed master ss.flatten)
      else .error incompatibleErr :=
  diff_tree_total e _ _ master ss.flatten hf (fetchRoot_fuel_dt master hd) rfl hsrc hkeys

theorem defAt_active_dt : ∀ (ps : List Str) (l : List Obj) (n : Str) (o : Obj), TMKids l →
    defAt l ps n = some o → ActiveIn o l
  | [], l, n, o, ht, h => by
    have hmem := findNamed_mem (defAt_nil_eq_some h).1
    exact .here hmem ((tmKids_iff l).mp ht _ hmem).enabled
  | s :: ps, l, n, o, ht, h => by
    obtain ⟨m, kids, hfn, h'⟩ := defAt_cons_eq_some h
    have hto := (tmKids_iff l).mp ht _ (findNamed_mem hfn)
    exact .deeper (findNamed_mem hfn) hto.enabled
      (defAt_active_dt ps kids n o (TreeMultiMaster.of_scope hto).kids h')

end Phil
