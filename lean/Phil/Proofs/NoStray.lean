/-
  Phil.Proofs.NoStray — lemmas for the C16 theorems on the argument interpreter, fetch, extract and
  format (Phil/Props/C16Fetch.lean): which `Err.stray` sites each model function can reach.
  `ErrIn P r` (every error of `r` satisfies `P`) is the notion the files of this family share;
  `StrayIn L` is its instance "a stray only at the sites `L`".  The `fieldGet` / `fieldSet` / `philSet`
  equations used by the extraction proofs are in section 8.  The argument interpreter is treated once, with
  `Auto` levels (`processArgA_fine_ns`, also behind Phil/Props/C16MS.lean); `processArg` is its case without them.
-/
import Phil.Proofs.TotalityLemmas
import Phil.Proofs.FetchTree
import Phil.Proofs.CmdLineLemmas
import Phil.Proofs.ShowLaws
import Phil.CmdLineAuto
namespace Phil

/-! ## 0. "every error of `r` satisfies `P`"; "the only `stray` errors are those of the list `L`" -/

def ErrIn {α : Type} (P : Err → Prop) (r : R α) : Prop := ∀ e, r = .error e → P e

theorem ErrIn.ok {α : Type} {P : Err → Prop} (a : α) : ErrIn P (Except.ok a : R α) := by
  intro e h; cases h

theorem ErrIn.err {α : Type} {P : Err → Prop} {e : Err} (h : P e) : ErrIn P (Except.error e : R α) := by
  intro e' h'; cases h'; exact h

theorem ErrIn.map {α β : Type} {P : Err → Prop} {r : R α} (f : α → β) (h : ErrIn P r) :
    ErrIn P (r.map f) := by
  cases r with
  | ok v => exact ErrIn.ok _
  | error e => exact ErrIn.err (h e rfl)

theorem ErrIn.mono {α : Type} {P Q : Err → Prop} {r : R α} (h : ∀ e, P e → Q e) (hr : ErrIn P r) :
    ErrIn Q r := fun e he => h e (hr e he)

theorem ErrIn.ite {α : Type} {P : Err → Prop} {c : Prop} [Decidable c] {a b : R α}
    (ha : ErrIn P a) (hb : ErrIn P b) : ErrIn P (if c then a else b) := by
  split <;> assumption

theorem ErrIn.foldlM_inv {α β : Type} {P : Err → Prop} (Inv : β → Prop) (f : β → α → R β) :
    ∀ (l : List α),
      (∀ b a, a ∈ l → Inv b → ErrIn P (f b a) ∧ ∀ b', f b a = .ok b' → Inv b') →
      ∀ b, Inv b → ErrIn P (l.foldlM f b) ∧ ∀ b', l.foldlM f b = .ok b' → Inv b' := by
  intro l
  induction l with
  | nil =>
    intro _ b hb
    refine ⟨ErrIn.ok _, ?_⟩
    intro b' h
    cases h
    exact hb
  | cons a as ih =>
    intro hf b hb
    rw [List.foldlM_cons]
    obtain ⟨h1, h2⟩ := hf b a List.mem_cons_self hb
    cases hc : f b a with
    | error e => exact ⟨ErrIn.err (h1 e hc), fun b' h => by cases h⟩
    | ok b1 => exact ih (fun b a' ha' => hf b a' (List.mem_cons_of_mem _ ha')) b1 (h2 b1 hc)

theorem ErrIn.foldlM {α β : Type} {P : Err → Prop} (f : β → α → R β) (l : List α)
    (hf : ∀ b a, a ∈ l → ErrIn P (f b a)) (b : β) : ErrIn P (l.foldlM f b) :=
  (ErrIn.foldlM_inv (fun _ => True) f l (fun b a ha _ => ⟨hf b a ha, fun _ _ => trivial⟩) b trivial).1

abbrev Sites_ns := List (String × String)

def Err.strayIn (L : Sites_ns) : Err → Prop
  | .stray cls site => (cls, site) ∈ L
  | _ => True

/-- a result that is a value, a non-stray error, or a stray at a listed site: `ErrIn (·.strayIn L)`,
    so the `ErrIn` lemmas apply to it as they stand -/
def StrayIn {α : Type} (L : Sites_ns) (r : R α) : Prop := ∀ e, r = .error e → e.strayIn L

theorem Err.strayIn_mono {L L' : Sites_ns} (h : ∀ x ∈ L, x ∈ L') {e : Err} (he : e.strayIn L) :
    e.strayIn L' := by
  cases e <;> first | trivial | exact h _ he

theorem Err.strayIn_of_benign {L : Sites_ns} {e : Err} (h : e.benign = true) : e.strayIn L := by
  cases e <;> first | trivial | cases h

theorem StrayIn.mono {α : Type} {L L' : Sites_ns} {r : R α} (h : ∀ x ∈ L, x ∈ L')
    (hr : StrayIn L r) : StrayIn L' r := ErrIn.mono (fun _ => Err.strayIn_mono h) hr

theorem StrayIn.of_benign {α : Type} {L : Sites_ns} {r : R α} (h : OkOrBenign r) : StrayIn L r := by
  intro e he; subst he; exact Err.strayIn_of_benign h

/-- the shape `match r with | .error e => .error e | .ok v => g v` -/
theorem StrayIn.bind {α β : Type} {L : Sites_ns} {r : R α} {g : α → R β} (hr : StrayIn L r)
    (hg : ∀ v, r = .ok v → StrayIn L (g v)) :
    StrayIn L (match r with | .error e => .error e | .ok v => g v) := by
  cases r with
  | ok v => exact hg v rfl
  | error e => exact ErrIn.err (hr e rfl)

/-- nothing strays and the loop bound is not hit: the conclusion of the C16 statements -/
theorem benign_cases_ns {e : Err} (h : e.benign = true) :
    (∃ s l, e = .runtime s l) ∨ (∃ w, e = .unsupported w) := (Err.benign_iff e).1 h

theorem OkOrBenign.bind_ns {α β : Type} {r : R α} {g : α → R β} (hr : OkOrBenign r)
    (hg : ∀ v, r = .ok v → OkOrBenign (g v)) :
    OkOrBenign (match r with | .error e => .error e | .ok v => g v) := by
  cases r with
  | ok v => exact hg v rfl
  | error e => exact hr

/-! ## 1. `masterActiveObjects` fails with RuntimeError only -/

theorem masterActive_go_benign_ns :
    ∀ (l : List (Nat × Obj)) (seen : List (Str × Obj)) (acc : List (Nat × Obj)),
      OkOrBenign (masterActiveObjects.go l seen acc) := by
  intro l
  induction l with
  | nil => intro seen acc; simp only [masterActiveObjects.go]; trivial
  | cons p rest ih =>
    intro seen acc
    obtain ⟨i, o⟩ := p
    simp only [masterActiveObjects.go]
    refine OkOrBenign.ite (ih _ _) ?_
    split
    · exact ih _ _
    · exact OkOrBenign.ite (ih _ _) (OkOrBenign.ite rfl (ih _ _))

theorem masterActiveObjects_benign_ns (objs : List Obj) : OkOrBenign (masterActiveObjects objs) := by
  unfold masterActiveObjects
  exact masterActive_go_benign_ns _ _ _

/-! ## 2. converters: `from_words` -/

def fromWordsSites_ns : Sites_ns := [("AssertionError", "bool_from_words")]

/-- `from_words` on ANY word list: only `bool` looks at whether `ws` is empty, and there the `assert`
    of `bool_from_words` fails -/
theorem fromWords_strayIn_ns (c : Conv) (env : EvalEnv) (opt : AttrVal) (ws : List Word) :
    StrayIn fromWordsSites_ns (fromWords c env opt ws) := by
  by_cases h : c = .bool ∧ ws = []
  · obtain ⟨rfl, rfl⟩ := h
    rw [fromWords_bool]
    exact ErrIn.err (e := .stray "AssertionError" "bool_from_words") List.mem_cons_self
  · exact StrayIn.of_benign (fromWords_okOrBenign c env opt fun hc hw => h ⟨hc, hw⟩)

theorem extractDefn_strayIn_ns (e : Envs) (m : Meta) (ws : List Word) :
    StrayIn fromWordsSites_ns (extractDefn e m ws) := by
  unfold extractDefn
  split
  · exact fromWords_strayIn_ns _ _ _ _
  · exact fromWords_strayIn_ns _ _ _ _
  · exact ErrIn.err trivial
  · exact ErrIn.err trivial

theorem extractDefn_benign_ns (e : Envs) (m : Meta) {ws : List Word} (hne : ws ≠ []) :
    OkOrBenign (extractDefn e m ws) := by
  unfold extractDefn
  split
  · exact fromWords_okOrBenign _ _ _ fun _ => hne
  · exact fromWords_okOrBenign _ _ _ fun _ => hne
  · rfl
  · rfl

/-! ## 3. `__phil_join__`, `__phil_set__`, `scope.extract` -/

def philJoinSites_ns : Sites_ns := [("AssertionError", "phil_join"), ("AttributeError", "phil_join")]
def philSetSites_ns : Sites_ns := ("AttributeError", "phil_set_append") :: philJoinSites_ns
def extractSites_ns : Sites_ns := ("AssertionError", "bool_from_words") :: philSetSites_ns

theorem philJoin_strayIn_ns : ∀ (fuel : Nat) (self other : List (Str × PVal)),
    StrayIn philJoinSites_ns (philJoin fuel self other) := by
  intro fuel
  induction fuel with
  | zero => intro self other; rw [philJoin]; exact ErrIn.err trivial
  | succ fuel ih =>
    intro self other
    rw [philJoin]
    apply ErrIn.foldlM
    intro acc kv _
    obtain ⟨key, ov⟩ := kv
    dsimp only
    split
    · exact ErrIn.ok _
    · split
      · exact ErrIn.ok _
      · exact ErrIn.ok _
      · split
        · exact ErrIn.ok _
        · exact ErrIn.err (by simp [Err.strayIn, philJoinSites_ns])
      · split
        · exact ErrIn.map _ (ih _ _)
        · exact ErrIn.err (by simp [Err.strayIn, philJoinSites_ns])
      · exact ErrIn.ok _

theorem philSet_strayIn_ns (fs : List (Str × PVal)) (name : Str) (optional : AttrVal) (multiple : Bool)
    (x : XVal) : StrayIn philSetSites_ns (philSet fs name optional multiple x) := by
  unfold philSet
  split
  · dsimp only
    split
    · exact StrayIn.mono (fun x hx => List.mem_cons_of_mem _ hx) (ErrIn.map _ (philJoin_strayIn_ns _ _ _))
    · exact ErrIn.ok _
  · dsimp only
    split
    · split
      · exact ErrIn.ok _
      · exact ErrIn.ite (ErrIn.ok _) (ErrIn.ok _)
    · split
      · exact ErrIn.ok _
      · exact ErrIn.err (by simp [Err.strayIn, philSetSites_ns])

theorem extractObj_strayIn_ns (e : Envs) : ∀ (fuel : Nat) (o : Obj),
    StrayIn extractSites_ns (extractObj e fuel o) := by
  intro fuel
  induction fuel with
  | zero => intro o; rw [extractObj]; exact ErrIn.err trivial
  | succ fuel ih =>
    intro o
    cases o with
    | defn m ws =>
      rw [extractObj]
      exact (extractDefn_strayIn_ns e m ws).mono (by simp [fromWordsSites_ns, extractSites_ns])
    | scope m kids =>
      rw [extractObj]
      apply ErrIn.map
      apply ErrIn.foldlM
      intro fs o _
      dsimp only
      split
      · exact ErrIn.ok _
      · split
        · rename_i err herr
          exact ErrIn.err (ErrIn.ite (ErrIn.ok _) (ErrIn.map XVal.val (ih o)) err herr)
        · exact (philSet_strayIn_ns _ _ _ _ _).mono (fun x hx => List.mem_cons_of_mem _ hx)

/-! ## 4. converters: `as_words` -/

/-- the (converter, value) pairs on which `as_words` answers a `stray` in the model: `None` handed
    to a multi-choice (an `assert` of the code) and a non-number handed to `int`/`float`
    (`"%d" % value` / `"%.10g" % value` raise TypeError) -/
def asWordsStrays_ns : Conv → PVal → Bool
  | .choice true, .none => true
  | .int _, v | .float _, v =>
    (match v with
     | .str _ | .list _ | .words _ | .record _ | .multi _ _ => true
     | _ => false)
  | _, _ => false

theorem numStr_benign_ns (isInt : Bool) (fmt : FmtEnv) (v : PVal)
    (hv : (match v with | .num _ | .bool _ => true | _ => false) = true) : OkOrBenign (numStr isInt fmt v) := by
  unfold numStr
  split
  · split
    · trivial
    · split <;> first | trivial | rfl
  · split
    · rfl
    · split <;> first | trivial | rfl
  · split <;> first | trivial | rfl
  · rename_i h1 h2 h3
    cases v <;> simp at hv
    · exact absurd rfl (h3 _)
    · rename_i n; cases n
      · exact absurd rfl (h1 _)
      all_goals exact absurd rfl (h2 _)

theorem asWords_benign_ns (c : Conv) (fmt : FmtEnv) (opt : AttrVal) (mw : List Word) (v : PVal)
    (h : asWordsStrays_ns c v = false) : OkOrBenign (asWords c fmt opt mw v) := by
  cases c <;> cases v
  all_goals try (first | exact True.intro | exact Eq.refl true)
  all_goals try (cases h; done)
  all_goals delta asWords
  all_goals dsimp only
  case strings.list l =>
    refine OkOrBenign.map _ (foldlM_okOrBenign _ ?_ _ _)
    intro st x
    split <;> first | exact True.intro | exact Eq.refl true
  case qstr.str s =>
    split
    · exact True.intro
    · exact Err.benign_of_isRuntime (tokErr_isRuntime _)
  case int.none a | float.none a => exact OkOrBenign.ite trivial rfl
  case int.bool a b | int.num a b | float.bool a b | float.num a b =>
    split
    · exact (checkValue_okOrBenign _ _ _ _ _).error (by assumption)
    · exact (numStr_benign_ns _ fmt _ rfl).map _
  case ints.list a l | floats.list a l =>
    split
    · exact (checkSize_okOrBenign _ _ _ _ _).error (by assumption)
    · refine foldlM_okOrBenign _ ?_ _ _
      intro acc x
      split
      · exact OkOrBenign.ite trivial rfl
      · exact OkOrBenign.ite trivial rfl
      · split
        · exact (checkValue_okOrBenign _ _ _ _ _).error (by assumption)
        · exact (numStr_benign_ns _ fmt _ rfl).map _
      · exact Eq.refl true
  case choice.bool multi b | choice.num multi b | choice.words multi b | choice.record multi b =>
    cases multi <;> exact Eq.refl true
  case choice.multi multi o b => cases multi <;> exact Eq.refl true
  case choice.none multi =>
    cases multi
    · simp only [Bool.false_eq_true, if_false]
      exact OkOrBenign.ite rfl trivial
    · cases h
  case choice.str multi s =>
    cases multi
    · simp only [Bool.false_eq_true, if_false]
      exact OkOrBenign.ite rfl (OkOrBenign.ite rfl trivial)
    · exact Eq.refl true
  case choice.list multi vs =>
    cases multi
    · exact Eq.refl true
    · simp only [if_true]
      exact OkOrBenign.ite rfl (OkOrBenign.ite rfl (OkOrBenign.ite rfl (OkOrBenign.ite rfl trivial)))

def asWordsSites_ns : Sites_ns := [("TypeError", "value_as_str"), ("AssertionError", "choice_as_words")]

/-- the exception the model answers on an excluded pair -/
def asWordsStrayOf_ns : Conv → Err
  | .choice _ => .stray "AssertionError" "choice_as_words"
  | _ => .stray "TypeError" "value_as_str"

theorem asWords_strays_ns (c : Conv) (fmt : FmtEnv) (opt : AttrVal) (mw : List Word) (v : PVal)
    (h : asWordsStrays_ns c v = true) : asWords c fmt opt mw v = .error (asWordsStrayOf_ns c) := by
  cases c with
  | choice multi => cases multi <;> cases v <;> first | (cases h; done) | rfl
  | _ => cases v <;> first | (cases h; done) | rfl

theorem asWords_strayIn_ns (c : Conv) (fmt : FmtEnv) (opt : AttrVal) (mw : List Word) (v : PVal) :
    StrayIn asWordsSites_ns (asWords c fmt opt mw v) := by
  cases h : asWordsStrays_ns c v with
  | false => exact StrayIn.of_benign (asWords_benign_ns c fmt opt mw v h)
  | true =>
    rw [asWords_strays_ns c fmt opt mw v h]
    apply ErrIn.err
    cases c <;> simp [asWordsStrayOf_ns, Err.strayIn, asWordsSites_ns]

/-! ## 5. `scope.format` -/

def formatSites_ns : Sites_ns :=
  [("TypeError", "value_as_str"), ("AssertionError", "choice_as_words"),
   ("TypeError", "format_iterate"), ("TypeError", "format_len"), ("AttributeError", "phil_get")]

theorem formatDefn_strayIn_ns (e : Envs) (m : Meta) (ws : List Word) (v : PVal) :
    StrayIn formatSites_ns (formatDefn e m ws v) := by
  unfold formatDefn
  dsimp only
  split
  · rename_i err herr
    apply ErrIn.err
    split at herr <;> cases herr <;> trivial
  · exact StrayIn.mono (by simp [asWordsSites_ns, formatSites_ns]) (ErrIn.map _ (asWords_strayIn_ns _ _ _ _ _))

theorem formatObj_strayIn_ns (e : Envs) : ∀ (fuel : Nat) (o : Obj) (v : PVal),
    StrayIn formatSites_ns (formatObj e fuel o v) := by
  intro fuel
  induction fuel with
  | zero => intro o v; rw [formatObj]; exact ErrIn.err trivial
  | succ fuel ih =>
    intro o v
    cases o with
    | defn m ws => rw [formatObj]; exact formatDefn_strayIn_ns e m ws v
    | scope m kids =>
      unfold formatObj
      split
      · rename_i err herr
        exact ErrIn.err (Err.strayIn_of_benign ((masterActiveObjects_benign_ns kids).error herr))
      · rename_i actives hact
        dsimp only
        split
        · rename_i err herr
          refine ErrIn.err ?_
          revert err
          show StrayIn formatSites_ns _
          apply ErrIn.foldlM
          intro st io _
          split
          · exact ErrIn.ok _
          · split
            · exact ErrIn.map _ (ih _ _)
            · exact ErrIn.map _ (ih _ _)
            · split
              · rename_i err herr
                split at herr
                all_goals cases herr
                exact ErrIn.err (by simp [Err.strayIn, formatSites_ns])
              · rename_i pobjs hp
                apply ErrIn.foldlM
                intro st pi _
                split
                · split
                  · exact ErrIn.ok _
                  · split
                    · exact ErrIn.map _ (ih _ _)
                    · split
                      · rename_i err herr
                        split at herr
                        all_goals cases herr
                        · exact ErrIn.err trivial
                        · exact ErrIn.err (by simp [Err.strayIn, formatSites_ns])
                      · exact ErrIn.ok _
                      · apply ErrIn.map
                        apply ErrIn.foldlM
                        intro acc x _
                        exact ErrIn.map _ (ih _ _)
                · exact ErrIn.err (by simp [Err.strayIn, formatSites_ns])
        · exact ErrIn.ok _

/-! ## 6. `as_str()` with default options never fails; `extract_format(...).as_str()` -/

mutual
theorem showObj_default_ok_ns : ∀ (o : Obj) (merged : List Str) (p : Str), ∃ l, showObj {} o merged p = .ok l
  | .defn m ws, merged, p => showDefn_default_ok_ns m ws merged p
  | .scope m objs, merged, p => by
    rw [showObj_scope_eq, expertHidden_none, expertGate_false, showScopeBody]
    simp only [showAttributes_level_nonpos _ _ _ _ _ (Int.le_refl 0)]
    split
    · exact ⟨_, rfl⟩
    · split
      · exact showObjs_default_ok_ns objs merged p
      · split
        · exact showObjs_default_ok_ns objs _ p
        · obtain ⟨b, hb⟩ := showObjs_default_ok_ns objs [] (p ++ "  ".toList)
          rw [hb]
          exact ⟨_, rfl⟩
theorem showObjs_default_ok_ns : ∀ (l : List Obj) (merged : List Str) (p : Str), ∃ r, showObjs {} l merged p = .ok r
  | [], merged, p => ⟨_, rfl⟩
  | x :: xs, merged, p => by
    obtain ⟨a, ha⟩ := showObj_default_ok_ns x merged p
    obtain ⟨b, hb⟩ := showObjs_default_ok_ns xs merged p
    rw [showObjs_cons, ha, hb]
    exact ⟨_, rfl⟩
end

def extractFormatSites_ns : Sites_ns := extractSites_ns ++ formatSites_ns

theorem extractFormatStr_strayIn_ns (e : Envs) (fuel : Nat) (master cand : Obj) :
    StrayIn extractFormatSites_ns (extractFormatStr e fuel master cand) := by
  unfold extractFormatStr
  split
  · rename_i err herr
    exact ErrIn.err (Err.strayIn_mono (fun x hx => List.mem_append_left _ hx) (extractObj_strayIn_ns e fuel cand err herr))
  · split
    · rename_i err herr
      exact ErrIn.err (Err.strayIn_mono (fun x hx => List.mem_append_right _ hx) (formatObj_strayIn_ns e fuel master _ err herr))
    · rename_i f hf
      obtain ⟨l, hl⟩ := showObj_default_ok_ns f [] []
      rw [hl]
      exact ErrIn.ok _

/-! ## 7. `scope.fetch` -/

def fetchSites_ns : Sites_ns := ("AssertionError", "choice_fetch") :: extractFormatSites_ns

theorem fetchValue_strayIn_ns (master src : Obj) : StrayIn fetchSites_ns (fetchValue master src) := by
  unfold fetchValue
  split
  · split
    · rename_i err herr
      apply ErrIn.err
      split at herr
      · cases herr; trivial
      · cases herr
      · split at herr <;> cases herr
        trivial
    · dsimp only
      split
      · exact ErrIn.ok _
      · split
        · refine ErrIn.map _ (fun err herr => ?_)
          rcases choiceFetch_error _ _ _ _ err herr with ⟨_, h⟩ | ⟨_, _, h⟩
          · subst h; exact List.mem_cons_self
          · subst h; trivial
        · exact ErrIn.ok _
  · exact ErrIn.err trivial
  · exact ErrIn.err trivial

theorem efs_fetch_ns (e : Envs) (fuel : Nat) (master cand : Obj) :
    StrayIn fetchSites_ns (extractFormatStr e fuel master cand) :=
  (extractFormatStr_strayIn_ns e fuel master cand).mono (fun _ hx => List.mem_cons_of_mem _ hx)

theorem fetchDefn_strayIn_ns (e : Envs) (fuel : Nat) (diff : Bool) (master src : Obj) :
    StrayIn fetchSites_ns (fetchDefn e fuel diff master src) := by
  unfold fetchDefn
  split
  · rename_i err herr
    exact ErrIn.err (fetchValue_strayIn_ns master src err herr)
  · split
    · exact ErrIn.ok _
    · dsimp only
      split
      · rename_i err herr
        exact ErrIn.err (efs_fetch_ns _ _ _ _ err herr)
      · exact ErrIn.err (efs_fetch_ns _ _ _ _ _ (by assumption))
      · exact ErrIn.ite (ErrIn.ok _) (ErrIn.ok _)

theorem cstepG_strayIn_ns (F : FetchFn) (hF : ∀ d mm k s, StrayIn fetchSites_ns (F d mm k s))
    (e : Envs) (fuel : Nat) (diff : Bool) (mo : Obj) (masterStr : Str) (acc : CAcc) (fm : Bool × Obj) :
    StrayIn fetchSites_ns (cstepG F e fuel diff mo masterStr acc fm) := by
  have hcand : StrayIn fetchSites_ns (candOf F e fuel diff mo fm.1 fm.2) := by
    unfold candOf
    split
    · exact ErrIn.map _ (fetchDefn_strayIn_ns _ _ _ _ _)
    · exact ErrIn.map _ (hF _ _ _ _)
    · exact ErrIn.err trivial
  unfold cstepG
  split
  · rename_i err herr; exact ErrIn.err (hcand err herr)
  · exact ErrIn.ite (ErrIn.ok _) (ErrIn.ok _)
  · split
    · rename_i err herr; exact ErrIn.err (efs_fetch_ns _ _ _ _ err herr)
    · split
      · exact ErrIn.ok _
      · rw [cAccept_eq]
        exact ErrIn.ok _

/-- one step of the master loop: every error is one of the callee `F`, of `fetchDefn`, of
    `extractFormatStr`, or "incompatible" -/
theorem stepG_strayIn_ns (F : FetchFn) (hF : ∀ d mm k s, StrayIn fetchSites_ns (F d mm k s))
    (e : Envs) (fuel : Nat) (diff : Bool) (sm : Meta) (mkids combined : List Obj)
    (st : List Obj × List Nat) (io : Nat × Obj) :
    StrayIn fetchSites_ns (stepG F e fuel diff sm mkids combined st io) := by
  unfold stepG
  split
  · split
    · unfold defnFinish
      split
      · rename_i err herr
        refine ErrIn.err (ErrIn.foldlM _ _ (fun acc ms _ => ?_) _ err herr)
        exact ErrIn.map _ (fetchDefn_strayIn_ns _ _ _ _ _)
      · exact ErrIn.ok _
      · exact ErrIn.ite (ErrIn.ok _) (ErrIn.ok _)
    · unfold scopeBranch
      split
      · exact ErrIn.err trivial
      · split
        · rename_i err herr; exact ErrIn.err (hF _ _ _ _ err herr)
        · exact ErrIn.ite (ErrIn.ok _) (ErrIn.ok _)
  · have hkey : StrayIn fetchSites_ns (masterKeyG F e fuel io.2) := by
      cases io.2 with
      | defn mm mws => exact efs_fetch_ns _ _ _ _
      | scope mm kids =>
        rw [masterKeyG_scope]
        split
        · rename_i err herr; exact ErrIn.err (hF _ _ _ _ err herr)
        · exact efs_fetch_ns _ _ _ _
    unfold multiBranch
    split
    · rename_i err herr; exact ErrIn.err (hkey err herr)
    · split
      · rename_i err herr
        exact ErrIn.err (ErrIn.foldlM _ _ (fun b a _ => cstepG_strayIn_ns F hF _ _ _ _ _ b a) _ err herr)
      · exact ErrIn.ok _

theorem fetchScope_strayIn_ns (e : Envs) : ∀ (fuel : Nat) (diff : Bool) (sm : Meta) (mkids combined : List Obj),
    StrayIn fetchSites_ns (fetchScope e fuel diff sm mkids combined) := by
  intro fuel
  induction fuel with
  | zero => intro diff sm mkids combined; rw [fetchScope_zero]; exact ErrIn.err trivial
  | succ fuel ih =>
    intro diff sm mkids combined
    rw [fetchScope_succ]
    split
    · rename_i err herr
      exact ErrIn.err (Err.strayIn_of_benign ((masterActiveObjects_benign_ns mkids).error herr))
    · unfold fetchFinish
      split
      · rename_i err herr
        exact ErrIn.err (ErrIn.foldlM _ _ (fun b a _ => stepG_strayIn_ns _ ih _ _ _ _ _ _ b a) _ err herr)
      · exact ErrIn.ok _

theorem fetchRoot_strayIn_ns (e : Envs) (diff : Bool) (master : List Obj) (sources : List (List Obj)) :
    StrayIn fetchSites_ns (fetchRoot e diff master sources) := by
  unfold fetchRoot
  exact fetchScope_strayIn_ns e _ _ _ _ _

/-! ## 8. nested masters without `.multiple` (`TreeMaster`): fetch, then extract -/

/-! ### fetch of a `TreeMaster` -/

theorem fetch_tree_benign_ns (e : Envs) (fuel : Nat) (sm : Meta) (mkids srcs : List Obj)
    (hf : TreeMaster mkids) (hfuel : depthL mkids < fuel) (hsd : sm.disabled = false)
    (hsrc : SrcTree srcs) : OkOrBenign (fetchScope e fuel false sm mkids srcs) := by
  rw [fetch_tree_total e fuel sm mkids srcs hf hfuel hsd hsrc]
  exact OkOrBenign.ite trivial rfl

theorem fetchRoot_tree_benign_ns (e : Envs) (master : List Obj) (ss : List (List Obj))
    (hf : TreeMaster master) (hd : depthL master ≤ 1000) (hsrc : SrcTree ss.flatten) :
    OkOrBenign (fetchRoot e false master ss) := by
  rw [fetchRoot_tree e master ss hf hd hsrc]
  exact OkOrBenign.ite trivial rfl

/-! ### extract of a tree whose sibling names are distinct -/

mutual
/-- what `scope.extract` needs in order not to stray: no `.multiple`, non-empty word lists (what the
    parser delivers), pairwise distinct sibling names -/
def XObj_ns : Obj → Prop
  | .defn m ws => ws ≠ [] ∧ (m.attrs.get "multiple").truthy = false
  | .scope m kids =>
    (m.attrs.get "multiple").truthy = false ∧ XKids_ns kids ∧ (kids.map Obj.name).Pairwise (· ≠ ·)
def XKids_ns : List Obj → Prop
  | [] => True
  | o :: os => XObj_ns o ∧ XKids_ns os
end

theorem xkids_iff_ns : ∀ (l : List Obj), XKids_ns l ↔ ∀ o ∈ l, XObj_ns o
  | [] => by rw [XKids_ns]; simp
  | o :: os => by rw [XKids_ns, xkids_iff_ns os]; simp

theorem fieldGet_cons_xt (k : Str) (v : PVal) (r : List (Str × PVal)) (n : Str) :
    fieldGet ((k, v) :: r) n = if k == n then some v else fieldGet r n := by
  unfold fieldGet
  rw [List.find?_cons]
  cases k == n <;> rfl

theorem fieldGet_append_ns (a b : List (Str × PVal)) (n : Str) :
    fieldGet (a ++ b) n = (fieldGet a n).or (fieldGet b n) := by
  unfold fieldGet
  rw [List.find?_append]
  cases a.find? (·.1 == n) <;> rfl

theorem fieldGet_none_iff_ns (fs : List (Str × PVal)) (k : Str) :
    fieldGet fs k = none ↔ ∀ p ∈ fs, p.1 ≠ k := by
  unfold fieldGet
  rw [Option.map_eq_none_iff, List.find?_eq_none]
  constructor
  · intro h p hp heq; exact h p hp (by simp [heq])
  · intro h p hp; simpa using h p hp

theorem fieldSet_fresh_ns (fs : List (Str × PVal)) (n : Str) (v : PVal) (h : fieldGet fs n = none) :
    fieldSet fs n v = fs ++ [(n, v)] := by
  unfold fieldSet
  have : fs.any (·.1 == n) = false := by
    rw [List.any_eq_false]
    intro p hp
    simpa using (fieldGet_none_iff_ns fs n).1 h p hp
  rw [this]; rfl

theorem fieldGet_append_ne_ns (fs : List (Str × PVal)) {k n : Str} (v : PVal) (hne : n ≠ k) :
    fieldGet (fs ++ [(k, v)]) n = fieldGet fs n := by
  have hkn : (k == n) = false := by simpa using (fun h : k = n => hne h.symm)
  rw [fieldGet_append_ns, fieldGet_cons_xt, hkn]
  cases fieldGet fs n <;> rfl

theorem philSet_fresh_ns (fs : List (Str × PVal)) (name : Str) (opt : AttrVal) (x : XVal)
    (h : fieldGet fs name = none) :
    philSet fs name opt false x =
      .ok (fieldSet fs name (match x with | .disabled => PVal.none | .val v => v)) := by
  unfold philSet
  simp only [Bool.not_false, if_true, h]
  cases x <;> rfl

/-! ### the result of a tree fetch is such a tree -/

mutual
/-- every definition carries at least one word (what `collect_assigned_words` guarantees) -/
def wordsObjB_ns : Obj → Bool
  | .defn _ ws => !ws.isEmpty
  | .scope _ kids => wordsKidsB_ns kids
def wordsKidsB_ns : List Obj → Bool
  | [] => true
  | o :: os => wordsObjB_ns o && wordsKidsB_ns os
end

/-- every enabled source definition (below enabled scopes) contributes at least one word -/
def SrcWords_ns (srcs : List Obj) : Prop :=
  ∀ x, ActiveIn x srcs → x.isDefn = true → x.srcWords ≠ []

def srcWordsB_ns (srcs : List Obj) : Bool :=
  allActive (fun o => !o.isDefn || !o.srcWords.isEmpty) srcs

theorem srcWordsB_sound_ns (srcs : List Obj) (h : srcWordsB_ns srcs = true) : SrcWords_ns srcs := by
  intro x hx hdef
  have := allActive_sound _ hx h
  simp only [hdef, Bool.not_true, Bool.false_or, Bool.not_eq_true'] at this
  intro hnil; rw [hnil] at this; cases this

theorem SrcWords_ns.step {srcs : List Obj} (h : SrcWords_ns srcs) (n : Str) :
    SrcWords_ns (srcStep srcs n) := fun x hx hd => h x (activeIn_srcStep hx) hd

mutual
theorem xobj_treeObj_ns : ∀ (mo : Obj) (srcs : List Obj), TreeObj mo → wordsObjB_ns mo = true →
    SrcWords_ns srcs → XObj_ns (treeObj mo srcs)
  | .defn mm mws, srcs, ht, hm, hs => by
    rw [TreeObj] at ht
    rw [wordsObjB_ns] at hm
    rw [treeObj]
    cases hl : lastDef srcs mm.name with
    | none =>
      dsimp only
      rw [XObj_ns]
      refine ⟨?_, ht.1.notMultiple⟩
      intro hnil; rw [hnil] at hm; cases hm
    | some d =>
      dsimp only
      rw [XObj_ns]
      unfold lastDef at hl
      have hd := mem_defsNamed.mp (List.mem_of_getLast? hl)
      exact ⟨hs d (.here hd.1 hd.2.2.1) hd.2.1, ht.1.notMultiple⟩
  | .scope mm kids, srcs, ht, hm, hs => by
    rw [TreeObj] at ht
    rw [wordsObjB_ns] at hm
    rw [treeObj, XObj_ns]
    refine ⟨ht.1, xkids_treeResult_ns kids (srcStep srcs mm.name) ht.2.2.2.2.1 hm (hs.step mm.name), ?_⟩
    rw [treeResult_names]
    exact ht.2.2.2.2.2
theorem xkids_treeResult_ns : ∀ (mkids : List Obj) (srcs : List Obj), TreeKids mkids →
    wordsKidsB_ns mkids = true → SrcWords_ns srcs → XKids_ns (treeResult mkids srcs)
  | [], srcs, _, _, _ => by rw [treeResult, XKids_ns]; trivial
  | mo :: rest, srcs, ht, hm, hs => by
    rw [TreeKids] at ht
    rw [wordsKidsB_ns, Bool.and_eq_true] at hm
    rw [treeResult, XKids_ns]
    exact ⟨xobj_treeObj_ns mo srcs ht.1 hm.1 hs, xkids_treeResult_ns rest srcs ht.2 hm.2 hs⟩
end

mutual
theorem depthT_treeObj_ns : ∀ (mo : Obj) (srcs : List Obj), depthT (treeObj mo srcs) = depthT mo
  | .defn mm mws, srcs => by
    rw [treeObj]
    cases lastDef srcs mm.name with
    | none => rfl
    | some d => simp only [depthT]
  | .scope mm kids, srcs => by
    rw [treeObj, depthT, depthT, depthL_treeResult_ns kids (srcStep srcs mm.name)]
theorem depthL_treeResult_ns : ∀ (mkids : List Obj) (srcs : List Obj),
    depthL (treeResult mkids srcs) = depthL mkids
  | [], srcs => by rw [treeResult]
  | mo :: rest, srcs => by
    rw [treeResult, depthL, depthL, depthT_treeObj_ns mo srcs, depthL_treeResult_ns rest srcs]
end

/-! ## 9. the argument interpreter -/

def argSorryKinds_ns : List String := ["arg_syntax", "unknown", "ambiguous", "no_effect"]

/-- an outcome of the argument interpreter that is a result, a refusal of one of the four kinds, or
    an exception satisfying `S` -/
def ArgOutcome.good_ns (S : Err → Prop) : ArgOutcome → Prop
  | .ok _ => True
  | .sorry_ k _ => k ∈ argSorryKinds_ns
  | .runtime e => S e

/-- the accumulator of the loop over the definitions of the argument: the text so far, or such an
    outcome (`none` does not arise) -/
def argAccGood_ns (S : Err → Prop) : Option (Except ArgOutcome Str) → Prop
  | some (.ok _) => True
  | some (.error out) => out.good_ns S
  | none => False

/-! ### the expert tie-break with `Auto` levels (`Phil.CmdLineAuto`) -/

/-- **the repaired selection step, spelled out**: the TypeError exactly when the name matches, the best
    class has not exactly one member and a best match carries `Auto`; `choosePath` otherwise -/
theorem choosePathA_eq_ns (home : Option Str) (targets : List Str) (experts : List Int) (autos : List Bool)
    (src : Str) :
    choosePathA home targets experts autos src =
      if maxNat (scoresOf home targets src) ≠ 0 ∧ (bestOf home targets src).length ≠ 1 ∧
          autoInBest (scoresOf home targets src) autos (maxNat (scoresOf home targets src)) = true
      then .error (.stray "TypeError" "expert_tiebreak")
      else .ok (choosePath home targets experts src) := by
  unfold choosePathA
  dsimp only
  rw [← scoresOf, ← bestOf]
  by_cases hmx : maxNat (scoresOf home targets src) = 0
  · simp [hmx, (choosePath_eq_iff home targets experts src .unknown).2 hmx]
  · rcases hb : bestOf home targets src with _ | ⟨i, _ | ⟨j, r⟩⟩
    · simp [hmx]
    · simp [hmx, (choosePath_eq_iff home targets experts src (.chosen i false)).2 ⟨hmx, hb⟩]
    · simp [hmx]

theorem autoInBest_false_ns (scores : List Nat) (autos : List Bool) (mx : Nat)
    (h : ∀ a ∈ autos, a = false) : autoInBest scores autos mx = false := by
  unfold autoInBest
  rw [List.any_eq_false]
  intro p hp
  have := h p.2 (List.of_mem_zip hp).2
  simp [this]

theorem choosePathA_error_ns {home : Option Str} {targets : List Str} {experts : List Int}
    {autos : List Bool} {src : Str} {e : Err} (h : choosePathA home targets experts autos src = .error e) :
    e = .stray "TypeError" "expert_tiebreak" ∧ ¬ ∀ a ∈ autos, a = false := by
  rw [choosePathA_eq_ns] at h
  split at h
  · rename_i hc
    cases h
    exact ⟨rfl, fun hall => by rw [autoInBest_false_ns _ autos _ hall] at hc; exact absurd hc.2.2 (by decide)⟩
  · cases h

theorem choosePathA_ok_ns {home : Option Str} {targets : List Str} {experts : List Int}
    {autos : List Bool} {src : Str} {c : Choice} (h : choosePathA home targets experts autos src = .ok c) :
    c = choosePath home targets experts src := by
  rw [choosePathA_eq_ns] at h
  split at h
  · cases h
  · cases h; rfl

theorem choosePathA_no_auto_ns (home : Option Str) (targets : List Str) (experts : List Int)
    (autos : List Bool) (h : ∀ a ∈ autos, a = false) (src : Str) :
    choosePathA home targets experts autos src = .ok (choosePath home targets experts src) := by
  rw [choosePathA_eq_ns, autoInBest_false_ns _ autos _ h]
  simp

/-- the outcomes of the repaired interpreter: those of `processArg`, or the TypeError of the tie-break, which
    needs an `Auto` flag -/
theorem processArgA_fine_ns (home : Option Str) (targets : List Str) (experts : List Int)
    (autos : List Bool) (arg : Str) :
    (processArgA home targets experts autos arg).good_ns
      (fun e => e.benign = true ∨ (e = .stray "TypeError" "expert_tiebreak" ∧ ¬ ∀ a ∈ autos, a = false)) := by
  unfold processArgA
  split
  · exact .inl (Eq.refl true)
  · simp [ArgOutcome.good_ns, argSorryKinds_ns]
  · dsimp only
    generalize hfold : List.foldl _ _ _ = r
    have hr : argAccGood_ns
        (fun e => e.benign = true ∨ (e = .stray "TypeError" "expert_tiebreak" ∧ ¬ ∀ a ∈ autos, a = false)) r := by
      rw [← hfold]
      refine List.foldlRecOn _ _ trivial (fun acc h d _ => ?_)
      split
      · exact h
      · split
        · exact .inr (choosePathA_error_ns (by assumption))
        · rename_i c hc
          split
          · simp [argAccGood_ns, ArgOutcome.good_ns, argSorryKinds_ns]
          · simp [argAccGood_ns, ArgOutcome.good_ns, argSorryKinds_ns]
          · obtain ⟨t, ht, _⟩ := choose_sound (choosePathA_ok_ns hc).symm
            obtain ⟨l, hl⟩ := showDefn_default_ok_ns { d.2.1 with name := t, tmpl := 0 } d.2.2 [] []
            rw [ht]
            dsimp only
            rw [hl]
            trivial
      · exact h
    match r, hr with
    | some (.error out), hr => exact hr
    | some (.ok text), _ =>
      dsimp only
      split
      · simp [ArgOutcome.good_ns, argSorryKinds_ns]
      · split
        · trivial
        · exact .inl (parseObjs_benign _ _ (by assumption))

/-- the interpreter answers a result, a Sorry of one of four kinds, or a RuntimeError / a text outside
    the modelled domain — never a `stray` (the `IndexError` of `target_paths[i]` and the model's
    "unreachable" branch are dead), never `outOfFuel`: it is the repaired interpreter without `Auto` flags -/
theorem processArg_good_ns (home : Option Str) (targets : List Str) (experts : List Int) (arg : Str) :
    (processArg home targets experts arg).good_ns (·.benign = true) := by
  have h := processArgA_fine_ns home targets experts [] arg
  have e : processArgA home targets experts [] arg = processArg home targets experts arg := by
    unfold processArgA processArg
    simp only [choosePathA_no_auto_ns home targets experts [] (fun _ h => nomatch h)]
    rfl
  rw [e] at h
  cases hp : processArg home targets experts arg with
  | ok r => trivial
  | sorry_ k p => rw [hp] at h; exact h
  | runtime e => rw [hp] at h; exact h.elim id (fun h' => absurd (fun _ h => nomatch h) h'.2)

end Phil
