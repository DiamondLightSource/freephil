/-
  Lemmas behind the closed form of C19: the class of trees that CARRY attributes (`RTNodeA`: the nested
  round-trip class once the attributes are removed), the printer at attributes level 0 (it does not look at
  attributes), the expert-level gate as pruning that keeps the class, a readable characterisation of `prune`,
  and the objects shown under an expert setting (`shownAt`).  The round trip itself, under a prefix of blanks
  and at every attributes level, is `filtered_round_trip_attrs_art` of Proofs/AttrRoundTrip.lean.
-/
import Phil.Proofs.PrintParseNested
import Phil.Proofs.StripAttrs
namespace Phil

/-! ### at attributes level ≤ 0, gate off, the printer does not look at attributes -/

theorem showDefn_strip_ert (o : ShowOpts) (hl : o.level ≤ 0) (he : o.expert = none) (m : Meta)
    (ws : List Word) (ms : List Str) (pre : Str) (hd : depSet m = false) :
    showDefn o m ws ms pre = showDefn o m.stripAttrs ws ms pre := by
  have hd' : (m.attrs.get "deprecated").truthy = false := hd
  have hs : (m.stripAttrs.attrs.get "deprecated").truthy = false := rfl
  rw [showDefn_eq, showDefn_eq, he, expertHidden_none, expertHidden_none, hd', hs]
  simp only [expertGate_false, showDefnBody, hd', hs, showAttributes_level_nonpos _ _ _ _ _ hl]
  rfl

theorem showScopeBody_strip_ert (o : ShowOpts) (hl : o.level ≤ 0) (m : Meta) (fm : Bool)
    (inner : List Str → Str → R (List Str)) (ms : List Str) (pre : Str) :
    showScopeBody o m fm inner ms pre = showScopeBody o m.stripAttrs fm inner ms pre := by
  simp only [showScopeBody, showAttributes_level_nonpos _ _ _ _ _ hl]
  rfl

/-- **Attributes are invisible at level ≤ 0.**  With the expert gate off and no truthy `deprecated`
    attribute on a definition, `show` prints a tree and the same tree without attributes identically —
    every width, prefix, list of pending merged names, error outcomes included. -/
theorem show_stripAttrs_ert (o : ShowOpts) (hl : o.level ≤ 0) (he : o.expert = none) :
    (∀ (t : Obj) (ms : List Str) (pre : Str), t.noDeprecated = true →
      showObj o t ms pre = showObj o t.stripAttrs ms pre) ∧
    ∀ (ts : List Obj) (ms : List Str) (pre : Str), noDeprecatedList ts = true →
      showObjs o ts ms pre = showObjs o (stripAttrsList ts) ms pre := by
  refine Obj.both ?_ ?_ (fun _ _ _ => rfl) ?_
  · intro m ws ms pre hd
    rw [noDeprecated_defn_ert] at hd
    rw [Obj.stripAttrs_defn, showObj_defn_eq, showObj_defn_eq]
    exact showDefn_strip_ert o hl he m ws ms pre (by simpa using hd)
  · intro m os ih ms pre hd
    rw [noDeprecated_scope_ert] at hd
    rw [Obj.stripAttrs_scope, showObj_scope_eq, showObj_scope_eq, he, expertHidden_none,
      expertHidden_none, firstMerges_stripAttrsList_ert,
      showScopeBody_congr o m _ _ _ (fun ms pre => ih ms pre hd),
      showScopeBody_strip_ert o hl m]
    rfl
  · intro x xs ihx ihxs ms pre hd
    rw [noDeprecatedList_cons_ert, Bool.and_eq_true] at hd
    rw [stripAttrsList_cons, showObjs_cons, showObjs_cons, ihx ms pre hd.1, ihxs ms pre hd.2]

theorem showObjs_stripAttrs_ert (o : ShowOpts) (hl : o.level ≤ 0) (he : o.expert = none)
    (ts : List Obj) (ms : List Str) (pre : Str) (hd : noDeprecatedList ts = true) :
    showObjs o ts ms pre = showObjs o (stripAttrsList ts) ms pre :=
  (show_stripAttrs_ert o hl he).2 ts ms pre hd

/-! ### the class of trees with attributes -/

/-- `RTNodeA ms x`: `x` without its attributes is in the class `RTNode ms` of the nested round trip
    (enabled definitions and scopes, good undotted names, `is_template = 0`, dotted chains as
    `scope.adopt` builds them …), the attributes of every object being ARBITRARY except that no
    definition carries a truthy `deprecated` attribute -/
def RTNodeA (ms : List Str) (x : Obj) : Prop := RTNode ms x.stripAttrs ∧ x.noDeprecated = true

/-- a forest of the class (the objects of the root scope or of a proper scope) -/
def RTAllA (os : List Obj) : Prop := RTAll (stripAttrsList os) ∧ noDeprecatedList os = true

instance (ms : List Str) (x : Obj) : Decidable (RTNodeA ms x) := by unfold RTNodeA; exact inferInstance

theorem RTAllA_iff_ert (os : List Obj) : RTAllA os ↔ ∀ x ∈ os, RTNodeA [] x := by
  unfold RTAllA RTNodeA
  rw [RTAll_iff, noDeprecatedList_iff_ert, stripAttrsList_eq_map]
  constructor
  · rintro ⟨h1, h2⟩ x hx
    exact ⟨h1 _ (List.mem_map_of_mem hx), h2 x hx⟩
  · intro h
    refine ⟨fun y hy => ?_, fun x hx => (h x hx).2⟩
    obtain ⟨x, hx, rfl⟩ := List.mem_map.mp hy
    exact (h x hx).1

/-! ### pruning keeps the class -/

theorem prune_stripAttrs_meta_ert (k : Int) (x x' : Obj) (h : prune k x = some x') :
    x'.stripAttrs.meta = x.stripAttrs.meta := by
  rw [stripAttrs_meta_ert, stripAttrs_meta_ert, prune_meta k x x' h]

theorem prune_scope_some_ert {k : Int} {m : Meta} {os : List Obj} {x' : Obj}
    (hp : prune k (.scope m os) = some x') : (firstMerges os && (pruneList k os).isEmpty) = false := by
  rw [prune_scope] at hp
  split at hp
  · cases hp
  · split at hp
    · cases hp
    · next hfe => simpa using hfe

/-- pruning keeps `RTNode` (of the attribute-free copy): a proper scope keeps any sub-list of its
    children, a dotted-prefix scope either keeps its only child or disappears with it -/
theorem prune_RTNode_ert (k : Int) (x : Obj) :
    ∀ (ms : List Str) (x' : Obj), RTNode ms x.stripAttrs → prune k x = some x' → RTNode ms x'.stripAttrs := by
  induction x using Obj.ind_mem with
  | defn m ws => intro ms x' h hp; cases prune_some_eq_ert k _ _ hp; exact h
  | scope m os ih =>
    intro ms x' h hp
    have hfe := prune_scope_some_ert hp
    cases prune_some_eq_ert k _ _ hp
    show RTNode ms (Obj.scope m (pruneList k os)).stripAttrs
    rw [Obj.stripAttrs_scope] at h ⊢
    unfold RTNode at h ⊢
    obtain ⟨hm, hn, hk⟩ := h
    refine ⟨hm, hn, hk.imp (fun hk => ⟨hk.1, ?_⟩) fun hk => ?_⟩
    · rw [RTAll_iff, stripAttrsList_eq_map] at hk ⊢
      intro y hy
      obtain ⟨c', hc', rfl⟩ := List.mem_map.mp hy
      obtain ⟨c, hc, hpc⟩ := mem_pruneList_ert hc'
      exact ih c hc [] c' (hk.2 _ (List.mem_map_of_mem hc)) hpc
    · have hfm : firstMerges os = true := by rw [← firstMerges_stripAttrsList_ert]; exact hk.firstMerges
      obtain ⟨_, e, hc⟩ := RTOne_iff.mp hk
      obtain ⟨c, rfl, rfl⟩ := stripAttrsList_eq_singleton e
      rw [hfm, pruneList_cons, pruneList_nil] at hfe
      rw [pruneList_cons, pruneList_nil]
      cases hp : prune k c with
      | none => rw [hp] at hfe; cases hfe
      | some c' => exact RTOne_iff.mpr ⟨_, by rw [stripAttrsList_cons, stripAttrsList_nil], ih c (by simp) _ c' hc hp⟩

theorem prune_noDeprecated_ert (k : Int) (x : Obj) :
    ∀ x', x.noDeprecated = true → prune k x = some x' → x'.noDeprecated = true := by
  induction x using Obj.ind_mem with
  | defn m ws => intro x' h hp; cases prune_some_eq_ert k _ _ hp; exact h
  | scope m os ih =>
    intro x' h hp
    cases prune_some_eq_ert k _ _ hp
    show (Obj.scope m (pruneList k os)).noDeprecated = true
    rw [noDeprecated_scope_ert, noDeprecatedList_iff_ert] at *
    intro c' hc'
    obtain ⟨c, hc, hpc⟩ := mem_pruneList_ert hc'
    exact ih c hc c' (h c hc) hpc

theorem pruneList_RTAllA_ert (k : Int) (os : List Obj) (h : RTAllA os) : RTAllA (pruneList k os) := by
  rw [RTAllA_iff_ert] at h ⊢
  intro c' hc'
  obtain ⟨c, hc, hpc⟩ := mem_pruneList_ert hc'
  exact ⟨prune_RTNode_ert k c [] c' (h c hc).1 hpc, prune_noDeprecated_ert k c c' (h c hc).2 hpc⟩

theorem prune_allDefns_ert (P : List Word → Prop) (k : Int) (x : Obj) :
    ∀ x', x.allDefns P → prune k x = some x' → x'.allDefns P := by
  induction x using Obj.ind_mem with
  | defn m ws => intro x' h hp; cases prune_some_eq_ert k _ _ hp; exact h
  | scope m os ih =>
    intro x' h hp
    cases prune_some_eq_ert k _ _ hp
    show (Obj.scope m (pruneList k os)).allDefns P
    rw [Obj.allDefns, allDefnsList_iff] at *
    intro c' hc'
    obtain ⟨c, hc, hpc⟩ := mem_pruneList_ert hc'
    exact ih c hc c' (h c hc) hpc

theorem pruneList_allDefns_ert (P : List Word → Prop) (k : Int) (os : List Obj)
    (h : allDefnsList P os) : allDefnsList P (pruneList k os) := by
  rw [allDefnsList_iff] at *
  intro c' hc'
  obtain ⟨c, hc, hpc⟩ := mem_pruneList_ert hc'
  exact prune_allDefns_ert P k c c' (h c hc) hpc

/-! ### the class implies `DottedWF` -/

theorem stripAttrs_mergeNames_ert (x : Obj) : x.stripAttrs.meta.mergeNames = x.meta.mergeNames := by
  rw [stripAttrs_meta_ert]; rfl

theorem stripAttrs_name_ert (m : Meta) : m.stripAttrs.name = m.name := rfl

theorem uniformMerge_plain_ert (objs : List Obj) (h : ∀ c, c ∈ objs → c.meta.mergeNames = false) :
    uniformMerge objs = true := by
  cases objs with
  | nil => rfl
  | cons x xs =>
    simp only [uniformMerge, firstMerges, List.all_eq_true]
    intro c hc
    rw [h c hc, h x List.mem_cons_self]; rfl

theorem uniformMerge_of_RTNode_ert {ms : List Str} {m : Meta} {os : List Obj}
    (h : RTNode ms (Obj.scope m os).stripAttrs) : uniformMerge os = true := by
  rw [Obj.stripAttrs_scope] at h
  unfold RTNode at h
  rcases h.2.2 with ⟨_, hk⟩ | hk
  · refine uniformMerge_plain_ert os fun c hc => ?_
    rw [← stripAttrs_mergeNames_ert]
    exact ((RTAll_iff _).mp hk _ (by rw [stripAttrsList_eq_map]; exact List.mem_map_of_mem hc)).meta.merge
  · obtain ⟨_, e, _⟩ := RTOne_iff.mp hk
    obtain ⟨c, rfl, _⟩ := stripAttrsList_eq_singleton e
    simp [uniformMerge, firstMerges]

theorem dottedWF_of_RTNode_ert (x : Obj) : ∀ ms, RTNode ms x.stripAttrs → DottedWF x = true := by
  induction x using Obj.ind_mem with
  | defn m ws => intro _ _; simp [DottedWF]
  | scope m os ih =>
    intro ms h
    rw [DottedWF_scope, uniformMerge_of_RTNode_ert h, Bool.or_true, Bool.true_and, DottedWFs_iff]
    rw [Obj.stripAttrs_scope] at h
    exact fun c hc =>
      (h.kids _ (by rw [stripAttrsList_eq_map]; exact List.mem_map_of_mem hc)).elim fun ms' h' => ih c hc ms' h'

theorem dottedWFs_of_RTAll_ert (os : List Obj) (h : RTAll (stripAttrsList os)) : DottedWFs os = true :=
  (DottedWFs_iff os).mpr fun c hc => dottedWF_of_RTNode_ert c []
    ((RTAll_iff _).mp h _ (by rw [stripAttrsList_eq_map]; exact List.mem_map_of_mem hc))

/-! ### which objects survive pruning -/

/-- the object's own expert level allows it at level `k`: unset, or an integer `≤ k` (a value that is
    neither — excluded by `ExpertWF` — counts as allowed, as in `prune`) -/
def ownShown (k : Int) (m : Meta) : Prop :=
  match m.attrs.get "expert_level" with
  | .int e => e ≤ k
  | _ => True

instance (k : Int) (m : Meta) : Decidable (ownShown k m) := by
  unfold ownShown; split <;> exact inferInstance

theorem hiddenAt_false_iff_ert (k : Int) (m : Meta) : hiddenAt k m = false ↔ ownShown k m := by
  unfold hiddenAt ownShown
  cases m.attrs.get "expert_level" <;> simp

/-- `Visible k x`: `x` is shown at expert level `k` provided its enclosing scopes are.
      * a definition, or a proper scope (its first child does not merge names — in particular an
        empty scope): its own expert level is unset or at most `k`;
      * a scope that exists only as the dotted prefix of its children (`a` in `a.b = 1`): its own
        level allows it AND at least one child is visible. -/
inductive Visible (k : Int) : Obj → Prop
  | defn (m : Meta) (ws : List Word) : ownShown k m → Visible k (.defn m ws)
  | scope (m : Meta) (os : List Obj) : ownShown k m → firstMerges os = false →
      Visible k (.scope m os)
  | dotted (m : Meta) (os : List Obj) (c : Obj) : ownShown k m → firstMerges os = true → c ∈ os →
      Visible k c → Visible k (.scope m os)

theorem pruneKids_children_ert (k : Int) (x : Obj) :
    (x.pruneKids k).children = pruneList k x.children := by
  cases x with
  | defn m ws => simp [Obj.pruneKids, Obj.children, pruneList_nil]
  | scope m os => rfl

theorem pruneList_ne_nil_iff_ert (k : Int) (os : List Obj) :
    pruneList k os ≠ [] ↔ ∃ c ∈ os, (prune k c).isSome = true := by
  rw [pruneList_eq_filterMap_ert]
  constructor
  · intro h
    cases hl : os.filterMap (prune k) with
    | nil => exact (h hl).elim
    | cons y ys =>
      have : y ∈ os.filterMap (prune k) := by rw [hl]; exact List.mem_cons_self
      obtain ⟨c, hc, hp⟩ := List.mem_filterMap.mp this
      exact ⟨c, hc, by rw [hp]; rfl⟩
  · rintro ⟨c, hc, hp⟩ h
    obtain ⟨y, hy⟩ := Option.isSome_iff_exists.mp hp
    have : y ∈ os.filterMap (prune k) := List.mem_filterMap.mpr ⟨c, hc, hy⟩
    rw [h] at this
    cases this

theorem prune_isSome_iff_ert (k : Int) (x : Obj) : (prune k x).isSome = true ↔ Visible k x := by
  induction x using Obj.ind_mem with
  | defn m ws =>
    rw [prune_defn]
    constructor
    · intro h
      split at h
      · cases h
      · rename_i hh
        exact Visible.defn m ws ((hiddenAt_false_iff_ert k m).mp (by simpa using hh))
    · intro h
      cases h with
      | defn _ _ ho => rw [(hiddenAt_false_iff_ert k m).mpr ho]; rfl
  | scope m os ih =>
    rw [prune_scope]
    constructor
    · intro h
      split at h
      · cases h
      · rename_i hh
        have ho := (hiddenAt_false_iff_ert k m).mp (by simpa using hh)
        split at h
        · cases h
        · rename_i hfe
          cases hfm : firstMerges os with
          | false => exact Visible.scope m os ho hfm
          | true =>
            have hne : pruneList k os ≠ [] := by
              intro he; rw [hfm, he] at hfe; simp at hfe
            obtain ⟨c, hc, hp⟩ := (pruneList_ne_nil_iff_ert k os).mp hne
            exact Visible.dotted m os c ho hfm hc ((ih c hc).mp hp)
    · intro h
      cases h with
      | scope _ _ ho hfm =>
        rw [(hiddenAt_false_iff_ert k m).mpr ho, hfm]; rfl
      | dotted _ _ c ho hfm hc hv =>
        have hne : pruneList k os ≠ [] :=
          (pruneList_ne_nil_iff_ert k os).mpr ⟨c, hc, (ih c hc).mpr hv⟩
        have : (pruneList k os).isEmpty = false := by
          cases hl : pruneList k os with
          | nil => exact (hne hl).elim
          | cons _ _ => rfl
        rw [(hiddenAt_false_iff_ert k m).mpr ho, hfm, this]; rfl

theorem prune_eq_some_iff_ert (k : Int) (x x' : Obj) :
    prune k x = some x' ↔ Visible k x ∧ x' = x.pruneKids k := by
  constructor
  · intro h
    exact ⟨(prune_isSome_iff_ert k x).mp (by rw [h]; rfl), prune_some_eq_ert k x x' h⟩
  · rintro ⟨hv, rfl⟩
    obtain ⟨y, hy⟩ := Option.isSome_iff_exists.mp ((prune_isSome_iff_ert k x).mpr hv)
    rw [hy, prune_some_eq_ert k x y hy]

theorem mem_pruneList_iff_ert (k : Int) (os : List Obj) (x' : Obj) :
    x' ∈ pruneList k os ↔ ∃ x ∈ os, Visible k x ∧ x' = x.pruneKids k := by
  rw [pruneList_eq_filterMap_ert, List.mem_filterMap]
  constructor
  · rintro ⟨x, hx, hp⟩; exact ⟨x, hx, (prune_eq_some_iff_ert k x x').mp hp⟩
  · rintro ⟨x, hx, hv⟩; exact ⟨x, hx, (prune_eq_some_iff_ert k x x').mpr hv⟩

/-- `IsPath os [x₁, …, xₙ]`: `x₁` is one of `os`, `x₂` a child of `x₁`, …: an object `xₙ` of the forest
    together with its enclosing scopes `x₁ … xₙ₋₁` -/
def IsPath : List Obj → List Obj → Prop
  | _, [] => True
  | os, x :: rest => x ∈ os ∧ IsPath x.children rest

/-! ### the objects shown under an expert setting -/

/-- the objects of the root scope that `show` shows under the expert setting `e`: everything for an
    absent or negative level, the pruned forest for `k ≥ 0` -/
def shownAt (e : Option Int) (objs : List Obj) : List Obj :=
  match e with
  | none => objs
  | some k => if 0 ≤ k then pruneList k objs else objs

theorem shownAt_none_ert (objs : List Obj) : shownAt none objs = objs := rfl
theorem shownAt_neg_ert (k : Int) (hk : k < 0) (objs : List Obj) : shownAt (some k) objs = objs := by
  simp only [shownAt]; rw [if_neg (by omega)]
theorem shownAt_nonneg_ert (k : Int) (hk : 0 ≤ k) (objs : List Obj) :
    shownAt (some k) objs = pruneList k objs := by
  simp only [shownAt]; rw [if_pos hk]

theorem opts_expert_eta_ert (o : ShowOpts) : { o with expert := o.expert } = o := rfl

theorem showObjs_shownAt_ert (o : ShowOpts) (objs : List Obj) (ms : List Str) (pre : Str)
    (hw : ∀ k, o.expert = some k → 0 ≤ k → ExpertWFs objs = true ∧ DottedWFs objs = true) :
    showObjs o objs ms pre = showObjs { o with expert := none } (shownAt o.expert objs) ms pre := by
  cases he : o.expert with
  | none =>
    have : o = { o with expert := none } := by rw [← he]
    rw [shownAt_none_ert, ← this]
  | some k =>
    have ho : o = { o with expert := some k } := by rw [← he]
    by_cases hk : 0 ≤ k
    · obtain ⟨h1, h2⟩ := hw k he hk
      rw [shownAt_nonneg_ert k hk, ho]
      exact showObjs_prune_aux o k hk objs ms pre h1 h2
    · rw [shownAt_neg_ert k (by omega), ho]
      exact showObjs_expert_neg_aux o k (by omega) objs ms pre

theorem shownAt_RTAllA_ert (e : Option Int) (objs : List Obj) (h : RTAllA objs) :
    RTAllA (shownAt e objs) := by
  unfold shownAt
  split
  · exact h
  · split
    · exact pruneList_RTAllA_ert _ objs h
    · exact h

theorem shownAt_allDefns_ert (P : List Word → Prop) (e : Option Int) (objs : List Obj)
    (h : allDefnsList P objs) : allDefnsList P (shownAt e objs) := by
  unfold shownAt
  split
  · exact h
  · split
    · exact pruneList_allDefns_ert P _ objs h
    · exact h

theorem map_drop_prefix_ert (p : Str) (ls : List Str) :
    (ls.map (p ++ ·)).map (List.drop p.length) = ls := by
  induction ls with
  | nil => rfl
  | cons l ls ih => simp only [List.map_cons, List.drop_left, ih]

end Phil
