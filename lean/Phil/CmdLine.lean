/-
  Phil.CmdLine — model of src/freephil/command_line.py: argument_interpreter.get_path_score,
  process_arg (selection by maximal score, expert-level tie-break, re-rendering under the target path)
  and of scope.all_definitions.
-/
import Phil.Show
import Phil.Conv
namespace Phil

/-- scope.all_definitions(): (path, definition meta, words) of every active definition, in order.
    Disabled objects (and everything below a disabled scope) are skipped, `include` is skipped. -/
def allDefsObj : Obj → Str → List (Str × Meta × List Word)
  | .defn m ws, parentPath =>
    if m.name == "include".toList then [] else [(parentPath ++ m.name, m, ws)]
  | .scope m os, parentPath =>
    let p := parentPath ++ m.name ++ ['.']
    allDefsList os p
where
  allDefsList : List Obj → Str → List (Str × Meta × List Word)
    | [], _ => []
    | o :: os, p => (if o.meta.disabled then [] else allDefsObj o p) ++ allDefsList os p

def allDefinitions (rootObjs : List Obj) : List (Str × Meta × List Word) :=
  allDefsObj.allDefsList rootObjs []

/-- recursive_expert_level of process_arg for every entry of all_definitions, in the same order:
    the definition's own level, else that of the nearest enclosing scope that has one, else 0 -/
def expertsObj : Obj → Int → List Int
  | .defn m _, inh =>
    if m.name == "include".toList then []
    else [match m.attrs.get "expert_level" with | .int e => e | _ => inh]
  | .scope m os, inh =>
    let inh' := match m.attrs.get "expert_level" with | .int e => e | _ => inh
    expertsList os inh'
where
  expertsList : List Obj → Int → List Int
    | [], _ => []
    | o :: os, inh => (if o.meta.disabled then [] else expertsObj o inh) ++ expertsList os inh

def expertLevels (rootObjs : List Obj) : List Int := expertsObj.expertsList rootObjs 0

/-- argument_interpreter.get_path_score -/
def getPathScore (home : Option Str) (src tgt : Str) : Nat :=
  if !findSub src tgt then 0
  else if src == tgt then 8
  else
    let inHome : Option Nat :=
      match home with
      | none => none
      | some h =>
        if h ++ '.' :: src == tgt then some 7
        else if startsWith (h ++ ['.']) tgt then
          (if endsWith ('.' :: src) tgt then some 6
           else if endsWith src tgt then some 5
           else some 2)
        else none
    match inHome with
    | some s => s
    | none =>
      if endsWith ('.' :: src) tgt then 4
      else if endsWith src tgt then 3
      else 1

inductive Choice
  | chosen (idx : Nat) (warned : Bool)
  | unknown
  | ambiguous (best : List Nat)      -- indices of the best matches
  deriving Repr, DecidableEq

def maxNat : List Nat → Nat
  | [] => 0
  | x :: xs => Nat.max x (maxNat xs)

def indicesOf (p : Nat → Bool) (l : List Nat) : List Nat :=
  (l.zipIdx.filter (fun (x, _) => p x)).map (·.2)

/-- the selection step of process_arg for one source path.  `experts` are the recursive expert levels
    aligned with `targets`; the tie-break compares `100*score - expert` (integers, as the code does). -/
def choosePath (home : Option Str) (targets : List Str) (experts : List Int) (src : Str) : Choice :=
  let scores := targets.map (getPathScore home src)
  let mx := maxNat scores
  if mx == 0 then .unknown
  else
    let best := indicesOf (· == mx) scores
    match best with
    | [i] => .chosen i false
    | _ =>
      -- only the best matches compete in the tie-break (`100 * score - exp_lvl`)
      let keys : List (Option Int) := (scores.zip experts).map (fun (s, e) => if s == mx then some (100 * (s : Int) - e) else none)
      let mk : Option Int := keys.foldl (fun a b => match a, b with
        | none, b => b
        | some x, some y => if y > x then some y else some x
        | a, none => a) none
      let bestK := (keys.zipIdx.filter (fun (k, _) => k.isSome && k == mk)).map (·.2)
      match bestK with
      | [i] => .chosen i true
      | _ => .ambiguous best

/-- target paths and their recursive expert levels, one entry per parameter (further occurrences of a
    `.multiple` definition share the path of the first) -/
def targetEntries (rootObjs : List Obj) (experts : List Int) : List (Str × Int) :=
  let all := ((allDefsObj.allDefsList rootObjs []).map (·.1)).zip experts
  all.foldl (fun acc pe => if acc.any (·.1 == pe.1) then acc else acc ++ [pe]) []

inductive ArgOutcome
  | ok (objs : List Obj)
  | sorry_ (kind : String) (paths : List Str)
  | runtime (e : Err)
  deriving Repr

/-- argument_interpreter.process_arg: parse the argument, address every definition in it, re-render
    under the full target path, parse the concatenation. -/
def processArg (home : Option Str) (targets : List Str) (experts : List Int) (arg : Str) : ArgOutcome :=
  match parseObjs arg with
  | .error (.unsupported w) => .runtime (.unsupported w)
  | .error _ => .sorry_ "arg_syntax" []
  | .ok objs =>
    let defs := allDefinitions objs
    let step : Option (Except ArgOutcome Str) → (Str × Meta × List Word) → Option (Except ArgOutcome Str) :=
      fun acc (path, m, ws) =>
        match acc with
        | some (.error e) => some (.error e)
        | some (.ok text) =>
          (match choosePath home targets experts path with
           | .unknown => some (.error (.sorry_ "unknown" []))
           | .ambiguous best => some (.error (.sorry_ "ambiguous" (best.filterMap (targets[·]?))))
           | .chosen i _ =>
             (match targets[i]? with
              | none => some (.error (.runtime (.stray "IndexError" "target_paths")))
              | some tp =>
                (match showDefn {} { m with name := tp, tmpl := 0 } ws [] [] with
                 | .error e => some (.error (.runtime e))
                 | .ok lines => some (.ok (text ++ unlines lines)))))
        | none => none
    match defs.foldl step (some (.ok [])) with
    | some (.error out) => out
    | some (.ok text) =>
      if text.isEmpty then .sorry_ "no_effect" []
      else (match parseObjs text with
        | .ok r => .ok r
        | .error e => .runtime e)
    | none => .runtime (.stray "?" "unreachable")

end Phil
